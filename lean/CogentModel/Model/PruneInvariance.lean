import CogentModel.Model.Prune
/-!
  C11 — executable additions to the shared pruning model (`Model/Prune.lean`), import-free:

  * `rootedAt`: cogent3's `TreeNode.rooted_at` / `rooted_with_tip`, i.e. `unrooted_deepcopy` started at the
    new root (core/tree.py): a node reached from one of its children gets, as children, its other
    children in their order followed by its own parent (`_getNeighboursExcept`), and hangs below the
    edge of the child it was reached from ("edge params are stored by the child").  The node to root at
    is given by its path of child positions from the root.
  * `mapMats` / `permMat` / `permVec`: the same problem with the states renamed by `σ`.
  * `collapseAt`-style splice is a relation (`Contract`, Proofs/PruneCongruence.lean), the executable part is `idMat`.
  * `unrootedM`: `TreeNode.unrooted()` for a root with fewer than three children: the first internal
    child is dissolved, its children take its place, every other child of the root gets the composed
    edge (`length += collapsed.length` is `P(collapsed) · P(sister)` for a time-homogeneous process).
-/
namespace CogentModel.Prune

namespace PTree
variable {R α : Type}
mutual
/-- apply `f` to the matrix of every node -/
def mapMats (f : Mat R → Mat R) : PTree R α → PTree R α
  | leaf P a => leaf (f P) a
  | node P cs => node (f P) (mapMatsL f cs)
def mapMatsL (f : Mat R → Mat R) : List (PTree R α) → List (PTree R α)
  | [] => []
  | c :: cs => mapMats f c :: mapMatsL f cs
end

def isLeaf : PTree R α → Bool
  | leaf _ _ => true
  | node _ _ => false
end PTree

/-- the matrix seen with the states renamed: state `i` of the new problem is state `σ i` of the old one -/
def permMat {R : Type} (σ : Nat → Nat) (P : Mat R) : Mat R := fun i j => P (σ i) (σ j)

/-- the identity matrix (what a zero-length edge of a continuous-time process has) -/
def idMat {R : Type} [Zero R] [One R] : Mat R := fun i j => if i = j then 1 else 0

/-! ## `rooted_at` -/

/-- one step of the way from the new root up to the old one: a node (`mat` = the matrix of the edge above
it), its children before and after the child the path goes through -/
structure Frame (R α : Type) where
  mat : Mat R
  before : List (PTree R α)
  after : List (PTree R α)

variable {R α : Type}

/-- the former parent as seen from a child that has become its parent: nothing above the old root, else the
parent's other children followed by *its* parent, below the edge `Pm` of the child we came from -/
def upTail (Pm : Mat R) : List (Frame R α) → List (PTree R α)
  | [] => []
  | f :: rest => [.node Pm (f.before ++ f.after ++ upTail f.mat rest)]

/-- put a subtree back into its context -/
def plug (x : PTree R α) : List (Frame R α) → PTree R α
  | [] => x
  | f :: rest => plug (.node f.mat (f.before ++ x :: f.after)) rest

def pick {β : Type} : Nat → List β → Option (List β × β × List β)
  | _, [] => none
  | 0, x :: xs => some ([], x, xs)
  | i + 1, x :: xs => (pick i xs).map fun r => (x :: r.1, r.2.1, r.2.2)

/-- walk down along child positions, remembering the context -/
def descend : List Nat → PTree R α → List (Frame R α) → Option (PTree R α × List (Frame R α))
  | [], t, fs => some (t, fs)
  | _ :: _, .leaf _ _, _ => none
  | i :: p, .node P cs, fs =>
    match pick i cs with
    | none => none
    | some (b, x, a) => descend p x (⟨P, b, a⟩ :: fs)

/-- `tree.rooted_at(name)` with `name` the node at `path`; `none` for a tip ("Can't use a tip as the root")
or a path that leaves the tree.  (The new root keeps its matrix: the root's matrix is never used.) -/
def rootedAt (path : List Nat) (t : PTree R α) : Option (PTree R α) :=
  match descend path t [] with
  | some (.node P cs, fs) => some (.node P (cs ++ upTail P fs))
  | _ => none

/-! ## `unrooted()` -/

/-- the edge of the first child that has children (the one `unrooted` dissolves) -/
def firstInternal : List (PTree R α) → Option (Mat R)
  | [] => none
  | .node P (_ :: _) :: _ => some P
  | _ :: cs => firstInternal cs

/-- the loop of `TreeNode.unrooted`: children are visited in order, the first internal one is replaced by its
children, every other one is a sister (copied, then adjusted by `f`) -/
def expandFirst (f : PTree R α → PTree R α) : List (PTree R α) → List (PTree R α)
  | [] => []
  | .node _ (x :: xs) :: cs => (x :: xs) ++ cs.map f
  | c :: cs => f c :: expandFirst f cs

/-- `TreeNode.unrooted()`; `comp Pc Ps` is the matrix of a sister edge lengthened by the collapsed edge
(`sister.length += collapsed.length`); a root with three or more children is left as it is -/
def unrootedM (comp : Mat R → Mat R → Mat R) : PTree R α → PTree R α
  | .leaf P a => .leaf P a
  | .node P0 cs =>
    if cs.length < 3 then
      match firstInternal cs with
      | none => .node P0 cs
      | some Pc => .node P0 (expandFirst (fun y => y.setMat (comp Pc y.mat)) cs)
    else .node P0 cs

/-! ## `StationaryQ.calcQ` (evolve/substitution_model.py) -/

/-- ```
Q = self.calc_exchangeability_matrix(word_probs, *params)      -- `Rm`
Q *= mprobs_matrix
row_totals = Q.sum(axis=1)
Q -= numpy.diag(row_totals)
Q *= 1.0 / (word_probs * row_totals).sum()
``` -/
def calcQ {K : Type} [Add K] [Mul K] [Sub K] [Div K] [Zero K] [One K] (m : Nat) (Rm M : Mat K) (w : Nat → K) : Mat K :=
  let Q0 : Mat K := fun i j => Rm i j * M i j
  let rowTotals : Nat → K := fun i => sumOver m (fun j => Q0 i j)
  let Q1 : Mat K := fun i j => Q0 i j - (if i = j then rowTotals i else 0)
  let scale : K := 1 / sumOver m (fun i => w i * rowTotals i)
  fun i j => Q1 i j * scale

/-- `Q^n` with the model's own matrix product -/
def matPow {K : Type} [Add K] [Mul K] [Zero K] [One K] (m : Nat) (Q : Mat K) : Nat → Mat K
  | 0 => idMat
  | n + 1 => matMul m Q (matPow m Q n)

/-- `Σ_{n<N} c n · Q^n` (a truncated power series of `Q`, e.g. the Taylor polynomial of `exp(tQ)` with `c n = tⁿ/n!`) -/
def matPoly {K : Type} [Add K] [Mul K] [Zero K] [One K] (m : Nat) (Q : Mat K) (c : Nat → K) : Nat → Mat K
  | 0 => fun _ _ => 0
  | N + 1 => fun i j => matPoly m Q c N i j + c N * matPow m Q N i j

end CogentModel.Prune
