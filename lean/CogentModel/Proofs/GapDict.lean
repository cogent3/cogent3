/-
  Association-list dictionaries (`dget`, `dset`, `sortGaps`), sums over entries, and the well-formed gap dict of a
  row (`GapsOK`).
-/
import CogentModel.Model.GapMerge
import CogentModel.Proofs.InsertionSort
import CogentModel.Proofs.ListFacts
namespace CogentModel.GapMerge

/-- the gap length a dict assigns to a position (0 when absent) -/
def gl (g : Gaps) (x : Int) : Int := (dget g x).getD 0

def keys (g : Gaps) : List Int := g.map (·.1)

@[simp] theorem keys_nil : keys [] = [] := rfl
@[simp] theorem keys_cons (k v : Int) (g : Gaps) : keys ((k, v) :: g) = k :: keys g := rfl
theorem keys_append (a b : Gaps) : keys (a ++ b) = keys a ++ keys b := by simp [keys]

/-- lookup in a non-empty dict, with the test turned the way the statements below put it -/
theorem dget_cons (k v : Int) (r : Gaps) (x : Int) : dget ((k, v) :: r) x = if x = k then some v else dget r x := by
  rw [dget]
  by_cases h : k = x
  · rw [if_pos h, if_pos h.symm]
  · rw [if_neg h, if_neg (Ne.symm h)]

theorem dget_none_iff (g : Gaps) (x : Int) : dget g x = none ↔ x ∉ keys g := by
  induction g with
  | nil => simp [dget]
  | cons e r ih =>
    obtain ⟨k, v⟩ := e
    rw [dget_cons, keys_cons, List.mem_cons, not_or, ← ih]
    by_cases h : x = k
    · simp [h]
    · simp [h]

theorem dget_some_mem (g : Gaps) (x v : Int) (h : dget g x = some v) : (x, v) ∈ g := by
  induction g with
  | nil => simp [dget] at h
  | cons e r ih =>
    obtain ⟨k, w⟩ := e
    simp only [dget] at h
    by_cases hk : k = x
    · simp only [if_pos hk, Option.some.injEq] at h
      subst hk; subst h; exact List.mem_cons_self
    · rw [if_neg hk] at h; exact List.mem_cons_of_mem _ (ih h)

theorem dget_mem_nodup (g : Gaps) (hnd : (keys g).Nodup) (k v : Int) (hm : (k, v) ∈ g) : dget g k = some v := by
  induction g with
  | nil => simp at hm
  | cons e r ih =>
    obtain ⟨k', v'⟩ := e
    simp only [keys_cons, List.nodup_cons] at hnd
    simp only [dget]
    rcases List.mem_cons.mp hm with e | hm'
    · cases e; simp
    · have hk : k' ≠ k := by
        intro e; subst e
        exact hnd.1 (List.mem_map.mpr ⟨(k', v), hm', rfl⟩)
      rw [if_neg hk]; exact ih hnd.2 hm'

theorem dget_dset (g : Gaps) (k v x : Int) : dget (dset g k v) x = if x = k then some v else dget g x := by
  induction g with
  | nil => exact dget_cons k v [] x
  | cons e r ih =>
    obtain ⟨k', v'⟩ := e
    rw [dset]
    by_cases hk : k' = k
    · subst hk
      rw [if_pos rfl, dget_cons, dget_cons]
      by_cases hx : x = k'
      · simp only [if_pos hx]
      · simp only [if_neg hx]
    · rw [if_neg hk, dget_cons, ih, dget_cons]
      by_cases hx : x = k
      · have hx' : ¬ x = k' := fun e => hk (e.symm.trans hx)
        simp only [if_pos hx, if_neg hx']
      · simp only [if_neg hx]

theorem gl_dset (g : Gaps) (k v x : Int) : gl (dset g k v) x = if x = k then v else gl g x := by
  simp only [gl, dget_dset]; split <;> rfl

theorem gl_cons (k v : Int) (g : Gaps) (x : Int) : gl ((k, v) :: g) x = if k = x then v else gl g x := by
  simp only [gl, dget]; split <;> rfl

theorem gl_nonneg (g : Gaps) (h : ∀ e ∈ g, 0 ≤ e.2) (x : Int) : 0 ≤ gl g x := by
  unfold gl
  cases hd : dget g x with
  | none => simp
  | some v => have := h _ (dget_some_mem g x v hd); simpa using this

theorem gl_of_mem (g : Gaps) (hnd : (keys g).Nodup) (k v : Int) (hm : (k, v) ∈ g) : gl g k = v := by
  rw [gl, dget_mem_nodup g hnd k v hm]; rfl

theorem gl_of_not_mem (g : Gaps) (x : Int) (h : x ∉ keys g) : gl g x = 0 := by
  simp [gl, (dget_none_iff g x).mpr h]

theorem dset_fresh (g : Gaps) (k v : Int) (h : k ∉ keys g) : dset g k v = g ++ [(k, v)] := by
  induction g with
  | nil => rfl
  | cons e r ih =>
    obtain ⟨k', v'⟩ := e
    simp only [keys_cons, List.mem_cons, not_or] at h
    simp only [dset, if_neg (fun e : k' = k => h.1 e.symm), ih h.2, List.cons_append]

theorem dget_insertKey (k v : Int) (g : Gaps) (x : Int) :
    dget (insertKey k v g) x = if x = k then some v else dget g x := by
  induction g with
  | nil => exact dget_cons k v [] x
  | cons e r ih =>
    obtain ⟨k', v'⟩ := e
    rw [insertKey]
    by_cases hle : k ≤ k'
    · rw [if_pos hle, dget_cons]
    · rw [if_neg hle, dget_cons, ih, dget_cons]
      by_cases hx : x = k
      · have hx' : ¬ x = k' := fun e => hle (Int.le_of_eq (hx.symm.trans e))
        simp only [if_pos hx, if_neg hx']
      · simp only [if_neg hx]

theorem dget_sortGaps (g : Gaps) (x : Int) : dget (sortGaps g) x = dget g x := by
  induction g with
  | nil => rfl
  | cons e r ih => obtain ⟨k, v⟩ := e; rw [sortGaps, dget_insertKey, ih, dget_cons]

theorem gl_sortGaps (g : Gaps) (x : Int) : gl (sortGaps g) x = gl g x := by simp [gl, dget_sortGaps]

/-- `insertKey` on a pair: the insertion step of `InsertionSort` for the order `a.1 ≤ b.1` -/
def insPair (kv : Int × Int) : Gaps → Gaps := insertKey kv.1 kv.2

theorem insPair_nil (kv : Int × Int) : insPair kv [] = [kv] := rfl

theorem insPair_cons (kv x : Int × Int) (xs : Gaps) :
    insPair kv (x :: xs) = if kv.1 ≤ x.1 then kv :: x :: xs else x :: insPair kv xs := rfl

theorem sortGaps_eq_foldr (g : Gaps) : sortGaps g = g.foldr insPair [] := by
  induction g with
  | nil => rfl
  | cons e r ih => rw [List.foldr_cons, ← ih]; rfl

theorem insertKey_perm (k v : Int) (g : Gaps) : (insertKey k v g).Perm ((k, v) :: g) :=
  InsertionSort.ins_perm insPair_nil insPair_cons (k, v) g

theorem sortGaps_perm (g : Gaps) : (sortGaps g).Perm g :=
  sortGaps_eq_foldr g ▸ InsertionSort.sort_perm insPair_nil insPair_cons g

theorem mem_sortGaps (g : Gaps) (e : Int × Int) : e ∈ sortGaps g ↔ e ∈ g := (sortGaps_perm g).mem_iff

def SortedLT (g : Gaps) : Prop := g.Pairwise fun a b => a.1 < b.1

theorem sortedLT_cons (k v : Int) (g : Gaps) : SortedLT ((k, v) :: g) ↔ (∀ k' ∈ keys g, k < k') ∧ SortedLT g := by
  simp only [SortedLT, List.pairwise_cons, keys, List.forall_mem_map]

/-- sorted by `≤` with distinct keys is sorted by `<` -/
theorem sortedLT_of_le (g : Gaps) (h : g.Pairwise fun a b => a.1 ≤ b.1) (hnd : (keys g).Nodup) : SortedLT g :=
  (h.and (List.pairwise_map.mp hnd)).imp fun h => Int.lt_iff_le_and_ne.mpr h

theorem sortGaps_sorted (g : Gaps) (hnd : (keys g).Nodup) : SortedLT (sortGaps g) :=
  sortedLT_of_le _
    (sortGaps_eq_foldr g ▸ InsertionSort.sort_sorted insPair_nil insPair_cons
      (fun _ _ h => Int.le_of_lt (Int.not_le.mp h)) (fun _ _ _ => Int.le_trans) g)
    (((sortGaps_perm g).map Prod.fst).nodup_iff.mpr hnd)

theorem sortedLT_nodup (g : Gaps) (hs : SortedLT g) : (keys g).Nodup :=
  List.pairwise_map.mpr (hs.imp Int.ne_of_lt)

theorem sortGaps_of_sorted (g : Gaps) (hs : SortedLT g) : sortGaps g = g :=
  (sortGaps_eq_foldr g).trans (InsertionSort.sort_of_sorted insPair_nil insPair_cons g (hs.imp Int.le_of_lt))
/-- `Σ l` over the entries `(k, l)` with `P k` -/
def sumIf (P : Int → Bool) : Gaps → Int
  | [] => 0
  | (k, l) :: r => (if P k then l else 0) + sumIf P r

def sumLt (g : Gaps) (x : Int) : Int := sumIf (fun k => decide (k < x)) g

theorem sumIf_perm (P : Int → Bool) {a b : Gaps} (h : a.Perm b) : sumIf P a = sumIf P b := by
  induction h with
  | nil => rfl
  | cons x _ ih => obtain ⟨k, v⟩ := x; simp only [sumIf, ih]
  | swap x y l => obtain ⟨k, v⟩ := x; obtain ⟨k', v'⟩ := y; exact Int.add_left_comm _ _ _
  | trans _ _ ih1 ih2 => exact ih1.trans ih2

theorem sumIf_sortGaps (P : Int → Bool) (g : Gaps) : sumIf P (sortGaps g) = sumIf P g := sumIf_perm P (sortGaps_perm g)

theorem sumLt_sortGaps (g : Gaps) (x : Int) : sumLt (sortGaps g) x = sumLt g x := sumIf_sortGaps _ g

theorem sumIf_append (P : Int → Bool) (a b : Gaps) : sumIf P (a ++ b) = sumIf P a + sumIf P b := by
  induction a with
  | nil => simp [sumIf]
  | cons e r ih => obtain ⟨k, v⟩ := e; simp only [List.cons_append, sumIf, ih]; omega

theorem sumIf_nonneg (P : Int → Bool) (g : Gaps) (h : ∀ e ∈ g, 0 ≤ e.2) : 0 ≤ sumIf P g := by
  induction g with
  | nil => exact Int.le_refl 0
  | cons e r ih =>
    obtain ⟨k, v⟩ := e
    rw [sumIf]
    refine Int.add_nonneg ?_ (ih fun e he => h e (List.mem_cons_of_mem _ he))
    split
    · exact h (k, v) List.mem_cons_self
    · exact Int.le_refl 0

theorem sumIf_congr (P Q : Int → Bool) (g : Gaps) (h : ∀ e ∈ g, P e.1 = Q e.1) : sumIf P g = sumIf Q g := by
  induction g with
  | nil => rfl
  | cons e r ih =>
    obtain ⟨k, v⟩ := e
    have h1 : P k = Q k := h (k, v) List.mem_cons_self
    simp only [sumIf, h1, ih (fun e he => h e (List.mem_cons_of_mem _ he))]

theorem sumIf_mapKeys (P : Int → Bool) (f : Int → Int) (g : Gaps) :
    sumIf P (g.map fun e => (f e.1, e.2)) = sumIf (fun k => P (f k)) g := by
  induction g with
  | nil => rfl
  | cons e r ih => obtain ⟨k, v⟩ := e; simp only [List.map_cons, sumIf, ih]

theorem sumLt_cons (k v : Int) (g : Gaps) (x : Int) : sumLt ((k, v) :: g) x = (if k < x then v else 0) + sumLt g x := by
  simp only [sumLt, sumIf, decide_eq_true_eq]

theorem sumIf_eq_gl (g : Gaps) (hnd : (keys g).Nodup) (x : Int) : sumIf (fun c => decide (c = x)) g = gl g x := by
  induction g with
  | nil => rfl
  | cons e r ih =>
    obtain ⟨k, v⟩ := e
    rw [keys_cons, List.nodup_cons] at hnd
    simp only [sumIf, gl_cons, decide_eq_true_eq, ih hnd.2]
    by_cases hk : k = x
    · rw [if_pos hk, if_pos hk, gl_of_not_mem r x (hk ▸ hnd.1)]; exact Int.add_zero v
    · rw [if_neg hk, if_neg hk, Int.zero_add]

theorem sumLt_between (g : Gaps) (x y : Int) (hxy : x ≤ y) :
    sumLt g y = sumLt g x + sumIf (fun k => decide (x ≤ k ∧ k < y)) g := by
  induction g with
  | nil => rfl
  | cons e r ih =>
    obtain ⟨k, v⟩ := e
    simp only [sumLt_cons, sumIf, ih, decide_eq_true_eq]
    -- `k` lies before `x`, in `[x, y)`, or from `y` on
    by_cases h1 : k < x
    · rw [if_pos h1, if_pos (Int.lt_of_lt_of_le h1 hxy), if_neg (fun h => Int.not_lt.mpr h.1 h1)]; omega
    · by_cases h2 : k < y
      · rw [if_neg h1, if_pos h2, if_pos ⟨Int.not_lt.mp h1, h2⟩]; omega
      · rw [if_neg h1, if_neg h2, if_neg (fun h => h2 h.2)]; omega

theorem sumLt_mono (g : Gaps) (hnn : ∀ e ∈ g, 0 ≤ e.2) (x y : Int) (hxy : x ≤ y) : sumLt g x ≤ sumLt g y := by
  have := sumIf_nonneg (fun k => decide (x ≤ k ∧ k < y)) g hnn
  rw [sumLt_between g x y hxy]; omega

theorem sumLt_succ (g : Gaps) (hnd : (keys g).Nodup) (x : Int) : sumLt g (x + 1) = sumLt g x + gl g x := by
  rw [sumLt_between g x (x + 1) (by omega), ← sumIf_eq_gl g hnd x]
  congr 1
  exact sumIf_congr _ _ g fun e _ => decide_eq_decide.mpr (by omega)

def total : Gaps → Int
  | [] => 0
  | (_, l) :: r => l + total r

theorem sumLt_all_ge (s : Gaps) (x : Int) (h : ∀ k ∈ keys s, x ≤ k) : sumLt s x = 0 := by
  induction s with
  | nil => rfl
  | cons e r ih =>
    obtain ⟨p, l⟩ := e
    rw [sumLt_cons, if_neg (Int.not_lt.mpr (h p List.mem_cons_self)), ih fun k hk => h k (List.mem_cons_of_mem _ hk)]
    rfl

theorem sumLt_all_lt (s : Gaps) (x : Int) (h : ∀ k ∈ keys s, k < x) : sumLt s x = total s := by
  induction s with
  | nil => rfl
  | cons e r ih =>
    obtain ⟨p, l⟩ := e
    rw [sumLt_cons, if_pos (h p List.mem_cons_self), ih fun k hk => h k (List.mem_cons_of_mem _ hk)]
    rfl

/-- well-formed gap dict of a row over a sequence of length `len` -/
structure GapsOK (g : Gaps) (len : Int) : Prop where
  nodup : (keys g).Nodup
  pos : ∀ e ∈ g, 0 < e.2
  range : ∀ k ∈ keys g, 0 ≤ k ∧ k ≤ len

theorem gapsOK_nil (len : Int) : GapsOK [] len := ⟨by simp, by simp, by simp⟩

theorem GapsOK.nonneg {g : Gaps} {len : Int} (h : GapsOK g len) : ∀ e ∈ g, 0 ≤ e.2 :=
  fun e he => by have := h.pos e he; omega

theorem sumLt_total (g : Gaps) (len : Int) (h : GapsOK g len) (x : Int) (hx : len < x) : sumLt g x = total g :=
  sumLt_all_lt g x (fun k hk => by have := (h.range k hk).2; omega)

/-! ### the dict given by a key list and a function -/

theorem dget_mapKeys (K : List Int) (f : Int → Int) (x : Int) :
    dget (K.map fun k => (k, f k)) x = if x ∈ K then some (f x) else none := by
  induction K with
  | nil => simp [dget]
  | cons k r ih =>
    simp only [List.map_cons, dget_cons, ih, List.mem_cons]
    by_cases h : x = k
    · simp [h]
    · simp [h]

theorem keys_mapKeys (K : List Int) (f : Int → Int) : keys (K.map fun k => (k, f k)) = K := by
  simp [keys, List.map_map, Function.comp_def]

/-! ### assignment loops -/

/-- `for k, v in kvs: res[k] = v` -/
def dsetAll (res kvs : Gaps) : Gaps := kvs.foldl (fun r e => dset r e.1 e.2) res

theorem dsetAll_cons (res : Gaps) (e : Int × Int) (kvs : Gaps) :
    dsetAll res (e :: kvs) = dsetAll (dset res e.1 e.2) kvs := rfl

theorem dsetAll_fresh (kvs res : Gaps) : (keys kvs).Nodup → (∀ k ∈ keys kvs, k ∉ keys res) →
    dsetAll res kvs = res ++ kvs :=
  AssocFold.foldl_set_fresh dset dset_fresh kvs res

/-- distinct keys assigned into the empty dict: the dict is the list -/
theorem dsetAll_nil (kvs : Gaps) (hnd : (keys kvs).Nodup) : dsetAll [] kvs = kvs :=
  dsetAll_fresh kvs [] hnd fun _ _ => List.not_mem_nil

theorem keys_filter_sublist (P : Int × Int → Bool) (u : Gaps) : (keys (u.filter P)).Sublist (keys u) :=
  List.filter_sublist.map _

theorem keys_mapVal (f : Int × Int → Int) (u : Gaps) : keys (u.map fun e => (e.1, f e)) = keys u := by
  simp [keys, List.map_map, Function.comp_def]

end CogentModel.GapMerge
