/-
  Merging a single pairwise alignment returns it unchanged.
-/
import CogentModel.Proofs.GapRows
import CogentModel.Proofs.GapDifference
namespace CogentModel.GapMerge

/-- merging one well-formed pairwise alignment gives back exactly that alignment (either variant of
`_gaps_for_injection`) -/
theorem keepsAll_single (fixed : Bool) (reflen : Int) (rg og : Gaps) (len : Int)
    (hv : pairValid reflen (rg, og, len) = true) : keepsAll fixed reflen [(rg, og, len)] = true := by
  obtain ⟨-, hrg, -, hlen, hkeep⟩ := pairValid_parts reflen rg og len hv
  have hu : gapUnion [rg] [] = rg := by simp [gapUnion, mergedGaps]
  have hself : gapDifference rg rg = ([], []) :=
    gapDifference_self rg rg (fun x hx => dget_mem_nodup rg hrg.nodup x.1 x.2 hx)
  have hcomb : combinedRefseqGaps rg rg = [] := by
    simp [combinedRefseqGaps, hself, updateDiff, subsetToAlign]
  have hinj : gapsForInjection fixed og [] len = .ok og := by
    simp [gapsForInjection, sortGaps, injectLoop]
  simp only [keepsAll, pairwiseToMultiple, List.map_cons, List.map_nil, hu, injectAll, hcomb, hinj, keepsList,
    keepsPair, Bool.and_true, Bool.and_eq_true, beq_iff_eq]
  exact ⟨hlen, dropCommon_eq_zip _ _ hlen hkeep⟩

end CogentModel.GapMerge
