/-
  The loop of `drop_not_completed` computed once: for any key the selected snapshot members (`dropSel`) are removed, each with
  its md5 side file (`dropLoop_eq`); `dropNc_key` is the case of one identifier, from any state whose not-completed side is
  consistent (`DropPre`) — `write` calls it on a state that is not yet related to a dictionary.
-/
import CogentModel.Proofs.DataStore
namespace CogentModel.DataStore
open CogentModel.KV CogentModel.DataStoreDict

variable {D : Type} {sfx : Str} {ids : List Str} {s : Dir D}

/-- the snapshot members that the loop of `drop_not_completed(key)` does not skip: all for the empty key, else `key` itself -/
def dropSel (k : Str) (ms : List Str) : List Str := ms.filter fun m => !(!k.isEmpty && !dropMatch k m)

theorem dropSel_nil (ms : List Str) : dropSel [] ms = ms := List.filter_eq_self.mpr fun _ _ => rfl

theorem dropSel_key {k : Str} (hk : k ≠ []) {ms : List Str} (h : ms.Nodup) : dropSel k ms = if k ∈ ms then [k] else [] := by
  have hp : (fun m => !(!k.isEmpty && !dropMatch k m)) = (· == k) := by
    funext m
    cases k with
    | nil => exact absurd rfl hk
    | cons _ _ => simp [dropMatch]
  rw [dropSel, hp]
  induction ms with
  | nil => rfl
  | cons a ms ih =>
    obtain ⟨ha, h'⟩ := List.nodup_cons.mp h
    by_cases e : a = k
    · subst e
      rw [List.filter_cons_of_pos (by simp), ih h', if_neg ha, if_pos List.mem_cons_self]
    · rw [List.filter_cons_of_neg (by simpa using e), ih h']
      simp [List.mem_cons, Ne.symm e]

/-- The loop removes the selected members, each with its md5 side file, provided every one of them has both files and their
    side files are distinct (else a later `unlink` would raise). -/
theorem dropLoop_eq (k : Str) : ∀ (ms : List Str) (s : Dir D), (dropSel k ms).Nodup → ((dropSel k ms).map dropMd5).Nodup →
    (∀ m ∈ dropSel k ms, has s.nc m = true ∧ has s.md5 (dropMd5 m) = true) →
    dropLoop k s ms =
      ({ s with nc := (dropSel k ms).foldl del s.nc, md5 := ((dropSel k ms).map dropMd5).foldl del s.md5,
                ncCache := (dropSel k ms).foldl List.erase s.ncCache }, .done none) := by
  intro ms
  induction ms with
  | nil => intro s _ _ _; rfl
  | cons m ms ih =>
    intro s hnd hmd hhas
    unfold dropLoop
    by_cases hskip : (!k.isEmpty && !dropMatch k m) = true
    · have e : dropSel k (m :: ms) = dropSel k ms := by simp only [dropSel, List.filter_cons, hskip]; rfl
      rw [e] at hnd hmd hhas ⊢
      rw [if_pos hskip]
      exact ih s hnd hmd hhas
    · have e : dropSel k (m :: ms) = m :: dropSel k ms := by
        rw [Bool.not_eq_true] at hskip; simp only [dropSel, List.filter_cons, hskip]; rfl
      rw [e] at hnd hmd hhas ⊢
      obtain ⟨hm, hnd'⟩ := List.nodup_cons.mp hnd
      obtain ⟨hm2, hmd'⟩ := List.nodup_cons.mp hmd
      obtain ⟨h1, h2⟩ := hhas m List.mem_cons_self
      rw [if_neg hskip, h1, h2, if_neg (by decide), if_neg (by decide)]
      refine ih _ hnd' hmd' fun m' hm' => ?_
      obtain ⟨a, b⟩ := hhas m' (List.mem_cons_of_mem _ hm')
      simp only [has, get_del, if_neg (fun e : m' = m => hm (e ▸ hm')),
        if_neg (fun e : dropMd5 m' = dropMd5 m => hm2 (e ▸ List.mem_map_of_mem hm'))]
      exact ⟨a, b⟩

structure DropPre (sfx : Str) (ids : List Str) (s : Dir D) : Prop where
  hsfx : s.sfx = sfx
  nd : (keys s.nc).Nodup
  from_ : ∀ n ∈ keys s.nc, ∃ j ∈ ids, n = ncN j
  cache : s.ncCache = [] ∨ Listed s.ncCache (keys s.nc)
  dir : s.ncDir = false → s.nc = []
  md : ∀ n ∈ keys s.nc, has s.md5 (dropMd5 n) = true

theorem populateNc_listed (hy : hyg sfx ids = true) (p : DropPre sfx ids s) :
    Listed (if s.ncCache.isEmpty then globNc s else s.ncCache) (keys s.nc) := by
  refine Listed.refill p.cache ?_
  rw [globNc_keys hy p.from_ p.dir]; exact Listed.refl p.nd

theorem dropKey_nil (sfx : Str) : dropKey sfx [] = [] := by
  simp [dropKey, replaceAll, replaceGo]

theorem ne_nil_of_hyg (hy : hyg sfx ids = true) {i : Str} (hi : i ∈ ids) : i ≠ [] := by
  intro e
  subst e
  have := (hyg_id hy hi).dkey
  rw [dropKey_nil] at this
  exact ncN_ne_nil [] this.symm

theorem dropNc_key (hy : hyg sfx ids = true) (p : DropPre sfx ids s) {i : Str} (hi : i ∈ ids) (hro : s.mode ≠ .r) :
    ∃ c, Listed c (keys (del s.nc (ncN i))) ∧
      dropNc s i = ({ s with nc := del s.nc (ncN i),
                             md5 := if ncN i ∈ keys s.nc then del s.md5 (mdOf sfx (ncN i)) else s.md5,
                             ncCache := c }, .done none) := by
  have hL := populateNc_listed hy p
  have hid := hyg_id hy hi
  have hke : (ncN i).isEmpty = false := by simpa using ncN_ne_nil i
  refine ⟨_, hL.erase_del (ncN i), ?_⟩
  unfold dropNc
  rw [if_neg hro, show dropKey s.sfx i = ncN i from p.hsfx ▸ hid.dkey, populateNc_eq]
  dsimp only
  generalize (if s.ncCache.isEmpty then globNc s else s.ncCache) = L at hL
  have hsel : dropSel (ncN i) L = if ncN i ∈ keys s.nc then [ncN i] else [] := by
    rw [dropSel_key (ncN_ne_nil i) hL.1]; simp only [hL.2]
  rw [dropLoop_eq (ncN i) L { s with ncCache := L } (hL.1.filter _) (by rw [hsel]; split <;> simp)
    (fun m hm => have hm' := (hL.2 m).mp (List.mem_filter.mp hm).1; ⟨has_iff_mem.mpr hm', p.md m hm'⟩), hsel]
  simp only [dropFinish, hke, Bool.not_false, if_true, ← hid.dmd5]
  by_cases hin : ncN i ∈ keys s.nc
  · simp only [if_pos hin, List.map_cons, List.map_nil, List.foldl_cons, List.foldl_nil]
  · simp only [if_neg hin, List.map_nil, List.foldl_nil, del_of_not_mem _ _ hin,
      List.erase_of_not_mem (fun e => hin ((hL.2 _).mp e))]

end CogentModel.DataStore
