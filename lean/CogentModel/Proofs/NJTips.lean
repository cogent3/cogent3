import CogentModel.Proofs.NJRealise
import CogentModel.Proofs.NatSum
import Mathlib.Data.List.Perm.Basic
import Mathlib.Data.List.Nodup
/-! NJ: the tips of the returned tree are exactly the labels, each once. -/
namespace CogentModel.NJ

theorem tips_bin_eq (l1 l2 : Rat) (t1 t2 : T) : (T.bin l1 t1 l2 t2).tips = t1.tips ++ t2.tips := by
  simp [T.tips, T.depths, List.map_append, List.map_map, Function.comp_def]

/-- the tips held in slot `a` of the node list -/
def tipsAt (nodes : List T) (a : Nat) : List Nat := (nodes.getD a default).tips

/-- `join` is "slot `i` takes over slot `j`" followed by "the last slot moves into `j`" -/
theorem join_tipsOnce (n : Nat) (pt : PT) (i j : Nat) (hi : i < pt.L) (hj : j < pt.L) (hij : i ≠ j)
    (h : TipsOnce n pt.L (tipsAt pt.nodes)) : TipsOnce n (join pt i j).L (tipsAt (join pt i j).nodes) := by
  refine tipsOnce_congr (fun a ha => ?_) (tipsOnce_move hj (if_pos rfl) (tipsOnce_merge hi hj hij h))
  show T.tips ((joinNodes pt.nodes pt.L i j _).getD a default)
    = if src pt.L j a = j then [] else if src pt.L j a = i then _ else tipsAt pt.nodes (src pt.L j a)
  rw [joinNodes_getD ha, if_neg (src_ne_j j ha)]
  split
  · exact tips_bin_eq _ _ _ _
  · rfl

theorem star_tipsOnce (n : Nat) (d : Mat) : TipsOnce n (star n d).L (tipsAt (star n d).nodes) :=
  tipsOnce_congr (fun _ ha => congrArg T.tips (ListGetD.getD_map_range_of_lt ha)) (tipsOnce_init n)

/-- the tips of the partial tree are exactly the labels (as a set) -/
def Labels (n : Nat) (pt : PT) : Prop :=
  (∀ x, x < n → ∃ a, a < pt.L ∧ x ∈ (pt.nodes.getD a default).tips) ∧
  (∀ a, a < pt.L → ∀ x ∈ (pt.nodes.getD a default).tips, x < n)

theorem njLoop_real (D : Nat → Nat → Rat) (hDs : ∀ a b, D a b = D b a) (n : Nat) (sel : PT → Nat × Nat)
    (fuel : Nat) (pt : PT)
    (hch : ∀ k, 3 < (njLoop sel k pt).L → SelCherry sel (njLoop sel k pt))
    (hI : Inv D pt) (hT : TipsOnce n pt.L (tipsAt pt.nodes)) :
    Inv D (njLoop sel fuel pt) ∧ TipsOnce n (njLoop sel fuel pt).L (tipsAt (njLoop sel fuel pt).nodes) := by
  induction fuel with
  | zero => exact ⟨hI, hT⟩
  | succ k ih =>
    rw [njLoop_next]
    split
    · exact ih
    · obtain ⟨ai, aj, e, hc⟩ := hch k (by omega)
      exact ⟨join_inv D hDs _ _ _ ai aj e (by omega) ih.1 hc, join_tipsOnce n _ _ _ hc.hi hc.hj hc.hij ih.2⟩

/-- the tips of the tree returned by `finish`, left to right -/
def rootTips (r : Root) : List Nat := r.flatMap (fun c => c.2.tips)

theorem finish_tips_perm (n : Nat) (pt : PT) (hL : pt.L = 3) (h : TipsOnce n pt.L (tipsAt pt.nodes)) :
    (rootTips (finish pt)).Perm (List.range n) := by
  rw [List.perm_iff_count]
  intro x
  have hx : 0 + (tipsAt pt.nodes 0).count x + (tipsAt pt.nodes 1).count x + (tipsAt pt.nodes 2).count x = _ :=
    hL ▸ h x
  have hroot : rootTips (finish pt) = tipsAt pt.nodes 0 ++ (tipsAt pt.nodes 1 ++ (tipsAt pt.nodes 2 ++ [])) := rfl
  rw [hroot, List.append_nil, List.count_append, List.count_append, List.count_range]
  omega
end CogentModel.NJ
