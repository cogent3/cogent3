import CogentModel.Proofs.PhyloBasic
/-! C09: re-rooting = a chain of rotations; invariants by induction along the path. -/
namespace CogentModel.Phylo
open PTree
variable {K : Type}

theorem rerootGo_children_ne_nil (above : List (PTree K)) (t : PTree K) (p : List Nat) (r : PTree K)
    (h : rerootGo above t p = some r) : t.children ≠ [] := by
  cases t with
  | node n l cs =>
    cases cs with
    | nil => cases p <;> simp [rerootGo, pick] at h
    | cons c cs => simp [PTree.children]

/-- Invariant of the walk.  `t.children ++ above` are the neighbours of the current node;
the tree "seen from the current node" keeps its tips and its split multiset. -/
theorem rerootGo_spec (p : List Nat) (above : List (PTree K)) (t r : PTree K) (T : List String)
    (h : rerootGo above t p = some r) (hdeg : p = [] ∨ above ≠ [] ∨ 2 ≤ t.children.length)
    (hT : (tipsL (t.children ++ above)).Perm T) :
    (tips r).Perm T ∧ (T.Nodup → SplitsEquiv T (splitsL (t.children ++ above)) (splits r)) := by
  fun_induction rerootGo above t p with
  | case1 above n l cs hcs => cases h
  | case2 above n l cs hcs =>
    cases h
    have hne : cs ++ above ≠ [] := fun h0 => hcs (List.isEmpty_iff.2 (List.append_eq_nil_iff.1 h0).1)
    rw [tips_node_ne_nil _ _ _ hne]
    exact ⟨hT, fun _ => SplitsEquiv.refl T _⟩
  | case3 above n l cs i p hp => cases h
  | case4 above n l cs i p pre x post hp ih =>
    obtain ⟨rfl, -⟩ := pick_spec hp
    have hx := rerootGo_children_ne_nil _ _ _ _ h
    cases x with
    | node xn xl xcs =>
      have hrest : pre ++ post ++ above ≠ [] := fun h1 => by
        obtain ⟨h2, h3⟩ := List.append_eq_nil_iff.1 h1
        obtain ⟨rfl, rfl⟩ := List.append_eq_nil_iff.1 h2
        rcases hdeg with h0 | h0 | h0
        · cases h0
        · exact h0 h3
        · exact absurd h0 (Nat.not_succ_le_self 1)
      have ih' := ih h (Or.inr (Or.inl (List.cons_ne_nil _ _)))
        ((rotate_tips pre post above xcs xn xl hx hrest).trans hT)
      exact ⟨ih'.1, fun hnd => .trans (rotate_splits pre post above xcs xn xl hx hrest T hT hnd) (ih'.2 hnd)⟩

/-- the new root has at least two neighbours: the walk has moved or started below something, or the
node it starts at has two children -/
theorem rerootGo_degree (p : List Nat) (above : List (PTree K)) (t r : PTree K)
    (h : rerootGo above t p = some r) (hne : p ≠ [] ∨ above ≠ [] ∨ 2 ≤ t.children.length) :
    2 ≤ r.children.length := by
  fun_induction rerootGo above t p with
  | case1 above n l cs hcs => cases h
  | case2 above n l cs hcs =>
    cases h
    rw [children_node, List.length_append]
    rcases hne with h0 | h0 | h0
    · exact absurd rfl h0
    · exact Nat.add_le_add (List.length_pos_iff.2 fun e => hcs (List.isEmpty_iff.2 e)) (List.length_pos_iff.2 h0)
    · exact Nat.le_add_right_of_le h0
  | case3 above n l cs i p hp => cases h
  | case4 above n l cs i p pre x post hp ih => exact ih h (.inr (.inl (List.cons_ne_nil _ _)))

/-- re-rooting at the node `w`: its children come first among the children of the new root -/
theorem rerootGo_shape (above : List (PTree K)) (t : PTree K) (p : List Nat) (r w : PTree K)
    (h : rerootGo above t p = some r) (hw : nodeAt t p = some w) :
    ∃ a', r = PTree.node "" none (w.children ++ a') := by
  fun_induction rerootGo above t p with
  | case1 above n l cs hcs => cases h
  | case2 above n l cs hcs => cases hw; exact ⟨above, (Option.some.inj h).symm⟩
  | case3 above n l cs i p hp => cases h
  | case4 above n l cs i p pre x post hp ih =>
    simp only [nodeAt, hp] at hw
    exact ih h hw

theorem rerootAt_spec (t r : PTree K) (p : List Nat) (h : rerootAt t p = some r)
    (hdeg : p = [] ∨ 2 ≤ t.children.length) : SameSplits t r := by
  have := rerootGo_spec p [] t r (tips t) h (hdeg.imp_right .inr)
    (by rw [List.append_nil, ← tips_of_children t (rerootGo_children_ne_nil _ _ _ _ h)])
  rwa [List.append_nil, ← splits_eq_children] at this

end CogentModel.Phylo
