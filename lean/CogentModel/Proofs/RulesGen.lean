import CogentModel.Model.RulesPrims
/-! # C07 — the loops of the translated python functions as folds (nothing here mentions a GENERATED definition)

`forIn_of_step` turns a `for` loop that only yields into the fold of a step function; the folds of the step functions
below are related to the hand models `Rules.curBounds`, `Rules.meanValue`, `Ctl.updateLoop`. -/
namespace CogentModel.Gen.C07Rules
open CogentModel.Rules CogentModel.Rules.Prim

/-- a `for` loop whose body never throws, breaks or returns is a fold -/
theorem forIn_of_step {α β : Type} {body : α → β → Except String (ForInStep β)} (f : α → β → β)
    (h : ∀ a b, body a b = pure (ForInStep.yield (f a b))) (l : List α) (init : β) :
    forIn l init body = pure (l.foldl (fun b a => f a b) init) := by
  have : body = fun a b => pure (ForInStep.yield (f a b)) := by funext a b; exact h a b
  rw [this]; exact List.forIn_pure_yield_eq_foldl f init

/-- one pass of the loop body of `get_current_bounds` -/
def bStep (self : St) (s : Nat) (acc : PV × PV) : PV × PV :=
  match getBounds self s with
  | (lower, _, upper) =>
    if pyEq upper lower then acc
    else
      ((if acc.1.isNone || pyLt lower acc.1 then lower else acc.1),
       (if acc.2.isNone || pyGt upper acc.2 then upper else acc.2))

/-- the entry `get_current_bounds` takes from one scope element (none: `upper == lower`, skipped) -/
def entry (s : St) (e : Nat) : Option (Rat × Rat) :=
  match s.setting e with
  | .var lo _ hi => if hi = lo then none else some (lo, hi)
  | .const _ => none

def bEntries (s : St) (scope : List Nat) : List (Rat × Rat) := scope.filterMap (entry s)

theorem bStep_entry (self : St) (e : Nat) (acc : PV × PV) :
    bStep self e acc =
      match entry self e with
      | none => acc
      | some (lo, hi) =>
        ((if acc.1.isNone || pyLt (some lo) acc.1 then some lo else acc.1),
         (if acc.2.isNone || pyGt (some hi) acc.2 then some hi else acc.2)) := by
  unfold bStep getBounds entry
  cases hs : self.setting e with
  | const v => simp [pyEq]
  | var lo v hi =>
    by_cases hh : hi = lo
    · simp [pyEq, hh]
    · simp [pyEq, hh]

/-- `if lower < lowest: lowest = lower` keeps the minimum -/
theorem lower_eq_min (a x : Rat) : (if decide (x < a) = true then some x else some a) = some (min a x) := by
  simp only [Rat.min_def, decide_eq_true_eq, ← Rat.not_lt, ite_not, apply_ite some]

/-- `if upper > highest: highest = upper` keeps the maximum -/
theorem raise_eq_max (b x : Rat) : (if decide (b < x) = true then some x else some b) = some (max b x) := by
  simp only [Rat.max_def, decide_eq_true_eq, apply_ite some]
  grind

theorem bStep_some (self : St) (scope : List Nat) : ∀ (a b : Rat),
    scope.foldl (fun acc s => bStep self s acc) (some a, some b) =
      (some ((bEntries self scope).foldl (fun acc x => (min acc.1 x.1, max acc.2 x.2)) (a, b)).1,
       some ((bEntries self scope).foldl (fun acc x => (min acc.1 x.1, max acc.2 x.2)) (a, b)).2) := by
  induction scope with
  | nil => intro a b; simp [bEntries]
  | cons e es ih =>
    intro a b
    simp only [List.foldl_cons, bEntries, List.filterMap_cons]
    rw [bStep_entry]
    cases he : entry self e with
    | none => simp only []; exact ih a b
    | some x =>
      obtain ⟨lo, hi⟩ := x
      simp only [Option.isNone_some, Bool.false_or, pyLt, pyGt, lower_eq_min, raise_eq_max, List.foldl_cons]
      exact ih (min a lo) (max b hi)

theorem bStep_none (self : St) (scope : List Nat) :
    scope.foldl (fun acc s => bStep self s acc) (none, none) =
      match bEntries self scope with
      | [] => (none, none)
      | x :: rest =>
        (some (rest.foldl (fun acc x => (min acc.1 x.1, max acc.2 x.2)) x).1,
         some (rest.foldl (fun acc x => (min acc.1 x.1, max acc.2 x.2)) x).2) := by
  induction scope with
  | nil => simp [bEntries]
  | cons e es ih =>
    simp only [List.foldl_cons, bEntries, List.filterMap_cons]
    rw [bStep_entry]
    cases he : entry self e with
    | none => simp only []; exact ih
    | some x =>
      obtain ⟨lo, hi⟩ := x
      simp only [Option.isNone_none, Bool.true_or, if_true]
      exact bStep_some self es lo hi

theorem curBounds_entries (d : Defn) (s : St) (scope : List Nat) :
    curBounds d s scope =
      match bEntries s scope with
      | [] => (d.dLo, d.dHi)
      | b :: rest => rest.foldl (fun acc x => (min acc.1 x.1, max acc.2 x.2)) b := rfl

theorem clampVar_map_lift (lo v hi : Rat) :
    (clampVar lo v hi).map lift =
      if hi < lo then .error "ValueError"
      else if v < lo then .ok (.var (some lo) (some lo) (some hi))
      else if hi < v then .ok (.var (some lo) (some hi) (some hi))
      else .ok (.var (some lo) (some v) (some hi)) := by
  unfold clampVar
  split
  · rfl
  · split
    · rfl
    · split <;> rfl

theorem pySum_values (self : St) (scope : List Nat) : ∀ acc : Rat,
    (scope.map (fun s => getDefaultValue self s)).foldl (fun acc v => acc + v.getD 0) acc =
      scope.foldl (fun acc e => acc + (self.setting e).value) acc := by
  induction scope with
  | nil => intro acc; rfl
  | cons e es ih => intro acc; simp only [List.map_cons, List.foldl_cons, getDefaultValue, Option.getD_some]; exact ih _

end CogentModel.Gen.C07Rules

namespace CogentModel.Gen.C07Ctl
open CogentModel.Ctl CogentModel.Gen.C07Rules
variable {V : Type} [Inhabited V]

theorem foldl_changedAdd (cs : List Nat) : ∀ s : St V,
    cs.foldl (fun s c => Prim.changedAdd s c) s = { s with changed := s.changed ++ cs } := by
  induction cs with
  | nil => intro s; simp
  | cons c cs ih => intro s; simp only [List.foldl_cons]; rw [ih]; simp [Prim.changedAdd]

/-- one pass of the body of the `for defn in self.defns` loop -/
def uStep (g : Graph V) (k : Nat) (s : St V) : St V :=
  if s.changed.contains k then
    { updateOne g s k with changed := (updateOne g s k).changed ++ clients g k }
  else s

theorem foldl_uStep (g : Graph V) (ks : List Nat) : ∀ s : St V,
    ks.foldl (fun s k => uStep g k s) s = updateLoop g ks s := by
  induction ks with
  | nil => intro s; rfl
  | cons k ks ih =>
    intro s
    simp only [List.foldl_cons, updateLoop, uStep]
    split <;> exact ih _

/-- one pass of the loop of `update_from_calculator` over (self, changed) -/
def fcStep (g : Graph V) (cv : Nat → V) (k : Nat) (acc : St V × List Nat) : St V × List Nat :=
  if Prim.isLeaf g k then (Prim.defnFromCalc acc.1 k cv, acc.2 ++ [k]) else acc

theorem foldl_fcStep (g : Graph V) (cv : Nat → V) (ks : List Nat) : ∀ (s : St V) (ch : List Nat),
    ks.foldl (fun acc k => fcStep g cv k acc) (s, ch) =
      ({ s with setting := fun j => if ks.contains j && Prim.isLeaf g j then cv j else s.setting j },
       ch ++ ks.filter (fun k => Prim.isLeaf g k)) := by
  induction ks with
  | nil => intro s ch; simp
  | cons k ks ih =>
    intro s ch
    simp only [List.foldl_cons]
    by_cases hl : Prim.isLeaf g k = true
    · have h1 : fcStep g cv k (s, ch) = (Prim.defnFromCalc s k cv, ch ++ [k]) := by simp [fcStep, hl]
      rw [h1, ih]
      simp only [Prim.defnFromCalc, List.filter_cons, hl, if_true, List.append_assoc, List.singleton_append,
        Prod.mk.injEq, and_true]
      congr 1
      funext j
      by_cases hjk : j = k
      · subst hjk; simp [upd, hl]
      · simp [upd, hjk]
    · have h1 : fcStep g cv k (s, ch) = (s, ch) := by simp [fcStep, hl]
      rw [h1, ih]
      have hf : List.filter (fun k => Prim.isLeaf g k) (k :: ks) = List.filter (fun k => Prim.isLeaf g k) ks := by
        simp [hl]
      rw [hf]
      congr 2
      funext j
      by_cases hjk : j = k
      · subst hjk; simp [hl]
      · simp [hjk]

end CogentModel.Gen.C07Ctl
