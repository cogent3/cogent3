import CogentModel.Proofs.IndelMapPattern
/-! Gaps as triples (sequence position, first column, one-past-last column): the gap list with each gap's columns
written beside it, as the `starts` / `ends` arrays of the code hold them.  `TRel` says the columns are the right ones;
`seqIdxT` is `get_seq_index` as a scan.  Pure list reasoning. -/
namespace CogentModel.IndelMap
open CogentModel.Gapped List

abbrev Trip := Int × Int × Int

def trips (prevCum : Int) : List Int → List Int → List Trip
  | p :: ps, c :: cs => (p, p + prevCum, p + c) :: trips c ps cs
  | _, _ => []

def tlen (t : Trip) : Int := t.2.2 - t.2.1

/-- gaps in increasing column order from column `lo` on, each non-empty, separated by ≥ 1 residue -/
def TSorted (lo : Int) : List Trip → Prop
  | (_, s, e) :: r => lo ≤ s ∧ s < e ∧ TSorted (e + 1) r
  | [] => True

/-- consistent bookkeeping: the cursor at column `col` shows residue `next` -/
def TRel (col next : Int) : List Trip → Prop
  | (p, s, e) :: r => s - col = p - next ∧ TRel e p r
  | [] => True

def seqIdxT (col next : Int) : List Trip → Int → Int
  | (p, s, e) :: r, ai => if ai < s then next + (ai - col) else if ai ≤ e then p else seqIdxT e p r ai
  | [], ai => next + (ai - col)

/-- last column of the string: cursor at `col` shows `next`, parent has `pl` residues -/
def endColT (col next : Int) : List Trip → Int → Int
  | (p, _, e) :: r, pl => endColT e p r pl
  | [], pl => col + (pl - next)

/-- arrays of equal length on which the two-array recursions stop are both empty -/
theorem nil_of_not_cons {gp cum : List Int} (h : ∀ p ps c cs, gp = p :: ps → cum = c :: cs → False)
    (hl : gp.length = cum.length) : gp = [] ∧ cum = [] := by
  match gp, cum, hl, h with
  | [], [], _, _ => exact ⟨rfl, rfl⟩
  | p :: ps, c :: cs, _, h => exact (h p ps c cs rfl rfl).elim

theorem trips_sorted (gp cum : List Int) (pp pc : Int) (h : Inc pp pc gp cum) :
    TSorted (pp + pc + 1) (trips pc gp cum) := by
  fun_induction trips pc gp cum generalizing pp with
  | case1 pc p ps c cs ih => exact ⟨by have := h.1; omega, by have := h.2.1; omega, ih p h.2.2⟩
  | case2 => trivial

theorem trips_rel (gp cum : List Int) (next prevCum : Int) :
    TRel (next + prevCum) next (trips prevCum gp cum) := by
  fun_induction trips prevCum gp cum generalizing next with
  | case1 pc p ps c cs ih => exact ⟨by omega, ih p⟩
  | case2 => trivial

theorem WF.tsorted {m : IMap} (h : WF m) : TSorted 0 (trips 0 m.gapPos m.cumLens) :=
  trips_sorted m.gapPos m.cumLens (-1) 0 h.inc

theorem trel_trips (gp cum : List Int) : TRel 0 0 (trips 0 gp cum) := trips_rel gp cum 0 0

/-- nothing lies before the first gap position -/
theorem WF.tsorted_head {m : IMap} (h : WF m) : TSorted (m.gapPos.headD 0) (trips 0 m.gapPos m.cumLens) := by
  have := h.tsorted
  cases hg : m.gapPos with
  | nil => cases hc : m.cumLens <;> trivial
  | cons p ps =>
    cases hc : m.cumLens with
    | nil => trivial
    | cons c cs => rw [hg, hc] at this; exact ⟨Int.le_add_of_nonneg_right (Int.le_refl 0), this.2⟩

theorem trips_map_pos (gp cum : List Int) (pc : Int) (hl : gp.length = cum.length) :
    (trips pc gp cum).map (·.1) = gp := by
  fun_induction trips pc gp cum with
  | case1 pc p ps c cs ih => simp only [map_cons, ih (by simpa using hl)]
  | case2 gp pc cum h => exact (nil_of_not_cons h hl).1.symm

theorem trips_map_start (gp cum : List Int) (pc : Int) :
    (trips pc gp cum).map (·.2.1) = startsFrom pc gp cum := by
  fun_induction trips pc gp cum with
  | case1 pc p ps c cs ih => simp only [map_cons, startsFrom, ih]
  | case2 gp pc cum h => rw [startsFrom.eq_2 _ _ _ h]; rfl

theorem trips_map_end (gp cum : List Int) (pc : Int) :
    (trips pc gp cum).map (·.2.2) = gapEnds gp cum := by
  fun_induction trips pc gp cum with
  | case1 pc p ps c cs ih => simp only [map_cons, gapEnds, ih]
  | case2 gp pc cum h => rw [gapEnds.eq_2 _ _ h]; rfl

theorem trips_map_len (gp cum : List Int) (pc : Int) (hl : gp.length = cum.length) :
    (trips pc gp cum).map tlen = diffsFrom pc cum := by
  fun_induction trips pc gp cum with
  | case1 pc p ps c cs ih =>
    simp only [map_cons, diffsFrom, tlen, ih (by simpa using hl)]
    congr 1; omega
  | case2 gp pc cum h => rw [(nil_of_not_cons h hl).2]; rfl

theorem trips_length (gp : List Int) : ∀ (cum : List Int) (pc : Int), gp.length = cum.length →
    (trips pc gp cum).length = gp.length := by
  intro cum pc hl
  rw [← List.length_map (f := (·.1)), trips_map_pos gp cum pc hl]

theorem seqIdxT_trips_cons (next pc p c ai : Int) (ps cs : List Int) :
    seqIdxT (next + pc) next (trips pc (p :: ps) (c :: cs)) ai =
      if ai < p + pc then ai - pc else if ai ≤ p + c then p else seqIdxT (p + c) p (trips c ps cs) ai := by
  simp only [trips, seqIdxT]
  split
  · omega
  · rfl

theorem endColT_trips (gp cum : List Int) (next prevCum pl : Int) (hl : gp.length = cum.length) :
    endColT (next + prevCum) next (trips prevCum gp cum) pl = pl + lastOr prevCum cum := by
  fun_induction trips prevCum gp cum generalizing next with
  | case1 pc p ps c cs ih => exact ih p (by simpa using hl)
  | case2 gp pc cum h => rw [(nil_of_not_cons h hl).2]; simp only [endColT, lastOr]; omega

theorem endColT_abs (m : IMap) (h : WF m) : endColT 0 0 (trips 0 m.gapPos m.cumLens) m.parentLength = len m := by
  rw [len_eq_lastOr m h]; exact endColT_trips m.gapPos m.cumLens 0 0 m.parentLength h.len_eq

/-- the gaps of a list of triples as (position, length): the columns forgotten -/
def gapsT (T : List Trip) : List (Int × Int) := T.map fun t => (t.1, tlen t)

theorem gapsT_trips (gp cum : List Int) (pc : Int) : gapsT (trips pc gp cum) = zip gp (diffsFrom pc cum) := by
  fun_induction trips pc gp cum with
  | case1 pc p ps c cs ih =>
    simp only [gapsT, map_cons, diffsFrom, zip_cons_cons, tlen] at ih ⊢
    rw [ih, show p + c - (p + pc) = c - pc by omega]
  | case2 gp pc cum h =>
    match gp, cum, h with
    | [], _, _ => rfl
    | _ :: _, [], _ => rfl
    | p :: ps, c :: cs, h => exact (h p ps c cs rfl rfl).elim

theorem pattern_abs_trips (m : IMap) :
    pattern (abs m) = patG 0 (gapsT (trips 0 m.gapPos m.cumLens)) m.parentLength := by
  rw [gapsT_trips]; exact pattern_abs_G m

theorem tsorted_mono : ∀ (T : List Trip) (lo lo' : Int), lo' ≤ lo → TSorted lo T → TSorted lo' T := by
  intro T lo lo' h hs
  cases T with
  | nil => trivial
  | cons t r => obtain ⟨p, s, e⟩ := t; exact ⟨by have := hs.1; omega, hs.2.1, hs.2.2⟩

theorem tsorted_tail {lo p s e : Int} {r : List Trip} (h : TSorted lo ((p, s, e) :: r)) : TSorted e r :=
  tsorted_mono r _ _ (Int.le_add_one (Int.le_refl e)) h.2.2

theorem tsorted_tlen_pos (T : List Trip) : ∀ (col : Int), TSorted col T → ∀ t ∈ T, 0 < tlen t := by
  induction T with
  | nil => intro _ _ t ht; simp at ht
  | cons t0 r ih =>
    intro col hs t ht
    obtain ⟨p, s, e⟩ := t0
    obtain ⟨h1, h2, h3⟩ := hs
    rcases mem_cons.mp ht with rfl | h'
    · simp only [tlen]; omega
    · exact ih _ h3 t h'

theorem seqIdxT_at_col (T : List Trip) (col next : Int) (h : TSorted (col + 1) T) :
    seqIdxT col next T col = next := by
  cases T with
  | nil => simp [seqIdxT]
  | cons t r =>
    obtain ⟨p, s, e⟩ := t
    have := h.1
    simp only [seqIdxT]
    rw [if_pos (by omega)]; omega

/-- from the end of the first gap on, the scan does not see that gap -/
theorem seqIdxT_cons_of_ge {col next p s e ai : Int} {r : List Trip} (hs : TSorted col ((p, s, e) :: r))
    (h : e ≤ ai) : seqIdxT col next ((p, s, e) :: r) ai = seqIdxT e p r ai := by
  obtain ⟨_, h2, h3⟩ := hs
  simp only [seqIdxT]
  rw [if_neg (by omega)]
  by_cases c : ai ≤ e
  · obtain rfl : ai = e := by omega
    rw [if_pos c, seqIdxT_at_col r ai p h3]
  · rw [if_neg c]

theorem seqIdxT_ge_next (T : List Trip) : ∀ (col next ai : Int), TSorted col T → TRel col next T → col ≤ ai →
    next ≤ seqIdxT col next T ai := by
  induction T with
  | nil => intro col next ai _ _ h; simp only [seqIdxT]; omega
  | cons t r ih =>
    intro col next ai hs hr h
    obtain ⟨p, s, e⟩ := t
    have ⟨h1, h2, _⟩ := hs
    obtain ⟨r1, r2⟩ := hr
    simp only [seqIdxT]
    split
    · omega
    · split
      · omega
      · have := ih e p ai (tsorted_tail hs) r2 (by omega); omega

/-- positions strictly increase along sorted, consistent triples, starting `lo - col` residues after `next` -/
theorem trel_pos (T : List Trip) : ∀ (lo col next : Int), TSorted lo T → TRel col next T →
    (T.map (·.1)).Pairwise (· < ·) ∧ ∀ t ∈ T, next + (lo - col) ≤ t.1 := by
  induction T with
  | nil => intro _ _ _ _ _; simp
  | cons t r ih =>
    intro lo col next hs hr
    obtain ⟨p, s, e⟩ := t
    obtain ⟨h1, h2, h3⟩ := hs
    obtain ⟨r1, r2⟩ := hr
    obtain ⟨i1, i2⟩ := ih (e + 1) e p h3 r2
    refine ⟨?_, ?_⟩
    · simp only [map_cons, pairwise_cons]
      refine ⟨?_, i1⟩
      intro q hq
      obtain ⟨t', ht', rfl⟩ := mem_map.mp hq
      have := i2 t' ht'; omega
    · intro t' ht'
      rcases mem_cons.mp ht' with rfl | h'
      · show next + (lo - col) ≤ p; omega
      · have := i2 t' h'; omega

end CogentModel.IndelMap
