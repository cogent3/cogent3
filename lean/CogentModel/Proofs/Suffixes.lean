import CogentModel.Model.Suffixes
import CogentModel.Proofs.Splitlines
/-! The temporary file `atomic_write` writes has the suffixes of its destination. -/
namespace CogentModel.Suffixes
open CogentModel.Splitlines

theorem splitOn_ne_nil (d : Char) : ∀ (s : Str), splitOn d s ≠ []
  | [] => by simp [splitOn]
  | c :: cs => by
    simp only [splitOn]
    split
    · simp
    · exact consHead_ne_nil _ _

theorem splitOn_pieces (d : Char) : ∀ (s : Str), ∀ p ∈ splitOn d s, ∀ x ∈ p, x ≠ d
  | [], p, hp => by
    obtain rfl := List.mem_singleton.mp hp
    exact fun x hx => nomatch hx
  | c :: cs, p, hp => by
    rw [splitOn] at hp
    split at hp
    · rcases List.mem_cons.mp hp with rfl | e
      · exact fun x hx => nomatch hx
      · exact splitOn_pieces d cs p e
    · next hcd => exact consHead_forall hcd (splitOn_pieces d cs) p hp

theorem splitOn_none {d : Char} : ∀ {a : Str}, d ∉ a → splitOn d a = [a]
  | [], _ => rfl
  | c :: cs, h => by
    have hc : ¬ (c = d) := fun e => h (by subst e; exact List.mem_cons_self)
    have := splitOn_none (a := cs) (fun hm => h (List.mem_cons_of_mem _ hm))
    simp [splitOn, hc, this, consHead]

theorem splitOn_sep {d : Char} : ∀ {a : Str} (b : Str), d ∉ a → splitOn d (a ++ d :: b) = a :: splitOn d b
  | [], b, _ => by simp [splitOn]
  | c :: cs, b, h => by
    have hc : ¬ (c = d) := fun e => h (by subst e; exact List.mem_cons_self)
    have := splitOn_sep (a := cs) b (fun hm => h (List.mem_cons_of_mem _ hm))
    simp [splitOn, hc, this, consHead]

theorem splitOn_join {d : Char} : ∀ (ps : List Str) (u : Str), d ∉ u → (∀ p ∈ ps, d ∉ p) →
    splitOn d (u ++ ps.flatMap (d :: ·)) = u :: ps
  | [], u, hu, _ => by simpa using splitOn_none hu
  | p :: ps, u, hu, hp => by
    have ih := splitOn_join ps p (hp p List.mem_cons_self) (fun x hx => hp x (List.mem_cons_of_mem _ hx))
    simp only [List.flatMap_cons, List.cons_append]
    rw [splitOn_sep _ hu, ih]

/-- joining the pieces with the separator gives the text back -/
theorem splitOn_flatten {d : Char} : ∀ {s p0 : Str} {ps : List Str}, splitOn d s = p0 :: ps → s = p0 ++ ps.flatMap (d :: ·)
  | [], _, _, h => by cases h; rfl
  | c :: cs, p0, ps, h => by
    obtain ⟨q, qs, hq⟩ := List.exists_cons_of_ne_nil (splitOn_ne_nil d cs)
    have ih : c :: cs = c :: (q ++ qs.flatMap (d :: ·)) := congrArg (c :: ·) (splitOn_flatten hq)
    rw [splitOn, hq] at h
    split at h
    next hc =>
      cases h
      exact hc ▸ ih
    next =>
      cases h
      exact ih

theorem getLast?_dropWhile_ne {p : Char → Bool} {c : Char} : ∀ {s : Str}, s.getLast? ≠ some c →
    (s.dropWhile p).getLast? ≠ some c
  | [], h => h
  | [a], h => by
    rw [List.dropWhile_cons]
    split
    · simp
    · exact h
  | a :: b :: s, h => by
    rw [List.dropWhile_cons]
    split
    · exact getLast?_dropWhile_ne (by rwa [List.getLast?_cons_cons] at h)
    · exact h

/-- **the temporary file has exactly the suffixes of the destination** (for every name and every dot-free,
non-empty stem such as a uuid) -/
theorem suffixesOf_tmpName (u name : Str) (hu : u ≠ []) (hdot : '.' ∉ u) :
    suffixesOf (tmpName u name) = suffixesOf name := by
  have hstrip : ∀ t : Str, (u ++ t).dropWhile (· = '.') = u ++ t := fun t => by
    obtain ⟨a, as, rfl⟩ := List.exists_cons_of_ne_nil hu
    have : a ≠ '.' := fun e => hdot (e ▸ List.mem_cons_self)
    simp [this]
  have hulast : u.getLast? ≠ some '.' := fun e => hdot (List.mem_of_getLast? e)
  by_cases hend : name.getLast? = some '.'
  · -- no suffixes: the temporary name is the stem
    have h0 : suffixesOf name = [] := if_pos hend
    rw [tmpName, h0, List.flatten_nil, suffixesOf, if_neg (by rwa [List.append_nil]), hstrip, List.append_nil,
      splitOn_none hdot]
    rfl
  · obtain ⟨p0, ps, hs⟩ := List.exists_cons_of_ne_nil (splitOn_ne_nil '.' (name.dropWhile (· = '.')))
    have hsuf : suffixesOf name = ps.map ('.' :: ·) := by rw [suffixesOf, if_neg hend, hs]; rfl
    have hps : ∀ p ∈ ps, '.' ∉ p := fun p hp hm =>
      splitOn_pieces '.' _ p (by rw [hs]; exact List.mem_cons_of_mem _ hp) '.' hm rfl
    have htmp : tmpName u name = u ++ ps.flatMap ('.' :: ·) := by
      rw [tmpName, hsuf, List.flatten_eq_flatMap, List.flatMap_map]; rfl
    -- the temporary name and the destination (leading dots dropped) end in the same suffixes
    have hlast : (tmpName u name).getLast? ≠ some '.' := by
      rw [htmp]
      cases ps with
      | nil => rwa [List.flatMap_nil, List.append_nil]
      | cons q qs =>
        have h := getLast?_dropWhile_ne (p := (· = '.')) hend
        rw [splitOn_flatten hs, List.getLast?_append] at h
        rw [List.getLast?_append]
        cases hx : ((q :: qs).flatMap ('.' :: ·)).getLast? with
        | none => simp at hx
        | some x => rwa [hx] at h
    rw [hsuf, suffixesOf, if_neg hlast, htmp, hstrip, splitOn_join ps u hdot hps]
    rfl

end CogentModel.Suffixes
