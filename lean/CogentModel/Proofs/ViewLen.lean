import CogentModel.Proofs.PyRange
/-! `len v` is the ceiling of `|stop - start| / |step|`: when `start`, `stop` are ordered as `step` points
(the invariant gives that) the stop of a record lies in the block of index `len v` of its own positions. -/
namespace CogentModel.View
open CogentModel CogentModel.PySlice

theorem len_nonneg (v : View) : 0 ≤ len v := by
  unfold len pyabs; split <;> omega

theorem len_fwd_eq (v : View) (hs : 0 < v.step) (h : v.start ≤ v.stop) :
    len v = -((-(v.stop - v.start)) / v.step) := by
  unfold len pyabs
  rw [Int.fdiv_eq_ediv_of_nonneg _ (Int.le_of_lt hs), show v.start - v.stop = -(v.stop - v.start) by omega]
  have := (isCeil_mul 0 v.step hs).mono (isCeil_neg_ediv (v.stop - v.start) v.step hs) hs (by omega)
  split <;> omega

theorem len_rev_eq (v : View) (hs : v.step < 0) (h : v.stop ≤ v.start) :
    len v = -((-(v.start - v.stop)) / (-v.step)) := by
  unfold len pyabs
  rw [← Int.neg_fdiv_neg, Int.fdiv_eq_ediv_of_nonneg _ (by omega : (0:Int) ≤ -v.step)]
  have := (isCeil_mul 0 (-v.step) (by omega)).mono (isCeil_neg_ediv (v.start - v.stop) (-v.step) (by omega))
    (by omega) (by omega)
  split <;> omega

theorem len_isCeil_fwd (v : View) (hs : 0 < v.step) (h : v.start ≤ v.stop) :
    IsCeil (v.stop - v.start) v.step (len v) := by
  rw [len_fwd_eq v hs h]; exact isCeil_neg_ediv _ _ hs

theorem len_isCeil_rev (v : View) (hs : v.step < 0) (h : v.stop ≤ v.start) :
    IsCeil (v.start - v.stop) (-v.step) (len v) := by
  rw [len_rev_eq v hs h]; exact isCeil_neg_ediv _ _ (by omega)

theorem len_zero (fl : Flavour) (v : View) : len (zero fl v) = 0 := by
  cases fl <;> rfl

theorem len_eq_zero_of_eq (w : View) (h : w.start = w.stop) : len w = 0 := by
  unfold len pyabs
  rw [h, Int.sub_self]
  cases hs : w.step <;> simp [Int.fdiv]

end CogentModel.View
