import CogentModel.Proofs.IndelMapGapSpans
/-! `merge_maps` on the arrays: the merged map holds at every position the gap lengths of both (`glen`).
`IndelMapGapSpans` is imported for the matcher equations functional induction generates there (`lenAt` shares its matcher
with `startsFrom`): two modules that generate them independently cannot be imported together. -/
namespace CogentModel.IndelMap
open CogentModel.Gapped List CogentModel

/-- gap length a map inserts before sequence position `p` (0 if none) -/
def glen (m : IMap) (p : Int) : Int := lenAt p m.gapPos (gapLengths m.cumLens)

theorem insertUniq_spec (v : Int) : ∀ (L : List Int), L.Pairwise (· < ·) →
    (insertUniq v L).Pairwise (· < ·) ∧ ∀ x, x ∈ insertUniq v L ↔ x = v ∨ x ∈ L := by
  intro L
  fun_induction insertUniq v L with
  | case1 => intro _; simp
  | case2 y r c1 =>
    intro h
    exact ⟨pairwise_cons.mpr ⟨forall_mem_cons.mpr ⟨c1, fun x hx => Int.lt_trans c1 ((pairwise_cons.mp h).1 x hx)⟩, h⟩,
      fun x => by simp⟩
  | case3 r c1 => intro h; exact ⟨h, fun x => by simp⟩
  | case4 y r c1 c2 ih =>
    intro h
    have h' := pairwise_cons.mp h
    obtain ⟨i1, i2⟩ := ih h'.2
    refine ⟨pairwise_cons.mpr ⟨fun x hx => ?_, i1⟩, fun x => ?_⟩
    · rcases (i2 x).mp hx with rfl | hx'
      · omega
      · exact h'.1 x hx'
    · simp only [mem_cons, i2 x]; exact or_left_comm

theorem sortUniq_spec (xs : List Int) :
    (sortUniq xs).Pairwise (· < ·) ∧ ∀ x, x ∈ sortUniq xs ↔ x ∈ xs := by
  induction xs with
  | nil => simp [sortUniq]
  | cons v r ih =>
    obtain ⟨i1, i2⟩ := ih
    obtain ⟨j1, j2⟩ := insertUniq_spec v (sortUniq r) i1
    refine ⟨j1, ?_⟩
    intro x
    show x ∈ insertUniq v (sortUniq r) ↔ x ∈ v :: r
    rw [j2 x, i2 x]; simp

theorem lenAt_not_mem (p : Int) : ∀ (gp L : List Int), p ∉ gp → lenAt p gp L = 0 := by
  intro gp L
  fun_induction lenAt p gp L with
  | case1 q qs l ls ih =>
    intro h
    rw [if_neg (fun e => h (mem_cons.mpr (Or.inl e.symm))), ih (fun hm => h (mem_cons_of_mem _ hm))]; rfl
  | case2 => intro _; rfl

theorem lenAt_pos (p : Int) : ∀ (gp L : List Int), gp.length = L.length → (∀ l ∈ L, 0 < l) →
    (p ∈ gp → 0 < lenAt p gp L) ∧ 0 ≤ lenAt p gp L := by
  intro gp L
  fun_induction lenAt p gp L with
  | case1 q qs l ls ih =>
    intro hl hL
    obtain ⟨hl0, hls⟩ := forall_mem_cons.mp hL
    obtain ⟨i1, i2⟩ := ih (by simpa using hl) hls
    by_cases hq : q = p
    · rw [if_pos hq]; exact ⟨fun _ => by omega, by omega⟩
    · rw [if_neg hq, Int.zero_add]
      exact ⟨fun hp => i1 ((mem_cons.mp hp).resolve_left fun e => hq e.symm), i2⟩
  | case2 _ _ hne =>
    intro hl _
    obtain ⟨rfl, rfl⟩ := nil_of_not_cons hne hl
    simp

theorem lenAt_map (f : Int → Int) (p : Int) : ∀ (up : List Int), up.Pairwise (· < ·) →
    lenAt p up (up.map f) = if p ∈ up then f p else 0 := by
  intro up
  induction up with
  | nil => intro _; rfl
  | cons q qs ih =>
    intro h
    have h' := pairwise_cons.mp h
    simp only [map_cons, lenAt, ih h'.2, mem_cons]
    by_cases hq : q = p
    · subst hq
      have : q ∉ qs := fun hm => by have := h'.1 q hm; omega
      simp [this]
    · have hq' : ¬ p = q := fun e => hq e.symm
      simp [hq, hq']

theorem glen_pos (m : IMap) (h : WF m) (p : Int) : (p ∈ m.gapPos → 0 < glen m p) ∧ 0 ≤ glen m p :=
  lenAt_pos p m.gapPos _ (by simp [gapLengths, diffsFrom_length, h.len_eq]) (diffsFrom_pos m.cumLens 0 h.cum_sorted)

/-- **`merge_maps`**: for two well-formed maps over the same sequence, the merged map inserts before
each sequence position the gaps of both (`glen r p = glen a p + glen b p`), never raises, and is
well formed -/
theorem merge_spec' (a b : IMap) (ha : WF a) (hb : WF b) (hpl : a.parentLength = b.parentLength) :
    ∃ r, mergeMaps a b none = .ok r ∧ WF r ∧ r.parentLength = a.parentLength ∧
      ∀ p, glen r p = glen a p + glen b p := by
  obtain ⟨s1, s2⟩ := sortUniq_spec (a.gapPos ++ b.gapPos)
  have hfpos : ∀ p ∈ sortUniq (a.gapPos ++ b.gapPos), 0 < glen a p + glen b p := by
    intro p hp
    have A := glen_pos a ha p
    have B := glen_pos b hb p
    rcases mem_append.mp ((s2 p).mp hp) with h | h
    · have := A.1 h; omega
    · have := B.1 h; omega
  have hwf := (ofLengths_spec _ ((sortUniq (a.gapPos ++ b.gapPos)).map fun p => glen a p + glen b p) a.parentLength
    (length_map _).symm s1 (fun x hx => by obtain ⟨p, hp, rfl⟩ := mem_map.mp hx; exact hfpos p hp)
    (fun p hp => (mem_append.mp ((s2 p).mp hp)).elim (ha.pos_range p) fun h => hpl ▸ hb.pos_range p h) ha.pl_nonneg).1
  refine ⟨_, wf_mk_ok _ hwf, hwf, rfl, fun p => ?_⟩
  show lenAt p _ (gapLengths (cumsum _)) = _
  simp only [gapLengths, cumsum, diffsFrom_cumsumFrom]
  rw [lenAt_map _ p _ s1]
  by_cases hp : p ∈ sortUniq (a.gapPos ++ b.gapPos)
  · rw [if_pos hp]
  · have hn : p ∉ a.gapPos ∧ p ∉ b.gapPos := by
      constructor <;> intro h <;> exact hp ((s2 p).mpr (by simp [h]))
    rw [if_neg hp, glen, glen, lenAt_not_mem p _ _ hn.1, lenAt_not_mem p _ _ hn.2]; rfl

end CogentModel.IndelMap
