import CogentModel.Model.StoreWrite
/-! A store is a function of identifiers, so a run is analysed one identifier at a time: `exec_apply` projects the
operation sequence onto one cell (`proj`); with distinct identifiers a run leaves there the block of one input and a
crash a prefix of it (`proj_runOps`, `proj_crashOps`); resume then is a finite check on one cell (`CellResumeOK`). -/
namespace CogentModel.StoreWrite
open CogentModel.Composable

def proj (i : Id) (ops : List Op) : List COp := (ops.filter (fun o => o.1 == i)).map (·.2)
def cellRun (c : Cell) (l : List COp) : Cell := l.foldl stepCell c
def Bc (var : Variant) (c : Cell) (v : Val) : List COp := if doneCell c then [] else block var v

theorem proj_append (i : Id) (a b : List Op) : proj i (a ++ b) = proj i a ++ proj i b := by simp [proj]
@[simp] theorem proj_nil (i : Id) : proj i [] = [] := rfl

theorem exec_apply (s : FStore) (ops : List Op) (i : Id) : exec s ops i = cellRun (s i) (proj i ops) := by
  induction ops generalizing s with
  | nil => rfl
  | cons o ops ih =>
    show exec (step s o) ops i = _
    rw [ih]
    by_cases h : o.1 = i
    · simp [proj, step, h, cellRun]
    · have h' : ¬ i = o.1 := fun e => h e.symm
      simp [proj, step, h, h', cellRun]

theorem proj_map_same (i j : Id) (l : List COp) :
    proj i (l.map (fun o => (j, o))) = if j = i then l else [] := by
  by_cases h : j = i <;> simp [proj, h, List.filter_map, Function.comp_def]

theorem proj_opsOf_take (var : Variant) (idOf : Nat → Id) (app : Nat → Val) (s0 : FStore) (m : Nat) (i : Id) (p : Nat) :
    proj i ((opsOf var idOf app s0 m).take p) = if idOf m = i then (Bc var (s0 (idOf m)) (app m)).take p else [] := by
  unfold opsOf Bc
  by_cases hd : doneCell (s0 (idOf m)) = true
  · simp [hd]
  · simp only [hd, Bool.false_eq_true, if_false, ← List.map_take]
    exact proj_map_same i (idOf m) _

theorem proj_opsOf (var : Variant) (idOf : Nat → Id) (app : Nat → Val) (s0 : FStore) (m : Nat) (i : Id) :
    proj i (opsOf var idOf app s0 m) = if idOf m = i then Bc var (s0 (idOf m)) (app m) else [] := by
  have := proj_opsOf_take var idOf app s0 m i (opsOf var idOf app s0 m).length
  rwa [List.take_length, List.take_of_length_le] at this
  unfold opsOf Bc; split <;> simp

theorem runOps_cons (var idOf app s0) (a : Nat) (l : List Nat) :
    runOps var idOf app s0 (a :: l) = opsOf var idOf app s0 a ++ runOps var idOf app s0 l := by
  simp [runOps]

theorem proj_runOps_none (var : Variant) (idOf : Nat → Id) (app : Nat → Val) (s0 : FStore) (l : List Nat) (i : Id)
    (h : ∀ x ∈ l, idOf x ≠ i) : proj i (runOps var idOf app s0 l) = [] := by
  induction l with
  | nil => rfl
  | cons a l ih =>
    rw [runOps_cons, proj_append, proj_opsOf, ih (fun x hx => h x (List.mem_cons_of_mem _ hx))]
    simp [h a List.mem_cons_self]

theorem mem_cons_nodup (idOf : Nat → Id) (a m : Nat) (l : List Nat) (hn : ((a :: l).map idOf).Nodup) (hm : m ∈ a :: l) :
    (m = a ∧ ∀ x ∈ l, idOf x ≠ idOf m) ∨ (idOf a ≠ idOf m ∧ m ∈ l) := by
  rw [List.map_cons, List.nodup_cons] at hn
  rcases List.mem_cons.mp hm with rfl | e
  · exact Or.inl ⟨rfl, fun x hx e => hn.1 (e ▸ List.mem_map_of_mem hx)⟩
  · exact Or.inr ⟨fun e' => hn.1 (e' ▸ List.mem_map_of_mem e), e⟩

theorem proj_runOps (var : Variant) (idOf : Nat → Id) (app : Nat → Val) (s0 : FStore) (l : List Nat) (m : Nat)
    (hn : (l.map idOf).Nodup) (hm : m ∈ l) :
    proj (idOf m) (runOps var idOf app s0 l) = Bc var (s0 (idOf m)) (app m) := by
  induction l with
  | nil => cases hm
  | cons a l ih =>
    rw [runOps_cons, proj_append, proj_opsOf]
    rcases mem_cons_nodup idOf a m l hn hm with ⟨rfl, hno⟩ | ⟨ha, hml⟩
    · rw [proj_runOps_none var idOf app s0 l _ hno]; simp
    · simp [ha, ih (List.nodup_cons.mp hn).2 hml]

theorem crashOps_zero (var idOf app s0) (a : Nat) (l : List Nat) (p : Nat) :
    crashOps var idOf app s0 (a :: l) 0 p = (opsOf var idOf app s0 a).take p := by
  simp [crashOps, runOps]

theorem crashOps_succ (var idOf app s0) (a : Nat) (l : List Nat) (j p : Nat) :
    crashOps var idOf app s0 (a :: l) (j + 1) p = opsOf var idOf app s0 a ++ crashOps var idOf app s0 l j p := by
  simp [crashOps, runOps_cons, List.append_assoc]

theorem proj_crashOps_none (var : Variant) (idOf : Nat → Id) (app : Nat → Val) (s0 : FStore) (l : List Nat) (i : Id)
    (j p : Nat) (h : ∀ x ∈ l, idOf x ≠ i) : proj i (crashOps var idOf app s0 l j p) = [] := by
  unfold crashOps
  rw [proj_append, proj_runOps_none var idOf app s0 _ i (fun x hx => h x (List.mem_of_mem_take hx))]
  cases hj : l[j]? with
  | none => rfl
  | some m => simp [proj_opsOf_take, h m (List.mem_of_getElem? hj)]

theorem block_length_le (var : Variant) (v : Val) : (block var v).length ≤ 4 := by
  unfold block; cases var <;> cases v.isOk <;> simp

theorem Bc_length_le (var : Variant) (c : Cell) (v : Val) : (Bc var c v).length ≤ 4 := by
  unfold Bc; split
  · exact Nat.zero_le _
  · exact block_length_le var v

/-- what a crash at `(j, p)` leaves of the block of input `m`: nothing (not reached yet), its first `p` operations (`m` is
the interrupted input) or all of it -/
theorem proj_crashOps (var : Variant) (idOf : Nat → Id) (app : Nat → Val) (s0 : FStore) (l : List Nat) (m : Nat)
    (hn : (l.map idOf).Nodup) (hm : m ∈ l) (j p : Nat) :
    ∃ t, proj (idOf m) (crashOps var idOf app s0 l j p) = (Bc var (s0 (idOf m)) (app m)).take t ∧
      (t = 0 ∨ t = p ∨ (Bc var (s0 (idOf m)) (app m)).length ≤ t) := by
  induction l generalizing j with
  | nil => cases hm
  | cons a l ih =>
    rcases mem_cons_nodup idOf a m l hn hm with ⟨rfl, hno⟩ | ⟨ha, hml⟩
    · cases j with
      | zero => exact ⟨p, by rw [crashOps_zero, proj_opsOf_take]; simp, Or.inr (Or.inl rfl)⟩
      | succ j =>
        refine ⟨(Bc var (s0 (idOf m)) (app m)).length, ?_, Or.inr (Or.inr (Nat.le_refl _))⟩
        rw [crashOps_succ, proj_append, proj_opsOf, proj_crashOps_none var idOf app s0 l _ j p hno]
        simp
    · cases j with
      | zero => exact ⟨0, by rw [crashOps_zero, proj_opsOf_take]; simp [ha], Or.inl rfl⟩
      | succ j =>
        obtain ⟨t, e, ht⟩ := ih (List.nodup_cons.mp hn).2 hml j
        exact ⟨t, by rw [crashOps_succ, proj_append, proj_opsOf, e]; simp [ha], ht⟩

/-- the cell-level resume equation for a crash that left the first `t` operations of the block -/
def CellResumeOK (var : Variant) (c : Cell) (v : Val) (t : Nat) : Prop :=
  let c1 := cellRun c ((Bc var c v).take t)
  cellRun c1 (Bc var c1 v) = cellRun c (Bc var c v)

theorem cell_resume_atomic (c : Cell) (v : Val) (t : Nat) : CellResumeOK .atomicMd5First c v t := by
  unfold CellResumeOK
  obtain ⟨d, n, m5⟩ := c
  cases hv : v.isOk <;> cases d <;> rcases t with _ | _ | t <;>
    simp [Bc, block, doneCell, cellRun, stepCell, hv]

theorem cell_resume_inPlace_boundary (c : Cell) (v : Val) (t : Nat)
    (ht : t = 0 ∨ (Bc .inPlace c v).length ≤ t) : CellResumeOK .inPlace c v t := by
  unfold CellResumeOK
  obtain ⟨d, n, m5⟩ := c
  rcases ht with rfl | ht
  · simp [cellRun]
  · rw [List.take_of_length_le ht]
    cases hv : v.isOk <;> cases d <;> simp [Bc, block, doneCell, cellRun, stepCell, hv]

theorem resume_pointwise (var : Variant) (idOf : Nat → Id) (app : Nat → Val) (s0 : FStore) (inputs : List Nat)
    (hn : (inputs.map idOf).Nodup) (j p : Nat)
    (hcell : ∀ c v t, t = p ∨ (Bc var c v).length ≤ t → CellResumeOK var c v t) (i : Id) :
    resumed var idOf app s0 inputs j p i = uninterrupted var idOf app s0 inputs i := by
  unfold resumed uninterrupted
  simp only [exec_apply]
  by_cases hex : ∃ m ∈ inputs, idOf m = i
  · obtain ⟨m, hm, rfl⟩ := hex
    obtain ⟨t, e, ht⟩ := proj_crashOps var idOf app s0 inputs m hn hm j p
    rw [proj_runOps var idOf app _ inputs m hn hm, proj_runOps var idOf app s0 inputs m hn hm]
    simp only [exec_apply, e]
    rcases ht with rfl | ht
    · rfl
    · exact hcell (s0 (idOf m)) (app m) t ht
  · have hno : ∀ x ∈ inputs, idOf x ≠ i := fun x hx e => hex ⟨x, hx, e⟩
    rw [proj_runOps_none var idOf app _ inputs i hno, proj_runOps_none var idOf app s0 inputs i hno,
      proj_crashOps_none var idOf app s0 inputs i j p hno]
    rfl

theorem take_runOps (var : Variant) (idOf : Nat → Id) (app : Nat → Val) (s0 : FStore) (inputs : List Nat) (k : Nat) :
    ∃ j p, (runOps var idOf app s0 inputs).take k = crashOps var idOf app s0 inputs j p := by
  induction inputs generalizing k with
  | nil => exact ⟨0, 0, by simp [runOps, crashOps]⟩
  | cons a l ih =>
    by_cases hk : k ≤ (opsOf var idOf app s0 a).length
    · refine ⟨0, k, ?_⟩
      rw [crashOps_zero, runOps_cons, List.take_append_of_le_length hk]
    · obtain ⟨j, p, e⟩ := ih (k - (opsOf var idOf app s0 a).length)
      refine ⟨j + 1, p, ?_⟩
      rw [crashOps_succ, runOps_cons, List.take_append, List.take_of_length_le (by omega), e]
