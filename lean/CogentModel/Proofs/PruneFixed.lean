import Mathlib.Algebra.BigOperators.Ring.Finset
import Mathlib.Algebra.BigOperators.Group.Finset.Sigma
import CogentModel.Model.PruneFixed
import CogentModel.Proofs.Prune
/-!
`Model/PruneFixed.lean`: a transformation applied to the partial-likelihood vector of one internal
node (the fixed-motif mask, an extra leaf below the node).
-/
namespace CogentModel.PruneFixed
open CogentModel.Prune Finset

theorem addLeafAt_mat {R α : Type} (l : PTree R α) : ∀ (path : List Nat) (t : PTree R α), (addLeafAt l path t).mat = t.mat
  | _, .leaf _ _ => by simp [addLeafAt, PTree.mat]
  | [], .node _ _ => by simp [addLeafAt, PTree.mat]
  | _ :: _, .node _ _ => by simp [addLeafAt, PTree.mat]

section semiring
variable {R : Type} [CommSemiring R] {α : Type}

theorem maskVec_get (m s : Nat) (v : Vec R) (x : Nat) : (maskVec m s v).get x = if x = s then v.get x else 0 := by
  simp [maskVec]

/-! ### no transformation: the plain recursion -/
mutual
theorem plhMod_id (m : Nat) (prof : α → Nat → R) :
    ∀ (path : List Nat) (t : PTree R α), plhMod m prof id path t = plh m prof t
  | _, .leaf _ _ => by simp [plhMod, plh]
  | [], .node _ cs => by simp [plhMod, plh]
  | i :: path, .node _ cs => by
    rw [plhMod, plh_node]
    exact prodUpMod_id m prof i path cs
theorem prodUpMod_id (m : Nat) (prof : α → Nat → R) :
    ∀ (i : Nat) (path : List Nat) (cs : List (PTree R α)), prodUpMod m prof id i path cs = prodUp m prof cs
  | _, _, [] => by simp [prodUpMod, prodUp]
  | 0, path, c :: cs => by
    rw [prodUpMod, plhMod_id m prof path c, prodUp]
  | i + 1, path, c :: cs => by
    rw [prodUpMod, prodUpMod_id m prof i path cs, prodUp]
end

/-! ### two transformations that agree on the states `< m` -/
mutual
theorem plhMod_congr (m : Nat) (prof : α → Nat → R) (f g : Vec R → Vec R)
    (h : ∀ v x, x < m → (f v).get x = (g v).get x) :
    ∀ (path : List Nat) (t : PTree R α) (x : Nat), x < m →
      (plhMod m prof f path t).get x = (plhMod m prof g path t).get x
  | _, .leaf _ _, x, _ => by simp [plhMod]
  | [], .node _ cs, x, hx => by
    simp only [plhMod]
    exact h _ x hx
  | i :: path, .node _ cs, x, hx => by
    simp only [plhMod]
    exact prodUpMod_congr m prof f g h i path cs x hx
theorem prodUpMod_congr (m : Nat) (prof : α → Nat → R) (f g : Vec R → Vec R)
    (h : ∀ v x, x < m → (f v).get x = (g v).get x) :
    ∀ (i : Nat) (path : List Nat) (cs : List (PTree R α)) (x : Nat), x < m →
      (prodUpMod m prof f i path cs).get x = (prodUpMod m prof g i path cs).get x
  | _, _, [], x, _ => by simp [prodUpMod]
  | 0, path, c :: cs, x, hx => by
    rw [prodUpMod, prodUpMod, upWith_congr m c.mat (plhMod_congr m prof f g h path c)]
  | i + 1, path, c :: cs, x, hx => by
    simp only [prodUpMod, mulVec_get]
    rw [prodUpMod_congr m prof f g h i path cs x hx]
end

/-! ### a family of transformations that sum to `g` on the states `< m`, applied at an existing internal node -/
mutual
theorem plhMod_sum {ι : Type} (m : Nat) (prof : α → Nat → R) (K : Finset ι) (fs : ι → Vec R → Vec R) (g : Vec R → Vec R)
    (h : ∀ v x, x < m → ∑ k ∈ K, (fs k v).get x = (g v).get x) :
    ∀ (path : List Nat) (t : PTree R α), isInternalAt path t = true → ∀ (x : Nat), x < m →
      ∑ k ∈ K, (plhMod m prof (fs k) path t).get x = (plhMod m prof g path t).get x
  | _, .leaf _ _, hv, _, _ => by simp [isInternalAt] at hv
  | [], .node _ cs, _, x, hx => by
    simp only [plhMod]
    exact h _ x hx
  | i :: path, .node _ cs, hv, x, hx => by
    simp only [plhMod]
    exact prodUpMod_sum m prof K fs g h i path cs (by simpa [isInternalAt] using hv) x hx
theorem prodUpMod_sum {ι : Type} (m : Nat) (prof : α → Nat → R) (K : Finset ι) (fs : ι → Vec R → Vec R) (g : Vec R → Vec R)
    (h : ∀ v x, x < m → ∑ k ∈ K, (fs k v).get x = (g v).get x) :
    ∀ (i : Nat) (path : List Nat) (cs : List (PTree R α)), isInternalAtL i path cs = true → ∀ (x : Nat), x < m →
      ∑ k ∈ K, (prodUpMod m prof (fs k) i path cs).get x = (prodUpMod m prof g i path cs).get x
  | _, _, [], hv, _, _ => by simp [isInternalAtL] at hv
  | 0, path, c :: cs, hv, x, hx => by
    simp only [prodUpMod, mulVec_get, upWith_get]
    rw [← Finset.sum_mul]
    congr 1
    rw [Finset.sum_comm]
    refine sum_range_congr fun s' hs' => ?_
    rw [← Finset.mul_sum, plhMod_sum m prof K fs g h path c (by simpa [isInternalAtL] using hv) s' hs']
  | i + 1, path, c :: cs, hv, x, hx => by
    simp only [prodUpMod, mulVec_get]
    rw [← Finset.mul_sum, prodUpMod_sum m prof K fs g h i path cs (by simpa [isInternalAtL] using hv) x hx]
end

/-! ### an extra subtree below the node = multiplying the node's vector by that subtree's contribution -/

mutual
theorem plh_addLeafAt (m : Nat) (prof : α → Nat → R) (l : PTree R α) :
    ∀ (path : List Nat) (t : PTree R α),
      plh m prof (addLeafAt l path t) = plhMod m prof (fun v => mulVec m (up m prof l) v) path t
  | _, .leaf _ _ => by simp [addLeafAt, plhMod, plh]
  | [], .node _ cs => by simp [addLeafAt, plhMod, plh, prodUp, up]
  | i :: path, .node _ cs => by
    rw [addLeafAt, plh_node, plhMod]
    exact prodUp_addLeafAtL m prof l i path cs
theorem prodUp_addLeafAtL (m : Nat) (prof : α → Nat → R) (l : PTree R α) :
    ∀ (i : Nat) (path : List Nat) (cs : List (PTree R α)),
      prodUp m prof (addLeafAtL l i path cs) = prodUpMod m prof (fun v => mulVec m (up m prof l) v) i path cs
  | _, _, [] => by simp [addLeafAtL, prodUpMod, prodUp]
  | 0, path, c :: cs => by
    simp only [addLeafAtL, prodUp, prodUpMod, addLeafAt_mat]
    rw [plh_addLeafAt m prof l path c]
  | i + 1, path, c :: cs => by
    simp only [addLeafAtL, prodUp, prodUpMod]
    rw [prodUp_addLeafAtL m prof l i path cs]
end

/-- an extra subtree `l` below the node at `path`, seen as any transformation `g` of that node's vector that
multiplies it by the contribution of `l` on the states `< m` -/
theorem lh_addLeafAt (m : Nat) (π : Nat → R) (prof : α → Nat → R) (l : PTree R α) (g : Vec R → Vec R)
    (h : ∀ v x, x < m → (up m prof l).get x * v.get x = (g v).get x) (path : List Nat) (t : PTree R α) :
    lh m π prof (addLeafAt l path t) = dot m (plhMod m prof g path t) π := by
  unfold lh
  rw [plh_addLeafAt]
  exact dot_congr m π fun x hx =>
    plhMod_congr m prof _ g (fun v y hy => by rw [mulVec_get, h v y hy]) path t x hx

end semiring

end CogentModel.PruneFixed
