/-  C20 — the two index lists a join selects by.  `inner_join`: the dictionary built from `other`'s key tuples lists the
    row numbers under each key, the probe loop over `self` pairs each row with them, so the pairs come in the nested
    loop's order (`hashJoinSel_zipWith`).  `cross_join`: all pairs. -/
import CogentModel.Proofs.TableRowsOf
namespace CogentModel.TableOps

/-! ### hash join -/
section HashJoin
variable {κ : Type} [DecidableEq κ]

def lookupD (k : κ) (idx : List (κ × List Nat)) : List Nat := (lookup k idx).getD []

theorem lookupD_indexInsert (k x : κ) (j : Nat) (idx : List (κ × List Nat)) :
    lookupD k (indexInsert x j idx) = lookupD k idx ++ (if k = x then [j] else []) := by
  induction idx with
  | nil =>
    by_cases h : k = x
    · subst h; simp [indexInsert, lookupD, lookup]
    · simp [indexInsert, lookupD, lookup, h, Ne.symm h]
  | cons e rest ih =>
    obtain ⟨k', js⟩ := e
    unfold lookupD at ih ⊢
    by_cases h1 : k' = x
    · subst h1
      by_cases h2 : k' = k
      · subst h2; simp [indexInsert, lookup]
      · simp [indexInsert, lookup, h2, Ne.symm h2]
    · by_cases h2 : k' = k
      · subst h2; simp [indexInsert, lookup, h1]
      · simp [indexInsert, lookup, h1, h2, ih]

/-- the dictionary built from the key tuples of `other` (row `j` carries `K j`) lists, under each key, the numbers of
the rows that carry it -/
theorem lookupD_buildIndexFrom (k : κ) (K : Nat → κ) (m start : Nat) (idx : List (κ × List Nat)) :
    lookupD k (buildIndexFrom start idx ((List.range' start m).map K))
      = lookupD k idx ++ (List.range' start m).filterMap fun j => if k = K j then some j else none := by
  induction m generalizing start idx with
  | zero => simp [buildIndexFrom]
  | succ m ih =>
    rw [List.range'_succ, List.map_cons, buildIndexFrom, ih, lookupD_indexInsert, List.filterMap_cons, List.append_assoc]
    split <;> rfl

theorem probeFrom_cons (idx : List (κ × List Nat)) (start : Nat) (k : κ) (ks : List κ) :
    probeFrom idx start (k :: ks) =
      (List.replicate (lookupD k idx).length start ++ (probeFrom idx (start + 1) ks).1,
       lookupD k idx ++ (probeFrom idx (start + 1) ks).2) := by
  simp only [probeFrom, lookupD]
  cases lookup k idx <;> simp

theorem probeFrom_length (idx : List (κ × List Nat)) (start : Nat) (ks : List κ) :
    (probeFrom idx start ks).1.length = (probeFrom idx start ks).2.length := by
  induction ks generalizing start with
  | nil => simp [probeFrom]
  | cons k ks ih => rw [probeFrom_cons]; simp [ih]

theorem hashJoinSel_length (ks ko : List κ) : (hashJoinSel ks ko).1.length = (hashJoinSel ks ko).2.length :=
  probeFrom_length _ _ _

/-- selecting by the two index lists of the probe loop visits, for every row `i` of `self` in turn, the rows the
dictionary lists under its key -/
theorem probeFrom_zipWith {τ : Type} (f : Nat → Nat → τ) (idx : List (κ × List Nat)) (K : Nat → κ) (n start : Nat) :
    List.zipWith f (probeFrom idx start ((List.range' start n).map K)).1
        (probeFrom idx start ((List.range' start n).map K)).2
      = (List.range' start n).flatMap fun i => (lookupD (K i) idx).map (f i) := by
  induction n generalizing start with
  | zero => rfl
  | succ n ih =>
    rw [List.range'_succ, List.map_cons, probeFrom_cons, List.zipWith_append (List.length_replicate ..),
      zipWith_replicate_left, ih, List.flatMap_cons]

/-- **the hash join visits exactly the pairs of row numbers with equal keys, in the nested loop's order**: row `i` of
`self` carries key `K i`, row `j` of `other` key `K' j`, and `f i j` is whatever is selected by the pair -/
theorem hashJoinSel_zipWith {τ : Type} (f : Nat → Nat → τ) (K K' : Nat → κ) (n m : Nat) :
    List.zipWith f (hashJoinSel ((List.range n).map K) ((List.range m).map K')).1
        (hashJoinSel ((List.range n).map K) ((List.range m).map K')).2
      = (List.range n).flatMap fun i => (List.range m).filterMap fun j => if K i = K' j then some (f i j) else none := by
  unfold hashJoinSel
  rw [List.range_eq_range', List.range_eq_range', probeFrom_zipWith]
  congr 1
  funext i
  rw [lookupD_buildIndexFrom, List.map_append, List.map_filterMap]
  refine congrArg (List.filterMap · _) (funext fun j => ?_)
  split <;> rfl

end HashJoin

/-! ### cross join -/

theorem crossSel_zipWith {δ : Type} (f : Nat → Nat → δ) (l : List Nat) (m : Nat) :
    List.zipWith f (l.flatMap (fun i => List.replicate m i)) (l.flatMap (fun _ => List.range m))
      = l.flatMap (fun i => (List.range m).map (f i)) := by
  induction l with
  | nil => simp
  | cons i l ih =>
    simp only [List.flatMap_cons]
    rw [List.zipWith_append (by simp), ih]
    congr 1
    have := zipWith_replicate_left f i (List.range m)
    simpa using this

theorem crossSel_length (n m : Nat) : (crossSel n m).1.length = (crossSel n m).2.length := by
  simp [crossSel, List.length_flatMap]

end CogentModel.TableOps
