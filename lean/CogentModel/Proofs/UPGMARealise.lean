import CogentModel.Model.UPGMA
import CogentModel.Proofs.NJRealise
import Mathlib.Order.Lattice
/-! UPGMA on an ultrametric: a globally minimal pair has equal rows (`min_pair_rows_equal`), so the row average of
`condense_matrix` is exact and a clustering pass keeps the realisation invariant `UInv`. -/
namespace CogentModel.UPGMA
open CogentModel.NJ (Mat get tab get_tab)
open CogentModel.ListGetD

/-- three-point (ultrametric) condition on the live indices -/
def Ultra (S : Nat → Prop) (d : Nat → Nat → Rat) : Prop :=
  ∀ x y z, S x → S y → S z → x ≠ y → y ≠ z → x ≠ z → d x z ≤ max (d x y) (d y z)

theorem min_pair_rows_equal (S : Nat → Prop) (d : Nat → Nat → Rat) (i j : Nat)
    (hsym : ∀ a b, S a → S b → d a b = d b a) (hu : Ultra S d) (hi : S i) (hj : S j)
    (hij : i ≠ j) (hmin : ∀ a b, S a → S b → a ≠ b → d i j ≤ d a b) (k : Nat) (hk : S k) (hki : k ≠ i) (hkj : k ≠ j) :
    d i k = d j k := by
  have h1 : d i k ≤ d j k := by
    have := hu i j k hi hj hk hij (Ne.symm hkj) (Ne.symm hki)
    have hm := hmin j k hj hk (Ne.symm hkj)
    rw [max_eq_right hm] at this; exact this
  have h2 : d j k ≤ d i k := by
    have := hu j i k hj hi hk (Ne.symm hij) (Ne.symm hki) (Ne.symm hkj)
    have hm := hmin i k hi hk (Ne.symm hki)
    rw [hsym j i hj hi, max_eq_right hm] at this; exact this
  exact le_antisymm h1 h2

/-- all tip pairs inside the subtree have path length `D` -/
def UReal (D : Nat → Nat → Rat) : U → Prop
  | .tip _ => True
  | .node c1 l1 c2 l2 => UReal D c1 ∧ UReal D c2 ∧
      ∀ p ∈ c1.depths, ∀ q ∈ c2.depths, D p.1 q.1 = p.2 + l1 + l2 + q.2

def NonNeg : U → Prop
  | .tip _ => True
  | .node c1 l1 c2 l2 => NonNeg c1 ∧ NonNeg c2 ∧ 0 ≤ l1 ∧ 0 ≤ l2

def Live (order : List (Option Entry)) (a : Nat) : Prop := ∃ e, order.getD a none = some e

/-- the clustering state realises `D`: every live node is an ultrametric subtree of the right height
realising `D` inside, different live nodes are at matrix distance, the live part of the matrix is symmetric,
ultrametric and not below twice any node height -/
structure UInv (D : Nat → Nat → Rat) (n : Nat) (m : Mat) (order : List (Option Entry)) : Prop where
  len : order.length = n
  sym : ∀ a b, Live order a → Live order b → get m a b = get m b a
  ultra : Ultra (Live order) (get m)
  node : ∀ a e, order.getD a none = some e →
    (∀ p ∈ e.tree.depths, p.2 = e.height) ∧ UReal D e.tree ∧ NonNeg e.tree ∧ (e.isTip = true → e.height = 0)
  cross : ∀ a b ea eb, a ≠ b → order.getD a none = some ea → order.getD b none = some eb →
    ∀ p ∈ ea.tree.depths, ∀ q ∈ eb.tree.depths, D p.1 q.1 = get m a b
  low : ∀ a b ea, a ≠ b → order.getD a none = some ea → Live order b → 2 * ea.height ≤ get m a b

theorem live_lt {order : List (Option Entry)} {a : Nat} (h : Live order a) : a < order.length := by
  obtain ⟨e, he⟩ := h
  by_contra hlt
  rw [List.getD_eq_getElem?_getD, List.getElem?_eq_none (by omega)] at he
  simp at he

theorem udepths_node (c1 c2 : U) (l1 l2 : Rat) (p : Nat × Rat) (hp : p ∈ (U.node c1 l1 c2 l2).depths) :
    (∃ p0 ∈ c1.depths, p = (p0.1, p0.2 + l1)) ∨ (∃ p0 ∈ c2.depths, p = (p0.1, p0.2 + l2)) := by
  simp only [U.depths, List.mem_append, List.mem_map] at hp
  rcases hp with ⟨p0, h0, rfl⟩ | ⟨p0, h0, rfl⟩
  · exact Or.inl ⟨p0, h0, rfl⟩
  · exact Or.inr ⟨p0, h0, rfl⟩

theorem branch_add (e : Entry) (d : Rat) (h : e.isTip = true → e.height = 0) : e.height + branch e d = d := by
  unfold branch
  by_cases ht : e.isTip = true
  · rw [if_pos ht, h ht]; ring
  · rw [if_neg ht]; ring

theorem branch_nonneg (e : Entry) (d : Rat) (h : e.isTip = true → e.height = 0) (hd : e.height ≤ d) : 0 ≤ branch e d := by
  have := branch_add e d h
  linarith

/-- the entry `condense_node_order` stores for the clusters `ei`, `ej` joined at matrix distance `get m i j` -/
def merged (m : Mat) (i j : Nat) (ei ej : Entry) : Entry :=
  { tree := .node ei.tree (branch ei (get m i j / 2)) ej.tree (branch ej (get m i j / 2)),
    isTip := false, height := get m i j / 2 }

/-- the node list after merging the live clusters `i`, `j` -/
theorem stepWith_order (n : Nat) (big : Rat) (m : Mat) (order : List (Option Entry)) (i j : Nat) (ei ej : Entry)
    (hei : order.getD i none = some ei) (hej : order.getD j none = some ej) (a : Nat) :
    (stepWith n big order m (i, j)).order.getD a none
      = if a = j then none else if a = i then some (merged m i j ei ej) else order.getD a none := by
  show (condenseNodes m i j order).getD a none = _
  unfold condenseNodes
  rw [getD_set_set, hei, hej]
  simp only [live_lt ⟨ei, hei⟩, and_true]
  rfl

/-- a live entry after the merge is the merged entry at `i` or an old entry elsewhere, never at `j` -/
theorem stepWith_entry (n : Nat) (big : Rat) (m : Mat) (order : List (Option Entry)) (i j : Nat) (ei ej : Entry)
    (hei : order.getD i none = some ei) (hej : order.getD j none = some ej) (a : Nat) (e : Entry)
    (h : (stepWith n big order m (i, j)).order.getD a none = some e) :
    a ≠ j ∧ (a = i ∧ e = merged m i j ei ej ∨ a ≠ i ∧ order.getD a none = some e) := by
  rw [stepWith_order n big m order i j ei ej hei hej a] at h
  by_cases haj : a = j
  · rw [if_pos haj] at h; cases h
  rw [if_neg haj] at h
  by_cases hai : a = i
  · rw [if_pos hai] at h; cases h; exact ⟨haj, Or.inl ⟨hai, rfl⟩⟩
  · rw [if_neg hai] at h; exact ⟨haj, Or.inr ⟨hai, h⟩⟩

theorem stepWith_live (n : Nat) (big : Rat) (m : Mat) (order : List (Option Entry)) (i j : Nat)
    (hi : Live order i) (hj : Live order j) (a : Nat) :
    Live (stepWith n big order m (i, j)).order a ↔ a ≠ j ∧ Live order a := by
  obtain ⟨ei, hei⟩ := hi
  obtain ⟨ej, hej⟩ := hj
  unfold Live
  rw [stepWith_order n big m order i j ei ej hei hej a]
  by_cases haj : a = j
  · rw [if_pos haj]; exact ⟨fun ⟨_, h⟩ => (nomatch h), fun h => absurd haj h.1⟩
  rw [if_neg haj]
  by_cases hai : a = i
  · rw [if_pos hai, hai]; exact ⟨fun _ => ⟨hai ▸ haj, ei, hei⟩, fun _ => ⟨_, rfl⟩⟩
  · rw [if_neg hai]; exact ⟨fun h => ⟨haj, h⟩, fun h => h.2⟩

theorem stepWith_get (n : Nat) (big : Rat) (m : Mat) (order : List (Option Entry)) (i j a b : Nat)
    (ha : a < n) (hb : b < n) :
    get (stepWith n big order m (i, j)).m a b =
      if a = j ∨ b = j then big else if a = i then newVec m i j b else if b = i then newVec m i j a else get m a b :=
  get_tab ha hb

theorem stepWith_length (n : Nat) (big : Rat) (m : Mat) (order : List (Option Entry)) (s : Nat × Nat) :
    (stepWith n big order m s).order.length = order.length := by
  simp [stepWith, condenseNodes]

theorem uinv_congr (D : Nat → Nat → Rat) (n : Nat) (m m1 : Mat) (order : List (Option Entry))
    (h : ∀ a b, Live order a → Live order b → a ≠ b → get m1 a b = get m a b) (hI : UInv D n m order) :
    UInv D n m1 order := by
  refine ⟨hI.len, ?_, ?_, hI.node, ?_, ?_⟩
  · intro a b ha hb
    by_cases hab : a = b
    · rw [hab]
    · rw [h a b ha hb hab, h b a hb ha (Ne.symm hab)]; exact hI.sym a b ha hb
  · intro x y z hx hy hz hxy hyz hxz
    rw [h x z hx hz hxz, h x y hx hy hxy, h y z hy hz hyz]
    exact hI.ultra x y z hx hy hz hxy hyz hxz
  · intro a b ea eb hab hea heb p hp q hq
    rw [h a b ⟨ea, hea⟩ ⟨eb, heb⟩ hab]; exact hI.cross a b ea eb hab hea heb p hp q hq
  · intro a b ea hab hea hb
    rw [h a b ⟨ea, hea⟩ hb hab]; exact hI.low a b ea hab hea hb

theorem stepWith_inv (D : Nat → Nat → Rat) (n : Nat) (big : Rat) (m : Mat) (order : List (Option Entry))
    (i j : Nat) (hI : UInv D n m order) (hi : Live order i) (hj : Live order j) (hij : i ≠ j)
    (hmin : ∀ a b, Live order a → Live order b → a ≠ b → get m i j ≤ get m a b) :
    UInv D n (stepWith n big order m (i, j)).m (stepWith n big order m (i, j)).order := by
  have hlive := fun a => (stepWith_live n big m order i j hi hj a).1
  have hrows : ∀ k, Live order k → k ≠ i → k ≠ j → get m i k = get m j k :=
    fun k hk hki hkj => min_pair_rows_equal (Live order) (get m) i j hI.sym hI.ultra hi hj hij hmin k hk hki hkj
  have ⟨ei, hei⟩ := hi
  have ⟨ej, hej⟩ := hj
  obtain ⟨hdi, hri, hni, hti⟩ := hI.node i ei hei
  obtain ⟨hdj, hrj, hnj, htj⟩ := hI.node j ej hej
  let d : Rat := get m i j / 2
  let new : Entry := merged m i j ei ej
  have hent := stepWith_entry n big m order i j ei ej hei hej
  -- between clusters that stay live the matrix does not change: rows `i` and `j` agreed, so their average is exact
  have hmat : ∀ a b, Live (stepWith n big order m (i, j)).order a → Live (stepWith n big order m (i, j)).order b →
      a ≠ b → get (stepWith n big order m (i, j)).m a b = get m a b := by
    intro a b ha' hb' hab
    obtain ⟨haj, ha⟩ := hlive a ha'
    obtain ⟨hbj, hb⟩ := hlive b hb'
    rw [stepWith_get n big m order i j a b (hI.len ▸ live_lt ha) (hI.len ▸ live_lt hb),
      if_neg (not_or.2 ⟨haj, hbj⟩)]
    by_cases hai : a = i
    · rw [if_pos hai]; unfold newVec
      rw [← hrows b hb (fun e => hab (hai.trans e.symm)) hbj, hai]; ring
    · rw [if_neg hai]
      by_cases hbi : b = i
      · rw [if_pos hbi]; unfold newVec
        rw [← hrows a ha hai haj, hbi, hI.sym a i ha hi]; ring
      · rw [if_neg hbi]
  have h2d : 2 * d = get m i j := by show 2 * (get m i j / 2) = _; ring
  have half : ∀ h : Rat, 2 * h ≤ get m i j → h ≤ d := fun h hx => (le_div_iff₀ two_pos).2 (by rwa [mul_comm])
  have hdi_le : ei.height ≤ d := half _ (hI.low i j ei hij hei hj)
  have hdj_le : ej.height ≤ d := half _ (hI.sym j i hj hi ▸ hI.low j i ej (Ne.symm hij) hej hi)
  have hnewdepth : ∀ p ∈ new.tree.depths, p.2 = d := by
    intro p hp
    rcases udepths_node _ _ _ _ p hp with ⟨p0, h0, rfl⟩ | ⟨p0, h0, rfl⟩
    · show p0.2 + branch ei d = d
      rw [hdi p0 h0]; exact branch_add ei d hti
    · show p0.2 + branch ej d = d
      rw [hdj p0 h0]; exact branch_add ej d htj
  have hnewreal : UReal D new.tree := by
    refine ⟨hri, hrj, ?_⟩
    intro p hp q hq
    rw [hI.cross i j ei ej hij hei hej p hp q hq, hdi p hp, hdj q hq]
    show get m i j = ei.height + branch ei d + branch ej d + ej.height
    rw [branch_add ei d hti, add_assoc, add_comm (branch ej d), branch_add ej d htj, ← h2d, two_mul]
  have hnewnn : NonNeg new.tree :=
    ⟨hni, hnj, branch_nonneg ei d hti hdi_le, branch_nonneg ej d htj hdj_le⟩
  have hnewcross : ∀ b eb, b ≠ i → b ≠ j → order.getD b none = some eb →
      ∀ p ∈ new.tree.depths, ∀ q ∈ eb.tree.depths, D p.1 q.1 = get m i b := by
    intro b eb hbi hbj heb p hp q hq
    rcases udepths_node _ _ _ _ p hp with ⟨p0, h0, rfl⟩ | ⟨p0, h0, rfl⟩
    · exact hI.cross i b ei eb (Ne.symm hbi) hei heb p0 h0 q hq
    · show D p0.1 q.1 = get m i b
      rw [hI.cross j b ej eb (Ne.symm hbj) hej heb p0 h0 q hq, hrows b ⟨eb, heb⟩ hbi hbj]
  -- so it is enough to check the new node list against the old matrix
  refine uinv_congr D n m _ _ hmat ⟨by rw [stepWith_length, hI.len],
    fun a b ha hb => hI.sym a b (hlive a ha).2 (hlive b hb).2,
    fun x y z hx hy hz => hI.ultra x y z (hlive x hx).2 (hlive y hy).2 (hlive z hz).2, ?_, ?_, ?_⟩
  · intro a e he
    obtain ⟨_, ⟨_, rfl⟩ | ⟨_, he⟩⟩ := hent a e he
    · exact ⟨hnewdepth, hnewreal, hnewnn, fun h => by cases h⟩
    · exact hI.node a e he
  · intro a b ea eb hab hea heb p hp q hq
    obtain ⟨haj, ha'⟩ := hlive a ⟨ea, hea⟩
    obtain ⟨hbj, hb'⟩ := hlive b ⟨eb, heb⟩
    obtain ⟨_, ⟨hai, rfl⟩ | ⟨hai, hea⟩⟩ := hent a ea hea <;> obtain ⟨_, ⟨hbi, rfl⟩ | ⟨hbi, heb⟩⟩ := hent b eb heb
    · exact absurd (hai.trans hbi.symm) hab
    · rw [hai]; exact hnewcross b eb hbi hbj heb p hp q hq
    · rw [hbi, hI.sym a i ha' hi]
      rcases udepths_node _ _ _ _ q hq with ⟨q0, h0, rfl⟩ | ⟨q0, h0, rfl⟩
      · show D p.1 q0.1 = get m i a
        rw [hI.cross a i ea ei hai hea hei p hp q0 h0, hI.sym a i ha' hi]
      · show D p.1 q0.1 = get m i a
        rw [hI.cross a j ea ej haj hea hej p hp q0 h0, hI.sym a j ha' hj, hrows a ha' hai haj]
    · exact hI.cross a b ea eb hab hea heb p hp q hq
  · intro a b ea hab hea hb
    obtain ⟨hbj, hb'⟩ := hlive b hb
    obtain ⟨_, ⟨hai, rfl⟩ | ⟨_, hea⟩⟩ := hent a ea hea
    · show 2 * d ≤ get m a b
      rw [h2d, hai]
      exact hmin i b hi hb' (hai ▸ hab)
    · exact hI.low a b ea hab hea hb'

theorem select_offdiag (n : Nat) (big : Rat) (m : Mat) (a b : Nat) (ha : a < n) (hb : b < n) (hab : a ≠ b) :
    get (select n big m).1 a b = get m a b := by
  unfold select
  by_cases h : (findSmallest m n).1 = (findSmallest m n).2
  · rw [if_pos h]
    show get (resetDiag m n big) a b = _
    unfold resetDiag
    rw [get_tab ha hb, if_neg hab]
  · rw [if_neg h]

/-- the pair chosen by `find_smallest_index` (after the possible diagonal reset) is a pair of distinct live
clusters at globally minimal distance among live clusters -/
def GoodSel (n : Nat) (big : Rat) (st : State) : Prop :=
  Live st.order (select n big st.m).2.1 ∧ Live st.order (select n big st.m).2.2 ∧
  (select n big st.m).2.1 ≠ (select n big st.m).2.2 ∧
  ∀ a b, Live st.order a → Live st.order b → a ≠ b →
    get (select n big st.m).1 (select n big st.m).2.1 (select n big st.m).2.2 ≤ get (select n big st.m).1 a b

theorem step_inv (D : Nat → Nat → Rat) (n : Nat) (big : Rat) (st : State) (hI : UInv D n st.m st.order)
    (hg : GoodSel n big st) : UInv D n (step n big st).m (step n big st).order := by
  obtain ⟨h1, h2, h3, h4⟩ := hg
  have hI1 : UInv D n (select n big st.m).1 st.order :=
    uinv_congr D n st.m _ st.order
      (fun a b ha hb hab => select_offdiag n big st.m a b (hI.len ▸ live_lt ha) (hI.len ▸ live_lt hb) hab) hI
  exact stepWith_inv D n big _ st.order _ _ hI1 h1 h2 h3 h4

theorem iter_succ (n : Nat) (big : Rat) (t : Nat) (st : State) :
    iter n big (t + 1) st = step n big (iter n big t st) := by
  induction t generalizing st with
  | zero => rfl
  | succ t ih => exact ih (step n big st)

theorem iter_inv (D : Nat → Nat → Rat) (n : Nat) (big : Rat) (k : Nat) (st : State)
    (hI : UInv D n st.m st.order) (hg : ∀ t, t < k → GoodSel n big (iter n big t st)) :
    UInv D n (iter n big k st).m (iter n big k st).order := by
  induction k with
  | zero => exact hI
  | succ k ih =>
    rw [iter_succ]
    exact step_inv D n big _ (ih fun t ht => hg t (by omega)) (hg k (by omega))

/-- the tree handed back by a pass is the merged cluster, a live node of the new state -/
theorem step_tree (n : Nat) (big : Rat) (st : State) (hg : GoodSel n big st) :
    ∃ a e, (step n big st).tree = some e ∧ (step n big st).order.getD a none = some e := by
  obtain ⟨⟨ei, hei⟩, ⟨ej, hej⟩, hij, _⟩ := hg
  have h := (stepWith_order n big (select n big st.m).1 st.order _ _ ei ej hei hej _).trans
    ((if_neg hij).trans (if_pos rfl))
  exact ⟨_, _, h, h⟩

theorem upgma_eq (n : Nat) (d : Mat) (big : Rat) :
    upgma n d big = ((iter n big (n - 1) (init n d big)).tree).map (·.tree) := rfl

theorem init_order (n : Nat) (d : Mat) (big : Rat) (a : Nat) :
    (init n d big).order.getD a none
      = if a < n then some ({ tree := .tip a, isTip := true, height := 0 } : Entry) else none :=
  getD_map_range _ n a none

theorem init_live {n : Nat} {d : Mat} {big : Rat} {a : Nat} : Live (init n d big).order a ↔ a < n := by
  unfold Live
  rw [init_order]
  by_cases h : a < n
  · rw [if_pos h]; exact ⟨fun _ => h, fun _ => ⟨_, rfl⟩⟩
  · rw [if_neg h]; exact ⟨fun ⟨_, he⟩ => (nomatch he), fun h' => absurd h' h⟩

theorem init_get (D : Nat → Nat → Rat) (n : Nat) (big : Rat) (a b : Nat) (ha : a < n) (hb : b < n) (hab : a ≠ b) :
    get (init n (tab n D) big).m a b = D a b := by
  show get (tab n _) a b = _
  rw [get_tab ha hb, if_neg hab, get_tab ha hb]

theorem init_inv (D : Nat → Nat → Rat) (n : Nat) (big : Rat)
    (hDs : ∀ a b, D a b = D b a) (hDn : ∀ a b, 0 ≤ D a b)
    (hDu : ∀ x y z, x < n → y < n → z < n → x ≠ y → y ≠ z → x ≠ z → D x z ≤ max (D x y) (D y z)) :
    UInv D n (init n (tab n D) big).m (init n (tab n D) big).order := by
  have hlive : ∀ a, Live (init n (tab n D) big).order a → a < n := fun a => init_live.1
  have hm := init_get D n big
  have hent : ∀ a e, (init n (tab n D) big).order.getD a none = some e →
      a < n ∧ e = { tree := .tip a, isTip := true, height := 0 } := by
    intro a e he
    rw [init_order] at he
    by_cases h : a < n
    · rw [if_pos h] at he; cases he; exact ⟨h, rfl⟩
    · rw [if_neg h] at he; cases he
  refine ⟨by simp [init], ?_, ?_, ?_, ?_, ?_⟩
  · intro a b ha hb
    by_cases hab : a = b
    · rw [hab]
    · rw [hm a b (hlive a ha) (hlive b hb) hab, hm b a (hlive b hb) (hlive a ha) (Ne.symm hab), hDs]
  · intro x y z hx hy hz hxy hyz hxz
    rw [hm x z (hlive x hx) (hlive z hz) hxz, hm x y (hlive x hx) (hlive y hy) hxy, hm y z (hlive y hy) (hlive z hz) hyz]
    exact hDu x y z (hlive x hx) (hlive y hy) (hlive z hz) hxy hyz hxz
  · intro a e he
    obtain ⟨_, rfl⟩ := hent a e he
    refine ⟨?_, trivial, trivial, fun _ => rfl⟩
    intro p hp
    simp only [U.depths, List.mem_singleton] at hp
    rw [hp]
  · intro a b ea eb hab hea heb p hp q hq
    obtain ⟨ha, rfl⟩ := hent a ea hea
    obtain ⟨hb, rfl⟩ := hent b eb heb
    simp only [U.depths, List.mem_singleton] at hp hq
    rw [hp, hq, hm a b ha hb hab]
  · intro a b ea hab hea hb
    obtain ⟨ha, rfl⟩ := hent a ea hea
    rw [hm a b ha (hlive b hb) hab]
    exact (mul_zero (2 : Rat)).le.trans (hDn a b)

/-- if every pass selects a live minimal pair, `upgma` returns the tree of a live entry of the final state: an
equal-depth subtree realising `D` with non-negative lengths -/
theorem upgma_result (D : Nat → Nat → Rat) (n : Nat) (hn : 2 ≤ n) (big : Rat)
    (hDs : ∀ a b, D a b = D b a) (hDn : ∀ a b, 0 ≤ D a b)
    (hDu : ∀ x y z, x < n → y < n → z < n → x ≠ y → y ≠ z → x ≠ z → D x z ≤ max (D x y) (D y z))
    (hg : ∀ t, t < n - 1 → GoodSel n big (iter n big t (init n (tab n D) big))) :
    ∃ a e, upgma n (tab n D) big = some e.tree ∧
      (iter n big (n - 1) (init n (tab n D) big)).order.getD a none = some e ∧
      (∀ p ∈ e.tree.depths, p.2 = e.height) ∧ UReal D e.tree ∧ NonNeg e.tree := by
  have hI0 := init_inv D n big hDs hDn hDu
  obtain ⟨k, hk⟩ : ∃ k, n - 1 = k + 1 := ⟨n - 2, by omega⟩
  rw [upgma_eq, hk]
  rw [hk] at hg
  have hI := iter_inv D n big (k + 1) _ hI0 hg
  rw [iter_succ] at hI ⊢
  obtain ⟨a, e, he1, he2⟩ := step_tree n big _ (hg k (by omega))
  obtain ⟨hd, hr, hnn, _⟩ := hI.node a e he2
  exact ⟨a, e, by rw [he1]; rfl, he2, hd, hr, hnn⟩

theorem liveB_iff {order : List (Option Entry)} {a : Nat} : liveB order a = true ↔ Live order a := by
  unfold liveB Live
  cases h : order.getD a none with
  | none => simp
  | some e => simp

theorem goodSelB_sound (n : Nat) (big : Rat) (st : State) (hlen : st.order.length = n)
    (h : goodSelB n big st = true) : GoodSel n big st := by
  unfold goodSelB at h
  simp only [Bool.and_eq_true, Bool.or_eq_true, Bool.not_eq_true', decide_eq_true_eq, List.all_eq_true,
    List.mem_range] at h
  obtain ⟨⟨⟨h1, h2⟩, h3⟩, h4⟩ := h
  refine ⟨liveB_iff.1 h1, liveB_iff.1 h2, h3, ?_⟩
  intro a b ha hb hab
  have han : a < n := hlen ▸ live_lt ha
  have hbn : b < n := hlen ▸ live_lt hb
  rcases h4 a han b hbn with h | h
  · have : (liveB st.order a && liveB st.order b && decide (a ≠ b)) = true := by
      simp [liveB_iff.2 ha, liveB_iff.2 hb, hab]
    rw [this] at h; cases h
  · exact h

theorem allGood_sound (n : Nat) (big : Rat) (k : Nat) (st : State)
    (hlen : st.order.length = n) (h : allGood n big k st = true) :
    ∀ t, t < k → GoodSel n big (iter n big t st) := by
  induction k generalizing st with
  | zero => intro t ht; omega
  | succ k ih =>
    unfold allGood at h
    rw [Bool.and_eq_true] at h
    intro t ht
    cases t with
    | zero => exact goodSelB_sound n big st hlen h.1
    | succ t => exact ih (step n big st) ((stepWith_length n big _ _ _).trans hlen) h.2 t (by omega)

end CogentModel.UPGMA
