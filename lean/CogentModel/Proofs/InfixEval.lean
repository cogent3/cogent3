/- C10: a substring test for evaluation by the kernel, proved equal to the model's `isInfix`: it looks for a key only where
   its first character, or a prefix it shares with most other keys, stands in the type string.  The table facts of
   Props/C10Registry are decided through it, and stand here: the translated registry shadows none of its keys
   (`table_noShadow`); what the candidates of every emitted type string look like (`emitted_candidates`). -/
import CogentModel.Proofs.RegistryMatch
namespace CogentModel.Registry
open CogentModel.Gen.C10Registry (table emitted dispatch)

/-- the tails of `t` that follow an occurrence of the character `a` -/
def after (a : Char) : Str → List Str
  | [] => []
  | c :: t => if a == c then t :: after a t else after a t

/-- `isInfix`, looking only where the first character of the key stands.  Evaluated over a whole table the kernel computes
    `after a t` once for all keys that begin with `a`; with `isInfix` every key walks through all of `t` again. -/
def occurs : Str → Str → Bool
  | [], _ => true
  | a :: k, t => (after a t).any (isPrefix k)

theorem occurs_eq_isInfix (k t : Str) : occurs k t = isInfix k t := by
  cases k with
  | nil => induction t <;> simp [occurs, isInfix, isPrefix]
  | cons a k =>
    induction t with
    | nil => simp [occurs, after, isInfix, isPrefix]
    | cons c t ih =>
      simp only [occurs] at ih
      cases h : a == c <;> simp [occurs, after, isInfix, isPrefix, h, ih]

/-- the rest of `s` after the prefix `p`, if `s` begins with `p` -/
def strip : Str → Str → Option Str
  | [], s => some s
  | _ :: _, [] => none
  | a :: p, b :: s => if a == b then strip p s else none

theorem strip_eq_some {p s r : Str} (h : strip p s = some r) : s = p ++ r := by
  induction p generalizing s with
  | nil => simpa [strip, eq_comm] using h
  | cons a p ih =>
    cases s with
    | nil => simp [strip] at h
    | cons b s =>
      simp only [strip] at h
      split at h
      · rename_i hab; rw [ih h, eq_of_beq hab]; rfl
      · cases h

theorem isPrefix_append (p k s : Str) : isPrefix (p ++ k) s = (strip p s).any (isPrefix k) := by
  induction p generalizing s with
  | nil => simp [strip]
  | cons a p ih =>
    cases s with
    | nil => simp [strip, isPrefix]
    | cons b s => cases h : a == b <;> simp [strip, isPrefix, h, ih]

/-- the places of `t` just after an occurrence of `p` (none for the empty `p`, which `occursVia` does not use) -/
def placesAfter : Str → Str → List Str
  | [], _ => []
  | a :: p, t => (after a t).filterMap (strip p)

/-- `isInfix k t`, given `occ = placesAfter p t`: a key that begins with `p` is compared only where `p` ends in `t`.
    Over a table most of whose keys begin with `p`, the occurrences of `p` in `t` are found once and each key is
    stripped once, whatever the number of type strings. -/
def occursVia (p : Str) (occ : List Str) (k t : Str) : Bool :=
  match p, strip p k with
  | _ :: _, some k' => occ.any (isPrefix k')
  | _, _ => occurs k t

theorem occursVia_eq_isInfix (p k t : Str) : occursVia p (placesAfter p t) k t = isInfix k t := by
  unfold occursVia
  split
  · rename_i a p k' h
    rw [strip_eq_some h, ← occurs_eq_isInfix]
    simp only [List.cons_append, occurs, placesAfter, List.any_filterMap]
    congr 1
    funext s
    rw [isPrefix_append]
    cases strip p s <;> rfl
  · exact occurs_eq_isInfix k t

theorem matching_eq_filter_via (p : Str) (tbl : List Entry) (t : Str) :
    matching tbl t = tbl.filter (fun e => occursVia p (placesAfter p t) e.key t) := by
  simp only [matching, occursVia_eq_isInfix]

/-- the translated registry shadows none of its keys (a finite table, decided by the kernel) -/
theorem table_noShadow : NoShadow table := by
  simp only [NoShadow, ← occursVia_eq_isInfix "cogent3.".toList]
  decide +kernel

/-- the candidates of every emitted type string: the keys that occur in one occur at its front (all keys but one lie under the
    package name) and were registered by one module; and no key occurs exactly for these classes.  Two facts in one declaration,
    because both read the candidates of all the emitted type strings off the table, and within one declaration the kernel finds
    them once. -/
theorem emitted_candidates :
    (∀ e ∈ emitted, (matching table e.typeStr).all (fun x => isPrefix x.key e.typeStr) = true
      ∧ oneModuleB table e.typeStr = true) ∧
    (emitted.filter (fun e => (dispatch table e.typeStr).isNone)).map (·.cls) =
      ["cogent3.core.annotation_db.SqliteAnnotationDbMixin", "cogent3.core.location.Map", "cogent3.core.location.Span", "cogent3.core.location.TerminalPadding",
       "cogent3.core.location._LostSpan", "cogent3.core.new_alignment.SeqDataView", "cogent3.core.new_sequence.SeqView",
       "cogent3.draw.dendrogram.AngularTreeGeometry", "cogent3.draw.dendrogram.CircularTreeGeometry",
       "cogent3.draw.dendrogram.RadialTreeGeometry", "cogent3.draw.dendrogram.SquareTreeGeometry",
       "cogent3.draw.dendrogram.TreeGeometryBase", "cogent3.evolve.likelihood_function.LikelihoodFunction",
       "cogent3.evolve.solved_models.PredefinedNucleotide", "cogent3.parse.ncbi_taxonomy.NcbiTaxonNode",
       "cogent3.util.table.Columns"] := by
  simp only [oneModuleB, dispatch_eq_head_matching, matching_eq_filter_via "cogent3.".toList]
  decide +kernel

end CogentModel.Registry
