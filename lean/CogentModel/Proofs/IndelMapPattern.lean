import CogentModel.Proofs.IndelMapInv
/-! The gap pattern of `abs` is a run-length reading (`patG`) of the gap list `zip gapPos (gapLengths cumLens)`, and a
well-formed map is determined by its pattern (`abs_eq_ofPattern`): every operation is specified on patterns.  Arrays
built by `mkLengths` from increasing positions and positive lengths are well formed and show exactly these gaps
(`ofLengths_spec`). -/
namespace CogentModel.IndelMap
open CogentModel.Gapped List

theorem ofPatternFrom_length (s : List Bool) : ∀ k, (ofPatternFrom k s).length = s.length := by
  induction s with
  | nil => intro k; rfl
  | cons b r ih => intro k; cases b <;> simp [ofPatternFrom, ih]

theorem pattern_seg (a b : Int) : pattern (seg a b) = replicate (b - a).toNat false := by
  simp [pattern, seg, Function.comp_def, List.map_const']

theorem pattern_gapCols (n : Int) : pattern (gapCols n) = replicate n.toNat true := by
  simp [pattern, gapCols]

theorem pattern_append (g h : Gapped) : pattern (g ++ h) = pattern g ++ pattern h := map_append

/-- pattern of gaps given as (position, length) pairs, cursor showing residue `next` -/
def patG (next : Int) : List (Int × Int) → Int → List Bool
  | (p, l) :: r, pl => replicate (p - next).toNat false ++ (replicate l.toNat true ++ patG p r pl)
  | [], pl => replicate (pl - next).toNat false

theorem pattern_absFrom_G (gp : List Int) : ∀ (cum : List Int) (next prevCum pl : Int),
    pattern (absFrom next prevCum gp cum pl) = patG next (zip gp (diffsFrom prevCum cum)) pl := by
  induction gp with
  | nil => intro cum next prevCum pl; cases cum <;> simp [absFrom, patG, pattern_seg, diffsFrom]
  | cons p ps ih =>
    intro cum next prevCum pl
    cases cum with
    | nil => simp [absFrom, patG, pattern_seg, diffsFrom]
    | cons c cs =>
      have := ih cs p c pl
      simp only [pattern] at this ⊢
      simp only [absFrom, diffsFrom, zip_cons_cons, patG, map_append, this]
      have e1 := pattern_seg next p
      have e2 := pattern_gapCols (c - prevCum)
      simp only [pattern] at e1 e2
      rw [e1, e2, append_assoc]

theorem diffsFrom_cumsumFrom (L : List Int) : ∀ acc, diffsFrom acc (cumsumFrom acc L) = L := by
  induction L with
  | nil => intro _; rfl
  | cons x xs ih => intro acc; simp only [cumsumFrom, diffsFrom, ih]; congr 1; omega

theorem cumsumFrom_diffsFrom (cum : List Int) : ∀ pc, cumsumFrom pc (diffsFrom pc cum) = cum := by
  induction cum with
  | nil => intro _; rfl
  | cons c cs ih => intro pc; simp only [diffsFrom, cumsumFrom]; rw [show pc + (c - pc) = c by omega, ih]

theorem diffsFrom_pos (cum : List Int) : ∀ pc, (pc :: cum).Pairwise (· < ·) → ∀ x ∈ diffsFrom pc cum, 0 < x := by
  induction cum with
  | nil => intro _ _ x hx; simp [diffsFrom] at hx
  | cons c cs ih =>
    intro pc h x hx
    have h' := pairwise_cons.mp h
    simp only [diffsFrom, mem_cons] at hx
    rcases hx with rfl | hx
    · have := h'.1 c (by simp); omega
    · exact ih c h'.2 x hx

theorem diffsFrom_length (cum : List Int) : ∀ pc, (diffsFrom pc cum).length = cum.length := by
  induction cum with
  | nil => intro _; rfl
  | cons c cs ih => intro pc; simp [diffsFrom, ih]

theorem pattern_abs_G (m : IMap) : pattern (abs m) = patG 0 (zip m.gapPos (diffsFrom 0 m.cumLens)) m.parentLength :=
  pattern_absFrom_G m.gapPos m.cumLens 0 0 m.parentLength

theorem ofPatternFrom_append (xs ys : List Bool) : ∀ k,
    ofPatternFrom k (xs ++ ys) = ofPatternFrom k xs ++ ofPatternFrom (k + (xs.filter (! ·)).length) ys := by
  induction xs with
  | nil => intro k; simp [ofPatternFrom]
  | cons b r ih =>
    intro k
    cases b with
    | true => simp [ofPatternFrom, ih]
    | false =>
      simp only [cons_append, ofPatternFrom, ih, filter_cons, Bool.not_false, if_true, length_cons]
      rw [show k + 1 + (filter (fun x => !x) r).length = k + ((filter (fun x => !x) r).length + 1) by omega]

theorem pattern_ofPatternFrom (xs : List Bool) : ∀ k, pattern (ofPatternFrom k xs) = xs := by
  induction xs with
  | nil => intro k; rfl
  | cons b r ih => intro k; cases b <;> simp [ofPatternFrom, pattern] <;> exact ih _

theorem pattern_ofPattern (xs : List Bool) : pattern (ofPattern xs) = xs :=
  pattern_ofPatternFrom xs 0

theorem ofPatternFrom_false (n : Nat) : ∀ k, ofPatternFrom k (replicate n false) = (range' k n).map some := by
  induction n with
  | zero => intro k; rfl
  | succ n ih => intro k; simp [replicate_succ, ofPatternFrom, ih, range'_succ]

theorem ofPatternFrom_true (n : Nat) : ∀ k, ofPatternFrom k (replicate n true) = replicate n none := by
  induction n with
  | zero => intro k; rfl
  | succ n ih => intro k; simp [replicate_succ, ofPatternFrom, ih]

/-- a map whose positions do not decrease numbers its residues 0, 1, 2, …: it is determined by its gap pattern -/
theorem absFrom_eq_ofPattern (gp cum : List Int) (pp next prevCum pl : Int) (h : Inc pp prevCum gp cum)
    (h0 : 0 ≤ next) (hn : next ≤ pp + 1) :
    absFrom next prevCum gp cum pl = ofPatternFrom next.toNat (pattern (absFrom next prevCum gp cum pl)) := by
  fun_induction Inc pp prevCum gp cum generalizing next with
  | case1 pp pc p ps c cs ih =>
    obtain ⟨h1, _, h3⟩ := h
    have ihh := ih p h3 (by omega) (by omega)
    simp only [absFrom, pattern_append, pattern_seg, pattern_gapCols, append_assoc] at ihh ⊢
    rw [ofPatternFrom_append, ofPatternFrom_append, ofPatternFrom_false, ofPatternFrom_true]
    have a1 : next.toNat + (filter (fun x => !x) (replicate (p - next).toNat false)).length = p.toNat := by
      simp; omega
    have a2 : p.toNat + (filter (fun x => !x) (replicate (c - pc).toNat true)).length = p.toNat := by
      simp
    rw [a1, a2, ← ihh]
    rfl
  | case2 => simp only [absFrom]; rw [pattern_seg, ofPatternFrom_false]; rfl
  | case3 => exact h.elim

theorem abs_eq_ofPattern (m : IMap) (h : WF m) : abs m = ofPattern (pattern (abs m)) :=
  absFrom_eq_ofPattern m.gapPos m.cumLens (-1) 0 0 m.parentLength h.inc (Int.le_refl 0) (by omega)

theorem seqLen_eq_count (g : Gapped) : seqLen g = (pattern g).count false := by
  induction g with
  | nil => rfl
  | cons x r ih => cases x <;> simp_all [seqLen, pattern]

/-- a longer prefix holds no fewer elements of a kind: the count of residues grows with the column -/
theorem length_filter_take_le {α} (p : α → Bool) (xs : List α) {i j : Nat} (h : i ≤ j) :
    ((xs.take i).filter p).length ≤ ((xs.take j).filter p).length :=
  ((take_sublist_take_left h).filter p).length_le

theorem cumsumFrom_length (L : List Int) : ∀ acc, (cumsumFrom acc L).length = L.length := by
  induction L with
  | nil => intro _; rfl
  | cons x xs ih => intro acc; simp [cumsumFrom, ih]

theorem cumsumFrom_pairwise (L : List Int) : ∀ acc, (∀ x ∈ L, 0 < x) →
    (acc :: cumsumFrom acc L).Pairwise (· < ·) ∧ ∀ y ∈ cumsumFrom acc L, acc < y := by
  induction L with
  | nil => intro acc _; simp [cumsumFrom]
  | cons x xs ih =>
    intro acc h
    have hx := h x (by simp)
    obtain ⟨i1, i2⟩ := ih (acc + x) (fun y hy => h y (by simp [hy]))
    have hall : ∀ y ∈ cumsumFrom acc (x :: xs), acc < y := by
      intro y hy
      simp only [cumsumFrom, mem_cons] at hy
      rcases hy with rfl | hy
      · omega
      · have := i2 y hy; omega
    refine ⟨?_, hall⟩
    rw [pairwise_cons]
    exact ⟨hall, i1⟩

/-- the map with gaps at strictly increasing positions `pos` in `0 … pl`, of positive lengths `lens`:
what `mkLengths` stores is well formed and shows exactly these gaps -/
theorem ofLengths_spec (pos lens : List Int) (pl : Int) (hl : pos.length = lens.length)
    (hs : pos.Pairwise (· < ·)) (hlen : ∀ l ∈ lens, 0 < l) (hr : ∀ p ∈ pos, 0 ≤ p ∧ p ≤ pl) (hpl : 0 ≤ pl) :
    WF ⟨pos, cumsum lens, pl⟩ ∧ pattern (abs ⟨pos, cumsum lens, pl⟩) = patG 0 (zip pos lens) pl :=
  ⟨⟨hpl, by rw [hl]; exact (cumsumFrom_length lens 0).symm, hs, (cumsumFrom_pairwise lens 0 hlen).1, hr⟩,
   by rw [pattern_abs_G]; simp only [cumsum, diffsFrom_cumsumFrom]⟩

def shiftG (d : Int) (G : List (Int × Int)) : List (Int × Int) := G.map fun g => (d + g.1, g.2)

theorem patG_shift (G : List (Int × Int)) : ∀ (d next pl : Int),
    patG (d + next) (shiftG d G) (d + pl) = patG next G pl := by
  induction G with
  | nil => intro d next pl; simp only [shiftG, map_nil, patG]; congr 1; omega
  | cons g r ih =>
    intro d next pl
    obtain ⟨p, l⟩ := g
    have := ih d p pl
    simp only [shiftG, map_cons, patG] at this ⊢
    rw [this]
    have : d + p - (d + next) = p - next := by omega
    rw [this]

theorem patG_sub (G : List (Int × Int)) (b next pl : Int) :
    patG (next - b) (G.map fun g => (g.1 - b, g.2)) (pl - b) = patG next G pl := by
  have := patG_shift G (-b) next pl
  rw [show -b + next = next - b by omega, show -b + pl = pl - b by omega] at this
  rw [← this]; congr 1
  exact map_congr_left fun g _ => by rw [Int.sub_eq_add_neg, Int.add_comm]

theorem patG_snoc (R : List (Int × Int)) : ∀ (n0 q l PL : Int),
    patG n0 (R ++ [(q, l)]) PL = patG n0 R q ++ (replicate l.toNat true ++ replicate (PL - q).toNat false) := by
  induction R with
  | nil => intro n0 q l PL; simp [patG]
  | cons t r ih =>
    intro n0 q l PL
    obtain ⟨p, l'⟩ := t
    simp only [cons_append, patG, ih, append_assoc]

end CogentModel.IndelMap
