import CogentModel.Model.Optimiser
/-! What one call through `bounded_function(limited_use(f))` does to the closure cells: three outcomes
(`boundedCall_cases`), which is all an invariant of the wrapper stack has to be checked against;
`runQueries_preserves` then carries it over any run. -/
namespace CogentModel.Optimiser

variable {X Y : Type}

/-- The closure is untouched (out of bounds, or the evaluation limit is hit); or the call is counted and logged
without a new best (it raised, returned NaN, or a value that is not `>` the best so far); or it is counted, logged
and becomes the new best. -/
theorem boundedCall_cases (c : Cfg X Y) (s : St X Y) (q : X) :
    (boundedCall c s q).1 = s ∨
    (c.inB q = true ∧ limitHit c.maxEvals s.evals = false ∧
      (((boundedCall c s q).1 = counted s q ∧ ∀ y, c.f q = .val y → c.gt y s.bestF = false) ∨
       ∃ y, c.f q = .val y ∧ c.gt y s.bestF = true ∧
         (boundedCall c s q).1 = { counted s q with bestF := y, bestX := some q })) := by
  unfold boundedCall limitedCall
  cases c.inB q with
  | false => exact .inl rfl
  | true =>
    cases limitHit c.maxEvals s.evals with
    | true => exact .inl rfl
    | false =>
      refine .inr ⟨rfl, rfl, ?_⟩
      simp only [Bool.false_eq_true, if_false, if_true]
      cases c.f q
      case val y =>
        simp only [afterCall, record]
        cases hg : c.gt y (counted s q).bestF
        · exact .inl ⟨rfl, fun y' hy' => by cases hy'; exact hg⟩
        · exact .inr ⟨y, rfl, hg, rfl⟩
      all_goals exact .inl ⟨rfl, nofun⟩

/-- what every wrapped call preserves, every optimiser (any finite list of queries, stopped anywhere) preserves -/
theorem runQueries_preserves {c : Cfg X Y} {P : St X Y → Prop} (step : ∀ s q, P s → P (boundedCall c s q).1)
    (qs : List X) : ∀ s, P s → P (runQueries c s qs).st := by
  induction qs with
  | nil => exact fun s hs => hs
  | cons q qs ih =>
    intro s hs
    unfold runQueries
    split
    · exact step s q hs
    · exact ih _ (step s q hs)

end CogentModel.Optimiser
