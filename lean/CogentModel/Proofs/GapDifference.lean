/-
  `_gap_difference` without its loop: the union gaps the pairwise row lacks, and those it has with another length
  (`gapDifference_eq`).  Read as one dict (`gapDiff`) it holds, position by position, what the union gap has beyond the
  pairwise one (`gl_gapDiff`).
-/
import CogentModel.Proofs.GapDict
namespace CogentModel.GapMerge

/-- `_gap_difference` without the loop: the union gaps the pairwise row lacks, and those it has with another length,
each with what is missing -/
theorem gapDifference_eq (rg u : Gaps) :
    gapDifference rg u =
      (u.filter fun e => (dget rg e.1).isNone,
       (u.filter fun e => (dget rg e.1).isSome && dget rg e.1 != some e.2).map fun e => (e.1, e.2 - gl rg e.1)) := by
  induction u with
  | nil => rfl
  | cons e r ih =>
    obtain ⟨p, l⟩ := e
    rw [gapDifference, ih]
    cases hd : dget rg p with
    | none => simp [hd]
    | some l' =>
      by_cases h : l' = l
      · simp [hd, h]
      · simp [hd, h, gl]

/-- the entries `_gap_difference` returns, the overlapping ones first: the order in which
`_combined_refseq_gaps` enters them -/
def gapDiff (rg u : Gaps) : Gaps := (gapDifference rg u).2 ++ (gapDifference rg u).1

theorem mem_gapDiff (rg u : Gaps) (p v : Int) :
    (p, v) ∈ gapDiff rg u ↔ ∃ l, (p, l) ∈ u ∧ dget rg p ≠ some l ∧ v = l - gl rg p := by
  simp only [gapDiff, gapDifference_eq, List.mem_append, List.mem_map, List.mem_filter, Bool.and_eq_true, bne_iff_ne,
    Prod.mk.injEq, Prod.exists]
  constructor
  · rintro (⟨q, l, ⟨hm, -, hne⟩, rfl, rfl⟩ | ⟨hm, hn⟩)
    · exact ⟨l, hm, hne, rfl⟩
    · have hn := Option.isNone_iff_eq_none.mp hn
      exact ⟨v, hm, by simp [hn], by simp [gl, hn]⟩
  · rintro ⟨l, hm, hne, rfl⟩
    cases hd : dget rg p with
    | none => exact Or.inr ⟨by simpa [gl, hd] using hm, rfl⟩
    | some l' => exact Or.inl ⟨p, l, ⟨hm, by rw [hd]; rfl, hd ▸ hne⟩, rfl, rfl⟩

theorem gapDiff_keys_sub (rg u : Gaps) (k : Int) (hk : k ∈ keys (gapDiff rg u)) : k ∈ keys u := by
  rw [gapDiff, gapDifference_eq, keys_append, keys_mapVal, List.mem_append] at hk
  exact hk.elim (fun h => (keys_filter_sublist _ u).subset h) fun h => (keys_filter_sublist _ u).subset h

theorem gapDiff_nodup (rg u : Gaps) (hnd : (keys u).Nodup) : (keys (gapDiff rg u)).Nodup := by
  rw [gapDiff, gapDifference_eq, keys_append, keys_mapVal]
  refine List.nodup_append.mpr ⟨hnd.sublist (keys_filter_sublist _ u), hnd.sublist (keys_filter_sublist _ u), ?_⟩
  -- a key of the second part has a pairwise gap, a key of the first has none
  rintro k hk _ hk' rfl
  obtain ⟨e, he, rfl⟩ := List.mem_map.mp hk
  obtain ⟨e', he', h⟩ := List.mem_map.mp hk'
  have h1 := (Bool.and_eq_true_iff.mp (List.mem_filter.mp he).2).1
  have h2 := Option.isNone_iff_eq_none.mp (List.mem_filter.mp he').2
  rw [h] at h2
  rw [h2] at h1
  cases h1

/-- **`_gap_difference`** as a function of the position: what the union gap has beyond the pairwise one -/
theorem gl_gapDiff (rg u : Gaps) (hu : (keys u).Nodup) (hnn : ∀ e ∈ rg, 0 ≤ e.2) (hdom : ∀ p, gl rg p ≤ gl u p)
    (p : Int) : gl (gapDiff rg u) p = gl u p - gl rg p := by
  by_cases hex : ∃ l0, (p, l0) ∈ u ∧ dget rg p ≠ some l0
  · -- the union gap at `p` differs from the pairwise one: one entry, holding the difference
    obtain ⟨l0, hm, hd⟩ := hex
    rw [gl_of_mem _ (gapDiff_nodup rg u hu) _ _ ((mem_gapDiff rg u _ _).mpr ⟨l0, hm, hd, rfl⟩), gl_of_mem u hu p l0 hm]
  · -- no entry at `p`, and the two gaps at `p` agree
    have h0 : gl (gapDiff rg u) p = 0 := gl_of_not_mem _ _ fun hk => by
      obtain ⟨e, he, rfl⟩ := List.mem_map.mp hk
      obtain ⟨l0, h1, h2, _⟩ := (mem_gapDiff rg u e.1 e.2).mp he
      exact hex ⟨l0, h1, h2⟩
    rw [h0]
    cases hdu : dget u p with
    | none =>
      have hd := hdom p
      have hr := gl_nonneg rg hnn p
      rw [gl_of_not_mem u p ((dget_none_iff u p).mp hdu)] at hd ⊢
      omega
    | some l =>
      have hdr : dget rg p = some l := Decidable.byContradiction fun h => hex ⟨l, dget_some_mem u p l hdu, h⟩
      simp only [gl, hdu, hdr, Option.getD_some]; omega

theorem gapDifference_missing_none (rg u : Gaps) (e : Int × Int) (he : e ∈ (gapDifference rg u).1) :
    dget rg e.1 = none := by
  rw [gapDifference_eq] at he
  exact Option.isNone_iff_eq_none.mp (List.mem_filter.mp he).2

theorem gapDifference_self (g r : Gaps) (hsub : ∀ x ∈ r, dget g x.1 = some x.2) : gapDifference g r = ([], []) := by
  rw [gapDifference_eq, List.filter_eq_nil_iff.mpr fun x hx => by simp [hsub x hx],
    List.filter_eq_nil_iff.mpr fun x hx => by simp [hsub x hx]]
  rfl

end CogentModel.GapMerge
