import CogentModel.Model.RateMatrix
import CogentModel.Model.Expm
import Mathlib.Algebra.BigOperators.Ring.Finset
import Mathlib.Algebra.BigOperators.Field
import Mathlib.Algebra.Order.BigOperators.Ring.Finset
import Mathlib.Algebra.Order.Field.Basic
import CogentModel.Proofs.RangeSum
/-! C05: bridge between the array model and `Finset` sums, and the algebra of `finishQ`. -/

namespace CogentModel.RateMatrix
open Finset

section
variable {α : Type*}

theorem vget_vtab [Zero α] {n : Nat} (f : Nat → α) {i : Nat} (hi : i < n) : vget (vtab n f) i = f i := by
  simp [vget, vtab, Array.getD, hi]

theorem size_vtab {n : Nat} (f : Nat → α) : (vtab n f).size = n := by simp [vtab]

theorem mget_tab [Zero α] {n : Nat} (f : Nat → Nat → α) {i j : Nat} (hi : i < n) (hj : j < n) :
    mget (tab n f) i j = f i j := by
  simp [mget, tab, Array.getD, hi, hj]

theorem sumTo_eq_sum [AddCommMonoid α] (n : Nat) (f : Nat → α) : sumTo n f = ∑ k ∈ range n, f k := by
  induction n with
  | zero => simp [sumTo]
  | succ n ih => rw [sumTo, ih, Finset.sum_range_succ]

theorem prodTo_eq_prod [CommMonoid α] (n : Nat) (f : Nat → α) : prodTo n f = ∏ k ∈ range n, f k := by
  induction n with
  | zero => simp [prodTo]
  | succ n ih => rw [prodTo, ih, Finset.prod_range_succ]

theorem sumTo_congr [AddCommMonoid α] {n : Nat} {f g : Nat → α} (h : ∀ k, k < n → f k = g k) : sumTo n f = sumTo n g := by
  rw [sumTo_eq_sum, sumTo_eq_sum]
  exact sum_range_congr h

theorem sumTo_const_mul [NonUnitalNonAssocSemiring α] (n : Nat) (c : α) (f : Nat → α) :
    c * sumTo n f = sumTo n fun k => c * f k := by
  rw [sumTo_eq_sum, sumTo_eq_sum, Finset.mul_sum]

theorem sumTo_mul_const [NonUnitalNonAssocSemiring α] (n : Nat) (f : Nat → α) (c : α) :
    sumTo n f * c = sumTo n fun k => f k * c := by
  rw [sumTo_eq_sum, sumTo_eq_sum, Finset.sum_mul]
end

section fieldlemmas
variable {K : Type*} [Field K]

theorem vget_rowTotals (n : Nat) (R : Mat K) {i : Nat} (hi : i < n) : vget (rowTotals n R) i = ∑ k ∈ range n, mget R i k := by
  unfold rowTotals
  rw [vget_vtab _ hi, sumTo_eq_sum]

theorem mget_finishQ (n : Nat) (R : Mat K) (pi : Vec K) {i j : Nat} (hi : i < n) (hj : j < n) :
    mget (finishQ n R pi) i j =
      (mget R i j - if i = j then ∑ k ∈ range n, mget R i k else 0) *
        (1 / ∑ k ∈ range n, vget pi k * ∑ l ∈ range n, mget R k l) := by
  dsimp only [finishQ]
  rw [mget_tab _ hi hj, mget_tab _ hi hj, vget_rowTotals n R hi, sumTo_eq_sum,
    sum_range_congr (f := fun k => vget pi k * vget (rowTotals n R) k) fun k hk => by rw [vget_rowTotals n R hk]]
  by_cases h : i = j
  · rw [if_pos h, if_pos h]
  · rw [if_neg h, if_neg h, sub_zero]

theorem finishQ_rowsum_zero (n : Nat) (R : Mat K) (pi : Vec K) {i : Nat} (hi : i < n) :
    sumTo n (fun j => mget (finishQ n R pi) i j) = 0 := by
  rw [sumTo_eq_sum, sum_range_congr fun j hj => mget_finishQ n R pi hi hj,
    ← Finset.sum_mul, Finset.sum_sub_distrib, Finset.sum_ite_eq, if_pos (Finset.mem_range.mpr hi), sub_self, zero_mul]

theorem finishQ_calibrated (n : Nat) (R : Mat K) (pi : Vec K) (hdiag : ∀ i, i < n → mget R i i = 0)
    (hnorm : sumTo n (fun i => vget pi i * sumTo n (fun j => mget R i j)) ≠ 0) :
    - sumTo n (fun i => vget pi i * mget (finishQ n R pi) i i) = 1 := by
  simp only [sumTo_eq_sum] at hnorm
  rw [sumTo_eq_sum, sum_range_congr fun i hi => by
    rw [mget_finishQ n R pi hi hi, hdiag i hi, if_pos rfl, zero_sub, ← mul_assoc, mul_neg]]
  rw [← Finset.sum_mul, Finset.sum_neg_distrib, neg_mul, neg_neg, mul_one_div, div_self hnorm]

/-- un-normalised flow balance per state ⇒ `π Q = 0` -/
theorem finishQ_stationary (n : Nat) (R : Mat K) (pi : Vec K)
    (hbal : ∀ j, j < n → sumTo n (fun i => vget pi i * mget R i j) = vget pi j * sumTo n (fun k => mget R j k))
    {j : Nat} (hj : j < n) :
    sumTo n (fun i => vget pi i * mget (finishQ n R pi) i j) = 0 := by
  simp only [sumTo_eq_sum] at hbal
  rw [sumTo_eq_sum, sum_range_congr fun i hi => by
    rw [mget_finishQ n R pi hi hj, ← mul_assoc, mul_sub, mul_ite, mul_zero]]
  rw [← Finset.sum_mul, Finset.sum_sub_distrib, hbal j hj, Finset.sum_ite_eq' (range n) j, if_pos (Finset.mem_range.mpr hj),
    sub_self, zero_mul]

/-- detailed balance of the un-normalised rates ⇒ detailed balance of `Q` -/
theorem finishQ_detailed_balance (n : Nat) (R : Mat K) (pi : Vec K)
    (hdb : ∀ i j, i < n → j < n → vget pi i * mget R i j = vget pi j * mget R j i)
    {i j : Nat} (hi : i < n) (hj : j < n) :
    vget pi i * mget (finishQ n R pi) i j = vget pi j * mget (finishQ n R pi) j i := by
  by_cases h : i = j
  · rw [h]
  · rw [mget_finishQ n R pi hi hj, mget_finishQ n R pi hj hi, if_neg h, if_neg (Ne.symm h), sub_zero, sub_zero,
      ← mul_assoc, ← mul_assoc, hdb i j hi hj]

/-- detailed balance ⇒ flow balance -/
theorem balance_of_detailed (n : Nat) (R : Mat K) (pi : Vec K)
    (hdb : ∀ i j, i < n → j < n → vget pi i * mget R i j = vget pi j * mget R j i) :
    ∀ j, j < n → ∑ i ∈ range n, vget pi i * mget R i j = vget pi j * ∑ k ∈ range n, mget R j k := by
  intro j hj
  rw [Finset.mul_sum]
  exact sum_range_congr fun i hi => hdb i j hi hj

/-- the un-normalised rates `π_i R_ij W_ij` of the stationary construction are balanced for a symmetric `R` as soon as
`π_i W_ij = π_j W_ji` wherever `R` does not vanish -/
theorem balanced_of_symm (n : Nat) (pi : Vec K) (R W : Mat K)
    (hR : ∀ i j, i < n → j < n → mget R i j = mget R j i)
    (hW : ∀ i j, i < n → j < n → mget R i j ≠ 0 → vget pi i * mget W i j = vget pi j * mget W j i)
    (i j : Nat) (hi : i < n) (hj : j < n) :
    vget pi i * (mget R i j * mget W i j) = vget pi j * (mget R j i * mget W j i) := by
  rw [← hR i j hi hj]
  by_cases h0 : mget R i j = 0
  · rw [h0, zero_mul, zero_mul, mul_zero, mul_zero]
  · rw [mul_left_comm, hW i j hi hj h0, mul_left_comm]

end fieldlemmas

section ordered
variable {K : Type*} [Field K] [LinearOrder K] [IsStrictOrderedRing K]

theorem sum_range_nonneg {n : Nat} {f : Nat → K} (h : ∀ k, k < n → 0 ≤ f k) : 0 ≤ ∑ k ∈ range n, f k :=
  Finset.sum_nonneg fun k hk => h k (Finset.mem_range.mp hk)

theorem finishQ_scale_nonneg (n : Nat) (R : Mat K) (pi : Vec K)
    (hR : ∀ i j, i < n → j < n → 0 ≤ mget R i j) (hpi : ∀ i, i < n → 0 ≤ vget pi i) :
    0 ≤ 1 / ∑ k ∈ range n, vget pi k * ∑ l ∈ range n, mget R k l :=
  one_div_nonneg.mpr <| sum_range_nonneg fun k hk => mul_nonneg (hpi k hk) <| sum_range_nonneg fun l hl => hR k l hk hl

theorem finishQ_offdiag_nonneg (n : Nat) (R : Mat K) (pi : Vec K)
    (hR : ∀ i j, i < n → j < n → 0 ≤ mget R i j) (hpi : ∀ i, i < n → 0 ≤ vget pi i)
    {i j : Nat} (hi : i < n) (hj : j < n) (hij : i ≠ j) : 0 ≤ mget (finishQ n R pi) i j := by
  rw [mget_finishQ n R pi hi hj, if_neg hij, sub_zero]
  exact mul_nonneg (hR i j hi hj) (finishQ_scale_nonneg n R pi hR hpi)

theorem finishQ_diag_nonpos (n : Nat) (R : Mat K) (pi : Vec K)
    (hR : ∀ i j, i < n → j < n → 0 ≤ mget R i j) (hpi : ∀ i, i < n → 0 ≤ vget pi i)
    (hdiag : ∀ i, i < n → mget R i i = 0)
    {i : Nat} (hi : i < n) : mget (finishQ n R pi) i i ≤ 0 := by
  rw [mget_finishQ n R pi hi hi, if_pos rfl, hdiag i hi, zero_sub]
  exact mul_nonpos_of_nonpos_of_nonneg
    (neg_nonpos.mpr (sum_range_nonneg fun l hl => hR i l hi hl)) (finishQ_scale_nonneg n R pi hR hpi)
end ordered

section exch
variable {K : Type*} [Field K]

theorem mget_applyPred (n : Nat) (R : Mat K) (idx : List (Nat × Nat)) (p : K) {i j : Nat} (hi : i < n) (hj : j < n) :
    mget (applyPred n R idx p) i j = mget R i j * if idx.contains (i, j) then p else 1 := by
  unfold applyPred
  rw [mget_tab _ hi hj, mul_ite, mul_one]

/-- a cell after all predicates: scaled by the parameter of every predicate that covers it -/
theorem mget_applyPreds (n : Nat) {i j : Nat} (hi : i < n) (hj : j < n) (preds : List (List (Nat × Nat))) :
    ∀ (R : Mat K) (params : List K), mget (applyPreds n R preds params) i j =
      mget R i j * ((preds.zip params).map fun ip => if ip.1.contains (i, j) then ip.2 else 1).prod := by
  induction preds with
  | nil => intro R _; rw [List.zip_nil_left, List.map_nil, List.prod_nil, mul_one]; rfl
  | cons idx idxs ih =>
    intro R params
    cases params with
    | nil => rw [List.zip_nil_right, List.map_nil, List.prod_nil, mul_one]; rfl
    | cons p ps =>
      rw [applyPreds, ih, mget_applyPred n R idx p hi hj, List.zip_cons_cons, List.map_cons, List.prod_cons, mul_assoc]

/-- `Parametric.calc_exchangeability_matrix`, cell by cell -/
theorem mget_exchParametric {n : Nat} {mask : Mat K} {preds : List (List (Nat × Nat))} {params : List K} {R : Mat K}
    (h : exchParametric n mask preds params = some R) {i j : Nat} (hi : i < n) (hj : j < n) :
    mget R i j = mget mask i j * ((preds.zip params).map fun ip => if ip.1.contains (i, j) then ip.2 else 1).prod := by
  unfold exchParametric at h
  by_cases hlen : params.length = preds.length
  · rw [if_pos hlen] at h
    rw [← Option.some.inj h, mget_applyPreds n hi hj preds, mget_tab _ hi hj]
  · rw [if_neg hlen] at h
    exact absurd h nofun

end exch

section rates
variable {K : Type*} [Field K]

theorem mget_weightSimple (n : Nat) (pi : Vec K) {i j : Nat} (hi : i < n) (hj : j < n) :
    mget (weightSimple n pi) i j = vget pi j := mget_tab _ hi hj

/-- `General.calc_exchangeability_matrix`, cell by cell -/
theorem mget_exchGeneral (n : Nat) (pick : Array (Array Nat)) (params : List K) {i j : Nat} (hi : i < n) (hj : j < n) :
    mget (exchGeneral n pick params) i j = (((0 : K) :: params) ++ [1]).getD ((pick.getD i #[]).getD j 0) 0 := by
  dsimp only [exchGeneral]
  rw [mget_tab _ hi hj, Array.getD_eq_getD_getElem?, List.getElem?_toArray, List.getD_eq_getElem?_getD]

theorem exchGeneral_zero_cell (n : Nat) (pick : Array (Array Nat)) (params : List K) {i j : Nat} (hi : i < n) (hj : j < n)
    (h0 : (pick.getD i #[]).getD j 0 = 0) : mget (exchGeneral n pick params) i j = 0 := by
  rw [mget_exchGeneral n pick params hi hj, h0]
  rfl

theorem sumTo_mul_div_self (n : Nat) (w v : Nat → K) (h : sumTo n (fun b => w b * v b) ≠ 0) :
    sumTo n (fun b => w b * (v b / sumTo n fun b => w b * v b)) = 1 := by
  rw [sumTo_congr fun b _ => (mul_div_assoc (w b) (v b) _).symm, sumTo_eq_sum, ← Finset.sum_div, ← sumTo_eq_sum, div_self h]
end rates
end CogentModel.RateMatrix
