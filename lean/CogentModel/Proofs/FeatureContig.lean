/-
  Lemmas about the contiguous form of a feature slice, `get_slice(allow_gaps=True)` (Model/FeatureSeq.lean
  `contigIdx` / `getSliceContig`): relation to the spliced form and the hull of sorted spans.
-/
import CogentModel.Proofs.FeatureOnView
namespace CogentModel.FeatureView
open CogentModel.View CogentModel.SeqWrap CogentModel.FeatureSpec

theorem mapStart_sorted (p : Int × Int) (r : List (Int × Int))
    (hs : (p :: r).Pairwise (fun a b => a.2 ≤ b.1)) (hp : ∀ q ∈ p :: r, q.1 < q.2) :
    mapStart (p :: r) = p.1 := by
  induction r generalizing p with
  | nil => rfl
  | cons q r ih =>
    have hq := ih q (List.Pairwise.of_cons hs) (fun x hx => hp x (List.mem_cons_of_mem _ hx))
    simp only [mapStart, hq]
    have h1 := (List.pairwise_cons.mp hs).1 q (List.mem_cons_self ..)
    have h2 := hp p (List.mem_cons_self ..)
    omega

theorem mapEnd_sorted (p : Int × Int) (r : List (Int × Int))
    (hs : (p :: r).Pairwise (fun a b => a.2 ≤ b.1)) (hp : ∀ q ∈ p :: r, q.1 < q.2) :
    mapEnd (p :: r) = ((p :: r).getLast (List.cons_ne_nil _ _)).2 := by
  induction r generalizing p with
  | nil => rfl
  | cons q r ih =>
    have hq := ih q (List.Pairwise.of_cons hs) (fun x hx => hp x (List.mem_cons_of_mem _ hx))
    simp only [mapEnd, hq, List.getLast_cons (List.cons_ne_nil q r)]
    have hl : (q :: r).getLast (List.cons_ne_nil _ _) ∈ q :: r := List.getLast_mem _
    have h1 := (List.pairwise_cons.mp hs).1 _ hl
    have h2 := hp _ (List.mem_cons_of_mem _ hl)
    omega

/-- spans as `make_feature` leaves them: ordered, pairwise disjoint, non-empty -/
def Disjoint (D : List (Int × Int)) : Prop := D.Pairwise (fun a b => a.2 ≤ b.1) ∧ ∀ q ∈ D, q.1 < q.2

/-- disjoint non-empty spans in order are ordered by start -/
theorem Disjoint.sorted {D : List (Int × Int)} (h : Disjoint D) : D.Pairwise (fun a b => a.1 ≤ b.1) :=
  (List.Pairwise.and_mem.mp h.1).imp fun ⟨ha, _, hab⟩ => by have := h.2 _ ha; omega

theorem seg_head (a b : Int) (h : a < b) : (seg a b).head? = some a := by
  unfold seg
  have : (b - a).toNat = (b - a).toNat - 1 + 1 := by omega
  rw [this, List.range_succ_eq_map]
  simp

theorem seg_last (a b : Int) (h : a < b) : (seg a b).getLast? = some (b - 1) := by
  unfold seg
  rw [List.getLast?_map, List.getLast?_range, if_neg (by omega)]
  simp only [Option.map_some]; congr 1; omega

theorem seg_ne_nil (a b : Int) (h : a < b) : seg a b ≠ [] := by
  intro hh; have := seg_head a b h; rw [hh] at this; cases this

theorem flatMap_seg_last (D : List (Int × Int)) (hne : D ≠ []) (hp : ∀ q ∈ D, q.1 < q.2) :
    (D.flatMap (fun q => seg q.1 q.2)).getLast? = some ((D.getLast hne).2 - 1) := by
  induction D with
  | nil => exact absurd rfl hne
  | cons p r ih =>
    rw [List.flatMap_cons]
    cases r with
    | nil =>
      simp only [List.flatMap_nil, List.append_nil, List.getLast_singleton]
      rw [seg_last _ _ (by have := hp p List.mem_cons_self; omega)]
    | cons q r' =>
      have := ih (List.cons_ne_nil _ _) (fun x hx => hp x (List.mem_cons_of_mem _ hx))
      rw [List.getLast?_append, this]
      simp [List.getLast_cons]

theorem hull_flatMap (D : List (Int × Int)) (hne : D ≠ []) (hp : ∀ q ∈ D, q.1 < q.2) :
    hullOf (D.flatMap (fun q => seg q.1 q.2)) = seg (D.head hne).1 (D.getLast hne).2 := by
  unfold hullOf
  rw [flatMap_seg_last D hne hp]
  cases D with
  | nil => exact absurd rfl hne
  | cons p r =>
    rw [List.flatMap_cons, List.head?_append, seg_head _ _ (by have := hp p List.mem_cons_self; omega)]
    simp only [Option.some_or, List.head_cons]
    congr 1; omega

theorem contigIdx_disjoint (f : Feat) (D : List (Int × Int)) (h : realOf f.spans = D) (hne : D ≠ []) (hd : Disjoint D) :
    contigIdx f = seg (D.head hne).1 (D.getLast hne).2 := by
  cases D with
  | nil => exact absurd rfl hne
  | cons p r =>
    unfold contigIdx
    rw [h]
    simp only []
    rw [mapStart_sorted p r hd.1 hd.2, mapEnd_sorted p r hd.1 hd.2]
    rfl

theorem clipped_disjoint (L : Int) (r : Int → Int) (hr : ∀ a b, a ≤ b → r a ≤ r b) (spans : List (Int × Int))
    (hs : Disjoint spans) : Disjoint ((spans.map (fun sp => (r sp.1, r sp.2))).filterMap (clipped L)) := by
  constructor
  · apply List.Pairwise.filterMap (R := fun a b : Int × Int => a.2 ≤ b.1)
    · intro a a' haa b hb b' hb'
      obtain ⟨h1, rfl⟩ := clipped_eq_some hb
      obtain ⟨h2, rfl⟩ := clipped_eq_some hb'
      simp only [] at haa h1 h2 ⊢; omega
    · rw [List.pairwise_map]
      exact hs.1.imp (fun h => hr _ _ h)
  · intro q hq
    obtain ⟨sp, _, h2⟩ := List.mem_filterMap.mp hq
    exact (clipped_bounds h2).2.1

theorem mirror_disjoint (L : Int) (C : List (Int × Int)) (hC : Disjoint C) :
    Disjoint ((C.map (fun p => (L - p.2, L - p.1))).reverse) := by
  constructor
  · rw [List.pairwise_reverse, List.pairwise_map]
    exact hC.1.imp (fun h => by simp only []; omega)
  · intro q hq
    obtain ⟨x, hx, rfl⟩ := List.mem_map.mp (List.mem_reverse.mp hq)
    have := hC.2 x hx
    simp only []; omega

theorem contigIdx_eq (m : List MSpan) (r : Bool) :
    contigIdx { spans := m, reversed := r } = irange (mapStart (realOf m)) (mapEnd (realOf m)) := by
  unfold contigIdx
  simp only []
  cases h : realOf m with
  | nil => simp [mapStart, mapEnd, irange]
  | cons p ps => rfl

theorem mapStart_mapEnd_bounds (r : List (Int × Int)) (L : Int) (hL : 0 ≤ L) (h : ∀ p ∈ r, 0 ≤ p.1 ∧ p.2 ≤ L) :
    0 ≤ mapStart r ∧ mapEnd r ≤ L := by
  induction r with
  | nil => exact ⟨Int.le_refl 0, hL⟩
  | cons p ps ih =>
    have hp := h p List.mem_cons_self
    have := ih fun q hq => h q (List.mem_cons_of_mem _ hq)
    cases ps with
    | nil => exact hp
    | cons q rest => simp only [mapStart, mapEnd]; omega

/-- a feature whose real spans lie inside `[0, L]` reads, in the contiguous form, view indices inside `[0, L)` -/
theorem contigIdx_bounds (f : Feat) (L : Int) (hL : 0 ≤ L) (h : ∀ p ∈ realOf f.spans, 0 ≤ p.1 ∧ p.2 ≤ L) :
    ∀ i ∈ contigIdx f, 0 ≤ i ∧ i < L := by
  intro i hi
  rw [contigIdx_eq, irange_eq_seg, mem_seg] at hi
  have := mapStart_mapEnd_bounds _ L hL h
  omega

theorem hullOf_map_add (p : Int) (l : List Int) : hullOf (l.map (p + ·)) = (hullOf l).map (p + ·) := by
  unfold hullOf
  rw [List.head?_map, List.getLast?_map]
  cases l.head? <;> cases l.getLast? <;> try rfl
  simp only [Option.map_some, seg_map_add]
  congr 1; omega

theorem hullOf_map_sub (p : Int) (l : List Int) :
    hullOf (l.map (p - ·)).reverse = ((hullOf l).map (p - ·)).reverse := by
  unfold hullOf
  rw [List.head?_reverse, List.getLast?_reverse, List.head?_map, List.getLast?_map]
  cases l.head? <;> cases l.getLast? <;> try rfl
  simp only [Option.map_some, seg_map_rev, List.reverse_reverse]
  congr 1; omega

/-- the contiguous form reads the hull of what the spliced form reads -/
theorem contigIdx_hull (f : Feat) (hd : Disjoint (realOf f.spans)) : contigIdx f = hullOf (sliceIdx f) := by
  rw [sliceIdx_realOf]
  by_cases hne : realOf f.spans = []
  · rw [contigIdx, hne]; rfl
  · rw [hull_flatMap _ hne hd.2, contigIdx_disjoint f _ rfl hne hd]

/-- the real spans of the feature built from disjoint db spans are disjoint, on a view of any stride -/
theorem built_disjoint (v : View) (hk : v.step ≠ 0) (minus : Bool) (spans : List (Int × Int)) (hs : Disjoint spans) :
    Disjoint (realOf (built v minus spans).spans) := by
  have hC := clipped_disjoint (len v) (relIdx v) (fun a b => relIdx_mono v hk) spans hs
  unfold built
  by_cases h : v.step < 0
  · simp only [h, decide_true, if_true, realOf_reverse, realOf_map_revOk, realOf_cutMap]
    exact mirror_disjoint _ _ hC
  · simp only [h, decide_false, Bool.false_eq_true, if_false, realOf_cutMap]
    exact hC

/-- the hull goes through `viewPos`: a shift on a forward view, a reflection on a reversed one -/
theorem hullOf_map_viewPos (v : View) (h : UnitView v) (I ps : List Int)
    (hI : I.map (viewPos v) = if decide (v.step < 0) then ps.reverse else ps) :
    (hullOf I).map (viewPos v) = if decide (v.step < 0) then (hullOf ps).reverse else hullOf ps := by
  rw [funext (viewPos_seg v h)] at hI ⊢
  by_cases hs : v.step < 0
  · simp only [hs, if_true, decide_true] at hI ⊢
    rw [← List.reverse_reverse (List.map _ (hullOf I)), ← hullOf_map_sub, hI, List.reverse_reverse]
  · simp only [hs, if_false, decide_false, Bool.false_eq_true] at hI ⊢
    rw [← hullOf_map_add, hI]

/-- a list read by a feature of strand `m` on a view of orientation `rc` (the feature is reversed on the view iff the two
differ) shows `ps` in the feature's direction iff in view order it shows `ps` in the view's direction -/
theorem reversed_iff {α} (m rc : Bool) (X ps : List α) :
    ((if (m != rc) then X.reverse else X) = if m then ps.reverse else ps) ↔ X = if rc then ps.reverse else ps := by
  cases m <;> cases rc <;> simp [List.reverse_eq_iff]

/-- in the contiguous form a feature on a unit-stride view denotes the hull of what it denotes spliced -/
theorem built_contigPositions (v : View) (h : UnitView v) (minus : Bool) (spans : List (Int × Int))
    (hs : Disjoint spans) :
    contigPositions v (built v minus spans) = denoteContig spans minus (segStart v) (segStart v + len v) := by
  have hd := built_disjoint v (by rcases h.2 with e | e <;> omega) minus spans hs
  obtain ⟨hp, hc⟩ := Prod.mk.inj (built_positions v h minus spans)
  rw [contigPositions, contigIdx_hull _ hd]
  exact Prod.ext ((reversed_iff ..).mpr (hullOf_map_viewPos v h _ _ ((reversed_iff ..).mp hp))) hc


end CogentModel.FeatureView
