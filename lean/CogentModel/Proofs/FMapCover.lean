import CogentModel.Model.FMap
import CogentModel.Proofs.ExceptDecEq
/-! The abstraction of `Model/FMap.lean`: `cover m` lists, for every map position, the parent position it points to, or
`none` where it is lost.  It is read position by position with `lookup`, over `Int` so that no statement needs a side
condition `0 ≤ j` or a `toNat`; two covers are equal when they have the same length and agree at every position
(`ext_lookup`).  `Within` (coordinates inside the parent) and `NonNeg` (no span of negative length) are the side
conditions of most theorems; `lenL` is `__len__` on a span list. -/
namespace CogentModel.FMap

/-- a real span lies inside `[0, pl]` (lost spans carry no coordinates) -/
def FSp.within (pl : Int) : FSp → Prop
  | .span s e _ => 0 ≤ s ∧ s ≤ e ∧ e ≤ pl
  | .lost _ => True

def Within (m : FM) : Prop := ∀ sp ∈ m.spans, sp.within m.parentLength

instance (pl : Int) (sp : FSp) : Decidable (sp.within pl) := by
  cases sp <;> unfold FSp.within <;> infer_instance
instance (m : FM) : Decidable (Within m) := by unfold Within; infer_instance

/-- the parent-coordinate flip of `nucleic_reversed` -/
def flip (pl : Int) : Option Int → Option Int := Option.map (fun p => pl - 1 - p)

theorem mkSpan_of_le {s e : Int} (h : s ≤ e) (rv : Bool) : mkSpan s e rv = .span s e rv :=
  if_neg (by omega)

theorem mkSpan_of_gt {s e : Int} (h : e < s) (rv : Bool) : mkSpan s e rv = .span e s rv :=
  if_pos h

theorem mkSpan_within {a b pl : Int} (rv : Bool) (ha : 0 ≤ a ∧ a ≤ pl) (hb : 0 ≤ b ∧ b ≤ pl) :
    (mkSpan a b rv).within pl := by
  unfold mkSpan; split <;> simp only [FSp.within] <;> omega

theorem foldl_add_shift (l : List Int) (a : Int) : l.foldl (· + ·) a = a + l.foldl (· + ·) 0 := by
  induction l generalizing a with
  | nil => simp
  | cons x xs ih => simp only [List.foldl_cons]; rw [ih (a + x), ih (0 + x)]; omega

def lenL (l : List FSp) : Int := (l.map FSp.length).foldl (· + ·) 0

theorem len_eq_lenL (m : FM) : len m = lenL m.spans := rfl
@[simp] theorem lenL_nil : lenL [] = 0 := rfl
@[simp] theorem lenL_cons (x : FSp) (l : List FSp) : lenL (x :: l) = x.length + lenL l := by
  simp only [lenL, List.map_cons, List.foldl_cons]; rw [foldl_add_shift]; omega
@[simp] theorem lenL_append (a b : List FSp) : lenL (a ++ b) = lenL a + lenL b := by
  induction a with
  | nil => simp
  | cons x xs ih => simp [ih]; omega
@[simp] theorem lenL_reverse (a : List FSp) : lenL a.reverse = lenL a := by
  induction a with
  | nil => simp
  | cons x xs ih => simp [ih]; omega

def NonNegL (l : List FSp) : Prop := ∀ x ∈ l, 0 ≤ x.length
def NonNeg (m : FM) : Prop := NonNegL m.spans
instance (l : List FSp) : Decidable (NonNegL l) := by unfold NonNegL; infer_instance
instance (m : FM) : Decidable (NonNeg m) := by unfold NonNeg; infer_instance

theorem NonNegL.tail {x : FSp} {l : List FSp} (h : NonNegL (x :: l)) : NonNegL l :=
  fun y hy => h y (List.mem_cons_of_mem _ hy)
theorem NonNegL.head {x : FSp} {l : List FSp} (h : NonNegL (x :: l)) : 0 ≤ x.length :=
  h x List.mem_cons_self
theorem lenL_nonneg {l : List FSp} (h : NonNegL l) : 0 ≤ lenL l := by
  induction l with
  | nil => simp
  | cons x xs ih => have := h.head; have := ih h.tail; simp; omega
theorem NonNegL.take {l : List FSp} (h : NonNegL l) (k : Nat) : NonNegL (l.take k) :=
  fun y hy => h y (List.mem_of_mem_take hy)
theorem NonNegL.drop {l : List FSp} (h : NonNegL l) (k : Nat) : NonNegL (l.drop k) :=
  fun y hy => h y (List.mem_of_mem_drop hy)

theorem NonNegL.nil : NonNegL [] := fun _ h => nomatch h
theorem NonNegL.cons {x : FSp} {l : List FSp} (hx : 0 ≤ x.length) (hl : NonNegL l) : NonNegL (x :: l) :=
  fun y hy => (List.mem_cons.1 hy).elim (fun h => h ▸ hx) (hl y)
theorem NonNegL.append {a b : List FSp} (ha : NonNegL a) (hb : NonNegL b) : NonNegL (a ++ b) :=
  fun y hy => (List.mem_append.1 hy).elim (ha y) (hb y)

def coverL (l : List FSp) : List (Option Int) := l.flatMap coverSp
theorem cover_eq_coverL (m : FM) : cover m = coverL m.spans := rfl
@[simp] theorem coverL_nil : coverL [] = [] := rfl
@[simp] theorem coverL_cons (x : FSp) (l : List FSp) : coverL (x :: l) = coverSp x ++ coverL l := by
  simp [coverL]
@[simp] theorem coverL_append (a b : List FSp) : coverL (a ++ b) = coverL a ++ coverL b := by
  simp [coverL]

@[simp] theorem coverSp_length (x : FSp) : (coverSp x).length = x.length.toNat := by
  cases x with
  | lost n => simp [coverSp, FSp.length]
  | span s e rv => simp only [coverSp]; split <;> simp [FSp.length]

theorem coverSp_lost (n : Int) : coverSp (.lost n) = List.replicate n.toNat none := rfl

theorem coverL_length {l : List FSp} (h : NonNegL l) : ((coverL l).length : Int) = lenL l := by
  induction l with
  | nil => simp
  | cons x xs ih =>
    have := h.head; have := ih h.tail
    simp; omega


/-! ### positions: what a cover list says at an integer position -/

/-- what map position `j` of a cover list points to (`none` = lost or outside the map) -/
def lookup (c : List (Option Int)) (j : Int) : Option Int :=
  if j < 0 then none else (c[j.toNat]?).join

/-- composition: position of the index map ↦ position of `m` ↦ parent position -/
def compose (c : List (Option Int)) : Option Int → Option Int
  | none => none
  | some j => lookup c j

/-- `[f s, f (s+1), …, f (e-1)]` -/
def irange (s e : Int) (f : Int → Option Int) : List (Option Int) :=
  (List.range (e - s).toNat).map (fun (i : Nat) => f (s + (i : Int)))

theorem coverSp_span_irange (s e : Int) (rv : Bool) :
    coverSp (.span s e rv) = if rv then (irange s e some).reverse else irange s e some := rfl

theorem irange_map (s e : Int) (f : Int → Option Int) (g : Option Int → Option Int) :
    (irange s e f).map g = irange s e (fun j => g (f j)) := by
  simp [irange]

theorem lookup_neg (c : List (Option Int)) {j : Int} (h : j < 0) : lookup c j = none := if_pos h

theorem lookup_natCast (c : List (Option Int)) (k : Nat) : lookup c k = c[k]?.join := by
  simp only [lookup, Int.toNat_natCast]; rw [if_neg (by omega)]

theorem getElem?_eq_some_some {c : List (Option Int)} {k : Nat} {p : Int} :
    c[k]? = some (some p) ↔ lookup c k = some p := by
  rw [lookup_natCast]; cases c[k]? <;> simp

theorem lookup_eq_some {c : List (Option Int)} {j p : Int} :
    lookup c j = some p ↔ 0 ≤ j ∧ c[j.toNat]? = some (some p) := by
  by_cases h : j < 0
  · rw [lookup_neg c h]; constructor
    · intro h; cases h
    · intro h'; omega
  · obtain ⟨k, rfl⟩ := Int.eq_ofNat_of_zero_le (Int.not_lt.1 h)
    rw [getElem?_eq_some_some]; simp

theorem lookup_of_length_le {c : List (Option Int)} {j : Int} (h : (c.length : Int) ≤ j) : lookup c j = none := by
  unfold lookup; split
  · rfl
  · rw [List.getElem?_eq_none (by omega)]; rfl

theorem lookup_append (A B : List (Option Int)) (j : Int) :
    lookup (A ++ B) j = if j < A.length then lookup A j else lookup B (j - A.length) := by
  by_cases h : j < 0
  · rw [lookup_neg _ h, lookup_neg _ h, lookup_neg _ (by omega)]; simp
  · obtain ⟨k, rfl⟩ := Int.eq_ofNat_of_zero_le (Int.not_lt.1 h)
    by_cases hk : k < A.length
    · rw [if_pos (by omega), lookup_natCast, lookup_natCast, List.getElem?_append_left hk]
    · rw [if_neg (by omega), show ((k : Int) - A.length) = ((k - A.length : Nat) : Int) by omega,
        lookup_natCast, lookup_natCast, List.getElem?_append_right (by omega)]

/-- a position of `A ++ B` is a position of `A`, or a position of `B` shifted by `A`'s length -/
theorem lookup_append_eq_some (A B : List (Option Int)) (j p : Int) :
    lookup (A ++ B) j = some p ↔ lookup A j = some p ∨ lookup B (j - A.length) = some p := by
  rw [lookup_append]
  split
  · rw [lookup_neg B (by omega)]; simp
  · rw [lookup_of_length_le (c := A) (by omega)]; simp

theorem mem_iff_lookup {c : List (Option Int)} {p : Int} : some p ∈ c ↔ ∃ j, lookup c j = some p := by
  rw [List.mem_iff_getElem?]
  constructor
  · rintro ⟨k, hk⟩; exact ⟨k, getElem?_eq_some_some.1 hk⟩
  · rintro ⟨j, hj⟩; exact ⟨j.toNat, (lookup_eq_some.1 hj).2⟩

theorem lookup_replicate_none (n : Nat) (j : Int) : lookup (List.replicate n none) j = none := by
  unfold lookup; split
  · rfl
  · rw [List.getElem?_replicate]; split <;> rfl

theorem lookup_coverSp_lost (n j : Int) : lookup (coverSp (.lost n)) j = none :=
  lookup_replicate_none _ j

theorem length_irange (s e : Int) (f : Int → Option Int) : (irange s e f).length = (e - s).toNat := by
  simp only [irange, List.length_map, List.length_range]

theorem lookup_irange (s e : Int) (f : Int → Option Int) (t : Int) :
    lookup (irange s e f) t = if 0 ≤ t ∧ t < e - s then f (s + t) else none := by
  by_cases h : t < 0
  · rw [lookup_neg _ h, if_neg (by omega)]
  · obtain ⟨k, rfl⟩ := Int.eq_ofNat_of_zero_le (Int.not_lt.1 h)
    rw [lookup_natCast]
    by_cases hk : k < (e - s).toNat
    · rw [List.getElem?_eq_getElem (by rw [length_irange]; exact hk),
        if_pos (show 0 ≤ (k : Int) ∧ (k : Int) < e - s by omega)]
      simp only [irange, List.getElem_map, List.getElem_range]; rfl
    · rw [List.getElem?_eq_none (by rw [length_irange]; omega),
        if_neg (show ¬ (0 ≤ (k : Int) ∧ (k : Int) < e - s) by omega)]; rfl

theorem lookup_reverse (c : List (Option Int)) (t : Int) :
    lookup c.reverse t = lookup c (c.length - 1 - t) := by
  by_cases h : t < 0
  · rw [lookup_neg _ h, lookup_of_length_le (by omega)]
  · obtain ⟨k, rfl⟩ := Int.eq_ofNat_of_zero_le (Int.not_lt.1 h)
    by_cases hk : k < c.length
    · rw [show (c.length : Int) - 1 - k = ((c.length - 1 - k : Nat) : Int) by omega, lookup_natCast, lookup_natCast,
        List.getElem?_reverse hk]
    · rw [lookup_of_length_le (by rw [List.length_reverse]; omega), lookup_neg _ (by omega)]

theorem lookup_coverSp_span (s e : Int) (rv : Bool) (t : Int) :
    lookup (coverSp (.span s e rv)) t =
      if 0 ≤ t ∧ t < e - s then some (if rv then e - 1 - t else s + t) else none := by
  rw [coverSp_span_irange]
  cases rv
  · simp only [Bool.false_eq_true, if_false, lookup_irange]
  · simp only [if_true, lookup_reverse, lookup_irange, length_irange]
    by_cases h : 0 ≤ t ∧ t < e - s
    · rw [if_pos h, if_pos (by omega)]; congr 1; omega
    · rw [if_neg h, if_neg (by omega)]

theorem lookup_coverSp_span_of_lt {s e t : Int} (rv : Bool) (h0 : 0 ≤ t) (h1 : t < e - s) :
    lookup (coverSp (.span s e rv)) t = some (if rv then e - 1 - t else s + t) := by
  rw [lookup_coverSp_span, if_pos ⟨h0, h1⟩]

/-- inside its own block a span says `none` exactly if it is a lost span -/
theorem lookup_coverSp_eq_none (x : FSp) {t : Int} (h0 : 0 ≤ t) (h1 : t < x.length) :
    lookup (coverSp x) t = none ↔ x.isLost = true := by
  cases x with
  | lost n => simp only [lookup_coverSp_lost, FSp.isLost]
  | span s e rv => simp only [lookup_coverSp_span_of_lt rv h0 h1, FSp.isLost, reduceCtorEq]

theorem lookup_coverL_cons {x : FSp} (h : 0 ≤ x.length) (r : List FSp) (j : Int) :
    lookup (coverL (x :: r)) j =
      if j < x.length then lookup (coverSp x) j else lookup (coverL r) (j - x.length) := by
  rw [coverL_cons, lookup_append, coverSp_length, Int.toNat_of_nonneg h]

theorem lookup_coverL_append {a : List FSp} (h : NonNegL a) (b : List FSp) (j : Int) :
    lookup (coverL (a ++ b)) j =
      if j < lenL a then lookup (coverL a) j else lookup (coverL b) (j - lenL a) := by
  rw [coverL_append, lookup_append, coverL_length h]

theorem lookup_coverL_cons_eq_some {x : FSp} (h : 0 ≤ x.length) (r : List FSp) (j p : Int) :
    lookup (coverL (x :: r)) j = some p ↔
      lookup (coverSp x) j = some p ∨ lookup (coverL r) (j - x.length) = some p := by
  rw [coverL_cons, lookup_append_eq_some, coverSp_length, Int.toNat_of_nonneg h]

/-- "`c` and `d` are converse relations", in terms of list indexing -/
theorem getElem?_of_converse {c d : List (Option Int)}
    (h : ∀ k j : Int, lookup c k = some j ↔ lookup d j = some k) (k : Nat) (j : Int) :
    c[k]? = some (some j) ↔ 0 ≤ j ∧ d[j.toNat]? = some (some (k : Int)) :=
  getElem?_eq_some_some.trans ((h k j).trans lookup_eq_some)

/-- the same read from the other side: what `d` shows at index `j` is an index of `c`, where `c` shows `j` -/
theorem getElem?_of_converse_symm {c d : List (Option Int)}
    (h : ∀ k j : Int, lookup c k = some j ↔ lookup d j = some k) {j : Nat} {p : Int}
    (hj : d[j]? = some (some p)) : 0 ≤ p ∧ c[p.toNat]? = some (some (j : Int)) :=
  lookup_eq_some.1 ((h p j).2 (getElem?_eq_some_some.1 hj))

theorem ext_lookup {c d : List (Option Int)} (hl : c.length = d.length) (h : ∀ j, lookup c j = lookup d j) :
    c = d := by
  apply List.ext_getElem hl
  intro n h1 h2
  have := h n
  rwa [lookup_natCast, lookup_natCast, List.getElem?_eq_getElem h1, List.getElem?_eq_getElem h2] at this


theorem mem_coverSp_span (s e p : Int) (rv : Bool) : some p ∈ coverSp (.span s e rv) ↔ s ≤ p ∧ p < e := by
  have : some p ∈ irange s e some ↔ s ≤ p ∧ p < e := by
    simp only [irange, List.mem_map, List.mem_range]
    constructor
    · rintro ⟨i, hi, h⟩; injection h with h; omega
    · intro h; exact ⟨(p - s).toNat, by omega, by congr 1; omega⟩
  rw [coverSp_span_irange, ← this]
  cases rv <;> simp

theorem mem_coverSp (x : FSp) (p : Int) :
    some p ∈ coverSp x ↔ ∃ s e rv, x = .span s e rv ∧ s ≤ p ∧ p < e := by
  cases x with
  | lost n => simp [coverSp]
  | span s e rv =>
    rw [mem_coverSp_span]
    exact ⟨fun h => ⟨s, e, rv, rfl, h⟩, fun ⟨_, _, _, h, h1⟩ => by cases h; exact h1⟩

theorem mem_coverL (l : List FSp) (p : Int) :
    some p ∈ coverL l ↔ ∃ s e rv, .span s e rv ∈ l ∧ s ≤ p ∧ p < e := by
  simp only [coverL, List.mem_flatMap, mem_coverSp]
  constructor
  · rintro ⟨x, hx, s, e, rv, rfl, h⟩; exact ⟨s, e, rv, hx, h⟩
  · rintro ⟨s, e, rv, hx, h⟩; exact ⟨_, hx, s, e, rv, rfl, h⟩

theorem coverSp_reversed (x : FSp) : coverSp x.reversed = (coverSp x).reverse := by
  cases x with
  | lost n => simp [FSp.reversed, coverSp]
  | span s e rv => cases rv <;> simp [FSp.reversed, coverSp]

theorem lookup_map (f : Int → Int) (c : List (Option Int)) (t : Int) :
    lookup (c.map (Option.map f)) t = (lookup c t).map f := by
  unfold lookup; split
  · rfl
  · rw [List.getElem?_map]; cases c[t.toNat]? with
    | none => rfl
    | some o => rfl

/-- seen from the other end of a parent of length `L` and on the other strand, a span reads the mirror image of every
    position, in the same order -/
theorem coverSp_mirror (L s e : Int) (rv : Bool) :
    coverSp (.span (L - e) (L - e + (e - s)) (!rv)) = (coverSp (.span s e rv)).map (flip L) := by
  refine ext_lookup (by simp only [coverSp_length, List.length_map, FSp.length]; congr 1; omega) fun t => ?_
  rw [flip, lookup_map, lookup_coverSp_span, lookup_coverSp_span]
  by_cases ht : 0 ≤ t ∧ t < e - s
  · rw [if_pos ht, if_pos (by omega)]
    cases rv <;> simp only [Bool.not_false, Bool.not_true, if_true, Bool.false_eq_true, if_false, Option.map_some,
      Option.some.injEq] <;> omega
  · rw [if_neg ht, if_neg (by omega)]; rfl

end CogentModel.FMap
