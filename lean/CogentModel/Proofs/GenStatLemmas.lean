import CogentModel.Proofs.RateMatrixLemmas
/-! C05: `GeneralStationary.calc_exchangeability_matrix` — the `last_in_column` loop balances every column. -/

namespace CogentModel.RateMatrix
open Finset
set_option linter.unusedSectionVars false

variable {K : Type*} [Field K]

/-- `dot(mprobs, R[j])` -/
def rowT (n : Nat) (pi : Vec K) (R : Mat K) (j : Nat) : K := ∑ k ∈ range n, vget pi k * mget R j k
/-- `dot(mprobs, R[:, j])` -/
def colT (n : Nat) (pi : Vec K) (R : Mat K) (j : Nat) : K := ∑ k ∈ range n, vget pi k * mget R k j
/-- `R[i, j] = v` -/
def setCell (n : Nat) (R : Mat K) (i j : Nat) (v : K) : Mat K := tab n fun a b => if a = i ∧ b = j then v else mget R a b

theorem mget_setCell (n : Nat) (R : Mat K) (i j : Nat) (v : K) {a b : Nat} (ha : a < n) (hb : b < n) :
    mget (setCell n R i j v) a b = if a = i ∧ b = j then v else mget R a b := mget_tab _ ha hb

theorem colT_setCell_same (n : Nat) (pi : Vec K) (R : Mat K) (i j : Nat) (v : K) (hi : i < n) (hj : j < n) :
    colT n pi (setCell n R i j v) j = colT n pi R j + vget pi i * (v - mget R i j) := by
  unfold colT
  rw [sum_range_congr (g := fun k => vget pi k * mget R k j + if k = i then vget pi i * (v - mget R i j) else 0) fun k hk => by
    rw [mget_setCell n R i j v hk hj]
    by_cases h : k = i
    · rw [if_pos ⟨h, rfl⟩, if_pos h, h, ← mul_add, add_sub_cancel]
    · rw [if_neg fun hh => h hh.1, if_neg h, add_zero]]
  rw [Finset.sum_add_distrib, Finset.sum_ite_eq', if_pos (Finset.mem_range.mpr hi)]

theorem colT_setCell_other (n : Nat) (pi : Vec K) (R : Mat K) (i j' j : Nat) (v : K) (hj : j < n) (hne : j ≠ j') :
    colT n pi (setCell n R i j' v) j = colT n pi R j := by
  unfold colT
  exact sum_range_congr fun k hk => by rw [mget_setCell n R i j' v hk hj, if_neg (fun h => hne h.2)]

theorem rowT_setCell_other (n : Nat) (pi : Vec K) (R : Mat K) (i j' j : Nat) (v : K) (hj : j < n) (hne : j ≠ i) :
    rowT n pi (setCell n R i j' v) j = rowT n pi R j := by
  unfold rowT
  exact sum_range_congr fun k hk => by rw [mget_setCell n R i j' v hj hk, if_neg (fun h => hne h.1)]

/-- global conservation: `∑_j π_j·col_j = ∑_j π_j·row_j` -/
theorem flow_conservation (n : Nat) (pi : Vec K) (R : Mat K) :
    ∑ j ∈ range n, vget pi j * colT n pi R j = ∑ j ∈ range n, vget pi j * rowT n pi R j := by
  unfold colT rowT
  simp only [Finset.mul_sum]
  rw [Finset.sum_comm]
  exact Finset.sum_congr rfl fun k _ => Finset.sum_congr rfl fun j _ => mul_left_comm _ _ _

section ordered
variable [LinearOrder K] [IsStrictOrderedRing K]

theorem absA_eq_abs (x : K) : absA x = |x| := by
  unfold absA
  by_cases h : x < 0
  · rw [if_pos h, abs_of_neg h]
  · rw [if_neg h, abs_of_nonneg (not_lt.mp h)]

/-- the value written by one pass (`required`, after the `allclose` adjustment) -/
def gsReq (n : Nat) (pi : Vec K) (R : Mat K) (j : Nat) : K := rowT n pi R j - colT n pi R j
def gsAdj (tol x : K) : K := if |x| ≤ tol then |x| else x

theorem gsAdj_nonneg (tol x : K) (hx : 0 ≤ x) : gsAdj tol x = x := by
  unfold gsAdj
  rw [abs_of_nonneg hx, ite_self]

/-- the adjusted value is negative exactly below `-tol`: values in `[-tol, 0)` are replaced by their absolute value -/
theorem gsAdj_neg_iff (tol x : K) (htol : 0 ≤ tol) : gsAdj tol x < 0 ↔ x < -tol := by
  unfold gsAdj
  by_cases hs : |x| ≤ tol
  · rw [if_pos hs]
    exact iff_of_false (not_lt.mpr (abs_nonneg x)) (not_lt.mpr (abs_le.mp hs).1)
  · rw [if_neg hs]
    refine ⟨fun hx => ?_, fun hx => lt_of_lt_of_le hx (neg_nonpos.mpr htol)⟩
    rw [abs_of_neg hx] at hs
    exact lt_neg_of_lt_neg (not_le.mp hs)

/-- column `j` is balanced: `π`-weighted inflow = outflow (`col_total = row_total`) -/
def Bal (n : Nat) (pi : Vec K) (R : Mat K) (j : Nat) : Prop := colT n pi R j = rowT n pi R j

/-- the matrix after one successful pass -/
def gsNext (n : Nat) (tol : K) (pi : Vec K) (R : Mat K) (ij : Nat × Nat) : Mat K :=
  setCell n R ij.1 ij.2 (gsAdj tol (gsReq n pi R ij.2) / vget pi ij.1)

/-- every required value met along the run is non-negative (no `allclose` adjustment is ever active) -/
def GsExact (n : Nat) (tol : K) (pi : Vec K) : Mat K → List (Nat × Nat) → Prop
  | _, [] => True
  | R, ij :: rest => 0 ≤ gsReq n pi R ij.2 ∧ GsExact n tol pi (gsNext n tol pi R ij) rest

theorem gsStep_eq (n : Nat) (tol : K) (pi : Vec K) (R : Mat K) (ij : Nat × Nat) :
    gsStep n tol pi R ij = if gsAdj tol (gsReq n pi R ij.2) < 0 then none else some (gsNext n tol pi R ij) := by
  unfold gsStep gsNext gsAdj gsReq rowT colT setCell
  simp only [sumTo_eq_sum, absA_eq_abs]

theorem gsLoop_cons (n : Nat) (tol : K) (pi : Vec K) (R : Mat K) (ij : Nat × Nat) (rest : List (Nat × Nat)) :
    gsLoop n tol pi R (ij :: rest) =
      if gsAdj tol (gsReq n pi R ij.2) < 0 then none else gsLoop n tol pi (gsNext n tol pi R ij) rest := by
  rw [gsLoop, gsStep_eq]
  split_ifs <;> rfl

theorem gsNext_cell_other (n : Nat) (tol : K) (pi : Vec K) (R : Mat K) (ij : Nat × Nat) {a b : Nat} (ha : a < n) (hb : b < n)
    (hne : b ≠ ij.2) : mget (gsNext n tol pi R ij) a b = mget R a b := by
  unfold gsNext; rw [mget_setCell n R _ _ _ ha hb, if_neg (fun h => hne h.2)]

/-- the `last_in_column` loop: every listed column ends balanced, and untouched balanced columns stay balanced -/
theorem gsLoop_balanced (n : Nat) (tol : K) (pi : Vec K) (l : List (Nat × Nat)) : ∀ (R R' : Mat K),
    gsLoop n tol pi R l = some R' → GsExact n tol pi R l →
    l.Pairwise (fun a b => b.2 ≠ a.2 ∧ b.1 ≠ a.2) →
    (∀ ij ∈ l, ij.1 < n ∧ ij.2 < n ∧ ij.1 ≠ ij.2 ∧ vget pi ij.1 ≠ 0 ∧ mget R ij.1 ij.2 = 0) →
    (∀ j, j < n → (∃ i, (i, j) ∈ l) → Bal n pi R' j) ∧
    (∀ j, j < n → (∀ ij ∈ l, ij.2 ≠ j ∧ ij.1 ≠ j) → Bal n pi R j → Bal n pi R' j) := by
  induction l with
  | nil =>
    intro R R' h _ _ _
    rw [← Option.some.inj h]
    exact ⟨fun j _ ⟨i, hi⟩ => absurd hi List.not_mem_nil, fun j _ _ hb => hb⟩
  | cons ij rest ih =>
    intro R R' h hex hpw hcells
    rw [gsLoop_cons] at h
    by_cases hneg : gsAdj tol (gsReq n pi R ij.2) < 0
    · rw [if_pos hneg] at h; exact absurd h nofun
    rw [if_neg hneg] at h
    obtain ⟨hhead, hpw'⟩ := List.pairwise_cons.mp hpw
    have hreq := hex.1
    obtain ⟨hi, hj, hij, hpi, h0⟩ := hcells ij List.mem_cons_self
    obtain ⟨ih1, ih2⟩ := ih _ R' h hex.2 hpw' fun ij' hm =>
      have hc := hcells ij' (List.mem_cons_of_mem _ hm)
      ⟨hc.1, hc.2.1, hc.2.2.1, hc.2.2.2.1,
        (gsNext_cell_other n tol pi R ij hc.1 hc.2.1 (hhead ij' hm).1).trans hc.2.2.2.2⟩
    refine ⟨?_, ?_⟩
    · intro j hjn ⟨i, him⟩
      rcases List.mem_cons.mp him with heq | hm
      · -- the head balances column j; the rest never touches it
        rw [← heq] at hhead hi hj hij hreq hpi h0 ih2
        refine ih2 j hjn hhead ?_
        unfold Bal gsNext
        rw [colT_setCell_same n pi R i j _ hi hj, rowT_setCell_other n pi R i j j _ hj (Ne.symm hij), h0, sub_zero,
          gsAdj_nonneg tol _ hreq, mul_div_cancel₀ _ hpi]
        exact add_sub_cancel _ _
      · exact ih1 j hjn ⟨i, hm⟩
    · intro j hjn hall hb
      have hh := hall ij List.mem_cons_self
      -- the head writes neither in column j nor in row j
      refine ih2 j hjn (fun ij' hm => hall ij' (List.mem_cons_of_mem _ hm)) ?_
      unfold Bal gsNext
      rw [colT_setCell_other n pi R _ _ j _ hjn (Ne.symm hh.1), rowT_setCell_other n pi R _ _ j _ hjn (Ne.symm hh.2)]
      exact hb

/-- with all columns but `j0` balanced and `π_{j0} ≠ 0`, conservation balances `j0` as well -/
theorem bal_last (n : Nat) (pi : Vec K) (R : Mat K) (j0 : Nat) (hj0 : j0 < n) (hpi : vget pi j0 ≠ 0)
    (h : ∀ j, j < n → j ≠ j0 → Bal n pi R j) : Bal n pi R j0 := by
  have hc := flow_conservation n pi R
  have hsplit : ∀ f : Nat → K, ∑ j ∈ range n, f j = f j0 + ∑ j ∈ (range n).erase j0, f j :=
    fun f => (Finset.add_sum_erase _ f (Finset.mem_range.mpr hj0)).symm
  rw [hsplit, hsplit (fun j => vget pi j * rowT n pi R j)] at hc
  have hrest : ∑ j ∈ (range n).erase j0, vget pi j * colT n pi R j = ∑ j ∈ (range n).erase j0, vget pi j * rowT n pi R j :=
    Finset.sum_congr rfl fun j hj => by
      rw [h j (Finset.mem_range.mp (Finset.mem_of_mem_erase hj)) (Finset.ne_of_mem_erase hj)]
  rw [hrest] at hc
  exact mul_left_cancel₀ hpi (add_right_cancel hc)

/-- every required value met along the (tolerant) run is `≥ -tol`: exactly when the loop succeeds (`gsLoop_isSome_iff`) -/
def GsOk (n : Nat) (tol : K) (pi : Vec K) : Mat K → List (Nat × Nat) → Prop
  | _, [] => True
  | R, ij :: rest => -tol ≤ gsReq n pi R ij.2 ∧ GsOk n tol pi (gsNext n tol pi R ij) rest

theorem gsLoop_isSome_iff (n : Nat) (tol : K) (htol : 0 ≤ tol) (pi : Vec K) (l : List (Nat × Nat)) : ∀ R : Mat K,
    (gsLoop n tol pi R l).isSome = true ↔ GsOk n tol pi R l := by
  induction l with
  | nil => exact fun R => iff_of_true rfl trivial
  | cons ij rest ih =>
    intro R
    rw [gsLoop_cons, GsOk, ← not_lt, ← gsAdj_neg_iff tol _ htol]
    by_cases h : gsAdj tol (gsReq n pi R ij.2) < 0
    · rw [if_pos h]; exact iff_of_false nofun fun hh => hh.1 h
    · rw [if_neg h, ih]; exact (and_iff_right h).symm

end ordered
end CogentModel.RateMatrix
