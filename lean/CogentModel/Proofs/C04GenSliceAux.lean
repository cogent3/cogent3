/-
  The prelude's FeatureMap accessors (Model/FeatureSliceGenPrelude.lean) versus the hand model's `realOf` /
  `sliceIdx` / `contigIdx`, for Props/C04GenSlice.lean.  Nothing here mentions generated text.
-/
import CogentModel.Model.FeatureSliceGenPrelude
import CogentModel.Proofs.FeatureContig
namespace CogentModel.C04GenSlice
open CogentModel.View CogentModel.SeqWrap CogentModel.FeatureView

theorem complete_withoutGaps (m : FMapG) : (FMapG.withoutGaps m).complete = true := by
  simp [FMapG.complete, FMapG.withoutGaps]

theorem realOf_withoutGaps (m : FMapG) : realOf (FMapG.withoutGaps m).spans = realOf m.spans := by
  unfold FMapG.withoutGaps realOf
  simp only []
  induction m.spans with
  | nil => rfl
  | cons x xs ih =>
    cases x with
    | span a b =>
      have hx : (!(MSpan.span a b).isLost) = true := rfl
      simp only [List.filter_cons, hx, if_true, List.filterMap_cons, ih]
    | lost n =>
      have hx : (!(MSpan.lost n).isLost) = false := rfl
      simp only [List.filter_cons, hx, Bool.false_eq_true, if_false, List.filterMap_cons, ih]

theorem withoutGaps_of_complete (m : FMapG) (h : m.complete = true) : FMapG.withoutGaps m = m := by
  unfold FMapG.withoutGaps
  unfold FMapG.complete at h
  have : m.spans.filter (fun x => !x.isLost) = m.spans := List.filter_eq_self.mpr (by simpa using h)
  rw [this]

theorem flatten_strSlice (comp : Char → Char) (s : Seq) (r : List (Int × Int)) :
    (r.map fun p => strSlice comp s p.1 p.2).flatten =
      (r.flatMap fun p => FeatureSpec.seg p.1 p.2).map fun i => (str comp s)[i.toNat]! := by
  induction r with
  | nil => rfl
  | cons p ps ih =>
    rw [List.map_cons, List.flatten_cons, List.flatMap_cons, List.map_append, ih]; rfl

/-- the hand model's reading of `self.parent[m]` for the OLD class: residues of the real spans, joined -/
def joined (comp : Char → Char) (s : Seq) (m : List MSpan) : List Char :=
  (sliceIdx { spans := m, reversed := false }).map fun i => (str comp s)[i.toNat]!

theorem spans_of_complete (sp : List MSpan) (h : (sp.all fun x => !x.isLost) = true) : sp = (realOf sp).map spanOf := by
  induction sp with
  | nil => rfl
  | cons x xs ih =>
    simp only [List.all_cons, Bool.and_eq_true] at h
    cases x with
    | lost n => simp [MSpan.isLost] at h
    | span a b =>
      have := ih h.2
      simp only [realOf, List.filterMap_cons, List.map_cons, spanOf] at this ⊢
      rw [← this]

end CogentModel.C04GenSlice
