import Mathlib.Algebra.BigOperators.Ring.Finset
import Mathlib.Algebra.BigOperators.Group.Finset.Basic
import Mathlib.Data.List.Perm.Basic
import CogentModel.Proofs.Prune
import CogentModel.Model.PruneInvariance
/-!
C11: renaming.  Leaves are looked up by name (`mapLeaves`, `lookupRow`), and a permutation of the states applied to
matrices, profiles and root distribution alike changes nothing.
-/
namespace CogentModel.Prune
open Finset

section trees
variable {R α : Type}

theorem mat_mapLeaves {β : Type} (f : α → β) (t : PTree R α) : (t.mapLeaves f).mat = t.mat := by
  cases t <;> rfl

theorem mat_mapMats (f : Mat R → Mat R) (c : PTree R α) : (c.mapMats f).mat = f c.mat := by
  cases c <;> rfl

end trees

section semiring
variable {R : Type} [CommSemiring R] {α : Type}

/-! ### leaves are looked up by name -/
mutual
theorem plh_mapLeaves {β : Type} (m : Nat) (prof : β → Nat → R) (f : α → β) :
    ∀ t : PTree R α, plh m prof (t.mapLeaves f) = plh m (fun a => prof (f a)) t
  | .leaf P a => by simp [PTree.mapLeaves, plh]
  | .node P cs => by
    simp only [PTree.mapLeaves, plh_node]
    exact prodUp_mapLeaves m prof f cs
theorem prodUp_mapLeaves {β : Type} (m : Nat) (prof : β → Nat → R) (f : α → β) :
    ∀ cs : List (PTree R α), prodUp m prof (PTree.mapLeavesL f cs) = prodUp m (fun a => prof (f a)) cs
  | [] => by simp [PTree.mapLeavesL, prodUp]
  | c :: cs => by
    simp only [PTree.mapLeavesL, prodUp]
    rw [mat_mapLeaves, plh_mapLeaves m prof f c, prodUp_mapLeaves m prof f cs]
end

theorem lookupRow_perm {κ δ : Type} [DecidableEq κ] (d : δ) {rows rows' : List (κ × δ)}
    (h : rows.Perm rows') (hn : (rows.map Prod.fst).Nodup) (a : κ) :
    lookupRow d rows a = lookupRow d rows' a := by
  induction h with
  | nil => rfl
  | cons x _ ih =>
    obtain ⟨k, v⟩ := x
    simp only [List.map_cons, List.nodup_cons] at hn
    simp only [lookupRow, ih hn.2]
  | swap x y l =>
    obtain ⟨k, v⟩ := x
    obtain ⟨k', v'⟩ := y
    simp only [List.map_cons, List.nodup_cons, List.mem_cons, not_or] at hn
    simp only [lookupRow]
    by_cases h1 : k = a <;> by_cases h2 : k' = a <;> simp [h1, h2]
    exact absurd (h2.trans h1.symm) hn.1.1
  | trans h1 _ ih1 ih2 =>
    rw [ih1 hn, ih2 ((h1.map Prod.fst).nodup_iff.mp hn)]

/-! ### renaming the states -/

/-- `σ` is a permutation of the states `< m` with inverse `τ` -/
structure PermOn (m : Nat) (σ τ : Nat → Nat) : Prop where
  σ_lt : ∀ i, i < m → σ i < m
  τ_lt : ∀ i, i < m → τ i < m
  τσ : ∀ i, i < m → τ (σ i) = i
  στ : ∀ i, i < m → σ (τ i) = i

theorem sum_permOn {m : Nat} {σ τ : Nat → Nat} (h : PermOn m σ τ) (f : Nat → R) :
    ∑ i ∈ range m, f (σ i) = ∑ i ∈ range m, f i :=
  Finset.sum_nbij' σ τ (by simpa only [mem_range] using h.σ_lt) (by simpa only [mem_range] using h.τ_lt)
    (by simpa only [mem_range] using h.τσ) (by simpa only [mem_range] using h.στ) (fun _ _ => rfl)

mutual
theorem plh_permStates (m : Nat) (σ τ : Nat → Nat) (h : PermOn m σ τ) (prof : α → Nat → R) :
    ∀ (t : PTree R α) (s : Nat),
      (plh m (fun a i => prof a (σ i)) (t.mapMats (permMat σ))).get s = (plh m prof t).get (σ s)
  | .leaf P a, s => by simp [PTree.mapMats]
  | .node P cs, s => by
    simp only [PTree.mapMats, plh_node]
    exact prodUp_permStates m σ τ h prof cs s
theorem prodUp_permStates (m : Nat) (σ τ : Nat → Nat) (h : PermOn m σ τ) (prof : α → Nat → R) :
    ∀ (cs : List (PTree R α)) (s : Nat),
      (prodUp m (fun a i => prof a (σ i)) (PTree.mapMatsL (permMat σ) cs)).get s = (prodUp m prof cs).get (σ s)
  | [], s => by simp [PTree.mapMatsL]
  | c :: cs, s => by
    simp only [PTree.mapMatsL, prodUp_cons, up_get]
    rw [prodUp_permStates m σ τ h prof cs s]
    congr 1
    rw [mat_mapMats]
    simp only [permMat, plh_permStates m σ τ h prof c]
    exact sum_permOn h (fun u => c.mat (σ s) u * (plh m prof c).get u)
end

end semiring
end CogentModel.Prune
