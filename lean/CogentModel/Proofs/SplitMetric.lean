import Mathlib.Tactic.Ring
import Mathlib.Tactic.Linarith
import Mathlib.Algebra.Order.Field.Rat
/-! Trees on the leaves `0..L-1` as weighted compatible split systems; the path metric `splitDist` is symmetric, zero on the
diagonal and satisfies the triangle inequality. -/
namespace CogentModel.NJ

/-- a split of the leaves `0..L-1`, given by the side (`true`/`false`) of every leaf -/
abbrev Side := Nat → Bool

/-- weighted splits: (branch length, split) -/
abbrev WSplits := List (Rat × Side)

/-- 1 if the split separates `x` and `y`, else 0 -/
def sep (s : Side) (x y : Nat) : Rat := if s x = s y then 0 else 1

/-- `Σ_S w_S · g(S)` -/
def wsum : WSplits → (Side → Rat) → Rat
  | [], _ => 0
  | S :: r, g => S.1 * g S.2 + wsum r g

/-- the path metric of the tree: sum of the lengths of the branches (splits) separating `x` and `y` -/
def splitDist (Sg : WSplits) (x y : Nat) : Rat := wsum Sg (fun s => sep s x y)

/-- two splits of `0..L-1` are compatible: one of the four intersections of their sides is empty -/
def Compat (L : Nat) (s t : Side) : Prop := ∃ a b : Bool, ∀ x, x < L → ¬ (s x = a ∧ t x = b)

/-- a tree on the leaves `0..L-1` as a split system: non-negative branch lengths, pairwise compatible splits -/
structure SplitSystem (L : Nat) (Sg : WSplits) : Prop where
  nonneg : ∀ S ∈ Sg, 0 ≤ S.1
  compat : ∀ S ∈ Sg, ∀ T ∈ Sg, Compat L S.2 T.2

theorem wsum_add (Sg : WSplits) (g h : Side → Rat) : wsum Sg (fun s => g s + h s) = wsum Sg g + wsum Sg h := by
  induction Sg with
  | nil => simp [wsum]
  | cons S r ih => simp only [wsum]; rw [ih]; ring

theorem wsum_sub (Sg : WSplits) (g h : Side → Rat) : wsum Sg (fun s => g s - h s) = wsum Sg g - wsum Sg h := by
  induction Sg with
  | nil => simp [wsum]
  | cons S r ih => simp only [wsum]; rw [ih]; ring

theorem wsum_smul (Sg : WSplits) (c : Rat) (g : Side → Rat) : wsum Sg (fun s => c * g s) = c * wsum Sg g := by
  induction Sg with
  | nil => simp [wsum]
  | cons S r ih => simp only [wsum]; rw [ih]; ring

theorem wsum_append (A B : WSplits) (g : Side → Rat) : wsum (A ++ B) g = wsum A g + wsum B g := by
  induction A with
  | nil => simp [wsum]
  | cons S r ih => simp only [List.cons_append, wsum]; rw [ih]; ring

theorem wsum_congr (Sg : WSplits) (g h : Side → Rat) (hgh : ∀ S ∈ Sg, g S.2 = h S.2) : wsum Sg g = wsum Sg h := by
  induction Sg with
  | nil => rfl
  | cons S r ih =>
    simp only [wsum]
    rw [hgh S List.mem_cons_self, ih fun T hT => hgh T (List.mem_cons_of_mem _ hT)]

theorem wsum_eq_zero (Sg : WSplits) (g : Side → Rat) (h : ∀ S ∈ Sg, g S.2 = 0) : wsum Sg g = 0 := by
  induction Sg with
  | nil => rfl
  | cons S r ih =>
    simp only [wsum]
    rw [h S List.mem_cons_self, ih fun T hT => h T (List.mem_cons_of_mem _ hT), mul_zero, add_zero]

/-- terms may be changed on zero-weight splits -/
theorem wsum_congr_pos (Sg : WSplits) (g h : Side → Rat) (hn : ∀ S ∈ Sg, 0 ≤ S.1)
    (hgh : ∀ S ∈ Sg, 0 < S.1 → g S.2 = h S.2) : wsum Sg g = wsum Sg h := by
  induction Sg with
  | nil => rfl
  | cons S r ih =>
    simp only [wsum]
    rw [ih (fun T hT => hn T (List.mem_cons_of_mem _ hT)) (fun T hT => hgh T (List.mem_cons_of_mem _ hT))]
    rcases lt_or_eq_of_le (hn S (List.mem_cons_self)) with h | h
    · rw [hgh S (List.mem_cons_self) h]
    · rw [← h, zero_mul, zero_mul]

/-- a term with non-negative weight counts non-negatively if it does so whenever the weight is positive -/
theorem term_nonneg {w x : Rat} (hw : 0 ≤ w) (h : 0 < w → 0 ≤ x) : 0 ≤ w * x := by
  rcases lt_or_eq_of_le hw with hp | hz
  · exact mul_nonneg hw (h hp)
  · rw [← hz, zero_mul]

theorem wsum_nonneg (Sg : WSplits) (g : Side → Rat) (hn : ∀ S ∈ Sg, 0 ≤ S.1)
    (hg : ∀ S ∈ Sg, 0 < S.1 → 0 ≤ g S.2) : 0 ≤ wsum Sg g := by
  induction Sg with
  | nil => exact le_refl _
  | cons S r ih =>
    exact add_nonneg (term_nonneg (hn S List.mem_cons_self) (hg S List.mem_cons_self))
      (ih (fun T hT => hn T (List.mem_cons_of_mem _ hT)) fun T hT => hg T (List.mem_cons_of_mem _ hT))

theorem wsum_pos (Sg : WSplits) (g : Side → Rat) (hn : ∀ S ∈ Sg, 0 ≤ S.1)
    (hg : ∀ S ∈ Sg, 0 < S.1 → 0 ≤ g S.2) (S0 : Rat × Side) (h0 : S0 ∈ Sg) (hw : 0 < S0.1) (hg0 : 0 < g S0.2) :
    0 < wsum Sg g := by
  induction Sg with
  | nil => cases h0
  | cons S r ih =>
    have hn' := fun T hT => hn T (List.mem_cons_of_mem S hT)
    have hg' := fun T hT => hg T (List.mem_cons_of_mem S hT)
    rcases List.mem_cons.1 h0 with rfl | h0
    · exact add_pos_of_pos_of_nonneg (mul_pos hw hg0) (wsum_nonneg r g hn' hg')
    · exact add_pos_of_nonneg_of_pos (term_nonneg (hn S List.mem_cons_self) (hg S List.mem_cons_self))
        (ih hn' hg' h0)

theorem sep_of_eq {s : Side} {x y : Nat} (h : s x = s y) : sep s x y = 0 := if_pos h
theorem sep_of_ne {s : Side} {x y : Nat} (h : s x ≠ s y) : sep s x y = 1 := if_neg h

theorem sep_nonneg (s : Side) (x y : Nat) : 0 ≤ sep s x y := by
  unfold sep; split
  · exact le_refl _
  · exact zero_le_one

theorem bool_eq_of_ne_ne {a b c : Bool} (h1 : a ≠ c) (h2 : b ≠ c) : a = b := by revert a b c; decide

theorem bool_ne_cases {a b : Bool} (c : Bool) (h : a ≠ b) : a = (!c) ∧ b = c ∨ b = (!c) ∧ a = c := by
  revert a b c; decide

/-- a third leaf is on the side of exactly one of two separated leaves -/
theorem sep_third (s : Side) (i j y : Nat) (h : s i ≠ s j) :
    sep s i y = 0 ∧ sep s j y = 1 ∨ sep s i y = 1 ∧ sep s j y = 0 := by
  by_cases hy : s i = s y
  · exact Or.inl ⟨sep_of_eq hy, sep_of_ne fun e => h (hy.trans e.symm)⟩
  · exact Or.inr ⟨sep_of_ne hy, sep_of_eq (bool_eq_of_ne_ne (fun e => h e.symm) fun e => hy e.symm)⟩

/-- the entry formula of `new_dists`, split by split: branches separating `i, j` drop out, the others count as for `i` -/
theorem sep_newDist (s : Side) (i j y : Nat) :
    (1 / 2 : Rat) * (sep s i y + sep s j y - sep s i j) = (if s i = s j then 1 else 0) * sep s i y := by
  by_cases h : s i = s j
  · rw [if_pos h, sep_of_eq h, sep, sep, h]; ring
  · rw [if_neg h, sep_of_ne h]
    rcases sep_third s i j y h with ⟨h1, h2⟩ | ⟨h1, h2⟩ <;> rw [h1, h2] <;> ring

theorem sep_symm (s : Side) (x y : Nat) : sep s x y = sep s y x := if_congr eq_comm rfl rfl

theorem sep_self (s : Side) (x : Nat) : sep s x x = 0 := if_pos rfl

theorem splitDist_symm (Sg : WSplits) (x y : Nat) : splitDist Sg x y = splitDist Sg y x := by
  unfold splitDist; congr 1; funext s; exact sep_symm s x y

theorem splitDist_self (Sg : WSplits) (x : Nat) : splitDist Sg x x = 0 :=
  wsum_eq_zero Sg _ fun S _ => sep_self S.2 x

theorem sep_triangle (s : Side) (x y z : Nat) : sep s x z ≤ sep s x y + sep s y z := by
  by_cases h : s x = s z
  · rw [sep_of_eq h]; exact add_nonneg (sep_nonneg s x y) (sep_nonneg s y z)
  · rw [sep_of_ne h, sep_symm s y z]
    rcases sep_third s x z y h with ⟨h1, h2⟩ | ⟨h1, h2⟩ <;> rw [h1, h2] <;> norm_num

theorem splitDist_triangle (Sg : WSplits) (hn : ∀ S ∈ Sg, 0 ≤ S.1) (x y z : Nat) :
    splitDist Sg x z ≤ splitDist Sg x y + splitDist Sg y z := by
  unfold splitDist
  rw [← wsum_add]
  have := wsum_nonneg Sg (fun s => (sep s x y + sep s y z) - sep s x z) hn
    (fun S _ _ => by have := sep_triangle S.2 x y z; linarith)
  rw [wsum_sub] at this
  linarith


end CogentModel.NJ
