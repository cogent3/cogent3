import CogentModel.Proofs.FMapCover
/-! `FeatureMap.from_locations` in closed form (every location is clipped at the end of the parent: `clip`), and the
locations `gaps()` hands to it.  `covered()`, `gaps()`, `shadow()` and `get_covering_span()` all end in
`from_locations`. -/
namespace CogentModel.FMap

/-- what `_spans_from_locations` makes of one location: the span, clipped at the end of the parent, and what lies
    beyond the parent as a lost span -/
def clip (pl : Int) (ab : Int × Int) : List FSp :=
  if ab.2 > pl then [.span ab.1 pl false, .lost (ab.2 - pl)] else [.span ab.1 ab.2 false]

/-- the body loop of `_spans_from_locations` succeeds only on ordered locations that start inside the parent, and
    then clips each of them -/
theorem spansFromLocs_eq_ok (pl : Int) : ∀ (locs : List (Int × Int)) (sp : List FSp),
    spansFromLocs pl locs = .ok sp →
      sp = locs.flatMap (clip pl) ∧ ∀ ab ∈ locs, 0 ≤ ab.1 ∧ ab.1 ≤ ab.2 ∧ ab.1 ≤ pl
  | [], sp, h => by cases h; exact ⟨rfl, fun _ h => nomatch h⟩
  | (s, e) :: r, sp, h => by
    unfold spansFromLocs at h
    split at h
    · cases h
    · split at h
      · cases h
      · split at h
        · cases h
        · rename_i rest hr
          obtain ⟨rfl, ih⟩ := spansFromLocs_eq_ok pl r rest hr
          refine ⟨?_, List.forall_mem_cons.2 ⟨by omega, ih⟩⟩
          rw [List.flatMap_cons, clip]
          dsimp only
          split at h
          · cases h; rw [if_pos ‹_›]; rfl
          · cases h; rw [if_neg ‹_›]; rfl

/-- `from_locations` succeeds only with what the body loop of `_spans_from_locations` gives -/
theorem fromLocations_eq_ok {locs : List (Int × Int)} {pl : Int} {m : FM} (h : fromLocations locs pl = .ok m) :
    m = ⟨locs.flatMap (clip pl), pl⟩ ∧ ∀ ab ∈ locs, 0 ≤ ab.1 ∧ ab.1 ≤ ab.2 ∧ ab.1 ≤ pl := by
  unfold fromLocations at h
  split at h
  · cases h
  · rename_i sp hs
    cases h
    have hb : spansFromLocs pl locs = .ok sp := by
      cases locs with
      | nil => exact hs
      | cons first rest =>
        unfold spansFromLocations at hs
        split at hs
        · split at hs
          · cases hs
          · exact hs
        · rename_i hno
          cases hl : (first :: rest).getLast? with
          | none => simp at hl
          | some last => exact absurd hl (hno first rest last rfl)
    obtain ⟨rfl, hl⟩ := spansFromLocs_eq_ok pl locs sp hb
    exact ⟨rfl, hl⟩

theorem clip_within {pl : Int} {ab : Int × Int} (h : 0 ≤ ab.1 ∧ ab.1 ≤ ab.2 ∧ ab.1 ≤ pl) :
    ∀ x ∈ clip pl ab, x.within pl := by
  unfold clip
  split <;> simp only [List.forall_mem_cons, FSp.within, List.not_mem_nil, false_imp_iff, implies_true, and_true] <;> omega

theorem mem_coverL_clip {pl : Int} {ab : Int × Int} (p : Int) :
    some p ∈ coverL (clip pl ab) ↔ (ab.1 ≤ p ∧ p < ab.2) ∧ p < pl := by
  have hl : ∀ n, some p ∉ coverSp (.lost n) := fun n => by simp [coverSp]
  unfold clip
  split <;> simp only [coverL_cons, coverL_nil, List.append_nil, List.mem_append, mem_coverSp_span, hl, or_false] <;> omega

/-- locations that end inside the parent become the spans themselves -/
theorem flatMap_clip_of_le {pl : Int} : ∀ {locs : List (Int × Int)}, (∀ ab ∈ locs, ab.2 ≤ pl) →
    locs.flatMap (clip pl) = locs.map fun ab => FSp.span ab.1 ab.2 false
  | [], _ => rfl
  | ab :: r, h => by
    rw [List.flatMap_cons, List.map_cons, flatMap_clip_of_le fun x hx => h x (List.mem_cons_of_mem _ hx), clip,
      if_neg (by have := h ab List.mem_cons_self; omega)]
    rfl

theorem fromLocations_within (locs : List (Int × Int)) (pl : Int) (m : FM)
    (h : fromLocations locs pl = .ok m) : Within m ∧ m.parentLength = pl := by
  obtain ⟨rfl, hl⟩ := fromLocations_eq_ok h
  refine ⟨fun x hx => ?_, rfl⟩
  obtain ⟨ab, hab, hx⟩ := List.mem_flatMap.1 hx
  exact clip_within (hl ab hab) x hx

theorem gaps_within (m g : FM) (h : gaps m = .ok g) : Within g ∧ g.parentLength = len m :=
  fromLocations_within _ _ _ h

def inLocs (locs : List (Int × Int)) (p : Int) : Prop := ∃ ab ∈ locs, ab.1 ≤ p ∧ p < ab.2

theorem inLocs_append (A B : List (Int × Int)) (p : Int) : inLocs (A ++ B) p ↔ inLocs A p ∨ inLocs B p := by
  simp only [inLocs, List.mem_append, or_and_right, exists_or]

theorem inLocs_nil (p : Int) : ¬ inLocs [] p := by simp [inLocs]

theorem inLocs_singleton (a b p : Int) : inLocs [(a, b)] p ↔ a ≤ p ∧ p < b := by simp [inLocs]

theorem fromLocations_mem (locs : List (Int × Int)) (pl p : Int) (c : FM)
    (h : fromLocations locs pl = .ok c) : (some p ∈ cover c ↔ inLocs locs p ∧ p < pl) := by
  obtain ⟨rfl, _⟩ := fromLocations_eq_ok h
  simp only [cover, List.mem_flatMap, List.flatMap_assoc, inLocs]
  constructor
  · rintro ⟨ab, hab, hp⟩
    have := (mem_coverL_clip p).1 (List.mem_flatMap.2 hp)
    exact ⟨⟨ab, hab, this.1⟩, this.2⟩
  · rintro ⟨⟨ab, hab, h1⟩, h2⟩
    exact ⟨ab, hab, List.mem_flatMap.1 ((mem_coverL_clip p).2 ⟨h1, h2⟩)⟩

/-- the locations `gaps()` hands to `from_locations` are exactly the lost map positions -/
theorem locsOf_lost : ∀ (l : List FSp) (off p : Int), NonNegL l →
    (inLocs (locsOf true off l) p ↔ off ≤ p ∧ p < off + lenL l ∧ lookup (coverL l) (p - off) = none)
  | [], off, p, _ => by simp only [locsOf, lenL_nil]; exact ⟨fun h => absurd h (inLocs_nil p), fun h => by omega⟩
  | x :: r, off, p, hN => by
    have hx := hN.head
    have hr := lenL_nonneg hN.tail
    rw [locsOf, inLocs_append, locsOf_lost r (off + x.length) p hN.tail, lookup_coverL_cons hx, lenL_cons, Int.sub_sub]
    by_cases h : off ≤ p ∧ p - off < x.length
    · -- `p` lies in the block of `x`
      rw [if_pos h.2, lookup_coverSp_eq_none x (by omega) h.2]
      cases x.isLost
      · simp only [Bool.false_eq_true, if_false, inLocs_nil, false_or, and_false, iff_false]; omega
      · simp only [if_true, inLocs_singleton, and_true]; omega
    · have : ¬ inLocs (if x.isLost = true then [(off, off + x.length)] else []) p := by
        split
        · rw [inLocs_singleton]; omega
        · exact inLocs_nil p
      by_cases h' : p - off < x.length
      · rw [if_pos h']; simp only [this, false_or]; omega
      · rw [if_neg h']; simp only [this, false_or]
        constructor <;> exact fun ⟨h1, h2, h3⟩ => ⟨by omega, by omega, h3⟩

end CogentModel.FMap
