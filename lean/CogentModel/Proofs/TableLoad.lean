import CogentModel.Gen.C20Load
import CogentModel.Proofs.CsvRoundtrip
/-
  C20 — the definition generated from the source text of `parse/table.py::load_delimited` (`Gen/C20Load.lean`) equals
  the hand model `TableLoad.loadRowsH`.  Each generated statement is characterised on its own in the form the hand
  model has it (`limit_eq`, `title_eq`, `loop_run`, `header_eq`, `legend_eq`); rewriting with these turns the
  generated definition into the hand model literally.
-/
namespace CogentModel.TableLoad
open CogentModel.Csv CogentModel.Gen.C20Load

theorem step_broke (limit : Option Int) (rows : List Row) (n : Int) (row : Row) :
    loadDelimitedStep1 limit (rows, n, true) row = (rows, n, true) := rfl

theorem step_run (limit : Option Int) (rows : List Row) (n : Int) (row : Row) :
    loadDelimitedStep1 limit (rows, n, false) row = (rows ++ [row], n + 1, limit.isSome && geOpt (n + 1) limit) := by
  show (if (limit.isSome && geOpt (n + 1) limit) = true then (rows ++ [row], n + 1, true)
    else (rows ++ [row], n + 1, false)) = _
  cases limit.isSome && geOpt (n + 1) limit <;> rfl

theorem loop_broke (limit : Option Int) (recs acc : List Row) (n : Int) :
    List.foldl (loadDelimitedStep1 limit) (acc, n, true) recs = (acc, n, true) := by
  induction recs with
  | nil => rfl
  | cons r rest ih => rw [List.foldl_cons, step_broke, ih]

/-- the reading loop keeps appending until the count reaches the limit: at least one record, because the test comes
after the append -/
theorem loop_run (limit : Option Int) (recs acc : List Row) (n : Int) :
    ∃ n' b, List.foldl (loadDelimitedStep1 limit) (acc, n, false) recs
      = (acc ++ takeOpt recs (limit.map fun l => (max 1 (l - n)).toNat), n', b) := by
  induction recs generalizing acc n with
  | nil => exact ⟨n, false, by cases limit <;> simp [takeOpt]⟩
  | cons r rest ih =>
    rw [List.foldl_cons, step_run]
    cases limit with
    | none => simpa [takeOpt, geOpt] using ih (acc ++ [r]) (n + 1)
    | some l =>
      by_cases h : n + 1 ≥ l
      · refine ⟨n + 1, true, ?_⟩
        have : (max 1 (l - n)).toNat = 1 := by omega
        simp [geOpt, h, loop_broke, takeOpt, this]
      · obtain ⟨n', b, e⟩ := ih (acc ++ [r]) (n + 1)
        refine ⟨n', b, ?_⟩
        have : (max 1 (l - n)).toNat = (max 1 (l - (n + 1))).toNat + 1 := by omega
        simp [geOpt, h, e, takeOpt, this]

theorem popLast_eq (l : List Row) :
    popLast l = if l.isEmpty then .error "IndexError" else .ok (l.getLastD [], l.dropLast) := by
  cases l with
  | nil => rfl
  | cons a t => simp [popLast, List.getLastD_eq_getLast?, List.getLast?_eq_some_getLast]

theorem ite_error_bind {ε α β : Type} (p : Prop) [Decidable p] (e : ε) (a : α) (k : α → Except ε β) :
    (if p then (.error e : Except ε α) else .ok a) >>= k = if p then .error e else k a := by split <;> rfl

/-- `if limit is not None and header: limit += 1` -/
theorem limit_eq (limit : Option Int) (header : Bool) :
    (if ((Option.isSome limit) && header) then do
        let limit : Option Int ← optAdd limit 1
        pure limit
      else pure limit : Except String (Option Int)) = .ok (if header then limit.map (· + 1) else limit) := by
  cases limit <;> cases header <;> rfl

/-- `title = "".join(next(reader)) if with_title else ""` -/
theorem title_eq (withTitle : Bool) (reader : List Row) :
    (if withTitle then do
        let (t1, reader) ← pyNext reader
        pure ((joinEmpty t1), reader)
      else do
        pure (([] : Str), reader) : Except String (Str × List Row)) =
      if withTitle && reader.isEmpty then .error "StopIteration"
      else .ok (if withTitle then (reader.headD []).flatten else [], if withTitle then reader.tail else reader) := by
  cases withTitle <;> cases reader <;> rfl

/-- `header = rows.pop(0) if header else None` -/
theorem header_eq (header : Bool) (rows : List Row) :
    (if header then do
        let (t3, rows) ← popFirst rows
        pure ((some t3), rows)
      else do
        pure (none, rows) : Except String (Option Row × List Row)) =
      if header && rows.isEmpty then .error "IndexError"
      else .ok (if header then rows.head? else none, if header then rows.tail else rows) := by
  cases header <;> cases rows <;> rfl

/-- `legend = "".join(rows.pop(-1)) if with_legend else ""` -/
theorem legend_eq (withLegend : Bool) (rows : List Row) :
    (if withLegend then do
        let (t5, rows) ← popLast rows
        pure ((joinEmpty t5), rows)
      else do
        pure (([] : Str), rows) : Except String (Str × List Row)) =
      if withLegend && rows.isEmpty then .error "IndexError"
      else .ok (if withLegend then (rows.getLastD []).flatten else [], if withLegend then rows.dropLast else rows) := by
  cases withLegend
  · rfl
  · rw [popLast_eq]; cases rows <;> rfl

theorem ok_bind {ε α β : Type} (a : α) (k : α → Except ε β) : (Except.ok a : Except ε α) >>= k = k a := rfl

theorem keepCount_eq (header : Bool) (limit : Option Int) :
    (if header then limit.map (· + 1) else limit).map (fun l => (max 1 l).toNat) = keepCount header limit := by
  cases header <;> cases limit <;> rfl

theorem gen_loadDelimitedRows_eq (recs : List Row) (header withTitle withLegend : Bool) (limit : Option Int) :
    loadDelimitedRows recs header withTitle withLegend limit = loadRowsH recs header withTitle withLegend limit := by
  unfold loadDelimitedRows loadRowsH
  obtain ⟨n, b, h⟩ := loop_run (if header then limit.map (· + 1) else limit) (if withTitle then recs.tail else recs) [] 0
  simp only [limit_eq, title_eq, header_eq, legend_eq, ok_bind, ite_error_bind, h, List.nil_append, Int.sub_zero,
    keepCount_eq]
  rfl

/-- the hand model `Csv.loadDelimited` that `table_text_roundtrip` is about (header=True, no limit) is the csv reader
followed by `loadRowsH` -/
theorem loadDelimited_eq_loadRowsH (delim : Char) (wt wl : Bool) (text : Str) :
    (loadDelimited delim wt wl text).map (fun r => ((some r.1 : Option Row), r.2))
      = (csvRead delim text).bind fun recs => loadRowsH recs true wt wl none := by
  unfold loadDelimited
  simp only [dropLast_eq]
  cases csvRead delim text with
  | error e => rfl
  | ok recs =>
    cases wt
    · rcases recs with _ | ⟨a, rest⟩
      · rfl
      · cases wl
        · rfl
        · cases rest <;> rfl
    · rcases recs with _ | ⟨t, _ | ⟨a, rest⟩⟩
      · rfl
      · rfl
      · cases wl
        · rfl
        · cases rest <;> rfl
end CogentModel.TableLoad
