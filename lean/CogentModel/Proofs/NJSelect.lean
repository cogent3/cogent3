import CogentModel.Proofs.StudierKeppler
import CogentModel.Proofs.FirstMin
/-! The reduced matrix of `join` on a pair of neighbours is the metric of the tree with the cherry collapsed; the pair the code
selects (`pickPair`) minimises the Q-criterion; hence every pair selected along the loop is a cherry. -/
namespace CogentModel.NJ
open FirstMin ListGetD

/-- the matrix is the path metric of a tree (weighted compatible split system) on the leaves `0..L-1` -/
def IsSplitMetric (L : Nat) (d : Mat) : Prop :=
  ∃ Sg, SplitSystem L Sg ∧ ∀ a b, a < L → b < L → get d a b = splitDist Sg a b

/-- the tree after collapsing the cherry `(i, j)` into its parent, re-indexed as `join` does (`src`): branches
separating `i` from `j` (their pendant branches) get length 0, every other split is read through `src`
(the new node stands where `src · = i`) -/
def joinSplits (Sg : WSplits) (L i j : Nat) : WSplits :=
  Sg.map fun S => (if S.2 i = S.2 j then S.1 else 0, fun a => S.2 (src L j a))

theorem wsum_joinSplits (Sg : WSplits) (L i j : Nat) (g : Side → Rat) :
    wsum (joinSplits Sg L i j) g
      = wsum Sg (fun s => (if s i = s j then (1 : Rat) else 0) * g (fun a => s (src L j a))) := by
  induction Sg with
  | nil => rfl
  | cons S r ih =>
    show (if S.2 i = S.2 j then S.1 else 0) * g (fun a => S.2 (src L j a)) + wsum (joinSplits r L i j) g = _
    rw [ih]
    simp only [wsum]
    by_cases h : S.2 i = S.2 j
    · rw [if_pos h, if_pos h]; ring
    · rw [if_neg h, if_neg h]; ring

theorem joinSplits_system (Sg : WSplits) (L i j : Nat) (hS : SplitSystem L Sg) :
    SplitSystem (L - 1) (joinSplits Sg L i j) := by
  constructor
  · intro S' hS'
    obtain ⟨S, hSm, rfl⟩ := List.mem_map.1 hS'
    show 0 ≤ if S.2 i = S.2 j then S.1 else 0
    split
    · exact hS.nonneg S hSm
    · exact le_refl _
  · intro S' hS' T' hT'
    obtain ⟨S, hSm, rfl⟩ := List.mem_map.1 hS'
    obtain ⟨T, hTm, rfl⟩ := List.mem_map.1 hT'
    obtain ⟨a, b, hab⟩ := hS.compat S hSm T hTm
    exact ⟨a, b, fun x hx => hab (src L j x) (src_lt j hx)⟩

theorem join_splitMetric (L : Nat) (Sg : WSplits) (hS : SplitSystem L Sg) (d : Mat)
    (hd : ∀ a b, a < L → b < L → get d a b = splitDist Sg a b)
    (i j : Nat) (hi : i < L) (hj : j < L) (hns : NotSep L Sg i j)
    (a b : Nat) (ha : a < L - 1) (hb : b < L - 1) :
    get (joinMat d L i j) a b = splitDist (joinSplits Sg L i j) a b := by
  have hxL := src_lt j ha
  have hyL := src_lt j hb
  have hxj := src_ne_j j ha
  have hyj := src_ne_j j hb
  unfold joinMat
  rw [get_tab ha hb]
  unfold splitDist
  rw [wsum_joinSplits]
  have hsepsrc : ∀ s : Side, sep (fun a => s (src L j a)) a b = sep s (src L j a) (src L j b) := fun s => rfl
  simp only [hsepsrc]
  generalize src L j a = x at hxL hxj
  generalize src L j b = y at hyL hyj
  have hnew : ∀ y, y < L → newDist d i j y
      = wsum Sg (fun s => (if s i = s j then (1 : Rat) else 0) * sep s i y) := by
    intro y hy
    unfold newDist
    rw [hd i y hi hy, hd j y hj hy, hd i j hi hj]
    unfold splitDist
    rw [← wsum_add, ← wsum_sub, ← wsum_smul]
    exact congrArg _ (funext fun s => sep_newDist s i j y)
  unfold base
  by_cases hx : x = i
  · by_cases hy : y = i
    · rw [if_pos ⟨hx, hy⟩, hx, hy]
      exact (wsum_eq_zero Sg _ fun S _ => by rw [sep_self, mul_zero]).symm
    · rw [if_neg (fun h => hy h.2), if_pos hx, hnew y hyL, hx]
  · rw [if_neg (fun h => hx h.1), if_neg hx]
    by_cases hy : y = i
    · rw [if_pos hy, hnew x hxL, hy]
      congr 1; funext s; rw [sep_symm]
    · rw [if_neg hy, hd x y hxL hyL]
      unfold splitDist
      apply wsum_congr_pos Sg _ _ hS.nonneg
      intro S hSm hw
      show sep S.2 x y = (if S.2 i = S.2 j then (1 : Rat) else 0) * sep S.2 x y
      by_cases hsep : S.2 i = S.2 j
      · rw [if_pos hsep]; ring
      · rw [if_neg hsep]
        rw [sep_of_eq (notSep_others L Sg i j hi hj hns S hSm hw hsep x y hxL hyL hx hxj hy hyj), zero_mul]

/-- the off-diagonal positions of an `L × L` array, in flat (row-major) order -/
def offDiag (L : Nat) : List (Nat × Nat) :=
  ((List.range (L * L)).filter fun idx => idx / L ≠ idx % L).map fun idx => (idx / L, idx % L)

theorem mem_offDiag {L : Nat} {p : Nat × Nat} : p ∈ offDiag L ↔ p.1 < L ∧ p.2 < L ∧ p.1 ≠ p.2 := by
  simp only [offDiag, List.mem_map, List.mem_filter, List.mem_range, decide_eq_true_eq]
  constructor
  · rintro ⟨idx, ⟨hlt, hne⟩, rfl⟩
    exact ⟨(unflat_lt hlt).1, (unflat_lt hlt).2, hne⟩
  · rintro ⟨h1, h2, hne⟩
    refine ⟨p.1 * L + p.2, ⟨flat_lt h1 h2, ?_⟩, ?_⟩ <;> rw [flat_div _ h2, Nat.mul_add_mod_of_lt h2]
    exact hne

theorem argminOff_eq (L : Nat) (f : Nat → Nat → Rat) :
    argminOff L f = ((offDiag L).foldl (minStep fun p => f p.1 p.2) none).getD (0, 1) := by
  unfold argminOff offDiag
  generalize List.range (L * L) = l
  generalize (none : Option (Nat × Nat)) = acc
  induction l generalizing acc with
  | nil => rfl
  | cons idx l ih =>
    rw [List.foldl_cons, ih]
    by_cases hd : idx / L = idx % L
    · rw [List.filter_cons_of_neg (by simpa using hd)]
      simp only [hd, if_true]
    · rw [List.filter_cons_of_pos (by simpa using hd), List.map_cons, List.foldl_cons]
      simp only [hd, if_false]
      rcases acc with _ | ⟨x, y⟩ <;> rfl

theorem argminOff_spec (L : Nat) (hL : 2 ≤ L) (f : Nat → Nat → Rat) :
    (argminOff L f).1 < L ∧ (argminOff L f).2 < L ∧ (argminOff L f).1 ≠ (argminOff L f).2 ∧
    ∀ a b, a < L → b < L → a ≠ b → f (argminOff L f).1 (argminOff L f).2 ≤ f a b := by
  rw [argminOff_eq]
  have h01 : (0, 1) ∈ offDiag L := mem_offDiag.2 ⟨by omega, by omega, by omega⟩
  cases hr : (offDiag L).foldl (minStep fun p => f p.1 p.2) none with
  | none => exact absurd hr (foldl_minStep_ne_none _ _ _ (Or.inr (List.ne_nil_of_mem h01)))
  | some p =>
    obtain ⟨a1, _, a3⟩ := foldl_minStep_spec _ _ _ p hr
    obtain ⟨h1, h2, h3⟩ := mem_offDiag.1 (a1.resolve_left nofun)
    exact ⟨h1, h2, h3, fun a b ha hb hab => a3 (a, b) (mem_offDiag.2 ⟨ha, hb, hab⟩)⟩

theorem argminOff_congr (L : Nat) (f g : Nat → Nat → Rat) (h : ∀ a b, a < L → b < L → f a b = g a b) :
    argminOff L f = argminOff L g := by
  rw [argminOff_eq, argminOff_eq, foldl_minStep_congr _ (fun p => g p.1 p.2) (offDiag L) none
    (fun p hp => h _ _ (mem_offDiag.1 hp).1 (mem_offDiag.1 hp).2.1) fun _ hq => nomatch hq]

/-- a selection rule that always returns an off-diagonal minimiser of the Q-criterion (whichever one) -/
def MinQ (sel : PT → Nat × Nat) : Prop :=
  ∀ pt : PT, 3 < pt.L → (sel pt).1 < pt.L ∧ (sel pt).2 < pt.L ∧ (sel pt).1 ≠ (sel pt).2 ∧
    ∀ x y, x < pt.L → y < pt.L → x ≠ y → qCrit pt.d pt.L (sel pt).1 (sel pt).2 ≤ qCrit pt.d pt.L x y

/-- up to pair-independent terms the score matrix holds half the Q-criterion -/
theorem scoreAt_colSum (d : Mat) (L : Nat) (score : Rat) (a b : Nat) :
    scoreAt d L (colSum d L) score a b
      = qCrit d L a b / 2 + (sumTo L (colSum d L) / ((L : Rat) - 2) / 2 + score) := by
  unfold scoreAt qCrit; ring

/-- the pair `gnj(keep=1)` joins is the first off-diagonal minimum of the score matrix formed from the column sums -/
theorem pickPair_eq (pt : PT) :
    pickPair pt = argminOff pt.L (scoreAt pt.d pt.L (colSum pt.d pt.L) pt.score) := by
  unfold pickPair
  apply argminOff_congr
  intro a b ha hb
  have hr : ∀ k, k < pt.L → ((List.range pt.L).map (colSum pt.d pt.L)).getD k 0 = colSum pt.d pt.L k :=
    fun _ hk => getD_map_range_of_lt hk
  rw [get_tab ha hb]
  unfold scoreAt
  beta_reduce
  rw [hr a ha, hr b hb, sumTo_congr pt.L _ (colSum pt.d pt.L) hr]

/-- the model of `gnj(keep=1)`'s choice is such a rule -/
theorem pickPair_minQ : MinQ pickPair := by
  intro pt hL
  rw [pickPair_eq]
  obtain ⟨h1, h2, h3, h4⟩ := argminOff_spec pt.L (by omega) (scoreAt pt.d pt.L (colSum pt.d pt.L) pt.score)
  refine ⟨h1, h2, h3, fun x y hx hy hxy => ?_⟩
  have := h4 x y hx hy hxy
  rw [scoreAt_colSum, scoreAt_colSum] at this
  exact (div_le_div_iff_of_pos_right two_pos).1 (le_of_add_le_add_right this)

theorem join_isSplitMetric (sel : PT → Nat × Nat) (hsel : MinQ sel) (pt : PT) (hL : 3 < pt.L)
    (hm : IsSplitMetric pt.L pt.d) :
    IsSplitMetric (join pt (sel pt).1 (sel pt).2).L (join pt (sel pt).1 (sel pt).2).d := by
  obtain ⟨Sg, hS, hd⟩ := hm
  obtain ⟨h1, h2, _, h4⟩ := hsel pt hL
  have hns := minQ_notSep pt.L hL Sg hS pt.d hd _ _ h1 h2 h4
  exact ⟨joinSplits Sg pt.L (sel pt).1 (sel pt).2, joinSplits_system Sg pt.L _ _ hS,
    fun a b ha hb => join_splitMetric pt.L Sg hS pt.d hd _ _ h1 h2 hns a b ha hb⟩

theorem njLoop_isSplitMetric (sel : PT → Nat × Nat) (hsel : MinQ sel) (k : Nat) (pt : PT)
    (h : IsSplitMetric pt.L pt.d) : IsSplitMetric (njLoop sel k pt).L (njLoop sel k pt).d := by
  induction k with
  | zero => exact h
  | succ k ih =>
    rw [njLoop_next]
    split
    · exact ih
    · exact join_isSplitMetric sel hsel _ (by omega) ih

theorem isSplitMetric_sym (L : Nat) (d : Mat) (h : IsSplitMetric L d) : Sym d L := by
  obtain ⟨Sg, _, hd⟩ := h
  intro a b ha hb; rw [hd a b ha hb, hd b a hb ha, splitDist_symm]

theorem isSplitMetric_tri3 (d : Mat) (h : IsSplitMetric 3 d) : Tri3 d := by
  obtain ⟨Sg, hS, hd⟩ := h
  have t := splitDist_triangle Sg hS.nonneg
  have s := splitDist_symm Sg
  refine ⟨?_, ?_, ?_⟩
  · rw [hd 1 2 (by omega) (by omega), hd 0 1 (by omega) (by omega), hd 0 2 (by omega) (by omega)]
    have := t 1 0 2; rw [s 1 0] at this; exact this
  · rw [hd 0 2 (by omega) (by omega), hd 0 1 (by omega) (by omega), hd 1 2 (by omega) (by omega)]
    exact t 0 1 2
  · rw [hd 0 1 (by omega) (by omega), hd 0 2 (by omega) (by omega), hd 1 2 (by omega) (by omega)]
    have := t 0 2 1; rw [s 2 1] at this; exact this

theorem minQ_cherries (sel : PT → Nat × Nat) (hsel : MinQ sel) (pt : PT) (hm : IsSplitMetric pt.L pt.d) :
    ∀ k, 3 < (njLoop sel k pt).L → SelCherry sel (njLoop sel k pt) := by
  intro k hk
  obtain ⟨Sg, hS, hd⟩ := njLoop_isSplitMetric sel hsel k pt hm
  obtain ⟨h1, h2, h3, h4⟩ := hsel _ hk
  have hns := minQ_notSep _ hk Sg hS _ hd _ _ h1 h2 h4
  exact cherry_of_notSep _ Sg hS _ hd _ _ h1 h2 h3 (by omega) hns

theorem star_isSplitMetric (n : Nat) (Sg : WSplits) (hS : SplitSystem n Sg) :
    IsSplitMetric (star n (tab n (splitDist Sg))).L (star n (tab n (splitDist Sg))).d :=
  ⟨Sg, hS, fun _ _ ha hb => get_tab ha hb⟩
end CogentModel.NJ
