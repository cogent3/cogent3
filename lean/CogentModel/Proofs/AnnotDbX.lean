import CogentModel.Model.AnnotDbX
import CogentModel.Spec.AnnotDbX
import CogentModel.Proofs.AnnotDb
import CogentModel.Proofs.ExceptDecEq
import CogentModel.Proofs.ListFacts
/-! Row level of the extended model (rows without a location, `on_alignment`): a row of the gff / gb table, asked
without `on_alignment`, and a row of the `user` table, asked with it, satisfy the WHERE expression exactly when
they satisfy the specification's predicate (`xRow_main`, `xRow_user`). -/
namespace CogentModel.AnnotDb
open CogentModel.Gen.C17Sql CogentModel.Gen.C17Query CogentModel.AnnotDbSpec

/-- side condition of the interval clauses, per row: none unless both bounds come with `allow_partial` -/
def XWinHyp (q : Query) (r : XRec) : Prop :=
  (q.allowPartial = false ∨ q.start = none ∨ q.stop = none) ∨
    ((r.located = true → r.row.start < r.row.stop) ∧ WindowOk q)

theorem xWindow_eq (q : Query) (r : XRec) :
    xWindow q r =
      if q.start.isSome || q.stop.isSome then r.located && (windowConds q).all (fun c => c r.row) else true := by
  unfold xWindow windowConds
  cases q.start <;> cases q.stop <;> rfl

theorem xWindow_spec (ok : ClausesOk) (q : Query) (r : XRec) (h : XWinHyp q r) :
    xWindow q r = xWindowMatch q r := by
  rw [xWindow_eq, xWindowMatch]
  cases hl : r.located
  · rfl
  · rw [windowConds_of_winHyp ok q r.row (h.imp id fun ⟨h1, h2⟩ => ⟨h1 hl, h2⟩)]

theorem xCols_spec (q : Query) (r : Rec) : (columnConds q).all (fun c => c r) = xColsMatch q r := by
  unfold columnConds xColsMatch
  simp only [List.all_append, optCond_spec]

/-- rows of the gff / gb table: the table is asked without `on_alignment` -/
theorem xRow_main (ok : ClausesOk) (q : Query) (oa : Option Bool) (r : XRec) (hr : r.onAln = none)
    (hoa : oa ≠ some true) (h : XWinHyp q r) : xRowMatches q none r = xSpecMatch q oa r := by
  unfold xRowMatches xSpecMatch
  rw [xCols_spec, xWindow_spec ok q r h]
  have : oaMatch oa r = true := by
    unfold oaMatch isAlignmentFeature
    rcases oa with _ | _ | _ <;> simp_all
  simp [oaCond, this]

theorem xRow_main_aln (q : Query) (r : XRec) (hr : r.onAln = none) : xSpecMatch q (some true) r = false := by
  unfold xSpecMatch oaMatch isAlignmentFeature
  simp [hr]

/-- rows of the `user` table: `on_alignment = ?` with 0 / 1 stored -/
theorem xRow_user (ok : ClausesOk) (q : Query) (oa : Option Bool) (r : XRec) (hr : r.onAln.isSome = true)
    (h : XWinHyp q r) : xRowMatches q oa r = xSpecMatch q oa r := by
  unfold xRowMatches xSpecMatch
  rw [xCols_spec, xWindow_spec ok q r h]
  have : oaCond oa r = oaMatch oa r := by
    unfold oaCond oaMatch isAlignmentFeature
    obtain ⟨b, hb⟩ := Option.isSome_iff_exists.mp hr
    rcases oa with _ | _ | _ <;> cases b <;> simp [hb]
  rw [this, Bool.and_comm (xColsMatch q r.row)]

theorem XDb.records_filter (db : XDb) (p : XRec → Bool) :
    ({ kind := db.kind, main := db.main.filter p, user := db.user.filter p } : XDb).records =
      (tableNames db.kind).flatMap fun n => (db.table n).filter p := by
  unfold XDb.records XDb.table
  congr 1
  funext n
  split <;> rfl

theorem countMatches_eq (q : Query) (o : Option Bool) (r : XRec) :
    (countMatches q r.row && oaCond o r) = xRowMatches { q with start := none, stop := none } o r := by
  unfold xRowMatches
  rw [countMatches_spec, xCols_spec]
  -- without bounds both window conjuncts are `true`
  show (xColsMatch _ r.row && true && oaCond o r) = (xColsMatch _ r.row && oaCond o r && true)
  rw [Bool.and_true, Bool.and_true]

theorem hasSubL_pp (l : List Char) : hasSubL ['%', '%'] l = hasDoublePercent l := by
  induction l using hasDoublePercent.induct with
  | case1 cs => simp [hasSubL, hasDoublePercent, List.isPrefixOf]
  | case2 c cs hne ih =>
    have hp : ['%', '%'].isPrefixOf (c :: cs) = false := by
      cases cs with
      | nil => simp [List.isPrefixOf]
      | cons d ds =>
        by_cases h1 : c = '%' <;> by_cases h2 : d = '%'
        · exact (hne ds h1 (by rw [h2])).elim
        all_goals simp [List.isPrefixOf, h1, h2, eq_comm (a := '%')]
    rw [hasSubL, ih, hasDoublePercent, hp, Bool.false_or]
    assumption
  | case3 => rfl

theorem hasDoublePercent_of_not_mem (l : List Char) (h : ∀ c ∈ l, c ≠ '%') : hasDoublePercent l = false := by
  induction l using hasDoublePercent.induct with
  | case1 cs => exact absurd rfl (h '%' List.mem_cons_self)
  | case2 c cs _ ih =>
    rw [hasDoublePercent]
    · exact ih fun x hx => h x (List.mem_cons_of_mem _ hx)
    · assumption
  | case3 => rfl

theorem gbAddRecords_length (seqid : String) (n : Nat) (fs : List GbFeature) :
    (gbAddRecords seqid n fs).1.length = fs.length := by
  induction fs generalizing n with
  | nil => rfl
  | cons f fs ih => simp only [gbAddRecords, List.length_cons, ih]

end CogentModel.AnnotDb
