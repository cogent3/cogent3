import CogentModel.Proofs.PhyloBasic
/-! C09: `sorted` permutes the children of every node; tips and splits are kept. -/
namespace CogentModel.Phylo
open PTree
variable {K : Type}

theorem insertScored_perm (x : Nat × PTree K) (l : List (Nat × PTree K)) :
    (insertScored x l).Perm (x :: l) := by
  induction l with
  | nil => exact .refl _
  | cons y ys ih =>
    simp only [insertScored]
    split
    · exact .refl _
    · exact (List.Perm.cons y ih).trans (List.Perm.swap x y ys)

theorem sortedGo_snd (order : List String) (n : String) (l : Option K) (cs : List (PTree K)) :
    (sortedGo order (PTree.node n l cs)).2 = PTree.node n l ((sortedL order cs).map (·.2)) := by
  simp only [sortedGo]
  split <;> rename_i h <;> simp [h]

/-- what `sorted` keeps of one subtree -/
def SortedOK (t r : PTree K) : Prop :=
  r.name = t.name ∧ r.len = t.len ∧ (tips r).Perm (tips t) ∧ ∀ T, SplitsEquiv T (splits t) (splits r)

namespace SortedOK

theorem sameSplits {t r : PTree K} (h : SortedOK t r) : SameSplits t r :=
  ⟨h.2.2.1, fun _ => h.2.2.2 _⟩

end SortedOK

def SortedLOK (cs rs : List (PTree K)) : Prop :=
  rs.length = cs.length ∧ (tipsL rs).Perm (tipsL cs) ∧ ∀ T, SplitsEquiv T (splitsL cs) (splitsL rs)

mutual
theorem sortedGo_ok (order : List String) : ∀ t : PTree K, SortedOK t (sortedGo order t).2
  | .node n l cs => by
    have h := sortedL_ok order cs
    rw [sortedGo_snd]
    refine ⟨rfl, rfl, ?_, fun T => ?_⟩
    · cases cs with
      | nil => simp only [sortedL, List.map_nil]; exact .refl _
      | cons c cs =>
        rw [tips_node_ne_nil _ _ _ (List.ne_nil_of_length_eq_add_one h.1), tips_node_ne_nil _ _ _ (List.cons_ne_nil c cs)]
        exact h.2.1
    · simpa [splits] using h.2.2 T
theorem sortedL_ok (order : List String) : ∀ cs : List (PTree K), SortedLOK cs ((sortedL order cs).map (·.2))
  | [] => ⟨rfl, .refl _, fun T => by simpa [sortedL] using SplitsEquiv.refl T _⟩
  | c :: cs => by
    have h1 := sortedGo_ok order c
    have h2 := sortedL_ok order cs
    have hp : ((sortedL order (c :: cs)).map (·.2)).Perm
        ((sortedGo order c).2 :: (sortedL order cs).map (·.2)) := by
      simp only [sortedL]
      simpa using (insertScored_perm (sortedGo order c) (sortedL order cs)).map (·.2)
    refine ⟨?_, ?_, fun T => ?_⟩
    · rw [hp.length_eq]; simp [h2.1]
    · refine (tipsL_perm hp).trans ?_
      simp only [tipsL]
      exact List.Perm.append h1.2.2.1 h2.2.1
    · refine .trans ?_ (SplitsEquiv.of_perm T (splitsL_perm hp.symm))
      simp only [splitsL, List.cons_append]
      refine .cons ⟨h1.1.symm, h1.2.1.symm, ?_⟩ (SplitsEquiv.append T (h1.2.2.2 T) (h2.2.2 T))
      exact bipEquiv_same fun a _ => (h1.2.2.1.mem_iff (a := a)).symm
end

theorem sorted_ok (t : PTree K) (order : List String) : SortedOK t (sorted t order) :=
  sortedGo_ok _ t

theorem sorted_degree (t : PTree K) (order : List String) :
    (sorted t order).children.length = t.children.length := by
  cases t with
  | node n l cs =>
    simp only [sorted, sortedGo_snd, children_node]
    exact (sortedL_ok _ cs).1

end CogentModel.Phylo
