import CogentModel.Model.AtomicProg
import CogentModel.Proofs.AtomicFaultStates
/-! C19: running the structured hand model of `atomic_write` (Model/AtomicProg.lean) yields the flat program,
the fault traces and the handler table of Model/AtomicWrite.lean — for every configuration, chunk list and
fault position (core Lean only). -/
namespace CogentModel.AtomicProg
open CogentModel.AtomicWrite

theorem runWrites_none (c : Cfg) (cs : List Data) : runWrites c cs none = ⟨writes c cs, false, none⟩ := by
  induction cs with
  | nil => rfl
  | cons ch rest ih => simp [runWrites, ih, writes]

theorem runWrites_some (c : Cfg) (cs : List Data) (k : Nat) :
    runWrites c cs (some k) =
      if k < cs.length then ⟨(writes c cs).take (k + 1), true, none⟩ else ⟨writes c cs, false, some (k - cs.length)⟩ := by
  induction cs generalizing k with
  | nil => simp [runWrites, writes]
  | cons ch rest ih =>
    cases k with
    | zero => simp [runWrites, writes]
    | succ n =>
      simp only [runWrites, ih, writes, List.map_cons, List.length_cons, Nat.add_lt_add_iff_right, List.take_succ_cons,
        Nat.add_sub_add_right]
      split <;> rfl

theorem runWrites_pass (c : Cfg) (cs : List Data) (d : Nat) :
    runWrites c cs (some (cs.length + d)) = ⟨writes c cs, false, some d⟩ := by
  rw [runWrites_some]; simp

theorem runWith_hand_none (c : Cfg) (hc : c.commit = .replace) :
    runWith hand c true none = ⟨program c, false, none⟩ := by
  cases hz : c.zipMember <;>
    simp [program_eq, post, commitInstrs, hc, runWith, runWithBody, hand, handCleanup, run, callPrim, runWrites_none,
      Prim.instr, hz]

theorem runWith_hand_tmpdir_none (c : Cfg) (hz : c.zipMember = none) :
    runWith hand c false none = ⟨programTmp c .unlinkFile, false, none⟩ := by
  simp [runWith, runWithBody, hand, handCleanup, run, callPrim, runWrites_none, Prim.instr, hz, programTmp]

theorem faultTrace_tail (c : Cfg) (d : Nat) :
    faultTrace c (c.chunks.length + d + 2) = ⟨.mkdir c.tmpdir, .ctor⟩ :: ⟨.openW c.tmpfile, .enter⟩ ::
      (writes c c.chunks ++ ((closeInstr c :: post c).take (d + 1) ++
        handler c ((((closeInstr c :: post c)[d]?).map (·.phase)).getD .cleanup))) := by
  rw [faultTrace, phaseAt_tail, program_eq, List.take_succ_cons, List.take_succ_cons, ← writes_length c,
    Nat.add_assoc, List.take_length_add_append, List.cons_append, List.cons_append, List.append_assoc]

/-! The constructor and `__enter__` are one call each, so a fault at call `j + 2` reaches the with-block with `j` calls to go. -/

theorem runWith_hand_block (c : Cfg) (j : Nat) : runWith hand c true (some (j + 2)) =
    (let r2 := runWrites c c.chunks (some j)
     let r3 := run c ⟨true, !r2.raised⟩ hand.exit r2.fault
     ⟨⟨.mkdir c.tmpdir, .ctor⟩ :: ⟨.openW c.tmpfile, .enter⟩ :: (r2.trace ++ r3.trace), r2.raised || r3.raised, r3.fault⟩) := rfl

/-- all writes pass: the fault hits call `d` of `__exit__` -/
theorem runWith_hand_exit (c : Cfg) (d : Nat) : runWith hand c true (some (c.chunks.length + d + 2)) =
    (let r := run c ⟨true, true⟩ hand.exit (some d)
     ⟨⟨.mkdir c.tmpdir, .ctor⟩ :: ⟨.openW c.tmpfile, .enter⟩ :: (writes c c.chunks ++ r.trace), r.raised, r.fault⟩) := by
  rw [runWith_hand_block, runWrites_pass]; rfl

/-- the calls before `__exit__` are issued alike for every target: the structured code agrees with the handler table there -/
theorem runWith_hand_fault_early (c : Cfg) (hg : c.guarded = true) (hw : c.withBlock = true) (hb : c.bodyUnlink = false)
    (hcb : c.closeInBody = false) (k : Nat) (hk : k < c.chunks.length + 2) :
    runWith hand c true (some k) = ⟨faultTrace c k, true, none⟩ := by
  rw [faultTrace, program_eq]
  match k, hk with
  | 0, _ => rw [phaseAt_0]; rfl
  | 1, _ => rw [phaseAt_1, handler, if_pos hg]; rfl
  | j + 2, hk =>
    -- a write raising: `__exit__` sees the exception, closes, skips the commit and cleans up
    have hj : j < c.chunks.length := by omega
    rw [runWith_hand_block, runWrites_some, if_pos hj, phaseAt_body c j hj, List.take_succ_cons, List.take_succ_cons,
      List.take_append_of_le_length (by rw [writes_length]; exact hj)]
    simp [handler, hw, hb, closeInstr, hcb, run, hand, handCleanup, callPrim, Prim.instr]

/-- the close, the rename or the cleanup raising: only the last is swallowed.  With the variant fields of the
configuration fixed, each of the three positions is an evaluation of `__exit__` against the handler table. -/
theorem runWith_hand_fault_exit (c : Cfg) (hz : c.zipMember = none) (hc : c.commit = .replace) (hg : c.guarded = true)
    (hcb : c.closeInBody = false) (d : Nat) (hd : d < 3) :
    runWith hand c true (some (c.chunks.length + d + 2)) = ⟨faultTrace c (c.chunks.length + d + 2), decide (d < 2), none⟩ := by
  rw [runWith_hand_exit, faultTrace_tail, post_replace c hz hc]
  cases c; cases hz; cases hg; cases hcb
  match d, hd with
  | 0, _ => rfl
  | 1, _ => rfl
  | 2, _ => rfl

theorem runWith_hand_fault (c : Cfg) (hz : c.zipMember = none) (hc : c.commit = .replace) (hg : c.guarded = true)
    (hw : c.withBlock = true) (hb : c.bodyUnlink = false) (hcb : c.closeInBody = false)
    (k : Nat) (hk : k < (program c).length) :
    runWith hand c true (some k) = ⟨faultTrace c k, decide (k + 1 < (program c).length), none⟩ := by
  have hlen : (program c).length = c.chunks.length + 5 := by rw [program_length_replace c hz hc, pre_length]
  rw [hlen] at hk ⊢
  by_cases hlt : k < c.chunks.length + 2
  · rw [runWith_hand_fault_early c hg hw hb hcb k hlt, decide_eq_true (by omega)]
  · obtain ⟨d, rfl⟩ := Nat.exists_eq_add_of_le (Nat.le_of_not_lt hlt)
    rw [Nat.add_right_comm, runWith_hand_fault_exit c hz hc hg hcb d (by omega)]; simp

/-- zip-member target: the close, the open of the archive (swallowed by `zipfile`'s retry), the central directory, the
cleanup -/
theorem runWith_hand_fault_exit_zip (c : Cfg) (m : Nat) (hz : c.zipMember = some m) (hg : c.guarded = true)
    (hcb : c.closeInBody = false) (d : Nat) (hd : d < 4) :
    runWith hand c true (some (c.chunks.length + d + 2)) =
      ⟨faultTrace c (c.chunks.length + d + 2), decide (d ≠ 1 ∧ d ≠ 3), none⟩ := by
  rw [runWith_hand_exit, faultTrace_tail, post_zip c m hz]
  cases c; cases hz; cases hg; cases hcb
  match d, hd with
  | 0, _ => rfl
  | 1, _ => rfl
  | 2, _ => rfl
  | 3, _ => rfl

theorem runWith_hand_fault_zip (c : Cfg) (m : Nat) (hz : c.zipMember = some m) (hg : c.guarded = true)
    (hw : c.withBlock = true) (hb : c.bodyUnlink = false) (hcb : c.closeInBody = false)
    (k : Nat) (hk : k < (program c).length) :
    runWith hand c true (some k) =
      ⟨faultTrace c k, decide (k ≠ c.chunks.length + 3 ∧ k ≠ c.chunks.length + 5), none⟩ := by
  have hlen : (program c).length = c.chunks.length + 6 := by simp [program_eq, post_zip c m hz, writes_length]
  rw [hlen] at hk
  by_cases hlt : k < c.chunks.length + 2
  · rw [runWith_hand_fault_early c hg hw hb hcb k hlt, decide_eq_true (by omega)]
  · obtain ⟨d, rfl⟩ := Nat.exists_eq_add_of_le (Nat.le_of_not_lt hlt)
    rw [Nat.add_right_comm, runWith_hand_fault_exit_zip c m hz hg hcb d (by omega)]; simp

theorem runWith_hand_fmtfail (c : Cfg) (hcb : c.closeInBody = false) (j : Nat) :
    runWithBody hand c true (fmtFailBody c j) none = ⟨fmtFailTrace c j, true, none⟩ := by
  simp [runWithBody, fmtFailBody, fmtFailTrace, hand, handCleanup, run, callPrim, runWrites_none, Prim.instr, closeInstr, hcb]

theorem fmtfail_state (c : Cfg) (fs : FS) (h : WF c fs) (j : Nat) :
    (exec fs (fmtFailTrace c j)).2 = none ∧
    (exec fs (fmtFailTrace c j)).1 c.dest = fs c.dest ∧
    (∀ p, under c.tmpdir p = true → (exec fs (fmtFailTrace c j)).1 p = none) ∧
    (∀ p, under c.tmpdir p = false → (exec fs (fmtFailTrace c j)).1 p = fs p) := by
  let c' : Cfg := { c with chunks := c.chunks.take j }
  have h' : WF c' fs := ⟨h.hdir, h.hne, h.hfresh, h.hdest⟩
  have e : fmtFailTrace c j = pre c' ++ [⟨.rmtree c'.tmpdir, .cleanup⟩] := by
    simp [fmtFailTrace, pre, writes, closeInstr, c', Cfg.tmpfile, Cfg.tmpdir]
  have hx : exec fs (fmtFailTrace c j) =
      ((fun q => if under c'.tmpdir q then none else preState c' fs c'.newData q), none) := by
    rw [e, exec_append_ok _ _ _ _ (exec_pre c' fs h'),
      exec_cons_ok _ _ _ _ (run_rmtree c' _ (preState_tmpdir c' fs _))]
    rfl
  rw [hx]
  have hout : ∀ p, under c.tmpdir p = false →
      (if under c'.tmpdir p then none else preState c' fs c'.newData p) = fs p :=
    fun p hp => (if_neg (Bool.eq_false_iff.mp hp)).trans (preState_other c' fs _ p hp)
  exact ⟨rfl, hout _ (not_under_tmpdir_dest c h.hne), fun p hp => if_pos hp, hout⟩

end CogentModel.AtomicProg
