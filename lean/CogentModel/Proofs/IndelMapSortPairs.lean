import CogentModel.Model.IndelMap
/-! `sortPairs` (the model of `sorted(coords)` / `sorted(dict.items())`) on pairs with distinct first components: the
result is the one list of those pairs whose keys increase, whatever the order they came in. -/
namespace CogentModel.IndelMap
open List

theorem insertPair_erase : ∀ (G : List (Int × Int)) (v : Int × Int), (G.map (·.1)).Pairwise (· < ·) → v ∈ G →
    insertPair v (G.erase v) = G := by
  intro G
  induction G with
  | nil => intro v _ hv; simp at hv
  | cons x r ih =>
    intro v hs hv
    simp only [map_cons, pairwise_cons] at hs
    by_cases hvx : x = v
    · subst hvx
      rw [erase_cons_head]
      cases r with
      | nil => rfl
      | cons y r' =>
        have := hs.1 y.1 (mem_map_of_mem mem_cons_self)
        simp only [insertPair]
        rw [if_pos (Or.inl this)]
    · have hvr : v ∈ r := by
        rcases mem_cons.mp hv with h | h
        · exact absurd h.symm hvx
        · exact h
      rw [erase_cons_tail (by simpa using hvx)]
      have hlt := hs.1 v.1 (mem_map_of_mem hvr)
      simp only [insertPair]
      rw [if_neg (by omega), ih v hs.2 hvr]

theorem sortPairs_of_perm : ∀ (items G : List (Int × Int)), items.Perm G → (G.map (·.1)).Pairwise (· < ·) →
    sortPairs items = G := by
  intro items
  induction items with
  | nil => intro G hp _; have : G = [] := (Perm.nil_eq hp).symm; subst this; rfl
  | cons v rest ih =>
    intro G hp hs
    have hv : v ∈ G := hp.subset mem_cons_self
    have hrest : rest.Perm (G.erase v) := by
      have h1 := perm_cons_erase hv
      exact Perm.cons_inv (hp.trans h1)
    have hs' : ((G.erase v).map (·.1)).Pairwise (· < ·) :=
      hs.sublist ((erase_sublist).map _)
    show insertPair v (sortPairs rest) = G
    rw [ih _ hrest hs', insertPair_erase G v hs hv]

theorem sortPairs_sorted : ∀ (g : List (Int × Int)), (g.map (·.1)).Pairwise (· < ·) → sortPairs g = g :=
  fun g h => sortPairs_of_perm g g (Perm.refl g) h

end CogentModel.IndelMap
