import CogentModel.Proofs.ViewSem
import CogentModel.Proofs.LatticeSlice
/-! Direction lemma: negative slice step on a forward view (`revFromFwd`). -/
namespace CogentModel.View
open CogentModel CogentModel.PySlice

theorem revFromFwd_eq (fl : Flavour) (v : View) (ss se c S E0 : Int)
    (hS : S = if ss ≥ len v then (v.start + len v * v.step - v.step) - v.seqLen
               else if ss ≥ 0 then (v.start + ss * v.step) - v.seqLen
               else v.start + len v * v.step + ss * v.step - v.seqLen)
    (hE0 : E0 = if se ≥ 0 then v.start + (se * v.step) - v.seqLen
                else v.start + (len v * v.step) + (se * v.step) - v.seqLen) :
    revFromFwd fl v ss se c =
      if se ≥ v.seqLen then .ok (zero fl v)
      else if S ≥ 0 ∨ E0 ≥ 0 then .ok (zero fl v)
      else remk v S (max E0 (v.start - v.seqLen - 1)) (v.step * c) := by
  subst hS hE0; rfl

theorem revFromFwd_elems (fl : Flavour) (v w : View) (ss se c : Int) (h : Inv v) (hk : 0 < v.step)
    (hc : c < 0) (hw : revFromFwd fl v ss se c = .ok w) :
    elems w = (rangeList (clampN ss (len v)) (clampN se (len v)) c).map fun j => first v + j * v.step := by
  have hN := h.1
  obtain ⟨_, i0, i1, i2⟩ := h.2.resolve_right fun hr => absurd hr.1 (by omega)
  have hn := len_nonneg v
  have hK : v.step * c < 0 := Int.mul_neg_of_pos_of_neg hk hc
  rw [first, if_pos hk, ← lattice_sliceN v.start v.step (len v) c ss se hk hc hn]
  -- the code's bounds are the positions of the wrapped indices, written as negative indices
  have hS : v.start + min (wrapIdx ss (len v)) (len v - 1) * v.step - v.seqLen =
      if ss ≥ len v then (v.start + len v * v.step - v.step) - v.seqLen
      else if ss ≥ 0 then (v.start + ss * v.step) - v.seqLen
      else v.start + len v * v.step + ss * v.step - v.seqLen := by
    rw [pos_startN _ _ _ _ hn, apply_ite (· - v.seqLen), apply_ite (· - v.seqLen)]
  have hE : v.start + wrapIdx se (len v) * v.step - v.seqLen =
      if se ≥ 0 then v.start + (se * v.step) - v.seqLen
      else v.start + (len v * v.step) + (se * v.step) - v.seqLen := by
    rw [← pos_wrapIdx]; split <;> rfl
  -- the first position taken lies inside the view
  have hin : v.start + min (wrapIdx ss (len v)) (len v - 1) * v.step < v.stop := by
    have := ((len_isCeil_fwd v hk i1).lt_iff hk (min (wrapIdx ss (len v)) (len v - 1))).mpr (by omega)
    omega
  have hse : se ≥ v.seqLen → se ≤ wrapIdx se (len v) * v.step := fun h => by
    rw [wrapIdx, if_pos (by omega)]; exact le_mul_pos _ _ (by omega) hk
  rw [revFromFwd_eq fl v ss se c _ _ hS hE] at hw
  generalize v.start + min (wrapIdx ss (len v)) (len v - 1) * v.step = S at *
  generalize wrapIdx se (len v) * v.step = P at *
  clear hS hE
  simp only [ite_ite_same] at hw
  split at hw
  · rw [← Except.ok.inj hw, rangeList_nil_neg _ _ _ hK (by omega)]
    exact elems_nil_of_len _ (len_zero fl v)
  · rw [remk_neg_elems v w _ _ _ h hK (by omega) (by omega) (by omega) hw]
    congr 1 <;> omega

end CogentModel.View
