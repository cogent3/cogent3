import CogentModel.Spec.AnnotDb
import CogentModel.Proofs.AnnotDbTables
/-! Once the four generated interval clauses mean overlap / containment (`ClausesOk`), the table-by-table query with its
list of SQL conjuncts is one filter with the specification's predicate, and so is `subset`: each is one `SELECT` over all
records (`getMatching_eq_select`, `subset_select`), and a `SELECT` is the linear scan (`selectTable_of_winHyp`).  The clauses
need a side condition in one mode only; `WinHyp` states it row by row. -/
namespace CogentModel.AnnotDb
open CogentModel.Gen.C17Sql CogentModel.AnnotDbSpec

/-- what the property theorems establish about the four generated interval clauses -/
structure ClausesOk : Prop where
  part : ∀ s e a b : Int, s < e → a < b → (matchPartial s e a b = true ↔ overlaps s e a b)
  within : ∀ s e a b : Int, matchWithin s e a b = true ↔ within s e a b
  startOnly : ∀ s e a : Int, matchStartOnly s e a = true ↔ containsPt s e a
  stopOnly : ∀ s e b : Int, matchStopOnly s e b = true ↔ containsPt s e b

/-- side condition of the interval clauses on one row: only the `allow_partial` clause with both bounds has
one, a proper row and a proper window -/
def WinHyp (q : Query) (r : Rec) : Prop :=
  (q.allowPartial = false ∨ q.start = none ∨ q.stop = none) ∨ (r.start < r.stop ∧ WindowOk q)

theorem windowConds_of_winHyp (ok : ClausesOk) (q : Query) (r : Rec) (h : WinHyp q r) :
    (windowConds q).all (fun c => c r) = windowMatch q r := by
  unfold windowConds windowMatch
  unfold WinHyp WindowOk at h
  cases hs : q.start <;> cases he : q.stop <;> simp only [hs, he, List.all_cons, List.all_nil, Bool.and_true] at h ⊢
  · rw [Bool.eq_iff_iff, decide_eq_true_eq]; exact ok.stopOnly ..
  · rw [Bool.eq_iff_iff, decide_eq_true_eq]; exact ok.startOnly ..
  · cases hp : q.allowPartial <;> simp only [Bool.false_eq_true, if_false, if_true] <;>
      rw [Bool.eq_iff_iff, decide_eq_true_eq]
    · exact ok.within ..
    · obtain ⟨hr, hw⟩ := h.resolve_left (by simp [hp])
      exact ok.part _ _ _ _ hr hw

theorem windowConds_spec (ok : ClausesOk) (q : Query) (r : Rec) (hr : r.start < r.stop) (hq : WindowOk q) :
    (windowConds q).all (fun c => c r) = windowMatch q r :=
  windowConds_of_winHyp ok q r (.inr ⟨hr, hq⟩)

theorem windowConds_spec_nonpartial (ok : ClausesOk) (q : Query) (r : Rec)
    (h : q.allowPartial = false ∨ q.start = none ∨ q.stop = none) :
    (windowConds q).all (fun c => c r) = windowMatch q r :=
  windowConds_of_winHyp ok q r (.inl h)

theorem optCond_spec (q : Option String) (f : Rec → Option String) (r : Rec) :
    (optCond q f).all (fun c => c r) = optMatch q (f r) := by
  cases q <;> simp [optCond, optMatch]

theorem rowMatches_spec (ok : ClausesOk) (q : Query) (r : Rec) (h : WinHyp q r) :
    rowMatches q r = specMatch q r := by
  unfold rowMatches whereConds columnConds specMatch
  simp only [List.all_append, optCond_spec, windowConds_of_winHyp ok q r h]

theorem countMatches_spec (q : Query) : countMatches q = specMatch { q with start := none, stop := none } := by
  funext r
  unfold countMatches countConds specMatch windowMatch
  simp only [List.all_append, optCond_spec, Bool.and_true]
  rw [Bool.and_comm (optMatch q.seqid r.seqid)]

theorem selectTable_of_winHyp (ok : ClausesOk) (t : List Rec) (q : Query) (h : ∀ r ∈ t, WinHyp q r) :
    selectTable t q = linearScan t q :=
  List.filter_congr fun r hr => rowMatches_spec ok q r (h r hr)

theorem selectTable_spec (ok : ClausesOk) (t : List Rec) (q : Query) (ht : ∀ r ∈ t, r.start < r.stop) (hq : WindowOk q) :
    selectTable t q = linearScan t q :=
  selectTable_of_winHyp ok t q fun r hr => .inr ⟨ht r hr, hq⟩

theorem selectTable_nonpartial (ok : ClausesOk) (t : List Rec) (q : Query)
    (h : q.allowPartial = false ∨ q.start = none ∨ q.stop = none) :
    selectTable t q = linearScan t q :=
  selectTable_of_winHyp ok t q fun _ _ => .inl h

theorem filter_flatMap {α β} (p : β → Bool) (f : α → List β) (l : List α) :
    (l.flatMap f).filter p = l.flatMap (fun a => (f a).filter p) :=
  List.filter_flatMap

theorem getMatching_eq_select (db : Db) (q : Query) : getMatching db q = selectTable db.records q :=
  List.filter_flatMap.symm

theorem query_is_filter_of (ok : ClausesOk) (db : Db) (q : Query) (hdb : ∀ r ∈ db.records, r.start < r.stop) (hq : WindowOk q) :
    getMatching db q = linearScan db.records q :=
  (getMatching_eq_select db q).trans (selectTable_spec ok _ q hdb hq)

theorem subset_select (db : Db) (q : Query) :
    ∃ d, subset db q = .ok d ∧ d.kind = db.kind ∧ d.records = selectTable db.records q := by
  unfold subset
  split
  · rename_i hl
    exact ⟨_, rfl, rfl, by rw [empty_records, records_nil_of_len hl]; rfl⟩
  · exact ⟨_, rfl, rfl, by simp only [Db.records, List.flatMap_map]; exact List.filter_flatMap.symm⟩

theorem subset_wf (d d' : Db) (q : Query) (h : d.WF) (hs : subset d q = .ok d') : d'.WF := by
  unfold subset at hs
  split at hs
  · cases hs; exact empty_wf _
  · cases hs
    -- the selection keeps every table's name
    exact List.map_map.trans h

theorem subset_filter_aux (db : Db) (q : Query) (hdb : ∀ r ∈ db.records, r.start < r.stop)
    (sel : ∀ (t : List Rec) , (∀ r ∈ t, r.start < r.stop) → selectTable t q = linearScan t q) :
    ∃ d, subset db q = .ok d ∧ d.kind = db.kind ∧ d.records = linearScan db.records q := by
  obtain ⟨d, h1, h2, h3⟩ := subset_select db q
  exact ⟨d, h1, h2, h3.trans (sel _ hdb)⟩

instance (q : Query) : Decidable (WindowOk q) := by
  unfold WindowOk; split <;> infer_instance
end CogentModel.AnnotDb
