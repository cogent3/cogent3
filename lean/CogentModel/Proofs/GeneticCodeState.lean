import CogentModel.Model.GeneticCodeState
import CogentModel.Proofs.ExceptDecEq
namespace CogentModel.C12State
open CogentModel.GC CogentModel.GCS

theorem lookupD_map_fst {α γ β} [DecidableEq α] (l : List (α × γ)) (f : α → β) (n : α) (d : β)
    (h : n ∈ l.map (·.1)) : lookupD (l.map fun p => (p.1, f p.1)) n d = f n := by
  induction l with
  | nil => simp at h
  | cons p r ih =>
    simp only [List.map_cons, lookupD]
    by_cases hp : p.1 = n
    · simp [hp]
    · rw [if_neg hp]
      exact ih ((List.mem_cons.1 h).resolve_left fun e => hp e.symm)

theorem isRev_reverseSeqs (sd : SD) (n : List Char) (h : n ∈ sd.names) : sd.reverseSeqs.isRev n = !sd.isRev n := by
  unfold SD.isRev SD.reverseSeqs
  exact lookupD_map_fst sd.data (fun n => !lookupD sd.rev n false) n false h

theorem display_reverseSeqs (rcf : List Char → List Char) (hinv : ∀ s, rcf (rcf s) = s) (sd : SD) :
    sd.reverseSeqs.display rcf = (sd.display rcf).map fun p => (p.1, rcf p.2) := by
  unfold SD.display
  rw [List.map_map]
  apply List.map_congr_left
  intro p hp
  have hn : p.1 ∈ sd.names := List.mem_map_of_mem hp
  rw [isRev_reverseSeqs sd p.1 hn]
  simp only [Function.comp]
  generalize sd.isRev p.1 = b
  cases b <;> simp [hinv]

theorem rows_rebuilt_false (rcf : List Char → List Char) (sd : SD) (rows : List (List Char)) (h : rows.length = sd.data.length) :
    (sd.rebuilt false rows).rows rcf = rows := by
  unfold SD.rows SD.display
  rw [List.map_map]
  exact (List.map_congr_left fun p _ => rfl).trans (List.map_snd_zip (by simp [SD.names, h]))

theorem rows_rebuilt_true_allrev (rcf : List Char → List Char) (sd : SD) (hall : ∀ n ∈ sd.names, sd.isRev n = true)
    (rows : List (List Char)) (h : rows.length = sd.data.length) :
    (sd.rebuilt true rows).rows rcf = rows.map rcf := by
  unfold SD.rows SD.display
  rw [List.map_map]
  refine (List.map_congr_left (g := rcf ∘ Prod.snd) fun p hp => ?_).trans ?_
  · exact if_pos (hall p.1 (List.of_mem_zip hp).1)
  · rw [← List.map_map]
    exact congrArg _ (List.map_snd_zip (by simp [SD.names, h]))

theorem allrev_reverse_fresh (data : List (List Char × List Char)) :
    ∀ n ∈ (SD.fresh data).reverseSeqs.names, (SD.fresh data).reverseSeqs.isRev n = true := by
  intro n hn
  have hn' : n ∈ (SD.fresh data).names := hn
  rw [isRev_reverseSeqs _ _ hn']
  simp [SD.fresh, SD.isRev, lookupD]

theorem rows_length (rcf : List Char → List Char) (sd : SD) : (sd.rows rcf).length = sd.data.length := by
  simp [SD.rows, SD.display]

end CogentModel.C12State
