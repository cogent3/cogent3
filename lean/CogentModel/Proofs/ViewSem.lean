import CogentModel.Proofs.ViewShape
import CogentModel.Spec.PySlice
/-! Semantics of a slice record: the list of parent positions it displays.  It is a Python `range`
(`elems_eq_rangeList`; as a slice of the parent, `realise_eq'`), and so is what the constructor
makes of bounds that are already normal (`remk_pos_elems`, `remk_neg_elems`). -/
namespace CogentModel.View
open CogentModel CogentModel.PySlice

/-- parent position (0-based; non-negative under `Inv` when the view is not empty) of the first displayed element -/
def first (v : View) : Int := if v.step > 0 then v.start else v.start + v.seqLen

/-- exclusive end of the displayed positions, in parent coordinates like `first` -/
def bound (v : View) : Int := if v.step > 0 then v.stop else v.stop + v.seqLen

/-- the parent positions displayed by the view, in display order -/
def elems (v : View) : List Int :=
  (List.range (len v).toNat).map fun (i : Nat) => first v + (i : Int) * v.step

theorem elems_nil_of_len (w : View) (h : len w = 0) : elems w = [] := by
  unfold elems; rw [h]; rfl

theorem elems_length (v : View) : (elems v).length = (len v).toNat := by
  unfold elems; simp

theorem elems_getElem? (v : View) (j : Int) (h0 : 0 ≤ j) (hj : j < len v) :
    (elems v)[j.toNat]? = some (first v + j * v.step) := by
  unfold elems
  have : j.toNat < (len v).toNat := by omega
  rw [List.getElem?_map, List.getElem?_range this]
  simp only [Option.map_some, Int.toNat_of_nonneg h0]

theorem elems_eq_rangeList (v : View) (h : Inv v) : elems v = rangeList (first v) (bound v) v.step := by
  unfold elems rangeList
  obtain ⟨_, ⟨hk, _, h1, _⟩ | ⟨hk, _, h1, _⟩⟩ := h
  · rw [first, bound, if_pos hk, if_pos hk, rangeLen_of_isCeil hk (len_isCeil_fwd v hk h1)]
  · have hk' : ¬ v.step > 0 := by omega
    rw [first, bound, if_neg hk', if_neg hk', rangeLen_swap _ _ _ hk, rangeLen_of_isCeil (by omega)
      (by rw [Int.add_sub_add_right]; exact len_isCeil_rev v hk h1)]

theorem realise_eq' (v : View) (h : Inv v) :
    PySlice.sliceIdx v.seqLen.toNat (some v.start) (some v.stop) v.step = elems v := by
  rw [elems_eq_rangeList v h, first, bound]
  obtain ⟨hn, ⟨hk, h0, h1, h2⟩ | ⟨hk, h0, h1, h2⟩⟩ := h
  · rw [sliceIdx_pos _ hn _ _ _ hk, if_pos hk, if_pos hk, Option.getD_some, Option.getD_some,
      clampP_of_mem h0 (by omega), clampP_of_mem (by omega) h2]
  · have hk' : ¬ v.step > 0 := by omega
    rw [sliceIdx_neg _ hn _ _ _ hk, if_neg hk', if_neg hk', Option.getD_some, Option.getD_some,
      clampN_of_neg (by omega) h2, clampN_of_neg h0 (by omega)]

/-- the constructor leaves bounds that are already normal alone -/
theorem remk_pos_eq (v : View) (S E K : Int) (hN : 0 ≤ v.seqLen) (hK : 0 < K) (hS : 0 ≤ S) (hE : 0 ≤ E)
    (hEN : E ≤ v.seqLen) :
    remk v S E K = .ok (if S < E
      then { start := S, stop := E, step := K, offset := v.offset, seqLen := v.seqLen }
      else { start := 0, stop := 0, step := 1, offset := v.offset, seqLen := v.seqLen }) := by
  unfold remk mk
  rw [if_neg (fun e => absurd (Option.some.inj e) (by omega))]
  simp only [Option.getD_some, if_pos hK, inputValsPos_eq _ hN]
  congr 1
  rw [clampP_of_mem hE hEN]
  by_cases h : S < E
  · rw [if_pos h, clampP_of_mem hS (by omega), if_pos h]
  · rw [if_neg h, if_neg (by unfold clampP; omega)]

theorem remk_neg_eq (v : View) (S E K : Int) (hN : 0 ≤ v.seqLen) (hK : K < 0) (hS : S ≤ -1)
    (hE1 : -v.seqLen - 1 ≤ E) (hE2 : E ≤ -1) :
    remk v S E K = .ok (if S < -v.seqLen ∨ S < E
      then { start := 0, stop := 0, step := 1, offset := v.offset, seqLen := v.seqLen }
      else { start := S, stop := E, step := K, offset := v.offset, seqLen := v.seqLen }) := by
  unfold remk mk
  rw [if_neg (fun e => absurd (Option.some.inj e) (by omega))]
  simp only [Option.getD_some, if_neg (show ¬ K > 0 by omega), inputValsNeg_eq _ hN]
  congr 1
  by_cases h : S < -v.seqLen ∨ S < E
  · rw [if_pos h, if_pos (by unfold clampN; omega)]
  · rw [if_neg h, if_neg (by unfold clampN; omega), clampN_of_neg (by omega) hS, clampN_of_neg hE1 hE2,
      Int.add_sub_cancel, Int.add_sub_cancel]

/-- what the rebuilt record displays, for bounds of a forward record: empty or not, one equation -/
theorem remk_pos_elems (v w : View) (S E K : Int) (h : Inv v) (hK : 0 < K) (hS : 0 ≤ S) (hE : 0 ≤ E)
    (hEN : E ≤ v.seqLen) (hw : remk v S E K = .ok w) : elems w = rangeList S E K := by
  have hI := remk_inv v h S E K w hw
  rw [remk_pos_eq v S E K h.1 hK hS hE hEN] at hw
  rw [elems_eq_rangeList w hI, ← Except.ok.inj hw]
  split
  · rw [first, bound]; simp only [if_pos hK]
  · exact (rangeList_nil_pos S E K hK (by omega)).symm

/-- the same for the negative indices of a reversed record -/
theorem remk_neg_elems (v w : View) (S E K : Int) (h : Inv v) (hK : K < 0) (hS : S ≤ -1)
    (hE1 : -v.seqLen - 1 ≤ E) (hE2 : E ≤ -1) (hw : remk v S E K = .ok w) :
    elems w = rangeList (S + v.seqLen) (E + v.seqLen) K := by
  have hI := remk_inv v h S E K w hw
  rw [remk_neg_eq v S E K h.1 hK hS hE1 hE2] at hw
  rw [elems_eq_rangeList w hI, ← Except.ok.inj hw]
  split
  · exact (rangeList_nil_neg _ _ K hK (by omega)).symm
  · rw [first, bound]; simp only [if_neg (show ¬ K > 0 by omega)]

theorem len_mk_zero (o N : Int) :
    len { start := 0, stop := 0, step := 1, offset := o, seqLen := N } = 0 := rfl

end CogentModel.View
