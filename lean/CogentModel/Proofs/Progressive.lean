import CogentModel.Model.Progressive
/-! # C18 — lemmas for the progressive column-merge model (core only, no Mathlib) -/
namespace CogentModel.Progressive


/-- in dimension `d` the skipped columns of dimension `d'` are those columns, or nothing -/
theorem filterMap_skipped (d d' : Bool) (s e : Nat) :
    (skipped d' s e).filterMap (dimOf d) = if d = d' then List.range' s (e - s) else [] := by
  unfold skipped
  rw [List.filterMap_map]
  cases d <;> cases d' <;> simp [dimOf, Function.comp_def]

theorem filterMap_skipTo (d d' : Bool) (u : Nat) (o : Option Nat) :
    (skipTo d' u o).filterMap (dimOf d) = if d = d' then List.range' u (o.getD u - u) else [] := by
  cases o with
  | none => simp [skipTo]
  | some p => exact filterMap_skipped d d' u p

theorem filterMap_cons_toList {α β : Type} (f : α → Option β) (a : α) (l : List α) :
    (a :: l).filterMap f = (f a).toList ++ l.filterMap f := by
  cases h : f a <;> simp [h]

theorem le_nextUpto (u : Nat) (o : Option Nat) (ho : (match o with | some a => decide (u ≤ a) | none => true) = true) :
    u ≤ nextUpto u o := by
  cases o with
  | none => exact Nat.le_refl u
  | some a => exact Nat.le_succ_of_le (of_decide_eq_true ho)

/-- one step of the loop in its own dimension: the skipped columns, the aligned column if any, and the columns from
the new `upto` on are the columns from `upto` on -/
theorem range'_step (u n : Nat) (o : Option Nat) (ho : (match o with | some a => decide (u ≤ a) | none => true) = true)
    (hn : nextUpto u o ≤ n) :
    List.range' u (o.getD u - u) ++ (o.toList ++ List.range' (nextUpto u o) (n - nextUpto u o)) =
      List.range' u (n - u) := by
  cases o with
  | none => simp only [nextUpto, Option.getD_none, Nat.sub_self, List.range'_zero, Option.toList_none, List.nil_append]
  | some a =>
    obtain ⟨k, rfl⟩ := Nat.exists_eq_add_of_le (of_decide_eq_true ho)
    obtain ⟨m, rfl⟩ := Nat.exists_eq_add_of_le hn
    simp only [nextUpto, Option.getD_some, Option.toList_some, List.singleton_append, Nat.add_sub_cancel_left]
    rw [← List.range'_succ, List.range'_append_1, Nat.add_assoc u, Nat.add_assoc u, Nat.add_sub_cancel_left,
      Nat.add_comm m 1, Nat.add_assoc]
theorem apValid_le (n1 n2 : Nat) : ∀ (ap : List Pos) (u0 u1 : Nat), apValid n1 n2 ap u0 u1 = true → u0 ≤ n1 ∧ u1 ≤ n2
  | [], u0, u1, h => by simpa [apValid] using h
  | p :: r, u0, u1, h => by
    simp only [apValid, Bool.and_eq_true] at h
    have := apValid_le n1 n2 r _ _ h.2
    exact ⟨Nat.le_trans (le_nextUpto u0 p.1 h.1.1) this.1, Nat.le_trans (le_nextUpto u1 p.2 h.1.2) this.2⟩

/-- the loop emits every remaining column of both children exactly once, in order -/
theorem pogLoop_complete (n1 n2 : Nat) : ∀ (ap : List Pos) (u0 u1 : Nat), apValid n1 n2 ap u0 u1 = true →
    (pogLoop n1 n2 ap u0 u1).filterMap (dimOf false) = List.range' u0 (n1 - u0) ∧
    (pogLoop n1 n2 ap u0 u1).filterMap (dimOf true) = List.range' u1 (n2 - u1)
  | [], u0, u1, _ => by simp [pogLoop, List.filterMap_append, filterMap_skipped]
  | p :: r, u0, u1, h => by
    simp only [apValid, Bool.and_eq_true] at h
    have ih := pogLoop_complete n1 n2 r _ _ h.2
    have hle := apValid_le n1 n2 r _ _ h.2
    simp only [pogLoop, List.filterMap_append, filterMap_cons_toList, filterMap_skipTo, Bool.false_eq_true,
      Bool.true_eq_false, if_true, if_false, List.nil_append, ih.1, ih.2]
    exact ⟨range'_step u0 n1 p.1 h.1.1 hle.1, range'_step u1 n2 p.2 h.1.2 hle.2⟩


theorem pogTraceback_complete (n1 n2 : Nat) (ap : List Pos) (h : apValid n1 n2 ap 0 0 = true) :
    (pogTraceback n1 n2 ap).filterMap (dimOf false) = List.range' 0 n1 ∧
    (pogTraceback n1 n2 ap).filterMap (dimOf true) = List.range' 0 n2 := by
  simpa [pogTraceback] using pogLoop_complete n1 n2 ap 0 0 h

/-- the columns the DP aligned are kept, in order (no hypothesis) -/
theorem pogLoop_sublist (n1 n2 : Nat) : ∀ (ap : List Pos) (u0 u1 : Nat), ap.Sublist (pogLoop n1 n2 ap u0 u1)
  | [], _, _ => List.nil_sublist _
  | p :: r, u0, u1 => by
    unfold pogLoop
    refine List.Sublist.trans ?_ (List.sublist_append_right _ _)
    refine List.Sublist.trans ?_ (List.sublist_append_right _ _)
    exact (pogLoop_sublist n1 n2 r _ _).cons_cons p

section rows
variable {α : Type}

/-- one more gap column: the residues stay, the row grows by one -/
theorem insertGapAt_spec (c : Nat) (r : Row α) :
    degap (insertGapAt c r) = degap r ∧ (insertGapAt c r).length = r.length + 1 := by
  fun_induction insertGapAt c r with
  | case1 => exact ⟨rfl, rfl⟩
  | case2 x r => exact ⟨rfl, rfl⟩
  | case3 c x r ih => exact ⟨congrArg (x :: ·) ih.1, congrArg (· + 1) ih.2⟩
  | case4 c r ih => exact ⟨ih.1, congrArg (· + 1) ih.2⟩

theorem foldl_insert_degap (cs : List Nat) : ∀ (r : Row α),
    degap (cs.foldl (fun r c => insertGapAt c r) r) = degap r ∧
    (cs.foldl (fun r c => insertGapAt c r) r).length = r.length + cs.length := by
  induction cs with
  | nil => intro r; exact ⟨rfl, rfl⟩
  | cons c cs ih =>
    intro r
    have h := ih (insertGapAt c r)
    rw [(insertGapAt_spec c r).1, (insertGapAt_spec c r).2] at h
    exact ⟨h.1, h.2.trans (Nat.add_right_comm _ _ _)⟩

theorem colGaps_length (d : Bool) : ∀ (full : List Pos) (k : Nat),
    (colGaps d full k).length + (full.filterMap (dimOf d)).length = full.length
  | [], _ => rfl
  | p :: r, k => by
    rw [colGaps, List.filterMap_cons]
    cases dimOf d p with
    | none => exact (Nat.succ_add _ _).trans (congrArg (· + 1) (colGaps_length d r k))
    | some c => exact congrArg (· + 1) (colGaps_length d r (k + 1))

theorem pinnedMerge_spec (d : Bool) (full : List Pos) (row : Row α) :
    degap (pinnedMerge d full row) = degap row ∧
    (pinnedMerge d full row).length + (full.filterMap (dimOf d)).length = row.length + full.length := by
  have h := foldl_insert_degap (colGaps d full 0) row
  have l := colGaps_length d full 0
  unfold pinnedMerge
  exact ⟨h.1, by rw [h.2]; omega⟩

theorem map_range'_getElem (row : Row α) : ∀ (pre : Row α),
    (List.range' pre.length row.length).map (fun c => ((pre ++ row)[c]?).getD none) = row := by
  induction row with
  | nil => intro pre; simp
  | cons x r ih =>
    intro pre
    have := ih (pre ++ [x])
    simp only [List.length_append, List.length_cons, List.length_nil, List.append_assoc, List.cons_append,
      List.nil_append] at this
    rw [List.length_cons, List.range'_succ, List.map_cons, this]
    simp

theorem specMerge_eq (d : Bool) (full : List Pos) (row : Row α) :
    project d full (specMerge d full row) = (full.filterMap (dimOf d)).map (fun c => (row[c]?).getD none) ∧
    degap (specMerge d full row) = degap ((full.filterMap (dimOf d)).map (fun c => (row[c]?).getD none)) := by
  induction full with
  | nil => exact ⟨rfl, rfl⟩
  | cons p r ih =>
    simp only [specMerge, List.map_cons, project, List.filterMap_cons, degap] at ih ⊢
    cases dimOf d p with
    | none => exact ih
    | some c =>
      simp only [Option.isSome_some, if_true, List.map_cons, List.filterMap_cons, ih.1, ih.2, and_self]
theorem specMerge_spec (d : Bool) (full : List Pos) (row : Row α)
    (h : full.filterMap (dimOf d) = List.range' 0 row.length) :
    project d full (specMerge d full row) = row ∧ degap (specMerge d full row) = degap row ∧
    (specMerge d full row).length = full.length := by
  have e := specMerge_eq d full row
  have m := map_range'_getElem row []
  simp only [List.length_nil, List.nil_append] at m
  rw [h, m] at e
  exact ⟨e.1, e.2, by simp [specMerge]⟩

theorem mergeRow_spec (fixed d : Bool) (full : List Pos) (row : Row α)
    (h : full.filterMap (dimOf d) = List.range' 0 row.length) :
    degap (mergeRow fixed d full row) = degap row ∧ (mergeRow fixed d full row).length = full.length := by
  cases fixed with
  | true => have := specMerge_spec d full row h; exact ⟨this.2.1, this.2.2⟩
  | false =>
    have := pinnedMerge_spec d full row
    rw [h, List.length_range'] at this
    exact ⟨this.1, Nat.add_right_cancel (this.2.trans (Nat.add_comm _ _))⟩

/-- the rows of a child, all of width `w`, merged along a path that lists the child's columns `0 … w-1` -/
theorem map_mergeRow_spec (fixed d : Bool) (F : List Pos) (L : List (Row α)) (w : Nat)
    (hw : ∀ x ∈ L, x.length = w) (hF : F.filterMap (dimOf d) = List.range' 0 w) :
    (L.map (mergeRow fixed d F)).map degap = L.map degap ∧ ∀ y ∈ L.map (mergeRow fixed d F), y.length = F.length := by
  have m := fun x hx => mergeRow_spec fixed d F x ((hw x hx).symm ▸ hF)
  constructor
  · rw [List.map_map]; exact List.map_congr_left fun x hx => (m x hx).1
  · intro y hy
    obtain ⟨x, hx, rfl⟩ := List.mem_map.mp hy
    exact (m x hx).2

theorem map_project_mergeRow (d : Bool) (F : List Pos) (L : List (Row α)) (w : Nat)
    (hw : ∀ x ∈ L, x.length = w) (hF : F.filterMap (dimOf d) = List.range' 0 w) :
    (L.map (mergeRow true d F)).map (project d F) = L := by
  rw [List.map_map]
  conv => rhs; rw [← List.map_id L]
  exact List.map_congr_left fun x hx => (specMerge_spec d F x ((hw x hx).symm ▸ hF)).1

end rows

namespace GTree
variable {α : Type}

theorem rows_spec (fixed : Bool) : ∀ (t : GTree α), t.valid = true →
    (t.rows fixed).map degap = t.leaves ∧ ∀ r ∈ t.rows fixed, r.length = t.width
  | leaf s, _ => by simp [rows, leaves, width, degap, List.filterMap_map]
  | node l r ap, h => by
    simp only [valid, Bool.and_eq_true] at h
    obtain ⟨⟨hl, hr⟩, hap⟩ := h
    have il := rows_spec fixed l hl
    have ir := rows_spec fixed r hr
    have c := pogTraceback_complete l.width r.width ap hap
    have ml := map_mergeRow_spec fixed false _ _ _ il.2 c.1
    have mr := map_mergeRow_spec fixed true _ _ _ ir.2 c.2
    refine ⟨?_, fun x hx => ?_⟩
    · rw [rows, leaves, List.map_append, ml.1, mr.1, il.1, ir.1]
    · rcases List.mem_append.mp hx with hx | hx
      · exact ml.2 x hx
      · exact mr.2 x hx

/-- repaired merge: the parent's rows restricted to a child's columns are the child's rows -/
theorem keeps_children (l r : GTree α) (ap : List Pos) (h : (node l r ap).valid = true) :
    (((node l r ap).rows true).take (l.rows true).length).map (project false (node l r ap).full) = l.rows true ∧
    (((node l r ap).rows true).drop (l.rows true).length).map (project true (node l r ap).full) = r.rows true := by
  simp only [valid, Bool.and_eq_true] at h
  obtain ⟨⟨hl, hr⟩, hap⟩ := h
  have c := pogTraceback_complete l.width r.width ap hap
  have pl := map_project_mergeRow false _ _ _ (rows_spec true l hl).2 c.1
  have pr := map_project_mergeRow true _ _ _ (rows_spec true r hr).2 c.2
  have hlen : (l.rows true).length = ((l.rows true).map (mergeRow true false (pogTraceback l.width r.width ap))).length :=
    (List.length_map _).symm
  simp only [rows, full]
  refine ⟨?_, ?_⟩
  · rw [hlen, List.take_left', pl]; rfl
  · rw [hlen, List.drop_left', pr]; rfl

end GTree

end CogentModel.Progressive
