/-
  Scores and paths of the three derived HMMs in terms of the original one: `pinEnd` (first half), `startFrom`
  (second half), `revHMM` (the reversed problem of the backward half).
-/
import CogentModel.Model.Hirschberg
import CogentModel.Proofs.HirschCut
namespace CogentModel.PairHMM
set_option linter.unusedSectionVars false

variable {S : Type} [Add S] [LT S] [DecidableLT S]

theorem annotate_shift (h : HMM S) (i0 j0 : Nat) (q : List Nat) : ∀ i j,
    shiftSteps i0 j0 (annotate h i j q) = annotate h (i0 + i) (j0 + j) q := by
  induction q with
  | nil => intros; rfl
  | cons s q ih =>
    intro i j
    rw [annotate, annotate, Nat.add_assoc, Nat.add_assoc, ← ih]
    rfl

theorem pinEnd_T (h : HMM S) (z : S) (a p : Nat) {s : Nat} (hs : s ≤ h.k) : (pinEnd h z a).T p s = h.T p s :=
  if_neg (Nat.ne_of_lt (Nat.lt_succ_of_le hs))

theorem scoreFrom_pinEnd (h : HMM S) (z : S) (a : Nat) (q : List Nat) : ∀ (prev i j : Nat) (acc : Option S),
    (∀ s ∈ q, s ≤ h.k) → scoreFrom (pinEnd h z a) prev i j acc q = scoreFrom h prev i j acc q := by
  induction q with
  | nil => intros; rfl
  | cons s q ih =>
    intro prev i j acc hs
    obtain ⟨hsk, hq⟩ := List.forall_mem_cons.mp hs
    rw [scoreFrom, scoreFrom, pinEnd_T h z a prev hsk]
    exact ih _ _ _ _ hq

theorem prefixScore_pinEnd (h : HMM S) (z : S) (a : Nat) (i j : Nat) (p : List Nat) (hst : statesOK h p) :
    prefixScore (pinEnd h z a) i j p = prefixScore h i j p := by
  cases p with
  | nil => rfl
  | cons s p =>
    rw [prefixScore, prefixScore, pinEnd_T h z a 0 (hst s List.mem_cons_self).2.1]
    exact scoreFrom_pinEnd h z a p _ _ _ _ (fun x hx => (hst x (List.mem_cons_of_mem _ hx)).2.1)

/-- score of a non-empty global path in the first-half problem: only paths ending in the anchor state count -/
theorem globalScore_pinEnd (h : HMM S) (z : S) (hz : ∀ x : S, x + z = x) (a : Nat) {p : List Nat} (hne : p ≠ [])
    (hst : statesOK h p) :
    globalScore (pinEnd h z a) p = if lastState p = a then prefixScore h 0 0 p else none := by
  obtain ⟨s, p, rfl⟩ := List.exists_cons_of_ne_nil hne
  have hT : (pinEnd h z a).T (lastState (s :: p)) (pinEnd h z a).endId =
      if lastState (s :: p) = a then some z else none := if_pos rfl
  rw [globalScore, prefixScore_pinEnd h z a 0 0 _ hst, hT]
  split
  · cases prefixScore h 0 0 (s :: p) with
    | none => rfl
    | some x => exact congrArg some (hz x)
  · cases prefixScore h 0 0 (s :: p) <;> rfl

theorem isGlobalPath_pinEnd (h : HMM S) (z : S) (a n m : Nat) (p : List Nat) :
    IsGlobalPath (pinEnd h z a) n m p ↔ IsGlobalPath h n m p := by
  unfold IsGlobalPath
  rw [consumedFrom_congr (pinEnd h z a) h (fun _ => rfl)]
  exact Iff.rfl

theorem startFrom_T (h : HMM S) (a i0 j0 : Nat) {p : Nat} (hp : p ≠ 0) (s : Nat) :
    (startFrom h a i0 j0).T p s = h.T p s := if_neg hp

theorem scoreFrom_startFrom (h : HMM S) (a i0 j0 : Nat) (q : List Nat) : ∀ (prev i j : Nat) (acc : Option S),
    prev ≠ 0 → (∀ s ∈ q, s ≠ 0) →
    scoreFrom (startFrom h a i0 j0) prev i j acc q = scoreFrom h prev (i0 + i) (j0 + j) acc q := by
  induction q with
  | nil => intros; rfl
  | cons s q ih =>
    intro prev i j acc hp hs
    obtain ⟨hs0, hq⟩ := List.forall_mem_cons.mp hs
    rw [scoreFrom, scoreFrom, startFrom_T h a i0 j0 hp, Nat.add_assoc, Nat.add_assoc]
    exact ih _ _ _ _ hs0 hq

variable [ScoreLawsAC S]

/-- score of a global path of the second-half problem = tail score after the anchor state in the whole problem -/
theorem globalScore_startFrom (h : HMM S) (a i0 j0 : Nat) (q : List Nat) (hst : statesOK h q) :
    globalScore (startFrom h a i0 j0) q = tailScore h a i0 j0 q := by
  cases q with
  | nil => simp [globalScore, tailScore, startFrom, HMM.endId]
  | cons s q =>
    have hs0 : s ≠ 0 := Nat.ne_of_gt (hst s List.mem_cons_self).1
    have hq0 : ∀ x ∈ q, x ≠ 0 := fun x hx => Nat.ne_of_gt (hst x (List.mem_cons_of_mem _ hx)).1
    have hl0 : lastState (s :: q) ≠ 0 := Nat.ne_of_gt (hst _ (lastState_mem (List.cons_ne_nil s q))).1
    rw [globalScore, prefixScore, scoreFrom_startFrom h a i0 j0 q _ _ _ _ hs0 hq0, startFrom_T h a i0 j0 hl0]
    show eadd (scoreFrom h s (i0 + (0 + (h.dir s).1.toNat)) (j0 + (0 + (h.dir s).2.toNat))
      (eadd (h.T a s) (h.em s (i0 + (0 + (h.dir s).1.toNat)) (j0 + (0 + (h.dir s).2.toNat)))) q)
      (h.T (lastState (s :: q)) h.endId) = _
    rw [Nat.zero_add, Nat.zero_add, scoreFrom_tail, tailScore, eadd_assoc]

theorem isGlobalPath_startFrom (h : HMM S) (a : Nat) {i0 j0 n m : Nat} (hi : i0 ≤ n) (hj : j0 ≤ m) (q : List Nat) :
    IsGlobalPath (startFrom h a i0 j0) (n - i0) (m - j0) q ↔ statesOK h q ∧ consumedFrom h i0 j0 q = (n, m) := by
  unfold IsGlobalPath
  rw [consumedFrom_congr (startFrom h a i0 j0) h (fun _ => rfl), consumedFrom_sub h hi hj]
  exact Iff.rfl

/-- where the reversed path ends in reversed coordinates -/
theorem consumed_rev (h : HMM S) (n m i0 j0 : Nat) (q : List Nat) (hc : consumedFrom h i0 j0 q = (n, m)) :
    consumedFrom (revHMM h n m) 0 0 q.reverse = (n - i0, m - j0) := by
  have hm := consumed_mono h i0 j0 q
  rw [hc] at hm
  rw [consumedFrom_congr (revHMM h n m) h (fun _ => rfl), consumedFrom_reverse]
  exact (consumedFrom_sub h hm.1 hm.2 q).mpr hc

/-- a state entering original cell `(x + dx, y + dy)` enters the reversed cell `(n - (x + dx) + dx, m - (y + dy) + dy)`,
where the reversed problem gives it the same emission -/
theorem revHMM_em (h : HMM S) (n m s x y : Nat) (hx : x + (h.dir s).1.toNat ≤ n) (hy : y + (h.dir s).2.toNat ≤ m) :
    (revHMM h n m).em s (n - (x + (h.dir s).1.toNat) + (h.dir s).1.toNat)
      (m - (y + (h.dir s).2.toNat) + (h.dir s).2.toNat) = h.em s (x + (h.dir s).1.toNat) (y + (h.dir s).2.toNat) := by
  have e {n x d : Nat} (hx : x + d ≤ n) : n - (n - (x + d) + d) + d = x + d := by
    rw [Nat.sub_add_eq, Nat.sub_sub_self hx, Nat.sub_add_cancel (Nat.le_add_left d x)]
  show h.em s _ _ = _
  rw [e hx, e hy]

/-- **reversal**: a continuation after state `a` scores what its reverse, followed by the transition into `a`,
scores in the reversed problem -/
theorem reverse_scoreTo (h : HMM S) (n m : Nat) (q : List Nat) : ∀ (a i0 j0 : Nat), (∀ x ∈ q, 1 ≤ x) →
    consumedFrom h i0 j0 q = (n, m) → scoreTo (revHMM h n m) a q.reverse = tailScore h a i0 j0 q := by
  induction q with
  | nil => intro a i0 j0 _ _; simp [scoreTo, tailScore, revHMM]
  | cons s q ih =>
    intro a i0 j0 hpos hc
    have hm := consumed_mono h (i0 + (h.dir s).1.toNat) (j0 + (h.dir s).2.toNat) q
    rw [show consumedFrom h _ _ q = (n, m) from hc] at hm
    rw [List.reverse_cons, scoreTo_snoc, ih s _ _ (fun x hx => hpos x (List.mem_cons_of_mem _ hx)) hc,
      consumed_rev h n m _ _ q hc, show (revHMM h n m).dir s = h.dir s from rfl, revHMM_em h n m s i0 j0 hm.1 hm.2,
      show (revHMM h n m).T s a = h.T a s from if_neg (Nat.ne_of_gt (hpos s List.mem_cons_self)), tailScore,
      eadd_comm, eadd_comm (tailScore _ _ _ _ _)]

end CogentModel.PairHMM
