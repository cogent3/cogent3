import CogentModel.Model.KV
namespace CogentModel.KV
variable {D : Type}

theorem get_del (m : KV D) (k x : Str) : get (del m k) x = if x = k then none else get m x := by
  induction m with
  | nil => simp [del, get]
  | cons p m ih =>
    obtain ⟨a, v⟩ := p
    by_cases h : k = a
    · subst h; simp only [del, if_true]; rw [ih]; by_cases hx : x = k <;> simp [get, hx]
    · simp only [del, h, if_false, get]; rw [ih]
      by_cases hx : x = k
      · subst hx; simp [h]
      · simp [hx]

theorem get_put (m : KV D) (k x : Str) (v : D) : get (put m k v) x = if x = k then some v else get m x := by
  simp only [put, get, get_del]; by_cases h : x = k <;> simp [h]

theorem mem_keys_iff (m : KV D) (x : Str) : x ∈ keys m ↔ (get m x).isSome = true := by
  induction m with
  | nil => simp [keys, get]
  | cons p m ih =>
    obtain ⟨a, v⟩ := p
    simp only [keys, List.map_cons, List.mem_cons, get] at *
    by_cases h : x = a <;> simp [h, ih]

theorem keys_del (m : KV D) (k : Str) : keys (del m k) = (keys m).filter (fun x => x != k) := by
  induction m with
  | nil => simp [del, keys]
  | cons p m ih =>
    obtain ⟨a, v⟩ := p
    simp only [keys] at *
    by_cases h : k = a
    · subst h; simp [del, ih]
    · have h' : ¬ a = k := fun e => h e.symm
      simp [del, h, h', ih]

theorem nodup_del (m : KV D) (k : Str) (h : (keys m).Nodup) : (keys (del m k)).Nodup := by
  rw [keys_del]; exact h.filter _

theorem not_mem_keys_del (m : KV D) (k : Str) : k ∉ keys (del m k) := by
  rw [keys_del]; simp

theorem nodup_put (m : KV D) (k : Str) (v : D) (h : (keys m).Nodup) : (keys (put m k v)).Nodup := by
  simp only [put, keys, List.map_cons]
  exact List.nodup_cons.mpr ⟨not_mem_keys_del m k, nodup_del m k h⟩

theorem del_of_not_mem (m : KV D) (k : Str) (h : k ∉ keys m) : del m k = m := by
  induction m with
  | nil => rfl
  | cons p m ih =>
    obtain ⟨a, v⟩ := p
    simp only [keys, List.map_cons, List.mem_cons, not_or] at h
    simp only [del, h.1, if_false]; rw [ih h.2]

theorem eq_nil_of_keys (m : KV D) (h : ∀ x, x ∉ keys m) : m = [] := by
  cases m with
  | nil => rfl
  | cons p m => exact absurd (by simp [keys]) (h p.1)

theorem mem_keys_put (m : KV D) (k x : Str) (v : D) : x ∈ keys (put m k v) ↔ x = k ∨ x ∈ keys m := by
  rw [mem_keys_iff, get_put, mem_keys_iff]; by_cases h : x = k <;> simp [h]

theorem mem_keys_del (m : KV D) (k x : Str) : x ∈ keys (del m k) ↔ x ≠ k ∧ x ∈ keys m := by
  rw [mem_keys_iff, get_del, mem_keys_iff]; by_cases h : x = k <;> simp [h]

theorem get_foldl_del (xs : List Str) : ∀ (m : KV D) (x : Str),
    get (xs.foldl del m) x = if x ∈ xs then none else get m x := by
  induction xs with
  | nil => intro m x; rfl
  | cons a xs ih =>
    intro m x
    rw [List.foldl_cons, ih, get_del]
    by_cases h1 : x ∈ xs <;> by_cases h2 : x = a <;> simp [h1, h2]

theorem has_iff_mem {m : KV D} {k : Str} : has m k = true ↔ k ∈ keys m := (mem_keys_iff m k).symm

theorem has_eq_false_iff {m : KV D} {k : Str} : has m k = false ↔ k ∉ keys m := by
  rw [← has_iff_mem, Bool.not_eq_true]

theorem mem_of_get_some {m : KV D} {k : Str} {v : D} (h : get m k = some v) : k ∈ keys m :=
  (mem_keys_iff m k).mpr (by rw [h]; rfl)

theorem get_none_of_not_mem {m : KV D} {n : Str} (h : n ∉ keys m) : get m n = none := by
  cases hg : get m n with
  | none => rfl
  | some v => exact absurd (mem_of_get_some hg) h

theorem exists_get_of_mem {m : KV D} {k : Str} (h : k ∈ keys m) : ∃ v, get m k = some v :=
  Option.isSome_iff_exists.mp ((mem_keys_iff m k).mp h)

/-! ### member lists

Both stores keep their member ids in lists that are filled on first use and then maintained by hand. -/

def Listed (c ks : List Str) : Prop := c.Nodup ∧ ∀ n, n ∈ c ↔ n ∈ ks

theorem Listed.refl {ks : List Str} (h : ks.Nodup) : Listed ks ks := ⟨h, fun _ => Iff.rfl⟩

theorem Listed.contains_iff {c ks : List Str} (h : Listed c ks) (k : Str) : c.contains k = true ↔ k ∈ ks := by
  rw [List.contains_iff_mem, h.2]

/-- "an empty list means: ask the store again" -/
theorem Listed.refill {c g ks : List Str} (h : c = [] ∨ Listed c ks) (hg : Listed g ks) :
    Listed (if c.isEmpty then g else c) ks := by
  cases c with
  | nil => exact hg
  | cons a t => exact h.resolve_left (List.cons_ne_nil a t)

theorem Listed.put_mem {c : List Str} {m : KV D} {k : Str} (h : Listed c (keys m)) (hk : k ∈ keys m) (v : D) :
    Listed c (keys (put m k v)) :=
  ⟨h.1, fun n => by rw [h.2, mem_keys_put]; exact ⟨Or.inr, fun e => e.elim (· ▸ hk) id⟩⟩

theorem Listed.snoc_put {c : List Str} {m : KV D} {k : Str} (h : Listed c (keys m)) (hk : k ∉ keys m) (v : D) :
    Listed (c ++ [k]) (keys (put m k v)) := by
  refine ⟨List.nodup_append.mpr ⟨h.1, List.nodup_cons.mpr ⟨List.not_mem_nil, List.nodup_nil⟩, fun a ha b hb e => ?_⟩, fun n => ?_⟩
  · rw [List.mem_singleton] at hb
    exact hk ((h.2 k).mp (hb ▸ e ▸ ha))
  · rw [List.mem_append, List.mem_singleton, mem_keys_put, h.2, or_comm]

/-- a written key is appended unless it is listed already -/
theorem Listed.insert_put {c : List Str} {m : KV D} (h : Listed c (keys m)) (k : Str) (v : D) :
    Listed (if c.contains k then c else c ++ [k]) (keys (put m k v)) := by
  by_cases hk : k ∈ keys m
  · rw [if_pos ((h.contains_iff k).mpr hk)]; exact h.put_mem hk v
  · rw [if_neg (fun e => hk ((h.contains_iff k).mp e))]; exact h.snoc_put hk v

theorem Listed.erase_del {c : List Str} {m : KV D} (h : Listed c (keys m)) (k : Str) :
    Listed (c.erase k) (keys (del m k)) :=
  ⟨h.1.erase k, fun n => by rw [h.1.mem_erase_iff, h.2, mem_keys_del]⟩

/-! ### association lists under `filter` / `map` / `++` (the SQL statements of the SQLite model) -/

variable {V : Type}

theorem get_filter (p : Str × V → Bool) : ∀ (m : KV V), (keys m).Nodup → ∀ n,
    get (m.filter p) n = match get m n with
      | some v => if p (n, v) then some v else none
      | none => none := by
  intro m
  induction m with
  | nil => intro _ n; simp [get]
  | cons a m ih =>
    obtain ⟨k, v⟩ := a
    intro hnd n
    simp only [keys, List.map_cons] at hnd
    obtain ⟨hk, hnd'⟩ := List.nodup_cons.mp hnd
    have ih' := ih hnd' n
    by_cases hp : p (k, v) = true
    · simp only [List.filter_cons, hp, if_true, get]
      by_cases hn : n = k
      · subst hn; simp [hp]
      · simp only [hn, if_false]; exact ih'
    · have hp' : p (k, v) = false := by simpa using hp
      simp only [List.filter_cons, hp', Bool.false_eq_true, if_false, get]
      by_cases hn : n = k
      · subst hn
        have hnone : get m n = none := get_none_of_not_mem hk
        rw [ih', hnone]; simp [hp']
      · simp only [hn, if_false]; exact ih'

theorem keys_filter_sublist (p : Str × V → Bool) (m : KV V) : (keys (m.filter p)).Sublist (keys m) := by
  unfold keys
  exact (List.filter_sublist).map _

theorem nodup_filter (p : Str × V → Bool) (m : KV V) (h : (keys m).Nodup) : (keys (m.filter p)).Nodup :=
  (keys_filter_sublist p m).nodup h

/-- update the value stored under one key (SQL `UPDATE … WHERE record_id = id`) -/
theorem get_mapval (g : V → V) (id : Str) : ∀ (m : KV V) (n : Str),
    get (m.map fun q => if q.1 = id then (q.1, g q.2) else q) n = if n = id then (get m n).map g else get m n := by
  intro m
  induction m with
  | nil => intro n; simp [get]
  | cons a m ih =>
    obtain ⟨k, v⟩ := a
    intro n
    simp only [List.map_cons, get]
    by_cases hk : k = id
    · subst hk
      simp only [if_true]
      by_cases hn : n = k
      · simp [hn]
      · simp only [hn, if_false]; rw [ih n]; simp [hn]
    · simp only [hk, if_false]
      by_cases hn : n = k
      · subst hn; simp [hk]
      · simp only [hn, if_false]; exact ih n

theorem keys_mapval (g : V → V) (id : Str) (m : KV V) :
    keys (m.map fun q => if q.1 = id then (q.1, g q.2) else q) = keys m := by
  unfold keys
  rw [List.map_map]
  apply List.map_congr_left
  intro q _
  by_cases h : q.1 = id <;> simp [h]

/-- a row appended under a new key (SQL `INSERT`) -/
theorem get_append_single {m : KV V} {k : Str} (hk : k ∉ keys m) (v : V) (n : Str) :
    get (m ++ [(k, v)]) n = if n = k then some v else get m n := by
  induction m with
  | nil => rfl
  | cons a m ih =>
    obtain ⟨k', v'⟩ := a
    simp only [keys, List.map_cons, List.mem_cons, not_or] at hk
    simp only [List.cons_append, get]
    by_cases hn : n = k'
    · rw [if_pos hn, if_neg (fun e => hk.1 (e.symm.trans hn)), if_pos hn]
    · rw [if_neg hn, if_neg hn]; exact ih hk.2

theorem nodup_append_single {m : KV V} {k : Str} (hk : k ∉ keys m) (v : V) (h : (keys m).Nodup) :
    (keys (m ++ [(k, v)])).Nodup := by
  simp only [keys, List.map_append, List.map_cons, List.map_nil]
  exact List.nodup_append.mpr ⟨h, List.nodup_cons.mpr ⟨List.not_mem_nil, List.nodup_nil⟩,
    fun a ha b hb e => hk (List.mem_singleton.mp hb ▸ e ▸ ha)⟩

theorem mem_iff_get {m : KV V} (h : (keys m).Nodup) (n : Str) (v : V) : (n, v) ∈ m ↔ get m n = some v := by
  induction m with
  | nil => simp [get]
  | cons a m ih =>
    obtain ⟨k, v'⟩ := a
    simp only [keys, List.map_cons] at h
    obtain ⟨hk, hnd'⟩ := List.nodup_cons.mp h
    simp only [List.mem_cons, get, Prod.mk.injEq]
    by_cases hn : n = k
    · subst hn
      simp only [true_and, if_true, Option.some.injEq]
      constructor
      · rintro (e | hm)
        · exact e.symm
        · exact absurd (List.mem_map_of_mem (f := Prod.fst) hm) hk
      · intro e; exact Or.inl e.symm
    · simp only [hn, false_and, false_or, if_false]
      exact ih hnd'

end CogentModel.KV
