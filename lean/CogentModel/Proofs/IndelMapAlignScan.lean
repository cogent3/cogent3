import CogentModel.Proofs.IndelMapSearchSorted
import CogentModel.Proofs.IndelMapTrips
/-! `get_align_index` in closed form: residue `k` is moved right by the cumulative length of the gaps at positions `≤ k`
(`searchsorted` right), with `slice_stop` `< k` (left).  The branches of the code follow from facts about `searchsorted` on
a strictly increasing array.  `colFrom` is that closed form for a suffix of the arrays; gap by gap it is a scan
(`colFrom_cons`), which is what walks the string. -/
namespace CogentModel.IndelMap
open CogentModel.Gapped List CogentModel

/-- column of residue `k` after a gap with cumulative length `pc`: `k` moved right by the cumulative length of the gaps at
positions `≤ k` -/
def colFrom (pc : Int) (gp cum : List Int) (k : Int) : Int := k + getN (pc :: cum) (ssRight gp k)

/-- the column in which a map displays residue `k` -/
def col (m : IMap) (k : Int) : Int := colFrom 0 m.gapPos m.cumLens k

/-- gap by gap: a gap inserted at `k` or before comes before residue `k` -/
theorem colFrom_cons (pc p c : Int) (ps cs : List Int) (k : Int) :
    colFrom pc (p :: ps) (c :: cs) k = if k < p then k + pc else colFrom c ps cs k := by
  unfold colFrom
  rw [ssRight]
  by_cases h : k < p
  · rw [if_neg (by omega), if_pos h, getN_cons_zero]
  · rw [if_pos (by omega), if_neg h, getN_cons_succ]

theorem colFrom_of_lt (pc : Int) (gp cum : List Int) (k : Int) (h : ∀ q ∈ gp, k < q) : colFrom pc gp cum k = k + pc := by
  rw [colFrom, ssRight_eq_zero gp k h, getN_cons_zero]

/-- the index-arithmetic body of `get_align_index` (no `slice_stop` match) -/
def aiCore (gp cum : List Int) (k : Int) : Int :=
  if k ≥ lastD gp then k + lastD cum else
  if k < getN gp (ssLeft gp k) then k + (if ssLeft gp k = 0 then 0 else getN cum (ssLeft gp k - 1))
  else k + getN cum (ssLeft gp k)

/-- … adds to `k` the cumulative length of the gaps at positions `≤ k`: beyond the last gap all of them; where `k` is
not a gap position the left insertion point is the right one, where it is, the next -/
theorem aiCore_eq (gp cum : List Int) (k : Int) (hs : gp.Pairwise (· < ·)) (hne : gp ≠ [])
    (hl : gp.length = cum.length) : aiCore gp cum k = colFrom 0 gp cum k := by
  unfold aiCore colFrom
  by_cases hlast : k ≥ lastD gp
  · rw [if_pos hlast, ssRight_all gp k fun x hx => Int.le_trans (pairwise_le_lastD gp hs x hx) hlast, hl,
      getN_cons_length cum 0 fun e => hne (length_eq_zero_iff.mp (by rw [hl, e]; rfl))]
  · have hn := ssLeft_lt_length gp k hne (by omega)
    have hle := ssLeft_lt_spec gp k hn
    rw [if_neg hlast, ssRight_eq gp k hs]
    by_cases hlt : k < getN gp (ssLeft gp k)
    · have hm : k ∉ gp := fun hm => by rw [getN_ssLeft_of_mem gp k hs hm] at hlt; omega
      rw [if_pos hlt, if_neg hm, Nat.add_zero, getN_cons_pred]
    · have hm : k ∈ gp := by rw [show k = getN gp (ssLeft gp k) by omega]; exact getN_mem gp _ hn
      rw [if_neg hlt, if_pos hm, getN_cons_succ]

/-- **`get_align_index` in closed form**: residue `k` is moved right by the cumulative length of the gaps at positions
`≤ k`; with `slice_stop`, of the gaps at positions `< k` -/
theorem getAlignIndex_closed (m : IMap) (h : WF m) (k : Int) (h0 : 0 ≤ k) (stop : Bool) :
    getAlignIndex m k stop =
      .ok (k + getN (0 :: m.cumLens) (if stop then ssLeft m.gapPos k else ssRight m.gapPos k)) := by
  obtain ⟨gp, cum, pl⟩ := m
  have hs : gp.Pairwise (· < ·) := h.pos_sorted
  have hl : gp.length = cum.length := h.len_eq
  unfold getAlignIndex
  simp only [show ¬ k < 0 by omega, if_false, ← apply_ite Except.ok]
  by_cases hfirst : gp = [] ∨ k < gp.headD 0
  · -- no gap at a position `≤ k`
    have hall : ∀ x ∈ gp, k < x := by
      cases gp with
      | nil => exact fun _ hx => nomatch hx
      | cons p ps =>
        have hp : k < p := hfirst.resolve_left (cons_ne_nil _ _)
        exact forall_mem_cons.mpr ⟨hp, fun x hx => Int.lt_trans hp ((pairwise_cons.mp hs).1 x hx)⟩
    rw [if_pos hfirst, ← ssRight_pred, ssRight_eq_zero gp k hall,
      ssRight_eq_zero gp (k - 1) fun x hx => by have := hall x hx; omega, ite_self, getN_cons_zero, Int.add_zero]
  · rw [if_neg hfirst]
    -- without `slice_stop`, or where `k` is not a gap position, what is left is `aiCore`
    have hcore := congrArg (Except.ok (ε := Err)) (aiCore_eq gp cum k hs (fun e => hfirst (Or.inl e)) hl)
    have hR := ssRight_eq gp k hs
    cases stop with
    | false => exact hcore
    | true =>
      simp only [if_true, indexOf_eq gp k hs]
      by_cases hm : k ∈ gp
      · simp only [if_pos hm, getN_ssLeft_of_mem gp k hs hm]
        congr 1
        cases ssLeft gp k with
        | zero => rw [if_pos rfl, getN_cons_zero]; omega
        | succ j => rw [if_neg (Nat.succ_ne_zero j), getN_cons_succ, Nat.add_sub_cancel]; omega
      · rw [if_neg hm, Nat.add_zero] at hR
        rw [colFrom, hR] at hcore
        simp only [if_neg hm]
        exact hcore

/-- `get_align_index` after the negative-index conversion, through `col` -/
theorem getAlignIndex_nn (m : IMap) (h : WF m) (k : Int) (h0 : 0 ≤ k) (stop : Bool) :
    getAlignIndex m k stop = .ok (if stop then col m (k - 1) + 1 else col m k) := by
  rw [getAlignIndex_closed m h k h0 stop, col, col, colFrom, colFrom, ssRight_pred]
  cases stop
  · rfl
  · exact congrArg Except.ok (by simp only [if_true]; omega)

end CogentModel.IndelMap
