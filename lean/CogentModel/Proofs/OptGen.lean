import CogentModel.Gen.C16Opt
import CogentModel.Proofs.OptimiserCall
import CogentModel.Model.OptimiserLf
import CogentModel.Model.OptGenClamp
/-! # C16 — the translated optimiser stack equals the hand model

Every definition of `Gen/C16Opt.lean` (printed by the translator from the source text of `maths/optimisers.py`,
`Calculator.optimise` and `ParameterController.optimise`) is proved equal — for all arguments, states, objectives and
adversary optimisers — to the hand model `Model/Optimiser.lean` / `Model/OptimiserLf.lean` about which the property
theorems are stated, so an edit of a translated function that changes its meaning breaks one of these proofs. -/
namespace CogentModel.OptGenProofs
open CogentModel.Optimiser CogentModel.OptGen CogentModel.Gen

variable {X Y : Type}

/-- the hand model's configuration read off the translated code's environment -/
def toCfg (env : Env X Y) (bounds : Option (X × X)) (maxE : Option Nat) : Cfg X Y :=
  { f := env.f,
    inB := fun x => match bounds with
      | none => true
      | some (lo, hi) => env.vle lo x && env.vle x hi,
    gt := env.gt, fin := env.fin, negInf := env.negInf, maxEvals := maxE }

/-- the part of the translated state the hand model does not have -/
structure Aux (X Y : Type) where
  shown : List (PyF Y)
  warned : Nat
  updates : List (Option X)
  optimised : Bool

def embed (s : St X Y) (a : Aux X Y) : GSt X Y :=
  { evals := s.evals, best_fval := .val s.bestF, best_x := s.bestX, calls := s.calls,
    shown := a.shown, warned := a.warned, updates := a.updates, optimised := a.optimised }

def outRes : Out Y → Except Exc (PyF Y)
  | .maxReached n => .error (.maxEvals n)
  | .oob => .error .oob
  | .arith => .error .arith
  | .fatal => .error .fatal
  | .nan => .ok .nan
  | .val y => .ok (.val y)

theorem natGe_limitHit (m : Option Nat) (n : Nat) : natGe n (optNatOr m NatInf.inf) = limitHit m n := by
  cases m <;> simp [natGe, optNatOr, limitHit]

theorem wrapped_f_eq (env : Env X Y) (b : Option (X × X)) (maxE : Option Nat) (s : St X Y) (a : Aux X Y) (x : X) :
    C16Opt.limited_use.wrapped_f env (callObj env) maxE x (embed s a)
      = (embed (limitedCall (toCfg env b maxE) s x).1 a, outRes (limitedCall (toCfg env b maxE) s x).2) := by
  unfold C16Opt.limited_use.wrapped_f limitedCall
  simp only [PM.bind_ap, getSt_ap, PM.cont_ok, PM.ite_ap, natGe_limitHit]
  rw [show (embed s a).evals = s.evals from rfl, show (toCfg env b maxE).maxEvals = maxE from rfl]
  cases limitHit maxE s.evals
  · simp only [Bool.false_eq_true, if_false, modifySt_ap, PM.cont_ok, PM.bind_ap, callObj]
    show _ = (embed (afterCall _ _ _ (env.f x)).1 a, outRes (afterCall _ _ _ (env.f x)).2)
    cases env.f x
    case val y =>
      simp only [PM.cont_ok, PM.bind_ap, getSt_ap, PM.ite_ap]
      show (if env.gt y s.bestF = true then _ else _) = (embed (if env.gt y s.bestF = true then _ else _) a, _)
      cases env.gt y s.bestF <;> rfl
    all_goals rfl
  · rfl

/-- `g` behaves as the hand model's `boundedCall` (whatever the part of the state the hand model lacks) -/
def Impl (g : X → PM X Y (PyF Y)) (c : Cfg X Y) : Prop :=
  ∀ s a x, g x (embed s a) = (embed (boundedCall c s x).1 a, outRes (boundedCall c s x).2)

theorem impl_unbounded (env : Env X Y) (maxE : Option Nat) :
    Impl (C16Opt.limited_use.wrapped_f env (callObj env) maxE) (toCfg env none maxE) := by
  intro s a x
  rw [wrapped_f_eq env none maxE]
  simp [boundedCall, toCfg]

theorem impl_bounded (env : Env X Y) (maxE : Option Nat) (lo hi : X) :
    Impl (C16Opt.bounded_function._wrapper env (C16Opt.limited_use.wrapped_f env (callObj env) maxE) lo hi)
      (toCfg env (some (lo, hi)) maxE) := by
  intro s a x
  unfold C16Opt.bounded_function._wrapper boundedCall
  have hin : (toCfg env (some (lo, hi)) maxE).inB x = (env.vle lo x && env.vle x hi) := rfl
  rw [hin]
  cases env.vle lo x && env.vle x hi
  · rfl
  · exact wrapped_f_eq env (some (lo, hi)) maxE s a x

def stopExc : Stop → Exc
  | .maxEvals n => .maxEvals n
  | .fatal => .fatal

/-- number of "Non-finite f" warnings one objective call causes -/
def warns (env : Env X Y) : Out Y → Nat
  | .nan => 1
  | .val y => if env.fin y then 0 else if env.isneginf y then 0 else 1
  | _ => 0

def Aux.warn (a : Aux X Y) (n : Nat) : Aux X Y := { a with warned := a.warned + n }

theorem catching_eq (env : Env X Y) (b : Option (X × X)) (maxE : Option Nat) (g : X → PM X Y (PyF Y))
    (hneg : ∀ y, env.fin y = false → env.isneginf y = true → y = env.negInf)
    (hg : Impl g (toCfg env b maxE)) (s : St X Y) (a : Aux X Y) (x : X) :
    C16Opt.bounds_exception_catching_function._wrapper env g x (embed s a)
      = (embed (boundedCall (toCfg env b maxE) s x).1 (a.warn (warns env (boundedCall (toCfg env b maxE) s x).2)),
         match seen (toCfg env b maxE) (boundedCall (toCfg env b maxE) s x).2 with
         | .stop e => .error (stopExc e)
         | .ret y => .ok (.val y)) := by
  unfold C16Opt.bounds_exception_catching_function._wrapper C16Opt.bounds_exception_catching_function._wrapper.s0
  simp only [PM.bind_ap, PM.tryCatch_ap, hg s a x]
  generalize boundedCall (toCfg env b maxE) s x = r
  obtain ⟨s1, o⟩ := r
  cases o
  case val y =>
    -- `pyIsFinite`/`pyIsNegInf` are kept folded: the code's `if`s carry their `Decidable` instances
    show _ = (embed s1 (a.warn (if pyIsFinite env (.val y) = true then 0
                                else if pyIsNegInf env (.val y) = true then 0 else 1)),
      Except.ok (PyF.val (if pyIsFinite env (.val y) = true then y else env.negInf)))
    simp only [outRes, PM.cont_ok, PM.ite_ap]
    cases hf : pyIsFinite env (.val y)
    · cases hn : pyIsNegInf env (.val y)
      · rfl
      · rw [hneg y hf hn]; rfl
    · rfl
  all_goals rfl

def ImplC (env : Env X Y) (g : X → PM X Y (PyF Y)) (c : Cfg X Y) : Prop :=
  ∀ s a x, g x (embed s a)
    = (embed (boundedCall c s x).1 (a.warn (warns env (boundedCall c s x).2)),
       match seen c (boundedCall c s x).2 with
       | .stop e => .error (stopExc e)
       | .ret y => .ok (.val y))

/-- what `get_best_eq` needs: `get_best` calls the objective once more at the recorded best point, and that call
returns a value -/
def BestOk (c : Cfg X Y) (s : St X Y) : Prop := ∀ xb, s.bestX = some xb → ∃ y, c.f xb = .val y

theorem bestOk_init (c : Cfg X Y) : BestOk c (init c) := by
  intro xb h; simp [init] at h

theorem bestOk_boundedCall {c : Cfg X Y} {s : St X Y} (h : BestOk c s) (x : X) : BestOk c (boundedCall c s x).1 := by
  rcases boundedCall_cases c s x with e | ⟨_, _, ⟨e, _⟩ | ⟨y, hy, _, e⟩⟩ <;> rw [e]
  · exact h
  · exact h
  · intro xb hx
    cases hx
    exact ⟨y, hy⟩

theorem bestOk_runQueries {c : Cfg X Y} (qs : List X) : ∀ s, BestOk c s → BestOk c (runQueries c s qs).st :=
  runQueries_preserves (P := BestOk c) (fun _ q h => bestOk_boundedCall h q) qs

theorem get_best_eq (env : Env X Y) (b : Option (X × X)) (maxE : Option Nat) (s : St X Y) (a : Aux X Y)
    (h : BestOk (toCfg env b maxE) s) :
    C16Opt.limited_use.get_best env (callObj env) maxE (embed s a)
      = match s.bestX with
        | some xb => (embed { s with calls := xb :: s.calls } a, .ok (.val s.bestF, some xb, s.evals))
        | none => (embed s a, .error .fatal) := by
  unfold C16Opt.limited_use.get_best
  cases hb : s.bestX with
  | none => simp only [PM.bind_ap, getSt_ap, PM.cont_ok, embed, hb]; rfl
  | some xb =>
    obtain ⟨y, (hy : env.f xb = .val y)⟩ := h xb hb
    simp only [PM.bind_ap, getSt_ap, PM.cont_ok, unwrapX_some, embed, hb, callObj, hy]; rfl

theorem runQs_eq (env : Env X Y) (c : Cfg X Y) (g : X → PM X Y (PyF Y)) (hg : ImplC env g c) :
    ∀ (qs : List X) (s : St X Y) (a : Aux X Y) (x0 : X), ∃ w x',
      runQs g x0 qs (embed s a)
        = (embed (runQueries c s qs).st
             { a with shown := ((runQueries c s qs).shown.map PyF.val).reverse ++ a.shown, warned := w },
           match (runQueries c s qs).stop with
           | none => .ok x'
           | some e => .error (stopExc e)) := by
  intro qs
  induction qs with
  | nil => intro s a x0; exact ⟨a.warned, x0, rfl⟩
  | cons q qs ih =>
    intro s a x0
    simp only [runQs, runQueries, PM.bind_ap, hg s a q]
    cases hs : seen c (boundedCall c s q).2 with
    | stop e => exact ⟨_, x0, rfl⟩
    | ret y =>
      simp only [PM.cont_ok]
      obtain ⟨w, x', hh⟩ := ih (boundedCall c s q).1
        { (a.warn (warns env (boundedCall c s q).2)) with shown := PyF.val y :: a.shown } q
      refine ⟨w, x', ?_⟩
      simp only [List.map_cons, List.reverse_cons, List.append_assoc]
      exact hh

theorem runQs_append (g : X → PM X Y (PyF Y)) : ∀ (qG qL : List X) (x0 : X),
    runQs g x0 (qG ++ qL) = (runQs g x0 qG >>= fun x => runQs g x qL) := by
  intro qG
  induction qG with
  | nil => intro qL x0; rfl
  | cons q qs ih =>
    intro qL x0
    funext s
    simp only [List.cons_append, runQs, PM.bind_ap, ih]
    rcases g q s with ⟨s1, r⟩
    cases r <;> rfl

/-- `upper, lower = bounds` … `bounded_function(f, upper, lower)` as the code has it (a `None` side of the first
component becomes `+inf`, of the second `-inf`: the names are swapped in the source) -/
def boundsOf (env : Env X Y) : Option (Option X × Option X) → Option (X × X)
  | none => none
  | some (none, none) => none
  | some (u, l) => some (u.getD env.posInfX, l.getD env.negInfX)

def finalRes (env : Env X Y) (multi rec : Bool) : Final X Y → Except Exc (X × Option Nat)
  | .valueError => .error .valueError
  | .raised e => .error (stopExc e)
  | .done _ xb n none => .ok (if multi then xb else env.squeeze xb, if rec then some n else none)
  | .done _ _ _ (some e) => .error (stopExc e)
  | .noBest => .error .fatal

def auxOf (g : GSt X Y) : Aux X Y := { shown := g.shown, warned := g.warned, updates := g.updates, optimised := g.optimised }

theorem s5_eq (env : Env X Y) (x : X) (m : Bool) (g : GSt X Y) :
    C16Opt.maximise.s5 env x m g = (g, .ok (if m then x else env.atleast1d x)) := by
  cases m <;> rfl

theorem s11_eq (env : Env X Y) (x : X) (m : Bool) (g : GSt X Y) :
    C16Opt.maximise.s11 env x m g = (g, .ok (if m then x else env.squeeze x)) := by
  cases m <;> rfl

/-- the objective after the bounds section of `maximise` -/
def boundedF (env : Env X Y) (f : X → PM X Y (PyF Y)) (bounds : Option (Option X × Option X)) : X → PM X Y (PyF Y) :=
  match boundsOf env bounds with
  | none => f
  | some (lo, hi) => C16Opt.bounded_function._wrapper env f lo hi

theorem s6_eq (env : Env X Y) (f : X → PM X Y (PyF Y)) (bounds : Option (Option X × Option X)) (g : GSt X Y) :
    C16Opt.maximise.s6 env f bounds g = (g, .ok (boundedF env f bounds)) := by
  rcases bounds with _ | ⟨_ | u, _ | l⟩ <;> rfl

theorem impl_boundedF (env : Env X Y) (maxE : Option Nat) (bounds : Option (Option X × Option X)) :
    Impl (boundedF env (C16Opt.limited_use.wrapped_f env (callObj env) maxE) bounds)
      (toCfg env (boundsOf env bounds) maxE) := by
  unfold boundedF
  cases h : boundsOf env bounds with
  | none => exact impl_unbounded env maxE
  | some p => exact impl_bounded env maxE p.1 p.2

/-- the first evaluation: `ArithmeticError`/`ParameterOutOfBoundsError` become `ValueError` -/
def firstRes : Out Y → Except Exc (PyF Y)
  | .maxReached n => .error (.maxEvals n)
  | .oob => .error .valueError
  | .arith => .error .valueError
  | .fatal => .error .fatal
  | .nan => .ok .nan
  | .val y => .ok (.val y)

theorem s7_eq (env : Env X Y) (c : Cfg X Y) (f : X → PM X Y (PyF Y)) (hf : Impl f c) (fval : PyF Y) (x : X)
    (s : St X Y) (a : Aux X Y) :
    C16Opt.maximise.s7 env f fval x (embed s a)
      = (embed (boundedCall c s x).1 a, firstRes (boundedCall c s x).2) := by
  unfold C16Opt.maximise.s7
  simp only [PM.bind_ap, PM.tryCatch_ap, hf s a x]
  generalize boundedCall c s x = r
  obtain ⟨s1, o⟩ := r
  cases o <;> rfl

section
set_option linter.unusedVariables false
def runRes (env : Env X Y) : Final X Y → Except Exc (X × Nat)
  | .done _ xb n none => .ok (xb, n)
  | .done _ _ _ (some e) => .error (stopExc e)
  | .noBest => .error .fatal
  | .valueError => .error .valueError
  | .raised e => .error (stopExc e)
end

def stopRes : Option Stop → Except Exc Unit
  | none => .ok ()
  | some e => .error (stopExc e)

theorem phase_eq (env : Env X Y) (c : Cfg X Y) (f : X → PM X Y (PyF Y)) (hf : ImplC env f c) (qs : List X) (x : X)
    (s : St X Y) (a : Aux X Y) :
    ∃ w, (runQs f x qs >>= fun _ => (pure () : PM X Y Unit)) (embed s a)
      = (embed (runQueries c s qs).st
           { a with shown := ((runQueries c s qs).shown.map PyF.val).reverse ++ a.shown, warned := w },
         stopRes (runQueries c s qs).stop) := by
  obtain ⟨w, x', h⟩ := runQs_eq env c f hf qs s a x
  refine ⟨w, ?_⟩
  simp only [PM.bind_ap, h]
  cases (runQueries c s qs).stop <;> rfl

theorem two_phases (f : X → PM X Y (PyF Y)) (x : X) (qG qL : List X) :
    (do let l ← runQs f x qG; let _ ← runQs f l qL; (pure () : PM X Y Unit))
      = (runQs f x (qG ++ qL) >>= fun _ => (pure () : PM X Y Unit)) := by
  funext s
  rw [runQs_append]
  simp only [PM.bind_ap]
  rcases runQs f x qG s with ⟨s1, r⟩
  cases r <;> rfl

theorem finish_eq (env : Env X Y) (b : Option (X × X)) (maxE : Option Nat) (body : PM X Y Unit)
    (g : GSt X Y) (t : Trace X Y) (a' : Aux X Y)
    (hbody : body g = (embed t.st a', stopRes t.stop)) (hs : BestOk (toCfg env b maxE) t.st) :
    ((pyTryFinally body (do
        let r ← C16Opt.limited_use.get_best env (callObj env) maxE
        let x ← unwrapX r.snd.fst
        pure (x, r.snd.snd))) >>= fun p => pure (p.snd.fst, p.snd.snd)) g
      = (embed (getBest t.st t.shown t.stop).st a', runRes env (getBest t.st t.shown t.stop).final) := by
  simp only [PM.bind_ap, pyTryFinally_ap, hbody, get_best_eq env b maxE t.st a' hs]
  unfold getBest
  cases t.st.bestX <;> cases t.stop <;> rfl

theorem getBest_shown (s : St X Y) (sh : List Y) (e : Option Stop) : (getBest s sh e).shown = sh := by
  unfold getBest; split <;> rfl

theorem s10_eq (env : Env X Y) (b : Option (X × X)) (maxE : Option Nat) (f : X → PM X Y (PyF Y))
    (hf : ImplC env f (toCfg env b maxE)) (warn : Bool) (opt : OptKind) (evals : Nat) (local_ : Option Bool) (x : X)
    (s : St X Y) (a : Aux X Y) (hs : BestOk (toCfg env b maxE) s) :
    ∃ w, C16Opt.maximise.s10 env f warn opt evals ((!(truthyOB local_)) || local_.isNone)
          ((truthyOB local_) || local_.isNone) (C16Opt.limited_use.get_best env (callObj env) maxE) x (embed s a)
      = (embed (optimiseFrom (toCfg env b maxE) s (queriesFor local_ env.qsG env.qsL)).st
           { a with shown := ((optimiseFrom (toCfg env b maxE) s (queriesFor local_ env.qsG env.qsL)).shown.map PyF.val).reverse ++ a.shown,
                    warned := w },
         runRes env (optimiseFrom (toCfg env b maxE) s (queriesFor local_ env.qsG env.qsL)).final) := by
  unfold C16Opt.maximise.s10
  have key : ∀ (body : PM X Y Unit) (qs : List X),
      (∃ w, body (embed s a) = (embed (runQueries (toCfg env b maxE) s qs).st
           { a with shown := ((runQueries (toCfg env b maxE) s qs).shown.map PyF.val).reverse ++ a.shown, warned := w },
         stopRes (runQueries (toCfg env b maxE) s qs).stop)) →
      ∃ w, ((pyTryFinally body (do
        let r ← C16Opt.limited_use.get_best env (callObj env) maxE
        let x ← unwrapX r.snd.fst
        pure (x, r.snd.snd))) >>= fun p => pure (p.snd.fst, p.snd.snd)) (embed s a)
        = (embed (optimiseFrom (toCfg env b maxE) s qs).st
           { a with shown := ((optimiseFrom (toCfg env b maxE) s qs).shown.map PyF.val).reverse ++ a.shown, warned := w },
           runRes env (optimiseFrom (toCfg env b maxE) s qs).final) := by
    intro body qs ⟨w, hb⟩
    refine ⟨w, ?_⟩
    rw [finish_eq env b maxE body (embed s a) (runQueries (toCfg env b maxE) s qs) _ hb (bestOk_runQueries qs s hs)]
    simp only [optimiseFrom, getBest_shown]
  refine key _ _ ?_
  -- with the flags evaluated the `try` body is one optimiser run over `queriesFor local_ …`
  rcases local_ with _ | _ | _
  · exact two_phases f x env.qsG env.qsL ▸ phase_eq env _ f hf _ x s a
  · exact two_phases f x env.qsG [] ▸ phase_eq env _ f hf _ x s a
  · cases warn
    · exact phase_eq env _ f hf env.qsL x s a
    · exact phase_eq env _ f hf env.qsL x s (a.warn 1)

theorem maximise_eq (env : Env X Y)
    (hneg : ∀ y, env.fin y = false → env.isneginf y = true → y = env.negInf)
    (x0 : X) (bounds : Option (Option X × Option X)) (local_ : Option Bool) (maxE : Option Nat) (rec warn : Bool)
    (g : GSt X Y) (hcalls : g.calls = []) :
    ∃ w, C16Opt.maximise env (callObj env) x0 bounds local_ maxE rec warn g
      = (embed (Optimiser.maximise (toCfg env (boundsOf env bounds) maxE)
                  (if env.multi x0 then x0 else env.atleast1d x0) (queriesFor local_ env.qsG env.qsL)).st
           { shown := ((Optimiser.maximise (toCfg env (boundsOf env bounds) maxE)
                  (if env.multi x0 then x0 else env.atleast1d x0) (queriesFor local_ env.qsG env.qsL)).shown.map PyF.val).reverse ++ g.shown,
             warned := w, updates := g.updates, optimised := g.optimised },
         finalRes env (env.multi x0) rec (Optimiser.maximise (toCfg env (boundsOf env bounds) maxE)
                  (if env.multi x0 then x0 else env.atleast1d x0) (queriesFor local_ env.qsG env.qsL)).final) := by
  unfold C16Opt.maximise C16Opt.limited_use.init
  simp only [PM.bind_ap, modifySt_ap, PM.cont_ok]
  generalize hx1 : (if env.multi x0 = true then x0 else env.atleast1d x0) = x1
  have hst : ({ g with evals := 0, best_fval := PyF.val env.negInf, best_x := none } : GSt X Y)
      = embed (init (toCfg env (boundsOf env bounds) maxE)) (auxOf g) := by
    simp [embed, init, auxOf, hcalls, toCfg]
  have hF := impl_boundedF env maxE bounds
  have hC : ImplC env (C16Opt.bounds_exception_catching_function._wrapper env
      (boundedF env (C16Opt.limited_use.wrapped_f env (callObj env) maxE) bounds)) (toCfg env (boundsOf env bounds) maxE) :=
    catching_eq env (boundsOf env bounds) maxE _ hneg hF
  have hB := bestOk_boundedCall (bestOk_init (toCfg env (boundsOf env bounds) maxE)) x1
  rw [hst, s5_eq, hx1]
  simp only [PM.cont_ok, PM.bind_ap, s6_eq, s7_eq env _ _ hF]
  unfold Optimiser.maximise
  generalize boundedCall (toCfg env (boundsOf env bounds) maxE) (init (toCfg env (boundsOf env bounds) maxE)) x1 = r at hB ⊢
  obtain ⟨s1, o⟩ := r
  cases o
  case val y =>
    have hpf : pyIsFinite env (.val y) = (toCfg env (boundsOf env bounds) maxE).fin y := rfl
    cases hfy : (toCfg env (boundsOf env bounds) maxE).fin y
    · refine ⟨g.warned, ?_⟩
      simp only [firstRes, PM.cont_ok, afterFirst, PM.ite_ap]
      rw [hpf, hfy]
      rfl
    · obtain ⟨w, h10⟩ := s10_eq env (boundsOf env bounds) maxE _ hC warn OptKind.local_ 0 local_ x1 s1 (auxOf g) hB
      refine ⟨w, ?_⟩
      simp only [firstRes, PM.cont_ok, afterFirst, PM.ite_ap]
      rw [hpf, hfy]
      simp only [Bool.not_true, Bool.false_eq_true, if_false, if_true, PM.bind_ap, h10]
      generalize optimiseFrom (toCfg env (boundsOf env bounds) maxE) s1 (queriesFor local_ env.qsG env.qsL) = R
      rcases R.final with _ | e | ⟨fb, xb, n, _ | e⟩ | _
      case done.none =>
        simp only [runRes, PM.cont_ok, s11_eq, PM.ite_ap, PM.bind_ap]
        cases rec <;> rfl
      all_goals rfl
  all_goals exact ⟨g.warned, rfl⟩

/- `clampX` (the start vector `Calculator.optimise` hands to `maximise`) is defined in Model/OptGenClamp.lean, so that the
   driver can evaluate it without depending on the generated file -/

/-- … as `maximise` then sees it (`atleast_1d` of a 0-d array) -/
def startOf (env : Env X Y) : X := if env.multi (clampX env) then clampX env else env.atleast1d (clampX env)

def excOf : MaxExc → Exc
  | .maxEvals n => .maxEvals n
  | .fatal => .fatal
  | .valueError => .valueError

theorem finalRes_cases (env : Env X Y) (m rec : Bool) (F : Final X Y) :
    (∃ v, finalRes env m rec F = .ok v ∧ F.exc = none) ∨ (∃ e, finalRes env m rec F = .error (excOf e) ∧ F.exc = some e) := by
  rcases F with _ | ⟨_ | _⟩ | ⟨fb, xb, n, _ | _ | _⟩ | _
  case done.none => exact .inl ⟨_, rfl, rfl⟩
  all_goals exact .inr ⟨_, rfl, rfl⟩

def calcRes : Option MaxExc → Except Exc Unit
  | none => .ok ()
  | some e => .error (excOf e)

theorem cs3_eq (env : Env X Y) (x low : X) (g : GSt X Y) :
    C16Opt.Calculator.optimise.s3 env x low g
      = (g, .ok (if env.allclose (env.sel x (env.maskGt low x)) (env.sel low (env.maskGt low x))
                 then env.put x (env.maskGt low x) (env.sel low (env.maskGt low x)) else x)) := by
  unfold C16Opt.Calculator.optimise.s3
  by_cases h : env.allclose (env.sel x (env.maskGt low x)) (env.sel low (env.maskGt low x)) = true <;> simp [h]

theorem cs4_eq (env : Env X Y) (x high : X) (g : GSt X Y) :
    C16Opt.Calculator.optimise.s4 env x high g
      = (g, .ok (if env.allclose (env.sel x (env.maskLt high x)) (env.sel high (env.maskLt high x))
                 then env.put x (env.maskLt high x) (env.sel high (env.maskLt high x)) else x)) := by
  unfold C16Opt.Calculator.optimise.s4
  by_cases h : env.allclose (env.sel x (env.maskLt high x)) (env.sel high (env.maskLt high x)) = true <;> simp [h]

theorem calc_optimise_eq (env : Env X Y)
    (hneg : ∀ y, env.fin y = false → env.isneginf y = true → y = env.negInf)
    (local_ : Option Bool) (maxE : Option Nat) (g : GSt X Y) (hcalls : g.calls = []) :
    ∃ w, C16Opt.Calculator.optimise env local_ maxE g
      = (embed (Optimiser.maximise (toCfg env (some (env.boundsLow, env.boundsHigh)) maxE) (startOf env)
                  (queriesFor local_ env.qsG env.qsL)).st
           { shown := ((Optimiser.maximise (toCfg env (some (env.boundsLow, env.boundsHigh)) maxE) (startOf env)
                  (queriesFor local_ env.qsG env.qsL)).shown.map PyF.val).reverse ++ g.shown,
             warned := w, updates := g.updates,
             optimised := (Optimiser.maximise (toCfg env (some (env.boundsLow, env.boundsHigh)) maxE) (startOf env)
                  (queriesFor local_ env.qsG env.qsL)).final.exc.isNone || g.optimised },
         calcRes (Optimiser.maximise (toCfg env (some (env.boundsLow, env.boundsHigh)) maxE) (startOf env)
                  (queriesFor local_ env.qsG env.qsL)).final.exc) := by
  unfold C16Opt.Calculator.optimise
  obtain ⟨w, h⟩ := maximise_eq env hneg (clampX env) (some (some env.boundsLow, some env.boundsHigh)) local_ maxE
    false false g hcalls
  refine ⟨w, ?_⟩
  have hb : boundsOf env (some (some env.boundsLow, some env.boundsHigh)) = some (env.boundsLow, env.boundsHigh) := rfl
  rw [hb] at h
  have hx : (if env.multi (clampX env) = true then clampX env else env.atleast1d (clampX env)) = startOf env := rfl
  rw [hx] at h
  simp only [PM.bind_ap, cs3_eq, cs4_eq, PM.cont_ok]
  change PM.cont _ (C16Opt.maximise env (callObj env) (clampX env) (some (some env.boundsLow, some env.boundsHigh)) local_ maxE false false g) = _
  rw [h]
  rcases finalRes_cases env (env.multi (clampX env)) false (Optimiser.maximise (toCfg env (some (env.boundsLow, env.boundsHigh)) maxE) (startOf env)
                  (queriesFor local_ env.qsG env.qsL)).final with ⟨v, h1, h2⟩ | ⟨e, h1, h2⟩
  · rw [h1, h2]; rfl
  · rw [h1, h2]; rfl

def lfRes (rc : Option Bool) : LfEnd → Except Exc Bool
  | .returned => .ok (rc.getD false)
  | .warned => .ok (rc.getD false)
  | .forcedExit => .error .arith
  | .valueError => .error .valueError
  | .fatal => .error .fatal

theorem lfRes_error {rc : Option Bool} {o : LfEnd} {e : Exc} (h : lfRes rc o = .error e) :
    (∀ n, e ≠ .maxEvals n) ∧ (e = .valueError → o = .valueError) ∧ (e = .arith → o = .forcedExit) := by
  cases o <;> cases h <;> exact ⟨nofun, by simp, by simp⟩

theorem lfEnd_maxEvals (limitAction : String) (n : Nat) :
    lfEnd limitAction (some (.maxEvals n))
      = if limitAction == "ignore" then .returned else if limitAction == "warn" then .warned else .forcedExit := rfl

theorem lfEnd_spec (limitAction : String) (e : Option MaxExc) :
    (lfEnd limitAction e = .forcedExit → limitAction ≠ "ignore" ∧ limitAction ≠ "warn" ∧ ∃ n, e = some (.maxEvals n)) ∧
    (lfEnd limitAction e = .warned → limitAction = "warn" ∧ ∃ n, e = some (.maxEvals n)) := by
  rcases e with _ | ⟨n⟩ | _ | _
  case some.maxEvals =>
    rw [lfEnd_maxEvals]
    cases hi : limitAction == "ignore"
    · cases hw : limitAction == "warn"
      · exact ⟨fun _ => ⟨ne_of_beq_false hi, ne_of_beq_false hw, n, rfl⟩, nofun⟩
      · exact ⟨nofun, fun _ => ⟨eq_of_beq hw, n, rfl⟩⟩
    · exact ⟨nofun, nofun⟩
  all_goals exact ⟨nofun, nofun⟩

/-- once `get_best` ran, `ValueError` (the two "Initial parameter values" checks) is behind -/
theorem lfEnd_done_ne_valueError (limitAction : String) (fb : Y) (xb : X) (n : Nat) (exc : Option Stop) :
    lfEnd limitAction (Final.done fb xb n exc).exc ≠ .valueError := by
  rcases exc with _ | m | _
  case some.maxEvals =>
    show lfEnd limitAction (some (.maxEvals m)) ≠ _
    rw [lfEnd_maxEvals]
    cases limitAction == "ignore" <;> cases limitAction == "warn" <;> nofun
  all_goals nofun

theorem lf_optimise_eq (env : Env X Y)
    (hneg : ∀ y, env.fin y = false → env.isneginf y = true → y = env.negInf)
    (local_ : Option Bool) (limitAction : String) (maxE : Option Nat) (rc : Option Bool)
    (g : GSt X Y) (hcalls : g.calls = []) :
    ∃ w, C16Opt.ParameterController.optimise env local_ limitAction maxE rc g
      = (embed (lfOptimise (toCfg env (some (env.boundsLow, env.boundsHigh)) maxE) limitAction (startOf env)
                  (queriesFor local_ env.qsG env.qsL)).run.st
           { shown := ((lfOptimise (toCfg env (some (env.boundsLow, env.boundsHigh)) maxE) limitAction (startOf env)
                  (queriesFor local_ env.qsG env.qsL)).run.shown.map PyF.val).reverse ++ g.shown,
             warned := w + (if (lfOptimise (toCfg env (some (env.boundsLow, env.boundsHigh)) maxE) limitAction (startOf env)
                  (queriesFor local_ env.qsG env.qsL)).outcome = .warned then 1 else 0),
             updates := (lfOptimise (toCfg env (some (env.boundsLow, env.boundsHigh)) maxE) limitAction (startOf env)
                  (queriesFor local_ env.qsG env.qsL)).applied :: g.updates,
             optimised := (lfOptimise (toCfg env (some (env.boundsLow, env.boundsHigh)) maxE) limitAction (startOf env)
                  (queriesFor local_ env.qsG env.qsL)).optimised || g.optimised },
         lfRes rc (lfOptimise (toCfg env (some (env.boundsLow, env.boundsHigh)) maxE) limitAction (startOf env)
                  (queriesFor local_ env.qsG env.qsL)).outcome) := by
  unfold C16Opt.ParameterController.optimise lfOptimise
  obtain ⟨w, h⟩ := calc_optimise_eq env hneg local_ maxE g hcalls
  refine ⟨w, ?_⟩
  simp only [PM.bind_ap, pyTryFinally_ap, PM.tryCatch_ap, h]
  generalize Optimiser.maximise (toCfg env (some (env.boundsLow, env.boundsHigh)) maxE) (startOf env)
                  (queriesFor local_ env.qsG env.qsL) = R
  generalize R.final.exc = e
  -- the trailing `return return_calculator` only maps the value
  have tail : ∀ {α : Type} (p : GSt X Y × Except Exc α),
      PM.cont (fun _ => if rc.getD false = true then pure true else pure false) p
        = (p.1, p.2.map fun _ => rc.getD false) := by
    rintro α ⟨s, _ | _⟩
    · rfl
    · simp only [PM.cont_ok, PM.ite_ap]
      cases rc.getD false <;> rfl
  rw [tail]
  rcases e with _ | ⟨n⟩ | _ | _
  · rfl
  · rw [lfEnd_maxEvals]
    cases limitAction == "ignore" <;> cases limitAction == "warn" <;> rfl
  · rfl
  · rfl
end CogentModel.OptGenProofs
