import CogentModel.Proofs.FeatureOnView
import CogentModel.Proofs.SpanSort
import CogentModel.Model.FeatureAdd
/-! C04: add_feature on a view (round trip with get_features). -/
namespace CogentModel.FeatureView
open CogentModel.View CogentModel.FeatureSpec CogentModel.AnnotDb

/-- spans given on a view: inside it, ascending and disjoint -/
def ViewSpans (L : Int) (spans : List (Int × Int)) : Prop :=
  (∀ sp ∈ spans, 0 ≤ sp.1 ∧ sp.1 < sp.2 ∧ sp.2 ≤ L) ∧ spans.Pairwise (fun a b => a.2 ≤ b.1)

theorem filterMap_clipped_id (L : Int) (l : List (Int × Int)) (h : ∀ sp ∈ l, 0 ≤ sp.1 ∧ sp.1 < sp.2 ∧ sp.2 ≤ L) :
    l.filterMap (clipped L) = l := by
  induction l with
  | nil => rfl
  | cons sp rest ih =>
    have := h sp List.mem_cons_self
    have hc : clipped L sp = some sp := by
      unfold clipped
      have : max sp.1 0 < min sp.2 L := by omega
      simp only [this, if_true, Option.some.injEq]
      apply Prod.ext <;> simp only [] <;> omega
    simp only [List.filterMap_cons, hc, ih (fun z hz => h z (List.mem_cons_of_mem _ hz))]

theorem sort_mirror (L : Int) (spans : List (Int × Int)) (h : ViewSpans L spans) :
    sortSpans (spans.map fun sp => (L - sp.2, L - sp.1)) = (spans.map fun sp => (L - sp.2, L - sp.1)).reverse := by
  apply sorted_perm_eq _ _ (sortSpans_sorted _)
  · unfold Sorted
    rw [List.pairwise_reverse, List.pairwise_map]
    have hp : spans.Pairwise (fun a b => a.2 ≤ b.1 ∧ a.1 < a.2 ∧ b.1 < b.2) := by
      have := List.Pairwise.and_mem.mp h.2
      exact this.imp (fun ⟨ha, hb, hab⟩ => ⟨hab, (h.1 _ ha).2.1, (h.1 _ hb).2.1⟩)
    exact hp.imp (fun ⟨h1, h2, h3⟩ => by unfold PLe; simp only []; omega)
  · exact (sortSpans_perm _).trans (List.reverse_perm _).symm

/-- db spans written relative to the segment start come back as they were -/
theorem featureOnView_shift (v : View) (h : UnitView v) (hl : 0 < len v) (hoff : 0 ≤ v.offset) (dm : Bool)
    (rel : List (Int × Int)) (hrel : ∀ sp ∈ rel, 0 ≤ sp.1 ∧ 0 ≤ sp.2) :
    featureOnView v dm (rel.map fun sp => (sp.1 + segStart v, sp.2 + segStart v)) =
      makeFeature (len v) (decide (v.step < 0)) dm rel := by
  have hseg := segStart_nonneg v h hoff
  unfold featureOnView
  rw [relSpans_eq v hl _ (fun sp hm => by
    obtain ⟨x, hx, rfl⟩ := List.mem_map.mp hm
    have := hrel x hx
    simp only []; omega), List.map_map, funext (relIdx_unit v h)]
  have : rel.map ((fun sp : Int × Int => (sp.1 - segStart v, sp.2 - segStart v)) ∘
      fun sp => (sp.1 + segStart v, sp.2 + segStart v)) = rel := by
    conv => rhs; rw [← List.map_id rel]
    apply List.map_congr_left
    intro sp _
    apply Prod.ext <;> simp only [Function.comp, id] <;> omega
  rw [this]

theorem viewSpans_mirror (L : Int) (spans : List (Int × Int)) (h : ViewSpans L spans) :
    ViewSpans L (spans.map fun sp => (L - sp.2, L - sp.1)).reverse := by
  constructor
  · intro sp hm
    obtain ⟨x, hx, rfl⟩ := List.mem_map.mp (List.mem_reverse.mp hm)
    have := h.1 x hx
    simp only []; omega
  · rw [List.pairwise_reverse, List.pairwise_map]
    exact h.2.imp fun hab => by simp only []; omega

theorem mirror_mirror (L : Int) (spans : List (Int × Int)) :
    (((spans.map fun sp => (L - sp.2, L - sp.1)).reverse).map fun sp => (L - sp.2, L - sp.1)).reverse = spans := by
  rw [List.map_reverse, List.reverse_reverse, List.map_map]
  conv => rhs; rw [← List.map_id spans]
  apply List.map_congr_left
  intro sp _
  apply Prod.ext <;> simp only [Function.comp, id] <;> omega

/-- spans that lie inside the view pass through `make_feature` unchanged (mirrored and reversed on an rc'd view) -/
theorem makeFeature_viewSpans (L : Int) (rced minus : Bool) (rel : List (Int × Int)) (hL : 0 < L)
    (h : ViewSpans L rel) :
    ∃ f, makeFeature L rced minus rel = .ok f ∧ f.reversed = (minus != rced) ∧
      realOf f.spans = if rced then (rel.map fun p => (L - p.2, L - p.1)).reverse else rel := by
  obtain ⟨f, hf, hrev, hreal⟩ := makeFeature_spec L rced minus rel hL
    (fun sp hx => by have := h.1 sp hx; omega)
    (h.2.imp_of_mem (fun {a b} ha hb hab => by have := h.1 a ha; omega))
  rw [filterMap_clipped_id L rel h.1] at hreal
  exact ⟨f, hf, hrev, hreal⟩

/-- the record `add_feature` writes, asked for again on the same view, gives a feature with exactly the spans and
strand given; and the Feature `add_feature` itself returns (`make_feature` on `rel_spans` with the db strand) is that
very feature -/
theorem added_feature_spec_full (v : View) (h : UnitView v) (hl : 0 < len v) (hoff : 0 ≤ v.offset) (minus : Bool)
    (spans : List (Int × Int)) (hs : ViewSpans (len v) spans) :
    ∃ db dm f, addFeatureRecord v spans minus = .ok (db, dm) ∧ featureOnView v dm db = .ok f ∧
      realOf f.spans = spans ∧ f.reversed = minus ∧
      makeFeature (len v) (decide (v.step < 0)) dm (addRelSpans v spans) = .ok f := by
  unfold addFeatureRecord addRelSpans
  rw [parentStart_unit v h]
  by_cases hstep : v.step < 0
  · simp only [hstep, if_true, decide_true, sort_mirror (len v) spans hs]
    have hm := viewSpans_mirror (len v) spans hs
    obtain ⟨f, hf, hrev, hreal⟩ := makeFeature_viewSpans (len v) true (!minus) _ hl hm
    refine ⟨_, _, f, rfl, ?_, ?_, ?_, hf⟩
    · rw [featureOnView_shift v h hl hoff _ _ fun sp hx => by have := hm.1 sp hx; omega]
      simp only [hstep, decide_true, hf]
    · rw [hreal, if_pos rfl, mirror_mirror]
    · rw [hrev]; cases minus <;> rfl
  · simp only [hstep, if_false, decide_false]
    obtain ⟨f, hf, hrev, hreal⟩ := makeFeature_viewSpans (len v) false minus spans hl hs
    refine ⟨_, _, f, rfl, ?_, ?_, ?_, hf⟩
    · rw [featureOnView_shift v h hl hoff _ _ fun sp hx => by have := hs.1 sp hx; omega]
      simp only [hstep, decide_false, hf]
    · rw [hreal]; rfl
    · rw [hrev]; cases minus <;> rfl

end CogentModel.FeatureView
