import CogentModel.Model.OptimiserScopedProj
import CogentModel.Proofs.OptimiserProj
import Mathlib.Data.List.Nodup
/-! The scoped projection reduces to the unscoped one edge by edge: the projected rate rules whose scope contains an
edge are `projectSame` of the nested rate rules whose scope contains it (`pairs_of_update`). -/
namespace CogentModel.ScopedProj
open CogentModel.Optimiser CogentModel.ScopedRules

variable {S V : Type} [DecidableEq S]

theorem nestedPairs_append (pass : S → Bool) (a b : List (PRule S V)) (e : S) :
    nestedPairs pass (a ++ b) e = nestedPairs pass a e ++ nestedPairs pass b e := by
  simp [nestedPairs, List.filter_append, List.filterMap_append]

theorem projectedPairs_append (pass : S → Bool) (a b : List (PRule S V)) (e : S) :
    projectedPairs pass (a ++ b) e = projectedPairs pass a e ++ projectedPairs pass b e := by
  simp [projectedPairs, List.filter_append, List.filterMap_append]

theorem nestedPairs_mem {pass : S → Bool} {rules : List (PRule S V)} {e : S} {p : S × V}
    (h : p ∈ nestedPairs pass rules e) :
    ∃ r ∈ rules, coversP r e = true ∧ pass r.par = false ∧ mleOf r = some p.2 ∧ p.1 = r.par := by
  obtain ⟨r, hr, hm⟩ := List.mem_filterMap.mp h
  obtain ⟨hr, hc⟩ := List.mem_filter.mp hr
  rw [Bool.and_eq_true, Bool.not_eq_true'] at hc
  obtain ⟨v, hv, rfl⟩ := Option.map_eq_some_iff.mp hm
  exact ⟨r, hr, hc.1, hc.2, hv, rfl⟩

theorem targets_not_pass (ref : S) (pass : S → Bool) (rich : Coords S) (ch : List (S × Option S))
    (hpass : ∀ n, pass n = true → coordsOf rich n = []) (sp rp : S) (h : rp ∈ targets ref rich ch sp) :
    pass rp = false := by
  unfold targets at h
  rw [List.mem_filter] at h
  cases hp : pass rp with
  | false => rfl
  | true =>
    have := hpass rp hp
    rw [this] at h
    simp at h

theorem projectedPairs_emitted (ref : S) (pass : S → Bool) (rich : Coords S) (ch : List (S × Option S))
    (hpass : ∀ n, pass n = true → coordsOf rich n = []) (r : PRule S V) (v : V) (e : S) :
    projectedPairs pass ((targets ref rich ch r.par).map (fun rp => { r with par := rp, init := some v })) e
      = if coversP r e then (targets ref rich ch r.par).map (fun rp => (rp, v)) else [] := by
  have hnp := targets_not_pass ref pass rich ch hpass r.par
  unfold projectedPairs
  -- every emitted copy has `r`'s scope and a non-pass name: the filter is constant, the `filterMap` total
  rw [List.filter_map, List.filterMap_map,
    List.filter_congr (q := fun _ => coversP r e) fun rp h => by
      show (coversP r e && !pass rp) = _
      rw [hnp rp h]; exact Bool.and_true _]
  cases coversP r e
  · rw [List.filter_false]; rfl
  · rw [List.filter_true]; exact congrFun List.filterMap_eq_map _

omit [DecidableEq S] in
/-- induction over a successful run of the `for rule in rules` loop -/
theorem emitAll_induction {emit : PRule S V → Except PErr (List (PRule S V))}
    {P : List (PRule S V) → List (PRule S V) → Prop} (nil : P [] [])
    (cons : ∀ r rs a b, emit r = .ok a → emitAll emit rs = .ok b → P rs b → P (r :: rs) (a ++ b)) :
    ∀ rules out, emitAll emit rules = .ok out → P rules out := by
  intro rules
  induction rules with
  | nil => intro out h; cases h; exact nil
  | cons r rs ih =>
    intro out h
    unfold emitAll at h
    split at h
    · cases h
    · rename_i a ha
      split at h
      · cases h
      · rename_i b hb
        cases h
        exact cons r rs a b ha hb (ih b hb)

theorem emitSame_ok {ref : S} {pass : S → Bool} {rich : Coords S} {ch : List (S × Option S)} {r : PRule S V}
    {a : List (PRule S V)} (h : emitSame ref pass rich ch r = .ok a) :
    (pass r.par = true ∧ a = [r]) ∨
    (pass r.par = false ∧ ∃ v, mleOf r = some v ∧
      a = (targets ref rich ch r.par).map (fun rp => { r with par := rp, init := some v })) := by
  unfold emitSame at h
  cases hp : pass r.par
  · rw [hp] at h
    cases hm : mleOf r with
    | none => rw [hm] at h; cases h
    | some v => rw [hm] at h; cases h; exact .inr ⟨rfl, v, rfl, rfl⟩
  · rw [hp] at h; cases h; exact .inl ⟨rfl, rfl⟩

theorem pairs_of_update (ref : S) (pass : S → Bool) (rich : Coords S) (ch : List (S × Option S))
    (hpass : ∀ n, pass n = true → coordsOf rich n = []) :
    ∀ (rules out : List (PRule S V)), updateParamRulesSame ref pass rich ch rules = .ok out →
      ∀ e, projectedPairs pass out e
        = projectSame ref (fun _ => false) rich ch (nestedPairs pass rules e) := by
  refine emitAll_induction (emit := emitSame ref pass rich ch) (fun _ => rfl) ?_
  intro r rs a b ha _ ih e
  rw [projectedPairs_append, ih e, show r :: rs = [r] ++ rs from rfl, nestedPairs_append]
  unfold projectSame
  rw [List.flatMap_append]
  congr 1
  rcases emitSame_ok ha with ⟨hp, rfl⟩ | ⟨hp, v, hm, rfl⟩
  · simp [projectedPairs, nestedPairs, hp]
  · rw [projectedPairs_emitted ref pass rich ch hpass r v e]
    cases hc : coversP r e <;> simp [nestedPairs, hc, hp, hm]

theorem emitted_provenance (ref : S) (pass : S → Bool) (rich : Coords S) (ch : List (S × Option S)) :
    ∀ (rules out : List (PRule S V)), updateParamRulesSame ref pass rich ch rules = .ok out →
      ∀ p ∈ out, (pass p.par = true ∧ p ∈ rules) ∨
        ∃ r ∈ rules, pass r.par = false ∧ p.par ∈ targets ref rich ch r.par ∧ p.edges = r.edges ∧
          p.single = r.single ∧ ∃ v, mleOf r = some v ∧ p.init = some v := by
  refine emitAll_induction (emit := emitSame ref pass rich ch) (fun _ h => absurd h List.not_mem_nil) ?_
  intro r rs a b ha _ ih p hp
  rcases List.mem_append.mp hp with h1 | h2
  · rcases emitSame_ok ha with ⟨hpass, rfl⟩ | ⟨hpass, v, hm, rfl⟩
    · cases List.mem_singleton.mp h1
      exact .inl ⟨hpass, List.mem_cons_self⟩
    · obtain ⟨rp, hrp, rfl⟩ := List.mem_map.mp h1
      exact .inr ⟨r, List.mem_cons_self, hpass, hrp, rfl, rfl, v, hm, rfl⟩
  · rcases ih p h2 with ⟨q1, q2⟩ | ⟨r', hr', rest⟩
    · exact .inl ⟨q1, List.mem_cons_of_mem _ q2⟩
    · exact .inr ⟨r', List.mem_cons_of_mem _ hr', rest⟩

/-! ### at most one rule per parameter and edge is preserved -/

theorem mappedTo_mem {ch : List (S × Option S)} {sp rp : S} (h : rp ∈ mappedTo ch sp) : (rp, some sp) ∈ ch := by
  obtain ⟨x, hx, rfl⟩ := List.mem_map.mp h
  obtain ⟨hx, hsp⟩ := List.mem_filter.mp hx
  exact beq_iff_eq.mp hsp ▸ hx

theorem targets_nodup (ref : S) (rich : Coords S) (ch : List (S × Option S)) (hch : (ch.map (·.1)).Nodup) (sp : S) :
    (targets ref rich ch sp).Nodup := by
  unfold targets mappedTo
  apply List.Nodup.filter
  exact List.Nodup.sublist (List.Sublist.map _ List.filter_sublist) hch

omit [DecidableEq S] in
theorem fst_inj_of_nodup {ch : List (S × Option S)} (hch : (ch.map (·.1)).Nodup) {a : S} {b c : Option S}
    (h1 : (a, b) ∈ ch) (h2 : (a, c) ∈ ch) : b = c := by
  have := List.inj_on_of_nodup_map hch h1 h2 rfl
  exact (Prod.mk.injEq _ _ _ _ ▸ this).2

theorem projectSame_names_nodup (ref : S) (rich : Coords S) (ch : List (S × Option S))
    (hch : (ch.map (·.1)).Nodup) (pairs : List (S × V)) (hp : (pairs.map (·.1)).Nodup) :
    ((projectSame ref (fun _ => false) rich ch pairs).map (·.1)).Nodup := by
  have e : (projectSame ref (fun _ => false) rich ch pairs).map (·.1)
      = pairs.flatMap (fun r => targets ref rich ch r.1) := by
    unfold projectSame
    rw [List.map_flatMap]
    exact List.flatMap_congr fun r _ => by simp only [Bool.false_eq_true, if_false, List.map_map]; exact List.map_id _
  rw [e, List.nodup_flatMap]
  refine ⟨fun r _ => targets_nodup ref rich ch hch r.1, (List.pairwise_map.mp hp).imp ?_⟩
  -- a name emitted for two pairs is mapped, by the duplicate-free `ch`, to the parameters of both
  intro r r' hne a ha ha'
  have m1 := mappedTo_mem (List.mem_filter.mp ha).1
  have m2 := mappedTo_mem (List.mem_filter.mp ha').1
  exact hne (Option.some.inj (fst_inj_of_nodup hch m1 m2))

theorem nestedPairs_names (pass : S → Bool) (rules : List (PRule S V)) (e : S)
    (hm : rules.all (fun r => pass r.par || (mleOf r).isSome) = true) :
    (nestedPairs pass rules e).map (·.1)
      = (rules.filter (fun r => coversP r e && !(pass r.par))).map (·.par) := by
  unfold nestedPairs
  rw [List.map_filterMap, ← List.filterMap_eq_map']
  apply List.filterMap_congr
  intro r hr
  obtain ⟨hr, hc⟩ := List.mem_filter.mp hr
  have h := List.all_eq_true.mp hm r hr
  rw [Bool.and_eq_true, Bool.not_eq_true'] at hc
  rw [hc.2, Bool.false_or, Option.isSome_iff_exists] at h
  obtain ⟨v, hv⟩ := h
  rw [hv]; rfl

theorem onePerEdge_nodup (pass : S → Bool) (rules : List (PRule S V)) (edgeNames : List S)
    (h : onePerEdgeB pass rules edgeNames = true) (e : S) (he : e ∈ edgeNames) :
    ((nestedPairs pass rules e).map (·.1)).Nodup := by
  unfold onePerEdgeB at h
  rw [Bool.and_eq_true] at h
  rw [nestedPairs_names pass rules e h.1]
  have h2 := List.all_eq_true.mp h.2 e he
  rw [List.nodup_iff_count_eq_one]
  intro a ha
  have := List.all_eq_true.mp h2 a ha
  simpa using this

end CogentModel.ScopedProj
