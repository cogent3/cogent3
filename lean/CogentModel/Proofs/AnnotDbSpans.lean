import CogentModel.Spec.AnnotDb
import CogentModel.Proofs.SpanSort
/-! Stored spans denote positions: normalisation (`add_feature`) keeps the set of covered positions and `start` / `stop`
are its hull; the GFF and GenBank coordinate conversions turn 1-based closed segments into the 0-based half-open spans
over the same residues. -/
namespace CogentModel.AnnotDb
open CogentModel.AnnotDbSpec

theorem covers_sortSpans (l : List (Int × Int)) (p : Int) : covers (sortSpans l) p ↔ covers l p :=
  exists_congr fun _ => and_congr_left fun _ => (sortSpans_perm l).mem_iff

theorem covers_map_iff {α} (f : α → Int × Int) (l : List α) (p : Int) :
    covers (l.map f) p ↔ ∃ a ∈ l, min (f a).1 (f a).2 ≤ p ∧ p < max (f a).1 (f a).2 := by
  unfold covers
  constructor
  · rintro ⟨sp, hm, hp⟩
    obtain ⟨a, ha, rfl⟩ := List.mem_map.mp hm
    exact ⟨a, ha, hp⟩
  · rintro ⟨a, ha, hp⟩
    exact ⟨f a, List.mem_map_of_mem ha, hp⟩

theorem sortPair_min_max (sp : Int × Int) :
    min (sortPair sp).1 (sortPair sp).2 = min sp.1 sp.2 ∧ max (sortPair sp).1 (sortPair sp).2 = max sp.1 sp.2 := by
  unfold sortPair
  by_cases h : sp.1 ≤ sp.2
  · simp only [h, if_true, and_self]
  · simp only [h, if_false]; exact ⟨Int.min_comm .., Int.max_comm ..⟩

theorem covers_map_sortPair (l : List (Int × Int)) (p : Int) : covers (l.map sortPair) p ↔ covers l p := by
  rw [covers_map_iff]
  simp only [sortPair_min_max]
  rfl

theorem norm_positions (spans : List (Int × Int)) (p : Int) : covers (normSpans spans) p ↔ covers spans p := by
  unfold normSpans
  rw [covers_sortSpans, covers_map_sortPair]

theorem min?_eq_minList (l : List Int) (h : l ≠ []) : l.min? = some (minList l) := by
  induction l using minList.induct with
  | case1 => exact absurd rfl h
  | case2 y => rfl
  | case3 y ys hne ih =>
    rw [List.min?_cons, ih hne, minList]
    · rfl
    · exact hne

theorem max?_eq_maxList (l : List Int) (h : l ≠ []) : l.max? = some (maxList l) := by
  induction l using maxList.induct with
  | case1 => exact absurd rfl h
  | case2 y => rfl
  | case3 y ys hne ih =>
    rw [List.max?_cons, ih hne, maxList]
    · rfl
    · exact hne

theorem minList_le (l : List Int) (x : Int) (h : x ∈ l) : minList l ≤ x :=
  (List.min?_eq_some_iff.1 (min?_eq_minList l (List.ne_nil_of_mem h))).2 x h

theorem le_maxList (l : List Int) (x : Int) (h : x ∈ l) : x ≤ maxList l :=
  (List.max?_eq_some_iff.1 (max?_eq_maxList l (List.ne_nil_of_mem h))).2 x h

theorem minList_mem (l : List Int) (h : l ≠ []) : minList l ∈ l :=
  (List.min?_eq_some_iff.1 (min?_eq_minList l h)).1

theorem maxList_mem (l : List Int) (h : l ≠ []) : maxList l ∈ l :=
  (List.max?_eq_some_iff.1 (max?_eq_maxList l h)).1

theorem mem_coords {spans : List (Int × Int)} {sp : Int × Int} (h : sp ∈ spans) :
    sp.1 ∈ coords spans ∧ sp.2 ∈ coords spans := by
  unfold coords
  constructor <;> exact List.mem_flatMap.mpr ⟨sp, h, by simp⟩

theorem hull_of_covers (spans : List (Int × Int)) (p : Int) (h : covers spans p) :
    spanStart spans ≤ p ∧ p < spanStop spans := by
  obtain ⟨sp, hm, hp⟩ := h
  have ⟨h1, h2⟩ := mem_coords hm
  exact ⟨Int.le_trans (Int.le_min.mpr ⟨minList_le _ _ h1, minList_le _ _ h2⟩) hp.1,
    Int.lt_of_lt_of_le hp.2 (Int.max_le.mpr ⟨le_maxList _ _ h1, le_maxList _ _ h2⟩)⟩

/-- on a well-formed row (`1 ≤ first ≤ last`) none of the repairs of `_gff_parser` applies -/
theorem gffCoords_of_pos (first last : Int) (h1 : 1 ≤ first) (h2 : first ≤ last) :
    gffCoords first last = (first - 1, last) := by
  have h : ¬(first - 1 < 0 ∨ last < 0) := by omega
  simp only [gffCoords, h, if_false]
  rw [if_neg (by omega)]

theorem gffCoords_positions (first last p1 : Int) (h1 : 1 ≤ first) (h2 : first ≤ last) :
    covers1 first last p1 ↔ (gffCoords first last).1 ≤ p1 - 1 ∧ p1 - 1 < (gffCoords first last).2 := by
  rw [gffCoords_of_pos first last h1 h2]
  unfold covers1
  omega

/-- whatever the sign repairs did, the final swap orders the pair -/
theorem gffCoords_le (a b : Int) : (gffCoords a b).1 ≤ (gffCoords a b).2 := by
  unfold gffCoords
  simp only []
  generalize (if a - 1 < 0 ∨ b < 0 then ((if a - 1 < 0 then -(a - 1) else a - 1), (if b < 0 then -b else b))
    else (a - 1, b)) = p
  split <;> simp only [] <;> omega

theorem gbCoords_positions (l : Loc) (hl : ∀ seg ∈ l.flat, seg.1 ≤ seg.2.1) (p0 : Int) :
    covers (gbCoords l) p0 ↔ ∃ seg ∈ l.flat, covers1 seg.1 seg.2.1 (p0 + 1) := by
  unfold gbCoords covers1
  rw [covers_sortSpans, covers_map_iff]
  refine exists_congr fun seg => and_congr_right fun hseg => ?_
  have := hl seg hseg
  obtain ⟨a, b, s⟩ := seg
  simp only [] at this ⊢
  omega

theorem flat_complement (x : Loc) :
    (Loc.complement x).flat = x.flat.reverse.map fun (a, b, s) => (a, b, -s) := by
  simp [Loc.flat]

theorem flat_complement_complement (x : Loc) : (Loc.complement (Loc.complement x)).flat = x.flat := by
  rw [flat_complement, flat_complement]
  generalize x.flat = l
  simp only [← List.map_reverse, List.reverse_reverse, List.map_map]
  induction l with
  | nil => rfl
  | cons h t ih => simp [ih]

theorem flat_join_cons (x : Loc) (xs : List Loc) : (Loc.join (x :: xs)).flat = x.flat ++ (Loc.join xs).flat := by
  simp [Loc.flat, Loc.flat.flatList]
end CogentModel.AnnotDb
