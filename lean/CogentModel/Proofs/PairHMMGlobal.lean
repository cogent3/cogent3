/-
  The global table holds optima (`val_isOpt`, `read_isOpt`), so `viterbiGlobal` answers the global problem.
-/
import CogentModel.Proofs.PairHMMTrace
namespace CogentModel.PairHMM
set_option linter.unusedSectionVars false

variable {S : Type} [Add S] [LT S] [DecidableLT S]

/-- `traceFrom` only reads rows `≤ i` of the table -/
theorem traceFrom_congr (h : HMM S) (t1 t2 : Nat → Nat → Cell S) (f : Nat) :
    ∀ (i j s : Nat) (acc : List (Nat × Nat × Nat)), (∀ a b, a ≤ i → t1 a b = t2 a b) →
      traceFrom h t1 f i j s acc = traceFrom h t2 f i j s acc := by
  induction f with
  | zero => intros; rfl
  | succ f ih =>
    intro i j s acc hagree
    simp only [traceFrom]
    split
    · rfl
    · split
      · rfl
      · rw [hagree i j (Nat.le_refl _)]
        exact ih _ _ _ _ (fun a b ha => hagree a b (Nat.le_trans ha (Nat.sub_le _ _)))

variable [ScoreLaws S]

/-- **the invariant of the global table**: the value stored for state `s` in cell `(i, j)` is the best score of a global
path to `(i, j)` that ends in `s`, and the pointer walk from there returns one that has it -/
theorem val_isOpt (h : HMM S) (hns : NoSilent h) (m i j s : Nat) (hj : j ≤ m) (hs1 : 1 ≤ s) (hsk : s ≤ h.k) :
    IsOpt (prefixScore h 0 0) (fun p => p ≠ [] ∧ IsGlobalPath h i j p ∧ lastState p = s) (val h false m i j s) fun p =>
      traceFrom h (V h false m) (i + j + 1) i j s [] = some (annotate h 0 0 p) where
  ge := by
    rintro p ⟨hne, ⟨hst, hc⟩, rfl⟩
    have hle := prefixScore_le h false m 0 0 p hne hst rfl (by rw [hc]; exact hj) (cellsOK_global h 0 0 p)
    rwa [hc] at hle
  attained v hv := by
    obtain ⟨p, i0, j0, htr, sp⟩ := trace_ok h false m hns (i + j + 1) i j s v [] hj hs1 hsk hv (Nat.le_refl _)
    -- global mode: the walk can only have ended at `(0, 0)`
    obtain ⟨rfl, rfl⟩ : i0 = 0 ∧ j0 = 0 := by simpa [canStart] using sp.start
    exact ⟨p, by simpa using htr, ⟨sp.nonempty, ⟨sp.states, sp.consumed⟩, sp.last⟩, sp.score⟩

/-- what any state `dest` reads from a cell of the global table is the best score of a global path to that cell followed
by the transition into `dest`, and the pointer walk from what it recorded returns one that has it -/
theorem read_isOpt (h : HMM S) (hns : NoSilent h) (m i j dest : Nat) (hj : j ≤ m) :
    IsOpt (scoreTo h dest) (IsGlobalPath h i j) (readCell h false m i j dest).1 fun p =>
      traceFrom h (V h false m) (i + j + 1) i j (readCell h false m i j dest).2 [] = some (annotate h 0 0 p) where
  ge := read_upper h m i j dest hj
  attained v hv := by
    rcases (readCell_isMax h false m i j hj dest).mem with hr | ⟨q, hq1, hqk, hr⟩
    · rw [hr] at hv ⊢
      split at hv
      · next h0 =>
        obtain ⟨rfl, rfl⟩ : i = 0 ∧ j = 0 := by simpa [canStart] using h0
        exact ⟨[], rfl, ⟨fun x hx => by simp at hx, rfl⟩, hv⟩
      · cases hv
    · rw [hr] at hv ⊢
      obtain ⟨w, _, hw, _⟩ := eadd_eq_some hv
      obtain ⟨p, htr, ⟨hne, hp, hl⟩, hs⟩ := (val_isOpt h hns m i j q hj hq1 hqk).attained w hw
      obtain ⟨a, p', rfl⟩ := List.exists_cons_of_ne_nil hne
      exact ⟨_, htr, hp, by rw [scoreTo, hs, hl, ← hw]; exact hv⟩

/-- `R` answers the global problem `(h, n, m)`: its score is the best score of a global path and, when finite, its path
is (the annotation of) one that has it -/
def Solves (h : HMM S) (n m : Nat) (R : Result S) : Prop :=
  IsOpt (globalScore h) (IsGlobalPath h n m) R.score fun p => R.path = some (annotate h 0 0 p)

/-- **the full DP answers the global problem**: END reads the last cell, and the traceback starts from what it recorded -/
theorem viterbiGlobal_solves (h : HMM S) (hns : NoSilent h) (n m : Nat) : Solves h n m (viterbiGlobal h n m) := by
  simp only [Solves, viterbiGlobal]
  rw [traceFrom_congr h (look (tableOf h false n m)) (V h false m) (n + m + 1) n m _ []
    (fun a b ha => look_tableOf h false n m a b ha), look_tableOf h false n m n m (Nat.le_refl _)]
  exact read_isOpt h hns m n m h.endId (Nat.le_refl _)

end CogentModel.PairHMM
