import CogentModel.Model.SeqWrap
import CogentModel.Proofs.SliceWindow
import CogentModel.Proofs.ViewSlice
import CogentModel.Proofs.ViewInt
/-! String-level semantics of the `Sequence` wrapper: reading a sliced / indexed /
reverse-complemented sequence equals doing the same to the plain string. -/
namespace CogentModel.SeqWrap
open CogentModel CogentModel.View

/-- well-formed wrapper: the view satisfies the representation invariant and its `seq_len`
is the length of the parent string (the `SeqView` constructor asserts this) -/
def WF (s : Seq) : Prop := Inv s.v ∧ s.v.seqLen = s.parent.length

theorem wf_ofString (t : List Char) (nucleic : Bool) : WF (ofString t nucleic) := by
  refine ⟨⟨?_, Or.inl ⟨?_, ?_, ?_, ?_⟩⟩, rfl⟩ <;> simp [ofString]

theorem value_eq_elems' (s : Seq) (h : WF s) :
    value s = (elems s.v).map (fun i => s.parent[i.toNat]!) := by
  unfold value PySlice.slice
  have e : s.parent.length = s.v.seqLen.toNat := by rw [h.2]; simp
  rw [e, realise_eq' s.v h.1]

theorem value_length (s : Seq) (h : WF s) : (value s).length = (len s.v).toNat := by
  rw [value_eq_elems' s h, List.length_map, elems_length]

theorem str_eq_map (comp : Char → Char) (s : Seq) :
    str comp s = (value s).map (if s.v.step < 0 ∧ s.nucleic then comp else id) := by
  unfold str
  split
  · rfl
  · rw [List.map_id]

theorem str_length (comp : Char → Char) (s : Seq) (h : WF s) :
    (str comp s).length = (len s.v).toNat := by
  rw [str_eq_map, List.length_map, value_length s h]

/-- `len(seq)` (the view's `__len__`) is the length of `str(seq)` -/
theorem length_eq_str_length (comp : Char → Char) (s : Seq) (h : WF s) :
    length s = ((str comp s).length : Int) := by
  rw [str_length comp s h, length, Int.toNat_of_nonneg (len_nonneg s.v)]

/-- wrapping a result view: well-formed, and read through the *old* parent string -/
theorem wrap_spec (s : Seq) (w : View) (h : WF s) (hI : Inv w)
    (hl : w.seqLen = s.v.seqLen ∨ w = zeroSlice) :
    WF (wrap s w) ∧ value (wrap s w) = (elems w).map (fun i => s.parent[i.toNat]!) := by
  have hwf : WF (wrap s w) := by
    refine ⟨hI, ?_⟩
    show w.seqLen = ((if w.seqLen = s.v.seqLen then s.parent else []).length : Int)
    split
    · rw [‹w.seqLen = s.v.seqLen›, h.2]
    · rw [hl.resolve_left ‹_›]; rfl
  refine ⟨hwf, ?_⟩
  rw [value_eq_elems' _ hwf]
  show (elems w).map (fun i => (if w.seqLen = s.v.seqLen then s.parent else [])[i.toNat]!) = _
  split
  · rfl
  · rw [hl.resolve_left ‹_›]; rfl

/-- `getitem` / `getitemI` succeed exactly when the view operation does, and wrap its result -/
theorem wrap_inv_ok (s s' : Seq) (r : Except Err View)
    (hw : (match r with | .ok w => Except.ok (wrap s w) | .error e => .error e) = .ok s') :
    ∃ w, r = .ok w ∧ s' = wrap s w := by
  cases r with
  | error e => cases hw
  | ok w => exact ⟨w, rfl, (Except.ok.inj hw).symm⟩

theorem getitem_inv_ok (s s' : Seq) (a b c : Option Int) (hw : getitem s a b c = .ok s') :
    ∃ w, getitemSlice .seqView s.v a b c = .ok w ∧ s' = wrap s w :=
  wrap_inv_ok s s' _ hw

theorem getitemI_inv_ok (s s' : Seq) (i : Int) (hw : getitemI s i = .ok s') :
    ∃ w, getitemInt s.v i = .ok w ∧ s' = wrap s w :=
  wrap_inv_ok s s' _ hw

theorem wf_getitem (s s' : Seq) (a b c : Option Int) (h : WF s) (hw : getitem s a b c = .ok s') :
    WF s' ∧ s'.nucleic = s.nucleic := by
  obtain ⟨w, hg, rfl⟩ := getitem_inv_ok s s' a b c hw
  exact ⟨(wrap_spec s w h (getitemSlice_inv _ s.v h.1 a b c w hg) ((getitemSlice_keep s.v w a b c hg).imp_left And.left)).1, rfl⟩

theorem wf_getitemI (s s' : Seq) (i : Int) (h : WF s) (hw : getitemI s i = .ok s') :
    WF s' ∧ s'.nucleic = s.nucleic := by
  obtain ⟨w, hg, rfl⟩ := getitemI_inv_ok s s' i hw
  exact ⟨(wrap_spec s w h (getitemInt_inv s.v h.1 i w hg) (Or.inl (getitemInt_keep s.v w i hg).1)).1, rfl⟩

theorem value_getitem (s s' : Seq) (a b c : Option Int) (h : WF s) (hc : c ≠ some 0)
    (hw : getitem s a b c = .ok s') :
    value s' = PySlice.slice (value s) a b (c.getD 1) := by
  have hc0 := sliceStep_ne_zero hc
  obtain ⟨w, hg, rfl⟩ := getitem_inv_ok s s' a b c hw
  rw [(wrap_spec s w h (getitemSlice_inv _ s.v h.1 a b c w hg) ((getitemSlice_keep s.v w a b c hg).imp_left And.left)).2,
    value_eq_elems' s h, PySlice.slice_map _ _ _ _ _ hc0, slice_elems s.v a b _ hc0,
    getitemSlice_spec _ s.v w a b c h.1 hc hg]

theorem specSlice_eq_map (comp : Char → Char) (nucleic : Bool) (t : List Char) (a b : Option Int) (c : Int) :
    specSlice comp nucleic t a b c = (PySlice.slice t a b c).map (if c < 0 ∧ nucleic then comp else id) := by
  unfold specSlice
  split
  · rfl
  · rw [List.map_id]

theorem str_getitem' (comp : Char → Char) (hcomp : ∀ x, comp (comp x) = x) (s s' : Seq)
    (a b c : Option Int) (h : WF s) (hc : c ≠ some 0) (hw : getitem s a b c = .ok s') :
    str comp s' = specSlice comp s.nucleic (str comp s) a b (c.getD 1) := by
  have hc0 := sliceStep_ne_zero hc
  obtain ⟨hwf, hn⟩ := wf_getitem s s' a b c h hw
  rw [str_eq_map, str_eq_map, specSlice_eq_map, PySlice.slice_map _ _ _ _ _ hc0, List.map_map,
    ← value_getitem s s' a b c h hc hw, hn]
  by_cases he : value s' = []
  · rw [he]; rfl
  -- complement bookkeeping: the result is reversed iff exactly one of the sequence and the slice step is
  have hstep : s'.v.step = s.v.step * c.getD 1 := by
    obtain ⟨w, hg, rfl⟩ := getitem_inv_ok s s' a b c hw
    refine (getitemSlice_step _ s.v w a b c hg).resolve_right fun e => he ?_
    rw [value_eq_elems' _ hwf, elems_nil_of_len (wrap s w).v e]; rfl
  have hsgn : (s'.v.step < 0 ↔ ¬ (s.v.step < 0 ↔ c.getD 1 < 0)) := by
    rw [hstep]
    rcases Int.lt_or_lt_of_ne h.1.step_ne_zero with hk | hk <;> rcases Int.lt_or_lt_of_ne hc0 with hc | hc
    · have := Int.mul_pos_of_neg_of_neg hk hc; omega
    · have := Int.mul_neg_of_neg_of_pos hk hc; omega
    · have := Int.mul_neg_of_pos_of_neg hk hc; omega
    · have := Int.mul_pos hk hc; omega
  congr 1
  funext x
  by_cases h1 : s.v.step < 0 <;> by_cases h2 : c.getD 1 < 0 <;> cases s.nucleic <;> simp [hsgn, h1, h2, hcomp]

/-- what a well-formed wrapper displays, read off the displayed positions -/
theorem str_eq_elems (comp : Char → Char) (s : Seq) (h : WF s) :
    str comp s = (elems s.v).map fun k => (if s.v.step < 0 ∧ s.nucleic then comp else id) (s.parent[k.toNat]!) := by
  rw [str_eq_map, value_eq_elems' s h, List.map_map]; rfl

theorem index_str (comp : Char → Char) (s : Seq) (i : Int) (h : WF s) :
    PySlice.index (str comp s) i = (PySlice.index (elems s.v) i).map fun k =>
      (if s.v.step < 0 ∧ s.nucleic then comp else id) (s.parent[k.toNat]!) := by
  rw [str_eq_elems comp s h, PySlice.index_map]

/-- **`seq[i]` in closed form**: the wrapper, over the same parent, of the one-element view on the `i`-th displayed
position `x`; it displays the one character shown for `x` -/
theorem getitemI_single (comp : Char → Char) (s : Seq) (h : WF s) (i x : Int)
    (hx : PySlice.index (elems s.v) i = some x) :
    getitemI s i = .ok { s with v := single s.v x } ∧ 0 ≤ x ∧ x < s.parent.length ∧
      WF { s with v := single s.v x } ∧
      str comp { s with v := single s.v x } = [(if s.v.step < 0 ∧ s.nucleic then comp else id) (s.parent[x.toNat]!)] := by
  obtain ⟨hg, x0, x1⟩ := getitemInt_single s.v h.1 i x hx
  obtain ⟨s1, s2, _, _, s5, _⟩ := single_spec s.v x x0 x1
  have hw : wrap s (single s.v x) = { s with v := single s.v x } := by unfold wrap; rw [if_pos s5]
  have hwf : WF { s with v := single s.v x } := ⟨s1, s5.trans h.2⟩
  refine ⟨by unfold getitemI; rw [hg]; exact congrArg Except.ok hw, x0, h.2 ▸ x1, hwf, ?_⟩
  rw [str_eq_elems comp _ hwf, s2]
  simp only [List.map_cons, List.map_nil, single_step_neg s.v h.1 x]

theorem getitemI_none (s : Seq) (i : Int) (hn : PySlice.index (elems s.v) i = none) :
    getitemI s i = .error .indexError := by
  unfold getitemI
  rw [getitemInt_none s.v i hn]

theorem str_getitemI' (comp : Char → Char) (s : Seq) (i : Int) (h : WF s) :
    (∀ s', getitemI s i = .ok s' → ∃ ch, PySlice.index (str comp s) i = some ch ∧ str comp s' = [ch]) ∧
    (∀ e, getitemI s i = .error e → PySlice.index (str comp s) i = none) := by
  rw [index_str comp s i h]
  cases hx : PySlice.index (elems s.v) i with
  | none => exact ⟨fun s' hw => (by rw [getitemI_none s i hx] at hw; cases hw), fun _ _ => rfl⟩
  | some x =>
    obtain ⟨hg, _, _, _, hs⟩ := getitemI_single comp s h i x hx
    exact ⟨fun s' hw => ⟨_, rfl, Except.ok.inj (hg.symm.trans hw) ▸ hs⟩, fun e he => by rw [hg] at he; cases he⟩

theorem rcE_ok (s : Seq) (h : WF s) : ∃ r, rcE s = .ok r := by
  obtain ⟨w, hw⟩ := getitemSlice_isOk .seqView s.v none none (some (-1)) h.1 (by simp)
  exact ⟨wrap s w, by unfold rcE getitem; rw [hw]⟩

theorem rc_eq (s r : Seq) (hr : rcE s = .ok r) : rc s = r := by
  unfold rc; rw [hr]

theorem str_rcE (comp : Char → Char) (hcomp : ∀ x, comp (comp x) = x) (s r : Seq) (h : WF s)
    (hn : s.nucleic = true) (hr : rcE s = .ok r) : str comp r = specRc comp (str comp s) := by
  have := str_getitem' comp hcomp s r none none (some (-1)) h (by simp) hr
  rw [this]
  unfold specSlice specRc
  simp only [Option.getD_some, hn, and_true]
  rw [if_pos (by omega), PySlice.slice_rev]

theorem wf_rc (s : Seq) (h : WF s) : WF (rc s) ∧ (rc s).nucleic = s.nucleic := by
  obtain ⟨r, hr⟩ := rcE_ok s h
  rw [rc_eq s r hr]
  exact wf_getitem s r _ _ _ h hr

theorem str_rc' (comp : Char → Char) (hcomp : ∀ x, comp (comp x) = x) (s : Seq) (h : WF s)
    (hn : s.nucleic = true) : str comp (rc s) = specRc comp (str comp s) := by
  obtain ⟨r, hr⟩ := rcE_ok s h
  rw [rc_eq s r hr]
  exact str_rcE comp hcomp s r h hn hr

theorem specRc_specRc (comp : Char → Char) (hcomp : ∀ x, comp (comp x) = x) (t : List Char) :
    specRc comp (specRc comp t) = t := by
  unfold specRc
  have : comp ∘ comp = id := funext hcomp
  rw [List.map_reverse, List.map_map, this, List.map_id, List.reverse_reverse]

theorem rc_rc' (comp : Char → Char) (hcomp : ∀ x, comp (comp x) = x) (s : Seq) (h : WF s)
    (hn : s.nucleic = true) : str comp (rc (rc s)) = str comp s := by
  obtain ⟨h1, n1⟩ := wf_rc s h
  rw [str_rc' comp hcomp (rc s) h1 (by rw [n1, hn]), str_rc' comp hcomp s h hn, specRc_specRc comp hcomp]

/-- an op is admissible: no zero slice step; `rc` only exists on nucleic acids -/
def SOp.ok (nucleic : Bool) : SOp → Prop
  | .slice _ _ c => c ≠ some 0
  | .index _ => True
  | .rc => nucleic = true

theorem step1_spec (comp : Char → Char) (hcomp : ∀ x, comp (comp x) = x) (s : Seq) (op : SOp)
    (h : WF s) (hop : op.ok s.nucleic) :
    (∀ s', step1 s op = .ok s' →
      specStep comp s.nucleic (str comp s) op = some (str comp s') ∧ WF s' ∧ s'.nucleic = s.nucleic) ∧
    (∀ e, step1 s op = .error e → specStep comp s.nucleic (str comp s) op = none) := by
  cases op with
  | slice a b c =>
    constructor
    · intro s' hw
      refine ⟨?_, wf_getitem s s' a b c h hw⟩
      simp only [specStep, Option.some.injEq]
      exact (str_getitem' comp hcomp s s' a b c h hop hw).symm
    · intro e hw
      obtain ⟨w, hg⟩ := getitemSlice_isOk .seqView s.v a b c h.1 hop
      simp only [step1, getitem, hg] at hw
      cases hw
  | index i =>
    obtain ⟨hok, herr⟩ := str_getitemI' comp s i h
    constructor
    · intro s' hw
      obtain ⟨ch, h1, h2⟩ := hok s' hw
      refine ⟨?_, wf_getitemI s s' i h hw⟩
      simp only [specStep, h1, Option.map_some, h2]
    · intro e hw
      simp only [specStep, herr e hw, Option.map_none]
  | rc =>
    constructor
    · intro s' hw
      refine ⟨?_, wf_getitem s s' _ _ _ h hw⟩
      simp only [specStep, Option.some.injEq]
      exact (str_rcE comp hcomp s s' h hop hw).symm
    · intro e hw
      obtain ⟨r, hr⟩ := rcE_ok s h
      simp only [step1, hr] at hw
      cases hw

theorem runOps_spec (comp : Char → Char) (hcomp : ∀ x, comp (comp x) = x) (ops : List SOp) (s : Seq)
    (h : WF s) (hops : ∀ op ∈ ops, op.ok s.nucleic) :
    (∀ s', runOps s ops = .ok s' → specRun comp s.nucleic (str comp s) ops = some (str comp s') ∧ WF s') ∧
    (∀ e, runOps s ops = .error e → specRun comp s.nucleic (str comp s) ops = none) := by
  induction ops generalizing s with
  | nil =>
    constructor
    · intro s' hw; simp only [runOps, Except.ok.injEq] at hw; subst hw; exact ⟨rfl, h⟩
    · intro e hw; simp [runOps] at hw
  | cons op ops ih =>
    obtain ⟨hok, herr⟩ := step1_spec comp hcomp s op h (hops op (by simp))
    unfold runOps specRun
    cases hs : step1 s op with
    | error e' =>
      constructor
      · intro s' hw; simp at hw
      · intro e _; rw [herr e' hs]; rfl
    | ok u =>
      obtain ⟨h1, hu, hn⟩ := hok u hs
      rw [h1]
      simp only [Option.bind_some]
      rw [← hn]
      exact ih u hu (fun o ho => by rw [hn]; exact hops o (by simp [ho]))

end CogentModel.SeqWrap
