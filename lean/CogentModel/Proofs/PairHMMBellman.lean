/-
  The cell recurrence in terms of the stored values, and the Bellman upper bound (no
  path scores above the table value).
-/
import CogentModel.Proofs.PairHMMTable
namespace CogentModel.PairHMM
set_option linter.unusedSectionVars false

variable {S : Type} [Add S] [LT S] [DecidableLT S]

/-- value / pointer stored for state `s` in cell `(i, j)` -/
def val (h : HMM S) (loc : Bool) (m i j s : Nat) : Option S := ((V h loc m i j).getD (s - 1) (none, h.errId)).1
def ptr (h : HMM S) (loc : Bool) (m i j s : Nat) : Nat := ((V h loc m i j).getD (s - 1) (none, h.errId)).2

/-- what state `dest` reads from cell `(i, j)` of the table: the best transition from a state stored there, or the start
of a path.  A state entering a cell reads the cell it comes from (`entry_step`), END reads the last cell (`globalEnd`),
the states of the reversed problem read theirs in `bwdAt`. -/
def readCell (h : HMM S) (loc : Bool) (m i j dest : Nat) : Option S × Nat :=
  bestPrev h.T dest (V h loc m i j) 1 (if canStart loc i j (h.dir dest) then (h.T 0 dest, 0) else (none, h.errId))

variable [ScoreLaws S]

theorem readCell_isMax (h : HMM S) (loc : Bool) (m i j : Nat) (hj : j ≤ m) (dest : Nat) :
    IsMax (·.1) (fun c => ∃ q, 1 ≤ q ∧ q ≤ h.k ∧ c = (eadd (val h loc m i j q) (h.T q dest), q))
      (if canStart loc i j (h.dir dest) then (h.T 0 dest, 0) else (none, h.errId)) (readCell h loc m i j dest) := by
  refine (bestPrev_isMax h.T dest _ 1 _).of_iff fun c => ⟨?_, ?_⟩
  · rintro ⟨s, h1, hk, rfl⟩
    obtain ⟨q, rfl⟩ : ∃ q, s = q + 1 := ⟨s - 1, (Nat.sub_add_cancel h1).symm⟩
    exact ⟨q, _, (V_getElem? hj).mpr ⟨hk, rfl⟩, rfl⟩
  · rintro ⟨q, x, hx, rfl⟩
    obtain ⟨hq, rfl⟩ := (V_getElem? hj).mp hx
    exact ⟨q + 1, Nat.le_add_left 1 q, hq, rfl⟩

/-- **the cell recurrence**: the entry of state `s` in the cell it enters from `(i, j)` -/
theorem entry_step (h : HMM S) (loc : Bool) (m i j s : Nat) (hs : IsState h s) (hj : j + (h.dir s).2.toNat ≤ m)
    (hok : cellOK loc (i + (h.dir s).1.toNat) (j + (h.dir s).2.toNat) = true) :
    (V h loc m (i + (h.dir s).1.toNat) (j + (h.dir s).2.toNat)).getD (s - 1) (none, h.errId) =
      (eadd (readCell h loc m i j s).1 (h.em s (i + (h.dir s).1.toNat) (j + (h.dir s).2.toNat)),
        (readCell h loc m i j s).2) := by
  rw [V_entry h loc m _ _ s hj hs, if_pos hok]
  simp only [cellEntry, Nat.add_sub_cancel]
  rw [if_neg (not_or.mpr ⟨Nat.not_lt.mpr (Nat.le_add_left _ _), Nat.not_lt.mpr (Nat.le_add_left _ _)⟩)]
  rfl

theorem val_step (h : HMM S) (loc : Bool) (m i j s : Nat) (hs : IsState h s) (hj : j + (h.dir s).2.toNat ≤ m)
    (hok : cellOK loc (i + (h.dir s).1.toNat) (j + (h.dir s).2.toNat) = true) :
    val h loc m (i + (h.dir s).1.toNat) (j + (h.dir s).2.toNat) s =
      eadd (readCell h loc m i j s).1 (h.em s (i + (h.dir s).1.toNat) (j + (h.dir s).2.toNat)) :=
  congrArg Prod.fst (entry_step h loc m i j s hs hj hok)

/-- a finite value sits in a computed cell that its state can enter -/
theorem val_some_back (h : HMM S) (loc : Bool) (m i j s : Nat) (hj : j ≤ m) (hs : IsState h s) {v : S}
    (hv : val h loc m i j s = some v) :
    cellOK loc i j = true ∧ (h.dir s).1.toNat ≤ i ∧ (h.dir s).2.toNat ≤ j := by
  unfold val at hv
  rw [V_entry h loc m i j s hj hs] at hv
  split at hv
  · next hok =>
    refine ⟨hok, ?_⟩
    by_cases hlt : i < (h.dir s).1.toNat ∨ j < (h.dir s).2.toNat
    · simp [cellEntry, hlt] at hv
    · omega
  · simp at hv

/-- the Bellman step: what scores no more than what `s` reads from `(i, j)` scores, after the emission, no more than the
entry of `s` in the cell it enters -/
theorem enter_le (h : HMM S) (loc : Bool) (m i j s : Nat) (hs : IsState h s) (hj : j + (h.dir s).2.toNat ≤ m)
    (hok : cellOK loc (i + (h.dir s).1.toNat) (j + (h.dir s).2.toNat) = true) {x : Option S}
    (hx : ele x (readCell h loc m i j s).1) :
    ele (eadd x (h.em s (i + (h.dir s).1.toNat) (j + (h.dir s).2.toNat)))
      (val h loc m (i + (h.dir s).1.toNat) (j + (h.dir s).2.toNat) s) := by
  rw [val_step h loc m i j s hs hj hok]
  exact eadd_mono _ hx

/-- Bellman upper bound along a path -/
theorem scoreFrom_le (h : HMM S) (loc : Bool) (m : Nat) (p : List Nat) :
    ∀ (prev i j : Nat) (acc : Option S), statesOK h p → 1 ≤ prev → prev ≤ h.k →
      ele acc (val h loc m i j prev) → (consumedFrom h i j p).2 ≤ m → cellsOK h loc i j p →
      ele (scoreFrom h prev i j acc p)
        (val h loc m (consumedFrom h i j p).1 (consumedFrom h i j p).2 (lastState (prev :: p))) := by
  induction p with
  | nil => intro prev i j acc _ _ _ hacc _ _; exact hacc
  | cons s p ih =>
    intro prev i j acc hst hp1 hpk hacc hm hok
    obtain ⟨hs, hst'⟩ := List.forall_mem_cons.mp hst
    simp only [consumedFrom] at hm ⊢
    have hjm := Nat.le_trans (consumed_mono h (i + (h.dir s).1.toNat) (j + (h.dir s).2.toNat) p).2 hm
    simp only [scoreFrom, lastState_cons_cons]
    apply ih s _ _ _ hst' hs.1 hs.2.1 _ hm hok.2
    -- extending by `s`: `prev` is one of the states `s` reads in `(i, j)`
    exact enter_le h loc m i j s hs hjm hok.1 (ele_trans (eadd_mono _ hacc)
      ((readCell_isMax h loc m i j (Nat.le_trans (Nat.le_add_right _ _) hjm) s).ge_cand _ ⟨prev, hp1, hpk, rfl⟩))

theorem prefixScore_le (h : HMM S) (loc : Bool) (m i0 j0 : Nat) (p : List Nat) (hne : p ≠ []) (hst : statesOK h p)
    (hstart : canStart loc i0 j0 (h.dir (p.headD 0)) = true) (hm : (consumedFrom h i0 j0 p).2 ≤ m)
    (hok : cellsOK h loc i0 j0 p) :
    ele (prefixScore h i0 j0 p) (val h loc m (consumedFrom h i0 j0 p).1 (consumedFrom h i0 j0 p).2 (lastState p)) := by
  obtain ⟨s, p, rfl⟩ := List.exists_cons_of_ne_nil hne
  obtain ⟨hs, hst'⟩ := List.forall_mem_cons.mp hst
  have hjm := Nat.le_trans (consumed_mono h (i0 + (h.dir s).1.toNat) (j0 + (h.dir s).2.toNat) p).2 hm
  -- starting with `s`: the start is what `s` reads in `(i0, j0)` before any state stored there
  have hinit := (readCell_isMax h loc m i0 j0 (Nat.le_trans (Nat.le_add_right _ _) hjm) s).ge_init
  rw [if_pos (show canStart loc i0 j0 (h.dir s) = true from hstart)] at hinit
  exact scoreFrom_le h loc m p s _ _ _ hst' hs.1 hs.2.1 (enter_le h loc m i0 j0 s hs hjm hok.1 hinit) hm hok.2

/-- no global path to `(i, j)` followed by a transition into `dest` scores above what `dest` reads there -/
theorem read_upper (h : HMM S) (m i j dest : Nat) (hj : j ≤ m) (p : List Nat) (hp : IsGlobalPath h i j p) :
    ele (scoreTo h dest p) (readCell h false m i j dest).1 := by
  obtain ⟨hst, hc⟩ := hp
  cases p with
  | nil =>
    obtain ⟨rfl, rfl⟩ := Prod.mk.inj hc
    exact (readCell_isMax h false m 0 0 hj dest).ge_init
  | cons s p =>
    have hl := hst _ (lastState_mem (List.cons_ne_nil s p))
    have hle := prefixScore_le h false m 0 0 _ (List.cons_ne_nil s p) hst rfl (by rw [hc]; exact hj)
      (cellsOK_global h 0 0 _)
    rw [hc] at hle
    exact ele_trans (eadd_mono _ hle) ((readCell_isMax h false m i j hj dest).ge_cand _ ⟨_, hl.1, hl.2.1, rfl⟩)

/-- **no global path scores above the DP value** -/
theorem global_upper (h : HMM S) (n m : Nat) (p : List Nat) (hp : IsGlobalPath h n m p) :
    ele (globalScore h p) (viterbiGlobal h n m).score := by
  simp only [viterbiGlobal, look_tableOf h false n m n m (Nat.le_refl _)]
  cases p <;> exact read_upper h m n m h.endId (Nat.le_refl _) _ hp

end CogentModel.PairHMM
