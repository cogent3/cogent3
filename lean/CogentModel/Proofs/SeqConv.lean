import CogentModel.Model.SeqConv
import CogentModel.Proofs.SeqWrap
import CogentModel.Proofs.SliceWindow
/-! Chains that also convert DNA <-> RNA read exactly as the plain-string chain. -/
namespace CogentModel.SeqConv
open CogentModel CogentModel.View CogentModel.SeqWrap

theorem str_ofString (comp : Char → Char) (t : List Char) (b : Bool) :
    str comp (SeqWrap.ofString t b) = t := by
  unfold str
  rw [if_neg (fun h => absurd h.1 (show ¬ (1 : Int) < 0 by decide))]
  exact PySlice.slice_all t

def WFc (c : CSeq) : Prop := WF c.q ∧ c.q.nucleic = true

theorem wfc_ofString (t : List Char) (rna : Bool) : WFc (ofString t rna) :=
  ⟨wf_ofString t true, rfl⟩

theorem compOf_invol (cd cr : Char → Char) (hd : ∀ x, cd (cd x) = x) (hr : ∀ x, cr (cr x) = x)
    (rna : Bool) : ∀ x, compOf cd cr rna (compOf cd cr rna x) = x := by
  cases rna <;> simp [compOf, hd, hr]

/-- `to_moltype` never raises: the tagged string it leaves is the old one, mapped through `conv` iff the moltype changes -/
theorem convert_spec (cd cr conv : Char → Char) (c : CSeq) (t : Bool) (h : WFc c) :
    ((convert cd cr conv c t).rna, cstr cd cr (convert cd cr conv c t)) =
      (if c.rna = t then (c.rna, cstr cd cr c) else (t, (cstr cd cr c).map conv)) ∧
    WFc (convert cd cr conv c t) := by
  unfold convert
  split
  · exact ⟨rfl, h⟩
  · exact ⟨congrArg (Prod.mk t) (str_ofString _ _ _), wf_ofString _ true, rfl⟩

/-- an op is admissible: no zero slice step -/
def COp.ok : COp → Prop
  | .slice _ _ c => c ≠ some 0
  | _ => True

theorem relabel_ok (c c' : CSeq) (r : Except Err Seq) (h : relabel c r = .ok c') :
    ∃ q', r = .ok q' ∧ c' = { q := q', rna := c.rna } := by
  cases r with
  | error e => cases h
  | ok q' => exact ⟨q', rfl, (Except.ok.inj h).symm⟩

theorem relabel_err (c : CSeq) (e : Err) (r : Except Err Seq) (h : relabel c r = .error e) :
    r = .error e := by
  cases r with
  | error e' => rw [Except.error.inj h]
  | ok q' => cases h

theorem step1_spec (cd cr toR toD : Char → Char) (hd : ∀ x, cd (cd x) = x) (hr : ∀ x, cr (cr x) = x)
    (c : CSeq) (op : COp) (h : WFc c) (hop : op.ok) :
    (∀ c', step1 cd cr toR toD c op = .ok c' →
      specStep cd cr toR toD (c.rna, cstr cd cr c) op = some (c'.rna, cstr cd cr c') ∧ WFc c') ∧
    (∀ e, step1 cd cr toR toD c op = .error e →
      specStep cd cr toR toD (c.rna, cstr cd cr c) op = none) := by
  -- slice / index / rc are the wrapper's operations, relabelled, with the moltype tag carried along
  have wrapped : ∀ (sop : SOp) (op : COp), SOp.ok c.q.nucleic sop →
      step1 cd cr toR toD c op = relabel c (SeqWrap.step1 c.q sop) →
      specStep cd cr toR toD (c.rna, cstr cd cr c) op =
        (SeqWrap.specStep (compOf cd cr c.rna) true (cstr cd cr c) sop).map (fun t => (c.rna, t)) →
      (∀ c', step1 cd cr toR toD c op = .ok c' →
        specStep cd cr toR toD (c.rna, cstr cd cr c) op = some (c'.rna, cstr cd cr c') ∧ WFc c') ∧
      (∀ e, step1 cd cr toR toD c op = .error e →
        specStep cd cr toR toD (c.rna, cstr cd cr c) op = none) := by
    intro sop op hsop hstep hspec
    obtain ⟨ok, er⟩ := SeqWrap.step1_spec (compOf cd cr c.rna) (compOf_invol cd cr hd hr c.rna) c.q sop h.1 hsop
    rw [h.2] at ok er
    rw [hstep, hspec]
    unfold cstr
    constructor
    · intro c' hc
      obtain ⟨q', hq, rfl⟩ := relabel_ok c c' _ hc
      obtain ⟨x, y, z⟩ := ok q' hq
      exact ⟨by rw [x]; rfl, y, z⟩
    · intro e he
      rw [er e (relabel_err c e _ he)]; rfl
  cases op with
  | slice a b s => exact wrapped (.slice a b s) _ hop rfl rfl
  | index i => exact wrapped (.index i) _ trivial rfl (by simp only [specStep, SeqWrap.specStep, Option.map_map]; rfl)
  | rc => exact wrapped .rc _ h.2 rfl rfl
  | toRna => exact ⟨fun c' hc => by cases hc; exact (convert_spec cd cr toR c true h).imp_left fun e => congrArg some e.symm, nofun⟩
  | toDna => exact ⟨fun c' hc => by cases hc; exact (convert_spec cd cr toD c false h).imp_left fun e => congrArg some e.symm, nofun⟩

theorem runOps_spec (cd cr toR toD : Char → Char) (hd : ∀ x, cd (cd x) = x) (hr : ∀ x, cr (cr x) = x)
    (ops : List COp) (c : CSeq) (h : WFc c) (hops : ∀ op ∈ ops, op.ok) :
    (∀ c', runOps cd cr toR toD c ops = .ok c' →
      specRun cd cr toR toD (c.rna, cstr cd cr c) ops = some (c'.rna, cstr cd cr c') ∧ WFc c') ∧
    (∀ e, runOps cd cr toR toD c ops = .error e →
      specRun cd cr toR toD (c.rna, cstr cd cr c) ops = none) := by
  induction ops generalizing c with
  | nil => exact ⟨fun c' hw => by cases hw; exact ⟨rfl, h⟩, fun e hw => nomatch hw⟩
  | cons op ops ih =>
    obtain ⟨hok, herr⟩ := step1_spec cd cr toR toD hd hr c op h (hops op (by simp))
    unfold runOps specRun
    cases hs : step1 cd cr toR toD c op with
    | error e' => exact ⟨fun c' hw => (nomatch hw), fun e _ => by rw [herr e' hs]; rfl⟩
    | ok u =>
      obtain ⟨h1, hu⟩ := hok u hs
      rw [h1]
      simp only [Option.bind_some]
      exact ih u hu (fun o ho => hops o (by simp [ho]))

end CogentModel.SeqConv
