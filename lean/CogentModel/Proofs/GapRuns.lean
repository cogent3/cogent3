/-
  A gapped row as a coordinate system: position `r` of the sequence owns the *run* of alignment columns from the
  first column of its gap to its own column (`InRun`); runs are disjoint and ordered.  A dict `D` of gap columns to
  insert, keyed by alignment column, puts `inserted g D r` of them on the run of `r`, and the row law
  (`rowOf_inserted`) says that padding the row by `D` is the row whose every run has grown by that much.
  Rows count on `Nat`, dicts on `Int`: the casts between the two are all here.
-/
import CogentModel.Proofs.GapRows
namespace CogentModel.GapMerge

/-- first column of the gap run in front of residue `r` -/
def startZ (g : Gaps) (r : Int) : Int := r + sumLt g r

/-- alignment column of residue `p`: all gap characters up to and including the gap in front of `p`, plus the
residues before it -/
def colOf (g : Gaps) (p : Int) : Int := p + sumLt g p + gl g p

/-- column `c` lies in the gap run in front of residue `r`, or is the column of `r` itself -/
def InRun (g : Gaps) (r c : Int) : Prop := startZ g r ≤ c ∧ c ≤ colOf g r

instance (g : Gaps) (r c : Int) : Decidable (InRun g r c) := inferInstanceAs (Decidable (_ ∧ _))

/-- what the column dict `D` inserts into the run of position `r` -/
def inserted (g D : Gaps) (r : Int) : Int := sumIf (fun c => decide (InRun g r c)) D

/-- the gap run in front of `p` and residue `p` itself come before the gap run of any later position -/
theorem colOf_lt_startZ {g : Gaps} {len : Int} (hg : GapsOK g len) (p p' : Int) (h : p < p') :
    colOf g p < startZ g p' := by
  have h1 := sumLt_succ g hg.nodup p
  have h2 := sumLt_mono g hg.nonneg (p + 1) p' (by omega)
  unfold colOf startZ; omega

theorem inRun_colOf {g : Gaps} {len : Int} (hg : GapsOK g len) (r : Int) : InRun g r (colOf g r) :=
  ⟨Int.le_add_of_nonneg_right (gl_nonneg g hg.nonneg r), Int.le_refl _⟩

/-- the runs of different positions are disjoint -/
theorem inRun_unique {g : Gaps} {len : Int} (hg : GapsOK g len) {c r r' : Int}
    (h : InRun g r c) (h' : InRun g r' c) : r = r' := by
  rcases Int.lt_trichotomy r r' with hlt | heq | hlt
  · exact absurd (Int.lt_of_lt_of_le (Int.lt_of_lt_of_le (colOf_lt_startZ hg r r' hlt) h'.1) h.2) (Int.lt_irrefl _)
  · exact heq
  · exact absurd (Int.lt_of_lt_of_le (Int.lt_of_lt_of_le (colOf_lt_startZ hg r' r hlt) h.1) h'.2) (Int.lt_irrefl _)

theorem colOf_inj {g : Gaps} {len : Int} (hg : GapsOK g len) (a b : Int) (h : colOf g a = colOf g b) : a = b :=
  inRun_unique hg (inRun_colOf hg a) (h ▸ inRun_colOf hg b)

/-! ### the same quantities on the natural numbers, as `rowFn` and `padCols` count them -/

def stN (f : Nat → Nat) (r : Nat) : Nat := r + sumRange f 0 r

theorem stN_succ (f : Nat → Nat) (i : Nat) : stN f (i + 1) = stN f i + f i + 1 := by
  rw [stN, stN, sumRange_succ_right, Nat.zero_add]; omega

theorem glN_cast {g : Gaps} {len : Int} (hg : GapsOK g len) (r : Nat) : ((glN g r : Nat) : Int) = gl g r :=
  Int.toNat_of_nonneg (gl_nonneg g hg.nonneg (r : Int))

theorem rowFn_length (f : Nat → Nat) (n p : Nat) : (rowFn f n p).length = n + sumRange f p (n + 1) := by
  induction n generalizing p with
  | zero => simp [rowFn, sumRange]
  | succ n ih =>
    simp only [rowFn, List.length_append, List.length_replicate, List.length_cons, ih (p + 1)]
    rw [show sumRange f p (n + 1 + 1) = f p + sumRange f (p + 1) (n + 1) from rfl]; omega

/-- a window sum of `glN D` over columns, as a difference of prefix sums -/
theorem sumRange_cast {D : Gaps} {L : Int} (hD : GapsOK D L) (a cnt : Nat) :
    ((sumRange (glN D) a cnt : Nat) : Int) = sumLt D ((a : Int) + cnt) - sumLt D a := by
  induction cnt with
  | zero => simp [sumRange]
  | succ cnt ih =>
    have h1 := sumLt_succ D hD.nodup ((a : Int) + cnt)
    have h2 := glN_cast hD (a + cnt)
    rw [Int.add_assoc] at h1
    rw [sumRange_succ_right]; push_cast at h2 ⊢; omega

/-- prefix sums from column 0: a well-formed dict has nothing before position 0 -/
theorem sumRange_zero_cast (g : Gaps) (len : Int) (h : GapsOK g len) (cnt : Nat) :
    ((sumRange (glN g) 0 cnt : Nat) : Int) = sumLt g cnt := by
  have h0 : sumLt g ((0 : Nat) : Int) = 0 := sumLt_all_ge g _ fun k hk => (h.range k hk).1
  rw [sumRange_cast h 0 cnt, h0, Int.natCast_zero, Int.zero_add, Int.sub_zero]

theorem stN_cast (g : Gaps) (len : Int) (h : GapsOK g len) (r : Nat) : ((stN (glN g) r : Nat) : Int) = startZ g r := by
  rw [stN, startZ, Int.natCast_add, sumRange_zero_cast g len h r]

/-- length of a row = sequence length + all gap characters -/
theorem rowOf_length (g : Gaps) (len : Int) (h : GapsOK g len) (hlen : 0 ≤ len) :
    ((rowOf g len).length : Int) = len + total g := by
  rw [rowOf, rowFrom_eq_rowFn, rowFn_length, Int.natCast_add, sumRange_zero_cast g len h,
    sumLt_total g len h _ (by omega), Int.toNat_of_nonneg hlen]

/-- a window sum of `glN D` over columns = the sum of the entries of `D` lying in the window -/
theorem sumRange_sumIf {D : Gaps} {L : Int} (hD : GapsOK D L) (a cnt : Nat) :
    ((sumRange (glN D) a cnt : Nat) : Int) = sumIf (fun c => decide ((a : Int) ≤ c ∧ c < (a : Int) + cnt)) D := by
  rw [sumRange_cast hD, sumLt_between D a ((a : Int) + cnt) (by omega)]; omega

/-- the columns of the run of `r`, summed over `glN D` -/
theorem sumRange_inserted {D g : Gaps} {L len : Int} (hD : GapsOK D L) (hg : GapsOK g len) (r : Nat) : ((sumRange (glN D) (stN (glN g) r) (glN g r + 1) : Nat) : Int) = inserted g D r := by
  rw [sumRange_sumIf hD]
  have h1 := stN_cast g len hg r
  have h2 := glN_cast hg r
  exact sumIf_congr _ _ D fun e _ => decide_eq_decide.mpr (by unfold InRun colOf startZ at *; push_cast; omega)

/-- **the row law**: a row whose gap run in front of every residue grew by what `D` inserts at the run's columns is the
old row padded by `D` -/
theorem rowOf_inserted {g D : Gaps} {len L : Int} (g' : Gaps) (hg : GapsOK g len) (hD : GapsOK D L)
    (h : ∀ r : Nat, r ≤ len.toNat → gl g' r = gl g r + inserted g D r) :
    rowOf g' len = padCols (glN D) 0 (rowOf g len) := by
  simp only [rowOf, rowFrom_eq_rowFn]
  refine (padCols_rowFn (glN D) (glN g) (glN g') len.toNat 0 0 (stN (glN g)) rfl
    (fun i _ => by rw [Nat.zero_add]; exact stN_succ _ i) fun r hr => ?_).symm
  rw [Nat.zero_add]
  have h3 : gl g' r = ((glN g r + sumRange (glN D) (stN (glN g) r) (glN g r + 1) : Nat) : Int) := by
    rw [h r hr, Int.natCast_add, glN_cast hg r, sumRange_inserted hD hg r]
  exact (congrArg Int.toNat h3).trans (Int.toNat_natCast _)

end CogentModel.GapMerge
