import CogentModel.Proofs.FMapInverse
import CogentModel.Proofs.FMapGetitem
import CogentModel.Model.FeatureProject
namespace CogentModel.FMap

/-- the projection `inverse(A)[fm]` exists; its cover is the feature's cover looked up in the cover of the inverse `I`,
and `I` sends every sequence position shown in column `k` of the row back to `k` -/
theorem project_cover (A fm : FM) (hA : SortedFwd A) (hpl : 0 < A.parentLength)
    (hfm : ∀ x ∈ fm.spans, x.idxIn A.parentLength) :
    ∃ I r, project A fm = .ok r ∧ r.parentLength = len A ∧ cover r = (cover fm).map (compose (cover I)) ∧
      ∀ (k : Nat) (p : Int), (cover A)[k]? = some (some p) → compose (cover I) (some p) = some (k : Int) := by
  obtain ⟨hN, hw, hd, hpl0⟩ := hA.invertible
  obtain ⟨I, hI, hIpl, hIlen, hNN, hconv⟩ := inverse_general_spec A hN hw hd hpl0
  have hne : I.spans ≠ [] := by
    intro e
    have : len I = 0 := by unfold len; rw [e]; rfl
    omega
  obtain ⟨r, hr, hrp, hrc⟩ := getitem_spec I fm hNN hne fun x hx => (hfm x hx).idxOK
  exact ⟨I, r, by unfold project; rw [hI]; exact hr, by rw [hrp, hIpl], hrc, fun k p hk => (hconv p k).2 (getElem?_eq_some_some.1 hk)⟩

end CogentModel.FMap
