import CogentModel.Model.View
import CogentModel.Gen.C01View
/-! # C01: the TRANSLATED slice-record arithmetic equals the hand-written model

`Gen/C01View.lean` is regenerated by `translator/py2lean_view.py` from the current python source on every
check run (namespaces `GenOld` = core/sequence.py, `GenNew` = core/new_sequence.py, `GenData` =
new_sequence.SliceRecordABC + new_alignment.SeqDataView).  This file proves, for ALL arguments, that every
generated definition equals its counterpart in `Model/View.lean` (the model all C01 theorems are about).  The two
`Sequence` getters `annotationOffset` / `parentCoordinates` have no counterpart there; `Props/C01Seq.lean` ties them to
`Model/SeqCoords.lean`.

The translator prints the model's case analysis up to three idioms: names and order of local bindings, one
conditional value per variable where the model has a conditional of tuples, and the bracketing of sums and products.
Each proof unfolds both sides (which removes the bindings), moves conditionals outward and compares up to
associativity and commutativity, so a rewrite of the python within these idioms is absorbed while a semantic change
leaves two different terms and the named theorem fails. -/
namespace CogentModel.C01GenEq
open CogentModel CogentModel.Gen.C01View

theorem pyabs_eq : pyabs = View.pyabs := rfl

theorem mk_congr {n off a a' b b' c c' : Int} (ha : a = a') (hb : b = b') (hc : c = c') :
    View.mk n (some a) (some b) (some c) off = View.mk n (some a') (some b') (some c') off := by
  subst ha hb hc; rfl

/-- a tuple of conditionals on one condition is the conditional of the tuples (the translator prints an `if` whose
branches only assign as one conditional value per assigned variable) -/
theorem ite_pair {α β} (p : Prop) [Decidable p] (a a' : α) (b b' : β) :
    ((if p then a else a'), (if p then b else b')) = if p then (a, b) else (a', b') := by
  split <;> rfl

/-- `gen_eq [eqns]` proves `generated = model`: unfold both sides with `eqns` and move every conditional to the
outside of tuples and of `.ok`; the two sides are then the same term, at most up to the order and bracketing of
sums and products (which a rewrite of the python may change without changing the meaning). -/
syntax "gen_eq" "[" Lean.Parser.Tactic.simpLemma,* "]" : tactic
macro_rules
  | `(tactic| gen_eq [$ls,*]) =>
    `(tactic| (simp only [$ls,*, ite_pair, apply_ite Except.ok]) <;> first | rfl | ac_rfl)

/-- a constructor that behaves like `SeqView.__init__` with its `seq_len` check is the model's constructor when
`seq_len` is absent or is `len(seq)` -/
theorem mk_of_full {n off : Int} {a b c sl : Option Int} {r : Except View.Err View.View}
    (hr : r = if c = some 0 then .error .valueError
      else if sl ≠ none ∧ sl ≠ some n then .error .assertionError else View.mk n a b c off)
    (hsl : sl = none ∨ sl = some n) : r = View.mk n a b c off := by
  rw [hr, if_neg (fun h : sl ≠ none ∧ sl ≠ some n => hsl.elim h.1 h.2)]
  by_cases h : c = some 0
  · rw [if_pos h, h]; rfl
  · rw [if_neg h]

set_option linter.unusedSimpArgs false

/-! ## core/sequence.py (`SliceRecordABC` + `SeqView`) -/
namespace Old

theorem inputValsPos_eq : GenOld.inputValsPos = View.inputValsPos := by
  funext n a b c
  cases a <;> cases b <;> gen_eq [GenOld.inputValsPos, View.inputValsPos, pyabs_eq]

theorem inputValsNeg_eq : GenOld.inputValsNeg = View.inputValsNeg := by
  funext n a b c
  cases a <;> cases b <;> gen_eq [GenOld.inputValsNeg, View.inputValsNeg, View.inputValsNegTail]

/-- `SeqView.__init__` including the `seq_len` consistency check (the model's `mk` has no `seq_len` argument) -/
theorem mk_full (n : Int) (a b c : Option Int) (off : Int) (sl : Option Int) :
    GenOld.mk n a b c off sl =
      if c = some 0 then .error .valueError
      else if sl ≠ none ∧ sl ≠ some n then .error .assertionError
      else View.mk n a b c off := by
  cases c <;> cases sl <;>
    simp only [GenOld.mk, View.mk, inputValsPos_eq, inputValsNeg_eq, Option.getD, ne_eq, Option.some.injEq, reduceCtorEq,
      not_true_eq_false, not_false_eq_true, false_and, true_and, if_false]
  -- what is left is `seq_len or len(seq)` under `seq_len == len(seq)`, and the model's second `step == 0` test
  · rename_i sl
    by_cases h : sl = n <;> simp only [h, not_true_eq_false, not_false_eq_true, if_true, if_false, ite_self]
  · rename_i c
    by_cases h : c = 0 <;> simp only [h, if_true, if_false]
  · rename_i c sl
    by_cases h : c = 0 <;> by_cases h' : sl = n <;>
      simp only [h, h', not_true_eq_false, not_false_eq_true, if_true, if_false, ite_self]

/-- the way every method re-constructs: `seq_len=self.seq_len` with `len(seq) = self.seq_len` -/
theorem mk_some (n : Int) (a b c : Option Int) (off : Int) : GenOld.mk n a b c off (some n) = View.mk n a b c off :=
  mk_of_full (mk_full n a b c off (some n)) (.inr rfl)

theorem mk_none (n : Int) (a b c : Option Int) (off : Int) : GenOld.mk n a b c off none = View.mk n a b c off :=
  mk_of_full (mk_full n a b c off none) (.inl rfl)

theorem len_eq : GenOld.len = View.len := by
  funext v; gen_eq [GenOld.len, View.len, pyabs_eq]

theorem isReversed_eq : GenOld.isReversed = View.isReversed := by
  funext v; gen_eq [GenOld.isReversed, View.isReversed]

theorem parentStart_eq : GenOld.parentStart = View.parentStart := by
  funext v; gen_eq [GenOld.parentStart, View.parentStart]

theorem parentStop_eq : GenOld.parentStop = View.parentStop := by
  funext v; gen_eq [GenOld.parentStop, View.parentStop]

theorem getIndex_eq : GenOld.getIndex = @View.getIndex := by
  funext v x b
  gen_eq [GenOld.getIndex, View.getIndex, len_eq, pyabs_eq]

theorem absolutePosition_eq : GenOld.absolutePosition = @View.absolutePosition := by
  funext v x b
  simp only [GenOld.absolutePosition, View.absolutePosition, len_eq, getIndex_eq]
  cases View.getIndex v x b <;> gen_eq [bind, Except.bind, pure, Except.pure]

theorem relativePosition_eq : GenOld.relativePosition = @View.relativePosition := by
  funext v x b
  gen_eq [GenOld.relativePosition, View.relativePosition, len_eq, pyabs_eq]

theorem zeroSlice_eq (v : View.View) : GenOld.zeroSlice v = .ok (View.zero .seqView v) := by
  simp only [GenOld.zeroSlice, mk_none]; rfl

theorem copy_eq (v : View.View) : GenOld.copy v = View.remk v v.start v.stop v.step := by
  gen_eq [GenOld.copy, mk_some, View.remk]

theorem fwdFromFwd_eq : GenOld.fwdFromFwd = View.fwdFromFwd .seqView := by
  funext v a b c
  gen_eq [GenOld.fwdFromFwd, View.fwdFromFwd, len_eq, zeroSlice_eq, mk_some, View.remk]

theorem fwdFromRev_eq : GenOld.fwdFromRev = View.fwdFromRev .seqView := by
  funext v a b c
  gen_eq [GenOld.fwdFromRev, View.fwdFromRev, len_eq, zeroSlice_eq, mk_some, View.remk, pyabs_eq]

theorem revFromFwd_eq : GenOld.revFromFwd = View.revFromFwd .seqView := by
  funext v a b c
  gen_eq [GenOld.revFromFwd, View.revFromFwd, len_eq, zeroSlice_eq, mk_some, View.remk]

theorem revFromRev_eq : GenOld.revFromRev = View.revFromRev .seqView := by
  funext v a b c
  gen_eq [GenOld.revFromRev, View.revFromRev, View.revFromRevTail, len_eq, zeroSlice_eq, mk_some, View.remk, pyabs_eq]

/-- `_get_slice` (inlined in the model's `getitemSlice`) -/
theorem getSlice_eq (v : View.View) (a b c : Option Int) (s : Int) :
    GenOld.getSlice v a b c s =
      if v.step > 0 then View.fwdFromFwd .seqView v (a.getD 0) (b.getD (View.len v)) s
      else View.fwdFromRev .seqView v (a.getD 0) (b.getD (View.len v)) s := by
  cases a <;> cases b <;>
    gen_eq [GenOld.getSlice, len_eq, fwdFromFwd_eq, fwdFromRev_eq, Option.getD]

/-- `_get_reverse_slice` (inlined in the model's `getitemSlice`) -/
theorem getReverseSlice_eq (v : View.View) (a b c : Option Int) (s : Int) :
    GenOld.getReverseSlice v a b c s =
      if v.step < 0 then View.revFromRev .seqView v (a.getD (-1)) (b.getD (-(View.len v) - 1)) s
      else View.revFromFwd .seqView v (a.getD (-1)) (b.getD (-(View.len v) - 1)) s := by
  cases a <;> cases b <;>
    gen_eq [GenOld.getReverseSlice, len_eq, revFromRev_eq, revFromFwd_eq, Option.getD]

theorem getitemInt_eq : GenOld.getitemInt = View.getitemInt := by
  funext v i
  simp only [GenOld.getitemInt, View.getitemInt, getIndex_eq]
  cases View.getIndex v i false <;> gen_eq [bind, Except.bind, mk_some, View.remk]

theorem getitemSlice_eq : GenOld.getitemSlice = View.getitemSlice .seqView := by
  funext v a b c
  cases a <;> cases b <;> cases c <;>
    gen_eq [GenOld.getitemSlice, View.getitemSlice, getSlice_eq, getReverseSlice_eq, copy_eq, zeroSlice_eq, len_eq,
      Option.getD, ne_eq, Option.some.injEq, reduceCtorEq, not_true_eq_false, not_false_eq_true, and_self, and_true,
      true_and, and_false, false_and, if_true, if_false]

theorem richDictBounds_eq : GenOld.richDictBounds = View.richDictBounds := by
  funext v
  gen_eq [GenOld.richDictBounds, View.richDictBounds]

end Old

/-! ## core/new_sequence.py (`SliceRecordABC` + `SeqView`) -/
namespace New

theorem inputValsPos_eq : GenNew.inputValsPos = View.inputValsPos := by
  funext n a b c
  cases a <;> cases b <;> gen_eq [GenNew.inputValsPos, View.inputValsPos, pyabs_eq]

theorem inputValsNeg_eq : GenNew.inputValsNeg = View.inputValsNeg := by
  funext n a b c
  cases a <;> cases b <;> gen_eq [GenNew.inputValsNeg, View.inputValsNeg, View.inputValsNegTail]

/-- `SeqView.__init__` including the `seq_len` consistency check (the model's `mk` has no `seq_len` argument) -/
theorem mk_full (n : Int) (a b c : Option Int) (off : Int) (sl : Option Int) :
    GenNew.mk n a b c off sl =
      if c = some 0 then .error .valueError
      else if sl ≠ none ∧ sl ≠ some n then .error .assertionError
      else View.mk n a b c off := by
  cases c <;> cases sl <;>
    simp only [GenNew.mk, View.mk, inputValsPos_eq, inputValsNeg_eq, Option.getD, ne_eq, Option.some.injEq, reduceCtorEq,
      not_true_eq_false, not_false_eq_true, false_and, true_and, if_false]
  -- what is left is `seq_len or len(seq)` under `seq_len == len(seq)`, and the model's second `step == 0` test
  · rename_i sl
    by_cases h : sl = n <;> simp only [h, not_true_eq_false, not_false_eq_true, if_true, if_false, ite_self]
  · rename_i c
    by_cases h : c = 0 <;> simp only [h, if_true, if_false]
  · rename_i c sl
    by_cases h : c = 0 <;> by_cases h' : sl = n <;>
      simp only [h, h', not_true_eq_false, not_false_eq_true, if_true, if_false, ite_self]

/-- the way every method re-constructs: `seq_len=self.seq_len` with `len(seq) = self.seq_len` -/
theorem mk_some (n : Int) (a b c : Option Int) (off : Int) : GenNew.mk n a b c off (some n) = View.mk n a b c off :=
  mk_of_full (mk_full n a b c off (some n)) (.inr rfl)

theorem mk_none (n : Int) (a b c : Option Int) (off : Int) : GenNew.mk n a b c off none = View.mk n a b c off :=
  mk_of_full (mk_full n a b c off none) (.inl rfl)

theorem len_eq : GenNew.len = View.len := by
  funext v; gen_eq [GenNew.len, View.len, pyabs_eq]

theorem isReversed_eq : GenNew.isReversed = View.isReversed := by
  funext v; gen_eq [GenNew.isReversed, View.isReversed]

theorem parentStart_eq : GenNew.parentStart = View.parentStart := by
  funext v; gen_eq [GenNew.parentStart, View.parentStart]

theorem parentStop_eq : GenNew.parentStop = View.parentStop := by
  funext v; gen_eq [GenNew.parentStop, View.parentStop]

theorem getIndex_eq : GenNew.getIndex = @View.getIndex := by
  funext v x b
  gen_eq [GenNew.getIndex, View.getIndex, len_eq, pyabs_eq]

theorem absolutePosition_eq : GenNew.absolutePosition = @View.absolutePosition := by
  funext v x b
  simp only [GenNew.absolutePosition, View.absolutePosition, len_eq, getIndex_eq]
  cases View.getIndex v x b <;> gen_eq [bind, Except.bind, pure, Except.pure]

theorem relativePosition_eq : GenNew.relativePosition = @View.relativePosition := by
  funext v x b
  gen_eq [GenNew.relativePosition, View.relativePosition, len_eq, pyabs_eq]

theorem zeroSlice_eq (v : View.View) : GenNew.zeroSlice v = .ok (View.zero .seqView v) := by
  simp only [GenNew.zeroSlice, mk_none]; rfl

theorem copy_eq (v : View.View) : GenNew.copy v = View.remk v v.start v.stop v.step := by
  gen_eq [GenNew.copy, mk_some, View.remk]

theorem fwdFromFwd_eq : GenNew.fwdFromFwd = View.fwdFromFwd .seqView := by
  funext v a b c
  gen_eq [GenNew.fwdFromFwd, View.fwdFromFwd, len_eq, zeroSlice_eq, mk_some, View.remk]

theorem fwdFromRev_eq : GenNew.fwdFromRev = View.fwdFromRev .seqView := by
  funext v a b c
  gen_eq [GenNew.fwdFromRev, View.fwdFromRev, len_eq, zeroSlice_eq, mk_some, View.remk, pyabs_eq]

theorem revFromFwd_eq : GenNew.revFromFwd = View.revFromFwd .seqView := by
  funext v a b c
  gen_eq [GenNew.revFromFwd, View.revFromFwd, len_eq, zeroSlice_eq, mk_some, View.remk]

theorem revFromRev_eq : GenNew.revFromRev = View.revFromRev .seqView := by
  funext v a b c
  gen_eq [GenNew.revFromRev, View.revFromRev, View.revFromRevTail, len_eq, zeroSlice_eq, mk_some, View.remk, pyabs_eq]

/-- `_get_slice` (inlined in the model's `getitemSlice`) -/
theorem getSlice_eq (v : View.View) (a b c : Option Int) (s : Int) :
    GenNew.getSlice v a b c s =
      if v.step > 0 then View.fwdFromFwd .seqView v (a.getD 0) (b.getD (View.len v)) s
      else View.fwdFromRev .seqView v (a.getD 0) (b.getD (View.len v)) s := by
  cases a <;> cases b <;>
    gen_eq [GenNew.getSlice, len_eq, fwdFromFwd_eq, fwdFromRev_eq, Option.getD]

/-- `_get_reverse_slice` (inlined in the model's `getitemSlice`) -/
theorem getReverseSlice_eq (v : View.View) (a b c : Option Int) (s : Int) :
    GenNew.getReverseSlice v a b c s =
      if v.step < 0 then View.revFromRev .seqView v (a.getD (-1)) (b.getD (-(View.len v) - 1)) s
      else View.revFromFwd .seqView v (a.getD (-1)) (b.getD (-(View.len v) - 1)) s := by
  cases a <;> cases b <;>
    gen_eq [GenNew.getReverseSlice, len_eq, revFromRev_eq, revFromFwd_eq, Option.getD]

theorem getitemInt_eq : GenNew.getitemInt = View.getitemInt := by
  funext v i
  simp only [GenNew.getitemInt, View.getitemInt, getIndex_eq]
  cases View.getIndex v i false <;> gen_eq [bind, Except.bind, mk_some, View.remk]

theorem getitemSlice_eq : GenNew.getitemSlice = View.getitemSlice .seqView := by
  funext v a b c
  cases a <;> cases b <;> cases c <;>
    gen_eq [GenNew.getitemSlice, View.getitemSlice, getSlice_eq, getReverseSlice_eq, copy_eq, zeroSlice_eq, len_eq,
      Option.getD, ne_eq, Option.some.injEq, reduceCtorEq, not_true_eq_false, not_false_eq_true, and_self, and_true,
      true_and, and_false, false_and, if_true, if_false]

theorem richDictBounds_eq : GenNew.richDictBounds = View.richDictBounds := by
  funext v
  gen_eq [GenNew.richDictBounds, View.richDictBounds]

end New

/-! ## core/new_sequence.py `SliceRecordABC` + core/new_alignment.py `SeqDataView`

`SeqDataView` contributes its own `__init__` (no `seq_len` argument, `_checked_seq_len`), `_zero_slice` (over the same
parent: `start = stop = 0`), `copy` (returns `self`) and no `to_rich_dict`; hence `mk`, `zeroSlice`, `copy` and the
eight methods that call them have proofs of their own, with the `.seqDataView` flavour of the model.  The two module
functions and the seven `SliceRecordABC` methods that construct nothing are the python text that `GenNew` was translated
from, translated a second time: their theorems are those of `New` (this stops checking if `SeqDataView` comes to
override one of them). -/
namespace Data

theorem inputValsPos_eq : GenData.inputValsPos = View.inputValsPos := New.inputValsPos_eq

theorem inputValsNeg_eq : GenData.inputValsNeg = View.inputValsNeg := New.inputValsNeg_eq

theorem checkedSeqLen_eq (n : Int) : GenData.checkedSeqLen n = n := by
  gen_eq [GenData.checkedSeqLen]

theorem mk_eq : GenData.mk = View.mk := by
  funext n a b c off
  cases c <;>
    gen_eq [GenData.mk, View.mk, checkedSeqLen_eq, inputValsPos_eq, inputValsNeg_eq, Option.getD, Option.some.injEq, reduceCtorEq,
      if_false, if_true]

theorem mk_some (n : Int) (a b c : Option Int) (off : Int) : GenData.mk n a b c off = View.mk n a b c off := by
  rw [mk_eq]

theorem len_eq : GenData.len = View.len := New.len_eq

theorem isReversed_eq : GenData.isReversed = View.isReversed := New.isReversed_eq

theorem parentStart_eq : GenData.parentStart = View.parentStart := New.parentStart_eq

theorem parentStop_eq : GenData.parentStop = View.parentStop := New.parentStop_eq

theorem getIndex_eq : GenData.getIndex = @View.getIndex := New.getIndex_eq

theorem absolutePosition_eq : GenData.absolutePosition = @View.absolutePosition := New.absolutePosition_eq

theorem relativePosition_eq : GenData.relativePosition = @View.relativePosition := New.relativePosition_eq

theorem zeroSlice_eq (v : View.View) : GenData.zeroSlice v = .ok (View.zero .seqDataView v) := by
  gen_eq [GenData.zeroSlice, mk_eq, View.mk, View.inputValsPos, View.zero, View.zeroSliceData, Option.getD, reduceCtorEq, if_false]

theorem copy_eq (v : View.View) : GenData.copy v = v := by
  gen_eq [GenData.copy]

theorem fwdFromFwd_eq : GenData.fwdFromFwd = View.fwdFromFwd .seqDataView := by
  funext v a b c
  gen_eq [GenData.fwdFromFwd, View.fwdFromFwd, len_eq, zeroSlice_eq, mk_some, View.remk]

theorem fwdFromRev_eq : GenData.fwdFromRev = View.fwdFromRev .seqDataView := by
  funext v a b c
  gen_eq [GenData.fwdFromRev, View.fwdFromRev, len_eq, zeroSlice_eq, mk_some, View.remk, pyabs_eq]

theorem revFromFwd_eq : GenData.revFromFwd = View.revFromFwd .seqDataView := by
  funext v a b c
  gen_eq [GenData.revFromFwd, View.revFromFwd, len_eq, zeroSlice_eq, mk_some, View.remk]

theorem revFromRev_eq : GenData.revFromRev = View.revFromRev .seqDataView := by
  funext v a b c
  gen_eq [GenData.revFromRev, View.revFromRev, View.revFromRevTail, len_eq, zeroSlice_eq, mk_some, View.remk, pyabs_eq]

/-- `_get_slice` (inlined in the model's `getitemSlice`) -/
theorem getSlice_eq (v : View.View) (a b c : Option Int) (s : Int) :
    GenData.getSlice v a b c s =
      if v.step > 0 then View.fwdFromFwd .seqDataView v (a.getD 0) (b.getD (View.len v)) s
      else View.fwdFromRev .seqDataView v (a.getD 0) (b.getD (View.len v)) s := by
  cases a <;> cases b <;>
    gen_eq [GenData.getSlice, len_eq, fwdFromFwd_eq, fwdFromRev_eq, Option.getD]

/-- `_get_reverse_slice` (inlined in the model's `getitemSlice`) -/
theorem getReverseSlice_eq (v : View.View) (a b c : Option Int) (s : Int) :
    GenData.getReverseSlice v a b c s =
      if v.step < 0 then View.revFromRev .seqDataView v (a.getD (-1)) (b.getD (-(View.len v) - 1)) s
      else View.revFromFwd .seqDataView v (a.getD (-1)) (b.getD (-(View.len v) - 1)) s := by
  cases a <;> cases b <;>
    gen_eq [GenData.getReverseSlice, len_eq, revFromRev_eq, revFromFwd_eq, Option.getD]

theorem getitemInt_eq : GenData.getitemInt = View.getitemInt := by
  funext v i
  simp only [GenData.getitemInt, View.getitemInt, getIndex_eq]
  cases View.getIndex v i false <;> gen_eq [bind, Except.bind, mk_some, View.remk]

theorem getitemSlice_eq : GenData.getitemSlice = View.getitemSlice .seqDataView := by
  funext v a b c
  cases a <;> cases b <;> cases c <;>
    gen_eq [GenData.getitemSlice, View.getitemSlice, getSlice_eq, getReverseSlice_eq, copy_eq, zeroSlice_eq, len_eq,
      Option.getD, ne_eq, Option.some.injEq, reduceCtorEq, not_true_eq_false, not_false_eq_true, and_self, and_true,
      true_and, and_false, false_and, if_true, if_false]

end Data

end CogentModel.C01GenEq
