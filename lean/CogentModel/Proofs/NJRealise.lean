import CogentModel.Model.NJ
import CogentModel.Proofs.ListGetD
import Mathlib.Tactic.Ring
import Mathlib.Tactic.Linarith
import Mathlib.Algebra.Order.Field.Rat
/-! Neighbour joining while every selected pair is a cherry: `join` keeps the partial tree a realisation of `D`
(`Inv`), the final three-node step completes it (`finish_real`), and the computable certificate `njCheck` is sound. -/
namespace CogentModel.NJ
open CogentModel.ListGetD

theorem get_tab {n : Nat} {f : Nat → Nat → Rat} {a b : Nat} (ha : a < n) (hb : b < n) :
    get (tab n f) a b = f a b := by
  unfold get tab
  rw [getD_map_range_of_lt ha, getD_map_range_of_lt hb]

theorem sumTo_congr (n : Nat) (f g : Nat → Rat) (h : ∀ k, k < n → f k = g k) : sumTo n f = sumTo n g := by
  induction n with
  | zero => rfl
  | succ n ih =>
    simp only [sumTo]
    rw [ih (fun k hk => h k (by omega)), h n (by omega)]

theorem sumTo_add (n : Nat) (f g : Nat → Rat) : sumTo n (fun k => f k + g k) = sumTo n f + sumTo n g := by
  induction n with
  | zero => simp [sumTo]
  | succ n ih => simp only [sumTo]; rw [ih]; ring

theorem sumTo_sub (n : Nat) (f g : Nat → Rat) : sumTo n (fun k => f k - g k) = sumTo n f - sumTo n g := by
  induction n with
  | zero => simp [sumTo]
  | succ n ih => simp only [sumTo]; rw [ih]; ring

theorem sumTo_const (n : Nat) (c : Rat) : sumTo n (fun _ => c) = n * c := by
  induction n with
  | zero => simp [sumTo]
  | succ n ih => simp only [sumTo]; rw [ih]; push_cast; ring

theorem sumTo_zero (n : Nat) (g : Nat → Rat) (h : ∀ k, k < n → g k = 0) : sumTo n g = 0 := by
  rw [sumTo_congr n g (fun _ => 0) h, sumTo_const]; ring

theorem sumTo_split (n i : Nat) (g : Nat → Rat) (hi : i < n) :
    sumTo n g = sumTo n (fun k => if k = i then 0 else g k) + g i := by
  induction n with
  | zero => omega
  | succ n ih =>
    simp only [sumTo]
    by_cases hin : i = n
    · subst hin
      rw [if_pos rfl, sumTo_congr i _ g fun k hk => if_neg (by omega)]; ring
    · rw [ih (by omega), if_neg fun e => hin e.symm]; ring

theorem sumTo_one (n i : Nat) (g : Nat → Rat) (hi : i < n) (h : ∀ k, k < n → k ≠ i → g k = 0) :
    sumTo n g = g i := by
  rw [sumTo_split n i g hi, sumTo_zero n _ fun k hk => by
    by_cases hki : k = i
    · exact if_pos hki
    · rw [if_neg hki]; exact h k hk hki, zero_add]

theorem sumTo_two (n i j : Nat) (g : Nat → Rat) (hij : i ≠ j) (hi : i < n) (hj : j < n)
    (h : ∀ k, k < n → k ≠ i → k ≠ j → g k = 0) : sumTo n g = g i + g j := by
  rw [sumTo_split n i g hi, sumTo_one n j _ hj fun k hk hkj => by
    by_cases hki : k = i
    · exact if_pos hki
    · rw [if_neg hki]; exact h k hk hki hkj, if_neg (Ne.symm hij), add_comm]

/-- `(i, j)` is a cherry of the metric `d` on `0..L-1`: there are pendant lengths `ai, aj ≥ 0` and a vector
`e` (distances from the cherry's parent) with `d i k = ai + e k`, `d j k = aj + e k`, `d i j = ai + aj`. -/
structure Cherry (d : Mat) (L i j : Nat) (ai aj : Rat) (e : Nat → Rat) : Prop where
  hij : i ≠ j
  hi : i < L
  hj : j < L
  nni : 0 ≤ ai
  nnj : 0 ≤ aj
  dij : get d i j = ai + aj
  di : ∀ k, k < L → k ≠ i → k ≠ j → get d i k = ai + e k
  dj : ∀ k, k < L → k ≠ i → k ≠ j → get d j k = aj + e k

def Sym (d : Mat) (L : Nat) : Prop := ∀ a b, a < L → b < L → get d a b = get d b a
def ZeroDiag (d : Mat) (L : Nat) : Prop := ∀ a, a < L → get d a a = 0

theorem clamp0_of_nonneg (x : Rat) (h : 0 ≤ x) : clamp0 x = x := by
  unfold clamp0
  by_cases h' : 0 < x
  · rw [if_pos h']
  · rw [if_neg h']; linarith

theorem colSum_diff {d : Mat} {L i j : Nat} {ai aj : Rat} {e : Nat → Rat}
    (hs : Sym d L) (hz : ZeroDiag d L) (hc : Cherry d L i j ai aj e) :
    colSum d L i - colSum d L j = ((L : Rat) - 2) * (ai - aj) := by
  unfold colSum
  rw [← sumTo_sub]
  have h1 : sumTo L (fun k => get d k i - get d k j)
      = sumTo L (fun k => (get d k i - get d k j - (ai - aj)) + (ai - aj)) :=
    sumTo_congr _ _ _ (fun k _ => by ring)
  rw [h1, sumTo_add, sumTo_const,
    sumTo_two L i j (fun k => get d k i - get d k j - (ai - aj)) hc.hij hc.hi hc.hj]
  · show get d i i - get d i j - (ai - aj) + (get d j i - get d j j - (ai - aj)) + ↑L * (ai - aj) = _
    rw [hz i hc.hi, hz j hc.hj, hs j i hc.hj hc.hi, hc.dij]; ring
  · intro k hk hki hkj
    show get d k i - get d k j - (ai - aj) = 0
    rw [hs k i hk hc.hi, hs k j hk hc.hj, hc.di k hk hki hkj, hc.dj k hk hki hkj]; ring

theorem distDiff_cherry {d : Mat} {L i j : Nat} {ai aj : Rat} {e : Nat → Rat} (hL : 2 < L)
    (hs : Sym d L) (hz : ZeroDiag d L) (hc : Cherry d L i j ai aj e) :
    distDiff d L i j = ai - aj := by
  unfold distDiff
  rw [colSum_diff hs hz hc,
    mul_div_cancel_left₀ _ (ne_of_gt (sub_pos.2 (by exact_mod_cast hL : (2 : Rat) < L)))]

/-- on a cherry the two branch lengths of `join` are the pendant lengths: the clamps are inactive -/
theorem lens_cherry {d : Mat} {L i j : Nat} {ai aj : Rat} {e : Nat → Rat} (hL : 2 < L)
    (hs : Sym d L) (hz : ZeroDiag d L) (hc : Cherry d L i j ai aj e) :
    leftLen d L i j = ai ∧ rightLen d L i j = aj := by
  unfold leftLen rightLen
  rw [distDiff_cherry hL hs hz hc, hc.dij]
  have hi : (1 / 2 : Rat) * (ai + aj + (ai - aj)) = ai := by ring
  have hj : (1 / 2 : Rat) * (ai + aj - (ai - aj)) = aj := by ring
  rw [hi, hj]
  exact ⟨clamp0_of_nonneg _ hc.nni, clamp0_of_nonneg _ hc.nnj⟩

theorem newDist_cherry {d : Mat} {L i j : Nat} {ai aj : Rat} {e : Nat → Rat}
    (hc : Cherry d L i j ai aj e) (k : Nat) (hk : k < L) (hki : k ≠ i) (hkj : k ≠ j) :
    newDist d i j k = e k := by
  unfold newDist
  rw [hc.di k hk hki hkj, hc.dj k hk hki hkj, hc.dij]; ring

/-- all tip pairs inside the subtree have path length `D` -/
def Real (D : Nat → Nat → Rat) : T → Prop
  | .tip _ => True
  | .bin l1 t1 l2 t2 => Real D t1 ∧ Real D t2 ∧
      ∀ p ∈ t1.depths, ∀ q ∈ t2.depths, D p.1 q.1 = p.2 + l1 + l2 + q.2

/-- the partial tree realises `D`: inside every node, and across nodes through the current matrix -/
structure Inv (D : Nat → Nat → Rat) (pt : PT) : Prop where
  sym : Sym pt.d pt.L
  zd : ZeroDiag pt.d pt.L
  real : ∀ a, a < pt.L → Real D (pt.nodes.getD a default)
  cross : ∀ a b, a < pt.L → b < pt.L → a ≠ b →
    ∀ p ∈ (pt.nodes.getD a default).depths, ∀ q ∈ (pt.nodes.getD b default).depths,
      D p.1 q.1 = p.2 + get pt.d a b + q.2

theorem src_lt {L a : Nat} (j : Nat) (ha : a < L - 1) : src L j a < L := by
  unfold src; split <;> omega

theorem src_ne_j {L a : Nat} (j : Nat) (ha : a < L - 1) : src L j a ≠ j := by
  unfold src; split <;> omega

theorem src_inj {L j a b : Nat} (ha : a < L - 1) (hb : b < L - 1) (h : src L j a = src L j b) : a = b := by
  unfold src at h; split at h <;> split at h <;> omega

theorem joinNodes_getD {nodes : List T} {L i j : Nat} {new : T} {a : Nat} (ha : a < L - 1) :
    (joinNodes nodes L i j new).getD a default
      = if src L j a = i then new else nodes.getD (src L j a) default :=
  getD_map_range_of_lt ha

theorem get_joinMat (d : Mat) (L i j a b : Nat) (ha : a < L - 1) (hb : b < L - 1) :
    get (joinMat d L i j) a b = base d i j (src L j a) (src L j b) :=
  get_tab ha hb

theorem base_sym (d : Mat) (L i j x y : Nat) (hs : Sym d L) (hx : x < L) (hy : y < L) :
    base d i j x y = base d i j y x := by
  unfold base
  by_cases hxi : x = i <;> by_cases hyi : y = i <;> simp [hxi, hyi]
  exact hs x y hx hy

theorem joinMat_sym (d : Mat) (L i j : Nat) (hs : Sym d L) : Sym (joinMat d L i j) (L - 1) := by
  intro a b ha hb
  rw [get_joinMat d L i j a b ha hb, get_joinMat d L i j b a hb ha]
  exact base_sym d L i j _ _ hs (src_lt _ ha) (src_lt _ hb)

theorem joinMat_zeroDiag (d : Mat) (L i j : Nat) (hz : ZeroDiag d L) : ZeroDiag (joinMat d L i j) (L - 1) := by
  intro a ha
  rw [get_joinMat d L i j a a ha ha]
  unfold base
  by_cases h : src L j a = i
  · rw [if_pos ⟨h, h⟩]
  · rw [if_neg fun c => h c.1, if_neg h, if_neg h]; exact hz _ (src_lt _ ha)

/-- seen from the slot of the new node the reduced matrix holds the distances `e` of the cherry's parent -/
theorem joinMat_new {d : Mat} {L i j : Nat} {ai aj : Rat} {e : Nat → Rat} (hc : Cherry d L i j ai aj e)
    (a b : Nat) (ha : a < L - 1) (hb : b < L - 1) (hx : src L j a = i) (hy : src L j b ≠ i) :
    get (joinMat d L i j) a b = e (src L j b) := by
  rw [get_joinMat d L i j a b ha hb]
  unfold base
  rw [if_neg fun h => hy h.2, if_pos hx]
  exact newDist_cherry hc _ (src_lt _ hb) hy (src_ne_j _ hb)

theorem joinMat_old (d : Mat) (L i j a b : Nat) (ha : a < L - 1) (hb : b < L - 1) (hx : src L j a ≠ i)
    (hy : src L j b ≠ i) : get (joinMat d L i j) a b = get d (src L j a) (src L j b) := by
  rw [get_joinMat d L i j a b ha hb]
  unfold base
  rw [if_neg fun h => hx h.1, if_neg hx, if_neg hy]

theorem depths_bin (l1 l2 : Rat) (t1 t2 : T) (p : Nat × Rat) (hp : p ∈ (T.bin l1 t1 l2 t2).depths) :
    (∃ p0 ∈ t1.depths, p = (p0.1, p0.2 + l1)) ∨ (∃ p0 ∈ t2.depths, p = (p0.1, p0.2 + l2)) := by
  simp only [T.depths, List.mem_append, List.mem_map] at hp
  rcases hp with ⟨p0, h0, rfl⟩ | ⟨p0, h0, rfl⟩
  · exact Or.inl ⟨p0, h0, rfl⟩
  · exact Or.inr ⟨p0, h0, rfl⟩

theorem join_inv (D : Nat → Nat → Rat) (hDs : ∀ a b, D a b = D b a) (pt : PT) (i j : Nat) (ai aj : Rat)
    (e : Nat → Rat) (hL : 2 < pt.L) (hI : Inv D pt) (hc : Cherry pt.d pt.L i j ai aj e) : Inv D (join pt i j) := by
  have hnode : ∀ a, a < pt.L - 1 → (join pt i j).nodes.getD a default
      = if src pt.L j a = i then
          T.bin ai (pt.nodes.getD i default) aj (pt.nodes.getD j default)
        else pt.nodes.getD (src pt.L j a) default := by
    intro a ha
    show (joinNodes pt.nodes pt.L i j _).getD a default = _
    rw [joinNodes_getD ha, (lens_cherry hL hI.sym hI.zd hc).1, (lens_cherry hL hI.sym hI.zd hc).2]
  have hsym : Sym (joinMat pt.d pt.L i j) (pt.L - 1) := joinMat_sym pt.d pt.L i j hI.sym
  have hnew : Real D (T.bin ai (pt.nodes.getD i default) aj (pt.nodes.getD j default)) := by
    refine ⟨hI.real i hc.hi, hI.real j hc.hj, ?_⟩
    intro p hp q hq
    rw [hI.cross i j hc.hi hc.hj hc.hij p hp q hq, hc.dij]; ring
  have hnewcross : ∀ y, y < pt.L → y ≠ i → y ≠ j →
      ∀ p ∈ (T.bin ai (pt.nodes.getD i default) aj (pt.nodes.getD j default)).depths,
      ∀ q ∈ (pt.nodes.getD y default).depths, D p.1 q.1 = p.2 + e y + q.2 := by
    intro y hy hyi hyj p hp q hq
    rcases depths_bin _ _ _ _ p hp with ⟨p0, h0, rfl⟩ | ⟨p0, h0, rfl⟩
    · show D p0.1 q.1 = p0.2 + ai + e y + q.2
      rw [hI.cross i y hc.hi hy (fun h => hyi h.symm) p0 h0 q hq, hc.di y hy hyi hyj]; ring
    · show D p0.1 q.1 = p0.2 + aj + e y + q.2
      rw [hI.cross j y hc.hj hy (fun h => hyj h.symm) p0 h0 q hq, hc.dj y hy hyi hyj]; ring
  refine ⟨hsym, joinMat_zeroDiag pt.d pt.L i j hI.zd, ?_, ?_⟩
  · intro a ha
    rw [hnode a ha]
    split
    · exact hnew
    · exact hI.real _ (src_lt _ ha)
  · intro a b ha hb hab p hp q hq
    have hxy : src pt.L j a ≠ src pt.L j b := fun h => hab (src_inj ha hb h)
    have hxL := src_lt j ha
    have hyL := src_lt j hb
    rw [hnode a ha] at hp
    rw [hnode b hb] at hq
    show _ = p.2 + get (joinMat pt.d pt.L i j) a b + q.2
    by_cases hx : src pt.L j a = i
    · have hy : src pt.L j b ≠ i := fun h => hxy (hx.trans h.symm)
      rw [if_pos hx] at hp
      rw [if_neg hy] at hq
      rw [joinMat_new hc a b ha hb hx hy]
      exact hnewcross _ hyL hy (src_ne_j j hb) p hp q hq
    · rw [if_neg hx] at hp
      by_cases hy : src pt.L j b = i
      · rw [if_pos hy] at hq
        -- seen from an old node: the same by symmetry of `D` and of the reduced matrix
        rw [hsym a b ha hb, joinMat_new hc b a hb ha hy hx, hDs,
          hnewcross _ hxL hx (src_ne_j j ha) q hq p hp]
        ring
      · rw [if_neg hy] at hq
        rw [joinMat_old pt.d pt.L i j a b ha hb hx hy]
        exact hI.cross _ _ hxL hyL hxy p hp q hq

theorem njLoop_stop (sel : PT → Nat × Nat) (k : Nat) (pt : PT) (h : pt.L ≤ 3) : njLoop sel k pt = pt := by
  cases k with
  | zero => rfl
  | succ k => exact if_pos h

theorem njLoop_succ (sel : PT → Nat × Nat) (k : Nat) (pt : PT) (h : 3 < pt.L) :
    njLoop sel (k + 1) pt = njLoop sel k (join pt (sel pt).1 (sel pt).2) :=
  if_neg (by omega)

/-- the loop one pass further: the states `njLoop sel k pt`, `k = 0, 1, …` are the successive states of the loop -/
theorem njLoop_next (sel : PT → Nat × Nat) (k : Nat) (pt : PT) :
    njLoop sel (k + 1) pt = if (njLoop sel k pt).L ≤ 3 then njLoop sel k pt
      else join (njLoop sel k pt) (sel (njLoop sel k pt)).1 (sel (njLoop sel k pt)).2 := by
  induction k generalizing pt with
  | zero => rfl
  | succ k ih =>
    by_cases h3 : pt.L ≤ 3
    · rw [njLoop_stop sel _ pt h3, njLoop_stop sel _ pt h3, if_pos h3]
    · rw [njLoop_succ sel _ pt (by omega), njLoop_succ sel k pt (by omega)]
      exact ih _

def SelCherry (sel : PT → Nat × Nat) (pt : PT) : Prop :=
  ∃ ai aj e, Cherry pt.d pt.L (sel pt).1 (sel pt).2 ai aj e

theorem njLoop_L (sel : PT → Nat × Nat) (fuel : Nat) (pt : PT) (h3 : 3 ≤ pt.L) (hf : pt.L ≤ fuel + 3) :
    (njLoop sel fuel pt).L = 3 := by
  induction fuel generalizing pt with
  | zero => exact Nat.le_antisymm hf h3
  | succ fuel ih =>
    by_cases h : pt.L ≤ 3
    · rw [njLoop_stop sel _ pt h]; exact Nat.le_antisymm h h3
    · rw [njLoop_succ sel fuel pt (Nat.lt_of_not_le h)]
      exact ih _ (Nat.le_sub_one_of_lt (Nat.lt_of_not_le h)) (Nat.sub_le_of_le_add hf)

/-- triangle inequality on the three remaining nodes (makes the `max(0.0, ·)` clamps inactive) -/
def Tri3 (d : Mat) : Prop :=
  get d 1 2 ≤ get d 0 1 + get d 0 2 ∧ get d 0 2 ≤ get d 0 1 + get d 1 2 ∧ get d 0 1 ≤ get d 0 2 + get d 1 2

theorem finalLen_vals (d : Mat) (hs : Sym d 3) (hz : ZeroDiag d 3) :
    finalLen d 0 = (get d 0 1 + get d 0 2 - get d 1 2) / 2 ∧
    finalLen d 1 = (get d 0 1 + get d 1 2 - get d 0 2) / 2 ∧
    finalLen d 2 = (get d 0 2 + get d 1 2 - get d 0 1) / 2 := by
  have z0 := hz 0 (by omega); have z1 := hz 1 (by omega); have z2 := hz 2 (by omega)
  have s10 := hs 1 0 (by omega) (by omega); have s20 := hs 2 0 (by omega) (by omega)
  have s21 := hs 2 1 (by omega) (by omega)
  refine ⟨?_, ?_, ?_⟩ <;>
  · simp only [finalLen, colSum, sumTo]
    rw [z0, z1, z2, s10, s20, s21]; ring

/-- the root realises `D`: every child does, and tips under different children are joined through the root -/
def RootReal (D : Nat → Nat → Rat) (r : Root) : Prop :=
  (∀ a, a < r.length → Real D (r.getD a default).2) ∧
  ∀ a b, a < r.length → b < r.length → a ≠ b →
    ∀ p ∈ (r.getD a default).2.depths, ∀ q ∈ (r.getD b default).2.depths,
      D p.1 q.1 = p.2 + (r.getD a default).1 + (r.getD b default).1 + q.2

theorem finalLen_add (d : Mat) (hs : Sym d 3) (hz : ZeroDiag d 3) (a b : Nat) (hab : a < b) (hb : b < 3) :
    finalLen d a + finalLen d b = get d a b := by
  obtain ⟨f0, f1, f2⟩ := finalLen_vals d hs hz
  have : (a = 0 ∧ b = 1) ∨ (a = 0 ∧ b = 2) ∨ (a = 1 ∧ b = 2) := by omega
  rcases this with ⟨rfl, rfl⟩ | ⟨rfl, rfl⟩ | ⟨rfl, rfl⟩
  · rw [f0, f1]; ring
  · rw [f0, f2]; ring
  · rw [f1, f2]; ring

theorem finalLen_nonneg (d : Mat) (hs : Sym d 3) (hz : ZeroDiag d 3) (ht : Tri3 d) (a : Nat) (ha : a < 3) :
    0 ≤ finalLen d a := by
  obtain ⟨f0, f1, f2⟩ := finalLen_vals d hs hz
  obtain ⟨t0, t1, t2⟩ := ht
  have : a = 0 ∨ a = 1 ∨ a = 2 := by omega
  rcases this with rfl | rfl | rfl
  · rw [f0]; exact div_nonneg (sub_nonneg.2 t0) zero_le_two
  · rw [f1]; exact div_nonneg (sub_nonneg.2 t1) zero_le_two
  · rw [f2]; exact div_nonneg (sub_nonneg.2 t2) zero_le_two

theorem finish_getD (pt : PT) (a : Nat) (ha : a < 3) :
    (finish pt).getD a default = (clamp0 (finalLen pt.d a), pt.nodes.getD a default) :=
  getD_map_range_of_lt ha

/-- two root children are joined by their two root branches, which add up to the matrix entry; the triangle
inequality keeps the clamps inactive -/
theorem finish_real (D : Nat → Nat → Rat) (pt : PT) (hL : pt.L = 3) (hI : Inv D pt) (ht : Tri3 pt.d) :
    RootReal D (finish pt) := by
  have hs : Sym pt.d 3 := hL ▸ hI.sym
  have hz : ZeroDiag pt.d 3 := hL ▸ hI.zd
  have hc : ∀ a, a < 3 → clamp0 (finalLen pt.d a) = finalLen pt.d a :=
    fun a ha => clamp0_of_nonneg _ (finalLen_nonneg pt.d hs hz ht a ha)
  have hadd : ∀ a b, a < 3 → b < 3 → a ≠ b → finalLen pt.d a + finalLen pt.d b = get pt.d a b := by
    intro a b ha hb hab
    rcases Nat.lt_or_gt_of_ne hab with h | h
    · exact finalLen_add pt.d hs hz a b h hb
    · rw [add_comm, hs a b ha hb]; exact finalLen_add pt.d hs hz b a h ha
  have hlen : (finish pt).length = 3 := rfl
  constructor
  · intro a ha
    rw [hlen] at ha
    rw [finish_getD pt a ha]
    exact hI.real a (by omega)
  · intro a b ha hb hab p hp q hq
    rw [hlen] at ha hb
    rw [finish_getD pt a ha] at hp ⊢
    rw [finish_getD pt b hb] at hq ⊢
    rw [hI.cross a b (by omega) (by omega) hab p hp q hq, ← hadd a b ha hb hab]
    show _ = p.2 + clamp0 (finalLen pt.d a) + clamp0 (finalLen pt.d b) + q.2
    rw [hc a ha, hc b hb]; ring

theorem star_inv (D : Nat → Nat → Rat) (n : Nat) (hDs : ∀ a b, D a b = D b a) (hDz : ∀ a, D a a = 0) :
    Inv D (star n (tab n D)) := by
  have hnode : ∀ a, a < n → (star n (tab n D)).nodes.getD a default = T.tip a :=
    fun _ ha => getD_map_range_of_lt ha
  refine ⟨?_, ?_, ?_, ?_⟩
  · intro a b (ha : a < n) (hb : b < n)
    show get (tab n D) a b = get (tab n D) b a
    rw [get_tab ha hb, get_tab hb ha, hDs]
  · intro a (ha : a < n)
    show get (tab n D) a a = 0
    rw [get_tab ha ha, hDz]
  · intro a ha
    rw [hnode a ha]; trivial
  · intro a b (ha : a < n) (hb : b < n) _ p hp q hq
    rw [hnode a ha] at hp
    rw [hnode b hb] at hq
    simp only [T.depths, List.mem_singleton] at hp hq
    subst hp; subst hq
    show D a b = 0 + get (tab n D) a b + 0
    rw [get_tab ha hb]; ring

theorem cherryB_sound (d : Mat) (L i j : Nat) (h : cherryB d L i j = true) :
    ∃ ai aj e, Cherry d L i j ai aj e := by
  unfold cherryB at h
  simp only [Bool.and_eq_true, Bool.or_eq_true, decide_eq_true_eq, List.all_eq_true, List.mem_range] at h
  obtain ⟨⟨⟨⟨⟨hij, hi⟩, hj⟩, h0i⟩, h0j⟩, hall⟩ := h
  have hrow : ∀ k, k < L → k ≠ i → k ≠ j → _ ∧ _ := fun k hk hki hkj =>
    (hall k hk).resolve_left fun h => h.elim hki hkj
  exact ⟨_, _, newDist d i j, hij, hi, hj, h0i, h0j, by ring, fun k hk hki hkj => (hrow k hk hki hkj).1,
    fun k hk hki hkj => (hrow k hk hki hkj).2⟩

theorem njCheck_sound (sel : PT → Nat × Nat) (fuel : Nat) (pt : PT) (h : njCheck sel fuel pt = true) :
    ∀ k, 3 < (njLoop sel k pt).L → SelCherry sel (njLoop sel k pt) := by
  induction fuel generalizing pt with
  | zero =>
    intro k hk
    have h3 : pt.L ≤ 3 := of_decide_eq_true h
    rw [njLoop_stop sel k pt h3] at hk; omega
  | succ fuel ih =>
    intro k hk
    by_cases h3 : pt.L ≤ 3
    · rw [njLoop_stop sel k pt h3] at hk; omega
    · unfold njCheck at h
      rw [if_neg h3, Bool.and_eq_true] at h
      cases k with
      | zero => exact cherryB_sound _ _ _ _ h.1
      | succ k =>
        rw [njLoop_succ sel k pt (by omega)] at hk ⊢
        exact ih _ h.2 k hk

theorem tri3B_sound (d : Mat) (h : tri3B d = true) : Tri3 d := by
  unfold tri3B at h
  simp only [Bool.and_eq_true, decide_eq_true_eq] at h
  exact ⟨h.1.1, h.1.2, h.2⟩

end CogentModel.NJ
