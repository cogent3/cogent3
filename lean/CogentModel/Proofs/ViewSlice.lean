import CogentModel.Proofs.ViewSliceFF
import CogentModel.Proofs.ViewSliceFR
import CogentModel.Proofs.ViewSliceRF
import CogentModel.Proofs.ViewSliceRR
/-! `getitemSlice` implements Python slicing of the displayed positions. -/
namespace CogentModel.View
open CogentModel CogentModel.PySlice

theorem remk_self (v w : View) (h : Inv v) (hw : remk v v.start v.stop v.step = .ok w) :
    elems w = elems v := by
  rw [elems_eq_rangeList v h, first, bound]
  obtain ⟨hN, ⟨hk, i0, i1, i2⟩ | ⟨hk, i0, i1, i2⟩⟩ := id h
  · rw [if_pos hk, if_pos hk]; exact remk_pos_elems v w _ _ _ h hk i0 (by omega) i2 hw
  · rw [if_neg (by omega), if_neg (by omega)]; exact remk_neg_elems v w _ _ _ h hk i2 i0 (by omega) hw

/-- the identity slice: a view displays `range(0, n)` mapped through itself -/
theorem elems_eq_map_range (v : View) :
    elems v = (rangeList 0 (len v) 1).map fun j => first v + j * v.step := by
  unfold elems rangeList
  rw [rangeLen_one, Int.sub_zero, List.map_map]
  apply List.map_congr_left
  intro i _
  simp only [Function.comp, Int.zero_add, Int.mul_one]

theorem getitemSlice_spec (fl : Flavour) (v w : View) (a b c : Option Int) (h : Inv v)
    (hc : c ≠ some 0) (hw : getitemSlice fl v a b c = .ok w) :
    elems w = (PySlice.sliceIdx (len v).toNat a b (c.getD 1)).map fun j => first v + j * v.step := by
  have hn := len_nonneg v
  have hc0 := sliceStep_ne_zero hc
  have hk0 := h.step_ne_zero
  -- an empty result is right whenever the two clamped bounds do not leave a range
  have hnil : ∀ w : View, len w = 0 →
      (0 < c.getD 1 → clampP (b.getD (len v)) (len v) ≤ clampP (a.getD 0) (len v)) →
      (c.getD 1 < 0 → clampN (a.getD (-1)) (len v) ≤ clampN (b.getD (-len v - 1)) (len v)) →
      elems w = (PySlice.sliceIdx (len v).toNat a b (c.getD 1)).map fun j => first v + j * v.step := by
    intro w hw hp hq
    rw [elems_nil_of_len w hw]
    rcases Int.lt_or_lt_of_ne hc0 with hneg | hpos
    · rw [sliceIdx_neg _ hn _ _ _ hneg, rangeList_nil_neg _ _ _ hneg (hq hneg)]; rfl
    · rw [sliceIdx_pos _ hn _ _ _ hpos, rangeList_nil_pos _ _ _ hpos (hp hpos)]; rfl
  revert w
  apply getitemSlice_cases (P := fun r => ∀ w, r = .ok w →
    elems w = (PySlice.sliceIdx (len v).toNat a b (c.getD 1)).map fun j => first v + j * v.step) fl v a b c
  · rintro rfl rfl rfl w hw
    have e1 : elems w = elems v := by
      cases fl
      · exact remk_self v w h hw
      · rw [← Except.ok.inj hw]
    rw [e1, Option.getD_none, sliceIdx_pos _ hn _ _ _ Int.one_pos, Option.getD_none, Option.getD_none,
      clampP_of_mem (Int.le_refl 0) hn, clampP_of_mem hn (Int.le_refl _)]
    exact elems_eq_map_range v
  · intro h0 w hw
    rw [← Except.ok.inj hw]
    exact hnil v h0 (fun _ => by rw [h0, clampP_zero, clampP_zero]; exact Int.le_refl _)
      (fun _ => by rw [h0, clampN_zero, clampN_zero]; exact Int.le_refl _)
  · rintro ha rfl w hw
    obtain ⟨x, rfl⟩ := Option.ne_none_iff_exists'.mp ha
    rw [← Except.ok.inj hw]
    exact hnil _ (len_zero fl v) (fun _ => Int.le_refl _) (fun _ => Int.le_refl _)
  · intro hpos hk w hw
    rw [sliceIdx_pos _ hn _ _ _ hpos]
    exact fwdFromFwd_elems fl v w _ _ _ h hk hpos hw
  · intro hpos hk w hw
    rw [sliceIdx_pos _ hn _ _ _ hpos]
    exact fwdFromRev_elems fl v w _ _ _ h (by omega) hpos hw
  · intro hneg hk w hw
    rw [sliceIdx_neg _ hn _ _ _ hneg]
    exact revFromRev_elems fl v w _ _ _ h hk hneg hw
  · intro hneg hk w hw
    rw [sliceIdx_neg _ hn _ _ _ hneg]
    exact revFromFwd_elems fl v w _ _ _ h (by omega) hneg hw
  · exact fun e => absurd e hc0

theorem slice_elems (v : View) (a b : Option Int) (c : Int) (hc : c ≠ 0) :
    PySlice.slice (elems v) a b c =
      (PySlice.sliceIdx (len v).toNat a b c).map fun j => first v + j * v.step := by
  unfold PySlice.slice
  rw [elems_length]
  apply List.map_congr_left
  intro j hj
  obtain ⟨h0, h1⟩ := sliceIdx_mem_range (len v) (len_nonneg v) a b c hc j hj
  have := elems_getElem? v j h0 h1
  rw [getElem!_def, this]

end CogentModel.View
