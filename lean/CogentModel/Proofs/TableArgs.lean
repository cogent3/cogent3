import CogentModel.Gen.C20Args
import CogentModel.Model.TableArgs
/-! # C20 — the TRANSLATED argument resolution of `Table.sorted` / `inner_join` / `joined` equals the hand model

Each generated prefix (`Gen/C20Args.lean`, rewritten from cogent3's source text on every run) is a chain of
`x ← if … then pure a else pure b` statements (`bind_ite_pure` turns them into values) followed by one closing
statement, which is quoted here as a definition of its own (`appendReversed`, `joinChecks`) and characterised once;
the values the chain computes are then compared with the hand model by the shape of the arguments, mostly by
evaluation. -/
namespace CogentModel.TableArgs
open CogentModel.Gen

theorem map_ok' {ε α β : Type} (f : α → β) (a : α) : Except.map f (Except.ok a : Except ε α) = .ok (f a) := rfl
theorem map_err' {ε α β : Type} (f : α → β) (e : ε) : Except.map f (Except.error e : Except ε α) = .error e := rfl

theorem bind_ite_pure {ε α β : Type} (p : Prop) [Decidable p] (a b : α) (k : α → Except ε β) :
    (if p then (pure a : Except ε α) else pure b) >>= k = k (if p then a else b) := by split <;> rfl

/-! ### `sorted` -/

/-- the loop body of `sorted` (`for c in reverse: if c in columns: continue; columns.append(c)`) as the
translator emits it -/
def loopStep (columns : PV) (c : String) : Except String PV := do
          if PV.isNone columns then throw "TypeError" else
          if (PV.contains columns c) then
            pure columns
          else
            let columns : PV := PV.append columns c
            pure columns

theorem loopStep_list (cols : List String) (c : String) :
    loopStep (.list cols) c = .ok (.list (if cols.contains c then cols else cols ++ [c])) := by
  by_cases h : c ∈ cols <;> simp [loopStep, PV.isNone, PV.contains, PV.append, h, pure, Except.pure]

theorem foldl_appendMissing (rev : List String) (cols : List String) :
    List.foldlM loopStep (PV.list cols) rev = .ok (PV.list (appendMissing cols rev)) := by
  induction rev generalizing cols with
  | nil => rfl
  | cons c rest ih =>
    rw [List.foldlM_cons, loopStep_list, appendMissing]
    exact ih _

/-- the statement `if reverse and not (set(columns) & set(reverse)): for c in reverse: …` as the translator emits it -/
def appendReversed (columns reverse : PV) : Except String PV :=
    (if ((PV.truthy reverse) && (!(!(List.isEmpty (setInter (PV.iter columns) (PV.iter reverse)))))) then do
      if PV.isNone reverse then throw "TypeError" else
      let columns : PV ← List.foldlM loopStep columns (PV.iter reverse)
      pure columns
    else do
      pure columns)

theorem isEmpty_setInter (a b : List String) : (setInter a b).isEmpty = !a.any (b.contains ·) := by
  rw [Bool.eq_iff_iff]
  simp [setInter]

theorem appendReversed_eq (c r : PV) :
    appendReversed c.toList r =
      .ok (.list (if r.truthy ∧ ¬ c.iter.any (r.iter.contains ·) then appendMissing c.iter r.iter else c.iter)) := by
  have hn : r.truthy = true → r.isNone = false := by cases r <;> simp [PV.truthy, PV.isNone]
  show appendReversed (.list c.iter) r = _
  generalize c.iter = cols
  unfold appendReversed
  simp only [show (PV.list cols).iter = cols from rfl, isEmpty_setInter, foldl_appendMissing, Bool.not_not]
  by_cases ht : r.truthy = true
  · by_cases ha : cols.any (r.iter.contains ·) = true
    · simp only [ht, ha]; rfl
    · simp only [ht, ha, hn ht]; rfl
  · simp only [ht]; rfl

/-- the value of `columns` after the statements that default it (to `reverse`, else to all columns) and wrap a name -/
def defaultedColumns (h : List String) (c r : PV) : PV :=
  let c := if (r != .list [] && c.isNone) then r else c
  let c := if c.isNone then .list h else c
  if c.isStr then c.single else c

theorem defaultedColumns_spec (h : List String) (c r : PV) (hr : r.isNone = false) :
    (defaultedColumns h c r).isNone = false ∧
    (defaultedColumns h c r).iter =
      match c.names? with
      | some c => c
      | none => if r ≠ .list [] then (r.names?).getD [] else h := by
  rcases c with _ | s | l | l
  case none =>
    rcases r with _ | _ | (_ | _) | (_ | _)
    case none => cases hr
    all_goals exact ⟨rfl, rfl⟩
  all_goals
    simp only [defaultedColumns, PV.isNone, Bool.and_false, Bool.false_eq_true, if_false]
    exact ⟨rfl, rfl⟩

theorem gen_sortedColumns_eq (h kw : List String) (c r : PV) :
    C20Args.sortedColumns h kw c r =
      if kw.contains "reversed" then .error "TypeError"
      else .ok (PV.list (sortArgs h c r).1, (sortArgs h c r).2) := by
  unfold C20Args.sortedColumns
  simp only [bind_ite_pure]
  change (if _ then _ else if (defaultedColumns h c _).isNone then _
    else appendReversed (PV.toList (defaultedColumns h c _)) _ >>= _) = _
  obtain ⟨h1, h2⟩ := defaultedColumns_spec h c _
    (show (if (!r.isNone) = true then r else PV.list []).isNone = false by cases r <;> rfl)
  rw [appendReversed_eq, h1, h2]
  cases r <;> rfl

/-! ### `inner_join` -/

/-- what `columns_self` / `columns_other` is after `_get_keys_` and the two `[x] if isinstance(x, str)` lines: a name
becomes a one-element list, a non-empty tuple a list, everything else is left as it is -/
def keyList : PV → PV
  | .str s => .list [s]
  | .tup (a :: l) => .list (a :: l)
  | x => x

theorem wrapStr_getKeys (x : PV) :
    (if (if x.truthy then x.getKeys else x).isStr then (if x.truthy then x.getKeys else x).single
      else if x.truthy then x.getKeys else x) = keyList x := by
  rcases x with _ | s | (_ | _) | (_ | _) <;> try rfl
  by_cases h : s = "" <;> simp [h, PV.truthy, PV.getKeys, PV.isStr, PV.single, keyList]

theorem isStr_keyList (x : PV) : (keyList x).isStr = false := by
  rcases x with _ | _ | _ | (_ | _) <;> rfl

theorem names?_keyList (x : PV) : (keyList x).names? = x.names? := by
  rcases x with _ | _ | _ | (_ | _) <;> rfl

theorem PV.none_or (y : PV) : PV.none.or y = y := rfl

theorem PV.or_self (y : PV) : y.or y = y := ite_self _

/-- the closing statements of `inner_join`'s prefix (the `None` guards, `len(columns_self) != len(columns_other)`,
`output_mask`) as the translator emits them -/
def joinChecks (otherColumns : List String) (p : PV × PV) : Except String (PV × PV × List String) := do
  if PV.isNone p.1 then throw "TypeError" else
  if PV.isNone p.2 then throw "TypeError" else
  if ((PV.len p.1) != (PV.len p.2)) then
    throw "RuntimeError"
  else
    let outputMask : List String := (List.filter (fun c => (!(PV.contains p.2 c))) otherColumns)
    pure (p.1, p.2, outputMask)

theorem joinChecks_eq (oc : List String) (a b : PV) :
    (joinChecks oc (a, b)).map (fun r => (r.1.iter, r.2.1.iter, r.2.2)) =
      if a.isNone ∨ b.isNone then .error "TypeError"
      else if a.len ≠ b.len then .error "RuntimeError"
      else .ok (a.iter, b.iter, oc.filter fun c => !b.contains c) := by
  unfold joinChecks
  cases a.isNone <;> cases b.isNone <;> try rfl
  simp only [bne_iff_ne, Bool.false_eq_true, if_false]
  split <;> rfl

theorem gen_joinKeys_eq (sc oc : List String) (si oi : Option String) (cs co : PV) (ui : Bool) :
    (C20Args.joinKeys sc oc si oi cs co ui).map (fun r => (r.1.iter, r.2.1.iter, r.2.2))
      = joinKeysH sc oc si oi cs co ui := by
  unfold C20Args.joinKeys
  simp only [bind_ite_pure, wrapStr_getKeys, isStr_keyList, Bool.false_eq_true, if_false]
  change Except.map _ (_ >>= joinChecks oc) = _
  -- from here on both sides see the arguments only through `keyList`, which is never a str
  unfold joinKeysH
  rw [← names?_keyList cs, ← names?_keyList co]
  have hx := isStr_keyList cs
  have hy := isStr_keyList co
  generalize keyList cs = x at hx ⊢
  generalize keyList co = y at hy ⊢
  -- in every case the decision evaluates to a pair of key lists, on which `joinChecks_eq` applies
  rcases x with _ | _ | l | l
  case str => cases hx
  all_goals
    rcases y with _ | _ | l' | l'
    case str => cases hy
  case none.none =>
    cases ui
    · have hf : sc.filter (fun c => (setInter sc oc).contains c) = sc.filter (oc.contains ·) :=
        List.filter_congr fun c hc => by simp [setInter, hc]
      rw [hf]
      exact joinChecks_eq oc (.list _) (.list _)
    · rcases si with _ | a
      · rfl
      rcases oi with _ | b <;> simp only [optTruthy, Bool.and_false, ← Bool.and_eq_true]
      · rfl
      · rcases Bool.eq_false_or_eq_true (a != "" && b != "") with h | h <;> simp only [h] <;> rfl
  case list.none | tup.none =>
    rcases l with _ | ⟨a, l⟩
    · rfl -- `columns_self=[]` alone: `[] or None` is `None`
    · simp only [PV.isNone, Bool.false_and, Bool.or_true, Bool.false_eq_true, if_false, if_true, pure_bind]
      exact joinChecks_eq oc _ _
  all_goals
    simp only [PV.isNone, Bool.and_false, Bool.false_and, Bool.true_or, Bool.false_or, Bool.false_eq_true, if_false,
      if_true, pure_bind, PV.none_or, PV.or_self]
    exact joinChecks_eq oc _ _

theorem gen_joinedCall_eq (cs co : PV) (ij : Bool) (p : String) :
    C20Args.joinedCall cs co ij p = joinedCallH cs co ij p := by
  cases ij
  · cases cs
    case none => cases co <;> rfl
    all_goals rfl
  · rfl

/-! ## the hand model `sortArgs` on the names of its arguments (compared with `sortColumns` of the table model in
`C20.sort_args_are_sort_columns`) -/

theorem appendMissing_eq_filter (cols rev : List String) (hn : rev.Nodup) :
    appendMissing cols rev = cols ++ rev.filter (fun c => !cols.contains c) := by
  induction rev generalizing cols with
  | nil => simp [appendMissing]
  | cons c rest ih =>
    have hc : c ∉ rest := (List.nodup_cons.1 hn).1
    have hr := (List.nodup_cons.1 hn).2
    rw [appendMissing, ih _ hr]
    by_cases h : c ∈ cols
    · simp [h]
    · simp only [List.contains_eq_mem, h, decide_false, Bool.false_eq_true, ↓reduceIte, Bool.not_false,
        List.filter_cons_of_pos, List.append_assoc, List.singleton_append, List.mem_append, List.mem_singleton]
      congr 2
      apply List.filter_congr
      intro x hx
      have : x ≠ c := fun e => hc (e ▸ hx)
      simp [this]

/-- `sortArgs` on the names of its arguments; the empty tuple is the one `reverse` that is not `[]` and has no names -/
theorem sortArgs_fst (h : List String) (c r : PV) :
    (sortArgs h c r).1 =
      let cols := match c.names? with
        | some c => c
        | none => if (r.names?).getD [] ≠ [] ∨ r = .tup [] then (r.names?).getD [] else h
      if !((r.names?).getD []).isEmpty ∧ ¬ cols.any (((r.names?).getD []).contains ·) then
        appendMissing cols ((r.names?).getD [])
      else cols := by
  rcases r with _ | _ | (_ | _) | (_ | _) <;> rfl

end CogentModel.TableArgs
