/-! `Except` as the models use it for Python exceptions: equality of results is decidable (so that test vectors
can be evaluated), and a `>>=` or a `mapM` that ends in `.ok` has been `.ok` at every step. -/
namespace CogentModel.FeatureView

instance instDecEqExcept {ε α} [DecidableEq ε] [DecidableEq α] : DecidableEq (Except ε α) := fun a b =>
  match a, b with
  | .ok x, .ok y => if h : x = y then isTrue (by rw [h]) else isFalse (by intro h'; cases h'; exact h rfl)
  | .error x, .error y => if h : x = y then isTrue (by rw [h]) else isFalse (by intro h'; cases h'; exact h rfl)
  | .ok _, .error _ => isFalse (by intro h; cases h)
  | .error _, .ok _ => isFalse (by intro h; cases h)

end CogentModel.FeatureView

namespace CogentModel

theorem bind_eq_ok {ε β γ} {x : Except ε β} {f : β → Except ε γ} {c : γ} (h : x >>= f = .ok c) :
    ∃ b, x = .ok b ∧ f b = .ok c := by
  cases x with
  | error e => cases h
  | ok b => exact ⟨b, rfl, h⟩

/-- a `mapM` that succeeds has succeeded at every element, in order -/
theorem mapM_ok_get {ε β γ} (f : β → Except ε γ) (l : List β) (r : List γ) (h : l.mapM f = .ok r) :
    r.length = l.length ∧ ∀ i (h1 : i < l.length) (h2 : i < r.length), f l[i] = .ok r[i] := by
  induction l generalizing r with
  | nil => cases h; simp
  | cons a l ih =>
    rw [List.mapM_cons] at h
    obtain ⟨b, e1, h⟩ := bind_eq_ok h
    obtain ⟨bs, e2, h⟩ := bind_eq_ok h
    cases h
    obtain ⟨hl, hg⟩ := ih bs e2
    refine ⟨by simp [hl], fun i h1 h2 => ?_⟩
    cases i with
    | zero => exact e1
    | succ i => exact hg i (by simpa using h1) (by simpa using h2)

end CogentModel
