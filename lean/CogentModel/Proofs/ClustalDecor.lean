import CogentModel.Spec.ClustalDecorated
import CogentModel.Spec.ClustalRecords
import CogentModel.Proofs.SeqFormats
/-! `ClustalParser` on decorated files (`Spec/ClustalDecorated.lean`): what the parser makes of one sequence line
(general white space, residue counts), the label dict over a file in blocks, and the parse of any such file. -/
namespace CogentModel.Clustal
open CogentModel.Splitlines CogentModel.SeqFormats CogentModel.SeqSpec CogentModel.ClustalSpec

/-- a white-space delimited word -/
def Word (w : Str) : Prop := w ≠ [] ∧ ∀ c ∈ w, isSpaceStr c = false

theorem clustalName_facts {n : Str} (h : clustalName n = true) :
    Word n ∧ (∀ c ∈ n, printable c = true) ∧ "CLUSTAL".toList.isPrefixOf n = false ∧ "MUSCLE".toList.isPrefixOf n = false := by
  simp only [clustalName, Bool.and_eq_true, Bool.not_eq_true', List.all_eq_true, bne_iff_ne, ne_eq] at h
  obtain ⟨⟨⟨hwf, hnb⟩, hc⟩, hm⟩ := h
  obtain ⟨hne, hp⟩ := wfName_chars hwf
  refine ⟨⟨hne, fun c hc' => ?_⟩, hp, hc, hm⟩
  rw [printable_space (hp c hc')]
  simpa using hnb c hc'

theorem clustalSeq_facts {s : Str} (h : clustalSeq s = true) :
    Word s ∧ (∀ c ∈ s, printable c = true) ∧ ∀ c ∈ s, isDigit c = false := by
  simp only [clustalSeq, Bool.and_eq_true, Bool.not_eq_true', List.all_eq_true, bne_iff_ne, ne_eq,
    List.isEmpty_eq_false_iff] at h
  obtain ⟨hne, hall⟩ := h
  refine ⟨⟨hne, fun c hc => ?_⟩, fun c hc => (hall c hc).1.1, fun c hc => ?_⟩
  · rw [printable_space (hall c hc).1.1]
    simpa using (hall c hc).1.2
  · have := (hall c hc).2
    simpa [isDigit] using this

theorem pyIntOk_noDigit {t : Str} (h : ∀ c ∈ t, isDigit c = false) : pyIntOk t = false := by
  unfold pyIntOk
  cases t with
  | nil => simp [signSplit]
  | cons c r =>
    simp only [signSplit]
    by_cases h1 : c = '-'
    · cases r with
      | nil => simp [h1]
      | cons d r' => simp [h1, h d (by simp)]
    · by_cases h2 : c = '+'
      · cases r with
        | nil => simp [h2]
        | cons d r' => simp [h2, h d (by simp)]
      · simp [h1, h2, h c (by simp)]

theorem isPrefixOf_sep (sep : Char) : ∀ (p name rest : Str), sep ∉ p →
    p.isPrefixOf (name ++ sep :: rest) = p.isPrefixOf name
  | [], _, _, _ => by simp
  | a :: p, [], rest, h => by
    have : a ≠ sep := by rintro rfl; exact h (by simp)
    simp [List.isPrefixOf, this]
  | a :: p, c :: name, rest, h => by
    have ih := isPrefixOf_sep sep p name rest (fun hm => h (List.mem_cons_of_mem _ hm))
    simp [List.isPrefixOf, ih]

theorem rstrip_word_end {x w : Str} (hw : Word w) : rstrip (x ++ w) = x ++ w := by
  unfold rstrip rstripBy
  rw [dropWhile_id_of_head, List.reverse_reverse]
  intro c hc
  rw [List.head?_reverse, List.getLast?_append] at hc
  cases hl : w.getLast? with
  | none => exact absurd (List.getLast?_eq_none_iff.mp hl) hw.1
  | some d =>
    rw [hl] at hc
    simp at hc
    subst hc
    exact hw.2 d (List.mem_of_getLast? hl)

theorem strip_word {w : Str} (hw : Word w) : strip w = w :=
  stripBy_of_all hw.2

theorem splitWs_ws (t : Str) : ∀ ws : Str, AllWs ws → splitWs (ws ++ t) = splitWs t
  | [], _ => rfl
  | s :: ws, h => by
    have hs : isSpaceStr s = true := h s (by simp)
    have ih := splitWs_ws t ws (fun c hc => h c (List.mem_cons_of_mem _ hc))
    rw [List.cons_append]
    cases hl : ws ++ t with
    | nil =>
      rw [hl] at ih
      simp [splitWs, hs, ← ih]
    | cons d ds =>
      rw [hl] at ih
      rw [splitWs]
      simp [hs, ih]

theorem splitWs_allWs (ws : Str) (h : AllWs ws) : splitWs ws = [] := by
  have := splitWs_ws [] ws h
  rw [List.append_nil] at this
  rw [this]; rfl

theorem splitWs_word_ws {w ws : Str} (hw : Word w) (hne : ws ≠ []) (hws : AllWs ws) (rest : Str) :
    splitWs (w ++ ws ++ rest) = w :: splitWs rest := by
  obtain ⟨s, ws', rfl⟩ := List.exists_cons_of_ne_nil hne
  rw [List.append_assoc, splitWs_word_app (fun _ h => by cases h; exact hws s List.mem_cons_self) w hw.1 hw.2,
    splitWs_ws _ _ hws]

theorem splitWs_word_end {w ws : Str} (hw : Word w) (hws : AllWs ws) : splitWs (w ++ ws) = [w] := by
  rw [splitWs_word_app (fun s h => hws s (List.mem_of_mem_head? h)) w hw.1 hw.2, splitWs_allWs ws hws]

theorem rstrip_append_ws (x : Str) {ws : Str} (h : AllWs ws) : rstrip (x ++ ws) = rstrip x := by
  unfold rstrip rstripBy
  rw [List.reverse_append, List.dropWhile_append_of_pos fun c hc => h c (List.mem_reverse.mp hc)]

theorem noSpace_header : (∀ c ∈ "CLUSTAL".toList, isSpaceStr c = false) ∧ (∀ c ∈ "MUSCLE".toList, isSpaceStr c = false) := by
  repeat rw [String.toList_ofList]
  decide +kernel

theorem isSeqLine_label_ws {n ws rest : Str} (hn : clustalName n = true) (hne : ws ≠ []) (hws : AllWs ws) :
    isSeqLine (n ++ ws ++ rest) = true := by
  obtain ⟨hw, _, hC, hM⟩ := clustalName_facts hn
  obtain ⟨a, as, rfl⟩ := List.exists_cons_of_ne_nil hw.1
  have ha := hw.2 a List.mem_cons_self
  cases ws with
  | nil => exact absurd rfl hne
  | cons s ws' =>
    have hs := hws s (by simp)
    have e : (a :: as) ++ (s :: ws') ++ rest = (a :: as) ++ s :: (ws' ++ rest) := by simp
    have n1 : s ∉ "CLUSTAL".toList := fun hm => by simpa [hs] using noSpace_header.1 s hm
    have n2 : s ∉ "MUSCLE".toList := fun hm => by simpa [hs] using noSpace_header.2 s hm
    have p1 := isPrefixOf_sep s "CLUSTAL".toList (a :: as) (ws' ++ rest) n1
    have p2 := isPrefixOf_sep s "MUSCLE".toList (a :: as) (ws' ++ rest) n2
    rw [e]
    rw [hC] at p1
    rw [hM] at p2
    simp only [List.cons_append] at p1 p2 ⊢
    simp only [isSeqLine, ha, p1, p2, Bool.not_false, Bool.and_self]

theorem lastSpace_pair {n c ws : Str} (hn : Word n) (hc : Word c) (hne : ws ≠ []) (hws : AllWs ws) :
    lastSpace (n ++ ws ++ c) = [n, c] := by
  unfold lastSpace
  rw [splitWs_word_ws hn hne hws, splitWs_word _ hc.1 hc.2]
  simp [joinSp, strip_word hn, strip_word hc]

/-- the parser's view of one sequence line of a decorated file -/
theorem seqLineOf_ok {n c l : Str} (hn : clustalName n = true) (hc : clustalSeq c = true) (h : SeqLineOf n c l) :
    isSeqLine l = true ∧ lastSpace (rstrip (deleteTrailingNumber l)) = [n, c] := by
  obtain ⟨hw, _⟩ := clustalName_facts hn
  obtain ⟨hcw, _, hd⟩ := clustalSeq_facts hc
  cases h with
  | plain ws1 ws2 h1 a1 a2 =>
    refine ⟨by rw [List.append_assoc (n ++ ws1)]; exact isSeqLine_label_ws hn h1 a1, ?_⟩
    have hs : splitWs (n ++ ws1 ++ c ++ ws2) = [n, c] := by
      rw [List.append_assoc (n ++ ws1), splitWs_word_ws hw h1 a1, splitWs_word_end hcw a2]
    have hdel : deleteTrailingNumber (n ++ ws1 ++ c ++ ws2) = n ++ ws1 ++ c ++ ws2 := by
      unfold deleteTrailingNumber
      rw [hs]
      simp [pyIntOk_noDigit hd]
    rw [hdel, rstrip_append_ws _ a2, rstrip_word_end hcw]
    exact lastSpace_pair hw hcw h1 a1
  | counted ws1 ws2 num ws3 h1 a1 h2 a2 hnum hint a3 =>
    have hnw : Word num := ⟨by intro e; subst e; simp [pyIntOk, signSplit] at hint, hnum⟩
    refine ⟨by
      rw [List.append_assoc (n ++ ws1 ++ c ++ ws2), List.append_assoc (n ++ ws1 ++ c), List.append_assoc (n ++ ws1)]
      exact isSeqLine_label_ws hn h1 a1, ?_⟩
    have hs : splitWs (n ++ ws1 ++ c ++ ws2 ++ num ++ ws3) = [n, c, num] := by
      rw [List.append_assoc (n ++ ws1 ++ c ++ ws2), List.append_assoc (n ++ ws1 ++ c), List.append_assoc (n ++ ws1),
        splitWs_word_ws hw h1 a1, ← List.append_assoc, splitWs_word_ws hcw h2 a2, splitWs_word_end hnw a3]
    have hdel : deleteTrailingNumber (n ++ ws1 ++ c ++ ws2 ++ num ++ ws3) = n ++ [' '] ++ c := by
      unfold deleteTrailingNumber
      rw [hs]
      simp [hint, joinSp]
    rw [hdel, rstrip_word_end hcw]
    exact lastSpace_pair hw hcw (by simp) (by decide)

/-- the insertion-ordered dict of `LabelLineParser` -/
abbrev Acc := List (Str × List Str)
def step (a : Acc) (p : Str × Str) : Acc := assocAppend p.1 p.2 a

/-- an entry under another key is passed over, whatever is appended behind it -/
theorem foldl_step_cons (e : Str × List Str) : ∀ (ps : List (Str × Str)) (acc : Acc), (∀ p ∈ ps, e.1 ≠ p.1) →
    ps.foldl step (e :: acc) = e :: ps.foldl step acc
  | [], _, _ => rfl
  | p :: ps, acc, h => by
    rw [List.foldl_cons, List.foldl_cons, step, assocAppend, if_neg (h p List.mem_cons_self)]
    exact foldl_step_cons e ps _ fun q hq => h q (List.mem_cons_of_mem _ hq)

theorem ne_fst_of_nodup {r : Rec} {recs : List Rec} (f : Rec → Str) (h : ((r :: recs).map Prod.fst).Nodup) :
    ∀ p ∈ recs.map (fun q => (q.1, f q)), r.1 ≠ p.1 := by
  intro p hp e
  obtain ⟨q, hq, rfl⟩ := List.mem_map.mp hp
  exact (List.nodup_cons.mp h).1 (List.mem_map.mpr ⟨q, hq, e.symm⟩)

theorem labelLineGo_cons_pair {strict : Bool} {acc : Acc} {line k v : Str} {rest : List Str}
    (h : lastSpace (rstrip line) = [k, v]) :
    labelLineGo strict acc (line :: rest) = labelLineGo strict (assocAppend k v acc) rest := by
  rw [labelLineGo, h]

/-- first block: every label is new -/
theorem fold_first (f : Rec → Str) : ∀ recs : List Rec, (recs.map Prod.fst).Nodup →
    (recs.map (fun r => (r.1, f r))).foldl step [] = recs.map (fun r => (r.1, [f r]))
  | [], _ => rfl
  | r :: recs, h => by
    simp only [List.map_cons, List.foldl_cons]
    rw [step, assocAppend, foldl_step_cons _ _ _ (ne_fst_of_nodup f h), fold_first f recs (List.nodup_cons.mp h).2]

/-- later blocks: every label exists, in the same order -/
theorem fold_later (f : Rec → Str) (g : Rec → List Str) : ∀ recs : List Rec, (recs.map Prod.fst).Nodup →
    (recs.map (fun r => (r.1, f r))).foldl step (recs.map (fun r => (r.1, g r))) = recs.map (fun r => (r.1, g r ++ [f r]))
  | [], _ => rfl
  | r :: recs, h => by
    simp only [List.map_cons, List.foldl_cons]
    rw [step, assocAppend, if_pos rfl, foldl_step_cons _ _ _ (ne_fst_of_nodup f h),
      fold_later f g recs (List.nodup_cons.mp h).2]

/-- all the blocks after the first -/
theorem fold_blocks (recs : List Rec) (hnd : (recs.map Prod.fst).Nodup) : ∀ (cs : List (Rec → Str)) (g : Rec → List Str),
    (cs.flatMap (fun c => recs.map (fun r => (r.1, c r)))).foldl step (recs.map (fun r => (r.1, g r)))
      = recs.map (fun r => (r.1, g r ++ cs.map (fun c => c r)))
  | [], g => by simp
  | c :: cs, g => by
    rw [List.flatMap_cons, List.foldl_append]
    rw [fold_later c g recs hnd, fold_blocks recs hnd cs (fun r => g r ++ [c r])]
    simp

theorem fold_all (recs : List Rec) (hnd : (recs.map Prod.fst).Nodup) (c : Rec → Str) (cs : List (Rec → Str)) :
    ((c :: cs).flatMap (fun c => recs.map (fun r => (r.1, c r)))).foldl step []
      = recs.map (fun r => (r.1, (c :: cs).map (fun c => c r))) := by
  rw [List.flatMap_cons, List.foldl_append]
  rw [fold_first c recs hnd, fold_blocks recs hnd cs (fun r => [c r])]
  simp

/-- the label dict after the sequence lines of a decorated file -/
theorem decorated_go (strict : Bool) : ∀ {ps : List (Str × Str)} {lines : List Str}, Decorated ps lines →
    (∀ p ∈ ps, clustalName p.1 = true ∧ clustalSeq p.2 = true) → ∀ acc : Acc,
    labelLineGo strict acc ((lines.filter isSeqLine).map deleteTrailingNumber) = .ok (ps.foldl step acc) := by
  intro ps lines h
  induction h with
  | nil => intro _ acc; rfl
  | deco l hl _ ih =>
    intro hp acc
    rw [List.filter_cons_of_neg (by simp [hl])]
    exact ih hp acc
  | seq p l hl _ ih =>
    intro hp acc
    obtain ⟨h1, h2⟩ := seqLineOf_ok (hp p (by simp)).1 (hp p (by simp)).2 hl
    rw [List.filter_cons_of_pos h1, List.map_cons, labelLineGo_cons_pair h2, List.foldl_cons]
    exact ih (fun q hq => hp q (List.mem_cons_of_mem _ hq)) _

/-- any decorated file parses to the insertion-ordered dict of its (label, residues) pairs, the pieces of every label
joined: labels in the order of their first line, pieces in file order -/
theorem clustalParser_pairs (strict : Bool) {ps : List (Str × Str)} {lines : List Str} (hd : Decorated ps lines)
    (hp : ∀ p ∈ ps, clustalName p.1 = true ∧ clustalSeq p.2 = true) :
    clustalParser strict lines = .ok ((ps.foldl step []).map (fun e => (e.1, e.2.flatten))) := by
  rw [clustalParser, minimalClustalParser, decorated_go strict hd hp []]
  rfl

/-- a decorated file whose sequence lines carry the blocks `c :: cs` of the records parses to the records, each
with its pieces joined in block order -/
theorem clustalParser_decorated (strict : Bool) {recs : List Rec} (hn : (recs.map Prod.fst).Nodup)
    (hl : ∀ r ∈ recs, clustalName r.1 = true) (c : Rec → Str) (cs : List (Rec → Str))
    (hc : ∀ d ∈ c :: cs, ∀ r ∈ recs, clustalSeq (d r) = true) {lines : List Str}
    (hd : Decorated ((c :: cs).flatMap (fun d => recs.map (fun r => (r.1, d r)))) lines) :
    clustalParser strict lines = .ok (recs.map (fun r => (r.1, ((c :: cs).map (fun d => d r)).flatten))) := by
  rw [clustalParser_pairs strict hd, fold_all recs hn c cs, List.map_map]
  · rfl
  · intro p hp
    obtain ⟨d, hd', hp⟩ := List.mem_flatMap.mp hp
    obtain ⟨r, hr, rfl⟩ := List.mem_map.mp hp
    exact ⟨hl r hr, hc d hd' r hr⟩

end CogentModel.Clustal
