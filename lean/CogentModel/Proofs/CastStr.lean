/-  C20 — `int(str(n)) = n` for the model's parser / printer, and restoration of numeric columns on load. -/
import CogentModel.Model.CastStr
import CogentModel.Proofs.ListFacts
namespace CogentModel.CastStr

theorem charDigit_digitChar : ∀ d, d < 10 → charDigit (digitChar d) = some d := by decide

theorem digit_not_space : ∀ d, d < 10 → isSpace (digitChar d) = false := by decide

theorem digit_ne_sign : ∀ d, d < 10 → digitChar d ≠ '-' ∧ digitChar d ≠ '+' := by decide

theorem natDigits_lt (n : Nat) : ∀ d ∈ natDigits n, d < 10 := by
  induction n using Nat.strongRecOn with
  | _ n ih =>
    rw [natDigits]
    split
    · intro d hd; simp at hd; omega
    · intro d hd
      simp only [List.mem_append, List.mem_cons, List.mem_nil_iff, or_false] at hd
      rcases hd with hd | hd
      · exact ih (n / 10) (by omega) d hd
      · omega

theorem natDigits_ne_nil (n : Nat) : natDigits n ≠ [] := by
  rw [natDigits]; split <;> simp

theorem natDigits_foldl (n : Nat) : (natDigits n).foldl (fun a d => a * 10 + d) 0 = n := by
  induction n using Nat.strongRecOn with
  | _ n ih =>
    rw [natDigits]
    split
    · simp
    · rw [List.foldl_append, ih (n / 10) (by omega)]
      simp only [List.foldl_cons, List.foldl_nil]
      omega

theorem parseBody_digits (ds : List Nat) (hd : ∀ d ∈ ds, d < 10) (acc : Nat) (prev : Bool)
    (h : ds ≠ [] ∨ prev = true) :
    parseBody (ds.map digitChar) acc prev = some (ds.foldl (fun a d => a * 10 + d) acc) := by
  induction ds generalizing acc prev with
  | nil =>
    rcases h with h | h
    · exact absurd rfl h
    · simp [parseBody, h]
  | cons d ds ih =>
    simp only [List.map_cons, parseBody, charDigit_digitChar d (hd d (by simp)), List.foldl_cons]
    exact ih (fun x hx => hd x (by simp [hx])) _ true (Or.inr rfl)

theorem parseBody_showNat (n : Nat) : parseBody (showNat n) 0 false = some n := by
  unfold showNat
  rw [parseBody_digits (natDigits n) (natDigits_lt n) 0 false (Or.inl (natDigits_ne_nil n)), natDigits_foldl]

theorem strip_noop (s : Str) (h : ∀ c ∈ s, isSpace c = false) : strip s = s :=
  strip_id (fun c hc => h c (List.mem_of_head? hc)) fun c hc => h c (List.mem_of_getLast? hc)

theorem showNat_no_space (n : Nat) : ∀ c ∈ showNat n, isSpace c = false := by
  intro c hc
  simp only [showNat, List.mem_map] at hc
  obtain ⟨d, hd, rfl⟩ := hc
  exact digit_not_space d (natDigits_lt n d hd)

theorem showNat_head (n : Nat) : ∃ d ds, d < 10 ∧ showNat n = digitChar d :: ds := by
  unfold showNat
  cases h : natDigits n with
  | nil => exact absurd h (natDigits_ne_nil n)
  | cons d ds => exact ⟨d, ds.map digitChar, natDigits_lt n d (by simp [h]), by simp⟩

/-- `int(str(z)) == z` -/
theorem parseInt_showInt (z : Int) : parseInt (showInt z) = some z := by
  unfold showInt parseInt
  by_cases hz : z < 0
  · simp only [hz, if_true]
    rw [strip_noop]
    · have hh := Int.ofNat_natAbs_of_nonpos (a := z) (by omega)
      show (Option.map (fun n => -n) (do let a ← parseBody (showNat z.natAbs) 0 false; pure (a : Int))) = some z
      rw [parseBody_showNat]
      show some (-((z.natAbs : Nat) : Int)) = some z
      rw [hh]; simp
    · intro c hc
      simp only [List.mem_cons] at hc
      rcases hc with rfl | hc
      · decide
      · exact showNat_no_space _ c hc
  · simp only [hz, if_false]
    rw [strip_noop _ (showNat_no_space _)]
    obtain ⟨d, ds, hd, e⟩ := showNat_head z.natAbs
    have := parseBody_showNat z.natAbs
    rw [e] at this ⊢
    obtain ⟨h1, h2⟩ := digit_ne_sign d hd
    split
    · rename_i heq; injection heq with heq _; exact absurd heq h1
    · rename_i heq; injection heq with heq _; exact absurd heq h2
    · have hz' : 0 ≤ z := by omega
      have hh := Int.natAbs_of_nonneg hz'
      rw [this]
      show some ((z.natAbs : Nat) : Int) = some z
      rw [hh]

/-- a column written cell by cell with `f` and parsed cell by cell with its left inverse `p` -/
theorem mapM_left_inverse {β : Type} (p : Str → Option β) (f : β → Str) (h : ∀ x, p (f x) = some x) (xs : List β) :
    (xs.map f).mapM p = some xs := by
  induction xs with
  | nil => rfl
  | cons x xs ih => simp [List.mapM_cons, h x, ih]

theorem castColumn_ints {F : Type} (parseFloat : Str → Option F) (ns : List Int) (hne : ns ≠ []) :
    castColumn parseFloat (ns.map showInt) = .ints ns := by
  unfold castColumn
  simp only [List.map_eq_nil_iff, hne, if_false, mapM_left_inverse parseInt showInt parseInt_showInt]

/-- `hrt` and `hni` are the two facts about float64 text that are trusted, not modelled: `float(repr(x)) == x`,
and `repr(x)` is never an integer literal (it always contains '.', 'e', 'inf' or 'nan') -/
theorem castColumn_floats {F : Type} (parseFloat : Str → Option F) (reprF : F → Str)
    (hrt : ∀ x, parseFloat (reprF x) = some x) (hni : ∀ x, parseInt (reprF x) = none)
    (xs : List F) (hne : xs ≠ []) :
    castColumn parseFloat (xs.map reprF) = .floats xs := by
  unfold castColumn
  have h1 : (xs.map reprF).mapM parseInt = none := by
    cases xs with
    | nil => exact absurd rfl hne
    | cons x xs => simp [List.mapM_cons, hni x]
  simp only [List.map_eq_nil_iff, hne, if_false, h1, mapM_left_inverse parseFloat reprF hrt]

end CogentModel.CastStr
