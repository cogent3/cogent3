/-
  `_gap_union` is the position-wise maximum; it dominates every input and stays well formed.
-/
import CogentModel.Proofs.GapDict
namespace CogentModel.GapMerge

theorem mem_keysUnion (a b : Gaps) (x : Int) : x ∈ keysUnion a b ↔ x ∈ keys a ∨ x ∈ keys b := by
  simp only [keysUnion, List.mem_append, List.mem_filter]
  constructor
  · rintro (h | ⟨h, _⟩)
    · exact Or.inl h
    · exact Or.inr h
  · rintro (h | h)
    · exact Or.inl h
    · by_cases ha : x ∈ keys a
      · exact Or.inl ha
      · exact Or.inr ⟨h, by simp [(dget_none_iff a x).mpr ha]⟩

theorem keysUnion_nodup (a b : Gaps) (ha : (keys a).Nodup) (hb : (keys b).Nodup) : (keysUnion a b).Nodup := by
  simp only [keysUnion]
  rw [List.nodup_append]
  refine ⟨ha, List.Pairwise.filter _ hb, ?_⟩
  intro x hx y hy hxy
  subst hxy
  exact (dget_none_iff a x).mp (Option.isNone_iff_eq_none.mp (List.mem_filter.mp hy).2) hx

theorem gl_pos_of_mem (g : Gaps) (hpos : ∀ e ∈ g, 0 < e.2) (x : Int) (h : x ∈ keys g) : 0 < gl g x := by
  cases hd : dget g x with
  | none => exact absurd h ((dget_none_iff g x).mp hd)
  | some v =>
    have := hpos _ (dget_some_mem g x v hd)
    simpa [gl, hd] using this

theorem gl_mergedGaps (a b : Gaps) (ha : ∀ e ∈ a, 0 ≤ e.2) (hb : ∀ e ∈ b, 0 ≤ e.2) (x : Int) :
    gl (mergedGaps a b) x = max (gl a x) (gl b x) := by
  unfold mergedGaps
  by_cases h1 : a = []
  · rw [if_pos h1, h1]; exact (Int.max_eq_right (gl_nonneg b hb x)).symm
  · rw [if_neg h1]
    by_cases h2 : b = []
    · rw [if_pos h2, h2]; exact (Int.max_eq_left (gl_nonneg a ha x)).symm
    · rw [if_neg h2, gl, dget_mapKeys (keysUnion a b) (fun k => max ((dget a k).getD 0) ((dget b k).getD 0))]
      by_cases hx : x ∈ keysUnion a b
      · rw [if_pos hx]; rfl
      · rw [if_neg hx, gl_of_not_mem a x fun h => hx ((mem_keysUnion a b x).mpr (Or.inl h)),
          gl_of_not_mem b x fun h => hx ((mem_keysUnion a b x).mpr (Or.inr h))]
        rfl

theorem mergedGaps_ok (a b : Gaps) (len : Int) (ha : GapsOK a len) (hb : GapsOK b len) : GapsOK (mergedGaps a b) len := by
  unfold mergedGaps
  split
  · exact hb
  · split
    · exact ha
    · refine ⟨?_, ?_, ?_⟩
      · rw [keys_mapKeys]; exact keysUnion_nodup a b ha.nodup hb.nodup
      · intro e he
        obtain ⟨k, hk, rfl⟩ := List.mem_map.mp he
        simp only
        rcases (mem_keysUnion a b k).mp hk with h | h
        · exact Int.lt_of_lt_of_le (gl_pos_of_mem a ha.pos k h) (Int.le_max_left _ _)
        · exact Int.lt_of_lt_of_le (gl_pos_of_mem b hb.pos k h) (Int.le_max_right _ _)
      · intro k hk
        rw [keys_mapKeys] at hk
        rcases (mem_keysUnion a b k).mp hk with h | h
        · exact ha.range k h
        · exact hb.range k h

theorem gapUnion_spec (len : Int) (l : List Gaps) : ∀ acc : Gaps, GapsOK acc len → (∀ g ∈ l, GapsOK g len) →
    GapsOK (gapUnion l acc) len ∧ (∀ x, gl acc x ≤ gl (gapUnion l acc) x) ∧
      (∀ g ∈ l, ∀ x, gl g x ≤ gl (gapUnion l acc) x) := by
  induction l with
  | nil => intro acc hacc _; exact ⟨hacc, fun x => Int.le_refl _, by simp⟩
  | cons g r ih =>
    intro acc hacc hl
    have hg := hl g List.mem_cons_self
    have hm := mergedGaps_ok acc g len hacc hg
    obtain ⟨h1, h2, h3⟩ := ih (mergedGaps acc g) hm (fun g' hg' => hl g' (List.mem_cons_of_mem _ hg'))
    have hgl := gl_mergedGaps acc g hacc.nonneg hg.nonneg
    rw [gapUnion]
    refine ⟨h1, fun x => ?_, fun g' hg' x => ?_⟩
    · exact Int.le_trans (hgl x ▸ Int.le_max_left _ _) (h2 x)
    · rcases List.mem_cons.mp hg' with rfl | hg''
      · exact Int.le_trans (hgl x ▸ Int.le_max_right _ _) (h2 x)
      · exact h3 g' hg'' x

end CogentModel.GapMerge
