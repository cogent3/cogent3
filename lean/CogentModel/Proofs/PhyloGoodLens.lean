import CogentModel.Proofs.PhyloBasic
/-! C09: the hypothesis on branch lengths — every edge below the root has a length in a class `P` (`GoodLens`) —
read off the nodes and off the splits; an operation that keeps the split multiset keeps it. -/
namespace CogentModel.Phylo
open PTree
variable {K : Type}

/- every non-root edge has a length satisfying `P` (think: positive) -/
mutual
def GoodLens (P : K → Prop) : PTree K → Prop
  | .node _ l cs => (∃ x, l = some x ∧ P x) ∧ GoodLensL P cs
def GoodLensL (P : K → Prop) : List (PTree K) → Prop
  | [] => True
  | c :: cs => GoodLens P c ∧ GoodLensL P cs
end

theorem goodLens_len (P : K → Prop) (t : PTree K) (h : GoodLens P t) : ∃ x, t.len = some x ∧ P x := by
  cases t with
  | node n l cs => exact h.1

theorem goodLens_children (P : K → Prop) (t : PTree K) (h : GoodLens P t) : GoodLensL P t.children := by
  cases t with
  | node n l cs => exact h.2

theorem goodLensL_iff (P : K → Prop) : ∀ (cs : List (PTree K)), GoodLensL P cs ↔ ∀ c ∈ cs, GoodLens P c
  | [] => by simp [GoodLensL]
  | c :: cs => by simp [GoodLensL, goodLensL_iff P cs]

theorem goodLensL_mem (P : K → Prop) (cs : List (PTree K)) (h : GoodLensL P cs) : ∀ c ∈ cs, GoodLens P c :=
  (goodLensL_iff P cs).1 h

/-- … in particular each of them has a length -/
theorem goodLensL_len (P : K → Prop) (cs : List (PTree K)) (h : GoodLensL P cs) : ∀ c ∈ cs, ∃ l, c.len = some l :=
  fun c hc => (goodLens_len P c (goodLensL_mem P cs h c hc)).imp fun _ hx => hx.1

/- `GoodLens` read off the splits: every edge below the root carries one split, with its length -/
mutual
theorem goodLens_iff_splits (P : K → Prop) : ∀ (t : PTree K),
    GoodLens P t ↔ ∀ s ∈ edgeSplit t :: splits t, ∃ x, s.len = some x ∧ P x
  | .node n l cs => by
    rw [GoodLens, List.forall_mem_cons, splits, goodLensL_iff_splits P cs]
    rfl
theorem goodLensL_iff_splits (P : K → Prop) : ∀ (cs : List (PTree K)),
    GoodLensL P cs ↔ ∀ s ∈ splitsL cs, ∃ x, s.len = some x ∧ P x
  | [] => ⟨fun _ _ h => (List.not_mem_nil h).elim, fun _ => trivial⟩
  | c :: cs => by
    rw [GoodLensL, splitsL, List.forall_mem_append, goodLens_iff_splits P c, goodLensL_iff_splits P cs]
end

/-- an operation that keeps the split multiset keeps the lengths in `P` -/
theorem goodLensL_of_splitsEquiv (P : K → Prop) {T : List String} {t r : PTree K}
    (h : SplitsEquiv T (splits t) (splits r)) (hg : GoodLensL P t.children) : GoodLensL P r.children := by
  rw [goodLensL_iff_splits, ← splits_eq_children] at hg ⊢
  exact (h.forall_len fun l => ∃ x, l = some x ∧ P x).1 hg

end CogentModel.Phylo
