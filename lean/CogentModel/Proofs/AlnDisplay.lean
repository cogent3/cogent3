import CogentModel.Proofs.IndelMapGetitem
import CogentModel.Proofs.AlnInv
/-! What a row displays, as a function of its gap pattern and its data (`fill`), and how that behaves under
the list operations the row operations are made of. -/
namespace CogentModel.Aln
open CogentModel.IndelMap CogentModel.Gapped List CogentModel

/-- number of residues of a gap pattern -/
def cntF (xs : List Bool) : Nat := (xs.filter (! ·)).length

theorem cntF_append (xs ys : List Bool) : cntF (xs ++ ys) = cntF xs + cntF ys := by simp [cntF]

theorem cntF_reverse (xs : List Bool) : cntF xs.reverse = cntF xs := by
  simp [cntF, filter_reverse]

theorem cntF_take_add (xs : List Bool) (i k : Nat) :
    cntF (xs.take (i + k)) = cntF (xs.take i) + cntF ((xs.drop i).take k) := by
  rw [take_add, cntF_append]

theorem cntF_take_add_drop (xs : List Bool) (i : Nat) : cntF (xs.take i) + cntF (xs.drop i) = cntF xs := by
  rw [← cntF_append, take_append_drop]

theorem cntF_take_le_all (xs : List Bool) (i : Nat) : cntF (xs.take i) ≤ cntF xs :=
  cntF_take_add_drop xs i ▸ Nat.le_add_right _ _

/-- residues in columns `S ≤ · < E` (none when `E ≤ S`) -/
theorem cntF_take_drop (xs : List Bool) (S E : Nat) :
    cntF ((xs.drop S).take (E - S)) = cntF (xs.take E) - cntF (xs.take S) := by
  by_cases h : S ≤ E
  · obtain ⟨k, rfl⟩ := Nat.exists_eq_add_of_le h
    rw [Nat.add_sub_cancel_left, cntF_take_add]; omega
  · have : cntF (xs.take E) ≤ cntF (xs.take S) := IndelMap.length_filter_take_le _ xs (by omega)
    rw [Nat.sub_eq_zero_of_le (by omega), take_zero, Nat.sub_eq_zero_of_le this]; rfl

theorem pattern_ofPatternFrom (xs : List Bool) : ∀ k, pattern (ofPatternFrom k xs) = xs :=
  IndelMap.pattern_ofPatternFrom xs

theorem seqLen_eq_cntF (g : Gapped) : seqLen g = cntF (pattern g) := by
  rw [seqLen_eq_count, cntF, count, countP_eq_length_filter]
  exact congrArg (fun p => (filter p (pattern g)).length) (funext fun b => by cases b <;> rfl)

/-- the gap pattern filled with the residues in order: a gap shows `-`, a residue column the next character
(nothing where the data has run out, as `showCol`) -/
def fill : List Bool → List Char → List Char
  | [], _ => []
  | true :: p, d => '-' :: fill p d
  | false :: p, c :: d => c :: fill p d
  | false :: p, [] => fill p []

/-- columns numbered from `j` on read the data from position `j` on -/
theorem display_eq_fill (D : List Char) : ∀ (P : List Bool) (j : Nat),
    (ofPatternFrom j P).filterMap (showCol D) = fill P (D.drop j)
  | [], _ => rfl
  | true :: p, j => congrArg ('-' :: ·) (display_eq_fill D p j)
  | false :: p, j => by
    have ih := display_eq_fill D p (j + 1)
    rw [← drop_drop, drop_one] at ih
    rw [ofPatternFrom, filterMap_cons, showCol, ← head?_drop, ih]
    cases D.drop j <;> rfl

/-- parsing a gapped string into pattern and residues and filling the pattern again gives the string back -/
theorem fill_parse : ∀ s : List Char, fill (s.map isGap) (s.filter (! isGap ·)) = s
  | [] => rfl
  | c :: r => by
    rw [map_cons, filter_cons]
    cases hc : isGap c with
    | true =>
      rw [show c = '-' from eq_of_beq hc]
      exact congrArg ('-' :: ·) (fill_parse r)
    | false => exact congrArg (c :: ·) (fill_parse r)

theorem fill_append : ∀ (P Q : List Bool) (D1 D2 : List Char), D1.length = cntF P →
    fill (P ++ Q) (D1 ++ D2) = fill P D1 ++ fill Q D2
  | [], _, [], _, _ => rfl
  | true :: p, Q, D1, D2, h => congrArg ('-' :: ·) (fill_append p Q D1 D2 h)
  | false :: p, Q, c :: d, D2, h => congrArg (c :: ·) (fill_append p Q d D2 (Nat.succ.inj h))

theorem length_fill : ∀ (P : List Bool) (D : List Char), cntF P ≤ D.length → (fill P D).length = P.length
  | [], _, _ => rfl
  | true :: p, D, h => congrArg (· + 1) (length_fill p D h)
  | false :: p, _ :: d, h => congrArg (· + 1) (length_fill p d (Nat.le_of_succ_le_succ h))

theorem fill_map (f : Char → Char) (hf : f '-' = '-') : ∀ (P : List Bool) (D : List Char),
    fill P (D.map f) = (fill P D).map f
  | [], _ => rfl
  | true :: p, D => by rw [fill, fill, map_cons, hf, fill_map f hf p D]
  | false :: p, c :: d => congrArg (f c :: ·) (fill_map f hf p d)
  | false :: p, [] => fill_map f hf p []

/-- only as many characters as the pattern has residues are read -/
theorem fill_take_data : ∀ (P : List Bool) (D : List Char), fill P (D.take (cntF P)) = fill P D
  | [], _ => rfl
  | true :: p, D => congrArg ('-' :: ·) (fill_take_data p D)
  | false :: p, c :: d => congrArg (c :: ·) (fill_take_data p d)
  | false :: _, [] => by rw [take_nil]

theorem fill_take : ∀ (P : List Bool) (D : List Char) (n : Nat), cntF P ≤ D.length →
    (fill P D).take n = fill (P.take n) D
  | _, _, 0, _ => rfl
  | [], _, _ + 1, _ => rfl
  | true :: p, D, n + 1, h => congrArg ('-' :: ·) (fill_take p D n h)
  | false :: p, c :: d, n + 1, h => congrArg (c :: ·) (fill_take p d n (Nat.le_of_succ_le_succ h))

theorem fill_drop : ∀ (P : List Bool) (D : List Char) (n : Nat), cntF P ≤ D.length →
    (fill P D).drop n = fill (P.drop n) (D.drop (cntF (P.take n)))
  | _, _, 0, _ => rfl
  | [], _, _ + 1, _ => rfl
  | true :: p, D, n + 1, h => fill_drop p D n h
  | false :: p, _ :: d, n + 1, h => fill_drop p d n (Nat.le_of_succ_le_succ h)

theorem fill_reverse : ∀ (P : List Bool) (D : List Char), D.length = cntF P →
    fill P.reverse D.reverse = (fill P D).reverse
  | [], [], _ => rfl
  | true :: p, D, h => by
    have := fill_append p.reverse [true] D.reverse [] (by rw [length_reverse, cntF_reverse]; exact h)
    rw [append_nil, fill_reverse p D h] at this
    rw [reverse_cons, this]; exact reverse_cons.symm
  | false :: p, c :: d, h => by
    have := fill_append p.reverse [false] d.reverse [c]
      (by rw [length_reverse, cntF_reverse]; exact Nat.succ.inj h)
    rw [fill_reverse p d (Nat.succ.inj h)] at this
    rw [reverse_cons, reverse_cons, this]; exact reverse_cons.symm

end CogentModel.Aln
