import CogentModel.Proofs.AlnSlice
import CogentModel.Proofs.IndelMapJoined
/-! `Aligned.__getitem__(FeatureMap)`: keeping blocks of columns of a row. -/
namespace CogentModel.Aln
open CogentModel.IndelMap CogentModel.Gapped List CogentModel

theorem segs_spec (r : Row) (h : RowWF r) : ∀ (locs : List (Int × Int)) (D : List Char),
    rowKeep.segs r locs = .ok D →
    D.length = cntF (joinedPattern (IndelMap.abs r.map) locs) ∧
    fill (joinedPattern (IndelMap.abs r.map) locs) D = denseKeep (gapped r) locs := by
  intro locs
  induction locs with
  | nil => intro D hD; simp only [rowKeep.segs] at hD; cases hD; exact ⟨rfl, rfl⟩
  | cons c rest ih =>
    intro D hD
    obtain ⟨s, e⟩ := c
    simp only [rowKeep.segs] at hD
    cases hs : getSeqIndex r.map s with
    | error er => rw [hs] at hD; cases hD
    | ok ss =>
      cases he : getSeqIndex r.map e with
      | error er => rw [hs, he] at hD; cases hD
      | ok se =>
        cases hr : rowKeep.segs r rest with
        | error er => rw [hs, he, hr] at hD; cases hD
        | ok tl =>
          rw [hs, he, hr] at hD
          cases hD
          obtain ⟨i1, i2⟩ := ih tl hr
          obtain ⟨hA, rfl⟩ := getSeqIndex_ok _ _ _ hs
          obtain ⟨hB, rfl⟩ := getSeqIndex_ok _ _ _ he
          obtain ⟨k1, k2⟩ := rowSeg_spec r h (some s) (some e) _ _ hA hB rfl rfl
          simp only [joinedPattern, flatMap_cons, denseKeep] at i1 i2 ⊢
          refine ⟨by rw [length_append, cntF_append, k1, i1], ?_⟩
          rw [fill_append _ _ _ _ k1, k2, i2]

/-- the common part of both branches of `Aligned.__getitem__(FeatureMap)` -/
theorem keep_common (r : Row) (h : RowWF r) (locs : List (Int × Int)) (im : IMap) (D : List Char)
    (hw : WF im) (habs : IndelMap.abs im = ofPattern (joinedPattern (IndelMap.abs r.map) locs))
    (hD : rowKeep.segs r locs = .ok D) :
    RowWF ⟨im, D⟩ ∧ gapped ⟨im, D⟩ = denseKeep (gapped r) locs := by
  obtain ⟨i1, i2⟩ := segs_spec r h locs D hD
  obtain ⟨g, w⟩ := (row_of_pattern hw habs).2 D
  exact ⟨w i1, g.trans i2⟩

/-- **keeping blocks of columns** (`Aligned.__getitem__(FeatureMap)` as `filtered()` /
`gapped_by_map` use it): for blocks sorted by start the row then displays the blocks of the
displayed string joined together -/
theorem rowKeep_spec (r r' : Row) (h : RowWF r) (locs : List (Int × Int)) (hsorted : sortPairs locs = locs)
    (hr : rowKeep r locs = .ok r') : RowWF r' ∧ gapped r' = denseKeep (gapped r) locs := by
  unfold rowKeep at hr
  match locs, hsorted, hr with
  | [], _, hr => simp at hr
  | [(s, e)], _, hr =>
    simp only [] at hr
    cases hg : getitem r.map (some s) (some e) none with
    | error er => rw [hg] at hr; cases hs : getSeqIndex r.map s <;> cases he : getSeqIndex r.map e <;> rw [hs, he] at hr <;> cases hr
    | ok im =>
      cases hs : getSeqIndex r.map s with
      | error er => rw [hg, hs] at hr; cases he : getSeqIndex r.map e <;> rw [he] at hr <;> cases hr
      | ok ss =>
        cases he : getSeqIndex r.map e with
        | error er => rw [hg, hs, he] at hr; cases hr
        | ok se =>
          rw [hg, hs, he] at hr
          cases hr
          obtain ⟨hw, habs⟩ := getitem_spec' r.map h.1 (some s) (some e) im hg
          have hsegs : rowKeep.segs r [(s, e)] = .ok (PySlice.slice r.data (some ss) (some se) 1 ++ []) := by
            simp only [rowKeep.segs, hs, he]
          have := keep_common r h [(s, e)] im _ hw (by
            rw [habs]; unfold Gapped.slice rebase; simp [joinedPattern]) hsegs
          simpa using this
  | c1 :: c2 :: rest, hsorted, hr =>
    simp only [] at hr
    cases hj : joinedSegments r.map (c1 :: c2 :: rest) with
    | error er => rw [hj] at hr; cases hr
    | ok im =>
      rw [hj] at hr
      simp only [] at hr
      cases hD : rowKeep.segs r (c1 :: c2 :: rest) with
      | error er => rw [hD] at hr; cases hr
      | ok D =>
        rw [hD] at hr
        cases hr
        obtain ⟨hw, habs⟩ := joined_spec' r.map h.1 _ im hj
        rw [hsorted] at habs
        exact keep_common r h _ im D hw habs hD

end CogentModel.Aln
