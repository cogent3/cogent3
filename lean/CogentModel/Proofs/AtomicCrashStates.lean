import CogentModel.Proofs.AtomicExecFrame
/-! The own-temp-dir route of `atomic_write` at every crash point.  Under `WF` the state after each phase has a closed
form (`preState`, `commitState`; `unlinkedState`, `zipTorn`, `zipDone` for the other commit strategies); the destination
is as it was up to the commit (`crash_before_commit`) and stays what the commit calls made it (`crash_committed`),
whatever the commit strategy. -/
namespace CogentModel.AtomicWrite

structure WF (c : Cfg) (fs : FS) : Prop where
  hdir : fs c.dir = some .dir
  hne : c.t ≠ c.name
  hfresh : ∀ p, under c.tmpdir p = true → fs p = none
  hdest : fs c.dest ≠ some .dir

/-- state after the constructor, `__enter__`, and writing `acc` -/
def preState (c : Cfg) (fs : FS) (acc : Data) : FS :=
  upd (upd fs c.tmpdir (some .dir)) c.tmpfile (some (.file acc))

/-- state after the commit: destination holds the new content, the temp file is gone -/
def commitState (c : Cfg) (fs : FS) : FS :=
  upd (upd (preState c fs c.newData) c.dest (some (.file c.newData))) c.tmpfile none

/-- state after `dest.unlink()` (FileNotFoundError swallowed) -/
def unlinkedState (c : Cfg) (fs : FS) : FS := upd (preState c fs c.newData) c.dest none

def zipTorn (c : Cfg) (fs : FS) (ms : List (Nat × Data)) (m : Nat) : FS :=
  upd (preState c fs c.newData) c.dest (some (.archive (ms ++ [(m, c.newData)]) true))
def zipDone (c : Cfg) (fs : FS) (ms : List (Nat × Data)) (m : Nat) : FS :=
  upd (zipTorn c fs ms m) c.dest (some (.archive (ms ++ [(m, c.newData)]) false))

theorem pre_eq (c : Cfg) :
    pre c = ⟨.mkdir c.tmpdir, .ctor⟩ :: ⟨.openW c.tmpfile, .enter⟩ :: (writes c c.chunks ++ [closeInstr c]) := rfl

theorem pre_length (c : Cfg) : (pre c).length = c.chunks.length + 3 := by
  simp [pre, writes]

theorem writes_length (c : Cfg) (cs : List Data) : (writes c cs).length = cs.length := List.length_map _

theorem program_eq (c : Cfg) : program c = ⟨.mkdir c.tmpdir, .ctor⟩ :: ⟨.openW c.tmpfile, .enter⟩ ::
    (writes c c.chunks ++ closeInstr c :: post c) := by
  simp [program, pre]

theorem program_length_replace (c : Cfg) (hz : c.zipMember = none) (hc : c.commit = .replace) :
    (program c).length = (pre c).length + 2 := by
  rw [program, List.length_append, post, commitInstrs, hz, hc]; rfl

theorem run_mkdir (c : Cfg) (fs : FS) (h : WF c fs) :
    runInstr fs ⟨.mkdir c.tmpdir, .ctor⟩ = .ok (upd fs c.tmpdir (some .dir)) := by
  simp [runInstr, step, h.hfresh _ (under_self _), isDir, h.hdir]

theorem exec_pre (c : Cfg) (fs : FS) (h : WF c fs) :
    exec fs (pre c) = (preState c fs c.newData, none) := by
  rw [pre_eq, exec_cons_ok _ _ _ _ (run_mkdir c fs h)]
  exact exec_preTmp c _ (upd_same _ _ _)
    (by rw [upd_other _ _ _ _ (tmpfile_ne_tmpdir c)]; exact h.hfresh _ (under_tmpdir_tmpfile c))

section post
variable (c : Cfg) (fs : FS) (h : WF c fs)
include h

omit h in
theorem preState_other (acc) (p : Path) (hu : under c.tmpdir p = false) : preState c fs acc p = fs p := by
  have ⟨a, b⟩ := ne_tmp_of_not_under c p hu
  rw [preState, upd_other _ _ _ _ b, upd_other _ _ _ _ a]
theorem preState_dest (acc) : preState c fs acc c.dest = fs c.dest :=
  preState_other c fs acc _ (not_under_tmpdir_dest c h.hne)
theorem preState_dir (acc) : preState c fs acc c.dir = some .dir :=
  (preState_other c fs acc _ (not_under_tmpdir_dir c)).trans h.hdir
omit h in
theorem preState_tmpdir (acc) : preState c fs acc c.tmpdir = some .dir := by
  simp [preState, upd, (tmpfile_ne_tmpdir c).symm]
omit h in
theorem preState_tmpfile (acc) : preState c fs acc c.tmpfile = some (.file acc) := by
  simp [preState]

theorem run_rename_pre :
    runInstr (preState c fs c.newData) ⟨.rename c.tmpfile c.dest, .commitRename⟩ = .ok (commitState c fs) :=
  run_rename c _ _ (preState_tmpfile c fs _) (preState_dir c fs h _) (by rw [preState_dest c fs h]; exact h.hdest)

theorem commitState_tmpdir : commitState c fs c.tmpdir = some .dir := by
  simp [commitState, upd, (tmpfile_ne_tmpdir c).symm, tmpdir_ne_dest c h.hne, preState_tmpdir c fs]

omit h in
theorem commitState_dest : commitState c fs c.dest = some (.file c.newData) := by
  simp [commitState, upd, (tmpfile_ne_dest c).symm]

end post

section replace
variable (c : Cfg) (fs : FS) (h : WF c fs) (hz : c.zipMember = none) (hc : c.commit = .replace)
include h hz hc

omit h in
theorem post_replace : post c = [⟨.rename c.tmpfile c.dest, .commitRename⟩, ⟨.rmtree c.tmpdir, .cleanup⟩] := by
  simp [post, commitInstrs, hz, hc]

theorem exec_program_replace :
    exec fs (program c) = ((fun q => if under c.tmpdir q then none else commitState c fs q), none) := by
  rw [program, exec_append_ok _ _ _ _ (exec_pre c fs h), post_replace c hz hc,
    exec_cons_ok _ _ _ _ (run_rename_pre c fs h), exec_cons_ok _ _ _ _ (run_rmtree c _ (commitState_tmpdir c fs h))]
  rfl

end replace

theorem pre_frame_dest (c : Cfg) (hne : c.t ≠ c.name) : ∀ i ∈ pre c, writesTo i.call c.dest = false := by
  intro i hi
  rw [pre_eq] at hi
  rcases List.mem_cons.mp hi with rfl | hi
  · simp [writesTo, (tmpdir_ne_dest c hne).symm]
  · exact tmpCalls_frame c _ _ (tmpfile_ne_dest c).symm i hi

theorem program_frame (c : Cfg) (p : Path) (hp : p ≠ c.dest) (hu : under c.tmpdir p = false) :
    ∀ i ∈ program c, writesTo i.call p = false := by
  intro i hi
  have ⟨a, b⟩ := ne_tmp_of_not_under c p hu
  rw [program, List.mem_append, pre_eq, List.mem_cons] at hi
  rcases hi with (rfl | hi) | hi
  · simp [writesTo, a]
  · exact tmpCalls_frame c _ p b i hi
  · simp only [post, commitInstrs, List.mem_append, List.mem_cons, List.not_mem_nil, or_false] at hi
    rcases hi with hi | rfl
    · cases hz : c.zipMember with
      | some m => simp only [hz, List.mem_cons, List.not_mem_nil, or_false] at hi; rcases hi with rfl | rfl <;> simp [writesTo, hp]
      | none =>
        cases hc : c.commit <;> simp only [hz, hc, List.mem_cons, List.not_mem_nil, or_false] at hi
        · rcases hi with rfl | rfl <;> simp [writesTo, hp, b]
        · rcases hi with rfl; simp [writesTo, hp, b]
    · simp [writesTo, hu]

theorem crash_others_unchanged (c : Cfg) (fs : FS) (k : Nat) (p : Path) (hp : p ≠ c.dest)
    (hu : under c.tmpdir p = false) : crashState c fs k p = fs p :=
  exec_frame _ _ _ (fun i hi => program_frame c p hp hu i (List.mem_of_mem_take hi))

theorem crash_before_commit (c : Cfg) (fs : FS) (hne : c.t ≠ c.name) (k : Nat) (hk : k ≤ (pre c).length) :
    crashState c fs k c.dest = fs c.dest := by
  unfold crashState program
  rw [List.take_append_of_le_length hk]
  exact exec_frame _ _ _ (fun i hi => pre_frame_dest c hne i (List.mem_of_mem_take hi))

theorem crash_after_pre (c : Cfg) (fs : FS) (h : WF c fs) (k : Nat) (hk : (pre c).length ≤ k) :
    crashState c fs k = (exec (preState c fs c.newData) ((post c).take (k - (pre c).length))).1 := by
  unfold crashState program
  rw [List.take_append, List.take_of_length_le hk, exec_append_ok _ _ _ _ (exec_pre c fs h)]

theorem crash_after_first (c : Cfg) (fs : FS) (h : WF c fs) (i : Instr) (rest : List Instr) (hp : post c = i :: rest)
    (S : FS) (hr : runInstr (preState c fs c.newData) i = .ok S) : crashState c fs ((pre c).length + 1) = S := by
  rw [crash_after_pre c fs h _ (Nat.le_add_right _ _), hp, Nat.add_sub_cancel_left, List.take_succ_cons, List.take_zero,
    exec_cons_ok _ _ _ _ hr]
  rfl

/-- the final rmtree does not touch the destination: once the commit calls `l` have run, the destination stays what
they made it -/
theorem crash_committed (c : Cfg) (fs : FS) (h : WF c fs) (l : List Instr)
    (hl : post c = l ++ [⟨.rmtree c.tmpdir, .cleanup⟩]) (S : FS) (hS : exec (preState c fs c.newData) l = (S, none))
    (k : Nat) (hk : (pre c).length + l.length ≤ k) : crashState c fs k c.dest = S c.dest := by
  obtain ⟨j, rfl⟩ := Nat.exists_eq_add_of_le hk
  rw [crash_after_pre c fs h _ (by omega), Nat.add_assoc, Nat.add_sub_cancel_left, hl, List.take_length_add_append,
    exec_append_ok _ _ _ _ hS]
  refine exec_frame _ _ _ (fun i hi => ?_)
  obtain rfl : i = ⟨.rmtree c.tmpdir, .cleanup⟩ := by simpa using List.mem_of_mem_take hi
  exact not_under_tmpdir_dest c h.hne

theorem crash_replace_after (c : Cfg) (fs : FS) (h : WF c fs) (hz : c.zipMember = none)
    (hc : c.commit = .replace) (k : Nat) (hk : (pre c).length < k) :
    crashState c fs k c.dest = some (.file c.newData) := by
  rw [crash_committed c fs h [⟨.rename c.tmpfile c.dest, .commitRename⟩] (post_replace c hz hc) _
    (exec_cons_ok _ _ _ _ (run_rename_pre c fs h)) k hk]
  exact commitState_dest c fs

theorem crash_zero (c : Cfg) (fs : FS) : crashState c fs 0 = fs := by simp [crashState, exec]

theorem crash_tmpdir_pre (c : Cfg) (fs : FS) (h : WF c fs) (k : Nat) (hk1 : 1 ≤ k) (hk : k ≤ (pre c).length) :
    crashState c fs k c.tmpdir = some .dir := by
  unfold crashState program
  rw [List.take_append_of_le_length hk]
  obtain ⟨j, rfl⟩ : ∃ j, k = j + 1 := ⟨k - 1, by omega⟩
  rw [pre_eq, List.take_succ_cons, exec_cons_ok _ _ _ _ (run_mkdir c fs h),
    exec_frame _ _ _ (fun i hi => tmpCalls_frame c _ _ (tmpfile_ne_tmpdir c).symm i (List.mem_of_mem_take hi))]
  exact upd_same _ _ _

/-! ### unlink-then-rename: `_close_rename_standard` before 3deaff175, kept to name a regression -/
section unlinkRename
variable (c : Cfg) (fs : FS) (h : WF c fs) (hz : c.zipMember = none) (hc : c.commit = .unlinkRename)
include h hz hc

omit h in
theorem post_unlinkRename : post c = [⟨.unlink c.dest, .commitUnlink⟩, ⟨.rename c.tmpfile c.dest, .commitRename⟩,
    ⟨.rmtree c.tmpdir, .cleanup⟩] := by
  simp [post, commitInstrs, hz, hc]

omit hz hc in
theorem run_unlink : runInstr (preState c fs c.newData) ⟨.unlink c.dest, .commitUnlink⟩ = .ok (unlinkedState c fs) := by
  have e := preState_dest c fs h c.newData
  cases hd : fs c.dest with
  | none =>
    simp only [runInstr, step, e, hd]
    simp only [and_self, if_true, unlinkedState]
    congr 1; funext q; by_cases hq : q = c.dest <;> simp [upd, hq, e, hd]
  | some n =>
    cases n with
    | dir => exact absurd hd h.hdest
    | file d => simp [runInstr, step, e, hd, unlinkedState]
    | archive ms t => simp [runInstr, step, e, hd, unlinkedState]

omit hz hc in
theorem run_rename_unlinked :
    runInstr (unlinkedState c fs) ⟨.rename c.tmpfile c.dest, .commitRename⟩ = .ok (commitState c fs) := by
  rw [run_rename c _ c.newData (by rw [unlinkedState, upd_other _ _ _ _ (tmpfile_ne_dest c), preState_tmpfile])
    (by rw [unlinkedState, upd_other _ _ _ _ (dir_ne_dest c), preState_dir c fs h]) (by simp [unlinkedState]),
    unlinkedState, upd_idem]
  rfl

theorem crash_unlinkRename_after (k : Nat) (hk : (pre c).length + 1 < k) :
    crashState c fs k c.dest = some (.file c.newData) := by
  rw [crash_committed c fs h [⟨.unlink c.dest, .commitUnlink⟩, ⟨.rename c.tmpfile c.dest, .commitRename⟩]
    (post_unlinkRename c hz hc) (commitState c fs)
    (by rw [exec_cons_ok _ _ _ _ (run_unlink c fs h), exec_cons_ok _ _ _ _ (run_rename_unlinked c fs h)]; rfl) k hk]
  exact commitState_dest c fs

end unlinkRename

section zip
variable (c : Cfg) (fs : FS) (h : WF c fs) (m : Nat) (hz : c.zipMember = some m)
  (ms : List (Nat × Data)) (hold : fs c.dest = some (.archive ms false))
include h hz hold

omit h hold in
theorem post_zip : post c = [⟨.zipData c.dest m c.tmpfile, .zipData⟩, ⟨.zipDir c.dest, .zipDir⟩,
    ⟨.rmtree c.tmpdir, .cleanup⟩] := by
  simp [post, commitInstrs, hz]

omit hz in
theorem run_zipData : runInstr (preState c fs c.newData) ⟨.zipData c.dest m c.tmpfile, .zipData⟩
    = .ok (zipTorn c fs ms m) := by
  simp [runInstr, step, preState_tmpfile, preState_dest c fs h, hold, zipTorn]

omit h hz hold in
theorem run_zipDir : runInstr (zipTorn c fs ms m) ⟨.zipDir c.dest, .zipDir⟩ = .ok (zipDone c fs ms m) := by
  simp [runInstr, step, zipTorn, zipDone]

/-- between appending the member data and writing the new central directory the archive is unreadable -/
theorem zip_torn_window : readable (crashState c fs ((pre c).length + 1) c.dest) = none := by
  rw [crash_after_first c fs h _ _ (post_zip c m hz) _ (run_zipData c fs h m ms hold)]
  simp [zipTorn, readable]

theorem zip_after (k : Nat) (hk : (pre c).length + 1 < k) :
    readable (crashState c fs k c.dest) = some (ms ++ [(m, c.newData)]) := by
  rw [crash_committed c fs h [⟨.zipData c.dest m c.tmpfile, .zipData⟩, ⟨.zipDir c.dest, .zipDir⟩]
    (post_zip c m hz) (zipDone c fs ms m)
    (by rw [exec_cons_ok _ _ _ _ (run_zipData c fs h m ms hold), exec_cons_ok _ _ _ _ (run_zipDir c fs m ms)]; rfl) k hk]
  simp [zipDone, readable]
end zip

end CogentModel.AtomicWrite
