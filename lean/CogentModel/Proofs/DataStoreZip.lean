/-
  Every file entry of a zipped store is `<dir>/<plain name>`.  On such names the pathlib-style functions of the zip model
  (`pathName`, `parentName`, `globMatch`) have closed forms, so a listing (`iterMatches`) of the archive `zipNames` is evaluated
  directory by directory (`iterMatches_zipNames`).
-/
import CogentModel.Model.DataStoreZip
namespace CogentModel.C13
open CogentModel CogentModel.KV CogentModel.DataStore CogentModel.DataStoreZip

abbrev plainName (n : Str) : Prop := n ≠ [] ∧ ∀ c ∈ n, c ≠ '/'

theorem pathName_join (x n : Str) (hn : plainName n) : pathName (x ++ '/' :: n) = n := by
  unfold pathName
  have : (x ++ '/' :: n).reverse = n.reverse ++ '/' :: x.reverse := by simp
  rw [this, List.takeWhile_append_of_pos fun c hc => ?_, List.takeWhile_cons_of_neg (by simp), List.append_nil,
    List.reverse_reverse]
  simpa using hn.2 c (List.mem_reverse.mp hc)

theorem stripSlash_join (x n : Str) (hn : plainName n) : stripSlash (x ++ '/' :: n) = x ++ '/' :: n := by
  unfold stripSlash
  obtain ⟨hne, hs⟩ := hn
  have hl : (x ++ '/' :: n).getLast? = n.getLast? := by
    cases n with
    | nil => exact absurd rfl hne
    | cons a t =>
      rw [show x ++ '/' :: a :: t = (x ++ ['/']) ++ (a :: t) by simp, List.getLast?_append]
      cases h : (a :: t).getLast? with
      | none => simp at h
      | some v => simp
  rw [hl]
  have : n.getLast? ≠ some '/' := by
    intro h
    exact hs '/' (List.mem_of_getLast? h) rfl
  simp [this]

theorem parentName_join (x n : Str) (hn : plainName n) : parentName (x ++ '/' :: n) = pathName x := by
  unfold parentName
  rw [stripSlash_join x n hn]
  have : (x ++ '/' :: n).reverse = n.reverse ++ '/' :: x.reverse := by simp
  rw [this, List.dropWhile_append_of_pos fun c hc => ?_, List.dropWhile_cons_of_neg (by simp)]
  · simp
  · simpa using hn.2 c (List.mem_reverse.mp hc)

theorem pathName_plain (n : Str) (hn : ∀ c ∈ n, c ≠ '/') : pathName n = n := by
  unfold pathName
  have h := List.takeWhile_append_of_pos (p := (· != '/')) (l₁ := n.reverse) (l₂ := [])
    (by intro c hc; simp at hc; simpa using hn c hc)
  rw [List.append_nil] at h
  rw [h]
  simp

variable {D : Type}

/-- the directory is one a store produces: plain file names, no dot-files among the records, and the
    zip's top directory is not named like one of the store's sub-directories -/
structure ZipOk (top : Str) (s : Dir D) : Prop where
  top_plain : plainName top
  top_nc : top ≠ sNotCompleted
  top_logs : top ≠ sLogs
  top_md5 : top ≠ sMd5
  root : ∀ n ∈ keys s.root, plainName n ∧ startsWith n ['.'] = false
  nc : ∀ n ∈ keys s.nc, plainName n ∧ startsWith n ['.'] = false
  logs : ∀ n ∈ keys s.logs, plainName n ∧ startsWith n ['.'] = false
  md5 : ∀ n ∈ keys s.md5, plainName n

theorem plain_nc : plainName sNotCompleted := by
  refine ⟨by decide, ?_⟩; intro c hc; revert c; decide
theorem plain_logs : plainName sLogs := by
  refine ⟨by decide, ?_⟩; intro c hc; revert c; decide
theorem plain_md5 : plainName sMd5 := by
  refine ⟨by decide, ?_⟩; intro c hc; revert c; decide

theorem glob_star (rest x n : Str) (hn : plainName n) :
    globMatch ('*' :: rest) (x ++ '/' :: n) = endsWith n rest := by
  simp only [globMatch, stripSlash_join x n hn, pathName_join x n hn]
  have : n.isEmpty = false := by cases n with | nil => exact absurd rfl hn.1 | cons _ _ => rfl
  simp [this]

/-- the files of one directory of the archive (`<dir>/<n>`, `n` a plain name): the parent test looks at `dir`, the
    pattern and the dot-file test at `n` -/
theorem iterMatches_join (sub rest dir : Str) (l : List Str) (hl : ∀ n ∈ l, plainName n) :
    iterMatches sub ('*' :: rest) (l.map fun n => dir ++ '/' :: n) =
      if sub.isEmpty || pathName dir == sub then
        (l.filter fun n => endsWith n rest && !startsWith n ['.']).map fun n => dir ++ '/' :: n
      else [] := by
  unfold iterMatches
  rw [List.filter_map]
  split
  · rename_i hc
    congr 1
    refine List.filter_congr fun n hn => ?_
    simp only [Function.comp, parentName_join dir n (hl n hn), glob_star rest dir n (hl n hn),
      stripSlash_join dir n (hl n hn), pathName_join dir n (hl n hn), hc, Bool.true_and]
  · rename_i hc
    rw [List.map_eq_nil_iff, List.filter_eq_nil_iff]
    intro n hn
    simp only [Function.comp, parentName_join dir n (hl n hn), Bool.not_eq_true _ ▸ hc, Bool.false_and,
      Bool.false_eq_true, not_false_eq_true]

theorem iterMatches_append (sub pat : Str) (a b : List Str) :
    iterMatches sub pat (a ++ b) = iterMatches sub pat a ++ iterMatches sub pat b := List.filter_append ..

theorem iterMatches_ite (sub pat : Str) (c : Bool) (l : List Str) :
    iterMatches sub pat (if c then l else []) = if c then iterMatches sub pat l else [] := by
  cases c <;> rfl

/-- the member id of an entry is its last component -/
theorem map_last_join (dir : Str) (l : List Str) (hl : ∀ n ∈ l, plainName n) {α : Type} (g : Str → α) :
    (l.map fun n => dir ++ '/' :: n).map (fun e => g (pathName (stripSlash e))) = l.map g := by
  rw [List.map_map]
  refine List.map_congr_left fun n hn => ?_
  simp only [Function.comp, stripSlash_join dir n (hl n hn), pathName_join dir n (hl n hn)]

/-- the matches of a `*<rest>` pattern in the archive of a store, directory by directory -/
theorem iterMatches_zipNames (sub rest top : Str) (s : Dir D) (ok : ZipOk top s) :
    iterMatches sub ('*' :: rest) (zipNames top s) =
      (if sub.isEmpty || top == sub then
        ((keys s.root).filter fun n => endsWith n rest && !startsWith n ['.']).map fun n => top ++ '/' :: n
       else []) ++
      (if s.ncDir then
        if sub.isEmpty || sNotCompleted == sub then
          ((keys s.nc).filter fun n => endsWith n rest && !startsWith n ['.']).map
            fun n => top ++ '/' :: sNotCompleted ++ '/' :: n
        else []
       else []) ++
      (if s.logsDir then
        if sub.isEmpty || sLogs == sub then
          ((keys s.logs).filter fun n => endsWith n rest && !startsWith n ['.']).map fun n => top ++ '/' :: sLogs ++ '/' :: n
        else []
       else []) ++
      (if sub.isEmpty || sMd5 == sub then
        ((keys s.md5).filter fun n => endsWith n rest && !startsWith n ['.']).map fun n => top ++ '/' :: sMd5 ++ '/' :: n
       else []) := by
  obtain ⟨ht, -, -, -, hr, hnc, hlg, hm5⟩ := ok
  unfold zipNames
  simp only [iterMatches_append, iterMatches_ite,
    iterMatches_join _ _ _ _ (fun n hn => (hr n hn).1), iterMatches_join _ _ _ _ (fun n hn => (hnc n hn).1),
    iterMatches_join _ _ _ _ (fun n hn => (hlg n hn).1), iterMatches_join _ _ _ _ hm5,
    pathName_plain top ht.2, pathName_join top _ plain_nc, pathName_join top _ plain_logs, pathName_join top _ plain_md5]

/-- the parent test of `zCompletedTop` keeps the entries of one directory of the archive or none of them -/
theorem filter_parent_join (x dir : Str) (l : List Str) (hl : ∀ n ∈ l, plainName n) :
    (l.map fun n => dir ++ '/' :: n).filter (fun e => parentName e == x) =
      if pathName dir == x then l.map (fun n => dir ++ '/' :: n) else [] := by
  split
  · rename_i hc
    refine List.filter_eq_self.mpr fun e he => ?_
    obtain ⟨n, hn, rfl⟩ := List.mem_map.mp he
    rw [parentName_join dir n (hl n hn), hc]
  · rename_i hc
    refine List.filter_eq_nil_iff.mpr fun e he => ?_
    obtain ⟨n, hn, rfl⟩ := List.mem_map.mp he
    rw [parentName_join dir n (hl n hn)]; exact hc

theorem filter_ite_nil {α : Type} (p : α → Bool) (c : Bool) (l : List α) :
    (if c then l else []).filter p = if c then l.filter p else [] := by
  cases c <;> rfl

end CogentModel.C13
