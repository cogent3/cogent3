import CogentModel.Model.View
import CogentModel.Model.FeatureView
import CogentModel.Proofs.PyRange
/-! The coordinates of a view, for any stride: `viewPosAny v i` is the position shown at index `i`;
`absolute_position` returns it (`absolutePosition_viewPos`), `relative_position` rounds a position up to the next index
(`ceilDiv`, `relativePosition_ceil`; `relIdx` is what `get_features` makes of it, `relCoord_ceil`), the window of `get_features` runs between two shown positions
(`queryWindow_nonneg`).  On a |step| = 1 view satisfying C01's invariant (`UnitView`) these are offsets from `segStart`. -/
namespace CogentModel.FeatureView
open CogentModel.View

theorem fdiv_neg_one (x : Int) : Int.fdiv x (-1) = -x := by
  rw [Int.fdiv_eq_ediv]
  have : (-1 : Int) ∣ x := ⟨-x, by omega⟩
  simp [this]

/-- absolute plus-strand start of the parent segment a |step| = 1 view retains -/
def segStart (v : View) : Int :=
  if v.step < 0 then v.offset + v.stop + v.seqLen + 1 else v.offset + v.start

/-- a view as C01's invariant describes it, with unit stride -/
def UnitView (v : View) : Prop := Inv v ∧ (v.step = 1 ∨ v.step = -1)

instance (v : View) : Decidable (UnitView v) := by unfold UnitView; infer_instance

theorem len_unit (v : View) (h : UnitView v) :
    len v = if v.step < 0 then v.start - v.stop else v.stop - v.start := by
  obtain ⟨⟨_, hinv⟩, hs⟩ := h
  unfold len pyabs
  rcases hs with hs | hs <;> rw [hs] at hinv ⊢
  · rw [Int.fdiv_one]; split <;> split <;> omega
  · rw [fdiv_neg_one]; split <;> split <;> omega

/-- the two shapes of a unit-stride record, with its retained segment in absolute coordinates -/
theorem unit_cases (v : View) (h : UnitView v) :
    (v.step = 1 ∧ segStart v = v.offset + v.start ∧ len v = v.stop - v.start ∧
      0 ≤ v.start ∧ v.start ≤ v.stop ∧ v.stop ≤ v.seqLen) ∨
    (v.step = -1 ∧ segStart v = v.offset + v.stop + v.seqLen + 1 ∧ len v = v.start - v.stop ∧
      -v.seqLen - 1 ≤ v.stop ∧ v.stop ≤ v.start ∧ v.start ≤ -1) := by
  have hlen := len_unit v h
  obtain ⟨⟨_, hinv⟩, hs | hs⟩ := h <;> rw [hs] at hinv hlen
  · exact .inl ⟨hs, by rw [segStart, hs]; rfl, hlen, by omega, by omega, by omega⟩
  · exact .inr ⟨hs, by rw [segStart, hs]; rfl, hlen, by omega, by omega, by omega⟩

theorem segStart_nonneg (v : View) (h : UnitView v) (hoff : 0 ≤ v.offset) : 0 ≤ segStart v := by
  rcases unit_cases v h with ⟨-, hg, -, _, _⟩ | ⟨-, hg, -, _, _⟩ <;> omega

theorem parentStart_unit (v : View) (h : UnitView v) : parentStart v = .ok (segStart v) := by
  unfold parentStart
  rcases unit_cases v h with ⟨hs, hg, -, -, -⟩ | ⟨hs, hg, hn, h1, h2⟩ <;> rw [hs, hg]
  · rfl
  · rw [if_pos (by decide), if_pos (by omega)]; congr 1; omega

/-- an index `0 ≤ i < len` (or the end boundary) passes every guard of `_get_index`; the parent index is
`start + i * step` whatever the sign of the step -/
theorem getIndex_nonneg (v : View) (i : Int) (b : Bool) (hl : 0 < len v) (h0 : 0 ≤ i)
    (h1 : i < len v ∨ (i = len v ∧ b = true)) :
    ∃ y k, getIndex v i b = .ok (v.start + i * v.step, y, k) := by
  unfold getIndex
  have g1 : ¬ (i > 0 ∧ b = true ∧ i > len v) := by omega
  have g2 : ¬ (i > 0 ∧ ¬ b = true ∧ i ≥ len v) := by
    rcases h1 with h | h
    · omega
    · exact fun g => g.2.1 h.2
  simp only [if_neg (Int.ne_of_gt hl), if_neg g1, if_neg g2, Int.not_lt.mpr h0, false_and, if_false, ge_iff_le, h0,
    if_true]
  split <;> exact ⟨_, _, rfl⟩

/-- what `relative_position` makes of `tmp = abs_index - offset` and the stride: `tmp // k`, plus one unless `k`
divides `tmp` -/
def ceilDiv (x k : Int) : Int := if Int.fmod x k = 0 then Int.fdiv x k else Int.fdiv x k + 1

/-- the ceiling as `relative_position` spells it (after `len` and `len(range(..))`) -/
theorem isCeil_ceilDiv (x k : Int) (hk : 0 < k) : PySlice.IsCeil x k (ceilDiv x k) := by
  have h1 : Int.fdiv x k = x / k := Int.fdiv_eq_ediv_of_nonneg x (by omega)
  have h2 : Int.fmod x k = x % k := Int.fmod_eq_emod_of_nonneg x (by omega)
  have h3 := Int.mul_ediv_add_emod x k
  have h4 := Int.emod_nonneg x (show k ≠ 0 by omega)
  have h5 := Int.emod_lt_of_pos x hk
  unfold ceilDiv PySlice.IsCeil
  rw [h1, h2, Int.mul_comm]
  split
  · omega
  · rw [Int.mul_add, Int.mul_one]; omega

theorem ceilDiv_le_iff (x k i : Int) (hk : 0 < k) : ceilDiv x k ≤ i ↔ x ≤ i * k := by
  rw [← Int.not_lt, ← (isCeil_ceilDiv x k hk).lt_iff hk, Int.not_lt]

/-- the indices from `⌈x/k⌉` up to `⌈y/k⌉` are those whose multiple of `k` lies in `[x, y)` -/
theorem ceilDiv_window (x y k i : Int) (hk : 0 < k) : (ceilDiv x k ≤ i ∧ i < ceilDiv y k) ↔ (x ≤ i * k ∧ i * k < y) := by
  rw [ceilDiv_le_iff x k i hk, ← Int.not_le, ceilDiv_le_iff y k i hk, Int.not_le]

theorem ceilDiv_mono (x y k : Int) (hk : 0 < k) (h : x ≤ y) : ceilDiv x k ≤ ceilDiv y k :=
  (isCeil_ceilDiv x k hk).mono (isCeil_ceilDiv y k hk) hk h

theorem ceilDiv_one (x : Int) : ceilDiv x 1 = x := by
  unfold ceilDiv; rw [if_pos (Int.fmod_one x), Int.fdiv_one]

theorem fmod_neg_zero_iff (x k : Int) : Int.fmod x (-k) = 0 ↔ Int.fmod x k = 0 := by
  rw [← Int.dvd_iff_fmod_eq_zero, ← Int.dvd_iff_fmod_eq_zero, Int.neg_dvd]

/-- plus-strand exclusive end of the parent segment of a reversed view -/
def revEnd (v : View) : Int := v.seqLen + v.offset + v.start + 1

theorem step_ne_zero_of_len (v : View) (hl : 0 < len v) : v.step ≠ 0 := by
  intro h
  rw [len, h, Int.fdiv_zero] at hl
  exact absurd hl (by decide)

/-- `absolute_position` of a view index, any stride: the position shown there, plus one on a reversed view (the
plus-strand boundary after it) -/
theorem absolutePosition_viewPos (v : View) (i : Int) (b : Bool) (hl : 0 < len v) (h0 : 0 ≤ i)
    (h1 : i < len v ∨ (i = len v ∧ b = true)) :
    absolutePosition v i b = .ok (if v.step < 0 then viewPosAny v i + 1 else viewPosAny v i) := by
  obtain ⟨y, k, hg⟩ := getIndex_nonneg v i b hl h0 h1
  have := step_ne_zero_of_len v hl
  unfold absolutePosition
  rw [if_neg (Int.ne_of_gt hl), if_neg (Int.not_lt.mpr h0), hg, viewPosAny]
  split
  · rw [if_neg (by omega)]; show Except.ok _ = _; congr 1; omega
  · rw [if_pos (by omega)]; show Except.ok _ = _; congr 1; omega

theorem viewPosAny_unit (v : View) (h : v.step = 1 ∨ v.step = -1) (i : Int) : viewPosAny v i = viewPos v i := by
  unfold viewPosAny viewPos
  rcases h with h | h <;> rw [h]
  · rw [if_pos (by decide), if_neg (by decide), Int.mul_one]
  · rw [if_neg (by decide), if_pos (by decide)]; omega

theorem viewPos_seg (v : View) (h : UnitView v) (i : Int) :
    viewPos v i = if v.step < 0 then segStart v + len v - 1 - i else segStart v + i := by
  unfold viewPos
  rcases unit_cases v h with ⟨hs, hg, hn, -, -⟩ | ⟨hs, hg, hn, -, -⟩ <;> rw [hs, hg, hn]
  · rfl
  · rw [if_pos (by decide), if_pos (by decide)]; omega

/-- the coordinate `absolute_position` assigns to view index `i` on a |step| = 1 view: the plus-strand
position itself on a forward view, the plus-strand *boundary* `p1 - i` on a reversed one -/
def absOf (v : View) (i : Int) : Int :=
  if v.step < 0 then segStart v + len v - i else segStart v + i

theorem absolutePosition_unit (v : View) (h : UnitView v) (i : Int) (b : Bool) (h0 : 0 ≤ i)
    (h1 : i < len v ∨ (i = len v ∧ b = true)) (hl : 0 < len v) :
    absolutePosition v i b = .ok (absOf v i) := by
  rw [absolutePosition_viewPos v i b hl h0 h1, absOf, viewPosAny_unit v h.2, viewPos_seg v h]
  split <;> congr 1; omega

/-- `relative_position(c)` on a non-empty view of any stride rounds up: the first view index at or after `c` on a
forward view, the number of indices shown at or after `c` on a reversed one -/
theorem relativePosition_ceil (v : View) (hl : 0 < len v) (c : Int) (hc : 0 ≤ c) :
    relativePosition v c false =
      .ok (if v.step < 0 then ceilDiv (revEnd v - c) (-v.step) else ceilDiv (c - (v.offset + v.start)) v.step) := by
  unfold relativePosition ceilDiv revEnd
  rw [if_neg (Int.ne_of_gt hl), if_neg (Int.not_lt.mpr hc)]
  by_cases hk : v.step < 0
  · have e : v.seqLen - c + v.offset + v.start + 1 = v.seqLen + v.offset + v.start + 1 - c := by omega
    simp only [hk, if_true, Bool.false_eq_true, or_false, pyabs, e, ← fmod_neg_zero_iff _ v.step]
    split <;> rfl
  · simp only [hk, if_false, Bool.false_eq_true, or_false]
    split <;> rfl

/-- what `get_features` makes of a db coordinate on a non-empty view: `relative_position` rounds it up to a view index,
counted from the other end on a reversed view -/
def relIdx (v : View) (c : Int) : Int :=
  if v.step < 0 then len v - ceilDiv (revEnd v - c) (-v.step) else ceilDiv (c - (v.offset + v.start)) v.step

theorem relCoord_ceil (v : View) (hl : 0 < len v) (c : Int) (hc : 0 ≤ c) : relCoord v c = .ok (relIdx v c) := by
  unfold relCoord relIdx
  rw [relativePosition_ceil v hl c hc]
  by_cases h : v.step < 0 <;> simp only [h, liftErr, if_true, if_false]

theorem relIdx_mono (v : View) (hk : v.step ≠ 0) {a b : Int} (h : a ≤ b) : relIdx v a ≤ relIdx v b := by
  unfold relIdx
  split
  · have := ceilDiv_mono (revEnd v - b) (revEnd v - a) _ (show 0 < -v.step by omega) (by omega)
    omega
  · exact ceilDiv_mono _ _ _ (by omega) (by omega)

/-- on a |step| = 1 view it is the offset from the segment start -/
theorem relIdx_unit (v : View) (h : UnitView v) (c : Int) : relIdx v c = c - segStart v := by
  unfold relIdx revEnd
  rcases unit_cases v h with ⟨hs, hg, hn, -, -⟩ | ⟨hs, hg, hn, -, -⟩ <;> rw [hs, hg, hn]
  · rw [if_neg (by decide), ceilDiv_one]
  · rw [if_pos (by decide), show (-(-1 : Int)) = 1 from rfl, ceilDiv_one]; omega


/-- the coordinate `relative_position` assigns to an absolute position (the inverse of `absOf`) -/
def relOf (v : View) (a : Int) : Int :=
  if v.step < 0 then segStart v + len v - a else a - segStart v

theorem relativePosition_unit (v : View) (h : UnitView v) (hl : 0 < len v) (a : Int) (ha : 0 ≤ a) :
    relativePosition v a false = .ok (relOf v a) := by
  rw [relativePosition_ceil v hl a ha, relOf, revEnd]
  rcases unit_cases v h with ⟨hs, hg, hn, -, -⟩ | ⟨hs, hg, hn, -, -⟩ <;> rw [hs, hg, hn]
  · rw [if_neg (by decide), if_neg (by decide), ceilDiv_one]
  · rw [if_pos (by decide), if_pos (by decide), show (-(-1 : Int)) = 1 from rfl, ceilDiv_one]; congr 1; omega

/-- the window `get_features(start=a, stop=b)` sends to the db, on a view of any stride: from the position shown at
index `a` up to the one at `b` (each plus one, and in the other order, on a reversed view) -/
theorem queryWindow_nonneg (v : View) (a b : Int) (ha : 0 ≤ a) (hab : a < b) (hb : b ≤ len v) :
    queryWindow v (some a) (some b) =
      .ok (if v.step < 0 then (max (viewPosAny v b + 1) 0, viewPosAny v a + 1)
           else (max (viewPosAny v a) 0, viewPosAny v b)) := by
  have hl : 0 < len v := by omega
  have e1 : orDefault (some a) 0 = a := by show (if a = 0 then 0 else a) = a; omega
  have e2 : orDefault (some b) (len v) = b := if_neg (show ¬ b = 0 by omega)
  unfold queryWindow
  simp only [e1, e2, if_neg (Int.not_lt.mpr ha), if_neg (show ¬ b < 0 by omega), if_pos hab]
  rw [absolutePosition_viewPos v a false hl ha (.inl (by omega)),
    absolutePosition_viewPos v b true hl (by omega) ((Int.le_iff_lt_or_eq.mp hb).imp_right fun h => ⟨h, rfl⟩)]
  simp only [liftErr]
  split <;> rfl

end CogentModel.FeatureView
