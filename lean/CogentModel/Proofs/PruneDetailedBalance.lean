import Mathlib.Algebra.BigOperators.Ring.Finset
import Mathlib.Algebra.BigOperators.Group.Finset.Sigma
import Mathlib.Tactic.Ring
import CogentModel.Proofs.Prune
import CogentModel.Model.PruneInvariance
/-!
C11: detailed balance of a matrix with respect to `π`; it is kept by the powers of a matrix, by sums and by scalar
multiples, hence by every polynomial in the matrix.
-/
namespace CogentModel.Prune
open Finset

section
variable {R : Type} [CommSemiring R]

/-- detailed balance of `P` with respect to `π` on the states `< m` -/
def DetailedBalance (m : Nat) (π : Nat → R) (P : Mat R) : Prop :=
  ∀ i j, i < m → j < m → π i * P i j = π j * P j i

theorem matMul_assoc_on (m : Nat) (A B C : Mat R) (i j : Nat) :
    matMul m A (matMul m B C) i j = matMul m (matMul m A B) C i j := by
  simp only [matMul, sumOver_eq, Finset.mul_sum, Finset.sum_mul]
  rw [Finset.sum_comm]
  exact Finset.sum_congr rfl fun _ _ => Finset.sum_congr rfl fun _ _ => by ring

theorem matMul_congr_right (m : Nat) (A B B' : Mat R) (j : Nat) (h : ∀ k, k < m → B k j = B' k j) (i : Nat) :
    matMul m A B i j = matMul m A B' i j := by
  simp only [matMul, sumOver_eq]
  exact sum_range_congr fun k hk => by rw [h k hk]

theorem matMul_id_right (m : Nat) (A : Mat R) (i j : Nat) (hj : j < m) : matMul m A idMat i j = A i j := by
  simp only [matMul, sumOver_eq, idMat, mul_ite, mul_one, mul_zero]
  rw [Finset.sum_ite_eq' (range m) j]; simp [hj]

theorem matMul_id_left (m : Nat) (A : Mat R) (i j : Nat) (hi : i < m) : matMul m idMat A i j = A i j := by
  simp only [matMul, sumOver_eq, idMat, ite_mul, one_mul, zero_mul]
  rw [Finset.sum_ite_eq (range m) i]; simp [hi]

theorem matPow_comm (m : Nat) (Q : Mat R) : ∀ (n i j : Nat), i < m → j < m →
    matMul m Q (matPow m Q n) i j = matMul m (matPow m Q n) Q i j
  | 0, i, j, hi, hj => by simp only [matPow]; rw [matMul_id_right m Q i j hj, matMul_id_left m Q i j hi]
  | n + 1, i, j, hi, hj => by
    simp only [matPow]
    rw [matMul_congr_right m Q _ (matMul m (matPow m Q n) Q) j (fun k hk => matPow_comm m Q n k j hk hj) i,
      matMul_assoc_on]

/-- a product of two matrices in detailed balance, read backwards, is the product in the other order -/
theorem detailedBalance_matMul (m : Nat) (π : Nat → R) (A B : Mat R) (hA : DetailedBalance m π A)
    (hB : DetailedBalance m π B) (i j : Nat) (hi : i < m) (hj : j < m) :
    π i * matMul m A B i j = π j * matMul m B A j i := by
  simp only [matMul, sumOver_eq, Finset.mul_sum]
  refine sum_range_congr fun k hk' => ?_
  rw [← mul_assoc, hA i k hi hk', mul_right_comm, hB k j hk' hj, mul_assoc]

theorem detailedBalance_matPow (m : Nat) (π : Nat → R) (Q : Mat R) (h : DetailedBalance m π Q) :
    ∀ n, DetailedBalance m π (matPow m Q n)
  | 0 => by intro i j _ _; by_cases e : i = j <;> simp [matPow, idMat, e, eq_comm]
  | n + 1 => fun i j hi hj => by
    rw [matPow, detailedBalance_matMul m π Q _ h (detailedBalance_matPow m π Q h n) i j hi hj,
      matPow_comm m Q n j i hj hi]

/-- detailed balance is kept by sums and scalar multiples, hence by every polynomial in `Q` -/
theorem detailedBalance_add (m : Nat) (π : Nat → R) (A B : Mat R) (ha : DetailedBalance m π A) (hb : DetailedBalance m π B) :
    DetailedBalance m π (fun i j => A i j + B i j) := by
  intro i j hi hj; simp only [mul_add, ha i j hi hj, hb i j hi hj]
theorem detailedBalance_smul (m : Nat) (π : Nat → R) (c : R) (A : Mat R) (ha : DetailedBalance m π A) :
    DetailedBalance m π (fun i j => c * A i j) := by
  intro i j hi hj
  rw [mul_left_comm, ha i j hi hj, mul_left_comm]

end

end CogentModel.Prune
