/-
  The order on extended scores and the loops that keep a running maximum.
  (No Mathlib needed.)
-/
import CogentModel.Model.PairHMM
import CogentModel.Spec.PairHMM
namespace CogentModel.PairHMM
set_option linter.unusedSectionVars false

/-- what the theorems need of the score type: a strict total order that `+ c` respects.
(`Int`, `Rat`, any linearly ordered additive group.) -/
class ScoreLaws (S : Type) [Add S] [LT S] : Prop where
  lt_irrefl : ∀ a : S, ¬ a < a
  lt_trans : ∀ {a b c : S}, a < b → b < c → a < c
  lt_trichotomy : ∀ a b : S, a < b ∨ a = b ∨ b < a
  add_lt_add_right : ∀ {a b : S} (c : S), a < b → a + c < b + c

instance : ScoreLaws Int where
  lt_irrefl := Int.lt_irrefl
  lt_trans := Int.lt_trans
  lt_trichotomy := Int.lt_trichotomy
  add_lt_add_right := fun c h => Int.add_lt_add_right h c

instance : ScoreLaws Rat where
  lt_irrefl := fun _ => Rat.lt_irrefl
  lt_trans := fun h1 h2 => Rat.not_le.mp (fun h => Rat.not_le.mpr h2 (Rat.le_trans h (Rat.le_of_lt h1)))
  lt_trichotomy := fun a b => by
    rcases Rat.le_total (a := a) (b := b) with h | h
    · by_cases e : a = b
      · exact Or.inr (Or.inl e)
      · exact Or.inl (Rat.lt_of_le_of_ne h e)
    · by_cases e : a = b
      · exact Or.inr (Or.inl e)
      · exact Or.inr (Or.inr (Rat.lt_of_le_of_ne h (fun x => e x.symm)))
  add_lt_add_right := fun c h => Rat.add_lt_add_right.mpr h

variable {S : Type} [Add S] [LT S] [DecidableLT S] [ScoreLaws S]

theorem ele_refl (a : Option S) : ele a a := by
  cases a with
  | none => rfl
  | some x => simp [ele, egt, ScoreLaws.lt_irrefl]

theorem ele_none (a : Option S) : ele none a := by cases a <;> rfl

theorem ele_trans {a b c : Option S} (h1 : ele a b) (h2 : ele b c) : ele a c := by
  cases a with
  | none => exact ele_none c
  | some x =>
    cases b with
    | none => simp [ele, egt] at h1
    | some y =>
      cases c with
      | none => simp [ele, egt] at h2
      | some z =>
        simp only [ele, egt, decide_eq_false_iff_not] at *
        intro hzx
        rcases ScoreLaws.lt_trichotomy x y with h | h | h
        · exact h2 (ScoreLaws.lt_trans hzx h)
        · subst h; exact h2 hzx
        · exact h1 h

theorem ele_of_egt {a b : Option S} (h : egt a b = true) : ele b a := by
  cases a with
  | none => simp [egt] at h
  | some x =>
    cases b with
    | none => exact ele_none _
    | some y =>
      simp only [egt, decide_eq_true_eq] at h
      simp only [ele, egt, decide_eq_false_iff_not]
      intro h'
      exact ScoreLaws.lt_irrefl _ (ScoreLaws.lt_trans h h')

theorem eadd_mono {a b : Option S} (c : Option S) (h : ele a b) : ele (eadd a c) (eadd b c) := by
  cases c with
  | none => cases a <;> cases b <;> rfl
  | some z =>
    cases a with
    | none => exact ele_none _
    | some x =>
      cases b with
      | none => simp [ele, egt] at h
      | some y =>
        simp only [ele, egt, eadd, decide_eq_false_iff_not] at *
        intro h'
        rcases ScoreLaws.lt_trichotomy x y with e | e | e
        · exact ScoreLaws.lt_irrefl _ (ScoreLaws.lt_trans h' (ScoreLaws.add_lt_add_right z e))
        · subst e; exact ScoreLaws.lt_irrefl _ h'
        · exact h e

/-- antisymmetry: the maximum is unique -/
theorem ele_antisymm {a b : Option S} (h1 : ele a b) (h2 : ele b a) : a = b := by
  cases a with
  | none => cases b with
    | none => rfl
    | some y => simp [ele, egt] at h2
  | some x => cases b with
    | none => simp [ele, egt] at h1
    | some y =>
      simp only [ele, egt, decide_eq_false_iff_not] at *
      rcases ScoreLaws.lt_trichotomy x y with e | e | e
      · exact absurd e h2
      · rw [e]
      · exact absurd e h1

/-! ### the optimum of a family

What a dynamic program computes is, entry by entry, the best score of a family of paths.  `IsOpt` says so; two optima of
one family are equal (`unique`), and an optimum with its maximiser can be read off a second family that corresponds to
the first (`congr`). -/

section optimum
variable {α : Type}

/-- `x` is the best score among the `a` with `P a`: none scores above it and, when it is finite, some `a` has it —
one with `W a` (what else the computation knows of the maximiser it found, e.g. that the traceback returns it) -/
structure IsOpt (sc : α → Option S) (P : α → Prop) (x : Option S) (W : α → Prop := fun _ => True) : Prop where
  ge : ∀ a, P a → ele (sc a) x
  attained : ∀ v, x = some v → ∃ a, W a ∧ P a ∧ sc a = some v

namespace IsOpt
variable {sc : α → Option S} {P : α → Prop} {x y : Option S} {W W' : α → Prop}

theorem le (hx : IsOpt sc P x W) (hy : IsOpt sc P y W') : ele x y := by
  cases hv : x with
  | none => exact ele_none _
  | some v =>
    obtain ⟨a, -, ha, hs⟩ := hx.attained v hv
    rw [← hs]; exact hy.ge a ha

theorem unique (hx : IsOpt sc P x W) (hy : IsOpt sc P y W') : x = y := ele_antisymm (hx.le hy) (hy.le hx)

/-- the same optimum for a second family, when each member of either with a finite score has a member of the other with
that score; what is known of the maximiser carries over -/
theorem congr {β : Type} {sc' : β → Option S} {Q W' : β → Prop} (hx : IsOpt sc P x W)
    (to : ∀ a v, P a → W a → sc a = some v → ∃ b, W' b ∧ Q b ∧ sc' b = some v)
    (from_ : ∀ b v, Q b → sc' b = some v → ∃ a, P a ∧ sc a = some v) : IsOpt sc' Q x W' where
  ge b hb := by
    cases hv : sc' b with
    | none => exact ele_none _
    | some v => obtain ⟨a, ha, hs⟩ := from_ b v hb hv; rw [← hs]; exact hx.ge a ha
  attained v hv := by
    obtain ⟨a, hw, ha, hs⟩ := hx.attained v hv
    exact to a v ha hw hs

/-- an optimum whose value is known from elsewhere -/
theorem cast (hx : IsOpt sc P x W) (hy : IsOpt sc P y W') : IsOpt sc P y W := hx.unique hy ▸ hx

end IsOpt
end optimum

/-! ### running maxima

Every loop of the kernel that keeps "the best so far" (`bestPrev`, the best cell of a local alignment, the middle row
of the linear-space alignment) offers candidates one by one to a strict `>` test.  `IsMax` says what such a loop
returns; `isMax_scan` proves it for any loop over a list, one level of nesting at a time. -/

section running_max
variable {β : Type} (sc : β → Option S)

/-- `r` is what a running maximum (strict `>`: the earlier of two equal scores stays) holds after starting from
`cur` and being offered the candidates `C` -/
structure IsMax (C : β → Prop) (cur r : β) : Prop where
  ge_init : ele (sc cur) (sc r)
  ge_cand : ∀ c, C c → ele (sc c) (sc r)
  mem : r = cur ∨ C r

variable {sc}

namespace IsMax

theorem of_iff {C C' : β → Prop} {cur r : β} (h : IsMax sc C cur r) (hC : ∀ c, C' c ↔ C c) : IsMax sc C' cur r :=
  ⟨h.ge_init, fun c hc => h.ge_cand c ((hC c).mp hc), h.mem.imp_right (hC r).mpr⟩

theorem refl {C : β → Prop} (cur : β) (hC : ∀ c, ¬ C c) : IsMax sc C cur cur :=
  ⟨ele_refl _, fun c hc => (hC c hc).elim, Or.inl rfl⟩

theorem step (cur c : β) : IsMax sc (· = c) cur (if egt (sc c) (sc cur) then c else cur) := by
  split
  · next hgt => exact ⟨ele_of_egt hgt, fun _ e => e ▸ ele_refl _, Or.inr rfl⟩
  · next hgt => exact ⟨ele_refl _, fun _ e => e ▸ (Bool.not_eq_true _).mp hgt, Or.inl rfl⟩

/-- a candidate that is only offered under a side condition -/
theorem step_if (b : Bool) (cur c : β) :
    IsMax sc (fun c' => b = true ∧ c' = c) cur (if (b && egt (sc c) (sc cur)) = true then c else cur) := by
  cases b
  · exact refl cur fun _ h => by simp at h
  · exact (step cur c).of_iff fun _ => by simp

/-- offering `C1` and then `C2` is offering both -/
theorem append {C C1 C2 : β → Prop} {cur r1 r2 : β} (h1 : IsMax sc C1 cur r1) (h2 : IsMax sc C2 r1 r2)
    (hC : ∀ c, C c ↔ C1 c ∨ C2 c) : IsMax sc C cur r2 where
  ge_init := ele_trans h1.ge_init h2.ge_init
  ge_cand c hc := ((hC c).mp hc).elim (fun h => ele_trans (h1.ge_cand c h) h2.ge_init) (h2.ge_cand c)
  mem := h2.mem.elim (fun e => e ▸ h1.mem.imp_right fun h => (hC _).mpr (Or.inl h)) fun h => Or.inr ((hC _).mpr (Or.inr h))

end IsMax

/-- a loop `g` over a list that offers, at position `k`, the candidates `Cf k x` of its element `x` -/
theorem isMax_scan {γ : Type} {f : Nat → γ → β → β} {Cf : Nat → γ → β → Prop}
    (hf : ∀ k x cur, IsMax sc (Cf k x) cur (f k x cur)) {g : List γ → Nat → β → β} (g_nil : ∀ k cur, g [] k cur = cur)
    (g_cons : ∀ x xs k cur, g (x :: xs) k cur = g xs (k + 1) (f k x cur)) (xs : List γ) (k : Nat) (cur : β) :
    IsMax sc (fun c => ∃ q x, xs[q]? = some x ∧ Cf (q + k) x c) cur (g xs k cur) := by
  induction xs generalizing k cur with
  | nil => rw [g_nil]; exact .refl cur fun c ⟨q, x, hx, _⟩ => by simp at hx
  | cons x xs ih =>
    rw [g_cons]
    refine (hf k x cur).append (ih (k + 1) _) fun c => ⟨?_, ?_⟩
    · rintro ⟨q, y, hy, hc⟩
      cases q with
      | zero =>
        obtain rfl : x = y := Option.some.inj hy
        exact Or.inl (by rwa [Nat.zero_add] at hc)
      | succ q => exact Or.inr ⟨q, y, hy, by rwa [Nat.add_right_comm] at hc⟩
    · rintro (hc | ⟨q, y, hy, hc⟩)
      · exact ⟨0, x, rfl, by rwa [Nat.zero_add]⟩
      · exact ⟨q + 1, y, hy, by rwa [Nat.add_right_comm]⟩

end running_max

theorem bestPrev_isMax (T : Nat → Nat → Option S) (dest : Nat) (src : List (Option S × Nat)) (p : Nat)
    (cur : Option S × Nat) :
    IsMax (·.1) (fun c => ∃ q x, src[q]? = some x ∧ c = (eadd x.1 (T (q + p) dest), q + p)) cur
      (bestPrev T dest src p cur) :=
  isMax_scan (Cf := fun p x c => c = (eadd x.1 (T p dest), p)) (g := bestPrev T dest)
    (fun _ _ _ => IsMax.step _ _) (fun _ _ => rfl) (fun _ _ _ _ => rfl) src p cur

end CogentModel.PairHMM
