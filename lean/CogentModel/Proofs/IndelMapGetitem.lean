import CogentModel.Proofs.IndelMapGetitemGaps
import CogentModel.Proofs.IndelMapPySlice
/-! `IndelMap.__getitem__` for every `start` / `stop` (`None`, negative, beyond the end): the result denotes the slice of
the gapped string, and only a bound below `-len` raises. -/
namespace CogentModel.IndelMap
open CogentModel.Gapped List CogentModel

/-- `__getitem__` after the `None` defaults have been filled in -/
def getitemTail (m : IMap) (start0 stop0 : Int) : Except Err IMap :=
  let start := View.wrapIdx start0 (len m)
  let stop := View.wrapIdx stop0 (len m)
  if start < 0 ∨ stop < 0 then .error .indexError else
  let stop := min stop (len m)
  if start ≥ stop then .ok (emptyMap 0) else
  if m.gapPos = [] then .ok (emptyMap (stop - start)) else
  getitemGaps m start stop

theorem getitem_eq_tail (m : IMap) (a b : Option Int) :
    getitem m a b none = getitemTail m (a.getD 0) (b.getD (len m)) := by
  cases a <;> cases b <;> rfl

/-- **`IndelMap.__getitem__`**, for every `start`/`stop` (`None`, negative, beyond the end): a bound below `-len`
raises IndexError; otherwise the call returns the map of `s[a:b]` (residues renumbered), well formed -/
theorem getitem_ok (m : IMap) (h : WF m) (a b : Option Int)
    (hb : ¬ (View.wrapIdx (a.getD 0) (len m) < 0 ∨ View.wrapIdx (b.getD (len m)) (len m) < 0)) :
    ∃ r, getitem m a b none = .ok r ∧ WF r ∧ abs r = Gapped.slice (abs m) a b := by
  have hlen : ((abs m).length : Int) = len m := len_eq' m h
  rw [getitem_eq_tail]
  unfold getitemTail Gapped.slice rebase
  simp only []
  rw [if_neg hb, slice_of_norm (abs m) (len m) hlen a b (by omega) (by omega)]
  generalize View.wrapIdx (a.getD 0) (len m) = start at *
  generalize View.wrapIdx (b.getD (len m)) (len m) = stop at *
  by_cases hge : start ≥ min stop (len m)
  · rw [if_pos hge, show (min stop (len m) - min start (len m)).toNat = 0 by omega]
    exact ⟨_, rfl, wf_emptyMap 0 (by omega), rfl⟩
  · rw [if_neg hge]
    obtain ⟨r, hr, hwf, hpat⟩ := getitem_inrange m h start (min stop (len m)) (by omega) (by omega) (by omega)
    refine ⟨r, hr, hwf, ?_⟩
    rw [abs_eq_ofPattern r hwf, hpat, show min start (len m) = start by omega]
    simp only [pattern, map_take, map_drop]

theorem getitem_err (m : IMap) (a b : Option Int)
    (hb : View.wrapIdx (a.getD 0) (len m) < 0 ∨ View.wrapIdx (b.getD (len m)) (len m) < 0) :
    getitem m a b none = .error .indexError := by
  rw [getitem_eq_tail]; exact if_pos hb

theorem getitem_spec' (m : IMap) (h : WF m) (a b : Option Int) (r : IMap)
    (hr : getitem m a b none = .ok r) : WF r ∧ abs r = Gapped.slice (abs m) a b := by
  by_cases hb : View.wrapIdx (a.getD 0) (len m) < 0 ∨ View.wrapIdx (b.getD (len m)) (len m) < 0
  · rw [getitem_err m a b hb] at hr; cases hr
  · obtain ⟨r', hr', hs⟩ := getitem_ok m h a b hb
    rw [hr'] at hr; cases hr; exact hs

/-- **in-range slicing never raises**: the only error `IndelMap.__getitem__` can give (for `step is None`) is the
IndexError for a negative bound below `-len`; otherwise it returns the well-formed map of the slice -/
theorem getitem_total' (m : IMap) (h : WF m) (a b : Option Int)
    (ha : ∀ x, a = some x → -len m ≤ x) (hb : ∀ y, b = some y → -len m ≤ y) :
    ∃ r, getitem m a b none = .ok r ∧ WF r ∧ abs r = Gapped.slice (abs m) a b := by
  have hlen0 : 0 ≤ len m := by have := len_eq' m h; omega
  refine getitem_ok m h a b ?_
  rw [View.wrapIdx_neg_iff _ _ hlen0, View.wrapIdx_neg_iff _ _ hlen0]
  rintro (hh | hh)
  · cases a with
    | none => exact absurd hh (by show ¬ (0 : Int) < -len m; omega)
    | some x => exact absurd hh (Int.not_lt.mpr (ha x rfl))
  · cases b with
    | none => exact absurd hh (by show ¬ len m < -len m; omega)
    | some y => exact absurd hh (Int.not_lt.mpr (hb y rfl))

end CogentModel.IndelMap
