import CogentModel.Model.AtomicWrite
/-! What one call and a list of calls do to the file system: a call changes only the paths `writesTo` names
(`step_frame`, `exec_frame`), a property every successful call keeps holds after the run (`exec_inv`), a run splits at
the first failure; then the runs of the pieces every route of `atomic_write` is made of (open–writes–close, the rename,
the `rmtree`) from any state that meets their preconditions. -/
namespace CogentModel.AtomicWrite

@[simp] theorem upd_same (fs : FS) (p : Path) (v) : upd fs p v p = v := by simp [upd]
theorem upd_other (fs : FS) (p q : Path) (v) (h : q ≠ p) : upd fs p v q = fs q := by simp [upd, h]
theorem upd_idem (fs : FS) (p : Path) (a b) : upd (upd fs p a) p b = upd fs p b := by
  funext q; by_cases hq : q = p <;> simp [upd, hq]

theorem under_iff (d p : Path) : under d p = true ↔ d <+: p := by
  simp [under]

theorem under_self (d : Path) : under d d = true := by simp [under]
theorem under_append (d s : Path) : under d (d ++ s) = true := by simp [under]

theorem not_under_sibling (d : Path) (a b : Nat) (h : a ≠ b) : under (d ++ [a]) (d ++ [b]) = false := by
  induction d with
  | nil => simp [under, List.isPrefixOf, h]
  | cons x xs ih => simpa [under, List.isPrefixOf] using ih

theorem not_under_parent (d : Path) (a : Nat) : under (d ++ [a]) d = false := by
  induction d with
  | nil => simp [under]
  | cons x xs ih => simpa [under, List.isPrefixOf] using ih

theorem step_frame (fs fs' : FS) (c : Call) (p : Path) (h : step fs c = .ok fs') (hw : writesTo c p = false) :
    fs' p = fs p := by
  unfold step at h
  split at h <;> simp only [writesTo, beq_eq_false_iff_ne, ne_eq, Bool.or_eq_false_iff] at hw <;>
    (repeat' split at h) <;> cases h <;> simp [upd, hw]

theorem runInstr_ok (fs fs' : FS) (i : Instr) (h : runInstr fs i = .ok fs') : step fs i.call = .ok fs' ∨ fs' = fs := by
  unfold runInstr at h
  split at h
  · next hs => exact Or.inl (hs.trans h)
  · split at h
    · cases h; exact Or.inr rfl
    · cases h

theorem exec_inv (P : FS → Prop) (is : List Instr) (hP : ∀ i ∈ is, ∀ S S', P S → step S i.call = .ok S' → P S')
    (fs : FS) (h0 : P fs) : P (exec fs is).1 := by
  induction is generalizing fs with
  | nil => exact h0
  | cons i is ih =>
    unfold exec
    split
    · next fs' h =>
      refine ih (fun j hj => hP j (List.mem_cons_of_mem _ hj)) fs' ?_
      rcases runInstr_ok _ _ _ h with hs | rfl
      · exact hP i List.mem_cons_self _ _ h0 hs
      · exact h0
    · exact h0

theorem exec_frame (is : List Instr) (fs : FS) (p : Path)
    (hw : ∀ i ∈ is, writesTo i.call p = false) : (exec fs is).1 p = fs p :=
  exec_inv (fun S => S p = fs p) is (fun i hi S S' hS hs => (step_frame S S' _ p hs (hw i hi)).trans hS) fs rfl

theorem exec_cons_ok (fs fs' : FS) (i : Instr) (is : List Instr) (h : runInstr fs i = .ok fs') :
    exec fs (i :: is) = exec fs' is := by simp [exec, h]

theorem exec_cons_err (fs : FS) (i : Instr) (is : List Instr) (e : Errno) (h : runInstr fs i = .error e) :
    exec fs (i :: is) = (fs, some e) := by simp [exec, h]

theorem exec_append_ok (a b : List Instr) (fs S : FS) (h : exec fs a = (S, none)) : exec fs (a ++ b) = exec S b := by
  induction a generalizing fs with
  | nil => cases h; rfl
  | cons i is ih =>
    cases hr : runInstr fs i with
    | ok fs' =>
      rw [exec_cons_ok _ _ _ _ hr] at h
      rw [List.cons_append, exec_cons_ok _ _ _ _ hr, ih fs' h]
    | error e => rw [exec_cons_err _ _ _ _ hr] at h; cases h

theorem exec_append_err (a b : List Instr) (fs : FS) (e : Errno) (h : (exec fs a).2 = some e) :
    exec fs (a ++ b) = exec fs a := by
  induction a generalizing fs with
  | nil => simp [exec] at h
  | cons i is ih =>
    cases hr : runInstr fs i with
    | ok fs' =>
      rw [List.cons_append, exec_cons_ok _ _ _ _ hr, exec_cons_ok _ _ _ _ hr]
      rw [exec_cons_ok _ _ _ _ hr] at h
      exact ih fs' h
    | error e' => rw [List.cons_append, exec_cons_err _ _ _ _ hr, exec_cons_err _ _ _ _ hr]

theorem exec_take_ok (is : List Instr) (fs : FS) (k : Nat) (h : (exec fs is).2 = none) :
    (exec fs (is.take k)).2 = none := by
  cases hk : (exec fs (is.take k)).2 with
  | none => rfl
  | some e =>
    have := exec_append_err (is.take k) (is.drop k) fs e hk
    rw [List.take_append_drop] at this
    rw [this, hk] at h; cases h

section paths
variable (c : Cfg)
theorem tmpfile_ne_dest : c.tmpfile ≠ c.dest := by
  simp [Cfg.tmpfile, Cfg.dest]
theorem tmpdir_ne_dest (h : c.t ≠ c.name) : c.tmpdir ≠ c.dest := by
  simp [Cfg.tmpdir, Cfg.dest, h]
theorem tmpfile_ne_tmpdir : c.tmpfile ≠ c.tmpdir := by
  simp [Cfg.tmpfile, Cfg.tmpdir]
theorem dir_ne_tmpfile : c.dir ≠ c.tmpfile := by simp [Cfg.tmpfile]
theorem dir_ne_dest : c.dir ≠ c.dest := by simp [Cfg.dest]
@[simp] theorem parent_tmpdir : parent c.tmpdir = c.dir := by simp [parent, Cfg.tmpdir]
@[simp] theorem parent_tmpfile : parent c.tmpfile = c.tmpdir := by simp [parent, Cfg.tmpfile, Cfg.tmpdir]
@[simp] theorem parent_dest : parent c.dest = c.dir := by simp [parent, Cfg.dest]
theorem under_tmpdir_tmpfile : under c.tmpdir c.tmpfile = true := under_append c.tmpdir [c.u]
theorem not_under_tmpdir_dest (h : c.t ≠ c.name) : under c.tmpdir c.dest = false :=
  not_under_sibling _ _ _ h
theorem not_under_tmpdir_dir : under c.tmpdir c.dir = false := not_under_parent _ _
theorem ne_tmp_of_not_under (p : Path) (hu : under c.tmpdir p = false) : p ≠ c.tmpdir ∧ p ≠ c.tmpfile :=
  ⟨fun e => by (rw [e, under_self] at hu; cases hu), fun e => by (rw [e, under_tmpdir_tmpfile] at hu; cases hu)⟩
end paths

theorem exec_writes (c : Cfg) (cs : List Data) (fs : FS) (acc : Data) :
    exec (upd fs c.tmpfile (some (.file acc))) (writes c cs) = (upd fs c.tmpfile (some (.file (acc ++ cs.flatten))), none) := by
  induction cs generalizing acc with
  | nil => simp [writes, exec]
  | cons ch cs ih =>
    have := ih (acc ++ ch)
    simp only [writes] at this
    simp only [writes, List.map_cons, exec, runInstr, step, upd_same, upd_idem, this, List.flatten_cons, List.append_assoc]

/-- state after open, writes and close of the temp file -/
def tmpState (c : Cfg) (fs : FS) : FS := upd fs c.tmpfile (some (.file c.newData))

theorem tmpCalls_frame (c : Cfg) (cs : List Data) (q : Path) (hq : q ≠ c.tmpfile) :
    ∀ i ∈ (⟨.openW c.tmpfile, .enter⟩ :: (writes c cs ++ [closeInstr c]) : List Instr), writesTo i.call q = false := by
  intro i hi
  simp only [writes, List.mem_append, List.mem_cons, List.mem_map, List.not_mem_nil, or_false] at hi
  rcases hi with rfl | ⟨ch, _, rfl⟩ | rfl <;> simp [writesTo, closeInstr, hq]

theorem exec_preTmp (c : Cfg) (fs : FS) (hd : fs c.tmpdir = some .dir) (hf : fs c.tmpfile = none) :
    exec fs ([⟨.openW c.tmpfile, .enter⟩] ++ writes c c.chunks ++ [closeInstr c]) = (tmpState c fs, none) := by
  have r2 : runInstr fs ⟨.openW c.tmpfile, .enter⟩ = .ok (upd fs c.tmpfile (some (.file []))) := by
    simp [runInstr, step, isDir, hf, hd]
  rw [List.append_assoc, List.singleton_append, exec_cons_ok _ _ _ _ r2]
  have hw := exec_writes c c.chunks fs []
  rw [exec_append_ok _ _ _ _ hw]
  rfl

theorem run_rename (c : Cfg) (S : FS) (d : Data) (h1 : S c.tmpfile = some (.file d)) (h2 : S c.dir = some .dir)
    (h3 : S c.dest ≠ some .dir) :
    runInstr S ⟨.rename c.tmpfile c.dest, .commitRename⟩ = .ok (upd (upd S c.dest (some (.file d))) c.tmpfile none) := by
  have e3 : (S c.dest == some Node.dir) = false := by simpa using h3
  simp only [runInstr, step, h1, parent_dest, isDir, e3, h2, BEq.rfl, if_true, Bool.false_eq_true, if_false]

theorem run_rmtree (c : Cfg) (S : FS) (hS : S c.tmpdir = some .dir) :
    runInstr S ⟨.rmtree c.tmpdir, .cleanup⟩ = .ok (fun q => if under c.tmpdir q then none else S q) := by
  simp [runInstr, step, isDir, hS]

theorem exec_rmtree (c : Cfg) (hne : c.t ≠ c.name) (S : FS) (hS : S c.tmpdir = some .dir) :
    (exec S [⟨.rmtree c.tmpdir, .cleanup⟩]).1 c.dest = S c.dest ∧
    ∀ p, under c.tmpdir p = true → (exec S [⟨.rmtree c.tmpdir, .cleanup⟩]).1 p = none := by
  rw [exec_cons_ok _ _ _ _ (run_rmtree c S hS)]
  exact ⟨by simp [exec, not_under_tmpdir_dest c hne], fun p hp => by simp [exec, hp]⟩

end CogentModel.AtomicWrite
