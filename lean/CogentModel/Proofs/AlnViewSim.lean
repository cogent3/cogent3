import CogentModel.Model.AlnView
import CogentModel.Proofs.SeqWrap
import CogentModel.Proofs.AlnRc
namespace CogentModel.Aln
open CogentModel.IndelMap CogentModel.Gapped List CogentModel

/-- a slice of a C01 sequence displays the slice of what the sequence displayed (`SeqWrap.str_getitem'`, the
lemma behind `C01.str_getitem`) -/
theorem seqSlice_sim (cf : Char → Char) (hcf : ∀ x, cf (cf x) = x) (sq q : SeqWrap.Seq) (x y : Option Int)
    (hs : SeqWrap.WF sq) (hq : SeqWrap.getitem sq x y none = .ok q) :
    SeqWrap.str cf q = PySlice.slice (SeqWrap.str cf sq) x y 1 ∧ SeqWrap.WF q ∧ q.nucleic = sq.nucleic := by
  refine ⟨?_, SeqWrap.wf_getitem sq q _ _ _ hs hq⟩
  rw [SeqWrap.str_getitem' cf hcf sq q x y none hs (by simp) hq, SeqWrap.specSlice, Option.getD_none]
  exact if_neg (by omega)

/-- **the string-level row model is what the view-level row displays**: slicing a row whose data is
a C01 sequence (parent string + slice record, any history behind it) and then displaying it is the
same as slicing the displayed row; the sequence stays well formed and keeps its moltype -/
theorem rowSliceV_sim (cf : Char → Char) (hcf : ∀ x, cf (cf x) = x) (rv rv' : RowV) (a b : Option Int)
    (hs : SeqWrap.WF rv.seq) (h : rowSliceV rv a b = .ok rv') :
    rowSlice (rv.toRow cf) a b = .ok (rv'.toRow cf) ∧ SeqWrap.WF rv'.seq ∧ rv'.seq.nucleic = rv.seq.nucleic := by
  unfold rowSliceV at h
  rw [rowSlice_eq]
  unfold rowSliceN RowV.toRow
  simp only [] at h ⊢
  cases hg : getitem rv.map a b none with
  | error e => rw [hg] at h; cases h
  | ok nm =>
    rw [hg] at h
    simp only [] at h ⊢
    generalize a.getD 0 = a' at *
    generalize stopOr b (len rv.map) = b' at *
    cases hsI : getSeqIndex rv.map a' with
    | error e => rw [hsI] at h; cases h
    | ok s =>
      cases heI : getSeqIndex rv.map b' with
      | error e => rw [hsI, heI] at h; cases h
      | ok e =>
        rw [hsI, heI] at h
        simp only [] at h ⊢
        by_cases hc : nm.parentLength ≠ 0 ∧ s > e
        · rw [if_pos hc] at h; cases h
        · rw [if_neg hc] at h ⊢
          by_cases hz : nm.parentLength ≠ 0
          · rw [if_pos hz] at h ⊢
            cases hq : SeqWrap.getitem rv.seq (some s) (some e) none with
            | error er => rw [hq] at h; cases h
            | ok q =>
              rw [hq] at h; cases h
              obtain ⟨e1, w⟩ := seqSlice_sim cf hcf _ _ _ _ hs hq
              exact ⟨by rw [e1], w⟩
          · rw [if_neg hz] at h ⊢
            cases hq : SeqWrap.getitem rv.seq none (some 0) none with
            | error er => rw [hq] at h; cases h
            | ok q =>
              rw [hq] at h; cases h
              obtain ⟨e1, w⟩ := seqSlice_sim cf hcf _ _ _ _ hs hq
              exact ⟨by rw [e1, slice_to_zero], w⟩

/-- the same for `rc`: `Aligned.rc` on a nucleic sequence view displays the reverse complement -/
theorem rowRcV_sim (cf : Char → Char) (hcf : ∀ x, cf (cf x) = x) (rv rv' : RowV)
    (hs : SeqWrap.WF rv.seq) (hn : rv.seq.nucleic = true) (h : rowRcV rv = .ok rv') :
    rowRcWith cf (rv.toRow cf) = .ok (rv'.toRow cf) ∧ SeqWrap.WF rv'.seq ∧ rv'.seq.nucleic = true := by
  unfold rowRcV at h
  unfold rowRcWith RowV.toRow
  simp only [] at h ⊢
  cases hr : nucleicReversed rv.map with
  | error e => rw [hr] at h; cases h
  | ok m =>
    rw [hr] at h; cases h
    have := SeqWrap.str_rc' cf hcf rv.seq hs hn
    have hw := SeqWrap.wf_rc rv.seq hs
    refine ⟨?_, hw.1, by rw [hw.2, hn]⟩
    simp only [this, SeqWrap.specRc]

theorem rowRc_eq_with (dna : Bool) (r : Row) : rowRc dna r = rowRcWith (comp dna) r := rfl

/-! a history of slices and reverse complements on one row, through the real view arithmetic -/

inductive VOp where
  | slice (a b : Option Int)
  | rc

def stepV (rv : RowV) : VOp → Except Err RowV
  | .slice a b => rowSliceV rv a b
  | .rc => rowRcV rv

def runV : RowV → List VOp → Except Err RowV
  | rv, [] => .ok rv
  | rv, op :: ops => match stepV rv op with
    | .ok rv' => runV rv' ops
    | .error e => .error e

/-- the same history on a plain gapped string -/
def runStr (cf : Char → Char) : List Char → List VOp → List Char
  | t, [] => t
  | t, .slice a b :: ops => runStr cf (PySlice.slice t a b 1) ops
  | t, .rc :: ops => runStr cf (t.reverse.map cf) ops

/-- invariant of a view-level row: C01's sequence invariant, a nucleic acid, and the row invariant
of what it displays -/
def RowVWF (cf : Char → Char) (rv : RowV) : Prop :=
  SeqWrap.WF rv.seq ∧ rv.seq.nucleic = true ∧ RowWF (rv.toRow cf)

theorem runV_refines (cf : Char → Char) (hcf : ∀ x, cf (cf x) = x) (hgap : cf '-' = '-')
    (ops : List VOp) : ∀ (rv rv' : RowV), RowVWF cf rv → runV rv ops = .ok rv' →
    RowVWF cf rv' ∧ gapped (rv'.toRow cf) = runStr cf (gapped (rv.toRow cf)) ops := by
  induction ops with
  | nil => intro rv rv' hw h; simp only [runV] at h; cases h; exact ⟨hw, rfl⟩
  | cons op ops ih =>
    intro rv rv' hw h
    obtain ⟨w1, w2, w3⟩ := hw
    simp only [runV] at h
    cases hs : stepV rv op with
    | error e => rw [hs] at h; cases h
    | ok rv1 =>
      rw [hs] at h
      cases op with
      | slice a b =>
        simp only [stepV] at hs
        obtain ⟨s1, s2, s3⟩ := rowSliceV_sim cf hcf rv rv1 a b w1 hs
        obtain ⟨t1, t2⟩ := rowSlice_spec _ _ w3 a b s1
        obtain ⟨u1, u2⟩ := ih rv1 rv' ⟨s2, s3.trans w2, t1⟩ h
        exact ⟨u1, by rw [u2, t2]; rfl⟩
      | rc =>
        simp only [stepV] at hs
        obtain ⟨s1, s2, s3⟩ := rowRcV_sim cf hcf rv rv1 w1 w2 hs
        obtain ⟨t1, t2⟩ := rowRcWith_spec cf hgap _ _ w3 s1
        obtain ⟨u1, u2⟩ := ih rv1 rv' ⟨s2, s3, t1⟩ h
        exact ⟨u1, by rw [u2, t2]; rfl⟩

end CogentModel.Aln
