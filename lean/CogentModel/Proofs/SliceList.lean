import CogentModel.Proofs.PyRange
/-! Plain-list facts about `slice` / `index`: they commute with `List.map`. -/
namespace CogentModel.PySlice
open CogentModel CogentModel.View

theorem sliceIdx_mem_range_nat (n : Nat) (a b : Option Int) (c : Int) (hc : c ≠ 0) :
    ∀ j ∈ sliceIdx n a b c, 0 ≤ j ∧ j < (n : Int) := by
  have := sliceIdx_mem_range (n : Int) (by omega) a b c hc
  rwa [Int.toNat_natCast] at this

theorem slice_map {α β} [Inhabited α] [Inhabited β] (g : α → β) (xs : List α) (a b : Option Int)
    (c : Int) (hc : c ≠ 0) :
    slice (xs.map g) a b c = (slice xs a b c).map g := by
  unfold slice
  rw [List.length_map, List.map_map]
  apply List.map_congr_left
  intro j hj
  obtain ⟨h0, h1⟩ := sliceIdx_mem_range_nat xs.length a b c hc j hj
  have h : j.toNat < xs.length := by omega
  simp only [Function.comp]
  rw [getElem!_def, getElem!_def, List.getElem?_map, List.getElem?_eq_getElem h]
  rfl

theorem index_map {α β} (g : α → β) (xs : List α) (i : Int) :
    index (xs.map g) i = (index xs i).map g := by
  unfold index
  simp only [List.length_map, List.getElem?_map]
  split
  · rfl
  split
  · rfl
  · rfl

end CogentModel.PySlice
