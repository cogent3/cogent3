/-
  The non-inverted `_GapOffset` (sequence → alignment coordinates) returns the sum of the
  gap lengths at smaller positions, for EVERY query.
-/
import CogentModel.Proofs.GapDict
namespace CogentModel.GapMerge

/-- the store the constructor loop builds from a sorted list: position ↦ gap length before it -/
def cumList : Gaps → Int → Gaps
  | [], _ => []
  | (p, l) :: r, c => (p, c) :: cumList r (c + l)

theorem goLoop_false (s : Gaps) : ∀ (c : Int) (res : Gaps) (gp : Int),
    goLoop false s c res gp = (dsetAll res (cumList s c), c + total s, lastKey s gp) := by
  induction s with
  | nil => intro c res gp; simp [goLoop, cumList, total, lastKey, dsetAll]
  | cons e r ih =>
    intro c res gp
    obtain ⟨p, l⟩ := e
    simp only [goLoop, Bool.false_eq_true, if_false, ih, cumList, dsetAll_cons, total, lastKey, Int.add_assoc]

/-- built from a sorted list, the store is the dict `k ↦ c + (gap length before k)` on the keys of the list -/
theorem cumList_eq (s : Gaps) (hs : SortedLT s) (c : Int) :
    cumList s c = (keys s).map fun k => (k, c + sumLt s k) := by
  induction s generalizing c with
  | nil => rfl
  | cons e r ih =>
    obtain ⟨p, l⟩ := e
    rw [sortedLT_cons] at hs
    rw [cumList, ih hs.2, keys_cons, List.map_cons, sumLt_cons, if_neg (Int.lt_irrefl p),
      sumLt_all_ge r p fun k hk => Int.le_of_lt (hs.1 k hk)]
    congr 1
    · simp
    · exact List.map_congr_left fun k hk => by rw [sumLt_cons, if_pos (hs.1 k hk), Int.add_assoc]

theorem sortedLT_mapKeys (s : Gaps) (hs : SortedLT s) (f : Int → Int) : SortedLT ((keys s).map fun k => (k, f k)) := by
  simp only [SortedLT, keys, List.pairwise_map] at hs ⊢
  exact hs

theorem pyIdx_nat (l : List Int) (i : Nat) : pyIdx l (i : Int) = l.getD i 0 := by
  have : ¬ ((i : Int) < 0) := by omega
  simp [pyIdx, this]

/-- the key `bisect_left` finds (the first one `≥ x`) has the same entries before it as `x` -/
theorem bisect_key (s : Gaps) (hs : SortedLT s) : ∀ x : Int, (∃ k ∈ keys s, x ≤ k) →
    (keys s).getD (bisectLeft (keys s) x) 0 ∈ keys s ∧
      sumLt s ((keys s).getD (bisectLeft (keys s) x) 0) = sumLt s x := by
  induction s with
  | nil => intro x h; obtain ⟨k, hk, _⟩ := h; cases hk
  | cons e r ih =>
    intro x hex
    obtain ⟨p, l⟩ := e
    rw [sortedLT_cons] at hs
    rw [keys_cons, bisectLeft]
    by_cases hlt : p < x
    · have hex' : ∃ k ∈ keys r, x ≤ k := by
        obtain ⟨k, hk, hxk⟩ := hex
        rcases List.mem_cons.mp hk with rfl | hk
        · omega
        · exact ⟨k, hk, hxk⟩
      obtain ⟨hm, hsum⟩ := ih hs.2 x hex'
      rw [if_pos hlt, List.getD_cons_succ, sumLt_cons, sumLt_cons, if_pos hlt, if_pos (hs.1 _ hm), hsum]
      exact ⟨List.mem_cons_of_mem _ hm, rfl⟩
    · have h0 : ∀ y, y ≤ p → sumLt r y = 0 := fun y hy =>
        sumLt_all_ge r y fun k hk => by have := hs.1 k hk; omega
      rw [if_neg hlt, List.getD_cons_zero, sumLt_cons, sumLt_cons, if_neg hlt, if_neg (Int.lt_irrefl p),
        h0 p (Int.le_refl p), h0 x (Int.not_lt.mp hlt)]
      exact ⟨List.mem_cons_self, rfl⟩

theorem lastKey_spec (s : Gaps) (p l d : Int) (hs : SortedLT ((p, l) :: s)) :
    lastKey ((p, l) :: s) d ∈ keys ((p, l) :: s) ∧ ∀ k ∈ keys ((p, l) :: s), k ≤ lastKey ((p, l) :: s) d := by
  induction s generalizing p l d with
  | nil => exact ⟨List.mem_cons_self, fun k hk => Int.le_of_eq (List.mem_singleton.mp hk)⟩
  | cons e r ih =>
    obtain ⟨p', l'⟩ := e
    rw [sortedLT_cons] at hs
    obtain ⟨hm, hle⟩ := ih p' l' p hs.2
    refine ⟨List.mem_cons_of_mem _ hm, fun k hk => ?_⟩
    rcases List.mem_cons.mp hk with rfl | hk
    · exact Int.le_trans (Int.le_of_lt (hs.1 p' List.mem_cons_self)) (hle p' List.mem_cons_self)
    · exact hle k hk

/-- **the sequence→alignment offset**: `_GapOffset(gaps)[x]` is the total length of the gaps at positions `< x` -/
theorem s2a_get (g : Gaps) (hnd : (keys g).Nodup) (x : Int) : (GapOffset.mk' g false).get x = sumLt g x := by
  have hs : SortedLT (sortGaps g) := sortGaps_sorted g hnd
  rw [← sumLt_sortGaps g x]
  have hst := sortedLT_mapKeys _ hs fun k => sumLt (sortGaps g) k
  have hgo : goLoop false (sortGaps g) 0 [] (-1) =
      ((keys (sortGaps g)).map fun k => (k, sumLt (sortGaps g) k), total (sortGaps g), lastKey (sortGaps g) (-1)) := by
    rw [goLoop_false, cumList_eq _ hs]
    simp only [Int.zero_add]
    rw [dsetAll_nil _ (sortedLT_nodup _ hst)]
  have hk : List.map (·.1) ((keys (sortGaps g)).map fun k => (k, sumLt (sortGaps g) k)) = keys (sortGaps g) :=
    keys_mapKeys _ _
  simp only [GapOffset.mk', GapOffset.get, hgo, Bool.false_eq_true, if_false, sortGaps_of_sorted _ hst, dget_mapKeys, hk]
  clear hgo hst hk
  generalize sortGaps g = s at hs ⊢
  cases s with
  | nil => rfl
  | cons e r =>
    obtain ⟨p, l⟩ := e
    rw [if_neg (by simp)]
    by_cases hx : x ∈ keys ((p, l) :: r)
    · rw [if_pos hx]
    · rw [if_neg hx]
      have hs' := (sortedLT_cons p l r).mp hs
      obtain ⟨hlast, hle⟩ := lastKey_spec r p l (-1) hs
      show (if x < p then 0 else if x > lastKey ((p, l) :: r) (-1) then total ((p, l) :: r) else _) = _
      by_cases h1 : x < p
      · rw [if_pos h1]
        exact (sumLt_all_ge _ x fun k hk => by
          rcases List.mem_cons.mp hk with rfl | hk
          · exact Int.le_of_lt h1
          · have := hs'.1 k hk; omega).symm
      · rw [if_neg h1]
        by_cases h2 : x > lastKey ((p, l) :: r) (-1)
        · rw [if_pos h2]
          exact (sumLt_all_lt _ x fun k hk => Int.lt_of_le_of_lt (hle k hk) h2).symm
        · -- the bisect branch: the last key is at or after `x`
          obtain ⟨hm, hsum⟩ := bisect_key _ hs x ⟨_, hlast, Int.not_lt.mp h2⟩
          rw [if_neg h2, pyIdx_nat, if_pos hm, hsum]
          rfl

end CogentModel.GapMerge
