import CogentModel.Model.GeneticCodePrims
import CogentModel.Proofs.GeneticCodeTranslate
/-!
Facts about the Python primitives of `Model/GeneticCodePrims.lean` (dicts as association lists, slices, `range`,
joins) that do not mention the generated definitions of `Gen/C12Code.lean`; the equations between those and the hand
model are in `Props/C12Gen.lean`.
-/
namespace CogentModel.GCP
open CogentModel.GC

theorem lookupD_dictSet {α β} [DecidableEq α] (d : List (α × β)) (k k' : α) (v dflt : β) :
    lookupD (dictSet d k v) k' dflt = if k = k' then v else lookupD d k' dflt := by
  induction d with
  | nil => simp [dictSet, lookupD]
  | cons x r ih =>
    obtain ⟨a, b⟩ := x
    simp only [dictSet]
    by_cases h : a = k
    · subst h; simp only [if_true, lookupD]; split <;> simp_all
    · simp only [h, if_false, lookupD, ih]
      by_cases h2 : a = k'
      · subst h2; simp [Ne.symm h]
      · simp [h2]

theorem lookupD_foldl_dictSet {α β} [DecidableEq α] (kvs : List (α × β)) (d0 : List (α × β)) (k : α) (dflt : β) :
    lookupD (kvs.foldl (fun d kv => dictSet d kv.1 kv.2) d0) k dflt = lookupD kvs.reverse k (lookupD d0 k dflt) := by
  induction kvs generalizing d0 with
  | nil => rfl
  | cons x r ih =>
    simp only [List.foldl_cons, List.reverse_cons, ih, lookupD_append, lookupD_dictSet]
    obtain ⟨a, b⟩ := x
    simp [lookupD]

/-- `dict(zip(keys, values)).get(k, d)` is "the last pair with that key wins" -/
theorem lookupD_dictOfZip {α β} [DecidableEq α] (kvs : List (α × β)) (k : α) (dflt : β) :
    lookupD (dictOfZip kvs) k dflt = dictGet kvs k dflt := by
  simp [dictOfZip, dictGet, lookupD_foldl_dictSet, lookupD]

theorem lookupD_map_val {α β γ} [DecidableEq α] (f : β → γ) (l : List (α × β)) (k : α) (d : β) :
    lookupD (l.map fun p => (p.1, f p.2)) k (f d) = f (lookupD l k d) := by
  induction l with
  | nil => rfl
  | cons x r ih => obtain ⟨a, b⟩ := x; simp only [List.map_cons, lookupD]; split <;> simp [ih]

theorem dictGet_zip_map {α β γ} [DecidableEq α] (f : β → γ) (ks : List α) (vs : List β) (k : α) (d : β) :
    dictGet (ks.zip (vs.map f)) k (f d) = f (dictGet (ks.zip vs) k d) := by
  have : ks.zip (vs.map f) = (ks.zip vs).map fun p => (p.1, f p.2) := by
    rw [List.zip_map_right]; rfl
  rw [this, dictGet, dictGet, ← List.map_reverse, lookupD_map_val]

theorem pyLen_eq1 {α} (s : List α) : (pyLen s = (1 : Int)) ↔ s.length = 1 := by unfold pyLen; omega

theorem pyLen_eq3 {α} (s : List α) : (pyLen s = (3 : Int)) ↔ s.length = 3 := by unfold pyLen; omega

theorem normIdx_nat (n a : Nat) : normIdx n (a : Int) = min a n := by
  unfold normIdx
  have h1 : ¬ ((a:Int) < 0) := by omega
  rw [if_neg h1]
  split <;> omega

theorem normIdx_neg (n d : Nat) (hd : 0 < d) : normIdx n (-(d : Int)) = n - d := by
  unfold normIdx
  have h1 : (-(d:Int) < 0) := by omega
  rw [if_pos h1]
  split <;> omega

theorem drop_min {α} (t : List α) (a n : Nat) (h : t.length ≤ n) : t.drop (min a n) = t.drop a := by
  by_cases ha : a ≤ n
  · rw [Nat.min_eq_left ha]
  · rw [Nat.min_eq_right (by omega), List.drop_eq_nil_of_le h, List.drop_eq_nil_of_le (by omega)]

theorem pySlice_nn {α} (s : List α) (a b : Nat) : pySlice s (some (a:Int)) (some (b:Int)) = (s.take b).drop a := by
  unfold pySlice
  simp only [normIdx_nat]
  rw [← List.take_eq_take_min, drop_min _ _ _ (List.length_take_le' _ _)]

theorem pySlice_n_ {α} (s : List α) (a : Nat) : pySlice s (some (a:Int)) none = s.drop a := by
  unfold pySlice
  simp only [normIdx_nat, List.take_length, drop_min s a _ (Nat.le_refl _)]

theorem pySlice__neg {α} (s : List α) (d : Nat) (hd : 0 < d) : pySlice s none (some (-(d:Int))) = s.take (s.length - d) := by
  unfold pySlice
  simp only [normIdx_neg _ _ hd, List.drop_zero]

theorem pySlice_neg_ {α} (s : List α) (d : Nat) (hd : 0 < d) : pySlice s (some (-(d:Int))) none = s.drop (s.length - d) := by
  unfold pySlice
  simp only [normIdx_neg _ _ hd, List.take_length]

theorem key_eq (item : List Char) : pyReplace1 (pyUpper item) 'U' 'T' = oldKey item := by
  simp [pyReplace1, pyUpper, oldKey]

theorem itemStrs_singletons (l : List Char) : itemStrs (l.map fun c => Item.str [c]) = some (l.map fun c => [c]) := by
  induction l with
  | nil => rfl
  | cons x r ih => simp [itemStrs, ih]

theorem pyJoin_singletons (l : List Char) : pyJoin [] (l.map fun c => [c]) = l := by
  induction l with
  | nil => rfl
  | cons x r ih =>
    cases r with
    | nil => rfl
    | cons y t => simp only [List.map_cons, pyJoin] at ih ⊢; simp [ih]

theorem pyJoinItems_singletons (l : List Char) : pyJoinItems [] (l.map fun c => Item.str [c]) = .ok l := by
  simp [pyJoinItems, itemStrs_singletons, pyJoin_singletons]

theorem drop_cons3 {α} (s : List α) (k : Nat) (h : k + 3 ≤ s.length) :
    ∃ a b c, s.drop k = a :: b :: c :: s.drop (k + 3) ∧
      pySlice s (some (k : Int)) (some ((k : Int) + 3)) = [a, b, c] := by
  have h0 : k < s.length := by omega
  have h1 : k + 1 < s.length := by omega
  have h2 : k + 2 < s.length := by omega
  have hd : s.drop k = s[k] :: s[k+1] :: s[k+2] :: s.drop (k + 3) := by
    rw [List.drop_eq_getElem_cons h0, List.drop_eq_getElem_cons h1, List.drop_eq_getElem_cons h2]
  refine ⟨s[k], s[k+1], s[k+2], hd, ?_⟩
  rw [show ((k : Int) + 3) = ((k + 3 : Nat) : Int) by omega, pySlice_nn, List.drop_take, hd, Nat.add_sub_cancel_left]
  rfl

theorem liftE_bind {α β} (m : Except Err α) (f : α → Except Err β) :
    liftE (m >>= f) = Except.bind (liftE m) (fun a => liftE (f a)) := by
  cases m <;> rfl

theorem mapM_liftE {α β} (f : α → Except Err β) (l : List α) :
    l.mapM (fun x => liftE (f x)) = liftE (l.mapM f) := by
  induction l with
  | nil => rfl
  | cons x r ih =>
    simp only [List.mapM_cons, ih]
    cases f x <;> simp [liftE, bind, Except.bind]
    cases List.mapM f r <;> simp [pure, Except.pure]

theorem foldlM_congr_mem {α β ε} {f g : β → α → Except ε β} : ∀ {l : List α} (b : β), (∀ x ∈ l, ∀ b, f b x = g b x) →
    l.foldlM f b = l.foldlM g b
  | [], _, _ => rfl
  | x :: xs, b, h => by
    simp only [List.foldlM_cons]
    rw [h x (by simp)]
    exact bind_congr fun b' => foldlM_congr_mem b' fun y hy => h y (by simp [hy])

/-- `is_stop` of either implementation is `gc[codon] == "*"` on the result of its `__getitem__` -/
theorem isStop_of_getitem {r : Except PyErr Item} {getItem : List Char → Char} {codon : List Char} {l : List (List Char)}
    (h : r = if codon.length = 1 then .ok (.strs l)
      else if codon.length = 3 then .ok (.str [getItem codon]) else .error .invalidCodon) :
    Except.bind r (fun t => .ok (decide (Item.eqStr t ['*'] = true))) = liftE (isStopEnd getItem codon) := by
  subst h
  unfold isStopEnd
  by_cases h1 : codon.length = 1
  · simp [h1, Except.bind, Item.eqStr, liftE]
  · by_cases h3 : codon.length = 3
    · simp [h3, Except.bind, Item.eqStr, liftE]
    · simp [h1, h3, Except.bind, liftE, liftErr]

theorem pyRange3 : pyRange 0 3 1 = [0, 1, 2] := by decide

theorem fmod3 (n : Nat) : Int.fmod (n : Int) 3 = ((n % 3 : Nat) : Int) := by
  rw [Int.fmod_eq_emod_of_nonneg _ (by omega)]; omega

theorem pySlice_m3 {α} (s : List α) : pySlice s (some (-(3 : Int))) none = s.drop (s.length - 3) :=
  pySlice_neg_ s 3 (by omega)

theorem pySlice__m3 {α} (s : List α) : pySlice s none (some (-(3 : Int))) = s.take (s.length - 3) :=
  pySlice__neg s 3 (by omega)

theorem fmod3_zero (n : Nat) : (Int.fmod (n : Int) 3 = 0) ↔ n % 3 = 0 := by rw [fmod3]; omega

theorem gapRuns_none (gap : Char) (s : List Char) (h : gap ∉ s) (b : Bool) : gapRuns gap s b = 0 := by
  induction s generalizing b with
  | nil => rfl
  | cons x r ih =>
    have hx : x ≠ gap := fun e => h (by simp [e])
    have hr : gap ∉ r := fun e => h (by simp [e])
    simp [gapRuns, hx, ih hr]

theorem filter_nogap (gap : Char) (s : List Char) (h : gap ∉ s) : s.filter (fun c => c ≠ gap) = s := by
  rw [List.filter_eq_self]
  intro a ha
  simp
  intro e; exact h (e ▸ ha)

def GapFree (q : NSeq) : Prop := q.gap ∉ q.chars

theorem numGaps_of_gapFree {q : NSeq} (hq : GapFree q) : q.numGaps = 0 := by
  unfold NSeq.numGaps; rw [gapRuns_none _ _ hq]; rfl

/-- `trim_stop_codon` of either implementation after its `has_terminal_stop` and `is_stop` calls have been replaced by
the hand model and the number of gaps by 0; `gapped` is the regular-expression branch, which is then never taken -/
theorem trim_of_has_stop {getItem : List Char → Char} (q : NSeq) (strict : Bool) (gapped : Except PyErr NSeq) :
    ((liftE (hasTerminalStop getItem q.chars strict)).bind fun t1 =>
      if ¬t1 = true then .ok q
      else if ¬q.chars.length % 3 = 0 then .ok q
      else (liftE (isStopEnd getItem (q.chars.drop (q.chars.length - 3)))).bind fun t2 =>
        if ¬t2 = true then .ok q
        else if ¬(0 : Int) ≠ 0 then .ok (q.withStr (q.chars.take (q.chars.length - 3))) else gapped) =
      liftE ((trimStopCodon getItem q.chars strict).map q.withStr) := by
  unfold trimStopCodon hasTerminalStop
  by_cases h3 : q.chars.length % 3 = 0
  · simp only [h3, if_true, lastN]
    cases isStopEnd getItem (q.chars.drop (q.chars.length - 3)) with
    | error e => rfl
    | ok b => cases b <;> rfl
  · simp only [h3, if_false]
    cases strict <;> rfl

def chunks3 : List Char → List (List Char)
  | a :: b :: c :: rest => [a, b, c] :: chunks3 rest
  | _ => []

theorem chunks3_eq : chunks3 = codonMap fun a b c => [a, b, c] :=
  funext (codonMap_unique rfl (fun _ => rfl) (fun _ _ => rfl) fun _ _ _ _ => rfl)

theorem length_of_mem_chunks3 {d w : List Char} (h : w ∈ chunks3 d) : w.length = 3 := by
  rw [chunks3_eq] at h
  obtain ⟨a, _, b, _, c, _, rfl⟩ := mem_codonMap h
  rfl

theorem oldCodons_chunks3 (seq d : List Char) : oldCodons seq d = (chunks3 d).map (oldGetItem seq) := by
  rw [oldCodons_eq]
  exact (codonMap_unique (F := fun d => (chunks3 d).map (oldGetItem seq)) rfl (fun _ => rfl) (fun _ _ => rfl)
    (fun _ _ _ _ => rfl) d).symm

/-- `[s[i:i+3] for i in range(k, len(s) - 2, 3)]`, one step per complete codon, lists the successive codons of `s[k:]` -/
theorem range_slices (s : List Char) : ∀ (n k : Nat), 3 * n ≤ s.length - k → s.length - k < 3 * n + 3 → k ≤ s.length →
    (pyRangeAux n (k : Int) 3).map (fun i => pySlice s (some i) (some (i + 3))) = chunks3 (s.drop k)
  | 0, k, _, h2, _ => by rw [chunks3_eq, codonMap_short _ _ (by simp; omega)]; rfl
  | n + 1, k, h1, h2, h3 => by
    obtain ⟨a, b, c, hd, hs⟩ := drop_cons3 s k (by omega)
    have ih := range_slices s n (k + 3) (by omega) (by omega) (by omega)
    rw [show (((k + 3 : Nat) : Int)) = (k : Int) + 3 by omega] at ih
    rw [pyRangeAux, List.map_cons, ih, hs, hd]
    rfl

/-- `range(k, len(s) - 2, 3)` has one step per complete codon of `s[k:]` -/
theorem pyRange_codons {α} (s : List α) (k : Nat) (hk : k ≤ s.length) :
    pyRange (k : Int) (pyLen s - 2) 3 = pyRangeAux ((s.length - k) / 3) (k : Int) 3 := by
  unfold pyRange pyLen
  rw [if_pos (by omega)]
  congr 1
  omega

end CogentModel.GCP
