import CogentModel.Model.View
/-! The representation invariant of slice records, and the constructor's normalisation in
closed form: `_input_vals_pos_step` / `_input_vals_neg_step` clamp the bounds the way
`slice.indices` does and collapse an empty range to `(0, 0, 1)`. -/
namespace CogentModel.View

/-- The representation invariant of slice records: forward views hold
non-negative in-range bounds, reversed views hold negative indices. -/
def Inv (v : View) : Prop :=
  0 ≤ v.seqLen ∧
  ((0 < v.step ∧ 0 ≤ v.start ∧ v.start ≤ v.stop ∧ v.stop ≤ v.seqLen) ∨
   (v.step < 0 ∧ -v.seqLen - 1 ≤ v.stop ∧ v.stop ≤ v.start ∧ v.start ≤ -1))

instance (v : View) : Decidable (Inv v) := by unfold Inv; infer_instance

theorem Inv.step_ne_zero {v : View} (h : Inv v) : v.step ≠ 0 := by
  rcases h with ⟨_, hI | hI⟩ <;> omega

/-- a bound of `slice.indices(n)` for a positive step: into `[0, n]` -/
def clampP (x n : Int) : Int := if x < 0 then max (x + n) 0 else min x n
/-- a bound of `slice.indices(n)` for a negative step: into `[-1, n - 1]` -/
def clampN (x n : Int) : Int := if x < 0 then max (x + n) (-1) else min x (n - 1)

theorem clampP_mem (x n : Int) (hn : 0 ≤ n) : 0 ≤ clampP x n ∧ clampP x n ≤ n := by
  unfold clampP; omega

theorem clampN_mem (x n : Int) (hn : 0 ≤ n) : -1 ≤ clampN x n ∧ clampN x n ≤ n - 1 := by
  unfold clampN; omega

theorem clampP_of_mem {x n : Int} (h0 : 0 ≤ x) (h1 : x ≤ n) : clampP x n = x := by
  unfold clampP; omega

theorem clampN_of_neg {x n : Int} (h0 : -n - 1 ≤ x) (h1 : x ≤ -1) : clampN x n = x + n := by
  unfold clampN; omega

theorem clampP_zero (x : Int) : clampP x 0 = 0 := by unfold clampP; omega
theorem clampN_zero (x : Int) : clampN x 0 = -1 := by unfold clampN; omega

theorem inputValsPos_eq (n : Int) (hn : 0 ≤ n) (a b : Option Int) (K : Int) :
    inputValsPos n a b K =
      if clampP (a.getD 0) n < clampP (b.getD n) n
      then (clampP (a.getD 0) n, clampP (b.getD n) n, K) else (0, 0, 1) := by
  have hab : inputValsPos n a b K = inputValsPos n (some (a.getD 0)) (some (b.getD n)) K := by
    cases a <;> cases b <;> rfl
  rw [hab]
  generalize a.getD 0 = s
  generalize b.getD n = e
  have hs := clampP_mem s n hn
  have he := clampP_mem e n hn
  unfold inputValsPos pyabs
  simp only []
  -- the two early returns are the cases where a clamp saturates at the far end
  by_cases h1 : s > 0 ∧ s ≥ n
  · have : clampP s n = n := by unfold clampP; omega
    rw [if_pos h1, if_neg (by omega)]
  rw [if_neg h1]
  by_cases h2 : e < 0 ∧ (if e < 0 then -e else e) ≥ n
  · have : clampP e n = 0 := by unfold clampP; omega
    rw [if_pos h2, if_neg (by omega)]
  rw [if_neg h2]
  have es : (if s < 0 then max (n + s) 0 else s) = clampP s n := by unfold clampP; omega
  have ee : (if e > 0 then min n e else if e < 0 then e + n else e) = clampP e n := by
    unfold clampP; omega
  rw [es, ee]
  by_cases h3 : clampP s n < clampP e n
  · rw [if_neg (by omega), if_pos h3]
  · rw [if_pos (by omega), if_neg h3]

theorem inputValsNegTail_eq (n : Int) (hn : 0 ≤ n) (s : Int) (hs : s ≤ -1) (b : Option Int) (K : Int) :
    inputValsNegTail n s b K =
      if n ≤ b.getD (-n - 1) ∨ s < clampN (b.getD (-n - 1)) n - n then (0, 0, 1)
      else (s, clampN (b.getD (-n - 1)) n - n, K) := by
  have hb : inputValsNegTail n s b K = inputValsNegTail n s (some (b.getD (-n - 1))) K := by
    cases b
    · simp only [inputValsNegTail, Option.getD_none, if_neg (show ¬ -n - 1 ≥ 0 by omega)]
    · rfl
  rw [hb]
  generalize b.getD (-n - 1) = e
  unfold inputValsNegTail
  simp only []
  by_cases h : n ≤ e
  · rw [if_pos (by omega), if_pos (Or.inl h)]
  · have ee : max (if e ≥ 0 then e - n else e) (-n - 1) = clampN e n - n := by unfold clampN; omega
    rw [ee]
    simp only [h, false_or]

/-- Negative indices are the clamped `slice.indices` bounds shifted by `-n`.  A stop at or
beyond `n` is not clamped by the code, it empties the range; so does a start below `-n`. -/
theorem inputValsNeg_eq (n : Int) (hn : 0 ≤ n) (a b : Option Int) (K : Int) :
    inputValsNeg n a b K =
      if a.getD n < -n ∨ n ≤ b.getD (-n - 1) ∨ clampN (a.getD n) n < clampN (b.getD (-n - 1)) n
      then (0, 0, 1) else (clampN (a.getD n) n - n, clampN (b.getD (-n - 1)) n - n, K) := by
  have ha : inputValsNeg n a b K = inputValsNeg n (some (a.getD n)) b K := by
    cases a
    · simp only [inputValsNeg, Option.getD_none, if_pos (Int.le_refl n)]
    · rfl
  rw [ha]
  generalize a.getD n = s
  have hc := clampN_mem s n hn
  have key : inputValsNeg n (some s) b K =
      if s < -n then (0, 0, 1) else inputValsNegTail n (clampN s n - n) b K := by
    unfold inputValsNeg
    simp only []
    by_cases h1 : s ≥ n
    · rw [if_pos h1, if_neg (by omega), show clampN s n - n = -1 by unfold clampN; omega]
    by_cases h2 : s ≥ 0
    · rw [if_neg h1, if_pos h2, if_neg (by omega), show clampN s n - n = s - n by unfold clampN; omega]
    by_cases h3 : s < -n
    · rw [if_neg h1, if_neg h2, if_pos h3, if_pos h3]
    · rw [if_neg h1, if_neg h2, if_neg h3, if_neg h3, show clampN s n - n = s by unfold clampN; omega]
  rw [key, inputValsNegTail_eq n hn _ (by omega)]
  by_cases h0 : s < -n
  · rw [if_pos h0, if_pos (Or.inl h0)]
  · simp only [h0, if_false, false_or, Int.sub_lt_sub_right_iff]

theorem sliceStep_ne_zero {c : Option Int} (hc : c ≠ some 0) : c.getD 1 ≠ 0 := by
  cases c with
  | none => exact Int.one_ne_zero
  | some s => exact fun e => hc (congrArg some e)

theorem mk_inv' (n : Int) (hn : 0 ≤ n) (start stop step : Option Int) (offset : Int) (v : View)
    (h : mk n start stop step offset = .ok v) : Inv v := by
  unfold mk at h
  split at h
  · cases h
  · rename_i hs
    rw [← Except.ok.inj h]
    refine ⟨hn, ?_⟩
    by_cases hpos : step.getD 1 > 0
    · have ha := clampP_mem (start.getD 0) n hn
      have hb := clampP_mem (stop.getD n) n hn
      simp only [if_pos hpos, inputValsPos_eq n hn]
      split <;> simp only []
      · exact Or.inl ⟨hpos, by omega⟩
      · exact Or.inl (by omega)
    · have hneg : step.getD 1 < 0 := by
        have := sliceStep_ne_zero hs
        omega
      have ha := clampN_mem (start.getD n) n hn
      have hb := clampN_mem (stop.getD (-n - 1)) n hn
      simp only [if_neg hpos, inputValsNeg_eq n hn]
      split <;> simp only []
      · exact Or.inl (by omega)
      · exact Or.inr ⟨hneg, by omega⟩

theorem zero_inv (fl : Flavour) (v : View) (h : Inv v) : Inv (zero fl v) := by
  cases fl <;> simp [zero, zeroSlice, zeroSliceData, Inv] <;> exact h.1

end CogentModel.View
