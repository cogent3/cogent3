/-
  The best-cell scan of the local alignment and the local optimality statements.
-/
import CogentModel.Proofs.PairHMMGlobal
namespace CogentModel.PairHMM
set_option linter.unusedSectionVars false

variable {S : Type} [Add S] [LT S] [DecidableLT S] [ScoreLaws S]

theorem bestInCell_isMax (i j : Nat) (ds : List (Bool × Bool)) :
    ∀ (cs : Cell S) (s : Nat) (cur : Option S × Nat × Nat × Nat),
    IsMax (·.1) (fun c => ∃ q d x, ds[q]? = some d ∧ cs[q]? = some x ∧ (d.1 && d.2) = true ∧ c = (x.1, i, j, q + s))
      cur (bestInCell i j ds cs s cur) := by
  induction ds with
  | nil => intro cs s cur; exact .refl cur fun c ⟨q, d, x, hd, _⟩ => by simp at hd
  | cons d ds ih =>
    intro cs s cur
    cases cs with
    | nil => exact .refl cur fun c ⟨q, d, x, _, hx, _⟩ => by simp at hx
    | cons x cs =>
      refine (IsMax.step_if (d.1 && d.2) cur (x.1, i, j, s)).append (ih cs (s + 1) _) fun c => ⟨?_, ?_⟩
      · rintro ⟨q, d', x', hd, hx, hm, rfl⟩
        cases q with
        | zero =>
          obtain rfl : d = d' := Option.some.inj hd
          obtain rfl : x = x' := Option.some.inj hx
          exact Or.inl ⟨hm, by rw [Nat.zero_add]⟩
        | succ q => exact Or.inr ⟨q, d', x', hd, hx, hm, by rw [Nat.add_right_comm]; rfl⟩
      · rintro (⟨hm, rfl⟩ | ⟨q, d', x', hd, hx, hm, rfl⟩)
        · exact ⟨0, d, x, rfl, rfl, hm, by rw [Nat.zero_add]⟩
        · exact ⟨q + 1, d', x', hd, hx, hm, by rw [Nat.add_right_comm]; rfl⟩

/-- **the best cell of the local table**: the maximum over all cells `(a, b)` and match states `s` of the stored
value, or the initial `-inf` -/
theorem bestInTable_isMax (h : HMM S) (n m : Nat) :
    IsMax (·.1) (fun c => ∃ a b s, a ≤ n ∧ b ≤ m ∧ 1 ≤ s ∧ s ≤ h.k ∧ isMatch h s = true ∧
        c = (val h true m a b s, a, b, s)) (none, 0, 0, 0)
      (bestInTable h.dirs (tableOf h true n m) 0 (none, 0, 0, 0)) := by
  refine (isMax_scan (g := bestInTable h.dirs) (fun i r cur =>
    isMax_scan (g := bestInRow h.dirs i) (fun j c cur => bestInCell_isMax i j h.dirs c 1 cur)
      (fun _ _ => rfl) (fun _ _ _ _ => rfl) r 0 cur) (fun _ _ => rfl) (fun _ _ _ _ => rfl) _ 0 _).of_iff
    fun c => ⟨?_, ?_⟩
  · rintro ⟨a, b, s, ha, hb, hs1, hsk, hm, rfl⟩
    obtain ⟨q, rfl⟩ : ∃ q, s = q + 1 := ⟨s - 1, (Nat.sub_add_cancel hs1).symm⟩
    exact ⟨a, _, tableOf_getElem?.mpr ⟨ha, rfl⟩, b, _, Vrow_getElem?.mpr ⟨hb, rfl⟩, q, _, _,
      (getElem?_eq_some_getD (false, false)).mpr ⟨hsk, rfl⟩, (V_getElem? hb).mpr ⟨hsk, rfl⟩, hm, rfl⟩
  · rintro ⟨a, row, hrow, b, cell, hcell, q, d, x, hd, hx, hm, rfl⟩
    obtain ⟨ha, rfl⟩ := tableOf_getElem?.mp hrow
    obtain ⟨hb, rfl⟩ := Vrow_getElem?.mp hcell
    obtain ⟨hq, rfl⟩ := (V_getElem? hb).mp hx
    obtain ⟨-, rfl⟩ := (getElem?_eq_some_getD (false, false)).mp hd
    exact ⟨a, b, q + 1, ha, hb, Nat.le_add_left 1 q, hq, hm, rfl⟩

theorem viterbiLocal_score (h : HMM S) (n m : Nat) :
    (viterbiLocal h n m).score = (bestInTable h.dirs (tableOf h true n m) 0 (none, 0, 0, 0)).1 := by
  simp only [viterbiLocal]
  split <;> simp [*]

/-- **no local path scores above the local DP value** -/
theorem local_upper (h : HMM S) (n m i0 j0 : Nat) (p : List Nat) (hp : IsLocalPath h n m i0 j0 p) :
    ele (prefixScore h i0 j0 p) (viterbiLocal h n m).score := by
  obtain ⟨hst, hne, hhead, hlast, hc1, hc2⟩ := hp
  obtain ⟨s, p', rfl⟩ := List.exists_cons_of_ne_nil hne
  simp only [List.headD_cons, isMatch, Bool.and_eq_true] at hhead
  have hdx : 1 ≤ i0 + (h.dir s).1.toNat := by rw [hhead.1]; exact Nat.le_add_left 1 i0
  have hdy : 1 ≤ j0 + (h.dir s).2.toNat := by rw [hhead.2]; exact Nat.le_add_left 1 j0
  have hcells : cellsOK h true i0 j0 (s :: p') := ⟨cellOK_pos hdx hdy, cellsOK_pos h p' _ _ hdx hdy⟩
  have hle := prefixScore_le h true m i0 j0 _ hne hst (by simp [canStart, hhead.1, hhead.2]) hc2 hcells
  rw [viterbiLocal_score]
  have hl := hst _ (lastState_mem hne)
  exact ele_trans hle ((bestInTable_isMax h n m).ge_cand _ ⟨_, _, _, hc1, hc2, hl.1, hl.2.1, hlast, rfl⟩)

/-- a local path starts in a match state: a restart needs one, and `(0, 0)` leads to a computed cell only by one -/
theorem start_isMatch {i0 j0 : Nat} {d : Bool × Bool} (hst : canStart true i0 j0 d = true)
    (hc : cellOK true (i0 + d.1.toNat) (j0 + d.2.toNat) = true) : (d.1 && d.2) = true := by
  obtain ⟨dx, dy⟩ := d
  cases dx <;> cases dy <;> simp_all [canStart, cellOK]

/-- the local traceback: a finite local DP value comes with a returned path that is a local path and whose
spec score is that value -/
theorem local_attained (h : HMM S) (hns : NoSilent h) (n m : Nat) (v : S)
    (hv : (viterbiLocal h n m).score = some v) :
    ∃ p i0 j0, (viterbiLocal h n m).path = some (annotate h i0 j0 p) ∧ IsLocalPath h n m i0 j0 p ∧
      prefixScore h i0 j0 p = some v := by
  have hsc := viterbiLocal_score h n m
  rw [hv] at hsc
  rcases (bestInTable_isMax h n m).mem with hb | ⟨a, b, s, han, hbm, hs1, hsk, hm, hb⟩
  · rw [hb] at hsc; cases hsc
  · rw [hb] at hsc
    obtain ⟨p, i0, j0, htr, sp⟩ := trace_ok h true m hns (n + m + 1) a b s v [] hbm hs1 hsk hsc.symm
      (Nat.succ_le_succ (Nat.add_le_add han hbm))
    refine ⟨p, i0, j0, ?_, ?_, sp.score⟩
    · simp only [viterbiLocal, hb, ← hsc]
      rw [traceFrom_congr h (look (tableOf h true n m)) (V h true m) (n + m + 1) a b _ []
        (fun x y hx => look_tableOf h true n m x y (Nat.le_trans hx han))]
      simpa using htr
    · obtain ⟨s0, p', rfl⟩ := List.exists_cons_of_ne_nil sp.nonempty
      exact ⟨sp.states, sp.nonempty, start_isMatch sp.start sp.cells.1, sp.last ▸ hm,
        by rw [sp.consumed]; exact han, by rw [sp.consumed]; exact hbm⟩

end CogentModel.PairHMM
