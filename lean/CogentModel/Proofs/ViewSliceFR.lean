import CogentModel.Proofs.ViewSem
import CogentModel.Proofs.LatticeSlice
/-! Direction lemma: positive slice step on a reversed view (`fwdFromRev`). -/
namespace CogentModel.View
open CogentModel CogentModel.PySlice

theorem fwdFromRev_eq (fl : Flavour) (v : View) (ss se c S E0 : Int)
    (hS : S = if ss ≥ 0 then v.start + ss * v.step else if pyabs ss > len v then v.start
               else v.start + len v * v.step + ss * v.step)
    (hE0 : E0 = if se ≥ 0 then v.start + se * v.step else v.start + len v * v.step + se * v.step) :
    fwdFromRev fl v ss se c =
      if S ≥ 0 ∨ E0 ≥ 0 then .ok (zero fl v)
      else remk v S (max v.stop E0) (v.step * c) := by
  subst hS hE0; rfl

theorem fwdFromRev_elems (fl : Flavour) (v w : View) (ss se c : Int) (h : Inv v) (hk : v.step < 0)
    (hc : 0 < c) (hw : fwdFromRev fl v ss se c = .ok w) :
    elems w = (rangeList (clampP ss (len v)) (clampP se (len v)) c).map fun j => first v + j * v.step := by
  have hN := h.1
  obtain ⟨_, i0, i1, i2⟩ := h.2.resolve_left fun hl => absurd hl.1 (by omega)
  have hn := len_nonneg v
  have hK : v.step * c < 0 := Int.mul_neg_of_neg_of_pos hk hc
  rw [first, if_neg (show ¬ v.step > 0 by omega), ← lattice_sliceP_desc (v.start + v.seqLen) v.step (len v)
    (v.stop + v.seqLen) c ss se hk hc hn (by rw [Int.add_sub_add_right]; exact len_isCeil_rev v hk i1)]
  have hS : v.start + max (wrapIdx ss (len v)) 0 * v.step =
      if ss ≥ 0 then v.start + ss * v.step else if pyabs ss > len v then v.start
      else v.start + len v * v.step + ss * v.step := by
    unfold wrapIdx pyabs
    by_cases h1 : ss ≥ 0
    · rw [if_pos h1, if_pos h1, Int.max_eq_left h1]
    · rw [if_neg h1, if_neg h1, if_pos (show ss < 0 by omega)]
      by_cases h2 : -ss > len v
      · rw [if_pos h2, Int.max_eq_right (by omega), Int.zero_mul, Int.add_zero]
      · rw [if_neg h2, Int.max_eq_left (by omega), Int.add_mul, Int.add_assoc]
  have hS0 : max (wrapIdx ss (len v)) 0 * v.step ≤ 0 :=
    Int.mul_nonpos_of_nonneg_of_nonpos (Int.le_max_right ..) (Int.le_of_lt hk)
  rw [fwdFromRev_eq fl v ss se c _ _ hS rfl, pos_wrapIdx] at hw
  generalize max (wrapIdx ss (len v)) 0 * v.step = Q at *
  generalize wrapIdx se (len v) * v.step = P at *
  clear hS
  split at hw
  · rw [← Except.ok.inj hw, rangeList_nil_neg _ _ _ hK (by omega)]
    exact elems_nil_of_len _ (len_zero fl v)
  · rw [remk_neg_elems v w _ _ _ h hK (by omega) (by omega) (by omega) hw]
    congr 1 <;> omega

end CogentModel.View
