import CogentModel.Proofs.AlnSim
import CogentModel.Proofs.AlnMotif
/-! C03: histories in which the filter predicate is evaluated by the model (`AOp2`). -/
namespace CogentModel.Aln
open CogentModel.IndelMap CogentModel.Gapped List CogentModel

/-- operations of the extended histories covered by the theorem -/
def Op2OK : AOp2 → Prop
  | .base op => OpOK op
  | .filtered _ _ _ => True

theorem foldl_max_congr {α β} (f : α → Int) (g : β → Int) (xs : List α) (ys : List β) (m : Int)
    (h : xs.map f = ys.map g) : xs.foldl (fun m p => max m (f p)) m = ys.foldl (fun m p => max m (g p)) m :=
  (foldl_map (f := f) (g := max)).symm.trans (h ▸ foldl_map (f := g) (g := max))

theorem seqLen_show (a : AlnA) (hwf : AllWF a) : seqLenD (showA a) = seqLenA a := by
  unfold seqLenD seqLenA
  symm
  apply foldl_max_congr
  unfold showA
  rw [map_map]
  apply map_congr_left
  intro p hp
  simp only [Function.comp]
  exact (length_gapped p.2 (hwf p hp)).symm

/-- the column mask of `filtered(pred, ml)` on the displayed rows `rows`: every motif verdict `ml` times -/
def filterMaskOf (pred : List (List Char) → Bool) (ml : Nat) (rows : List (List Char)) : List Bool :=
  expandMask ml (verdicts pred ml (numMotifs ml rows) rows)

/-- past its two refusals, `filtered` with the predicate evaluated is the `filterMask` step at that mask: on the
annotatable class because the `kept` toggle builds the run-length blocks of the mask -/
theorem stepA2_filtered (dna : Bool) (a : AlnA) (pred : List (List Char) → Bool) (ml : Nat) (drop : Bool)
    (hml : ml ≠ 0) (hrem : ¬(Int.fmod (seqLenA a) (ml : Int) ≠ 0 ∧ drop = false)) :
    stepA2 dna a (.filtered pred ml drop) =
      stepA dna a (.filterMask (filterMaskOf pred ml (a.map fun p => gapped p.2))) := by
  simp only [stepA2, stepA, filterMaskOf, if_neg hml, if_neg hrem]
  rw [motifRuns_eq ml (Nat.pos_of_ne_zero hml) _ 0 none, Nat.zero_mul]
  rfl

/-- … on the strings because every row holds the motifs the verdicts speak of, so that taking the columns of the
mask joins the kept motifs -/
theorem stepD2_filtered (dna : Bool) (d : AlnD) (pred : List (List Char) → Bool) (ml : Nat) (drop : Bool)
    (hml : ml ≠ 0) (hrem : ¬(Int.fmod (seqLenD d) (ml : Int) ≠ 0 ∧ drop = false)) :
    stepD2 dna d (.filtered pred ml drop) = stepD dna d (.filterMask (filterMaskOf pred ml (d.map (·.2)))) := by
  simp only [stepD2, stepD, filterMaskOf, if_neg hml, if_neg hrem, expandMask_all ml (Nat.pos_of_ne_zero hml)]
  congr 4
  refine map_congr_left fun (p : String × List Char) hp => congrArg (p.1, ·) (denseFilter_expand ml _ p.2 ?_).symm
  rw [verdicts_length]
  exact numMotifs_le ml _ p.2 (mem_map_of_mem hp)

/-- **one step of an extended history refines** (for EVERY predicate on motif columns): `Alignment.filtered`
— predicate evaluated on the motif columns of the displayed rows, `kept` toggle, FeatureMap of the blocks,
`gapped_by_map` — shows the kept motifs of every displayed string joined, and refuses / returns `None`
exactly when the string operation does -/
theorem step2_refines (dna : Bool) (a : AlnA) (op : AOp2) (hop : Op2OK op) (hwf : AllWF a) :
    Refines (stepA2 dna a op) (stepD2 dna (showA a) op) := by
  cases op with
  | base op => exact step_refines dna a op hop hwf
  | filtered pred ml drop =>
    by_cases hml : ml = 0
    · simp only [stepA2, if_pos hml]
      exact .error _ _
    by_cases hrem : Int.fmod (seqLenA a) (ml : Int) ≠ 0 ∧ drop = false
    · simp only [stepA2, if_neg hml, if_pos hrem]
      exact .error _ _
    have hrows : (showA a).map (·.2) = a.map fun p => gapped p.2 := by
      rw [showA, map_map]
      rfl
    rw [stepA2_filtered dna a pred ml drop hml hrem,
      stepD2_filtered dna _ pred ml drop hml (seqLen_show a hwf ▸ hrem), hrows]
    exact step_refines dna a _ trivial hwf

theorem run2_refines (ops : List AOp2) : ∀ (dna : Bool) (a : AlnA), (∀ op ∈ ops, Op2OK op) → AllWF a →
    Refines (runA2 dna a ops) (runD2 dna (showA a) ops) := by
  induction ops with
  | nil => exact fun dna a _ hwf => .ok hwf dna
  | cons op ops ih =>
    exact fun dna a hok hwf => (step2_refines dna a op (hok op mem_cons_self) hwf).seq
      fun a1 d1 w1 => ih d1 a1 (fun o ho => hok o (mem_cons_of_mem _ ho)) w1

end CogentModel.Aln
