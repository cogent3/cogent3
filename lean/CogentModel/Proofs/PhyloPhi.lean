import CogentModel.Proofs.PhyloBasic
/-! C09: bipartition predicates — every additive functional of the bipartitions is a function
of the split multiset. -/
namespace CogentModel.Phylo
open PTree
variable {K : Type}

namespace BipPred

theorem mono {T T' : List String} {φ : List String → Bool} (h : BipPred T' φ)
    (hsub : ∀ x ∈ T', x ∈ T) : BipPred T φ :=
  ⟨fun A B hAB => h.congr A B fun x hx => hAB x (hsub x hx),
   fun A B hAB => h.compl A B fun x hx => hAB x (hsub x hx), h.empty⟩

theorem of_mem_iff {T T' : List String} {φ : List String → Bool} (h : BipPred T' φ)
    (hsub : ∀ x, x ∈ T' ↔ x ∈ T) : BipPred T φ := h.mono fun x hx => (hsub x).1 hx

/-- no member of `T` on the side: rejected -/
theorem none_in {T : List String} {φ : List String → Bool} (h : BipPred T φ) (A : List String)
    (hA : ∀ x ∈ T, x ∉ A) : φ A = false := by
  rw [h.congr A [] (fun x hx => by simp [hA x hx])]; exact h.empty

/-- all of `T` on the side: rejected -/
theorem all_in {T : List String} {φ : List String → Bool} (h : BipPred T φ) (A : List String)
    (hA : ∀ x ∈ T, x ∈ A) : φ A = false := by
  rw [h.compl A [] (fun x hx => by simp [hA x hx])]; exact h.empty

end BipPred

theorem bipPred_sep (T : List String) (a b : String) (ha : a ∈ T) (hb : b ∈ T) : BipPred T (sep a b) := by
  refine ⟨fun A B h => ?_, fun A B h => ?_, by simp [sep]⟩
  · exact bipEquiv_same h a ha b hb
  · exact bipEquiv_compl h a ha b hb

def Proper (T A : List String) : Prop := (∃ a ∈ T, a ∈ A) ∧ (∃ b ∈ T, b ∉ A)

theorem sepAll_congr_right {T B C : List String} (A : List String) (h : bipEquiv T B C) :
    sepAll T A B = sepAll T A C := by
  rw [Bool.eq_iff_iff, sepAll_iff, sepAll_iff]
  exact ⟨fun hh => bipEquiv_trans hh h, fun hh => bipEquiv_trans hh (bipEquiv_symm h)⟩

theorem bipPred_sepAll (T A : List String) (hA : Proper T A) : BipPred T (sepAll T A) := by
  refine ⟨fun B C h => sepAll_congr_right A (bipEquiv_same h),
    fun B C h => sepAll_congr_right A (bipEquiv_compl h), Bool.eq_false_iff.2 fun hs => ?_⟩
  obtain ⟨⟨a, haT, haA⟩, ⟨b, hbT, hbA⟩⟩ := hA
  have := (sepAll_iff T A []).1 hs a haT b hbT
  simp [sep, haA, hbA] at this

theorem BipPred.of_bipEquiv {T : List String} {φ : List String → Bool} (h : BipPred T φ)
    {A B : List String} (hAB : bipEquiv T A B) : φ A = φ B := by
  rcases bipEquiv_cases T A B hAB with h1 | h1
  · exact h.congr A B h1
  · exact h.compl A B h1

section
variable [AddCommMonoid K]

theorem splitW_eq_phiW (d : K) (a b : String) : splitW d a b = phiW d (sep a b) := rfl

theorem distSpec_eq_topoWeight (d : K) (a b : String) (t : PTree K) :
    distSpec d a b t = topoWeight d (sep a b) t := rfl

namespace SplitsEquiv

/-- every bipartition functional is a function of the split multiset -/
theorem phi_sum_eq {T : List String} (d : K) {φ : List String → Bool} (hφ : BipPred T φ)
    {l l' : List (Split K)} (h : SplitsEquiv T l l') : sumBy (phiW d φ) l = sumBy (phiW d φ) l' := by
  induction h with
  | nil => rfl
  | cons hs _ ih =>
    simp only [sumBy, ih]
    congr 1
    unfold phiW
    rw [hφ.of_bipEquiv hs.2.2, hs.2.1]
  | swap x y l => simp only [sumBy]; abel
  | trans _ _ ih1 ih2 => exact ih1.trans ih2

end SplitsEquiv

theorem topoWeight_of_splitsEquiv (d : K) (T : List String) (t r : PTree K) (φ : List String → Bool)
    (hφ : BipPred T φ) (h : SplitsEquiv T (splits t) (splits r)) : topoWeight d φ r = topoWeight d φ t :=
  (SplitsEquiv.phi_sum_eq d hφ h).symm

namespace SameSplits

/-- … so trees with the same splits agree on every bipartition functional -/
theorem topo {t r : PTree K} (h : SameSplits t r) (hnd : (tips t).Nodup) (d : K)
    (φ : List String → Bool) (hφ : BipPred (tips t) φ) : topoWeight d φ r = topoWeight d φ t :=
  topoWeight_of_splitsEquiv d _ t r φ hφ (h.2 hnd)

end SameSplits

/-- … in particular the distance -/
theorem dist_of_splitsEquiv (d : K) (T : List String) (t r : PTree K)
    (h : SplitsEquiv T (splits t) (splits r)) (a b : String) (ha : a ∈ T) (hb : b ∈ T) :
    distSpec d a b r = distSpec d a b t :=
  topoWeight_of_splitsEquiv d T t r (sep a b) (bipPred_sep T a b ha hb) h

end
end CogentModel.Phylo
