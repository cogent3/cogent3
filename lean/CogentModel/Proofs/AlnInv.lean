import CogentModel.Model.Aln
import CogentModel.Proofs.IndelMapFromGapped
/-! What `gapped_by_map` displays (the expansion of `spans`) is `abs`. -/
namespace CogentModel.IndelMap
open CogentModel.Gapped

theorem seg_empty (a b : Int) (h : b ≤ a) : seg a b = [] := by
  unfold seg
  have : (b - a).toNat = 0 := by omega
  simp [this]

theorem spansFrom_first (gp cum : List Int) : spansFrom true 0 0 gp cum = spansFrom false 0 0 gp cum := by
  cases gp <;> cases cum <;> simp [spansFrom]

theorem spansFrom_expand (gp cum : List Int) (pp prevPos prevCum pl : Int) (h : Inc pp prevCum gp cum)
    (h0 : 0 ≤ prevPos) (hn : prevPos ≤ pp + 1) (hz : pp < 0 → prevCum = 0) :
    (spansFrom false prevPos prevCum gp cum).flatMap expandSp ++ seg (lastOr prevPos gp) pl
      = absFrom prevPos prevCum gp cum pl := by
  fun_induction Inc pp prevCum gp cum generalizing prevPos with
  | case1 pp pc p ps c cs ih =>
    obtain ⟨h1, _, h3⟩ := h
    have ihh := ih p h3 (by omega) (by omega) (fun hp => by omega)
    simp only [spansFrom, absFrom, lastOr]
    by_cases hp0 : p = 0
    · -- a leading gap: no span before it, and nothing has been lost yet
      obtain rfl := hz (by omega)
      subst hp0
      obtain rfl : prevPos = 0 := by omega
      simp only [if_true, List.flatMap_append, List.flatMap_cons, List.flatMap_nil, expandSp, List.append_nil,
        seg_empty 0 0 (Int.le_refl 0), List.nil_append, Int.sub_zero, List.append_assoc]
      rw [ihh]
    · simp only [hp0, if_false, Bool.false_eq_true, List.flatMap_append, List.flatMap_cons, List.flatMap_nil,
        expandSp, List.append_nil, List.append_assoc]
      rw [ihh]
  | case2 => simp [spansFrom, absFrom, lastOr]
  | case3 => exact h.elim

theorem absSpans_eq_abs (m : IMap) (h : WF m) : absSpans m = abs m := by
  unfold absSpans abs spans
  by_cases hg : m.gapPos = []
  · have hc := cum_nil_of_gp_nil m h hg
    simp [hg, hc, absFrom, expandSp]
  · simp only [hg, if_false]
    have key := spansFrom_expand m.gapPos m.cumLens (-1) 0 0 m.parentLength h.inc (Int.le_refl 0) (by omega)
      (fun _ => rfl)
    rw [spansFrom_first, List.flatMap_append, ← key]
    congr 1
    rw [← lastOr_eq_lastD 0 _ hg]
    split
    · simp [expandSp]
    · rename_i hlt
      simp [seg_empty _ _ (by omega : m.parentLength ≤ lastOr 0 m.gapPos)]
end CogentModel.IndelMap
