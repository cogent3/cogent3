import CogentModel.Model.PhyloMidpoint
import CogentModel.Proofs.PhyloReroot
import CogentModel.Proofs.PhyloPath
import CogentModel.Proofs.PhyloPhi
import CogentModel.Proofs.PhyloDist
import Mathlib.Algebra.Ring.Rat
import Mathlib.Tactic.Ring
import Mathlib.Tactic.Linarith
/-! C09: midpoint rooting = (optionally) split one edge, then re-root. -/
namespace CogentModel.Phylo
open PTree

theorem splitEdge_eq_some {idx : Nat} {y : Rat} {cs cs' : List RT} (h : splitEdge idx y cs = some cs') :
    ∃ pre v post x, pick cs idx = some (pre, v, post) ∧ v.len = some x ∧
      cs' = pre ++ post ++ [PTree.node "" (some (x - y)) [PTree.node v.name (some y) v.children]] := by
  unfold splitEdge at h
  split at h
  · cases h
  · rename_i pre v post hp
    split at h
    · cases h
    · rename_i x hx
      exact ⟨pre, v, post, x, hp, hx, (Option.some.inj h).symm⟩

/-- the two halves of a split edge carry the bipartition of the old edge and their lengths add up -/
theorem phi_sum_halves (d : Rat) (φ : List String → Bool) (v : RT) (x y : Rat) (hv : v.len = some x) :
    sumBy (phiW d φ) (splitsL [PTree.node "" (some (x - y)) [PTree.node v.name (some y) v.children]]) =
      sumBy (phiW d φ) (splitsL [v]) := by
  cases v with
  | node n l cs =>
    cases hv
    have ht : ∀ l', tips (PTree.node "" l' [PTree.node n (some y) cs]) = tips (PTree.node n (some x) cs) :=
      fun l' => by rw [tips, tipsL, List.append_nil]; exact tips_node_len n _ _ cs
    simp only [splitsL, splits, List.append_nil, sumBy, phiW, edgeSplit,
      name_node, len_node, children_node, lenOr, ht, tips_node_len n (some y) (some x) cs]
    split <;> ring

/-- splitting the edge above one child: same tips, same bipartition functionals -/
theorem splitEdge_ok (d : Rat) {idx : Nat} {y : Rat} {cs cs' : List RT} (h : splitEdge idx y cs = some cs') :
    cs ≠ [] ∧ cs' ≠ [] ∧ cs'.length = cs.length ∧ (tipsL cs').Perm (tipsL cs) ∧
      ∀ φ, sumBy (phiW d φ) (splitsL cs') = sumBy (phiW d φ) (splitsL cs) := by
  obtain ⟨pre, v, post, x, hp, hx, rfl⟩ := splitEdge_eq_some h
  obtain ⟨rfl, -⟩ := pick_spec hp
  refine ⟨by simp, by simp, by simp only [List.length_append, List.length_cons, List.length_nil]; omega, ?_, fun φ => ?_⟩
  · simp only [tipsL_append, tipsL, List.append_nil, tips_node_ne_nil _ _ _ (List.cons_ne_nil _ _),
      tips_rename, List.append_assoc]
    exact List.Perm.append_left _ List.perm_append_comm
  · rw [splitsL_append, splitsL_append, sumBy_append, sumBy_append, phi_sum_halves d φ v x y hx,
      ← List.singleton_append (l := post), splitsL_append, splitsL_append, sumBy_append, sumBy_append]
    ring

theorem updateAt_ok (d : Rat) (idx : Nat) (y : Rat) (path : List Nat) (t t' : RT)
    (h : updateAt (splitEdge idx y) t path = some t') :
    t'.len = t.len ∧ t'.children.length = t.children.length ∧ (tips t').Perm (tips t) ∧
      ∀ (T : List String) (φ : List String → Bool), BipPred T φ →
        sumBy (phiW d φ) (splits t') = sumBy (phiW d φ) (splits t) := by
  fun_induction updateAt (splitEdge idx y) t path generalizing t' with
  | case1 n l cs =>
    obtain ⟨cs', hs, rfl⟩ := Option.map_eq_some_iff.1 h
    obtain ⟨h1, h2, h3, h4, h5⟩ := splitEdge_ok d hs
    exact ⟨rfl, h3, by rwa [tips_node_ne_nil _ _ _ h1, tips_node_ne_nil _ _ _ h2], fun _ φ _ => h5 φ⟩
  | case2 n l cs i p hp => cases h
  | case3 n l cs i p pre x post hp ih =>
    obtain ⟨x', hu, rfl⟩ := Option.map_eq_some_iff.1 h
    obtain ⟨rfl, -⟩ := pick_spec hp
    obtain ⟨hl, -, ht, hφs⟩ := ih x' hu
    refine ⟨rfl, by simp, ?_, fun T φ hφ => ?_⟩
    · simp only [tips_node_ne_nil _ _ _ (List.append_ne_nil_of_right_ne_nil _ (List.cons_ne_nil _ _)),
        tipsL_append, tipsL]
      exact List.Perm.append_left _ (List.Perm.append_right _ ht)
    · have e : phiW d φ (edgeSplit x') = phiW d φ (edgeSplit x) := by
        show (if φ (tips x') then lenOr d x'.len else 0) = if φ (tips x) then lenOr d x.len else 0
        rw [hl, hφ.congr _ _ fun _ _ => ht.mem_iff]
      simp only [splits, splitsL_append, splitsL, sumBy_append, sumBy, List.cons_append, e, hφs T φ hφ]

theorem reroot?_eq_ok {t r : RT} {p : List Nat} : reroot? t p = .ok r ↔ rerootAt t p = some r := by
  unfold reroot?
  split <;> simp [*]

/-- executing any plan keeps the tips and every bipartition functional (weighted unrooted topology,
in particular every tip-to-tip distance) -/
theorem execPlan_ok (d : Rat) (t r : RT) (plan : MidPlan) (h : execPlan t plan = .ok r)
    (hdeg : 2 ≤ t.children.length) (hnd : (tips t).Nodup) :
    (tips r).Perm (tips t) ∧ ∀ φ, BipPred (tips t) φ → topoWeight d φ r = topoWeight d φ t := by
  cases plan with
  | «at» p =>
    have hs := rerootAt_spec t r p (reroot?_eq_ok.1 h) (Or.inr hdeg)
    exact ⟨hs.1, hs.topo hnd d⟩
  | split pp idx y =>
    simp only [execPlan] at h
    split at h
    · cases h
    rename_i t' hu
    split at h
    · cases h
    obtain ⟨_, hlen, ht, hφs⟩ := updateAt_ok d idx y pp t t' hu
    have hnd' : (tips t').Nodup := (ht.nodup_iff).2 hnd
    have hs := rerootAt_spec t' r _ (reroot?_eq_ok.1 h) (Or.inr (hlen ▸ hdeg))
    refine ⟨hs.1.trans ht, fun φ hφ => ?_⟩
    rw [hs.topo hnd' d φ (hφ.of_mem_iff fun x => ht.mem_iff.symm)]
    exact hφs _ φ hφ

/-- a successful `root_at_midpoint` is the search followed by the execution of the plan it found -/
theorem rootAtMidpoint_eq_ok {t r : RT} (h : rootAtMidpoint t = .ok r) :
    ∃ plan, midPlan t = .ok plan ∧ execPlan t plan = .ok r := by
  unfold rootAtMidpoint at h
  split at h
  · cases h
  · exact ⟨_, ‹_›, h⟩

theorem nodeAt_updateAt (f : List RT → Option (List RT)) (pp : List Nat) (t t' par : RT)
    (hn : nodeAt t pp = some par) (hu : updateAt f t pp = some t') :
    ∃ cs', f par.children = some cs' ∧ nodeAt t' pp = some (PTree.node par.name par.len cs') := by
  fun_induction updateAt f t pp generalizing t' with
  | case1 n l cs =>
    cases hn
    obtain ⟨cs', hf, rfl⟩ := Option.map_eq_some_iff.1 hu
    exact ⟨cs', hf, rfl⟩
  | case2 n l cs i p hp => cases hu
  | case3 n l cs i p pre x post hp ih =>
    obtain ⟨x', hx, rfl⟩ := Option.map_eq_some_iff.1 hu
    simp only [nodeAt, hp] at hn
    obtain ⟨cs', h1, h2⟩ := ih x' hn hx
    obtain ⟨-, rfl⟩ := pick_spec hp
    exact ⟨cs', h1, by simp only [nodeAt, pick_append_cons]; exact h2⟩

/-- depth of a tip = root-to-tip distance (sum over the edges above it) -/
abbrev depthR (a : String) (t : RT) : Rat := depthSpec (1 : Rat) a t

/-- Re-rooting at the node at `pp` puts a tip `p` below child `v` of that node at depth
`len v + depth of p in v`, and any tip `q` not below `v` at depth `d(p,q) - that`. -/
theorem reroot_depths {K : Type} [AddCommMonoid K] (d : K) (t r w : PTree K) (pp : List Nat) (idx : Nat)
    (pre post : List (PTree K)) (v : PTree K) (hdeg : 2 ≤ t.children.length) (hnd : (tips t).Nodup)
    (hr : rerootAt t pp = some r) (hw : nodeAt t pp = some w) (hv : pick w.children idx = some (pre, v, post))
    (p q : String) (hp : p ∈ tips v) (hq : q ∈ tips t) (hqv : q ∉ tips v) :
    depthSpec d p r = lenOr d v.len + depthSpec d p v ∧ distSpec d p q t = depthSpec d p r + depthSpec d q r := by
  have hs := rerootAt_spec t r pp hr (Or.inr hdeg)
  have hndr : (tips r).Nodup := (hs.1.nodup_iff).2 hnd
  obtain ⟨a', rfl⟩ := rerootGo_shape [] t pp r w hr hw
  rw [(pick_spec hv).1, List.append_assoc, List.cons_append] at hs hndr ⊢
  have hne : pre ++ v :: (post ++ a') ≠ [] := List.append_ne_nil_of_right_ne_nil _ (List.cons_ne_nil _ _)
  rw [tips_node_ne_nil _ _ _ hne] at hndr
  have hpt : p ∈ tips t := (hs.1.mem_iff).1 (by
    rw [tips_node_ne_nil _ _ _ hne]
    exact tips_subset_tipsL (by simp) p hp)
  refine ⟨depth_at_node d pre (post ++ a') v hndr p hp, ?_⟩
  exact (hs.topo hnd d (sep p q) (bipPred_sep _ p q hpt hq)).symm.trans
    (dist_across d pre (post ++ a') v hndr p q hp hqv)

/-- what is left of a path length after one of its two parts -/
theorem rest_eq_half {a b D : Rat} (ha : a = D / 2) (hD : D = a + b) : b = D / 2 := by
  rw [eq_sub_of_add_eq' hD.symm, ha, sub_half]

/-- the plan "re-root at the node at `pp`": if the climbed tip `p` sits below child `v` of that node
with `len v + depth = d(p,q)/2` and `q` is not below `v`, both are at distance `d(p,q)/2` from the
new root -/
theorem equidistant_at (t r w : RT) (pp : List Nat) (idx : Nat) (pre post : List RT) (v : RT)
    (hdeg : 2 ≤ t.children.length) (hnd : (tips t).Nodup)
    (h : execPlan t (.at pp) = .ok r) (hw : nodeAt t pp = some w)
    (hv : pick w.children idx = some (pre, v, post))
    (p q : String) (hp : p ∈ tips v) (hq : q ∈ tips t) (hqv : q ∉ tips v)
    (hhalf : lenOr 1 v.len + depthR p v = distSpec 1 p q t / 2) :
    depthR p r = distSpec 1 p q t / 2 ∧ depthR q r = distSpec 1 p q t / 2 := by
  obtain ⟨e1, e2⟩ := reroot_depths 1 t r w pp idx pre post v hdeg hnd (reroot?_eq_ok.1 h) hw hv p q hp hq hqv
  exact ⟨e1.trans hhalf, rest_eq_half (e1.trans hhalf) e2⟩

/-- the plan "split the edge above child `v` of the node at `pp`, leaving `y` below the new root" -/
theorem equidistant_split (t r par : RT) (pp : List Nat) (idx : Nat) (y : Rat) (pre post : List RT) (v : RT)
    (hdeg : 2 ≤ t.children.length) (hnd : (tips t).Nodup)
    (h : execPlan t (.split pp idx y) = .ok r) (hpar : nodeAt t pp = some par)
    (hv : pick par.children idx = some (pre, v, post))
    (p q : String) (hp : p ∈ tips v) (hq : q ∈ tips t) (hqv : q ∉ tips v)
    (hhalf : y + depthR p v = distSpec 1 p q t / 2) :
    depthR p r = distSpec 1 p q t / 2 ∧ depthR q r = distSpec 1 p q t / 2 := by
  simp only [execPlan] at h
  split at h
  · cases h
  rename_i t' hu
  obtain ⟨cs', hcs', hn'⟩ := nodeAt_updateAt _ pp t t' par hpar hu
  obtain ⟨pre', v', post', x, hv', hx, rfl⟩ := splitEdge_eq_some hcs'
  cases hv.symm.trans hv'
  simp only [hn', children_node, reroot?_eq_ok, List.length_append, List.length_singleton,
    Nat.add_sub_cancel] at h
  obtain ⟨_, hlen, ht, hφs⟩ := updateAt_ok 1 idx y pp t t' hu
  -- the new node, last child of the node at `pp`; the climbed node is its only child
  have hw' : nodeAt t' (pp ++ [pre.length + post.length]) =
      some (PTree.node "" (some (x - y)) [PTree.node v.name (some y) v.children]) := by
    rw [nodeAt_append pp _ t' _ hn', ← List.length_append]
    simp only [nodeAt, pick_append_cons]
  obtain ⟨e1, e2⟩ := reroot_depths 1 t' r _ _ 0 [] [] (PTree.node v.name (some y) v.children) (hlen ▸ hdeg)
    ((ht.nodup_iff).2 hnd) h hw' rfl p q ((tips_rename v _).symm ▸ hp) ((ht.mem_iff).2 hq)
    ((tips_rename v _).symm ▸ hqv)
  have e3 : depthSpec 1 p (PTree.node v.name (some y) v.children) = depthSpec 1 p v := by
    simp only [depthSpec, splits_rename]
  have e1' : depthR p r = distSpec 1 p q t / 2 := by rw [e3] at e1; exact e1.trans hhalf
  exact ⟨e1', rest_eq_half e1' ((hφs [p, q] (sep p q) (bipPred_sep _ p q (by simp) (by simp))).symm.trans e2)⟩

end CogentModel.Phylo
