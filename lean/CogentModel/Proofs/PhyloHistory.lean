import CogentModel.Model.PhyloHistory
import CogentModel.Proofs.PhyloReroot
import CogentModel.Proofs.PhyloSorted
import CogentModel.Proofs.PhyloGoodLens
import CogentModel.Proofs.PhyloSubtree
import CogentModel.Proofs.PhyloNewick
set_option linter.unusedSimpArgs false
/-! C09: one induction over histories built from ALL the transformations. -/
namespace CogentModel.Phylo
open PTree
variable {K : Type}

/-! ### lengths stay in `P` -/
theorem sortedGo_good (P : K → Prop) (o : List String) : ∀ (t : PTree K), GoodLens P t → GoodLens P (sortedGo o t).2
  | .node n l cs, hg => by
    have h := goodLensL_of_splitsEquiv P ((sortedGo_ok o (.node n l cs)).2.2.2 []) hg.2
    rw [sortedGo_snd] at h ⊢
    exact ⟨hg.1, h⟩

section
variable [AddCommMonoid K]

/-- what one step of a history guarantees -/
structure StepOK (P : K → Prop) (d : K) (t r : PTree K) (kept : String → Bool) : Prop where
  tips : (tips r).Perm ((tips t).filter kept)
  good : GoodLensL P r.children
  topo : ∀ φ, BipPred (Phylo.tips r) φ → topoWeight d φ r = topoWeight d φ t

theorem filter_true_eq (l : List String) : l.filter (fun _ => true) = l := by simp

namespace StepOK
variable {P : K → Prop} {d : K} {t m r : PTree K} {k k1 k2 : String → Bool}

theorem nodup (s : StepOK P d t r k) (hnd : (Phylo.tips t).Nodup) : (Phylo.tips r).Nodup :=
  (s.tips.nodup_iff).2 (hnd.filter _)

theorem mem (s : StepOK P d t r k) {x : String} (hx : x ∈ Phylo.tips r) : x ∈ Phylo.tips t :=
  (List.mem_filter.1 ((s.tips.mem_iff).1 hx)).1

theorem refl (P : K → Prop) (d : K) (t : PTree K) (hg : GoodLensL P t.children) :
    StepOK P d t t (fun _ => true) :=
  ⟨by rw [filter_true_eq], hg, fun _ _ => rfl⟩

/-- steps compose: the tips kept are those both keep -/
theorem trans (s1 : StepOK P d t m k1) (s2 : StepOK P d m r k2) : StepOK P d t r (fun x => k1 x && k2 x) := by
  refine ⟨?_, s2.good, fun φ hφ => ?_⟩
  · have := s2.tips.trans (s1.tips.filter k2)
    simpa [List.filter_filter, Bool.and_comm] using this
  · rw [s2.topo φ hφ]
    exact s1.topo φ (hφ.mono fun _ => s2.mem)

end StepOK

theorem applyX_ok (P : K → Prop) (hadd : ∀ x y, P x → P y → P (x + y)) (d : K)
    (t r : PTree K) (op : XOp) (h : applyX t op = some r) (hdeg : 2 ≤ t.children.length)
    (hnd : (tips t).Nodup) (hg : GoodLensL P t.children) : StepOK P d t r (keptX op) := by
  -- operations that keep all tips and the split multiset (hence every length)
  have viaSplits : ∀ r', SameSplits t r' → StepOK P d t r' (fun _ => true) := fun r' hs =>
    ⟨by rw [filter_true_eq]; exact hs.1, goodLensL_of_splitsEquiv P (hs.2 hnd) hg, fun φ hφ =>
      hs.topo hnd d φ (hφ.of_mem_iff fun x => hs.1.mem_iff)⟩
  cases op with
  | reroot p => exact viaSplits r (rerootAt_spec t r p h (Or.inr hdeg))
  | sorted o =>
    simp only [applyX, Option.some.injEq] at h; subst h
    exact viaSplits _ (sorted_ok t o).sameSplits
  | copy =>
    simp only [applyX, Option.some.injEq] at h; subst h
    exact viaSplits _ (.refl _)
  | newick =>
    simp only [applyX] at h
    rw [parse_newickToks, stripLens_true] at h
    injection h with h; subst h
    exact viaSplits _ (.refl _)
  | unrooted =>
    simp only [applyX, Option.some.injEq] at h; subst h
    refine ⟨by simp only [keptX]; rw [filter_true_eq, tips_unrooted], goodLensL_unrooted P hadd t hg, fun φ hφ => ?_⟩
    rw [tips_unrooted] at hφ
    exact unrooted_phi d t hnd (goodLensL_len P _ hg) φ hφ
  | subtree ns im kr =>
    simp only [applyX] at h
    cases hs : getSubTree t ns im kr true with
    | error e => simp [hs] at h
    | ok r' =>
      simp only [hs, Option.some.injEq] at h; subst h
      obtain ⟨ht, hgd, hφ⟩ := getSubTree_phi P hadd d t ns im kr r' hs hg hnd
      exact ⟨by rw [ht]; exact .refl _, hgd, hφ⟩
theorem applyXs_ok (P : K → Prop) (hadd : ∀ x y, P x → P y → P (x + y)) (d : K) :
    ∀ (ops : List XOp) (t r : PTree K), applyXs t ops = some r → 2 ≤ t.children.length →
      (tips t).Nodup → GoodLensL P t.children → StepOK P d t r (keptAll ops)
  | [], t, r, h, _, _, hg => by
    simp only [applyXs, Option.some.injEq] at h; subst h
    exact .refl P d t hg
  | op :: ops, t, r, h, hdeg, hnd, hg => by
    simp only [applyXs] at h
    cases h1 : applyX t op with
    | none => simp [h1] at h
    | some m =>
      simp only [h1] at h
      split at h
      · cases h
      · rename_i hd
        have s1 := applyX_ok P hadd d t m op h1 hdeg hnd hg
        exact s1.trans (applyXs_ok P hadd d ops m r h (by omega) (s1.nodup hnd) s1.good)

end
end CogentModel.Phylo
