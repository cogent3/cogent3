import CogentModel.Proofs.FMapCover
/-! `nucleic_reversed()` in closed form — on a map inside its parent it maps `revSp` over the spans and reverses the
list — so that every property is a fact about one span (`revSp_within`, `revSp_length`, `coverSp_revSp`,
`mem_coverSp_revSp`, `revSp_revSp`) lifted through `map` and `reverse`. -/
namespace CogentModel.FMap

def FSp.fwd : FSp → Prop
  | .span _ _ rv => rv = false
  | .lost _ => True
def Fwd (m : FM) : Prop := ∀ sp ∈ m.spans, sp.fwd
instance (sp : FSp) : Decidable sp.fwd := by cases sp <;> unfold FSp.fwd <;> infer_instance
instance (m : FM) : Decidable (Fwd m) := by unfold Fwd; infer_instance

/-- one span of `nucleic_reversed` -/
def revSp (pl : Int) : FSp → FSp
  | .lost n => .lost n
  | .span s e _ => mkSpan (pl - e) (pl - e + (e - s)) false

theorem revSp_span (pl : Int) {s e : Int} (rv : Bool) (h : s ≤ e) :
    revSp pl (.span s e rv) = .span (pl - e) (pl - e + (e - s)) false :=
  mkSpan_of_le (by omega) false

theorem go_rev_total (m : FM) : ∀ (l : List FSp),
    (∀ x ∈ l, x.within m.parentLength) → nucleicReversed.go m l = .ok (l.map (revSp m.parentLength))
  | [], _ => by simp [nucleicReversed.go]
  | .lost n :: r, hw => by
    simp only [nucleicReversed.go]
    rw [go_rev_total m r (fun x hx => hw x (List.mem_cons_of_mem _ hx))]
    rfl
  | .span s e rv :: r, hw => by
    simp only [nucleicReversed.go]
    have h0 := hw (.span s e rv) (List.mem_cons_self)
    simp only [FSp.within] at h0
    rw [if_neg (by omega)]
    rw [go_rev_total m r (fun x hx => hw x (List.mem_cons_of_mem _ hx))]
    rfl

/-- on a map inside its parent `nucleic_reversed` cannot fail: it maps `revSp` over the spans and reverses -/
theorem nucleicReversed_total (m : FM) (hw : Within m) :
    nucleicReversed m = .ok ⟨(m.spans.map (revSp m.parentLength)).reverse, m.parentLength⟩ := by
  unfold nucleicReversed
  rw [go_rev_total m m.spans hw]

theorem revSp_within (pl : Int) (x : FSp) (hw : x.within pl) : (revSp pl x).within pl := by
  cases x with
  | lost n => trivial
  | span s e rv =>
    simp only [FSp.within] at hw
    simp only [revSp_span pl rv hw.2.1, FSp.within]
    omega

theorem revSp_length (pl : Int) (x : FSp) (hw : x.within pl) : (revSp pl x).length = x.length := by
  cases x with
  | lost n => rfl
  | span s e rv =>
    simp only [FSp.within] at hw
    simp only [revSp_span pl rv hw.2.1, FSp.length]
    omega

theorem coverSp_revSp (pl : Int) (x : FSp) (hw : x.within pl) (hf : x.fwd) :
    coverSp (revSp pl x) = (coverSp x).reverse.map (flip pl) := by
  cases x with
  | lost n => simp [revSp, coverSp, flip]
  | span s e rv =>
    cases hf
    rw [revSp_span pl _ hw.2.1, ← coverSp_reversed]
    exact coverSp_mirror pl s e true

/-- one span of `nucleic_reversed` covers the mirror image of what the span covers, whatever its strand -/
theorem mem_coverSp_revSp {pl : Int} {x : FSp} (hw : x.within pl) (p : Int) :
    some p ∈ coverSp (revSp pl x) ↔ some (pl - 1 - p) ∈ coverSp x := by
  cases x with
  | lost n => simp [revSp, coverSp]
  | span s e rv => rw [revSp_span pl rv hw.2.1, mem_coverSp_span, mem_coverSp_span]; omega

theorem nucleicReversed_within (m r : FM) (hw : Within m) (h : nucleicReversed m = .ok r) :
    Within r ∧ r.parentLength = m.parentLength := by
  rw [nucleicReversed_total m hw] at h
  cases h
  refine ⟨fun x hx => ?_, rfl⟩
  simp only [List.mem_reverse, List.mem_map] at hx
  obtain ⟨y, hy, rfl⟩ := hx
  exact revSp_within _ y (hw y hy)

theorem cover_map_revSp (pl : Int) : ∀ (l : List FSp), (∀ x ∈ l, x.within pl) → (∀ x ∈ l, x.fwd) →
    (l.map (revSp pl)).reverse.flatMap coverSp = ((l.flatMap coverSp).reverse).map (flip pl) ∧
      lenL (l.map (revSp pl)) = lenL l
  | [], _, _ => ⟨rfl, rfl⟩
  | x :: r, hw, hf => by
    have ih := cover_map_revSp pl r (fun y hy => hw y (List.mem_cons_of_mem _ hy))
      (fun y hy => hf y (List.mem_cons_of_mem _ hy))
    simp only [List.map_cons, List.reverse_cons, List.flatMap_append, List.flatMap_cons, List.flatMap_nil,
      List.append_nil, List.reverse_append, List.map_append, lenL_cons, ih.1, ih.2,
      coverSp_revSp pl x (hw x List.mem_cons_self) (hf x List.mem_cons_self),
      revSp_length pl x (hw x List.mem_cons_self), and_self]

theorem revSp_revSp (pl : Int) (x : FSp) (hw : x.within pl) (hf : x.fwd) : revSp pl (revSp pl x) = x := by
  cases x with
  | lost n => rfl
  | span s e rv =>
    simp only [FSp.within] at hw
    cases hf
    rw [revSp_span pl _ hw.2.1, revSp_span pl _ (by omega)]
    congr 1 <;> omega

end CogentModel.FMap
