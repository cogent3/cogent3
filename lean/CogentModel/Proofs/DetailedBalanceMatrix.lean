import Mathlib.Data.Matrix.Basic
/-! C05: detailed balance of a Mathlib matrix with respect to `π` is a semiconjugation by `diagonal π` to the transpose. -/
namespace CogentModel
open Matrix

variable {ι R : Type*} [Fintype ι] [DecidableEq ι] [CommSemiring R]

/-- `π_i Q_ij = π_j Q_ji` for all `i j` says `diag π · Q = Qᵀ · diag π` -/
theorem detailed_iff_semiconj (pi : ι → R) (Q : Matrix ι ι R) :
    (∀ i j, pi i * Q i j = pi j * Q j i) ↔ SemiconjBy (diagonal pi) Q Qᵀ := by
  rw [SemiconjBy, ← Matrix.ext_iff]
  refine forall₂_congr fun i j => ?_
  rw [diagonal_mul, mul_diagonal, transpose_apply, mul_comm (Q j i)]

end CogentModel
