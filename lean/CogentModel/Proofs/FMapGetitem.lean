import CogentModel.Proofs.FMapCover
import CogentModel.Proofs.ListFacts
/-! `FeatureMap.__getitem__` / `Span.remap_with` is composition of covers.  `remap_with` finds the spans that hold map
positions `[zlo, zhi)` with two bisections over the offsets, trims the first and the last with `Span.__getitem__`, and
pads with lost spans where the index span pokes outside the map: `remapCore_spec` is the one place where the index
arithmetic of the bisections meets the cumulative lengths.  The last section shows, without any hypothesis on the
index map, that the result stays inside the parent. -/
namespace CogentModel.FMap

/-! ### offsets / bisect: locating the span that contains a map position -/

theorem offsetsFrom_length (pos : Int) (l : List FSp) : (offsetsFrom pos l).length = l.length := by
  induction l generalizing pos with
  | nil => rfl
  | cons x xs ih => simp [offsetsFrom, ih]

theorem offsetsFrom_drop (pos : Int) (l : List FSp) (k : Nat) :
    (offsetsFrom pos l).drop k = offsetsFrom (pos + lenL (l.take k)) (l.drop k) := by
  induction l generalizing pos k with
  | nil => simp [offsetsFrom]
  | cons x xs ih =>
    cases k with
    | zero => simp
    | succ k => simp only [offsetsFrom, List.drop_succ_cons, List.take_succ_cons, lenL_cons]; rw [ih]; congr 1; omega

theorem offsetsFrom_getD (pos : Int) (l : List FSp) (k : Nat) (hk : k < l.length) :
    (offsetsFrom pos l).getD k 0 = pos + lenL (l.take k) := by
  induction l generalizing pos k with
  | nil => simp at hk
  | cons x xs ih =>
    cases k with
    | zero => simp [offsetsFrom]
    | succ k =>
      simp only [offsetsFrom, List.take_succ_cons, lenL_cons]
      simp only [List.length_cons] at hk
      have := ih (pos + x.length) k (by omega)
      simp only [List.getD_cons_succ]
      rw [this]; omega

/-- `bisect_right` / `bisect_left` as the model runs them: the index of the first element above `v` (not below `v`) -/
theorem bisectRight_eq_findIdx (v : Int) (xs : List Int) : bisectRight xs v = xs.findIdx fun x => !decide (x ≤ v) :=
  scan_eq_findIdx (f := (bisectRight · v)) rfl (fun _ _ => rfl) xs

theorem bisectLeft_eq_findIdx (v : Int) (xs : List Int) : bisectLeft xs v = xs.findIdx fun x => !decide (x < v) :=
  scan_eq_findIdx (f := (bisectLeft · v)) rfl (fun _ _ => rfl) xs

/-- the first offset with `p`: no span start before it has `p`, and it has -/
theorem findIdx_offsets (p : Int → Bool) (pos : Int) (l : List FSp) :
    (offsetsFrom pos l).findIdx p ≤ l.length ∧
    (∀ i, i < (offsetsFrom pos l).findIdx p → p (pos + lenL (l.take i)) = false) ∧
    ((offsetsFrom pos l).findIdx p < l.length →
      p (pos + lenL (l.take ((offsetsFrom pos l).findIdx p))) = true) := by
  have hle := List.findIdx_le_length (p := p) (xs := offsetsFrom pos l)
  rw [offsetsFrom_length] at hle
  refine ⟨hle, fun i hi => ?_, fun hlt => ?_⟩
  · rw [← offsetsFrom_getD pos l i (by omega), ← List.getElem_eq_getD (h := by rw [offsetsFrom_length]; omega)]
    exact List.not_of_lt_findIdx hi
  · rw [← offsetsFrom_getD pos l _ hlt, ← List.getElem_eq_getD (h := by rw [offsetsFrom_length]; exact hlt)]
    exact List.findIdx_getElem

/-- `bisect_right(offsets, z) - 1` is the index of the span containing map position `z` -/
theorem bisectRight_spec (l : List FSp) (pos z : Int) (hz : pos ≤ z) (hne : l ≠ []) :
    ∃ k, bisectRight (offsetsFrom pos l) z = k + 1 ∧ k < l.length ∧ pos + lenL (l.take k) ≤ z ∧
      (k + 1 < l.length → z < pos + lenL (l.take (k + 1))) := by
  rw [bisectRight_eq_findIdx]
  obtain ⟨h1, h2, h3⟩ := findIdx_offsets (fun x => !decide (x ≤ z)) pos l
  simp only [Bool.not_eq_false', Bool.not_eq_true', decide_eq_false_iff_not, decide_eq_true_eq, Int.not_le] at h2 h3
  have hl := List.length_pos_iff.2 hne
  generalize (offsetsFrom pos l).findIdx (fun x => !decide (x ≤ z)) = n at *
  cases n with
  | zero =>
    -- the first offset is `pos`, which is not above `z`
    have := h3 hl
    rw [List.take_zero, lenL_nil] at this; omega
  | succ k => exact ⟨k, rfl, by omega, by have := h2 k (by omega); omega, h3⟩

/-- `bisect_left(offsets, z)` = number of spans starting strictly before map position `z` -/
theorem bisectLeft_spec (l : List FSp) (pos z : Int) :
    bisectLeft (offsetsFrom pos l) z ≤ l.length ∧
    (∀ i, i < bisectLeft (offsetsFrom pos l) z → pos + lenL (l.take i) < z) ∧
    (bisectLeft (offsetsFrom pos l) z < l.length →
      z ≤ pos + lenL (l.take (bisectLeft (offsetsFrom pos l) z))) := by
  rw [bisectLeft_eq_findIdx]
  simpa only [Bool.not_eq_false', Bool.not_eq_true', decide_eq_false_iff_not, decide_eq_true_eq, Int.not_lt] using
    findIdx_offsets (fun x => !decide (x < z)) pos l


/-! ### Span.__getitem__ with in-range bounds -/

theorem normIndex_id (i L : Int) (h0 : 0 ≤ i) (h1 : i ≤ L) : normIndex i L = i := by
  unfold normIndex; simp only []; split <;> omega

theorem spanSlice_none_left (x : FSp) (ob : Option Int) (hL : 0 ≤ x.length) :
    spanSlice x none ob = spanSlice x (some 0) ob := by
  unfold spanSlice; simp only [normIndex_id 0 x.length (by omega) hL]

theorem spanSlice_none_right (x : FSp) (oa : Option Int) (hL : 0 ≤ x.length) :
    spanSlice x oa none = spanSlice x oa (some x.length) := by
  unfold spanSlice; simp only [normIndex_id x.length x.length hL (by omega)]

/-- `span[a:b]` for `0 ≤ a ≤ b ≤ len(span)` reads positions `a..b-1` of the span -/
theorem spanSlice_spec (x : FSp) (a b : Int) (h0 : 0 ≤ a) (h1 : a ≤ b) (h2 : b ≤ x.length) :
    ∃ y, spanSlice x (some a) (some b) = .ok y ∧ y.length = b - a ∧
      ∀ t, 0 ≤ t → t < b - a → lookup (coverSp y) t = lookup (coverSp x) (a + t) := by
  unfold spanSlice
  simp only [normIndex_id a x.length h0 (by omega), normIndex_id b x.length (by omega) h2]
  cases x with
  | lost n => exact ⟨_, rfl, by simp only [FSp.length]; omega, fun t _ _ => by rw [lookup_coverSp_lost, lookup_coverSp_lost]⟩
  | span s e rv =>
    simp only [FSp.length] at h2
    simp only [if_neg (show ¬ a > b by omega)]
    cases rv
    · refine ⟨_, rfl, ?_, fun t ht0 ht1 => ?_⟩ <;> rw [mkSpan_of_le (by omega)]
      · simp only [FSp.length]; omega
      · rw [lookup_coverSp_span_of_lt _ ht0 (by omega), lookup_coverSp_span_of_lt _ (by omega) (by omega)]
        simp only [Bool.false_eq_true, if_false, Int.add_assoc]
    · refine ⟨_, rfl, ?_, fun t ht0 ht1 => ?_⟩ <;> rw [mkSpan_of_le (by omega)]
      · simp only [FSp.length]; omega
      · rw [lookup_coverSp_span_of_lt _ ht0 (by omega), lookup_coverSp_span_of_lt _ (by omega) (by omega)]
        simp only [if_true, Option.some.injEq]; omega


/-! ### the trimming steps of Span.remap_with -/

/-- the `end_trim` step of `remap_with` -/
def trimEnd (result : List FSp) (endTrim : Int) : Except FErr (List FSp) :=
  if endTrim > 0 then
    match result.getLast? with
    | some x => (spanSlice x none (some (x.length - endTrim))).map (setLast result ·)
    | none => .ok result
  else .ok result

/-- the `start_trim` step of `remap_with` -/
def trimStart (r1 : List FSp) (startTrim : Int) : Except FErr (List FSp) :=
  if startTrim > 0 then
    match r1 with
    | x :: rest => (spanSlice x (some startTrim) none).map (· :: rest)
    | [] => .ok []
  else .ok r1

def trimBoth (result : List FSp) (endTrim startTrim : Int) : Except FErr (List FSp) :=
  match trimEnd result endTrim with
  | .error er => .error er
  | .ok r1 => trimStart r1 startTrim

/-- `remapSpan`, restated with the trimming steps named -/
theorem remapSpan_eq (s e : Int) (rev : Bool) (m : FM) :
    remapSpan s e rev m =
      match (offsets m).getLast?, m.spans.getLast? with
      | some lo, some ls =>
        let mapLength := lo + ls.length
        let zlo := max 0 s
        let zhi := min mapLength e
        let trimmed : Except FErr (List FSp) :=
          if zlo > zhi then .ok [] else
          let first : Int := (bisectRight (offsets m) zlo : Int) - 1
          if first < 0 then .error .valueError else
          let firstN := first.toNat
          let last : Int := (bisectLeft ((offsets m).drop firstN) zhi + firstN : Nat) - 1
          let result := (m.spans.take (last + 1).toNat).drop firstN
          match result with
          | [] => .ok []
          | _ => trimBoth result
              ((offsets m).getD last.toNat 0 + (m.spans.getD last.toNat (.lost 0)).length - zhi)
              (zlo - (offsets m).getD firstN 0)
        match trimmed with
        | .error er => .error er
        | .ok res =>
          let res := if s < 0 then FSp.lost (min e 0 - s) :: res else res
          let res := if e > mapLength then res ++ [FSp.lost (e - max s mapLength)] else res
          .ok (if rev then (res.map FSp.reversed).reverse else res)
      | _, _ => .error .indexError := by
  rfl

/-- the `end_trim` step leaves all positions before the cut as they were -/
theorem trimEnd_spec {init : List FSp} (hi : NonNegL init) (y : FSp) (et : Int) (h0 : 0 ≤ et) (h1 : et ≤ y.length) :
    ∃ y', trimEnd (init ++ [y]) et = .ok (init ++ [y']) ∧ y'.length = y.length - et ∧
      ∀ t, t < lenL init + (y.length - et) → lookup (coverL (init ++ [y'])) t = lookup (coverL (init ++ [y])) t := by
  have key : ∃ y', trimEnd (init ++ [y]) et = .ok (init ++ [y']) ∧ y'.length = y.length - et ∧
      ∀ t, t < y.length - et → lookup (coverSp y') t = lookup (coverSp y) t := by
    unfold trimEnd
    by_cases h : et > 0
    · rw [if_pos h, List.getLast?_concat]
      simp only []
      rw [spanSlice_none_left _ _ (by omega)]
      obtain ⟨y', hy, hl, hc⟩ := spanSlice_spec y 0 (y.length - et) (by omega) (by omega) (by omega)
      refine ⟨y', ?_, by omega, fun t ht => ?_⟩
      · rw [hy]; simp [Except.map, setLast]
      · by_cases ht0 : t < 0
        · rw [lookup_neg _ ht0, lookup_neg _ ht0]
        · rw [hc t (by omega) (by omega), Int.zero_add]
    · rw [if_neg h]
      exact ⟨y, rfl, by omega, fun _ _ => rfl⟩
  obtain ⟨y', hy, hl, hc⟩ := key
  refine ⟨y', hy, hl, fun t ht => ?_⟩
  rw [lookup_coverL_append hi, lookup_coverL_append hi]
  split
  · rfl
  · simp only [coverL_cons, coverL_nil, List.append_nil]; exact hc _ (by omega)

/-- the `start_trim` step shifts all positions by the cut -/
theorem trimStart_spec (x : FSp) (rest : List FSp) (st : Int) (h0 : 0 ≤ st) (h1 : st ≤ x.length) :
    ∃ x', trimStart (x :: rest) st = .ok (x' :: rest) ∧ x'.length = x.length - st ∧
      ∀ t, 0 ≤ t → lookup (coverL (x' :: rest)) t = lookup (coverL (x :: rest)) (st + t) := by
  have key : ∃ x', trimStart (x :: rest) st = .ok (x' :: rest) ∧ x'.length = x.length - st ∧
      ∀ t, 0 ≤ t → t < x.length - st → lookup (coverSp x') t = lookup (coverSp x) (st + t) := by
    unfold trimStart
    by_cases h : st > 0
    · rw [if_pos h]
      simp only []
      rw [spanSlice_none_right _ _ (by omega)]
      obtain ⟨x', hx, hl, hc⟩ := spanSlice_spec x st x.length (by omega) (by omega) (by omega)
      exact ⟨x', by rw [hx]; simp [Except.map], by omega, hc⟩
    · rw [if_neg h]
      have : st = 0 := by omega
      subst this
      exact ⟨x, rfl, by omega, fun t _ _ => by rw [Int.zero_add]⟩
  obtain ⟨x', hx, hl, hc⟩ := key
  refine ⟨x', hx, hl, fun t ht => ?_⟩
  rw [lookup_coverL_cons (by omega), lookup_coverL_cons (by omega), hl]
  by_cases h : t < x.length - st
  · rw [if_pos h, if_pos (by omega), hc t ht h]
  · rw [if_neg h, if_neg (by omega), show st + t - x.length = t - (x.length - st) by omega]


/-- both trims together: what is left is positions `st .. len - et - 1` -/
theorem trimBoth_spec (R : List FSp) (hR : NonNegL R) (x y : FSp) (hx : R.head? = some x) (hy : R.getLast? = some y)
    (et st : Int) (h0 : 0 ≤ et) (h1 : 0 ≤ st) (hx1 : st ≤ x.length) (hy1 : et ≤ y.length)
    (hs : st + et ≤ lenL R) :
    ∃ parts, trimBoth R et st = .ok parts ∧ NonNegL parts ∧ lenL parts = lenL R - et - st ∧
      ∀ t, 0 ≤ t → t < lenL R - et - st → lookup (coverL parts) t = lookup (coverL R) (st + t) := by
  rcases List.eq_nil_or_concat R with rfl | ⟨init, y0, rfl⟩
  · simp at hx
  simp only [List.concat_eq_append] at *
  rw [List.getLast?_concat] at hy
  injection hy with hy; subst hy
  have hinit : NonNegL init := fun z hz => hR z (List.mem_append_left _ hz)
  have hy0 : 0 ≤ y0.length := hR y0 (by simp)
  obtain ⟨y', hte, hyl, hyc⟩ := trimEnd_spec hinit y0 et h0 hy1
  simp only [lenL_append, lenL_cons, lenL_nil] at hs ⊢
  obtain ⟨x0, tl, hr1, hst, htl⟩ : ∃ x0 tl, init ++ [y'] = x0 :: tl ∧ st ≤ x0.length ∧ NonNegL tl := by
    cases init with
    | nil =>
      simp only [lenL_nil] at hs
      exact ⟨y', [], rfl, by omega, .nil⟩
    | cons x0 init' =>
      injection hx with hx; subst hx
      exact ⟨x0, init' ++ [y'], rfl, hx1, NonNegL.append hinit.tail (NonNegL.cons (by omega) .nil)⟩
  obtain ⟨x', hts, hxl, hxc⟩ := trimStart_spec x0 tl st h1 hst
  have hlen : lenL (x0 :: tl) = lenL init + (y0.length - et) := by
    rw [← hr1, lenL_append, lenL_cons, lenL_nil, hyl]; omega
  rw [lenL_cons] at hlen
  refine ⟨x' :: tl, ?_, NonNegL.cons (by omega) htl, by rw [lenL_cons, hxl]; omega, fun t ht0 ht1 => ?_⟩
  · unfold trimBoth; rw [hte, hr1]; exact hts
  · rw [hxc t ht0, ← hr1, hyc _ (by omega)]


/-! ### remap_with: selecting and trimming the spans for map positions [zlo, zhi) -/

/-- the part of `remap_with` that selects and trims the spans for map positions `[zlo, zhi)` -/
def remapCore (sp : List FSp) (zlo zhi : Int) : Except FErr (List FSp) :=
  let offs := offsetsFrom 0 sp
  let first : Int := (bisectRight offs zlo : Int) - 1
  let firstN := first.toNat
  let last : Int := (bisectLeft (offs.drop firstN) zhi + firstN : Nat) - 1
  let result := (sp.take (last + 1).toNat).drop firstN
  match result with
  | [] => .ok []
  | _ => trimBoth result
      (offs.getD last.toNat 0 + (sp.getD last.toNat (.lost 0)).length - zhi)
      (zlo - offs.getD firstN 0)

theorem remapSpan_core (s e : Int) (rev : Bool) (m : FM) :
    remapSpan s e rev m =
      match (offsets m).getLast?, m.spans.getLast? with
      | some lo, some ls =>
        match (if max 0 s > min (lo + ls.length) e then (Except.ok [] : Except FErr (List FSp)) else
               if ((bisectRight (offsets m) (max 0 s) : Nat) : Int) - 1 < 0 then .error .valueError else
               remapCore m.spans (max 0 s) (min (lo + ls.length) e)) with
        | .error er => .error er
        | .ok res =>
          let res := if s < 0 then FSp.lost (min e 0 - s) :: res else res
          let res := if e > lo + ls.length then res ++ [FSp.lost (e - max s (lo + ls.length))] else res
          .ok (if rev then (res.map FSp.reversed).reverse else res)
      | _, _ => .error .indexError := by
  rfl

theorem lenL_take_succ (l : List FSp) (k : Nat) (hk : k < l.length) (d : FSp) :
    lenL (l.take k) + (l.getD k d).length = lenL (l.take (k + 1)) := by
  rw [List.take_add_one, lenL_append, List.getD_eq_getElem?_getD, List.getElem?_eq_getElem hk]
  simp only [Option.toList_some, Option.getD_some, lenL_cons, lenL_nil]; omega

theorem remapCore_spec (sp : List FSp) (hN : NonNegL sp) (hne : sp ≠ []) (zlo zhi : Int)
    (h0 : 0 ≤ zlo) (h1 : zlo ≤ zhi) (h2 : zhi ≤ lenL sp) :
    ∃ parts, remapCore sp zlo zhi = .ok parts ∧ NonNegL parts ∧ lenL parts = zhi - zlo ∧
      ∀ t, 0 ≤ t → t < zhi - zlo → lookup (coverL parts) t = lookup (coverL sp) (zlo + t) := by
  -- the first selected span is `sp[k1]`: `sp.take k1` ends at or before `zlo`, `sp[k1]` ends after it
  obtain ⟨k1, hk, hk1, b3, b4⟩ := bisectRight_spec sp 0 zlo h0 hne
  unfold remapCore
  simp only []
  have ef : ((↑(k1 + 1) : Int) - 1).toNat = k1 := by omega
  rw [hk, ef, offsetsFrom_drop]
  clear ef hk
  simp only [Int.zero_add] at b3 b4 ⊢
  have hxlen : zlo - lenL (sp.take k1) ≤ (sp[k1]'hk1).length := by
    have q := lenL_take_succ sp k1 hk1 (.lost 0)
    rw [List.getD_eq_getElem?_getD, List.getElem?_eq_getElem hk1, Option.getD_some] at q
    by_cases hlt : k1 + 1 < sp.length
    · have := b4 hlt; omega
    · rw [show k1 + 1 = sp.length by omega, List.take_length] at q
      omega
  clear b4
  -- `cnt` spans are selected: all but the last end before `zhi`, and the last ends at or after it
  obtain ⟨c1, c2, c3⟩ := bisectLeft_spec (sp.drop k1) (lenL (sp.take k1)) zhi
  generalize bisectLeft (offsetsFrom (lenL (sp.take k1)) (sp.drop k1)) zhi = cnt at *
  have el : ((↑(cnt + k1) : Int) - 1 + 1).toNat = cnt + k1 := by omega
  rw [el, List.drop_take, Nat.add_sub_cancel]
  clear el
  simp only [List.length_drop] at c1 c3
  cases cnt with
  | zero =>
    have := c3 (by omega)
    simp only [List.take_zero, lenL_nil] at this ⊢
    exact ⟨[], rfl, NonNegL.nil, by rw [lenL_nil]; omega, fun t _ _ => by omega⟩
  | succ c =>
    have c2' := c2 c (by omega)
    have hRtot : zhi ≤ lenL (sp.take k1) + lenL ((sp.drop k1).take (c + 1)) := by
      by_cases hlt : c + 1 < sp.length - k1
      · exact c3 hlt
      · have e : (sp.drop k1).take (c + 1) = sp.drop k1 := List.take_of_length_le (by rw [List.length_drop]; omega)
        rw [e, ← lenL_append, List.take_append_drop]; exact h2
    clear c2 c3
    have hkc : k1 + c < sp.length := by omega
    have hne' : List.take (c + 1) (List.drop k1 sp) ≠ [] := by
      intro h
      have := congrArg List.length h
      simp at this; omega
    split
    · rename_i h; exact absurd h hne'
    · clear hne'
      have et1 : ((↑(c + 1 + k1) : Int) - 1).toNat = c + k1 := by omega
      rw [et1, offsetsFrom_getD _ _ _ (by omega), offsetsFrom_getD _ _ _ hk1]
      clear et1
      have hsucc := lenL_take_succ sp (c + k1) (by omega) (.lost 0)
      have hlen : lenL (sp.take (c + k1 + 1)) = lenL (sp.take k1) + lenL ((sp.drop k1).take (c + 1)) := by
        rw [show c + k1 + 1 = k1 + (c + 1) by omega, List.take_add, lenL_append]
      have hlen' : lenL (sp.take (c + k1)) = lenL (sp.take k1) + lenL ((sp.drop k1).take c) := by
        rw [show c + k1 = k1 + c by omega, List.take_add, lenL_append]
      -- head and last of the selected spans `R`
      have hx : ((sp.drop k1).take (c + 1)).head? = some (sp[k1]'hk1) := by
        rw [List.head?_take, if_neg (by omega), List.head?_drop, List.getElem?_eq_getElem]
      have hy : ((sp.drop k1).take (c + 1)).getLast? = some (sp[k1 + c]'hkc) := by
        rw [List.getLast?_take, if_neg (by omega)]
        simp only [Nat.add_sub_cancel, List.getElem?_drop]
        rw [List.getElem?_eq_getElem hkc]; rfl
      have hRlen : lenL ((sp.drop k1).take (c + 1)) = lenL ((sp.drop k1).take c) + (sp[k1 + c]'hkc).length := by
        rw [List.take_add_one, lenL_append, List.getElem?_drop, List.getElem?_eq_getElem hkc]
        simp
      have hdec : sp = sp.take k1 ++ ((sp.drop k1).take (c + 1) ++ (sp.drop k1).drop (c + 1)) := by
        rw [List.take_append_drop, List.take_append_drop]
      clear c1
      obtain ⟨parts, hp, hNp, hlp, hcov⟩ := trimBoth_spec ((sp.drop k1).take (c + 1)) ((hN.drop k1).take _) _ _ hx hy
        (0 + lenL (sp.take (c + k1)) + (sp.getD (c + k1) (.lost 0)).length - zhi)
        (zlo - (0 + lenL (sp.take k1))) (by omega) (by omega) (by omega) (by omega) (by omega)
      refine ⟨parts, hp, hNp, by omega, fun t ht0 ht1 => ?_⟩
      rw [hcov t ht0 (by omega)]
      conv => rhs; rw [hdec]
      rw [lookup_coverL_append (hN.take k1), if_neg (by omega), lookup_coverL_append ((hN.drop k1).take _),
        if_pos (by omega)]
      congr 1; omega


/-! ### remap_with: full specification -/

theorem coverL_map_reversed_reverse (l : List FSp) :
    coverL ((l.map FSp.reversed).reverse) = (coverL l).reverse := by
  induction l with
  | nil => rfl
  | cons x xs ih => simp [ih, coverSp_reversed]

theorem offsetsFrom_concat (pos : Int) (init : List FSp) (y : FSp) :
    offsetsFrom pos (init ++ [y]) = offsetsFrom pos init ++ [pos + lenL init] := by
  induction init generalizing pos with
  | nil => simp [offsetsFrom]
  | cons x xs ih => simp only [List.cons_append, offsetsFrom, ih, lenL_cons]; congr 3; omega

theorem getLast_facts (sp : List FSp) (hne : sp ≠ []) :
    ∃ lo ls, (offsetsFrom 0 sp).getLast? = some lo ∧ sp.getLast? = some ls ∧ lo + ls.length = lenL sp := by
  rcases List.eq_nil_or_concat sp with rfl | ⟨init, y, rfl⟩
  · exact absurd rfl hne
  · simp only [List.concat_eq_append]
    refine ⟨0 + lenL init, y, ?_, ?_, ?_⟩
    · rw [offsetsFrom_concat, List.getLast?_concat]
    · rw [List.getLast?_concat]
    · simp

theorem coverL_ite_lost_cons (c : Prop) [Decidable c] (d : Int) (l : List FSp) (h : ¬ c → d ≤ 0) :
    coverL (if c then FSp.lost d :: l else l) = List.replicate d.toNat none ++ coverL l := by
  split
  · rfl
  · rename_i hc; rw [Int.toNat_of_nonpos (h hc)]; rfl

theorem coverL_ite_concat_lost (c : Prop) [Decidable c] (d : Int) (l : List FSp) (h : ¬ c → d ≤ 0) :
    coverL (if c then l ++ [FSp.lost d] else l) = coverL l ++ List.replicate d.toNat none := by
  split
  · rw [coverL_append, coverL_cons, coverL_nil, List.append_nil]; rfl
  · rename_i hc; rw [Int.toNat_of_nonpos (h hc), List.replicate_zero, List.append_nil]

/-- where the three pieces of `remap_with`'s result lie: `Span(s, e)` read on a map of length `L` gives `n1` lost
    positions (those below `0`), the selected spans for `[zlo, zhi)`, and `n2` lost positions (those from `L` on) -/
theorem remap_pad_arith {s e L zlo zhi lc : Int} {n1 n2 : Nat} (h1 : s ≤ e) (hL : 0 ≤ L)
    (hzlo : max 0 s = zlo) (hzhi : min L e = zhi) (hlc : lc = max 0 (zhi - zlo))
    (hn1 : (min e 0 - s).toNat = n1) (hn2 : (e - max s L).toNat = n2) :
    (n1 : Int) + lc + n2 = e - s ∧ (∀ t, 0 ≤ t → t < (n1 : Int) → s + t < 0) ∧
    (0 < lc → (n1 : Int) = zlo - s ∧ lc = zhi - zlo) ∧ (∀ t, (n1 : Int) + lc ≤ t → t < e - s → L ≤ s + t) := by
  subst hzlo hzhi hlc hn1 hn2
  exact ⟨by omega, fun t _ _ => by omega, fun _ => by omega, fun t _ _ => by omega⟩

/-- `Span(s, e, rev).remap_with(m)`: position by position, the result is `m`'s cover looked up at
    the span's positions (lost where the span pokes outside `[0, len m)`) -/
theorem remapSpan_spec (m : FM) (hN : NonNeg m) (hne : m.spans ≠ []) (s e : Int) (rv : Bool)
    (h1 : s ≤ e) :
    ∃ parts, remapSpan s e rv m = .ok parts ∧
      coverL parts = (coverSp (.span s e rv)).map (compose (cover m)) := by
  obtain ⟨lo, ls, hlo, hls, hL⟩ := getLast_facts m.spans hne
  rw [remapSpan_core]
  have hlo' : (offsets m).getLast? = some lo := hlo
  simp only [hlo', hls]
  rw [hL, ← len_eq_lenL]
  have hL0 : 0 ≤ len m := lenL_nonneg hN
  have hlen : ((cover m).length : Int) = len m := coverL_length hN
  generalize hzlo : max 0 s = zlo
  generalize hzhi : min (len m) e = zhi
  -- the spans selected for map positions `[zlo, zhi)`: none if the span lies outside the map
  have hcore : ∃ core, (if zlo > zhi then (Except.ok [] : Except FErr (List FSp)) else
        if ((bisectRight (offsets m) zlo : Nat) : Int) - 1 < 0 then .error .valueError else
        remapCore m.spans zlo zhi) = .ok core ∧ NonNegL core ∧ lenL core = max 0 (zhi - zlo) ∧
      ∀ t, 0 ≤ t → t < zhi - zlo → lookup (coverL core) t = lookup (cover m) (zlo + t) := by
    by_cases hout : zlo > zhi
    · exact ⟨[], if_pos hout, NonNegL.nil, by rw [lenL_nil]; omega, fun t _ _ => by omega⟩
    · obtain ⟨k, hk, _⟩ := bisectRight_spec m.spans 0 zlo (by omega) hne
      have hk' : bisectRight (offsets m) zlo = k + 1 := hk
      rw [if_neg hout, if_neg (by omega)]
      obtain ⟨core, hc, hNc, hlc, hcc⟩ := remapCore_spec m.spans hN hne zlo zhi
        (by omega) (by omega) (by rw [← len_eq_lenL]; omega)
      exact ⟨core, hc, hNc, by omega, hcc⟩
  obtain ⟨core, hc, hNc, hlc, hcc⟩ := hcore
  rw [hc]
  simp only []
  have hlcore := coverL_length hNc
  -- padded with lost spans on both sides it reads `m` at positions `s .. e - 1`
  have key : coverL (if e > len m then (if s < 0 then FSp.lost (min e 0 - s) :: core else core) ++ [FSp.lost (e - max s (len m))]
        else if s < 0 then FSp.lost (min e 0 - s) :: core else core) = irange s e (lookup (cover m)) := by
    rw [coverL_ite_concat_lost _ _ _ (by omega), coverL_ite_lost_cons _ _ _ (by omega)]
    generalize hn1 : (min e 0 - s).toNat = n1
    generalize hn2 : (e - max s (len m)).toNat = n2
    obtain ⟨p1, p2, p3, p4⟩ := remap_pad_arith h1 hL0 hzlo hzhi hlc hn1 hn2
    clear hzlo hzhi hlc hn1 hn2
    apply ext_lookup
    · rw [List.length_append, List.length_append, List.length_replicate, List.length_replicate, length_irange]
      omega
    · intro t
      rw [lookup_append, lookup_append, lookup_replicate_none, lookup_replicate_none, lookup_irange,
        List.length_append, List.length_replicate, Int.natCast_add, hlcore]
      by_cases hA : t < (n1 : Int)
      · rw [if_pos (by omega), if_pos hA]
        split
        · rename_i h; rw [lookup_neg _ (p2 t h.1 hA)]
        · rfl
      · by_cases hB : t < (n1 : Int) + lenL core
        · obtain ⟨q1, q2⟩ := p3 (by omega)
          rw [if_pos hB, if_neg hA, if_pos (by omega), hcc _ (by omega) (by omega)]
          congr 1; omega
        · rw [if_neg hB]
          split
          · rename_i h; rw [lookup_of_length_le (by rw [hlen]; exact p4 t (by omega) h.2)]
          · rfl
  refine ⟨_, rfl, ?_⟩
  have hcomp : (fun j => compose (cover m) (some j)) = lookup (cover m) := rfl
  cases rv with
  | false =>
    simp only [Bool.false_eq_true, if_false]
    rw [key, coverSp_span_irange]
    simp only [Bool.false_eq_true, if_false, irange_map, hcomp]
  | true =>
    simp only [if_true]
    rw [coverL_map_reversed_reverse, key, coverSp_span_irange]
    simp only [if_true, List.map_reverse, irange_map, hcomp]


/-! ### FeatureMap.__getitem__ -/

/-- an index-map span usable on a map of length `L`: ordered (`Span.__init__` guarantees it); it may
    lie anywhere, also entirely outside `[0, L]` -/
def FSp.idxOK (_L : Int) : FSp → Prop
  | .span s e _ => s ≤ e
  | .lost _ => True
instance (L : Int) (x : FSp) : Decidable (x.idxOK L) := by cases x <;> unfold FSp.idxOK <;> infer_instance

/-- an index-map span lying inside `[0, L]` -/
def FSp.idxIn (L : Int) : FSp → Prop
  | .span s e _ => 0 ≤ s ∧ s ≤ e ∧ e ≤ L
  | .lost _ => True
instance (L : Int) (x : FSp) : Decidable (x.idxIn L) := by cases x <;> unfold FSp.idxIn <;> infer_instance

/-- an index span inside `[0, L]` is in particular ordered -/
theorem FSp.idxIn.idxOK {L L' : Int} {x : FSp} (h : x.idxIn L) : x.idxOK L' := by
  cases x with
  | lost k => trivial
  | span s e rv => exact h.2.1

theorem getitem_go_spec (m : FM) (hN : NonNeg m) (hne : m.spans ≠ []) : ∀ (l : List FSp),
    (∀ x ∈ l, x.idxOK (len m)) →
    ∃ sp, getitem.go m l = .ok sp ∧ coverL sp = (coverL l).map (compose (cover m))
  | [], _ => ⟨[], rfl, rfl⟩
  | .lost k :: r, h => by
    obtain ⟨sp, hsp, hc⟩ := getitem_go_spec m hN hne r (fun x hx => h x (List.mem_cons_of_mem _ hx))
    refine ⟨.lost k :: sp, ?_, ?_⟩
    · simp only [getitem.go, hsp]; rfl
    · simp only [coverL_cons, hc, List.map_append, coverSp, List.map_replicate, compose]
  | .span s e rv :: r, h => by
    obtain ⟨sp, hsp, hc⟩ := getitem_go_spec m hN hne r (fun x hx => h x (List.mem_cons_of_mem _ hx))
    have h0 := h (.span s e rv) List.mem_cons_self
    simp only [FSp.idxOK] at h0
    obtain ⟨parts, hp, hpc⟩ := remapSpan_spec m hN hne s e rv h0
    refine ⟨parts ++ sp, ?_, ?_⟩
    · simp only [getitem.go, hp, hsp]; rfl
    · simp only [coverL_cons, coverL_append, hc, hpc, List.map_append]

theorem getitem_spec (m n : FM) (hN : NonNeg m) (hne : m.spans ≠ [])
    (hn : ∀ x ∈ n.spans, x.idxOK (len m)) :
    ∃ r, getitem m n = .ok r ∧ r.parentLength = m.parentLength ∧
      cover r = (cover n).map (compose (cover m)) := by
  obtain ⟨sp, hsp, hc⟩ := getitem_go_spec m hN hne n.spans hn
  refine ⟨⟨sp, m.parentLength⟩, ?_, rfl, hc⟩
  unfold getitem
  rw [hsp]

/-- for an index map inside `[0, L]`, composition is plain list indexing -/
theorem compose_eq_getElem? (c : List (Option Int)) {L : Int} {l : List FSp} (h : ∀ x ∈ l, x.idxIn L) :
    (coverL l).map (compose c) = (coverL l).map (fun | none => none | some j => (c[j.toNat]?).join) := by
  apply List.map_congr_left
  intro o ho
  cases o with
  | none => rfl
  | some j =>
    obtain ⟨s, e, rv, hx, hs, _⟩ := (mem_coverL l j).1 ho
    exact if_neg (by have := (h _ hx).1; omega)


/-! ### getitem results stay inside the parent -/

theorem normIndex_range (i L : Int) (hL : 0 ≤ L) : 0 ≤ normIndex i L ∧ normIndex i L ≤ L := by
  unfold normIndex; simp only []; omega

theorem spanSlice_within (x y : FSp) (pl : Int) (oa ob : Option Int) (hw : x.within pl)
    (h : spanSlice x oa ob = .ok y) : y.within pl := by
  cases x with
  | lost n =>
    simp only [spanSlice] at h
    injection h with h; subst h; trivial
  | span s e rv =>
    simp only [FSp.within] at hw
    have key : ∃ st en, 0 ≤ st ∧ st ≤ e - s ∧ 0 ≤ en ∧ en ≤ e - s ∧
        spanSlice (.span s e rv) oa ob = if st > en then .error .assertionError
          else if rv then .ok (mkSpan (e - en) (e - st) true) else .ok (mkSpan (s + st) (s + en) false) := by
      cases oa with
      | none =>
        cases ob with
        | none => exact ⟨0, e - s, by omega, by omega, by omega, by omega, rfl⟩
        | some j =>
          have := normIndex_range j (e - s) (by omega)
          exact ⟨0, normIndex j (e - s), by omega, by omega, by omega, by omega, rfl⟩
      | some i =>
        have := normIndex_range i (e - s) (by omega)
        cases ob with
        | none => exact ⟨normIndex i (e - s), e - s, by omega, by omega, by omega, by omega, rfl⟩
        | some j =>
          have := normIndex_range j (e - s) (by omega)
          exact ⟨normIndex i (e - s), normIndex j (e - s), by omega, by omega, by omega, by omega, rfl⟩
    obtain ⟨st, en, h1, h2, h3, h4, heq⟩ := key
    rw [heq] at h
    split at h
    · cases h
    · split at h <;> (cases h; exact mkSpan_within _ (by omega) (by omega))

theorem map_eq_ok {ε α β : Type} {f : α → β} {x : Except ε α} {b : β} (h : x.map f = .ok b) :
    ∃ a, x = .ok a ∧ f a = b := by
  cases x with
  | error e => cases h
  | ok a => exact ⟨a, rfl, by injection h⟩

theorem trimEnd_within (R r1 : List FSp) (et pl : Int) (hw : ∀ x ∈ R, x.within pl)
    (h : trimEnd R et = .ok r1) : ∀ x ∈ r1, x.within pl := by
  unfold trimEnd at h
  split at h
  · split at h
    · rename_i x hx
      obtain ⟨y, hs, rfl⟩ := map_eq_ok h
      intro z hz
      rcases List.mem_append.1 hz with hz | hz
      · exact hw z (List.dropLast_subset _ hz)
      · rw [List.mem_singleton.1 hz]
        exact spanSlice_within x _ pl _ _ (hw x (List.mem_of_getLast? hx)) hs
    · cases h; exact hw
  · cases h; exact hw

theorem trimStart_within (R r2 : List FSp) (st pl : Int) (hw : ∀ x ∈ R, x.within pl)
    (h : trimStart R st = .ok r2) : ∀ x ∈ r2, x.within pl := by
  unfold trimStart at h
  split at h
  · split at h
    · rename_i x rest
      obtain ⟨y, hs, rfl⟩ := map_eq_ok h
      intro z hz
      rcases List.mem_cons.1 hz with rfl | hz
      · exact spanSlice_within x _ pl _ _ (hw x List.mem_cons_self) hs
      · exact hw z (List.mem_cons_of_mem _ hz)
    · cases h; exact fun _ hx => nomatch hx
  · cases h; exact hw

theorem remapCore_within (sp parts : List FSp) (zlo zhi pl : Int) (hw : ∀ x ∈ sp, x.within pl)
    (h : remapCore sp zlo zhi = .ok parts) : ∀ x ∈ parts, x.within pl := by
  unfold remapCore at h
  simp only [] at h
  split at h
  · injection h with h; subst h; simp
  · unfold trimBoth at h
    split at h
    · cases h
    · rename_i r1 h1
      refine trimStart_within _ _ _ pl ?_ h
      refine trimEnd_within _ _ _ pl ?_ h1
      intro x hx
      exact hw x (List.mem_of_mem_take (List.mem_of_mem_drop hx))

theorem FSp.reversed_within (x : FSp) (pl : Int) (h : x.within pl) : x.reversed.within pl := by
  cases x <;> exact h

theorem remapSpan_within (m : FM) (hw : Within m) (s e : Int) (rv : Bool) (parts : List FSp)
    (h : remapSpan s e rv m = .ok parts) : ∀ x ∈ parts, x.within m.parentLength := by
  rw [remapSpan_core] at h
  split at h
  · rename_i lo ls _ _
    split at h
    · cases h
    · rename_i res hsel
      have hc : ∀ x ∈ res, x.within m.parentLength := by
        split at hsel
        · cases hsel; exact fun _ hx => nomatch hx
        · split at hsel
          · cases hsel
          · exact remapCore_within _ _ _ _ _ hw hsel
      have key : ∀ x ∈ (if e > lo + ls.length then (if s < 0 then FSp.lost (min e 0 - s) :: res else res) ++ [FSp.lost (e - max s (lo + ls.length))]
          else if s < 0 then FSp.lost (min e 0 - s) :: res else res), x.within m.parentLength := by
        split <;> split <;>
          simp only [List.mem_append, List.mem_cons, List.not_mem_nil, or_false, or_imp, forall_and,
            forall_eq, FSp.within, and_true, true_and] <;> exact hc
      cases h
      intro x hx
      split at hx
      · simp only [List.mem_reverse, List.mem_map] at hx
        obtain ⟨y, hy, rfl⟩ := hx
        exact FSp.reversed_within y _ (key y hy)
      · exact key x hx
  · cases h

theorem getitem_go_within (m : FM) (hw : Within m) : ∀ (l sp : List FSp),
    getitem.go m l = .ok sp → ∀ x ∈ sp, x.within m.parentLength
  | [], sp, h => by cases h; exact fun _ hx => nomatch hx
  | .lost k :: r, sp, h => by
    obtain ⟨rest, hr, rfl⟩ := map_eq_ok h
    intro x hx
    rcases List.mem_cons.1 hx with rfl | hx
    · trivial
    · exact getitem_go_within m hw r rest hr x hx
  | .span s e rv :: r, sp, h => by
    simp only [getitem.go] at h
    split at h
    · cases h
    · rename_i parts hp
      obtain ⟨rest, hr, rfl⟩ := map_eq_ok h
      intro x hx
      rcases List.mem_append.1 hx with hx | hx
      · exact remapSpan_within m hw s e rv parts hp x hx
      · exact getitem_go_within m hw r rest hr x hx

end CogentModel.FMap
