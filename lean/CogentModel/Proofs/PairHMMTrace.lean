/-
  The traceback returns a real path whose independently recomputed score is the
  table value.
-/
import CogentModel.Proofs.PairHMMBellman
namespace CogentModel.PairHMM
set_option linter.unusedSectionVars false

variable {S : Type} [Add S] [LT S] [DecidableLT S] [ScoreLaws S]

/-- the pointer walk from a finite entry follows the recurrence backwards: it ends in a start, and the states it
passes form a path whose score is the entry -/
theorem trace_ok (h : HMM S) (loc : Bool) (m : Nat) (hns : NoSilent h) (f : Nat) :
    ∀ (i j s : Nat) (v : S) (acc : List (Nat × Nat × Nat)),
      j ≤ m → 1 ≤ s → s ≤ h.k → val h loc m i j s = some v → i + j + 1 ≤ f →
      ∃ p i0 j0, traceFrom h (V h loc m) f i j s acc = some (annotate h i0 j0 p ++ acc) ∧
        TraceSpec h loc i j s v p i0 j0 := by
  induction f with
  | zero => intro i j s v acc _ _ _ _ hf; exact absurd hf (Nat.not_succ_le_zero _)
  | succ f ih =>
    intro i j s v acc hj hs1 hsk hv hf
    have hs : IsState h s := ⟨hs1, hsk, hns s hs1 hsk⟩
    obtain ⟨hok, hi, hj'⟩ := val_some_back h loc m i j s hj hs hv
    obtain ⟨i', rfl⟩ : ∃ i', i = i' + (h.dir s).1.toNat := ⟨_, (Nat.sub_add_cancel hi).symm⟩
    obtain ⟨j', rfl⟩ : ∃ j', j = j' + (h.dir s).2.toNat := ⟨_, (Nat.sub_add_cancel hj').symm⟩
    have hfuel : i' + j' + 1 ≤ f := by
      have hmove : 1 ≤ (h.dir s).1.toNat + (h.dir s).2.toNat := by
        have := hs.2.2
        revert this; cases (h.dir s).1 <;> cases (h.dir s).2 <;> simp [Bool.toNat]
      omega
    rw [val_step h loc m i' j' s hs hj hok] at hv
    rw [traceFrom, if_neg (Nat.ne_of_gt hs1), if_neg (Nat.not_lt.mpr hsk), Nat.add_sub_cancel, Nat.add_sub_cancel,
      entry_step h loc m i' j' s hs hj hok]
    have hj'm : j' ≤ m := Nat.le_trans (Nat.le_add_right _ _) hj
    rcases (readCell_isMax h loc m i' j' hj'm s).mem with hr | ⟨q, hq1, hqk, hr⟩
    · -- the path starts here
      rw [hr] at hv ⊢
      split at hv
      · next hcs =>
        obtain ⟨f', rfl⟩ := Nat.exists_eq_succ_of_ne_zero (Nat.ne_of_gt (Nat.lt_of_lt_of_le (Nat.succ_pos _) hfuel))
        exact ⟨[s], i', j', by rw [if_pos hcs, traceFrom, if_pos rfl]; rfl,
          TraceSpec.single hs hcs hok hv⟩
      · cases hv
    · -- the path comes from state `q` of the source cell
      rw [hr] at hv ⊢
      obtain ⟨b, _, hb, _⟩ := eadd_eq_some hv
      obtain ⟨w, _, hw, _⟩ := eadd_eq_some hb
      obtain ⟨p, i0, j0, htr, sp⟩ := ih i' j' q w ((s, i' + (h.dir s).1.toNat, j' + (h.dir s).2.toNat) :: acc)
        hj'm hq1 hqk hw hfuel
      refine ⟨p ++ [s], i0, j0, ?_, sp.snoc hs hok (hw ▸ hv)⟩
      rw [htr, annotate_append_list, sp.consumed, List.append_assoc]; rfl
end CogentModel.PairHMM
