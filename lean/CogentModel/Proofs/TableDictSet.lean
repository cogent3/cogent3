/-  C20 — python's counting dict and `set(...)` as the model has them (insertion-ordered association list,
    duplicate-free list): what is looked up, what is a member. -/
import CogentModel.Model.TableOps
namespace CogentModel.TableOps
variable {κ : Type} [DecidableEq κ]

theorem countLookup_countInsert (k x : κ) (acc : List (κ × Nat)) :
    countLookup k (countInsert x acc) = countLookup k acc + (if x = k then 1 else 0) := by
  induction acc with
  | nil => by_cases h : x = k <;> simp [countInsert, countLookup, h]
  | cons e rest ih =>
    obtain ⟨k', n⟩ := e
    by_cases h1 : k' = x
    · subst h1
      by_cases h2 : k' = k <;> simp [countInsert, countLookup, h2]
    · by_cases h2 : k' = k
      · subst h2
        have h3 : ¬ x = k' := fun h => h1 h.symm
        simp [countInsert, countLookup, h1, h3]
      · simp [countInsert, countLookup, h1, h2, ih]

theorem countLookup_countAll (k : κ) (acc : List (κ × Nat)) (ks : List κ) :
    countLookup k (countAll acc ks) = countLookup k acc + (ks.filter (fun x => decide (x = k))).length := by
  induction ks generalizing acc with
  | nil => simp [countAll]
  | cons x xs ih =>
    simp only [countAll]
    rw [ih, countLookup_countInsert]
    by_cases h : x = k <;> simp [h] <;> omega

theorem mem_setInsert (k x : κ) (s : List κ) : k ∈ setInsert x s ↔ k ∈ s ∨ k = x := by
  unfold setInsert
  split
  · exact ⟨Or.inl, fun h => h.elim id (· ▸ ‹x ∈ s›)⟩
  · simp

theorem mem_setOfList (k : κ) (acc ks : List κ) : k ∈ setOfList acc ks ↔ k ∈ acc ∨ k ∈ ks := by
  induction ks generalizing acc with
  | nil => simp [setOfList]
  | cons x xs ih => rw [setOfList, ih, mem_setInsert, List.mem_cons, or_assoc]

theorem nodup_setOfList (acc ks : List κ) (h : acc.Nodup) : (setOfList acc ks).Nodup := by
  induction ks generalizing acc with
  | nil => exact h
  | cons x xs ih =>
    refine ih _ ?_
    unfold setInsert
    split
    · exact h
    · exact List.nodup_append.2 ⟨h, by simp, fun a ha b hb => by
        rw [List.mem_singleton.1 hb]; rintro rfl; contradiction⟩

end CogentModel.TableOps
