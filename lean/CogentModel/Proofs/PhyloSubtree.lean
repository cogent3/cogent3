import CogentModel.Proofs.PhyloUnrooted
import CogentModel.Proofs.PhyloGoodLens
/-! C09: `get_sub_tree` restricted to tips: kept tips, distances among kept tips. -/
namespace CogentModel.Phylo
open PTree
variable {K : Type}

/-- the predicate only looks at kept tips -/
def Kept (inc : List String) (Tk : List String) (φ : List String → Bool) : Prop :=
  (∀ x ∈ Tk, inc.contains x = true) ∧ BipPred Tk φ

theorem Kept.filter {inc Tk : List String} {φ : List String → Bool} (h : Kept inc Tk φ) (A : List String) :
    φ (A.filter fun x => inc.contains x) = φ A :=
  h.2.congr _ _ fun x hx => by
    have := h.1 x hx
    simp only [List.mem_filter, this, and_true]

theorem Kept.none {inc Tk : List String} {φ : List String → Bool} (h : Kept inc Tk φ) (A : List String)
    (hA : ∀ x ∈ A, inc.contains x = false) : φ A = false :=
  h.2.none_in A fun x hx hxA => by have := hA x hxA; rw [h.1 x hx] at this; cases this

theorem phiW_edge [Zero K] (d : K) (φ : List String → Bool) (n : String) (l : Option K) (cs : List (PTree K)) :
    phiW d φ (edgeSplit (PTree.node n l cs)) =
      if φ (tips (PTree.node n l cs)) then lenOr d l else 0 := rfl

/-- what `get_sub_tree` does after the pruning walk -/
theorem getSubTree_ok [Add K] [Zero K] (t : PTree K) (inc : List String) (im kr tonly : Bool) (r : PTree K)
    (h : getSubTree t inc im kr tonly = .ok r) :
    ∃ r0, subGo inc kr tonly t = some r0 ∧ r0.children ≠ [] ∧
      r = (if t.children.length > 2 then
            unrooted (PTree.node (if r0.name = "" then "" else "root") r0.len r0.children)
           else PTree.node (if r0.name = "" then "" else "root") r0.len r0.children) := by
  unfold getSubTree at h
  simp only at h
  generalize (if tonly = true then tips t else allNames t) = known at h
  by_cases hc : (!im && inc.any fun n => !known.contains n) = true
  · rw [if_pos hc] at h; cases h
  rw [if_neg hc] at h
  cases h0 : subGo inc kr tonly t with
  | none => rw [h0] at h; cases h
  | some r0 =>
    simp only [h0] at h
    by_cases he : r0.children.isEmpty = true
    · rw [if_pos he] at h; cases h
    · rw [if_neg he] at h
      exact ⟨r0, rfl, fun e => he (List.isEmpty_iff.2 e), (Except.ok.inj h).symm⟩

section
variable [AddCommMonoid K]

/-- own edge + everything below -/
def wsum (d : K) (φ : List String → Bool) (t : PTree K) : K :=
  phiW d φ (edgeSplit t) + sumBy (phiW d φ) (splits t)

theorem sum_splitsL (d : K) (φ : List String → Bool) (cs : List (PTree K)) :
    sumBy (phiW d φ) (splitsL cs) = sumBy (wsum d φ) cs := by
  induction cs with
  | nil => rfl
  | cons c cs ih => simp only [splitsL_cons, List.cons_append, sumBy, sumBy_append, wsum, ih, add_assoc]

theorem wsum_node (d : K) (φ : List String → Bool) (n : String) (l : Option K) (cs : List (PTree K)) :
    wsum d φ (PTree.node n l cs) =
      (if φ (tips (PTree.node n l cs)) then lenOr d l else 0) + sumBy (wsum d φ) cs := by
  rw [wsum, phiW_edge, splits, sum_splitsL]

/-- merging a single-child edge of length `x` into its child adds `x` to the child's edge -/
theorem wsum_merge (d : K) (φ : List String → Bool) (c : PTree K) (x y : K) (hy : c.len = some y) :
    wsum d φ (PTree.node c.name (mergeLen (some x) c.len) c.children) =
      (if φ (tips c) then x else 0) + wsum d φ c := by
  cases c with
  | node n l cs =>
    cases hy
    simp only [wsum, phiW_edge, name_node, len_node, children_node, mergeLen, lenOr, splits,
      tips_node_len n (some (x + y)) (some y) cs]
    split <;> simp only [add_assoc, zero_add]

/-- a subtree without kept tips contributes nothing -/
theorem wsum_zero (d : K) {inc Tk : List String} {φ : List String → Bool} (hk : Kept inc Tk φ)
    (t : PTree K) (h : ∀ x ∈ tips t, inc.contains x = false) : wsum d φ t = 0 := by
  have hz : ∀ s ∈ edgeSplit t :: splits t, phiW d φ s = 0 := fun s hs => by
    rw [phiW, hk.none s.side fun x hx => h x (child_sides t s hs x hx)]; rfl
  rw [wsum, hz _ List.mem_cons_self, zero_add]
  exact sumBy_zero _ _ fun s hs => hz s (List.mem_cons_of_mem _ hs)

/-- result of pruning one non-root subtree -/
def SubOK (P : K → Prop) (d : K) (inc : List String) (t : PTree K) : Option (PTree K) → Prop
  | none => ∀ x ∈ tips t, inc.contains x = false
  | some r => tips r = (tips t).filter (fun x => inc.contains x) ∧ GoodLens P r ∧
      ∀ Tk φ, Kept inc Tk φ → wsum d φ r = wsum d φ t

def SubLOK (P : K → Prop) (d : K) (inc : List String) (cs rs : List (PTree K)) : Prop :=
  tipsL rs = (tipsL cs).filter (fun x => inc.contains x) ∧ GoodLensL P rs ∧
    ∀ Tk φ, Kept inc Tk φ → sumBy (wsum d φ) rs = sumBy (wsum d φ) cs

mutual
theorem subGo_ok (P : K → Prop) (hadd : ∀ x y, P x → P y → P (x + y)) (d : K)
    (inc : List String) : ∀ (t : PTree K), GoodLens P t → SubOK P d inc t (subGo inc false true t)
  | .node n l cs, hg => by
    obtain ⟨htips, hgood, hsum⟩ := subL_ok P hadd d inc cs hg.2
    obtain ⟨x, rfl, hPx⟩ := hg.1
    simp only [subGo, Bool.not_true, Bool.false_or]
    split
    · -- a kept tip
      rename_i hc
      obtain ⟨hn, hcs⟩ := Bool.and_eq_true_iff.1 hc
      cases List.isEmpty_iff.1 hcs
      exact ⟨by simp only [tips, List.filter_cons, hn, if_true, List.filter_nil], hg, fun _ _ _ => rfl⟩
    · rename_i hc
      have hcs : ∀ c' rs, subL inc true cs = c' :: rs → tips (PTree.node n (some x) cs) = tipsL cs :=
        fun c' rs hrs => tips_node_ne_nil _ _ _ (by rintro rfl; cases hrs)
      split
      · rename_i hrs
        rw [hrs] at htips
        intro y hy
        cases cs with
        | nil =>
          cases List.mem_singleton.1 hy
          simpa using hc
        | cons c cs =>
          rw [tips_node_ne_nil _ _ _ (List.cons_ne_nil _ _)] at hy
          simpa using List.filter_eq_nil_iff.1 htips.symm y hy
      · rename_i c' hrs
        rw [hrs] at htips hgood hsum
        have htt := hcs _ _ hrs
        rw [tipsL, tipsL, List.append_nil] at htips
        obtain ⟨y, hly, hPy⟩ := goodLens_len P c' hgood.1
        refine ⟨by rw [tips_rename, htt, htips], ⟨⟨x + y, by rw [hly]; rfl, hadd x y hPx hPy⟩,
          goodLens_children P c' hgood.1⟩, fun Tk φ hk => ?_⟩
        rw [wsum_merge d φ c' x y hly, wsum_node, ← hsum Tk φ hk, htt, htips, hk.filter]
        simp only [sumBy, add_zero, lenOr]
      · rename_i c' c'' rest hrs
        rw [hrs] at htips hgood hsum
        have htt := hcs _ _ hrs
        refine ⟨by rw [tips_node_ne_nil _ _ _ (List.cons_ne_nil _ _), htt, htips], ⟨⟨x, rfl, hPx⟩, hgood⟩,
          fun Tk φ hk => ?_⟩
        rw [wsum_node, wsum_node, hsum Tk φ hk, tips_node_ne_nil _ _ _ (List.cons_ne_nil _ _), htt, htips,
          hk.filter]
theorem subL_ok (P : K → Prop) (hadd : ∀ x y, P x → P y → P (x + y)) (d : K)
    (inc : List String) : ∀ (cs : List (PTree K)), GoodLensL P cs → SubLOK P d inc cs (subL inc true cs)
  | [], _ => ⟨rfl, trivial, fun _ _ _ => rfl⟩
  | c :: cs, hg => by
    have h1 := subGo_ok P hadd d inc c hg.1
    obtain ⟨ht, hgd, hs⟩ := subL_ok P hadd d inc cs hg.2
    simp only [subL]
    split
    · rename_i hr
      rw [hr] at h1
      have h1 : ∀ y ∈ tips c, inc.contains y = false := h1
      refine ⟨?_, hgd, fun Tk φ hk => ?_⟩
      · have : (tips c).filter (fun x => inc.contains x) = [] :=
          List.filter_eq_nil_iff.2 fun y hy => by rw [h1 y hy]; decide
        rw [tipsL, List.filter_append, ht, this, List.nil_append]
      · rw [sumBy, wsum_zero d hk c h1, zero_add, hs Tk φ hk]
    · rename_i r hr
      rw [hr] at h1
      obtain ⟨h1t, h1g, h1s⟩ := h1
      exact ⟨by rw [tipsL, tipsL, List.filter_append, ht, h1t], ⟨h1g, hgd⟩,
        fun Tk φ hk => by rw [sumBy, sumBy, h1s Tk φ hk, hs Tk φ hk]⟩
end

/-- the pruned root before renaming / re-unrooting: its children hold the kept tips, and every
bipartition functional over the kept tips has the value it had on the source -/
theorem subGo_root (P : K → Prop) (hadd : ∀ x y, P x → P y → P (x + y)) (d : K)
    (inc : List String) (kr : Bool) (n : String) (l : Option K) (cs : List (PTree K)) (hcs : cs ≠ [])
    (hg : GoodLensL P cs) (r0 : PTree K) (h : subGo inc kr true (PTree.node n l cs) = some r0)
    (hr0 : r0.children ≠ []) :
    tipsL r0.children = (tipsL cs).filter (fun x => inc.contains x) ∧ GoodLensL P r0.children ∧
      ∀ φ, BipPred ((tipsL cs).filter fun x => inc.contains x) φ →
        sumBy (phiW d φ) (splitsL r0.children) = sumBy (phiW d φ) (splitsL cs) := by
  obtain ⟨htips, hgood, hsum⟩ := subL_ok P hadd d inc cs hg
  have hk : ∀ φ, BipPred ((tipsL cs).filter fun x => inc.contains x) φ → Kept inc _ φ :=
    fun φ hφ => ⟨fun x hx => (List.mem_filter.1 hx).2, hφ⟩
  have hemp : cs.isEmpty = false := by cases cs with | nil => exact absurd rfl hcs | cons => rfl
  simp only [subGo, hemp, Bool.not_true, Bool.or_false, Bool.and_false, Bool.false_eq_true, if_false] at h
  -- the children of the result are the pruned children …
  have hrs : tipsL (subL inc true cs) = (tipsL cs).filter (fun x => inc.contains x) ∧
      GoodLensL P (subL inc true cs) ∧ ∀ φ, BipPred ((tipsL cs).filter fun x => inc.contains x) φ →
        sumBy (phiW d φ) (splitsL (subL inc true cs)) = sumBy (phiW d φ) (splitsL cs) :=
    ⟨htips, hgood, fun φ hφ => by rw [sum_splitsL, sum_splitsL, hsum _ φ (hk φ hφ)]⟩
  split at h
  · cases h
  · rename_i c' hc'
    split at h
    · cases h; rw [children_node, ← hc']; exact hrs
    · -- … except when a single pruned child is merged into the root: its edge separates nothing kept
      cases h
      rw [hc'] at htips hgood hsum
      rw [children_node] at hr0 ⊢
      rw [tipsL, tipsL, List.append_nil] at htips
      refine ⟨by rw [← tips_of_children c' hr0, htips], goodLens_children P c' hgood.1, fun φ hφ => ?_⟩
      have := hsum _ φ (hk φ hφ)
      rw [sumBy, sumBy, add_zero, wsum, phiW, edgeSplit, hφ.all_in (tips c') fun z hz => htips ▸ hz] at this
      rw [← splits_eq_children, sum_splitsL, ← this]
      exact (zero_add _).symm
  · rename_i hc'
    cases h; rw [children_node, ← hc']; exact hrs

theorem goodLensL_unrooted (P : K → Prop) (hadd : ∀ x y, P x → P y → P (x + y)) (t : PTree K)
    (hg : GoodLensL P t.children) : GoodLensL P (unrooted t).children := by
  cases t with
  | node n l cs =>
    rw [children_node] at hg
    rcases unrooted_cases n l cs with h | ⟨pre, x, post, -, rfl, -, h⟩ <;> rw [h, children_node]
    · exact hg
    rw [goodLensL_iff] at hg ⊢
    obtain ⟨xl, hxl, hPx⟩ := goodLens_len P x (hg x (by simp))
    have hb : ∀ s, GoodLens P s → GoodLens P (bumpLen x.len s) := fun s hs' => by
      obtain ⟨sl, hsl, hPs⟩ := goodLens_len P s hs'
      exact ⟨⟨sl + xl, by rw [hsl, hxl]; rfl, hadd sl xl hPs hPx⟩, goodLens_children P s hs'⟩
    intro c hc
    simp only [List.mem_append, List.mem_map] at hc
    rcases hc with (⟨s, hs', rfl⟩ | hc) | ⟨s, hs', rfl⟩
    · exact hb s (hg s (List.mem_append_left _ hs'))
    · exact (goodLensL_iff P _).1 (goodLens_children P x (hg x (by simp))) c hc
    · exact hb s (hg s (List.mem_append_right _ (List.mem_cons_of_mem _ hs')))

/-- `get_sub_tree(names, tipsonly=True)`: the result has exactly the kept tips (in the original
order), its edges still carry lengths in `P`, and every bipartition functional over the kept tips
(weighted unrooted topology; in particular every distance) is the original one. -/
theorem getSubTree_phi (P : K → Prop) (hadd : ∀ x y, P x → P y → P (x + y)) (d : K)
    (t : PTree K) (inc : List String) (im kr : Bool) (r : PTree K)
    (h : getSubTree t inc im kr true = .ok r)
    (hg : GoodLensL P t.children) (hnd : (tips t).Nodup) :
    tips r = (tips t).filter (fun x => inc.contains x) ∧ GoodLensL P r.children ∧
      ∀ φ, BipPred (tips r) φ → topoWeight d φ r = topoWeight d φ t := by
  cases t with
  | node n l cs =>
    simp only [children_node] at hg
    obtain ⟨r0, h0', hr0, h⟩ := getSubTree_ok _ inc im kr true r h
    have h := h.symm
    have hcs : cs ≠ [] := by
      rintro rfl
      simp only [subGo, subL] at h0'
      split at h0'
      · injection h0' with h0'; subst h0'; simp at hr0
      · cases h0'
    obtain ⟨ht, hgd, hs⟩ := subGo_root P hadd d inc kr n l cs hcs hg r0 h0' hr0
    have htt : tips (PTree.node n l cs) = tipsL cs := tips_node_ne_nil _ _ _ hcs
    generalize hr1 : PTree.node (if r0.name = "" then "" else "root") r0.len r0.children = r1 at h
    have hr1t : tips r1 = (tips (PTree.node n l cs)).filter (fun x => inc.contains x) := by
      rw [← hr1, tips_node_ne_nil _ _ _ hr0, ht, htt]
    have hr1g : GoodLensL P r1.children := by rw [← hr1]; exact hgd
    have hr1d : ∀ φ, BipPred (tips r1) φ → topoWeight d φ r1 = topoWeight d φ (PTree.node n l cs) := by
      intro φ hφ
      rw [hr1t, htt] at hφ
      rw [← hr1]
      exact hs φ hφ
    simp only [children_node] at h
    by_cases hgt : cs.length > 2
    · simp only [hgt, if_true] at h
      subst h
      refine ⟨by rw [tips_unrooted, hr1t], goodLensL_unrooted P hadd r1 hr1g, ?_⟩
      intro φ hφ
      rw [tips_unrooted] at hφ
      rw [unrooted_phi d r1 (by rw [hr1t]; exact hnd.filter _) (goodLensL_len P _ hr1g) φ hφ]
      exact hr1d φ hφ
    · simp only [hgt, if_false] at h
      subst h
      exact ⟨hr1t, hr1g, hr1d⟩

end
end CogentModel.Phylo
