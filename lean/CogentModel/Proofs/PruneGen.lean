import Mathlib.Data.List.Basic
import CogentModel.Gen.C02Indexed
import CogentModel.Model.Prune
/-! Loop invariant relating the TRANSLATED `_indexed` (`Gen/C02Indexed.lean`) to the hand model `Prune.indexed`. -/
namespace CogentModel.C02G
open CogentModel.Prune CogentModel.PyAccum CogentModel.Gen.C02Indexed

variable {κ : Type} [DecidableEq κ]

/-- relation between the state of the translated loop and of the hand model after the same keys, with `d` keys
still to come: the pre-allocated index array holds the hand model's index followed by `d` zeros, and `seen` maps
exactly the keys in `unique` to their positions -/
def Rel (d : Nat) (st : St κ) (h : Indexed κ) : Prop :=
  st.unique = h.uniq ∧ st.counts = h.counts
  ∧ st.index = h.index ++ List.replicate d 0
  ∧ ∀ k, st.seen.lookup k = if k ∈ h.uniq then some (h.uniq.idxOf k) else none

theorem set_at_end (xs : List Nat) (d v : Nat) :
    (xs ++ List.replicate (d + 1) 0).set xs.length v = (xs ++ [v]) ++ List.replicate d 0 := by
  rw [List.replicate_succ, List.set_append_right _ _ (Nat.le_refl _), Nat.sub_self, List.set_cons_zero,
    List.append_assoc, List.singleton_append]

theorem body_rel (d : Nat) (st : St κ) (h : Indexed κ) (key : κ) (hr : Rel (d + 1) st h) :
    Rel d (body st h.index.length key) (indexedStep h key) := by
  obtain ⟨hu, hc, hi, hs⟩ := hr
  unfold body indexedStep
  by_cases hk : key ∈ h.uniq
  · have hlt : h.uniq.idxOf key < h.uniq.length := List.idxOf_lt_length_iff.mpr hk
    simp only [dictIn, dictGet, hs key, hk, hlt, if_true, Option.isSome_some, Option.getD_some]
    exact ⟨hu, congrArg (bumpAt · _) hc, hi ▸ set_at_end h.index d _, hs⟩
  · have hlt : ¬ h.uniq.idxOf key < h.uniq.length := fun hh => hk (List.idxOf_lt_length_iff.mp hh)
    simp only [dictIn, hs key, hk, hlt, if_false, Option.isSome_none, Bool.false_eq_true]
    refine ⟨congrArg (· ++ _) hu, congrArg (· ++ _) hc, hi ▸ hu ▸ set_at_end h.index d _, fun k => ?_⟩
    rw [dictSet, List.lookup_cons, hs k, hu]
    by_cases hkk : k = key
    · subst hkk
      simp [List.idxOf_append_of_notMem hk]
    · have hne : (k == key) = false := by simpa using hkk
      by_cases hm : k ∈ h.uniq <;> simp [hne, hkk, hm, List.idxOf_append_of_mem]

theorem indexedStep_index_len (h : Indexed κ) (key : κ) :
    (indexedStep h key).index.length = h.index.length + 1 := by
  simp only [indexedStep]
  split <;> exact List.length_append

theorem loop_rel : ∀ (rest : List κ) (st : St κ) (h : Indexed κ),
    Rel rest.length st h → Rel 0 (loop rest h.index.length st) (indexedGo rest h)
  | [], _, _, hr => hr
  | key :: rest, st, h, hr => by
    have := loop_rel rest _ _ (body_rel rest.length st h key hr)
    rwa [indexedStep_index_len] at this

end CogentModel.C02G
