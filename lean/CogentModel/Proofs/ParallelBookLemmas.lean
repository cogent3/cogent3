import CogentModel.Model.ParallelBook
/-! `util/parallel` bookkeeping: chunking neither loses nor reorders an element (`chunks_flatten`), and reading a list
back through all its positions in order returns it (`filterMap_range_getElem?`): with the pool assumption, a permutation
of the positions, this is "every result exactly once". -/
namespace CogentModel.ParallelBook

theorem chunksAux_flatten {α} (c : Nat) (hc : 0 < c) (fuel : Nat) (s : List α) (h : s.length ≤ fuel) :
    (chunksAux c fuel s).flatten = s := by
  induction fuel generalizing s with
  | zero => cases s <;> simp_all [chunksAux]
  | succ n ih =>
    cases s with
    | nil => simp [chunksAux]
    | cons x xs =>
      simp only [chunksAux, List.flatten_cons]
      rw [ih _ (by simp only [List.length_drop, List.length_cons] at *; omega), List.take_append_drop]

theorem chunks_flatten {α} (c : Nat) (hc : 0 < c) (s : List α) : (chunks c s).flatten = s :=
  chunksAux_flatten c hc _ s (Nat.le_refl _)

theorem filterMap_range'_getElem? {α} (xs pre : List α) :
    (List.range' pre.length xs.length).filterMap (fun k => (pre ++ xs)[k]?) = xs := by
  induction xs generalizing pre with
  | nil => simp
  | cons x xs ih =>
    rw [List.length_cons, List.range'_succ, List.filterMap_cons]
    have h0 : (pre ++ x :: xs)[pre.length]? = some x := by simp
    rw [h0]
    have := ih (pre ++ [x])
    simp only [List.length_append, List.length_singleton, List.append_assoc, List.singleton_append] at this
    rw [this]

theorem filterMap_range_getElem? {α} (xs : List α) :
    (List.range xs.length).filterMap (fun k => xs[k]?) = xs := by
  have := filterMap_range'_getElem? xs []
  simpa [List.range_eq_range'] using this

end CogentModel.ParallelBook
