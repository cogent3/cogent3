import CogentModel.Proofs.IndelMapPattern
/-! `__add__`: the gap list of the sum is that of the left operand followed by the shifted one of the right operand,
a trailing gap meeting a leading gap merged into one; its pattern is the concatenation. -/
namespace CogentModel.IndelMap
open CogentModel.Gapped List CogentModel

theorem replicate_toNat_add {α} (a : α) (x y : Int) (hx : 0 ≤ x) (hy : 0 ≤ y) :
    replicate (x + y).toNat a = replicate x.toNat a ++ replicate y.toNat a := by
  rw [replicate_append_replicate, Int.toNat_add hx hy]

theorem patG_append (pla plb : Int) (hb : 0 ≤ plb) (G2 : List (Int × Int)) (h2 : ∀ g ∈ G2, 0 ≤ g.1)
    (G1 : List (Int × Int)) : ∀ (next : Int), next ≤ pla → (∀ g ∈ G1, g.1 ≤ pla) →
    patG next (G1 ++ shiftG pla G2) (pla + plb) = patG next G1 pla ++ patG 0 G2 plb := by
  induction G1 with
  | nil =>
    intro next hn _
    cases G2 with
    | nil =>
      simp only [shiftG, map_nil, append_nil, patG]
      have : pla + plb - next = (pla - next) + (plb - 0) := by omega
      rw [this, replicate_toNat_add _ _ _ (by omega) (by omega)]
    | cons g r =>
      obtain ⟨p, l⟩ := g
      have hp := h2 (p, l) (by simp)
      have hs := patG_shift r pla p plb
      simp only [shiftG] at hs
      simp only [shiftG, map_cons, nil_append, patG, hs]
      have : pla + p - next = (pla - next) + (p - 0) := by omega
      rw [this, replicate_toNat_add _ _ _ (by omega) (by simpa using hp), append_assoc]
  | cons g r ih =>
    intro next hn hr
    obtain ⟨p, l⟩ := g
    have hp := hr (p, l) (by simp)
    simp only [cons_append, patG, append_assoc]
    rw [ih p hp (fun g hg => hr g (by simp [hg]))]

theorem diffsFrom_append (xs : List Int) : ∀ (pc : Int) (ys : List Int),
    diffsFrom pc (xs ++ ys) = diffsFrom pc xs ++ diffsFrom (lastOr pc xs) ys := by
  induction xs with
  | nil => intro pc ys; rfl
  | cons x r ih => intro pc ys; simp only [cons_append, diffsFrom, lastOr, ih]

theorem diffsFrom_map_add (ys : List Int) : ∀ (d pc : Int),
    diffsFrom (d + pc) (ys.map (d + ·)) = diffsFrom pc ys := by
  induction ys with
  | nil => intro _ _; rfl
  | cons y r ih => intro d pc; simp only [map_cons, diffsFrom, ih]; congr 1; omega

theorem dropLast_append_lastD : ∀ (xs : List Int), xs ≠ [] → xs = xs.dropLast ++ [lastD xs] := by
  intro xs
  induction xs with
  | nil => intro h; exact absurd rfl h
  | cons x r ih =>
    intro _
    cases r with
    | nil => simp [lastD]
    | cons y r' =>
      rw [lastD_cons_cons, dropLast_cons_cons, cons_append, ← ih (by simp)]

theorem zip_shift (gp L : List Int) (d : Int) : zip (gp.map (d + ·)) L = shiftG d (zip gp L) := by
  rw [zip_map_left]; rfl

theorem cum_le_last (m : IMap) (h : WF m) : ∀ c ∈ 0 :: m.cumLens, c ≤ lastOr 0 m.cumLens := by
  rw [← lastD_cons]; exact pairwise_le_lastD _ h.cum_sorted

/-- the gaps of the operands touch only where `__add__` merges: a trailing gap meeting a leading gap -/
theorem cross_lt (a b : IMap) (ha : WF a) (hb : WF b)
    (hm : ¬ (a.gapPos ≠ [] ∧ b.gapPos ≠ [] ∧ lastD a.gapPos = a.parentLength ∧ b.gapPos.headD 0 = 0)) :
    ∀ x ∈ a.gapPos, ∀ q ∈ b.gapPos, x < a.parentLength + q := by
  intro x hx q hq
  have hxr := ha.pos_range x hx
  have hqr := hb.pos_range q hq
  by_cases hxl : x < a.parentLength
  · omega
  by_cases hq0 : 0 < q
  · omega
  exfalso
  have hane := ne_nil_of_mem hx
  have hbne := ne_nil_of_mem hq
  refine hm ⟨hane, hbne, ?_, ?_⟩
  · have h1 := pairwise_le_lastD _ ha.pos_sorted x hx
    have h2 := (ha.pos_range _ (lastD_mem _ hane)).2
    omega
  · cases hgb : b.gapPos with
    | nil => exact absurd hgb hbne
    | cons p ps =>
      rw [hgb] at hq
      have hp0 := (hb.pos_range p (by rw [hgb]; exact mem_cons_self)).1
      have hsorted := hb.pos_sorted
      rw [hgb] at hsorted
      rcases mem_cons.mp hq with rfl | hq'
      · show q = 0; omega
      · have := (pairwise_cons.mp hsorted).1 q hq'; omega

/-- the shape of the operands when `__add__` merges -/
theorem merge_shape (a b : IMap) (ha : WF a) (hb : WF b)
    (hm : a.gapPos ≠ [] ∧ b.gapPos ≠ [] ∧ lastD a.gapPos = a.parentLength ∧ b.gapPos.headD 0 = 0) :
    ∃ A' C' B' cb0 D', a.gapPos = A' ++ [a.parentLength] ∧ a.cumLens = C' ++ [lastOr 0 a.cumLens] ∧
      a.gapPos.dropLast = A' ∧ a.cumLens.dropLast = C' ∧ A'.length = C'.length ∧
      b.gapPos = 0 :: B' ∧ b.cumLens = cb0 :: D' := by
  obtain ⟨hane, hbne, hlast, hhead⟩ := hm
  have hcne := mt ha.gapPos_eq_nil_iff.mpr hane
  have hA := dropLast_append_lastD a.gapPos hane
  have hC := dropLast_append_lastD a.cumLens hcne
  rw [hlast] at hA; rw [← lastOr_eq_lastD 0 _ hcne] at hC
  obtain ⟨B', hB⟩ : ∃ B', b.gapPos = 0 :: B' := by
    cases hg : b.gapPos with
    | nil => exact absurd hg hbne
    | cons p ps => rw [hg] at hhead; exact ⟨ps, congrArg (· :: ps) hhead⟩
  obtain ⟨cb0, D', hD⟩ : ∃ cb0 D', b.cumLens = cb0 :: D' := by
    cases hc : b.cumLens with
    | nil => exact absurd (hb.gapPos_eq_nil_iff.mpr hc) hbne
    | cons c cs => exact ⟨c, cs, rfl⟩
  exact ⟨_, _, B', cb0, D', hA, hC, rfl, rfl, by simp [length_dropLast, ha.len_eq], hB, hD⟩

/-- general shape of the result of `add`: the left operand contributes a prefix of its arrays (all
of them, or all but the trailing gap that merges); well-formedness and denotation from the parts -/
theorem add_result (a b : IMap) (ha : WF a) (hb : WF b) (A' C' : List Int)
    (hA : A' <+: a.gapPos) (hC : C' <+: a.cumLens) (hlen : A'.length = C'.length)
    (hcross : ∀ x ∈ A', ∀ q ∈ b.gapPos, x < a.parentLength + q)
    (hpat : patG 0 (zip (A' ++ b.gapPos.map (a.parentLength + ·))
          (diffsFrom 0 (C' ++ b.cumLens.map (lastOr 0 a.cumLens + ·)))) (a.parentLength + b.parentLength) =
      patG 0 (zip a.gapPos (diffsFrom 0 a.cumLens)) a.parentLength ++
      patG 0 (zip b.gapPos (diffsFrom 0 b.cumLens)) b.parentLength) :
    ∃ r, mk (A' ++ b.gapPos.map (a.parentLength + ·)) (C' ++ b.cumLens.map (lastOr 0 a.cumLens + ·))
        (a.parentLength + b.parentLength) = .ok r ∧ WF r ∧ abs r = Gapped.concat (abs a) (abs b) := by
  have hpa := ha.pl_nonneg
  have hpb := hb.pl_nonneg
  have hll : (A' ++ b.gapPos.map (a.parentLength + ·)).length =
      (C' ++ b.cumLens.map (lastOr 0 a.cumLens + ·)).length := by simp [hlen, hb.len_eq]
  have hr : ∀ p ∈ A' ++ b.gapPos.map (a.parentLength + ·), 0 ≤ p ∧ p ≤ a.parentLength + b.parentLength := by
    intro p hp
    rcases mem_append.mp hp with h1 | h1
    · have := ha.pos_range p (hA.subset h1); omega
    · obtain ⟨q, hq, rfl⟩ := mem_map.mp h1
      have := hb.pos_range q hq; omega
  have hwf : WF ⟨A' ++ b.gapPos.map (a.parentLength + ·), C' ++ b.cumLens.map (lastOr 0 a.cumLens + ·),
      a.parentLength + b.parentLength⟩ := by
    refine ⟨by show 0 ≤ a.parentLength + b.parentLength; omega, hll, ?_, ?_, hr⟩
    · exact pairwise_append.mpr ⟨ha.pos_sorted.sublist hA.sublist,
        hb.pos_sorted.map _ (fun x y hxy => by omega),
        fun x hx y hy => by obtain ⟨q, hq, rfl⟩ := mem_map.mp hy; exact hcross x hx q hq⟩
    · show (0 :: (C' ++ _)).Pairwise _
      rw [← cons_append]
      refine pairwise_append.mpr ⟨ha.cum_sorted.sublist (hC.sublist.cons_cons 0),
        (pairwise_cons.mp hb.cum_sorted).2.map _ (fun x y hxy => by omega), ?_⟩
      intro x hx y hy
      obtain ⟨c, hc, rfl⟩ := mem_map.mp hy
      have := cum_le_last a ha x ((hC.sublist.cons_cons 0).subset hx)
      have := cum_pos b hb c hc
      omega
  refine ⟨_, wf_mk_ok _ hwf, hwf, ?_⟩
  rw [abs_eq_ofPattern _ hwf]
  unfold Gapped.concat
  congr 1
  rw [pattern_abs_G, pattern_abs_G a, pattern_abs_G b]
  exact hpat

/-- **`IndelMap.__add__` is the map of the concatenated string** (a trailing gap of the left operand
and a leading gap of the right one become one gap), never raises, and the result is well formed -/
theorem add_spec' (a b : IMap) (ha : WF a) (hb : WF b) :
    ∃ r, add a b = .ok r ∧ WF r ∧ abs r = Gapped.concat (abs a) (abs b) := by
  by_cases hm : a.gapPos ≠ [] ∧ b.gapPos ≠ [] ∧ lastD a.gapPos = a.parentLength ∧ b.gapPos.headD 0 = 0
  · -- a trailing gap of `a` meets a leading gap of `b`
    obtain ⟨A', C', B', cb0, D', hA, hC, hA', hC', hlen', hB, hD⟩ := merge_shape a b ha hb hm
    have hPa : ∀ x ∈ A', x < a.parentLength := by
      have := ha.pos_sorted; rw [hA] at this
      exact fun x hx => (pairwise_append.mp this).2.2 x hx _ (mem_singleton_self _)
    unfold add
    simp only [lastCum_eq a ha]
    simp only [hm, ne_eq, not_false_eq_true, and_self, decide_true, if_true, hA', hC']
    refine add_result a b ha hb A' C' ⟨_, hA.symm⟩ ⟨_, hC.symm⟩ hlen'
      (fun x hx q hq => by have := hPa x hx; have := (hb.pos_range q hq).1; omega) ?_
    generalize lastOr 0 a.cumLens = cl at *
    have hcb0 : 0 < cb0 := cum_pos b hb cb0 (by rw [hD]; exact mem_cons_self)
    have hl1 : lastOr 0 C' < cl := by
      have := ha.cum_sorted; rw [hC, ← cons_append] at this
      exact (pairwise_append.mp this).2.2 _ (by rw [← lastD_cons]; exact lastD_mem _ (cons_ne_nil _ _)) cl
        (mem_singleton_self _)
    have hposB : ∀ g ∈ zip B' (diffsFrom cb0 D'), 0 ≤ g.1 := fun g hg =>
      (hb.pos_range g.1 (by rw [hB]; exact mem_cons_of_mem _ (of_mem_zip hg).1)).1
    have hposA : ∀ g ∈ zip A' (diffsFrom 0 C') ++ [(a.parentLength + 0, cl + cb0 - lastOr 0 C')],
        g.1 ≤ a.parentLength := by
      intro g hg
      rcases mem_append.mp hg with h1 | h1
      · exact Int.le_of_lt (hPa g.1 (of_mem_zip h1).1)
      · rw [mem_singleton] at h1; subst h1; simp
    -- the arrays of the sum: gaps of `a` but the last, the merged gap, the shifted later gaps of `b`
    have hL : zip (A' ++ b.gapPos.map (a.parentLength + ·)) (diffsFrom 0 (C' ++ b.cumLens.map (cl + ·))) =
        (zip A' (diffsFrom 0 C') ++ [(a.parentLength + 0, cl + cb0 - lastOr 0 C')]) ++
          shiftG a.parentLength (zip B' (diffsFrom cb0 D')) := by
      rw [diffsFrom_append, hB, hD]
      simp only [map_cons, diffsFrom]
      rw [diffsFrom_map_add D' cl cb0, zip_append (by simp [diffsFrom_length, hlen']), zip_cons_cons, zip_shift]
      simp
    have hRa : zip a.gapPos (diffsFrom 0 a.cumLens) =
        zip A' (diffsFrom 0 C') ++ [(a.parentLength, cl - lastOr 0 C')] := by
      rw [hA, hC, diffsFrom_append, zip_append (by simp [diffsFrom_length, hlen'])]
      simp [diffsFrom]
    have hRb : zip b.gapPos (diffsFrom 0 b.cumLens) = (0, cb0 - 0) :: zip B' (diffsFrom cb0 D') := by
      rw [hB, hD]; simp [diffsFrom]
    rw [hL, hRa, hRb, patG_append _ _ hb.pl_nonneg _ hposB _ 0 ha.pl_nonneg hposA, patG_snoc, patG_snoc]
    simp only [patG, Int.add_zero, Int.sub_self, Int.toNat_zero, replicate_zero, nil_append, append_nil,
      append_assoc, Int.sub_zero]
    congr 1
    rw [show cl + cb0 - lastOr 0 C' = (cl - lastOr 0 C') + cb0 by omega,
      replicate_toNat_add _ _ _ (by omega) (by omega), append_assoc]
  · unfold add
    simp only [hm, decide_false, Bool.false_eq_true, if_false, lastCum_eq a ha]
    refine add_result a b ha hb a.gapPos a.cumLens (prefix_refl _) (prefix_refl _) ha.len_eq
      (cross_lt a b ha hb hm) ?_
    have := diffsFrom_map_add b.cumLens (lastOr 0 a.cumLens) 0
    rw [Int.add_zero] at this
    rw [diffsFrom_append, this, zip_append (by simp [diffsFrom_length, ha.len_eq]), zip_shift]
    exact patG_append a.parentLength b.parentLength hb.pl_nonneg _
      (fun g hg => (hb.pos_range g.1 (of_mem_zip hg).1).1) _ 0 ha.pl_nonneg
      (fun g hg => (ha.pos_range g.1 (of_mem_zip hg).1).2)

end CogentModel.IndelMap
