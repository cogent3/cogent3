import CogentModel.Model.IndelMap
import CogentModel.Proofs.SliceWindow
import CogentModel.Proofs.LatticeSlice
/-! The bounds `__getitem__` computes (`View.wrapIdx`, then clamping), and `xs[a:b]` as a `drop` followed by a `take` at them. -/
namespace CogentModel.View

/-- `get_seq_index` and integer indexing write the same conversion with the test the other way round -/
theorem wrapIdx_eq_ite (x n : Int) : wrapIdx x n = if x < 0 then n + x else x := by
  simp only [wrapIdx, ge_iff_le, ← Int.not_le, ite_not]

/-- a converted bound is negative exactly when the bound lies below `-n` -/
theorem wrapIdx_neg_iff (x n : Int) (hn : 0 ≤ n) : wrapIdx x n < 0 ↔ x < -n := by
  unfold wrapIdx; split <;> omega

end CogentModel.View

namespace CogentModel.IndelMap
open List CogentModel

/-- `xs[a:b]` with the bounds converted the way `__getitem__` converts them -/
theorem slice_of_norm {α} [Inhabited α] (xs : List α) (n : Int) (hn : (xs.length : Int) = n) (a b : Option Int)
    (h0 : 0 ≤ View.wrapIdx (a.getD 0) n) (h1 : 0 ≤ View.wrapIdx (b.getD n) n) :
    PySlice.slice xs a b 1 =
      (xs.drop (min (View.wrapIdx (a.getD 0) n) n).toNat).take
        (min (View.wrapIdx (b.getD n) n) n - min (View.wrapIdx (a.getD 0) n) n).toNat := by
  subst hn
  have hn : (0 : Int) ≤ xs.length := Int.natCast_nonneg _
  rw [PySlice.slice_step1, View.clampP_eq _ _ hn, View.clampP_eq _ _ hn, Int.max_eq_left h0, Int.max_eq_left h1]

end CogentModel.IndelMap
