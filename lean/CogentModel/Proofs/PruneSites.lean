import Mathlib.Algebra.BigOperators.Ring.Finset
import Mathlib.Algebra.BigOperators.Ring.List
import Mathlib.Algebra.BigOperators.Group.List.Basic
import Mathlib.Tactic.Ring
import Mathlib.Algebra.BigOperators.Group.Finset.Sigma
import CogentModel.Model.PruneSites
import CogentModel.Proofs.Prune
import CogentModel.Proofs.PruneCompress
/-!
C02 with several loci and a hidden Markov chain over site classes: the forward loop is a sum over paths; the switch
matrix is stochastic and in detailed balance with the patch probabilities.
-/
namespace CogentModel.PruneSites
open CogentModel.Prune Finset

theorem sumDefn_eq {S : Type} [AddCommMonoid S] (xs : List S) : sumDefn xs = xs.sum :=
  List.sum_eq_foldl.symm

section semiring
variable {R : Type} [CommSemiring R]

theorem step_get (k : Nat) (M : Mat R) (sp : Vec R) (e : Nat → R) (j : Nat) :
    (step k M sp e).get j = (∑ i ∈ range k, sp.get i * M i j) * e j := by
  simp [step, sumOver_eq]

/-- the pre-fix loop body is the present one run with the transposed matrix -/
theorem stepOld_eq (k : Nat) (M : Mat R) (sp : Vec R) (e : Nat → R) :
    stepOld k M sp e = step k (transpose M) sp e := by
  unfold stepOld step transpose
  congr 1
  funext j
  congr 2
  funext i
  exact mul_comm _ _

theorem forwardOldGo_eq (k : Nat) (M : Mat R) :
    ∀ (es : List (Nat → R)) (sp : Vec R), forwardOldGo k M es sp = forwardGo k (transpose M) es sp
  | [], _ => rfl
  | e :: es, sp => by rw [forwardOldGo, forwardGo, stepOld_eq, forwardOldGo_eq k M es]

theorem forwardOld_eq (k : Nat) (M : Mat R) (init : Nat → R) (es : List (Nat → R)) :
    forwardOld k M init es = forward k (transpose M) init es := by
  unfold forwardOld forward
  rw [forwardOldGo_eq]

/-- the sum over the paths of length `n+1` of a weight that factors over the first state -/
theorem sum_paths_succ (k n : Nat) (f : List Nat → R) (c : Nat → R) (g : Nat → List Nat → R)
    (h : ∀ z zs, f (z :: zs) = c z * g z zs) :
    ((paths k (n + 1)).map f).sum = ∑ z ∈ range k, c z * ((paths k n).map (g z)).sum := by
  simp only [paths]
  rw [sum_map_flatMap, list_range_sum]
  refine Finset.sum_congr rfl fun z _ => ?_
  rw [List.map_map, ← List.sum_map_mul_left]
  exact congrArg List.sum (List.map_congr_left fun zs _ => h z zs)

/-- the paths that leave `p`, split by their first state -/
theorem chain_sum_cons (k : Nat) (T : Mat R) (p : Nat) (e : Nat → R) (es : List (Nat → R)) :
    ((paths k (es.length + 1)).map (chainW T p (e :: es))).sum
      = ∑ z ∈ range k, (T p z * e z) * ((paths k es.length).map (chainW T z es)).sum :=
  sum_paths_succ k es.length _ _ (fun z => chainW T z es) fun _ _ => rfl

theorem bruteHmmPre_eq (k : Nat) (init : Nat → R) (T : Mat R) (es : List (Nat → R)) :
    bruteHmmPre k init T es = ∑ p ∈ range k, init p * ((paths k es.length).map (chainW T p es)).sum :=
  sum_paths_succ k es.length _ init (fun p => chainW T p es) fun _ _ => rfl

theorem forwardGo_sum (k : Nat) (M : Mat R) :
    ∀ (es : List (Nat → R)) (sp : Vec R),
      sumOver k (forwardGo k M es sp).get
        = ∑ p ∈ range k, sp.get p * ((paths k es.length).map (chainW M p es)).sum
  | [], sp => by simp [forwardGo, paths, chainW, sumOver_eq]
  | e :: es, sp => by
    rw [forwardGo, forwardGo_sum k M es]
    simp only [List.length_cons, chain_sum_cons, step_get, Finset.mul_sum, Finset.sum_mul]
    rw [Finset.sum_comm]
    refine Finset.sum_congr rfl fun p _ => Finset.sum_congr rfl fun z _ => ?_
    ring

/-- with a stationary initial distribution the extra state in front disappears -/
theorem pre_eq_brute (k : Nat) (π : Nat → R) (T : Mat R)
    (hst : ∀ z, z < k → ∑ p ∈ range k, π p * T p z = π z) (e : Nat → R) (es : List (Nat → R)) :
    bruteHmmPre k π T (e :: es) = bruteHmm k π T (e :: es) := by
  rw [bruteHmmPre_eq, bruteHmm, List.length_cons,
    sum_paths_succ k es.length _ (fun z => π z * e z) (fun z => chainW T z es) fun _ _ => rfl]
  simp only [chain_sum_cons, Finset.mul_sum]
  rw [Finset.sum_comm]
  refine sum_range_congr fun z hz => ?_
  rw [← hst z hz, Finset.sum_mul, Finset.sum_mul]
  exact Finset.sum_congr rfl fun p _ => by ring

end semiring

section ring
variable {R : Type} [CommRing R]

theorem switchMatrix_eq (s : R) (p : Nat → R) (i j : Nat) :
    switchMatrix s p i j = p j * s + (if i = j then 1 - s else 0) := by
  by_cases h : i = j
  · simp only [switchMatrix, if_pos h]; ring
  · simp only [switchMatrix, if_neg h]; ring

theorem switchMatrix_rows (k : Nat) (s : R) (p : Nat → R) (hp : ∑ j ∈ range k, p j = 1) (i : Nat) (hi : i < k) :
    ∑ j ∈ range k, switchMatrix s p i j = 1 := by
  simp only [switchMatrix_eq, Finset.sum_add_distrib, ← Finset.sum_mul, hp]
  rw [Finset.sum_ite_eq (range k) i]
  simp [hi]

theorem switchMatrix_balance (s : R) (p : Nat → R) (i j : Nat) :
    p i * switchMatrix s p i j = p j * switchMatrix s p j i := by
  simp only [switchMatrix_eq, eq_comm (a := j)]
  split
  next h => rw [h]
  next => ring

/-- by detailed balance, stationarity is the row sums read backwards -/
theorem switchMatrix_stationary (k : Nat) (s : R) (p : Nat → R) (hp : ∑ j ∈ range k, p j = 1) (j : Nat) (hj : j < k) :
    ∑ i ∈ range k, p i * switchMatrix s p i j = p j := by
  simp only [switchMatrix_balance s p _ j, ← Finset.mul_sum, switchMatrix_rows k s p hp j hj, mul_one]

theorem switchMatrix_symm_of (s : R) (p : Nat → R) {i j : Nat} (h : p i = p j) :
    switchMatrix s p i j = switchMatrix s p j i := by
  simp only [switchMatrix_eq, h, eq_comm (a := i)]

theorem switchMatrix_symm (s : R) (p : Nat → R) (hu : ∀ i j, p i = p j) (i j : Nat) :
    switchMatrix s p i j = switchMatrix s p j i :=
  switchMatrix_symm_of s p (hu i j)

end ring

/-! ### the loop only reads the matrix on the states `< k` -/

theorem forwardGo_congr {R : Type} [CommSemiring R] (k : Nat) (M M' : Mat R)
    (h : ∀ i j, i < k → j < k → M i j = M' i j) :
    ∀ (es : List (Nat → R)) (sp sp' : Vec R), (∀ j, j < k → sp.get j = sp'.get j) →
      ∀ j, j < k → (forwardGo k M es sp).get j = (forwardGo k M' es sp').get j
  | [], _, _, hs, j, hj => hs j hj
  | e :: es, sp, sp', hs, j, hj =>
    forwardGo_congr k M M' h es _ _ (fun j hj => by
      rw [step_get, step_get]
      congr 1
      exact sum_range_congr fun i hi => by
        rw [hs i hi, h i j hi hj]) j hj

theorem forward_congr {R : Type} [CommSemiring R] (k : Nat) (M M' : Mat R)
    (h : ∀ i j, i < k → j < k → M i j = M' i j) (init : Nat → R) (es : List (Nat → R)) :
    forward k M init es = forward k M' init es := by
  simp only [forward, sumOver_eq]
  exact sum_range_congr fun j hj =>
    forwardGo_congr k M M' h es _ _ (fun _ _ => rfl) j hj

end CogentModel.PruneSites
