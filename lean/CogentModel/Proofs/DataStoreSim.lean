/-
  Every operation of the directory store preserves `Sim` and returns what the dictionary model expects (`step_sim`, `run_sim`);
  what a related state shows (`obs_of_sim`, `validate_of_sim`).  The files follow the dictionaries literally; the work is in the
  md5 side files, one per identifier and shared by its two records.
-/
import CogentModel.Proofs.DataStoreDropLoop
import CogentModel.Proofs.DataStoreDictStep
namespace CogentModel.DataStore
open CogentModel.KV CogentModel.DataStoreDict

variable {D : Type} {H : D → D} {cfg : Cfg} {sfx : Str} {ids : List Str} {lost : List Str} {s : Dir D} {d : Dict D}

theorem rejects_write_iff {i : Str} (data : D) :
    rejects .directory sfx d (.write i data) = true ↔ d.mode = .r ∨ (d.mode = .a ∧ cN sfx i ∈ keys d.completed) := by
  simp [rejects, has_iff_mem]

theorem rejects_writeNc_iff {i : Str} (data : D) :
    rejects .directory sfx d (.writeNc i data) = true ↔
      d.mode = .r ∨ (d.mode = .a ∧ (cN sfx i ∈ keys d.completed ∨ ncN i ∈ keys d.notCompleted)) := by
  simp [rejects, has_iff_mem]

/-- model and dictionary agree to refuse the operation: nothing changes but what `s'` may have read or created on the way.
    (For an operation other than `write`, `lostStep … op` is `lost` by definition, so this also proves goals stated with `lost`.) -/
theorem sim_rejected {s' : Dir D} {op : Op D} {b : Bool} (h : Sim H sfx ids lost s' d)
    (hrej : rejects .directory sfx d op = true) :
    Sim H sfx ids (lostStep sfx d lost op) s' (specStep .directory sfx d op) ∧
      Res.err .ioError = expectRes sfx d b op := by
  have hl : lostStep sfx d lost op = lost := by cases op <;> simp [lostStep, hrej]
  rw [hl, specStep, if_pos hrej, expectRes.eq_def, if_pos hrej]
  exact ⟨h, rfl⟩

/-! ### md5 side files: all the name hygiene the simulation needs

Every record of identifier `i` uses the side file `mdOf sfx (ncN i)`, and no other live record does. -/

theorem md_nc_eq_iff (hy : hyg sfx ids = true) (h : Sim H sfx ids lost s d) {i n : Str} (hi : i ∈ ids)
    (hn : n ∈ keys d.notCompleted) : mdOf sfx n = mdOf sfx (ncN i) ↔ n = ncN i := by
  obtain ⟨j, hj, rfl⟩ := h.fromN n hn
  exact ⟨hyg_md_inj hy hj hi, fun e => e ▸ rfl⟩

theorem md_c_eq_iff (hy : hyg sfx ids = true) (h : Sim H sfx ids lost s d) {i c : Str} (hi : i ∈ ids)
    (hc : c ∈ keys d.completed) : mdOf sfx c = mdOf sfx (ncN i) ↔ c = cN sfx i := by
  obtain ⟨j, hj, rfl⟩ := h.fromC c hc
  rw [(hyg_id hy hj).mdSame, cN_eq_iff]
  exact ⟨hyg_md_inj hy hj hi, fun e => e ▸ rfl⟩

theorem dropPre_of_sim (hy : hyg sfx ids = true) (h : Sim H sfx ids lost s d) : DropPre sfx ids s := by
  refine ⟨h.hsfx, h.nc ▸ h.ndN, h.nc ▸ h.fromN, h.nc ▸ h.cacheN, fun hd => h.nc ▸ h.ncDir hd, fun n hn => ?_⟩
  rw [h.nc] at hn
  obtain ⟨j, hj, rfl⟩ := h.fromN n hn
  obtain ⟨v, hv⟩ := exists_get_of_mem hn
  rw [(hyg_id hy hj).dmd5, has, h.md5N _ v hv]; rfl

theorem dropNc_ro_sim (h : Sim H sfx ids lost s d) (i : Str) (hr : s.mode = .r) :
    Sim H sfx ids lost (dropNc s i).1 (specStep .directory sfx d (.drop i)) ∧
    (dropNc s i).2 = expectRes sfx d s.ncDir (.drop i) := by
  have hrej : rejects .directory sfx d (.drop i : Op D) = true := by simp [rejects, ← h.hmode, hr]
  unfold dropNc
  rw [if_pos hr]
  exact sim_rejected (lost := lost) h hrej

theorem drop_sim (hy : hyg sfx ids = true) (h : Sim H sfx ids lost s d) {i : Str} (hi : i ∈ ids) :
    Sim H sfx ids lost (dropNc s i).1 (specStep .directory sfx d (.drop i)) ∧
    (dropNc s i).2 = expectRes sfx d s.ncDir (.drop i) := by
  have hine : i.isEmpty = false := by simpa using ne_nil_of_hyg hy hi
  by_cases hr : s.mode = .r
  · exact dropNc_ro_sim h i hr
  · have hrej : rejects .directory sfx d (.drop i : Op D) = false := by simp [rejects, ← h.hmode, hr]
    have hacc : specStep .directory sfx d (.drop i : Op D) = { d with notCompleted := del d.notCompleted (ncN i) } := by
      simp [specStep, hrej, DataStoreDict.apply, hine]
    have hexp : expectRes sfx d s.ncDir (.drop i : Op D) = .done none := by simp [expectRes, hrej, hine]
    obtain ⟨c, hc, e⟩ := dropNc_key hy (dropPre_of_sim hy h) hi hr
    rw [e, hacc, hexp]
    refine ⟨⟨h.hmode, h.hsfx, h.root, congrArg (del · (ncN i)) h.nc, h.logs, h.logsDir, h.ndC, nodup_del _ _ h.ndN,
      h.fromC, fun n hn => h.fromN n ((mem_keys_del _ _ _).mp hn).2, h.cacheC, .inr (h.nc ▸ hc), fun n v hg => ?_,
      fun n v hg => ?_, fun n hn => h.md5X n ((mem_keys_del _ _ _).mp hn).2, h.lostSub,
      fun hd => by rw [h.ncDir hd]; rfl⟩, rfl⟩
    · -- a surviving not-completed record has another side file
      rw [get_del] at hg
      split at hg
      · cases hg
      · rename_i hne
        show get (if ncN i ∈ keys s.nc then del s.md5 (mdOf sfx (ncN i)) else s.md5) _ = _
        split
        · rw [get_del, if_neg (mt (md_nc_eq_iff hy h hi (mem_of_get_some hg)).mp hne)]; exact h.md5N n v hg
        · exact h.md5N n v hg
    · show get (if ncN i ∈ keys s.nc then del s.md5 (mdOf sfx (ncN i)) else s.md5) _ = _
      split
      · rename_i hin
        rw [get_del, if_neg (h.md5X _ (h.nc ▸ hin) n (mem_of_get_some hg))]; exact h.md5C n v hg
      · exact h.md5C n v hg

theorem write_sim (hy : hyg sfx ids = true) (h : Sim H sfx ids lost s d) {i : Str} (data : D) (hi : i ∈ ids)
    (hw : d.mode = .w → cN sfx i ∉ keys d.completed) :
    Sim H sfx ids (lostStep sfx d lost (.write i data)) (write cfg H s i data).1 (specStep .directory sfx d (.write i data)) ∧
    (write cfg H s i data).2 = expectRes sfx d s.ncDir (.write i data) := by
  have hid := hyg_id hy hi
  obtain ⟨hs', lc, ln⟩ := sim_populate hy h
  unfold write
  by_cases hr : s.mode = .r
  · rw [writeCore_ro hr]
    exact sim_rejected h ((rejects_write_iff data).mpr (.inl (h.hmode ▸ hr)))
  · rw [h.hsfx, writeCore_eq hy h hr .root i sfx data (by rw [hid.cres]; exact hid.cpre)
      (fun _ => by rw [hid.cres]; exact hid.cpre), hid.cres]
    dsimp only
    by_cases hin : cN sfx i ∈ keys d.completed
    · -- the record exists: append mode raises; overwrite mode is excluded by `hw`
      have ha : s.mode = .a := by
        cases hm : s.mode with
        | r => exact absurd hm hr
        | w => exact absurd hin (hw (h.hmode ▸ hm))
        | a => rfl
      rw [if_pos ⟨hin, ha⟩]
      exact sim_rejected hs' ((rejects_write_iff data).mpr (.inr ⟨h.hmode ▸ ha, hin⟩))
    · have hrej : rejects .directory sfx d (.write i data) = false :=
        Bool.eq_false_iff.mpr fun e => ((rejects_write_iff data).mp e).elim (fun e => hr (h.hmode ▸ e)) (fun e => hin e.2)
      have hacc : specStep .directory sfx d (.write i data) =
          { d with completed := put d.completed (cN sfx i) data, notCompleted := del d.notCompleted (ncN i) } := by
        rw [specStep, if_neg (by rw [hrej]; exact Bool.false_ne_true)]; rfl
      have hexp : expectRes sfx d s.ncDir (.write i data) = .done (some (cN sfx i)) := by simp [expectRes, hrej]
      have hlost : lostStep sfx d lost (.write i data) = if ncN i ∈ keys d.notCompleted then cN sfx i :: lost else lost := by
        simp [lostStep, hrej, has_iff_mem]
      rw [if_neg (fun e => hin e.1), if_neg (fun e => hin e.2),
        writeBody_plain .root ⟨cN sfx i, cN sfx i, cN sfx i, mdOf sfx (cN sfx i)⟩ data hid.cslash,
        if_neg (show ¬ Sub.root = Sub.logs by decide), hacc, hexp, hlost]
      generalize populate s = p at hs' lc ln
      -- the record and its md5 file are written; then the not-completed record of the identifier is dropped
      have p1 : DropPre sfx ids
          { p with root := put p.root (cN sfx i) data, md5 := put p.md5 (mdOf sfx (cN sfx i)) (H data) } := by
        have p0 := dropPre_of_sim hy hs'
        refine ⟨p0.hsfx, p0.nd, p0.from_, p0.cache, p0.dir, fun n hn => ?_⟩
        have := p0.md n hn
        simp only [has, get_put] at this ⊢
        split
        · rfl
        · exact this
      obtain ⟨c, hc, e⟩ := dropNc_key hy p1 hi (show p.mode ≠ .r by rw [hs'.hmode, ← h.hmode]; exact hr)
      simp only [writeFile]
      rw [e]
      dsimp only
      have hmd : ∀ y, get (if ncN i ∈ keys p.nc then del (put p.md5 (mdOf sfx (cN sfx i)) (H data)) (mdOf sfx (ncN i))
            else put p.md5 (mdOf sfx (cN sfx i)) (H data)) y =
          if y = mdOf sfx (ncN i) then (if ncN i ∈ keys d.notCompleted then none else some (H data)) else get p.md5 y := by
        intro y
        rw [hid.mdSame, hs'.nc]
        by_cases hk : ncN i ∈ keys d.notCompleted
        · rw [if_pos hk, if_pos hk, get_del, get_put]
          by_cases hy : y = mdOf sfx (ncN i)
          · rw [if_pos hy, if_pos hy]
          · rw [if_neg hy, if_neg hy, if_neg hy]
        · rw [if_neg hk, if_neg hk, get_put]
      have hfresh : cN sfx i ∉ lost := fun hl => hin (h.lostSub _ hl)
      refine ⟨⟨hs'.hmode, hs'.hsfx, congrArg (put · (cN sfx i) data) hs'.root, congrArg (del · (ncN i)) hs'.nc, hs'.logs,
        hs'.logsDir, nodup_put _ _ _ h.ndC, nodup_del _ _ h.ndN, fun n hn => ?_,
        fun n hn => h.fromN n ((mem_keys_del _ _ _).mp hn).2, .inr (lc.snoc_put hin data), .inr (hs'.nc ▸ hc),
        fun n v hg => ?_, fun n v hg => ?_, fun n hn c' hc' => ?_, fun n hn => ?_, fun hd => by rw [hs'.ncDir hd]; rfl⟩, rfl⟩
      · exact ((mem_keys_put _ _ _ _).mp hn).elim (fun e => ⟨i, hi, e⟩) (h.fromC n)
      · -- a surviving not-completed record has another side file
        rw [get_del] at hg
        split at hg
        · cases hg
        · rename_i hne
          show get _ _ = _
          rw [hmd, if_neg (mt (md_nc_eq_iff hy h hi (mem_of_get_some hg)).mp hne)]
          exact hs'.md5N n v hg
      · show get _ _ = _
        rw [hmd]
        rw [get_put] at hg
        split at hg
        · -- the record just written: its side file was deleted with the not-completed record, if there was one
          rename_i hn
          cases hg
          rw [hn, if_pos hid.mdSame]
          by_cases hk : ncN i ∈ keys d.notCompleted
          · rw [if_pos hk, if_pos hk, if_pos List.mem_cons_self]
          · rw [if_neg hk, if_neg hk, if_neg hfresh]
        · rename_i hn
          rw [if_neg (mt (md_c_eq_iff hy h hi (mem_of_get_some hg)).mp hn), hs'.md5C n v hg]
          by_cases hk : ncN i ∈ keys d.notCompleted
          · simp only [if_pos hk, List.mem_cons, or_iff_right hn]
          · rw [if_neg hk]
      · obtain ⟨hne, hn'⟩ := (mem_keys_del _ _ _).mp hn
        rcases (mem_keys_put _ _ _ _).mp hc' with e | hc''
        · rw [e, hid.mdSame]
          exact fun e' => hne ((md_nc_eq_iff hy h hi hn').mp e'.symm)
        · exact h.md5X n hn' c' hc''
      · rw [mem_keys_put]
        split at hn
        · exact (List.mem_cons.mp hn).imp id (h.lostSub n)
        · exact .inr (h.lostSub n hn)

theorem writeNc_sim (hy : hyg sfx ids = true) (h : Sim H sfx ids lost s d) {i : Str} (data : D) (hi : i ∈ ids)
    (hn : d.mode = .a → ncN i ∉ keys d.notCompleted) (hw : d.mode = .w → cN sfx i ∉ keys d.completed)
    (hj : ncN i ∉ keys d.completed) :
    Sim H sfx ids lost (writeNc cfg H s i data).1 (specStep .directory sfx d (.writeNc i data)) ∧
    (writeNc cfg H s i data).2 = expectRes sfx d s.ncDir (.writeNc i data) := by
  have hid := hyg_id hy hi
  unfold writeNc
  dsimp only
  -- creating the directory keeps the relation
  have h0 : Sim H sfx ids lost { s with ncDir := true } d :=
    sim_congr h rfl rfl rfl rfl rfl h.logsDir rfl (fun hd => by cases hd) h.cacheC h.cacheN
  by_cases hr : s.mode = .r
  · -- read-only: `_write` raises; the directory may have been created before (`Cfg.asIs`)
    have hrej := (rejects_writeNc_iff (sfx := sfx) (i := i) data).mpr (.inl (h.hmode ▸ hr))
    by_cases hc : (cfg.roWriteNoMkdir && decide (s.mode = .r)) = true
    · rw [if_pos hc, writeCore_ro hr]; exact sim_rejected h hrej
    · rw [if_neg hc, writeCore_ro (s := { s with ncDir := true }) hr]; exact sim_rejected h0 hrej
  · rw [if_neg (by simp [hr])]
    obtain ⟨hs', lc, ln⟩ := sim_populate hy h0
    have hpd : (populate { s with ncDir := true }).ncDir = true := by rw [populate_eq]
    rw [writeCore_eq hy h0 hr .nc i sJson data (by rw [hid.ncres]; exact hid.cpre)
      (fun _ => by rw [hid.ncres]; exact hid.ncpre), hid.ncres]
    dsimp only
    by_cases hin : cN sfx i ∈ keys d.completed ∧ s.mode = .a
    · rw [if_pos hin]
      exact sim_rejected hs' ((rejects_writeNc_iff data).mpr (.inr ⟨h.hmode ▸ hin.2, .inl hin.1⟩))
    · have hnc : cN sfx i ∉ keys d.completed := by
        cases hm : s.mode with
        | r => exact absurd hm hr
        | w => exact hw (h.hmode ▸ hm)
        | a => exact fun hc => hin ⟨hc, hm⟩
      have hrej : rejects .directory sfx d (.writeNc i data) = false :=
        Bool.eq_false_iff.mpr fun e => ((rejects_writeNc_iff data).mp e).elim (fun e => hr (h.hmode ▸ e))
          (fun e => e.2.elim hnc (hn e.1))
      have hacc : specStep .directory sfx d (.writeNc i data) =
          { d with notCompleted := put d.notCompleted (ncN i) data } := by
        rw [specStep, if_neg (by rw [hrej]; exact Bool.false_ne_true)]; rfl
      have hexp : expectRes sfx d s.ncDir (.writeNc i data) = .done (some (ncPrefix ++ ncN i)) := by
        simp [expectRes, hrej]
      rw [if_neg hin, if_neg (fun e => hj e.2), writeBody_plain .nc ⟨cN sfx i, ncN i, ncN i, mdOf sfx (ncN i)⟩ data hid.ncslash,
        if_neg (show ¬ Sub.nc = Sub.logs by decide), hacc, hexp]
      generalize populate { s with ncDir := true } = p at hs' lc ln hpd
      simp only [writeFile]
      have hmdc : ∀ c' ∈ keys d.completed, mdOf sfx c' ≠ mdOf sfx (ncN i) :=
        fun c' hc' e => hnc ((md_c_eq_iff hy h hi hc').mp e ▸ hc')
      -- a record that is rewritten is already listed
      have hl := ln.insert_put (ncN i) data
      suffices key : ∀ c, Listed c (keys (put d.notCompleted (ncN i) data)) → Sim H sfx ids lost
          { p with nc := put p.nc (ncN i) data, md5 := put p.md5 (mdOf sfx (ncN i)) (H data), ncCache := c }
          { d with notCompleted := put d.notCompleted (ncN i) data } by
        refine ⟨?_, trivial⟩
        by_cases hk : p.ncCache.contains (ncN i) = true
        · simp only [hk, if_true] at hl ⊢; exact key _ hl
        · simp only [hk] at hl ⊢; exact key _ hl
      intro c hc
      refine ⟨hs'.hmode, hs'.hsfx, hs'.root, congrArg (put · (ncN i) data) hs'.nc, hs'.logs, hs'.logsDir, h.ndC,
        nodup_put _ _ _ h.ndN, h.fromC, fun n hn' => ?_, .inr lc, .inr hc, fun n v hg => ?_,
        fun n v hg => ?_, fun n hn' c' hc' => ?_, h.lostSub, fun hd => by rw [hpd] at hd; cases hd⟩
      · exact ((mem_keys_put _ _ _ _).mp hn').elim (fun e => ⟨i, hi, e⟩) (h.fromN n)
      · show get (put p.md5 _ _) _ = _
        rw [get_put] at hg
        rw [get_put]
        split at hg
        · rename_i hk
          cases hg
          rw [hk, if_pos rfl]
        · rename_i hk
          rw [if_neg (mt (md_nc_eq_iff hy h hi (mem_of_get_some hg)).mp hk)]
          exact hs'.md5N n v hg
      · show get (put p.md5 _ _) _ = _
        rw [get_put, if_neg (hmdc n (mem_of_get_some hg))]
        exact hs'.md5C n v hg
      · rcases (mem_keys_put _ _ _ _).mp hn' with e | hn''
        · rw [e]; exact hmdc c' hc'
        · exact h.md5X n hn'' c' hc'

theorem dropAll_sim (hy : hyg sfx ids = true) (h : Sim H sfx ids lost s d) :
    Sim H sfx ids lost (dropNc s []).1 (specStep .directory sfx d (.drop [])) ∧
    (dropNc s []).2 = expectRes sfx d s.ncDir (.drop []) := by
  by_cases hr : s.mode = .r
  · exact dropNc_ro_sim h [] hr
  · have hrej : rejects .directory sfx d (.drop [] : Op D) = false := by simp [rejects, ← h.hmode, hr]
    have hacc : specStep .directory sfx d (.drop [] : Op D) = { d with notCompleted := [] } := by
      simp [specStep, hrej, DataStoreDict.apply]
    have p := dropPre_of_sim hy h
    have hL := populateNc_listed hy p
    unfold dropNc
    rw [if_neg hr, dropKey_nil, populateNc_eq, hacc]
    dsimp only
    generalize (if s.ncCache.isEmpty then globNc s else s.ncCache) = L at hL
    by_cases hdir : s.ncDir = true
    · -- the directory exists: every listed record is removed, then the directory
      have hexp : expectRes sfx d s.ncDir (.drop [] : Op D) = .done none := by simp [expectRes, hrej, hdir]
      rw [hexp]
      have hinj : (L.map dropMd5).Nodup := by
        refine List.pairwise_map.mpr (hL.1.imp_of_mem fun {x y} hx hy' hne e => hne ?_)
        obtain ⟨j, hj, rfl⟩ := p.from_ x ((hL.2 x).mp hx)
        obtain ⟨j', hj', rfl⟩ := p.from_ y ((hL.2 y).mp hy')
        rw [(hyg_id hy hj).dmd5, (hyg_id hy hj').dmd5] at e
        exact hyg_md_inj hy hj hj' e
      have hloop := dropLoop_eq [] L { s with ncCache := L }
      rw [dropSel_nil] at hloop
      rw [hloop hL.1 hinj fun m hm' => ⟨has_iff_mem.mpr ((hL.2 m).mp hm'), p.md m ((hL.2 m).mp hm')⟩]
      have hnil : L.foldl del s.nc = [] := by
        refine eq_nil_of_keys _ fun x hx => ?_
        obtain ⟨v, hv⟩ := exists_get_of_mem hx
        rw [get_foldl_del] at hv
        split at hv
        · cases hv
        · rename_i hxm; exact hxm ((hL.2 x).mpr (mem_of_get_some hv))
      simp only [dropFinish, List.isEmpty_nil, Bool.not_true, Bool.false_eq_true, if_false, hdir, hnil]
      refine ⟨⟨h.hmode, h.hsfx, h.root, rfl, h.logs, h.logsDir, h.ndC, List.nodup_nil, h.fromC, fun n hn => (by cases hn),
        h.cacheC, Or.inl rfl, fun n v hg => (by cases hg), fun n v hg => ?_, fun n hn => (by cases hn), h.lostSub,
        fun _ => rfl⟩, trivial⟩
      -- the side file of a completed record is none of those deleted
      show get ((L.map dropMd5).foldl del s.md5) (mdOf sfx n) = _
      have hnot : mdOf sfx n ∉ L.map dropMd5 := by
        intro hmm
        obtain ⟨m, hm', e'⟩ := List.mem_map.mp hmm
        have hmk : m ∈ keys d.notCompleted := h.nc ▸ (hL.2 m).mp hm'
        obtain ⟨j, hj, rfl⟩ := h.fromN m hmk
        rw [(hyg_id hy hj).dmd5] at e'
        exact h.md5X _ hmk n (mem_of_get_some hg) e'.symm
      rw [get_foldl_del, if_neg hnot]
      exact h.md5C n v hg
    · -- the directory does not exist (nothing is listed); `rmdir` raises
      have hdf : s.ncDir = false := by simpa using hdir
      have hexp : expectRes sfx d s.ncDir (.drop [] : Op D) = .err .fileNotFound := by simp [expectRes, hrej, hdf]
      have hdn : d.notCompleted = [] := h.ncDir hdf
      have hc : L = [] := List.eq_nil_iff_forall_not_mem.mpr fun a ha => by
        have := (hL.2 a).mp ha
        rw [h.nc, hdn] at this
        cases this
      rw [hexp, hc]
      simp only [dropLoop, dropFinish, List.isEmpty_nil, Bool.not_true, Bool.false_eq_true, if_false, hdf, Bool.not_false,
        if_true]
      rw [dict_eta_nc d hdn]
      exact ⟨sim_congr h rfl rfl rfl rfl rfl h.logsDir rfl (fun _ => hdf) h.cacheC (Or.inl rfl), trivial⟩

theorem writeLog_sim (hy : hyg sfx ids = true) (h : Sim H sfx ids lost s d) (i : Str) (data : D)
    (hfile : (resolve sfx sLog i).file = logName .directory i)
    (hslash : (resolve sfx sLog i).file.contains '/' = false)
    (hpre : startsWith (resolve sfx sLog i).chk1 ncPrefix = false)
    (happ : d.mode = .a → (resolve sfx sLog i).chk1 ∉ keys d.completed) :
    Sim H sfx ids lost (writeLog cfg H s i data).1 (specStep .directory sfx d (.writeLog i data)) ∧
    (writeLog cfg H s i data).2 = expectRes sfx d s.ncDir (.writeLog i data) := by
  unfold writeLog
  dsimp only
  have h0 : Sim H sfx ids lost { s with logsDir := true } d :=
    sim_congr h rfl rfl rfl rfl rfl rfl rfl id h.cacheC h.cacheN
  by_cases hr : s.mode = .r
  · have hrej : rejects .directory sfx d (.writeLog i data) = true := by simp [rejects, ← h.hmode, hr]
    by_cases hc : (cfg.roWriteNoMkdir && decide (s.mode = .r)) = true
    · rw [if_pos hc, writeCore_ro hr]; exact sim_rejected h hrej
    · rw [if_neg hc, writeCore_ro (s := { s with logsDir := true }) hr]; exact sim_rejected h0 hrej
  · rw [if_neg (by simp [hr])]
    obtain ⟨hs', -, -⟩ := sim_populate hy h0
    have hrej : rejects .directory sfx d (.writeLog i data) = false := by simp [rejects, ← h.hmode, hr]
    have hacc : specStep .directory sfx d (.writeLog i data) =
        { d with logs := put d.logs (logName .directory i) data } := by
      simp [specStep, hrej, DataStoreDict.apply]
    have hexp : expectRes sfx d s.ncDir (.writeLog i data) = .done none := by simp [expectRes, hrej]
    rw [writeCore_eq hy h0 hr .logs i sLog data hpre (fun e => absurd rfl e),
      if_neg (fun e => happ (h0.hmode.symm.trans e.2) e.1), if_neg (fun e => e.1 rfl),
      writeBody_plain .logs (resolve sfx sLog i) data hslash, if_pos rfl, hacc, hexp, hfile]
    generalize populate _ = p at hs'
    exact ⟨⟨hs'.hmode, hs'.hsfx, hs'.root, hs'.nc, congrArg (put · _ data) hs'.logs, hs'.logsDir, h.ndC, h.ndN, h.fromC,
      h.fromN, hs'.cacheC, hs'.cacheN, hs'.md5N, hs'.md5C, h.md5X, h.lostSub, hs'.ncDir⟩, rfl⟩

theorem reopen_sim (h : Sim H sfx ids lost s d) (m : Mode) :
    Sim H sfx ids lost (reopen cfg s m) (specStep .directory sfx d (.reopen m)) := by
  refine ⟨rfl, h.hsfx, h.root, h.nc, h.logs, ?_, h.ndC, h.ndN, h.fromC, h.fromN, Or.inl rfl, Or.inl rfl, h.md5N, h.md5C,
    h.md5X, h.lostSub, fun hd => h.ncDir ?_⟩
  · show (s.logsDir || _) = true
    rw [h.logsDir]; rfl
  · have hd' : (s.ncDir || !(cfg.roOpenNoMkdir && m == .r)) = false := hd
    exact (Bool.or_eq_false_iff.mp hd').1

theorem step_sim (hy : hyg sfx ids = true) (h : Sim H sfx ids lost s d) (op : Op D)
    (hs : safe sfx ids d op = true) :
    Sim H sfx ids (lostStep sfx d lost op) (step cfg H s op).1 (specStep .directory sfx d op) ∧
    (step cfg H s op).2 = expectRes sfx d s.ncDir op := by
  cases op with
  | write i data =>
    simp only [safe, Bool.and_eq_true, Bool.or_eq_true, List.contains_iff_mem, bne_iff_ne, ne_eq,
      Bool.not_eq_true', has_eq_false_iff] at hs
    exact write_sim hy h data hs.1 fun hw => hs.2.resolve_left fun e => e hw
  | writeNc i data =>
    simp only [safe, Bool.and_eq_true, Bool.or_eq_true, List.contains_iff_mem, bne_iff_ne, ne_eq,
      Bool.not_eq_true', has_eq_false_iff] at hs
    obtain ⟨⟨⟨h1, h2⟩, h3⟩, h4⟩ := hs
    exact writeNc_sim hy h data h1 (fun ha => h2.resolve_left fun e => e ha) (fun hw => h3.resolve_left fun e => e hw) h4
  | writeLog i data =>
    simp only [safe, Bool.and_eq_true, Bool.or_eq_true, bne_iff_ne, ne_eq, Bool.not_eq_true', has_eq_false_iff,
      decide_eq_true_eq] at hs
    obtain ⟨⟨⟨h1, h2⟩, h3⟩, h4⟩ := hs
    exact writeLog_sim hy h i data h1 h2 h3 fun ha => h4.resolve_left fun e => e ha
  | drop i =>
    simp only [safe, Bool.or_eq_true, List.contains_iff_mem, List.isEmpty_iff] at hs
    rcases hs with h1 | h1
    · subst h1; exact dropAll_sim hy h
    · exact drop_sim hy h h1
  | reopen m => exact ⟨reopen_sim h m, rfl⟩
  | observe => exact ⟨(sim_populate hy h).1, rfl⟩
  | unlock => exact ⟨h, rfl⟩

theorem run_sim (hy : hyg sfx ids = true) (ops : List (Op D)) :
    ∀ (s : Dir D) (d : Dict D) (lost : List Str), Sim H sfx ids lost s d → safeHist sfx ids d ops = true →
      Sim H sfx ids (lostRun sfx d lost ops) (run cfg H s ops) (specRun .directory sfx d ops) := by
  induction ops with
  | nil => intro s d lost h _; exact h
  | cons op ops ih =>
    intro s d lost h hs
    simp only [safeHist, Bool.and_eq_true] at hs
    exact ih _ _ _ (step_sim hy h op hs.1).1 hs.2

theorem run_append (cfg : Cfg) (H : D → D) (a b : List (Op D)) : ∀ s : Dir D,
    run cfg H s (a ++ b) = run cfg H (run cfg H s a) b := by
  induction a with
  | nil => intro s; rfl
  | cons op a ih => intro s; exact ih _

theorem sim_create (mode : Mode) : Sim H sfx ids [] (Dir.create mode sfx : Dir D) (Dict.empty mode) := by
  refine ⟨rfl, rfl, rfl, rfl, rfl, rfl, ?_, ?_, ?_, ?_, Or.inl rfl, Or.inl rfl, ?_, ?_, ?_, ?_, fun _ => rfl⟩
  all_goals simp [Dict.empty, keys, KV.get]

/-- the store after a safe history from its creation is related to the dictionary after the same history -/
theorem sim_of_history {mode : Mode} {ops : List (Op D)} (hy : hyg sfx ids = true)
    (hs : safeHist sfx ids (Dict.empty mode) ops = true) :
    Sim H sfx ids (lostRun sfx (Dict.empty mode) [] ops) (run cfg H (Dir.create mode sfx) ops)
      (specRun .directory sfx (Dict.empty mode) ops) :=
  run_sim hy ops _ _ _ (sim_create mode) hs

theorem obs_of_sim (hy : hyg sfx ids = true) (h : Sim H sfx ids lost s d) :
    let s' := populate s
    s'.cCache.Nodup ∧ (∀ n, n ∈ s'.cCache ↔ n ∈ keys d.completed) ∧
    s'.ncCache.Nodup ∧ (∀ n, n ∈ s'.ncCache ↔ n ∈ keys d.notCompleted) ∧
    (∀ n, get s'.root n = get d.completed n) ∧ (∀ n, get s'.nc n = get d.notCompleted n) ∧
    obsLogs s' = d.logs ∧
    (∀ n v, get d.notCompleted n = some v → get s'.md5 (md5Lookup s'.sfx n) = some (H v)) ∧
    (∀ n v, get d.completed n = some v →
      get s'.md5 (md5Lookup s'.sfx n) = if n ∈ lost then none else some (H v)) := by
  obtain ⟨hs', hc, hn⟩ := sim_populate hy h
  refine ⟨hc.1, hc.2, hn.1, hn.2, fun n => by rw [hs'.root], fun n => by rw [hs'.nc], ?_, ?_, ?_⟩
  · rw [obsLogs, hs'.logsDir, if_pos rfl, hs'.logs]
  · intro n v hg; rw [hs'.hsfx]; exact hs'.md5N n v hg
  · intro n v hg; rw [hs'.hsfx]; exact hs'.md5C n v hg

theorem validateDir_of_no_bad [DecidableEq D] (H : D → D) (s : Dir D)
    (h : ∀ m ∈ obsCompleted s ++ obsNotCompleted s, badMd5 H m = false) :
    (validateDir H s).incorrect = 0 ∧
      (validateDir H s).correct + (validateDir H s).missing = s.cCache.length + s.ncCache.length := by
  have hw : (obsCompleted s ++ obsNotCompleted s).countP (badMd5 H) = 0 :=
    List.countP_eq_zero.mpr fun m hm => by rw [h m hm]; exact Bool.false_ne_true
  have hle := List.countP_le_length (p := fun m : MObs D => m.md5.isNone) (l := obsCompleted s ++ obsNotCompleted s)
  have hlen : (obsCompleted s ++ obsNotCompleted s).length = s.cCache.length + s.ncCache.length := by
    rw [List.length_append, obsCompleted, obsNotCompleted, List.length_map, List.length_map]
  rw [hlen] at hle
  simp only [validateDir, hw, hlen, Nat.sub_zero, Nat.sub_sub_self hle, Nat.sub_self, Nat.sub_add_cancel hle, and_self]

/-- `validate()` on any state related to a dictionary: nothing is wrong, and the md5 is missing exactly for the listed
    completed records of the ghost list -/
theorem validate_of_sim [DecidableEq D] (hy : hyg sfx ids = true) (h : Sim H sfx ids lost s d) :
    let s' := populate s
    let v := validateDir H s'
    v.incorrect = 0 ∧
    v.missing = (s'.cCache.filter (· ∈ lost)).length ∧
    v.correct + v.missing = s'.cCache.length + s'.ncCache.length ∧
    v.hasLog = !d.logs.isEmpty := by
  intro s' v
  obtain ⟨_, hc, _, hn, hroot, hnc, hlogs, hmn, hmc⟩ := obs_of_sim hy h
  -- every listed member has its dictionary value and the md5 the theorem states
  have hcm : ∀ n ∈ s'.cCache, ∃ x, get s'.root n = some x ∧
      get s'.md5 (md5Lookup s'.sfx n) = if n ∈ lost then none else some (H x) := fun n hn' => by
    obtain ⟨x, hx⟩ := exists_get_of_mem ((hc n).1 hn')
    exact ⟨x, (hroot n).trans hx, hmc n x hx⟩
  have hnm : ∀ n ∈ s'.ncCache, ∃ x, get s'.nc n = some x ∧ get s'.md5 (md5Lookup s'.sfx n) = some (H x) := fun n hn' => by
    obtain ⟨x, hx⟩ := exists_get_of_mem ((hn n).1 hn')
    exact ⟨x, (hnc n).trans hx, hmn n x hx⟩
  have hbad : ∀ m ∈ obsCompleted s' ++ obsNotCompleted s', badMd5 H m = false := by
    intro m hm
    rcases List.mem_append.mp hm with hm | hm
    · obtain ⟨n, hn', rfl⟩ := List.mem_map.mp hm
      obtain ⟨x, h1, h2⟩ := hcm n hn'
      by_cases hl : n ∈ lost <;> simp [badMd5, h1, h2, hl]
    · obtain ⟨n, hn', rfl⟩ := List.mem_map.mp hm
      obtain ⟨x, h1, h2⟩ := hnm n hn'
      simp [badMd5, h1, h2]
  obtain ⟨hinc, hsum⟩ := validateDir_of_no_bad H s' hbad
  refine ⟨hinc, ?_, hsum, congrArg (fun l : KV D => !l.isEmpty) hlogs⟩
  -- the md5 is missing exactly for the listed completed records in `lost`
  show (obsCompleted s' ++ obsNotCompleted s').countP (fun m => m.md5.isNone) = _
  have hmisn : (obsNotCompleted s').countP (fun m => m.md5.isNone) = 0 := by
    refine List.countP_eq_zero.mpr fun m hm => ?_
    obtain ⟨n, hn', rfl⟩ := List.mem_map.mp hm
    obtain ⟨x, -, h2⟩ := hnm n hn'
    simp [h2]
  rw [List.countP_append, hmisn, Nat.add_zero, obsCompleted, List.countP_map, List.countP_eq_length_filter]
  refine congrArg List.length (List.filter_congr fun n hn' => ?_)
  obtain ⟨x, -, h2⟩ := hcm n hn'
  by_cases hl : n ∈ lost <;> simp [h2, hl]

end CogentModel.DataStore
