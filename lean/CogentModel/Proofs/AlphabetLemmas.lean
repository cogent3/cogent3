import CogentModel.Model.RateMatrix
/-! C05: words as lists of letter codes under `nDiffs`, `firstDiff`, `sameContext`: over every gap-free alphabet of
equal-length words both `_is_instantaneous` variants mean "differ at exactly one position", and one difference sits at
`firstDiff` with the rest of the word as shared context.  Core Lean only. -/

namespace CogentModel.RateMatrix

theorem firstDiff_comm (x y : List Nat) : firstDiff x y = firstDiff y x := by
  induction x generalizing y with
  | nil => cases y <;> rfl
  | cons a as ih =>
    cases y with
    | nil => rfl
    | cons b bs => simp only [firstDiff, ih bs, ne_comm]

theorem sameContext_congr (d : Nat) (x : List Nat) : ∀ (y : List Nat) (k : Nat), sameContext d k x y = true →
    ∀ w, sameContext d k w x = sameContext d k w y := by
  induction x with
  | nil =>
    intro y k h w
    cases y with
    | nil => rfl
    | cons b bs => exact absurd h Bool.false_ne_true
  | cons a as ih =>
    intro y k h w
    cases y with
    | nil => exact absurd h Bool.false_ne_true
    | cons b bs =>
      cases w with
      | nil => rfl
      | cons c cs =>
        rw [sameContext, decide_eq_true_eq] at h
        rw [sameContext, sameContext, ih bs (k + 1) h.2 cs]
        rcases h.1 with hk | hab
        · exact decide_eq_decide.mpr ⟨fun h' => ⟨Or.inl hk, h'.2⟩, fun h' => ⟨Or.inl hk, h'.2⟩⟩
        · rw [hab]


theorem nDiffs_comm (x y : List Nat) : nDiffs x y = nDiffs y x := by
  induction x generalizing y with
  | nil => cases y <;> rfl
  | cons a as ih =>
    cases y with
    | nil => rfl
    | cons b bs => simp only [nDiffs, ih bs, ne_comm]

/-- without gap characters the indel scan can only succeed on words without any difference -/
theorem anyIndelLoop_gapfree (g : Nat) (x : List Nat) : ∀ (y : List Nat) (s e : Bool) (st : Nat),
    g ∉ x → g ∉ y → anyIndelLoop g x y s e st = true → nDiffs x y = 0 := by
  induction x with
  | nil => intro y _ _ _ _ _ _; cases y <;> rfl
  | cons a as ih =>
    intro y s e st hx hy h
    cases y with
    | nil => rfl
    | cons b bs =>
      have hx' : g ∉ as := fun h' => hx (List.mem_cons_of_mem _ h')
      have hy' : g ∉ bs := fun h' => hy (List.mem_cons_of_mem _ h')
      rw [anyIndelLoop] at h
      by_cases hab : a = b
      · rw [if_neg (not_not_intro hab)] at h
        rw [nDiffs, if_neg (not_not_intro hab), Nat.zero_add]
        split at h <;> exact ih bs _ _ _ hx' hy' h
      · -- a difference between two non-gap characters ends the scan
        rw [if_pos hab, if_pos ⟨fun h' => hx (h' ▸ List.mem_cons_self), fun h' => hy (h' ▸ List.mem_cons_self)⟩] at h
        exact absurd h Bool.false_ne_true

theorem isInstWord_gapfree (g : Nat) (x y : List Nat) (hx : g ∉ x) (hy : g ∉ y) :
    isInstWord g x y = true ↔ nDiffs x y = 1 := by
  unfold isInstWord
  simp only [Bool.decide_or, Bool.decide_and, Bool.or_eq_true, Bool.and_eq_true, decide_eq_true_eq]
  constructor
  · rintro (h | ⟨h1, h2⟩)
    · exact h
    · unfold isAnyIndel at h2
      split at h2
      · exact absurd h2 Bool.false_ne_true
      · have := anyIndelLoop_gapfree g x y _ _ _ hx hy h2
        omega
  · intro h; exact Or.inl h

theorem isInstCodon_gapfree (g : Nat) (x y : List Nat) (hx : g ∉ x) (hy : g ∉ y) (hlen : x.length = y.length) :
    isInstCodon g x y = true ↔ nDiffs x y = 1 := by
  unfold isInstCodon
  cases x with
  | nil => rw [List.length_eq_zero_iff.mp hlen.symm]; exact iff_of_false Bool.false_ne_true Nat.zero_ne_one
  | cons a as =>
    cases y with
    | nil => exact absurd hlen (Nat.succ_ne_zero _)
    | cons b bs =>
      -- neither word is the gap motif, whose head is `g`
      dsimp only
      rw [if_neg fun h => h.elim (fun h => hx ((List.cons.inj h).1 ▸ List.mem_cons_self))
        fun h => hy ((List.cons.inj h).1 ▸ List.mem_cons_self), decide_eq_true_iff]

theorem nDiffs_eq_zero (x : List Nat) : ∀ y, x.length = y.length → nDiffs x y = 0 → x = y := by
  induction x with
  | nil => intro y hl _; exact (List.length_eq_zero_iff.mp hl.symm).symm
  | cons a as ih =>
    intro y hl h
    cases y with
    | nil => exact absurd hl (Nat.succ_ne_zero _)
    | cons b bs =>
      rw [nDiffs] at h
      by_cases hab : a = b
      · rw [if_neg (not_not_intro hab), Nat.zero_add] at h
        rw [hab, ih bs (Nat.succ.inj hl) h]
      · rw [if_pos hab] at h
        exact absurd (Nat.add_eq_zero_iff.mp h).1 Nat.one_ne_zero

theorem sameContext_self (d : Nat) (x : List Nat) : ∀ k, sameContext d k x x = true := by
  induction x with
  | nil => intro k; rfl
  | cons a as ih => intro k; rw [sameContext]; exact decide_eq_true ⟨Or.inr rfl, ih (k + 1)⟩

/-- exactly one difference: it is at `firstDiff`, inside the word, and the words share their context there -/
theorem nDiffs_one (x : List Nat) : ∀ y, x.length = y.length → nDiffs x y = 1 →
    firstDiff x y < x.length ∧ (∀ k, sameContext (firstDiff x y + k) k x y = true) ∧
      ∀ k, k ≠ firstDiff x y → x.getD k 0 = y.getD k 0 := by
  induction x with
  | nil => intro y _ h; cases y <;> exact absurd h Nat.zero_ne_one
  | cons a as ih =>
    intro y hl h
    cases y with
    | nil => exact absurd hl (Nat.succ_ne_zero _)
    | cons b bs =>
      rw [nDiffs] at h
      rw [firstDiff]
      by_cases hab : a = b
      · rw [if_neg (not_not_intro hab), Nat.zero_add] at h
        rw [if_neg (not_not_intro hab), ← hab]
        obtain ⟨i1, i2, i3⟩ := ih bs (Nat.succ.inj hl) h
        refine ⟨Nat.succ_lt_succ i1, fun k => ?_, fun k hk => ?_⟩
        · rw [sameContext]; exact decide_eq_true ⟨Or.inr rfl, by rw [Nat.add_right_comm]; exact i2 (k + 1)⟩
        · cases k with
          | zero => rfl
          | succ k => exact i3 k fun e => hk (congrArg (· + 1) e)
      · -- the difference is at the head: the tails agree
        rw [if_pos hab] at h ⊢
        rw [← nDiffs_eq_zero as bs (Nat.succ.inj hl) (Nat.add_left_cancel (n := 1) (k := 0) h)]
        refine ⟨Nat.succ_pos _, fun k => ?_, fun k hk => ?_⟩
        · rw [sameContext]; exact decide_eq_true ⟨Or.inl (Nat.zero_add k).symm, sameContext_self _ _ _⟩
        · cases k with
          | zero => exact absurd rfl hk
          | succ k => rfl

theorem wordAt_getD (words : Array (Array Nat)) (i k : Nat) :
    (words.getD i #[]).getD k 0 = (wordAt words i).getD k 0 := by
  unfold wordAt
  simp [Array.getD_eq_getD_getElem?, List.getD_eq_getElem?_getD]

theorem bget_tab {n : Nat} (f : Nat → Nat → Bool) {i j : Nat} (hi : i < n) (hj : j < n) :
    bget (tab n f) i j = f i j := by
  simp [bget, tab, Array.getD, hi, hj]

/-- a cell of the model's own mask -/
theorem bget_instMask (codon : Bool) (g : Nat) (words : Array (Array Nat)) {i j : Nat} (hi : i < words.size) (hj : j < words.size) :
    bget (instMask codon g words) i j =
      if codon then isInstCodon g (wordAt words i) (wordAt words j) else isInstWord g (wordAt words i) (wordAt words j) :=
  bget_tab _ hi hj

end CogentModel.RateMatrix
