import CogentModel.Proofs.PhylipSequential
import CogentModel.Spec.PhylipInterleaved
/-! The interleaved branch of `MinimalPhylipParser` (`phyIntGo`, `phyIntFinish`).  The per-index cache is kept in the
form `mkFrom 0 es` (keys 0, 1, …): the first block creates the entries (`feed_first`), every later block appends one
piece to each (`feed_later`). -/
namespace CogentModel.SeqFormats
open CogentModel.Splitlines CogentModel.SeqSpec CogentModel.PhylipSpec

abbrev ICache := List (Int × Str × List Str)

theorem splitLine_blank {l : Str} (h : isBlank l = true) (off : Nat) : splitLine l off = none := by
  unfold splitLine; simp [h]

theorem splitLine_nonblank {l : Str} (h : isBlank l = false) (off : Nat) :
    splitLine l off = some (strip (l.take off), (strip (l.drop off)).filter (· ≠ ' ')) := by
  cases l with
  | nil => cases h
  | cons a as =>
    rw [splitLine, h]
    rfl

/-- only `curr_ct % num_seqs` matters -/
theorem phyIntGo_shift (ns : Int) : ∀ (ls : List Str) (ct : Int) (off : Nat) (cache : ICache),
    phyIntGo ns (ct + ns) off cache ls = phyIntGo ns ct off cache ls
  | [], _, _, _ => by simp [phyIntGo]
  | l :: ls, ct, off, cache => by
    unfold phyIntGo
    have e : ct + ns + 1 = (ct + 1) + ns := Int.add_right_comm ct ns 1
    simp only [Int.add_fmod_right, e, phyIntGo_shift ns ls]

/-- blank lines are skipped whatever the state -/
theorem phyIntGo_blanks (ns ct : Int) (off : Nat) (cache : ICache) (rest : List Str) : ∀ {ls : List Str} {P},
    BlockOf P [] ls → phyIntGo ns ct off cache (ls ++ rest) = phyIntGo ns ct off cache rest := by
  intro ls P h
  generalize hps : ([] : List (Str × Str)) = ps at h
  induction h with
  | nil => rfl
  | blank l hl _ ih =>
    rw [List.cons_append, phyIntGo, splitLine_blank hl]
    exact ih hps
  | line p l _ _ _ => cases hps

/-- the cache after the non-blank lines `ps` of a block, the first of them being line number `k` of the block;
`x p` is the id the line shows in its name column -/
def feed (x : Str × Str → Str) : Nat → List (Str × Str) → ICache → ICache
  | _, [], cache => cache
  | k, p :: ps, cache => feed x (k + 1) ps (cacheAppend (k : Int) p.2 cache (x p))

/-- line number `k` of a block: its piece goes to entry `k`; after the last line of the block the name column is over -/
theorem phyIntGo_line {n k : Nat} (hk : k < n) {l cid cseq : Str} {off : Nat} (h : splitLine l off = some (cid, cseq))
    (hne : cseq ≠ []) (cache : ICache) (rest : List Str) :
    phyIntGo n k off cache (l :: rest)
      = phyIntGo n (k + 1 : Nat) (if k + 1 = n then 0 else off) (cacheAppend k cseq cache cid) rest := by
  rw [phyIntGo, h]
  simp only [List.isEmpty_eq_false_iff.mpr hne, Bool.and_false, Bool.false_eq_true, if_false]
  rw [Int.fmod_eq_of_lt (Int.natCast_nonneg k) (Int.ofNat_lt.mpr hk), show (k : Int) + 1 = ((k + 1 : Nat) : Int) from rfl]
  by_cases e : k + 1 = n
  · rw [if_pos e, e, Int.fmod_self, if_pos rfl]
  · rw [if_neg e, Int.fmod_eq_of_lt (Int.natCast_nonneg _) (Int.ofNat_lt.mpr (Nat.lt_of_le_of_ne hk e)),
      if_neg (Int.natCast_ne_zero.mpr (Nat.succ_ne_zero k))]

/-- one block of an interleaved file: from line `k` of the block to its end, where the counter is back at 0
(count `n` is count 0, `phyIntGo_shift`) -/
theorem phyIntGo_block (n : Nat) (off0 : Nat) (P : Str × Str → Str → Prop) (x : Str × Str → Str)
    (hP : ∀ p l, P p l → splitLine l off0 = some (x p, p.2) ∧ p.2 ≠ []) (rest : List Str) :
    ∀ {ps : List (Str × Str)} {ls : List Str}, BlockOf P ps ls → ps ≠ [] → ∀ (k : Nat) (cache : ICache),
      k + ps.length = n →
      phyIntGo n k off0 cache (ls ++ rest) = phyIntGo n 0 0 (feed x k ps cache) rest := by
  intro ps ls h
  induction h with
  | nil => intro hne; exact absurd rfl hne
  | blank l hl _ ih =>
    intro hne k cache hk
    rw [List.cons_append, phyIntGo, splitLine_blank hl]
    exact ih hne k cache hk
  | @line ps' ls' p l hl hb ih =>
    intro _ k cache hk
    obtain ⟨h1, h2⟩ := hP p l hl
    have hk' : k + 1 + ps'.length = n := by rw [Nat.add_right_comm]; exact hk
    rw [List.cons_append, phyIntGo_line (hk' ▸ Nat.le_add_right _ _) h1 h2, feed]
    by_cases hps : ps' = []
    · subst hps
      have hn : k + 1 = n := hk'
      rw [if_pos hn, phyIntGo_blanks _ _ _ _ _ hb, hn, ← phyIntGo_shift n rest 0, Int.zero_add]
      rfl
    · rw [if_neg fun e => hps (List.eq_nil_of_length_eq_zero (Nat.add_left_cancel (hk'.trans e.symm)))]
      exact ih hps (k + 1) _ hk'

/-- a cache whose keys are `j, j+1, ...` -/
def mkFrom : Nat → List (Str × List Str) → ICache
  | _, [] => []
  | j, e :: es => ((j : Int), e.1, e.2) :: mkFrom (j + 1) es

theorem mkFrom_append : ∀ (pre es : List (Str × List Str)) (j : Nat),
    mkFrom j (pre ++ es) = mkFrom j pre ++ mkFrom (j + pre.length) es
  | [], _, _ => rfl
  | e :: pre, es, j => by
    rw [List.cons_append, mkFrom, mkFrom, mkFrom_append pre es (j + 1), List.length_cons, Nat.add_right_comm, Nat.add_assoc]
    rfl

/-- the entries in front of entry `j + pre.length` carry smaller keys and are passed over -/
theorem cacheAppend_skip (s cid : Str) (tail : ICache) : ∀ (pre : List (Str × List Str)) (j : Nat),
    cacheAppend ((j + pre.length : Nat) : Int) s (mkFrom j pre ++ tail) cid
      = mkFrom j pre ++ cacheAppend ((j + pre.length : Nat) : Int) s tail cid
  | [], _ => rfl
  | e :: pre, j => by
    rw [List.length_cons, ← Nat.add_assoc, Nat.add_right_comm]
    rw [mkFrom, List.cons_append, cacheAppend,
      if_neg fun e => absurd (Int.natCast_inj.mp e) (Nat.ne_of_lt (Nat.lt_add_right _ (Nat.lt_succ_self j))),
      cacheAppend_skip s cid tail pre (j + 1)]
    rfl

theorem cacheAppend_new (s cid : Str) : ∀ (done : List (Str × List Str)) (j : Nat),
    cacheAppend ((j + done.length : Nat) : Int) s (mkFrom j done) cid = mkFrom j (done ++ [(cid, [s])]) := by
  intro done j
  rw [mkFrom_append, ← List.append_nil (mkFrom j done), cacheAppend_skip, List.append_nil]
  rfl

theorem cacheAppend_old (s cid id : Str) (g : List Str) (suf : List (Str × List Str))
    (pre : List (Str × List Str)) (j : Nat) :
    cacheAppend ((j + pre.length : Nat) : Int) s (mkFrom j (pre ++ (id, g) :: suf)) cid
      = mkFrom j (pre ++ (id, g ++ [s]) :: suf) := by
  rw [mkFrom_append, mkFrom_append, cacheAppend_skip, mkFrom, mkFrom, cacheAppend, if_pos rfl]

/-- the first block creates the entries -/
theorem feed_first (x : Str × Str → Str) : ∀ (ps : List (Str × Str)) (done : List (Str × List Str)),
    feed x done.length ps (mkFrom 0 done) = mkFrom 0 (done ++ ps.map (fun p => (x p, [p.2])))
  | [], done => by rw [List.map_nil, List.append_nil]; rfl
  | p :: ps, done => by
    have h1 := cacheAppend_new p.2 (x p) done 0
    rw [Nat.zero_add] at h1
    have ih := feed_first x ps (done ++ [(x p, [p.2])])
    rw [List.length_append, List.append_assoc] at ih
    rw [feed, h1, List.map_cons]
    exact ih

/-- a later block appends one piece to every entry -/
theorem feed_later (x : Str × Str → Str) (id : Rec → Str) (c : Rec → Str) (g : Rec → List Str) :
    ∀ (suf pre : List Rec),
    feed x pre.length (suf.map (fun r => (r.1, c r)))
        (mkFrom 0 (pre.map (fun r => (id r, g r ++ [c r])) ++ suf.map (fun r => (id r, g r))))
      = mkFrom 0 ((pre ++ suf).map (fun r => (id r, g r ++ [c r])))
  | [], pre => by simp [feed]
  | r :: suf, pre => by
    have h1 := cacheAppend_old (c r) (x (r.1, c r)) (id r) (g r) (suf.map fun r => (id r, g r))
      (pre.map fun r => (id r, g r ++ [c r])) 0
    rw [Nat.zero_add, List.length_map] at h1
    have ih := feed_later x id c g suf (pre ++ [r])
    simp only [List.length_append, List.map_append, List.append_assoc] at ih
    rw [List.map_cons, feed, List.map_cons, h1, List.map_append]
    exact ih

theorem phyIntFinish_mk (sl : Int) : ∀ (es : List (Str × List Str)) (j : Nat),
    (∀ e ∈ es, (e.2.flatten.length : Int) = sl) →
    phyIntFinish sl (mkFrom j es) = .ok (es.map (fun e => (e.1, e.2.flatten)))
  | [], _, _ => rfl
  | e :: es, j, h => by
    have h1 := h e (by simp)
    simp only [mkFrom, phyIntFinish, h1, ne_eq, not_true_eq_false, if_false]
    rw [phyIntFinish_mk sl es (j + 1) (fun e' he' => h e' (List.mem_cons_of_mem _ he'))]
    rfl

theorem contLine_split (p : Str × Str) (l : Str) (hl : ContLineOf p.2 l) : splitLine l 0 = some ([], p.2) ∧ p.2 ≠ [] := by
  obtain ⟨h0, h1, h2⟩ := hl
  rw [splitLine_nonblank h1, List.drop_zero, h2]
  exact ⟨rfl, h0⟩

/-- all later blocks -/
theorem phyIntGo_later {recs : List Rec} (hne : recs ≠ []) (id : Rec → Str) :
    ∀ {cs : List (Rec → Str)} {bs : List (List Str)}, LaterBlocks recs cs bs → ∀ (g : Rec → List Str),
      phyIntGo recs.length 0 0 (mkFrom 0 (recs.map (fun r => (id r, g r)))) bs.flatten
        = mkFrom 0 (recs.map (fun r => (id r, g r ++ cs.map (fun d => d r)))) := by
  intro cs bs h
  induction h with
  | nil => intro g; simp [phyIntGo]
  | @cons cs' bs' c b hb _ ih =>
    intro g
    have hf := feed_later (fun _ => []) id c g recs []
    simp only [List.length_nil, List.map_nil, List.nil_append] at hf
    rw [List.flatten_cons]
    refine (phyIntGo_block recs.length 0 (fun p l => ContLineOf p.2 l) (fun _ => []) contLine_split bs'.flatten hb
      (by simpa using hne) 0 _ (by simp)).trans ?_
    rw [hf, ih (fun r => g r ++ [c r])]
    simp

theorem blockOf_mono {P Q : Str × Str → Str → Prop} : ∀ {ps : List (Str × Str)} {ls : List Str}, BlockOf P ps ls →
    (∀ p ∈ ps, ∀ l, P p l → Q p l) → BlockOf Q ps ls := by
  intro ps ls h
  induction h with
  | nil => intro _; exact .nil
  | blank l hl _ ih => intro hq; exact .blank l hl (ih hq)
  | line p l hl _ ih =>
    intro hq
    exact .line p l (hq p (by simp) l hl) (ih (fun q hq' => hq q (List.mem_cons_of_mem _ hq')))

/-- a first-block line: the id is the name cut to the documented 9 characters -/
theorem firstLine_split (p : Str × Str) (l : Str) (h : wfName p.1 = true ∧ FirstLineOf p.1 p.2 l) :
    splitLine l 10 = some (truncName p.1, p.2) ∧ p.2 ≠ [] := by
  obtain ⟨hn, rest, rfl, h0, h1, h2⟩ := h
  have hlen : (pad10 (p.1.take 9)).length = 10 := pad10_length (Nat.le_trans (List.length_take_le 9 _) (by decide))
  have hnb : isBlank (pad10 (p.1.take 9) ++ rest) = false := by
    unfold isBlank at h1 ⊢
    rw [List.all_append, h1, Bool.and_false]
  rw [splitLine_nonblank hnb, List.take_left' hlen, List.drop_left' hlen, h2, strip_pad10 hn]
  exact ⟨rfl, h0⟩

/-- the first block: entry `k` gets the name of line `k`, cut to the documented 9 characters, and its piece -/
theorem phyIntGo_first {recs : List Rec} (hne : recs ≠ []) (hn : ∀ r ∈ recs, wfName r.1 = true) (c : Rec → Str)
    {b1 : List Str} (h1 : BlockOf (fun p l => FirstLineOf p.1 p.2 l) (recs.map (fun r => (r.1, c r))) b1)
    (rest : List Str) :
    phyIntGo recs.length 0 10 [] (b1 ++ rest)
      = phyIntGo recs.length 0 0 (mkFrom 0 (recs.map (fun r => (truncName r.1, [c r])))) rest := by
  have h1' := blockOf_mono (Q := fun p l => wfName p.1 = true ∧ FirstLineOf p.1 p.2 l) h1 fun p hp l hl => by
    obtain ⟨r, hr, rfl⟩ := List.mem_map.mp hp
    exact ⟨hn r hr, hl⟩
  have hf := feed_first (fun p : Str × Str => truncName p.1) (recs.map (fun r => (r.1, c r))) []
  rw [List.nil_append, List.map_map] at hf
  exact (phyIntGo_block recs.length 10 _ (fun p => truncName p.1) firstLine_split rest h1'
    (fun e => hne (List.map_eq_nil_iff.mp e)) 0 [] (by rw [List.length_map, Nat.zero_add])).trans (congrArg (phyIntGo _ 0 0 · rest) hf)

/-- the header `n L <flag> ...` with `n, L > 0` selects the interleaved branch -/
theorem phylipParser_interleaved {header flag : Str} {more rest : List Str} {n L : Nat}
    (hh : splitWs header = natDigits n :: natDigits L :: flag :: more) (hn : 0 < n) (hL : 0 < L) :
    phylipParser (header :: rest) = phyIntFinish L (phyIntGo n 0 10 [] rest) := by
  have hn0 : ¬ ((n : Int) = 0) := Int.natCast_ne_zero.mpr (Nat.ne_of_gt hn)
  have hl0 : ¬ ((L : Int) = 0) := Int.natCast_ne_zero.mpr (Nat.ne_of_gt hL)
  unfold phylipParser
  simp only [hh, pyInt_natDigits, bind, Except.bind, hn0, hl0, decide_false, Bool.or_self, Bool.false_eq_true, if_false,
    List.isEmpty_cons]

end CogentModel.SeqFormats
