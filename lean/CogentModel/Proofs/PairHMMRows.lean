/-
  The gapped rows built from a path: one column per step, and without the gaps each row is the part of its sequence
  the path covers.
-/
import CogentModel.Proofs.PairHMMPath
namespace CogentModel.PairHMM
set_option linter.unusedSectionVars false

variable {S : Type} [Add S] [LT S] [DecidableLT S]

theorem rows_len (h : HMM S) {α : Type} (s1 s2 : List α) (steps : List (Nat × Nat × Nat)) :
    (rowsOfPath h s1 s2 steps).1.length = steps.length ∧ (rowsOfPath h s1 s2 steps).2.length = steps.length := by
  induction steps with
  | nil => exact ⟨rfl, rfl⟩
  | cons x r ih => obtain ⟨s, i, j⟩ := x; simp [rowsOfPath, ih.1, ih.2]

/-- one column of one row: a step that consumes (`b`) emits the next residue of `l`, any other step a gap -/
theorem degap_step {α : Type} (l : List α) (b : Bool) (i c : Nat) (r : List (Option α)) (hc : i + b.toNat ≤ c)
    (hl : c ≤ l.length) (ih : r.filterMap id = (l.drop (i + b.toNat)).take (c - (i + b.toNat))) :
    ((if b then l[i + b.toNat - 1]? else none) :: r).filterMap id = (l.drop i).take (c - i) := by
  cases b with
  | false => simpa using ih
  | true =>
    simp only [Bool.toNat_true] at hc ih
    have hi : i < l.length := by omega
    rw [show c - i = (c - (i + 1)) + 1 by omega, List.drop_eq_getElem_cons hi, List.take_succ_cons, ← ih]
    simp [hi]

theorem rows_degap (h : HMM S) {α : Type} (s1 s2 : List α) (p : List Nat) :
    ∀ (i0 j0 : Nat), (consumedFrom h i0 j0 p).1 ≤ s1.length → (consumedFrom h i0 j0 p).2 ≤ s2.length →
      (rowsOfPath h s1 s2 (annotate h i0 j0 p)).1.filterMap id = (s1.drop i0).take ((consumedFrom h i0 j0 p).1 - i0) ∧
      (rowsOfPath h s1 s2 (annotate h i0 j0 p)).2.filterMap id = (s2.drop j0).take ((consumedFrom h i0 j0 p).2 - j0) := by
  induction p with
  | nil => intro i0 j0 _ _; simp [annotate, rowsOfPath, consumedFrom]
  | cons s p ih =>
    intro i0 j0 h1 h2
    have hm := consumed_mono h (i0 + (h.dir s).1.toNat) (j0 + (h.dir s).2.toNat) p
    have ih' := ih (i0 + (h.dir s).1.toNat) (j0 + (h.dir s).2.toNat) h1 h2
    exact ⟨degap_step s1 _ i0 _ _ hm.1 h1 ih'.1, degap_step s2 _ j0 _ _ hm.2 h2 ih'.2⟩

/-- the rows of a global path degap to the two sequences -/
theorem rows_degap_global (h : HMM S) {α : Type} (s1 s2 : List α) (p : List Nat)
    (hp : IsGlobalPath h s1.length s2.length p) :
    (rowsOfPath h s1 s2 (annotate h 0 0 p)).1.filterMap id = s1 ∧
      (rowsOfPath h s1 s2 (annotate h 0 0 p)).2.filterMap id = s2 := by
  have hd := rows_degap h s1 s2 p 0 0 (Nat.le_of_eq (by rw [hp.2])) (Nat.le_of_eq (by rw [hp.2]))
  rw [hp.2] at hd
  simpa using hd
end CogentModel.PairHMM
