import CogentModel.Proofs.IndelMapReversed
import CogentModel.Proofs.AlnSlice
import CogentModel.Model.AlnView
namespace CogentModel.Aln
open CogentModel.IndelMap CogentModel.Gapped List CogentModel

theorem rowRcWith_spec (cf : Char → Char) (hgap : cf '-' = '-') (r r' : Row) (h : RowWF r) (hr : rowRcWith cf r = .ok r') :
    RowWF r' ∧ gapped r' = (gapped r).reverse.map cf := by
  unfold rowRcWith at hr
  cases hn : nucleicReversed r.map with
  | error e => rw [hn] at hr; cases hr
  | ok nm =>
    rw [hn] at hr; cases hr
    obtain ⟨hwn, habs⟩ := reversed_spec' r.map h.1 nm hn
    obtain ⟨g, w⟩ := (row_of_pattern hwn habs).2 (r.data.reverse.map cf)
    refine ⟨w (by rw [length_map, length_reverse, cntF_reverse, cntF_abs r h]), ?_⟩
    rw [g, gapped_eq_fill r h.1, fill_map cf hgap, fill_reverse _ _ (cntF_abs r h).symm]

theorem rowRc_spec (dna : Bool) (r r' : Row) (h : RowWF r) (hr : rowRc dna r = .ok r') :
    RowWF r' ∧ gapped r' = (gapped r).reverse.map (comp dna) :=
  rowRcWith_spec (comp dna) (by cases dna <;> rfl) r r' h hr

end CogentModel.Aln
