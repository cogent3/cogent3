import CogentModel.Model.CallRich
import CogentModel.Proofs.CallChainLemmas
/-! C14 — the rich hand model (`Model/CallRich.lean`: `validateR`, `callR`, `chainR`, `addR`): what its functions can
return, and `rel_chain`: on embedded plain steps `chainR` computes, seen through `projPV`, what `Composable.callChain`
computes.  Nothing here mentions the generated `Gen/C14Call.lean`. -/
namespace CogentModel.CallRich
open CogentModel.Composable CogentModel.CallPrims

/-- python's `if not c: a else: b` -/
theorem ite_bnot {α} (c : Bool) (a b : α) : (if (!c) = true then a else b) = if c = true then b else a := by
  cases c <;> rfl

/-- `checkData` written with the tests the source makes (`isinstance`, `len`, `next(iter(·))`) -/
theorem checkData_eq (s : RStep) (x : PV) :
    (if x.isSeqOf builtinSeqs = true then
      if (x.len != 0) = true then checkClass s x.first else mkNC "ERROR" s.name [.lit "empty data"] x.source
    else checkClass s x) = checkData s x := by
  cases x with
  | seq c items => cases items <;> rfl
  | _ => rfl

/-! ### what `_validate_data_type` and `_call` can return -/

/-- one "anything" type hint among the declared types switches the type check off -/
theorem typeCheckOff_of_mem (s : RStep) (x : Nat) (hx : x ∈ s.dataTypes) (h : x ∈ [100, 101]) : typeCheckOff s = true := by
  have hm : x ∈ inter s.dataTypes [100, 101] := List.mem_filter.mpr ⟨hx, by simpa using h⟩
  cases hi : inter s.dataTypes [100, 101] with
  | nil => rw [hi] at hm; cases hm
  | cons a l => simp [typeCheckOff, hi]

theorem checkClass_cases (s : RStep) (y : PV) :
    checkClass s y = .bool true ∨ ∃ m src, checkClass s y = .nc ⟨"ERROR", s.name, m, src⟩ := by
  unfold checkClass
  split
  · exact Or.inl rfl
  · exact Or.inr ⟨_, _, rfl⟩

theorem checkData_cases (s : RStep) (x : PV) :
    checkData s x = .bool true ∨ ∃ m src, checkData s x = .nc ⟨"ERROR", s.name, m, src⟩ := by
  unfold checkData
  split
  · split
    · exact Or.inr ⟨_, _, rfl⟩
    · exact checkClass_cases s _
  · split <;> exact checkClass_cases s _
  · exact checkClass_cases s _

theorem validateR_cases (s : RStep) (d : PV) :
    validateR s d = .bool true ∨ (validateR s d = d ∧ d.isNC = true ∧ s.skipNC = true) ∨
    ∃ m src, validateR s d = .nc ⟨"ERROR", s.name, m, src⟩ := by
  unfold validateR
  by_cases h : (d.isNC && s.skipNC) = true
  · rw [if_pos h]; exact Or.inr (Or.inl ⟨rfl, Bool.and_eq_true_iff.mp h⟩)
  · rw [if_neg h]
    by_cases h2 : typeCheckOff s = true
    · rw [if_pos h2]; exact Or.inl rfl
    · rw [if_neg h2]; exact (checkData_cases s _).imp_right Or.inr

theorem isNone_of_isNC {r : PV} (h : r.isNC = true) : r.isNone = false := by
  cases r <;> first | rfl | cases h

theorem runMainR_result (s : RStep) (w : PV) :
    (runMainR s w).isNC = true ∨ (s.main w = .ret (runMainR s w) ∧ (runMainR s w).isNone = false) := by
  unfold runMainR
  cases s.main w with
  | raise t => exact Or.inl rfl
  | ret r => cases r <;> first | exact Or.inl rfl | exact Or.inr ⟨rfl, rfl⟩

theorem afterInputR_result (s : RStep) (w : PV) : (afterInputR s w).isNC = true ∨ afterInputR s w = runMainR s w := by
  unfold afterInputR
  by_cases ht : (validateR s w).truthy = true
  · exact Or.inr (if_pos ht)
  · rw [if_neg ht]
    left
    rcases validateR_cases s w with h | ⟨h, hn, _⟩ | ⟨m, src, h⟩ <;> rw [h] at ht ⊢
    · exact absurd rfl ht
    · exact hn
    · rfl

theorem afterInputR_skip (s : RStep) (pv : PV) (h : (pv.isNC && s.skipNC) = true) : afterInputR s pv = pv := by
  unfold afterInputR validateR
  cases pv <;> simp_all [PV.isNC, PV.truthy]

/-- `_call` with its second not-completed test left to `afterInputR`, which makes it again -/
theorem callR_eq (s : RStep) (inp : Option (PV → PV)) (pv : PV) :
    callR s inp pv =
      (let v1 := if pv.isNone then mkNC "ERROR" s.name [.lit "unexpected input value None"] none else pv
       if v1.isNC && s.skipNC then v1
       else afterInputR s (if s.kind != .loader && inp.isSome then applyInput inp v1 else v1)) := by
  unfold callR
  generalize (if pv.isNone = true then _ else pv) = v1
  simp only
  by_cases c2 : (s.kind != .loader && inp.isSome) = true
  · rw [if_pos c2, if_pos c2]
    by_cases c3 : ((applyInput inp v1).isNC && s.skipNC) = true
    · rw [if_pos c3, afterInputR_skip s _ c3]
    · rw [if_neg c3]
  · rw [if_neg c2, if_neg c2]

theorem callR_result (s : RStep) (input : Option (PV → PV)) (val : PV) :
    (callR s input val).isNC = true ∨ ∃ w, callR s input val = runMainR s w := by
  rw [callR_eq]
  generalize (if val.isNone = true then _ else val) = v1
  simp only
  by_cases c1 : (v1.isNC && s.skipNC) = true
  · rw [if_pos c1]; exact Or.inl (Bool.and_eq_true_iff.mp c1).1
  · rw [if_neg c1]; exact (afterInputR_result s _).imp_right fun e => ⟨_, e⟩

/-! ### `_add` -/

theorem raised_else_eq_connected {c : Prop} [Decidable c] {e : String} {k : Nat} {x : AddResult} :
    (if c then AddResult.raised e k else x) = .connected ↔ ¬ c ∧ x = .connected := by
  by_cases h : c <;> simp [h]

theorem connected_else_eq_connected {c : Prop} [Decidable c] {x : AddResult} :
    (if c then AddResult.connected else x) = .connected ↔ c ∨ x = .connected := by
  by_cases h : c <;> simp [h]

/-- `a + b` succeeds exactly when every `raise` of `_add` is passed by -/
theorem addR_eq_connected_iff (a b : AppSig) (same : Bool) : addR a b same = .connected ↔
    composable b.appType = true ∧ b.appType ≠ some .loader ∧ b.hasInput = false ∧ same = false ∧
    a.appType ≠ some .writer ∧
    (¬ (inter a.returnTypes [100, 101]).isEmpty ∨
      (a.returnTypes ≠ [] ∧ b.dataTypes ≠ [] ∧ (inter a.returnTypes b.dataTypes) ≠ [])) := by
  simp only [addR, raised_else_eq_connected, connected_else_eq_connected, Bool.not_eq_true', Bool.not_eq_false,
    beq_iff_eq, Bool.not_eq_true, List.isEmpty_iff, and_true, ne_eq]
  grind

/-! ### the plain model inside the rich domain -/

theorem projNC_embedNC (n : NC) : projNC (embedNC n) = n := by
  obtain ⟨t, o, m, s⟩ := n
  have ht : projType (embedType t) = t := by cases t <;> simp [projType, embedType]
  have hm : projMsg (embedMsg m) = m := by cases m <;> simp [projMsg, embedMsg]
  simp only [projNC, embedNC, ht, hm]

theorem projPV_embedVal (v : Val) : projPV (embedVal v) = some v := by
  cases v with
  | ok x => rfl
  | nc n => exact congrArg (fun m => some (Val.nc m)) (projNC_embedNC n)

/-- `pv` is a completed or not-completed value of the rich domain and `v` is its plain view -/
def Rel (pv : PV) (v : Val) : Prop := projPV pv = some v

theorem rel_cases {pv : PV} {v : Val} (h : Rel pv v) :
    (∃ x, pv = .obj x ∧ v = .ok x) ∨ (∃ n, pv = .nc n ∧ v = .nc (projNC n)) := by
  unfold Rel at h
  cases pv <;> simp [projPV] at h
  · right; exact ⟨_, rfl, h.symm⟩
  · left; exact ⟨_, rfl, h.symm⟩

theorem inter_eq_nil (a b : List Nat) (h : ∀ x ∈ b, x ∉ a) : inter a b = [] :=
  List.filter_eq_nil_iff.mpr fun x hx hc => h x (by simpa using hc) hx

/-- the "invalid data type" record: its plain view forgets the list of accepted types -/
theorem rel_badType (o ty : Nat) (ts : List Nat) (src : Option Id) :
    Rel (mkNC "ERROR" o [.lit "invalid data type, '", .cls ty, .lit "' not in ", .types ts] src)
      (.nc ⟨.error, o, .badType ty, src⟩) := by
  simp [Rel, mkNC, projPV, projNC, projType, projMsg]

theorem rel_source {pv : PV} {v : Val} (h : Rel pv v) : pv.source = v.source := by
  rcases rel_cases h with ⟨x, rfl, rfl⟩ | ⟨n, rfl, rfl⟩ <;> rfl

theorem rel_isNC {pv : PV} {v : Val} (h : Rel pv v) : pv.isNC = v.isNC := by
  rcases rel_cases h with ⟨x, rfl, rfl⟩ | ⟨n, rfl, rfl⟩ <;> rfl

theorem runMainR_embedStep (s : Step) {pv : PV} {v : Val} (h : Rel pv v) :
    runMainR (embedStep s) pv = embedVal (runMain s v) := by
  have hm : (embedStep s).main pv = embedOut (s.main v) := by unfold Rel at h; simp [embedStep, h]
  unfold runMainR runMain
  rw [hm, rel_source h]
  cases s.main v <;> rfl

theorem rel_afterInput (s : Step) (htag : ¬ (100 ∈ s.accepts) ∧ ¬ (101 ∈ s.accepts)) (pv : PV) (v : Val) (h : Rel pv v) :
    Rel (afterInputR (embedStep s) pv) (afterInput s v) := by
  have hrun : Rel (runMainR (embedStep s) pv) (runMain s v) := by
    rw [runMainR_embedStep s h]
    exact projPV_embedVal _
  -- the type check of the embedded step on a value of the plain model, in the plain model's terms
  have hval : validateR (embedStep s) pv =
      if (v.isNC && s.skipNC) = true then pv
      else if s.accepts.isEmpty = true then .bool true
      else if s.accepts.contains v.ty = true then .bool true
      else mkNC "ERROR" s.name [.lit "invalid data type, '", .cls v.ty, .lit "' not in ", .types s.accepts] v.source := by
    have hoff : typeCheckOff (embedStep s) = s.accepts.isEmpty := by
      simp [typeCheckOff, embedStep, inter_eq_nil s.accepts [100, 101] (List.forall_mem_cons.mpr ⟨htag.1, List.forall_mem_singleton.mpr htag.2⟩)]
    unfold validateR
    rw [hoff]
    rcases rel_cases h with ⟨x, rfl, rfl⟩ | ⟨n, rfl, rfl⟩ <;> rfl
  by_cases c1 : (v.isNC && s.skipNC) = true
  · rw [afterInputR_skip _ _ (by rw [rel_isNC h]; exact c1)]
    unfold afterInput
    rw [if_pos c1]
    exact h
  · unfold afterInputR afterInput validate
    rw [hval, if_neg c1, if_neg c1]
    by_cases he : s.accepts.isEmpty = true
    · rw [if_pos he, if_pos he]; exact hrun
    · rw [if_neg he, if_neg he]
      by_cases hc : s.accepts.contains v.ty = true
      · rw [if_pos hc, if_pos hc]; exact hrun
      · rw [if_neg hc, if_neg hc]; exact rel_badType _ _ _ _

theorem rel_chain (steps : List Step) (hne : steps ≠ []) (htags : ∀ s ∈ steps, ¬ (100 ∈ s.accepts) ∧ ¬ (101 ∈ s.accepts)) :
    ∀ (pv : PV) (v : Option Val), ((v = none ∧ pv = .none) ∨ (∃ x, v = some x ∧ Rel pv x)) →
      Rel (chainR (steps.map embedStep) pv) (callChain steps v) := by
  induction steps with
  | nil => exact absurd rfl hne
  | cons s rest ih =>
    intro pv v hv
    have h1 : Rel (if pv.isNone then mkNC "ERROR" (embedStep s).name [.lit "unexpected input value None"] none else pv)
        (v.getD (.nc ⟨.error, s.name, .noneIn, none⟩)) := by
      rcases hv with ⟨rfl, rfl⟩ | ⟨x, rfl, hx⟩
      · exact projPV_embedVal (.nc ⟨.error, s.name, .noneIn, none⟩)
      · rcases rel_cases hx with ⟨y, rfl, rfl⟩ | ⟨n, rfl, rfl⟩ <;> exact hx
    rw [callChain_cons, List.map_cons, chainR, callR_eq]
    generalize (if pv.isNone = true then _ else pv) = pv1 at h1
    generalize v.getD _ = v1 at h1
    show Rel (if (pv1.isNC && s.skipNC) = true then pv1 else afterInputR (embedStep s) _) _
    rw [rel_isNC h1]
    by_cases c1 : (v1.isNC && s.skipNC) = true
    · rw [if_pos c1, if_pos c1]; exact h1
    · rw [if_neg c1, if_neg c1]
      apply rel_afterInput s (htags s List.mem_cons_self)
      show Rel (if (s.kind != .loader && Option.isSome _) = true then _ else pv1) _
      cases rest with
      | nil => simpa using h1
      | cons t ts =>
        by_cases ck : (s.kind != .loader) = true
        · simp only [ck, List.map_cons, List.isEmpty_cons, Bool.false_eq_true, if_false, Option.isSome_some, Bool.and_self,
            if_true, Bool.not_false, applyInput]
          exact ih (by simp) (fun u hu => htags u (List.mem_cons_of_mem _ hu)) pv1 (some v1) (Or.inr ⟨v1, rfl, h1⟩)
        · simpa [ck] using h1

end CogentModel.CallRich
