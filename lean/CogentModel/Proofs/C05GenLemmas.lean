import CogentModel.Gen.C05Inst
import CogentModel.Model.RateMatrix
/-! C05: the TRANSLATED decision logic (`Gen/C05Inst.lean`) against the hand model (`anyIndelLoop` of
`Model/RateMatrix.lean`, `backendTable` of `Model/C05GenPrelude.lean`); core Lean only. -/
namespace CogentModel.C05GenProofs
open CogentModel.C05Gen CogentModel.Gen.C05Inst CogentModel.RateMatrix

/-- in the branch where one of the two characters is the gap, `[x, y].index(g)` is the strand of the hand model -/
theorem index2_of_gap {a b g : Nat} (h : ¬(a ≠ g ∧ b ≠ g)) : index2 a b g = if a = g then 0 else 1 := by
  unfold index2
  by_cases ha : a = g
  · rw [if_pos ha, if_pos ha]
  · rw [if_neg ha, if_neg ha, if_pos (Classical.byContradiction fun hb => h ⟨ha, hb⟩)]

/-- The translated scan keeps `gap_start`, `gap_end`, `gap_strand` as `Option Nat`; the hand model only whether the
first two are set, and the strand, which is meaningful (`gst = some strand`) once `gap_start` is set.  The gap motif is
the gap character at every position scanned. -/
theorem loop_eq (g : Nat) (li : Bool) (gm : List Nat) (x : List Nat) :
    ∀ (y : List Nat) (i : Nat) (gs ge gst : Option Nat) (strand : Nat),
    (∀ k, k < x.length → charAt gm (i + k) = g) →
    (gs.isSome → gst = some strand) →
    isAnyIndelLoop li gm i x y gs ge gst = anyIndelLoop g x y gs.isSome ge.isSome strand := by
  induction x with
  | nil => intro y i gs ge gst strand _ _; cases y <;> rfl
  | cons a xs ih =>
    intro y i gs ge gst strand hg hs
    cases y with
    | nil => rfl
    | cons b ys =>
      have hG : charAt gm i = g := hg 0 (Nat.succ_pos _)
      have hg' : ∀ k, k < xs.length → charAt gm (i + 1 + k) = g := fun k hk => by
        rw [Nat.add_right_comm]; exact hg (k + 1) (Nat.succ_lt_succ hk)
      simp only [isAnyIndelLoop, anyIndelLoop, hG]
      by_cases hab : a = b
      · rw [if_neg fun h => bne_iff_ne.mp h hab, if_neg fun h : a ≠ b => h hab]
        cases gs with
        | none => exact ih ys (i + 1) none ge gst strand hg' nofun
        | some s => exact ih ys (i + 1) (some s) (some i) gst strand hg' hs
      · rw [if_pos (bne_iff_ne.mpr hab), if_pos hab]
        by_cases hgap : a ≠ g ∧ b ≠ g
        · rw [if_pos ((Bool.and_eq_true _ _).mpr ⟨bne_iff_ne.mpr hgap.1, bne_iff_ne.mpr hgap.2⟩), if_pos hgap]
        · rw [if_neg fun h => hgap (((Bool.and_eq_true _ _).mp h).imp bne_iff_ne.mp bne_iff_ne.mp), if_neg hgap,
            index2_of_gap hgap]
          generalize (if a = g then 0 else 1) = s
          cases gs with
          | none => exact ih ys (i + 1) (some i) ge (some s) s hg' (fun _ => rfl)
          | some s0 =>
            cases hs rfl
            simp only [Option.isNone_some, Bool.false_eq_true, if_false, Option.isSome_some, Bool.not_true,
              ih ys (i + 1) (some s0) ge (some strand) strand hg' (fun _ => rfl),
              Bool.or_eq_true, bne_iff_ne, ne_eq, Option.some.injEq]

theorem lookup_map_snd {α β γ : Type} [BEq α] (f : β → γ) (a : α) (l : List (α × β)) :
    (l.map fun p => (p.1, f p.2)).lookup a = (l.lookup a).map f := by
  induction l with
  | nil => rfl
  | cons p l ih =>
    rw [List.map_cons, List.lookup_cons, List.lookup_cons, ih]
    cases a == p.1 <;> rfl

theorem mem_of_lookup_eq_some {α β : Type} [BEq α] [LawfulBEq α] {l : List (α × β)} {a : α} {b : β}
    (h : l.lookup a = some b) : (a, b) ∈ l := by
  obtain ⟨l₁, l₂, hl, _⟩ := List.lookup_eq_some_iff.mp h
  rw [hl]
  exact List.mem_append_right _ List.mem_cons_self

/-- the row of `ExpDefn.calc`'s table that the fall-back statements are about -/
theorem expSelect_either : expSelect "either" = some (.eigenPade .checked) := by decide +kernel

end CogentModel.C05GenProofs
