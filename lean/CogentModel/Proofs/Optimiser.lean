import CogentModel.Proofs.OptimiserCall
import Mathlib.Order.Basic
/-! The invariants of the wrapper stack's closure cells, preserved by every query of every optimiser (each by the
three outcomes of `boundedCall_cases`); the two closed forms of a run of `maximise` from which the property theorems
are read off (`maximise_cases` for every start, `maximise_ok` for a valid one); and the start clamp of
`Calculator.optimise`. -/
namespace CogentModel.Optimiser

variable {X Y : Type}

theorem limitHit_false {m : Option Nat} {e : Nat} (h : limitHit m e = false) :
    ∀ k, m = some k → e + 1 ≤ k := by
  intro k hk
  subst hk
  simp [limitHit] at h
  omega

/-! ### unconditional invariant (any objective, any comparison, any start) -/

structure Inv0 (c : Cfg X Y) (s : St X Y) : Prop where
  bestMem : ∀ xb, s.bestX = some xb → xb ∈ s.calls
  inb : ∀ x ∈ s.calls, c.inB x = true
  cnt : s.evals = s.calls.length
  lim : ∀ k, c.maxEvals = some k → s.evals ≤ k

theorem inv0_init (c : Cfg X Y) : Inv0 c (init c) :=
  ⟨nofun, nofun, rfl, fun _ _ => Nat.zero_le _⟩

theorem inv0_boundedCall {c : Cfg X Y} {s : St X Y} (hs : Inv0 c s) (q : X) :
    Inv0 c (boundedCall c s q).1 := by
  rcases boundedCall_cases c s q with h | ⟨hb, hl, h⟩
  · rw [h]; exact hs
  · have hin : ∀ z ∈ q :: s.calls, c.inB z = true := List.forall_mem_cons.mpr ⟨hb, hs.inb⟩
    have hc : s.evals + 1 = (q :: s.calls).length := congrArg (· + 1) hs.cnt
    rcases h with ⟨h, _⟩ | ⟨y, _, _, h⟩ <;> rw [h]
    · exact ⟨fun xb hx => List.mem_cons_of_mem _ (hs.bestMem xb hx), hin, hc, limitHit_false hl⟩
    · exact ⟨fun xb hx => Option.some.inj hx ▸ List.mem_cons_self, hin, hc, limitHit_false hl⟩

/-- How a run of `maximise` ends, whatever the objective and the start: the closure cells `s` satisfy `Inv0`, and either
`get_best` was not reached or found no point and the run stops in `s`, or it evaluates the recorded best point once
more. -/
theorem maximise_cases (c : Cfg X Y) (x0 : X) (qs : List X) :
    ∃ s, Inv0 c s ∧
      (((maximise c x0 qs).st = s ∧ ∀ fb xb n e, (maximise c x0 qs).final ≠ .done fb xb n e) ∨
       ∃ xb sh exc, s.bestX = some xb ∧
        maximise c x0 qs
          = { st := { s with calls := xb :: s.calls }, shown := sh, final := .done s.bestF xb s.evals exc }) := by
  have h1 := inv0_boundedCall (inv0_init c) x0
  have h2 := runQueries_preserves (P := Inv0 c) (fun _ q hs => inv0_boundedCall hs q) qs _ h1
  unfold maximise
  cases (boundedCall c (init c) x0).2
  case val y =>
    simp only [afterFirst]
    cases c.fin y
    · exact ⟨_, h1, .inl ⟨rfl, fun _ _ _ _ h => nomatch h⟩⟩
    · simp only [if_true, optimiseFrom, getBest]
      split
      · exact ⟨_, h2, .inr ⟨_, _, _, ‹_›, rfl⟩⟩
      · exact ⟨_, h2, .inl ⟨rfl, fun _ _ _ _ h => nomatch h⟩⟩
  all_goals exact ⟨_, h1, .inl ⟨rfl, fun _ _ _ _ h => nomatch h⟩⟩

/-! ### after a successful first evaluation, with `gt` the `>` of a linear order -/

/-- the recorded best is a point that was evaluated, with its value, no evaluated point has a larger one, and the
start `x0` is among the evaluated points (so the best value is never below the start's) -/
structure Inv [LinearOrder Y] (c : Cfg X Y) (x0 : X) (s : St X Y) : Prop extends Inv0 c s where
  best : ∃ xb, s.bestX = some xb ∧ c.f xb = .val s.bestF
  maxi : ∀ x ∈ s.calls, ∀ y, c.f x = .val y → y ≤ s.bestF
  start : x0 ∈ s.calls

section
variable [LinearOrder Y] {c : Cfg X Y} {x0 : X} {s : St X Y} (hg : ∀ a b, c.gt a b = decide (b < a))
include hg

theorem inv_boundedCall (hs : Inv c x0 s) (q : X) : Inv c x0 (boundedCall c s q).1 := by
  have h0 := inv0_boundedCall hs.toInv0 q
  rcases boundedCall_cases c s q with h | ⟨_, _, ⟨h, hno⟩ | ⟨y, hy, hgt, h⟩⟩ <;> rw [h] at h0 ⊢
  · exact hs
  · refine ⟨h0, hs.best, ?_, List.mem_cons_of_mem _ hs.start⟩
    intro z hz y hy
    rcases List.mem_cons.mp hz with rfl | hz
    · exact not_lt.mp (of_decide_eq_false (hg y s.bestF ▸ hno y hy))
    · exact hs.maxi z hz y hy
  · have hlt : s.bestF < y := of_decide_eq_true (hg y s.bestF ▸ hgt)
    refine ⟨h0, ⟨q, rfl, hy⟩, ?_, List.mem_cons_of_mem _ hs.start⟩
    intro z hz y' hy'
    rcases List.mem_cons.mp hz with rfl | hz
    · rw [hy] at hy'; cases hy'; exact le_refl _
    · exact le_trans (hs.maxi z hz y' hy') (le_of_lt hlt)

theorem inv_first {y0 : Y} (h0 : c.f x0 = .val y0) (hb : c.inB x0 = true)
    (hbot : c.negInf < y0) (hmax : c.maxEvals ≠ some 0) :
    (boundedCall c (init c) x0).2 = .val y0 ∧ Inv c x0 (boundedCall c (init c) x0).1 := by
  have hI := inv0_boundedCall (inv0_init c) x0
  have hl : limitHit c.maxEvals 0 = false := by
    unfold limitHit
    cases hm : c.maxEvals with
    | none => rfl
    | some k => exact decide_eq_false fun h => hmax (by rw [hm, Nat.le_zero.mp h])
  have hgt : c.gt y0 c.negInf = true := by rw [hg]; exact decide_eq_true hbot
  have hst : boundedCall c (init c) x0 = ({ evals := 1, bestF := y0, bestX := some x0, calls := [x0] }, .val y0) := by
    simp only [boundedCall, hb, if_true, limitedCall, hl, h0, afterCall, record, counted, init, hgt, Bool.false_eq_true,
      if_false]
  rw [hst] at hI ⊢
  refine ⟨rfl, hI, ⟨x0, rfl, h0⟩, ?_, List.mem_cons_self⟩
  intro z hz y hy
  rw [List.mem_singleton.mp hz, h0] at hy
  cases hy
  exact le_refl _

/-- A start that is in bounds with a finite value, under a limit that allows one evaluation: `get_best` runs, and the
whole run is read off the trace `t` the optimisers leave, whose closure cells satisfy `Inv`. -/
theorem maximise_ok {y0 : Y} (h0 : c.f x0 = .val y0) (hb : c.inB x0 = true)
    (hfin : c.fin y0 = true) (hbot : c.negInf < y0) (hmax : c.maxEvals ≠ some 0) (qs : List X) :
    ∃ (t : Trace X Y) (xb : X), Inv c x0 t.st ∧ t.st.bestX = some xb ∧ c.f xb = .val t.st.bestF ∧
      maximise c x0 qs = { st := { t.st with calls := xb :: t.st.calls }, shown := t.shown,
                           final := .done t.st.bestF xb t.st.evals t.stop } := by
  obtain ⟨e1, e2⟩ := inv_first hg h0 hb hbot hmax
  have k := runQueries_preserves (P := Inv c x0) (fun _ q hs => inv_boundedCall hg hs q) qs _ e2
  obtain ⟨xb, b1, b2⟩ := k.best
  refine ⟨_, xb, k, b1, b2, ?_⟩
  unfold maximise
  rw [e1]
  simp only [afterFirst, hfin, if_true, optimiseFrom, getBest, b1]

end

/-! ### the start clamp of `Calculator.optimise` -/

theorem clampStart_id {R : Type} (lt close : R → R → Bool) (v : List (Coord R)) (h : inBounds lt v = true) :
    clampStart lt close v = v := by
  have hb : ∀ c ∈ v, lt c.x c.lo = false ∧ lt c.hi c.x = false := by
    intro c hc
    simpa only [Bool.and_eq_true, Bool.not_eq_true'] using List.all_eq_true.mp h c hc
  have hid : ∀ (p : Coord R → Bool) (g : Coord R → Coord R), (∀ c ∈ v, p c = false) →
      v.map (fun c => if p c then g c else c) = v := fun p g hp =>
    (List.map_congr_left fun c hc => by rw [hp c hc]; rfl).trans (List.map_id v)
  have eL : clampLow lt close v = v := by
    unfold clampLow
    split
    · exact hid _ _ fun c hc => (hb c hc).1
    · rfl
  unfold clampStart
  rw [eL]
  unfold clampHigh
  split
  · exact hid _ _ fun c hc => (hb c hc).2
  · rfl

theorem clamp_pointwise {R : Type} [LinearOrder R] (c : Coord R) (h : c.lo ≤ c.hi) :
    let c1 : Coord R := if decide (c.x < c.lo) then { c with x := c.lo } else c
    let c2 : Coord R := if decide (c1.hi < c1.x) then { c1 with x := c1.hi } else c1
    (!(decide (c2.x < c2.lo)) && !(decide (c2.hi < c2.x))) = true := by
  intro c1 c2
  by_cases h1 : c.x < c.lo
  · simp [c2, c1, h1, not_lt.mpr h]
  · by_cases h2 : c.hi < c.x
    · simp [c2, c1, h1, h2, h]
    · simp [c2, c1, h1, h2]

end CogentModel.Optimiser
