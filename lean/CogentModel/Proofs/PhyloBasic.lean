import CogentModel.Spec.PhyloSplits
import Mathlib.Algebra.Group.Basic
import Mathlib.Tactic.Abel
/-! C09: lists of subtrees, the equivalence `SplitsEquiv` of split multisets, and one rotation across an edge, which
keeps the tips (`rotate_tips`) and the split multiset (`rotate_splits`). -/
namespace CogentModel.Phylo
open PTree
variable {K : Type}

@[simp] theorem name_node (n : String) (l : Option K) (cs : List (PTree K)) : (PTree.node n l cs).name = n := rfl
@[simp] theorem len_node (n : String) (l : Option K) (cs : List (PTree K)) : (PTree.node n l cs).len = l := rfl
@[simp] theorem children_node (n : String) (l : Option K) (cs : List (PTree K)) :
    (PTree.node n l cs).children = cs := rfl

theorem tipsL_eq_flatMap (cs : List (PTree K)) : tipsL cs = cs.flatMap tips := by
  induction cs with
  | nil => rfl
  | cons c cs ih => rw [tipsL, ih, List.flatMap_cons]

theorem splitsL_eq_flatMap (cs : List (PTree K)) :
    splitsL cs = cs.flatMap fun c => edgeSplit c :: splits c := by
  induction cs with
  | nil => rfl
  | cons c cs ih => rw [splitsL, ih, List.flatMap_cons]

theorem tipsL_append (l1 l2 : List (PTree K)) : tipsL (l1 ++ l2) = tipsL l1 ++ tipsL l2 := by
  simp only [tipsL_eq_flatMap, List.flatMap_append]

theorem splitsL_append (l1 l2 : List (PTree K)) : splitsL (l1 ++ l2) = splitsL l1 ++ splitsL l2 := by
  simp only [splitsL_eq_flatMap, List.flatMap_append]

theorem splitsL_perm {l l' : List (PTree K)} (h : l.Perm l') : (splitsL l).Perm (splitsL l') := by
  simpa only [splitsL_eq_flatMap] using h.flatMap_right _

theorem tipsL_perm {l l' : List (PTree K)} (h : l.Perm l') : (tipsL l).Perm (tipsL l') := by
  simpa only [tipsL_eq_flatMap] using h.flatMap_right _

theorem tips_subset_tipsL {c : PTree K} {cs : List (PTree K)} (h : c ∈ cs) :
    ∀ z ∈ tips c, z ∈ tipsL cs := by
  obtain ⟨s, t, rfl⟩ := List.append_of_mem h
  intro z hz
  rw [tipsL_append, tipsL]
  exact List.mem_append_right _ (List.mem_append_left _ hz)

theorem tips_node_eq (n : String) (l : Option K) (cs : List (PTree K)) :
    tips (PTree.node n l cs) = if cs = [] then [n] else tipsL cs := by
  cases cs <;> simp [tips, tipsL]

theorem tips_node_ne_nil (n : String) (l : Option K) (cs : List (PTree K)) (h : cs ≠ []) :
    tips (.node n l cs) = tipsL cs := by
  rw [tips_node_eq, if_neg h]

theorem tips_eta (t : PTree K) : t = .node t.name t.len t.children := by cases t; rfl

theorem tips_of_children (c : PTree K) (h : c.children ≠ []) : tips c = tipsL c.children := by
  cases c with
  | node n l cs => simpa [PTree.children] using tips_node_ne_nil n l cs h

theorem splits_eq_children (x : PTree K) : splits x = splitsL x.children := by
  cases x; rfl

theorem tips_node_len (n : String) (l l' : Option K) (cs : List (PTree K)) :
    tips (PTree.node n l cs) = tips (PTree.node n l' cs) := by cases cs <;> rfl

theorem tips_rename (s : PTree K) (l' : Option K) : tips (PTree.node s.name l' s.children) = tips s := by
  cases s with
  | node n l cs => exact tips_node_len n l' l cs

theorem splits_rename (s : PTree K) (l' : Option K) :
    splits (PTree.node s.name l' s.children) = splits s := by
  cases s with
  | node n l cs => simp [splits, PTree.children]

mutual
theorem sides_subset : ∀ (t : PTree K), ∀ s ∈ splits t, ∀ x ∈ s.side, x ∈ tips t
  | .node n l cs => by
    intro s hs x hx
    simp only [splits] at hs
    cases cs with
    | nil => simp [splitsL] at hs
    | cons c cs =>
      rw [tips_node_ne_nil _ _ _ (by simp)]
      exact sidesL_subset (c :: cs) s hs x hx
theorem sidesL_subset : ∀ (cs : List (PTree K)), ∀ s ∈ splitsL cs, ∀ x ∈ s.side, x ∈ tipsL cs
  | [] => by intro s hs; simp [splitsL] at hs
  | c :: cs => by
    intro s hs x hx
    simp only [splitsL, List.cons_append, List.mem_cons, List.mem_append] at hs
    simp only [tipsL, List.mem_append]
    rcases hs with rfl | hs | hs
    · exact Or.inl hx
    · exact Or.inl (sides_subset c s hs x hx)
    · exact Or.inr (sidesL_subset cs s hs x hx)
end

theorem child_sides (c : PTree K) : ∀ s ∈ edgeSplit c :: splits c, ∀ x ∈ s.side, x ∈ tips c := by
  intro s hs x hx
  rcases List.mem_cons.1 hs with rfl | h
  · exact hx
  · exact sides_subset c s h x hx

/-- a tree without the tip: neither its edge nor anything below holds it -/
theorem not_mem_child_sides {c : PTree K} {p : String} (h : p ∉ tips c) :
    ∀ s ∈ edgeSplit c :: splits c, p ∉ s.side := fun s hs hp => h (child_sides c s hs p hp)

theorem not_mem_sidesL {cs : List (PTree K)} {p : String} (h : p ∉ tipsL cs) :
    ∀ s ∈ splitsL cs, p ∉ s.side := fun s hs hp => h (sidesL_subset cs s hs p hp)

theorem splitsL_cons (c : PTree K) (cs : List (PTree K)) :
    splitsL (c :: cs) = edgeSplit c :: splits c ++ splitsL cs := rfl

/-- the tips of one tree of the forest occur in no other -/
theorem not_mem_siblings {pre post : List (PTree K)} {c : PTree K}
    (hnd : (tipsL (pre ++ c :: post)).Nodup) {p : String} (hp : p ∈ tips c) :
    p ∉ tipsL pre ∧ p ∉ tipsL post := by
  rw [tipsL_append, tipsL] at hnd
  obtain ⟨_, h2, h3⟩ := List.nodup_append.1 hnd
  exact ⟨fun h => h3 p h p (List.mem_append_left _ hp) rfl,
    fun h => (List.nodup_append.1 h2).2.2 p hp p h rfl⟩

theorem nodup_child (pre post : List (PTree K)) (x : PTree K) (h : (tipsL (pre ++ x :: post)).Nodup) : (tips x).Nodup := by
  simp only [tipsL_append, tipsL] at h
  exact (List.nodup_append.1 (List.nodup_append.1 h).2.1).1

theorem pick_append_cons {α : Type} (pre : List α) (x : α) (post : List α) :
    pick (pre ++ x :: post) pre.length = some (pre, x, post) := by
  induction pre with
  | nil => rfl
  | cons y ys ih => simp only [List.cons_append, List.length_cons, pick, ih]

theorem pick_spec {α : Type} {l : List α} {i : Nat} {pre post : List α} {x : α}
    (h : pick l i = some (pre, x, post)) : l = pre ++ x :: post ∧ pre.length = i := by
  fun_induction pick l i generalizing pre with
  | case1 => cases h
  | case2 => cases h; exact ⟨rfl, rfl⟩
  | case3 y ys i hp => cases h
  | case4 y ys i a b c hp ih =>
    cases h
    obtain ⟨rfl, rfl⟩ := ih hp
    exact ⟨rfl, rfl⟩

section sums
variable [AddCommMonoid K]

theorem sumBy_append {α : Type} (f : α → K) (l1 l2 : List α) :
    sumBy f (l1 ++ l2) = sumBy f l1 + sumBy f l2 := by
  induction l1 with
  | nil => simp [sumBy]
  | cons x xs ih => simp [sumBy, ih, add_assoc]

theorem sumBy_congr {α : Type} (f g : α → K) (l : List α) (h : ∀ x ∈ l, f x = g x) :
    sumBy f l = sumBy g l := by
  induction l with
  | nil => rfl
  | cons x xs ih =>
    simp only [sumBy]
    rw [h x (by simp), ih (fun y hy => h y (by simp [hy]))]

theorem sumBy_zero {α : Type} (f : α → K) (l : List α) (h : ∀ x ∈ l, f x = 0) : sumBy f l = 0 := by
  induction l with
  | nil => rfl
  | cons x xs ih =>
    simp only [sumBy]
    rw [h x (by simp), ih (fun y hy => h y (by simp [hy]))]; simp

theorem sumBy_perm {α : Type} (f : α → K) {l1 l2 : List α} (h : l1.Perm l2) :
    sumBy f l1 = sumBy f l2 := by
  induction h with
  | nil => rfl
  | cons x _ ih => simp [sumBy, ih]
  | swap x y l => simp only [sumBy]; abel
  | trans _ _ ih1 ih2 => exact ih1.trans ih2
end sums

theorem bipEquiv_refl (T A : List String) : bipEquiv T A A := fun _ _ _ _ => rfl

theorem bipEquiv_symm {T A B : List String} (h : bipEquiv T A B) : bipEquiv T B A :=
  fun a ha b hb => (h a ha b hb).symm

theorem bipEquiv_trans {T A B C : List String} (h1 : bipEquiv T A B) (h2 : bipEquiv T B C) :
    bipEquiv T A C := fun a ha b hb => (h1 a ha b hb).trans (h2 a ha b hb)

theorem sep_eq_iff (a b : String) (A B : List String) :
    sep a b A = sep a b B ↔ ((a ∈ A ↔ a ∈ B) ↔ (b ∈ A ↔ b ∈ B)) := by
  unfold sep; grind

/-- a side and its complement in `T` are the same bipartition -/
theorem bipEquiv_compl {T A B : List String} (h : ∀ a ∈ T, (a ∈ A ↔ ¬ a ∈ B)) : bipEquiv T A B :=
  fun a ha b hb => (sep_eq_iff a b A B).2 (iff_of_false (fun e => iff_not_self (e.symm.trans (h a ha)))
    (fun e => iff_not_self (e.symm.trans (h b hb))))

/-- the two parts of a duplicate-free list are complementary in it -/
theorem mem_left_iff_not_mem_right {A B T : List String} (hT : (A ++ B).Perm T) (hnd : T.Nodup) :
    ∀ a ∈ T, (a ∈ A ↔ ¬ a ∈ B) := fun a ha =>
  ⟨fun h1 h2 => (List.nodup_append.1 (hT.nodup_iff.2 hnd)).2.2 a h1 a h2 rfl,
    (List.mem_append.1 (hT.mem_iff.2 ha)).resolve_right⟩

/-- sides with the same members among `T` are the same bipartition -/
theorem bipEquiv_same {T A B : List String} (h : ∀ a ∈ T, (a ∈ A ↔ a ∈ B)) : bipEquiv T A B :=
  fun a ha b hb => (sep_eq_iff a b A B).2 (iff_of_true (h a ha) (h b hb))

/-- it is enough to compare every tip with one reference tip -/
theorem bipEquiv_iff_ref {T : List String} {r : String} (hr : r ∈ T) (A B : List String) :
    bipEquiv T A B ↔ ∀ x ∈ T, ((x ∈ A ↔ x ∈ B) ↔ (r ∈ A ↔ r ∈ B)) :=
  ⟨fun h x hx => (sep_eq_iff x r A B).1 (h x hx r hr),
   fun h a ha b hb => (sep_eq_iff a b A B).2 ((h a ha).trans (h b hb).symm)⟩

/-- equivalent sides agree on `T` or are complementary on `T` -/
theorem bipEquiv_cases (T A B : List String) (h : bipEquiv T A B) :
    (∀ x ∈ T, (x ∈ A ↔ x ∈ B)) ∨ (∀ x ∈ T, (x ∈ A ↔ ¬ x ∈ B)) := by
  cases T with
  | nil => exact .inl fun x hx => nomatch hx
  | cons r T' =>
    have h := (bipEquiv_iff_ref List.mem_cons_self A B).1 h
    by_cases hr : r ∈ A ↔ r ∈ B
    · exact .inl fun x hx => (h x hx).2 hr
    · exact .inr fun x hx => iff_not_comm.1 (not_iff.1 fun e => hr ((h x hx).1 e)).symm

theorem sepAll_iff (T A B : List String) : sepAll T A B = true ↔ bipEquiv T A B := by
  simp only [sepAll, bipEquiv, List.all_eq_true, beq_iff_eq]

theorem sep_comm (a b : String) (A : List String) : sep a b A = sep b a A := bne_comm

theorem splitEquiv_refl (T : List String) (s : Split K) : splitEquiv T s s :=
  ⟨rfl, rfl, bipEquiv_refl T _⟩

namespace SplitsEquiv

theorem refl (T : List String) : ∀ l : List (Split K), SplitsEquiv T l l
  | [] => .nil
  | s :: l => .cons (splitEquiv_refl T s) (refl T l)

theorem of_perm (T : List String) {l l' : List (Split K)} (h : l.Perm l') : SplitsEquiv T l l' := by
  induction h with
  | nil => exact .nil
  | cons x _ ih => exact .cons (splitEquiv_refl T x) ih
  | swap x y l => exact .swap y x l
  | trans _ _ ih1 ih2 => exact .trans ih1 ih2

theorem append_right (T : List String) {l1 l1' : List (Split K)} (l2 : List (Split K))
    (h : SplitsEquiv T l1 l1') : SplitsEquiv T (l1 ++ l2) (l1' ++ l2) := by
  induction h with
  | nil => exact refl T l2
  | cons hs _ ih => exact .cons hs ih
  | swap a b l => exact .swap a b (l ++ l2)
  | trans _ _ ih1 ih2 => exact .trans ih1 ih2

theorem append_left (T : List String) (l1 : List (Split K)) {l2 l2' : List (Split K)}
    (h : SplitsEquiv T l2 l2') : SplitsEquiv T (l1 ++ l2) (l1 ++ l2') := by
  induction l1 with
  | nil => exact h
  | cons s l ih => exact .cons (splitEquiv_refl T s) ih

theorem append (T : List String) {l1 l1' l2 l2' : List (Split K)}
    (h1 : SplitsEquiv T l1 l1') (h2 : SplitsEquiv T l2 l2') : SplitsEquiv T (l1 ++ l2) (l1' ++ l2') :=
  .trans (append_right T l2 h1) (append_left T l1' h2)

theorem symm (T : List String) {l l' : List (Split K)} (h : SplitsEquiv T l l') : SplitsEquiv T l' l := by
  induction h with
  | nil => exact .nil
  | cons hs _ ih => exact .cons ⟨hs.1.symm, hs.2.1.symm, bipEquiv_symm hs.2.2⟩ ih
  | swap a b l => exact .swap b a l
  | trans _ _ ih1 ih2 => exact .trans ih2 ih1

/-- the equivalence only looks at membership in `T` -/
theorem mono {T T' : List String} (hT : ∀ x, x ∈ T' → x ∈ T) {l l' : List (Split K)}
    (h : SplitsEquiv T l l') : SplitsEquiv T' l l' := by
  induction h with
  | nil => exact .nil
  | cons hs _ ih =>
    exact .cons ⟨hs.1, hs.2.1, fun a ha b hb => hs.2.2 a (hT a ha) b (hT b hb)⟩ ih
  | swap a b l => exact .swap a b l
  | trans _ _ ih1 ih2 => exact .trans ih1 ih2

theorem length_eq {T : List String} {l l' : List (Split K)} (h : SplitsEquiv T l l') :
    l.length = l'.length := by
  induction h with
  | nil => rfl
  | cons _ _ ih => simp [ih]
  | swap a b l => simp
  | trans _ _ ih1 ih2 => exact ih1.trans ih2

/-- equivalent split lists carry the same lengths -/
theorem forall_len {T : List String} {l l' : List (Split K)} (h : SplitsEquiv T l l')
    (Q : Option K → Prop) : (∀ s ∈ l, Q s.len) ↔ ∀ s ∈ l', Q s.len := by
  induction h with
  | nil => exact Iff.rfl
  | cons hs _ ih => rw [List.forall_mem_cons, List.forall_mem_cons, ih, hs.2.1]
  | swap a b l => simp only [List.forall_mem_cons]; exact and_left_comm
  | trans _ _ ih1 ih2 => exact ih1.trans ih2

end SplitsEquiv

/-- `r` has the tips of `t` and, where these are distinct, its multiset of named weighted splits -/
def SameSplits (t r : PTree K) : Prop :=
  (tips r).Perm (tips t) ∧ ((tips t).Nodup → SplitsEquiv (tips t) (splits t) (splits r))

namespace SameSplits

theorem refl (t : PTree K) : SameSplits t t := ⟨.refl _, fun _ => SplitsEquiv.refl _ _⟩

theorem trans {t m r : PTree K} (h1 : SameSplits t m) (h2 : SameSplits m r) : SameSplits t r :=
  ⟨h2.1.trans h1.1, fun hnd => .trans (h1.2 hnd)
    (SplitsEquiv.mono (fun _ hx => h1.1.mem_iff.2 hx) (h2.2 (h1.1.nodup_iff.2 hnd)))⟩

end SameSplits

theorem rotate_tips (pre post above xcs : List (PTree K)) (xn : String) (xl : Option K)
    (hx : xcs ≠ []) (hrest : pre ++ post ++ above ≠ []) :
    (tipsL (xcs ++ [PTree.node xn xl (pre ++ post ++ above)])).Perm
      (tipsL ((pre ++ PTree.node xn xl xcs :: post) ++ above)) := by
  have hN := tips_node_ne_nil xn xl (pre ++ post ++ above) hrest
  have hX := tips_node_ne_nil xn xl xcs hx
  simp only [tipsL_append, tipsL, hN, hX, List.append_nil]
  simp only [List.append_assoc]
  exact (List.perm_append_comm_assoc _ _ _)

theorem rotate_splits (pre post above xcs : List (PTree K)) (xn : String) (xl : Option K)
    (hx : xcs ≠ []) (hrest : pre ++ post ++ above ≠ []) (T : List String)
    (hT : (tipsL ((pre ++ PTree.node xn xl xcs :: post) ++ above)).Perm T) (hnd : T.Nodup) :
    SplitsEquiv T (splitsL ((pre ++ PTree.node xn xl xcs :: post) ++ above))
      (splitsL (xcs ++ [PTree.node xn xl (pre ++ post ++ above)])) := by
  have hN := tips_node_ne_nil xn xl (pre ++ post ++ above) hrest
  -- sides of the rotated edge: the tips below `x`, and all the others
  have hAB : (tipsL xcs ++ tipsL (pre ++ post ++ above)).Perm T := by
    simpa only [tipsL_append, tipsL, hN, List.append_nil] using
      (rotate_tips pre post above xcs xn xl hx hrest).trans hT
  have hside : splitEquiv T (edgeSplit (PTree.node xn xl xcs))
      (edgeSplit (PTree.node xn xl (pre ++ post ++ above))) :=
    ⟨rfl, rfl, by
      rw [edgeSplit, edgeSplit, tips_node_ne_nil _ _ _ hx, hN]
      exact bipEquiv_compl (mem_left_iff_not_mem_right hAB hnd)⟩
  -- both sides are (rotated edge) :: (everything else), up to a permutation
  have hL : (splitsL ((pre ++ PTree.node xn xl xcs :: post) ++ above)).Perm
      (edgeSplit (PTree.node xn xl xcs) ::
        (splitsL xcs ++ (splitsL pre ++ (splitsL post ++ splitsL above)))) := by
    simp only [splitsL_append, splitsL, splits, List.append_assoc, List.cons_append]
    refine List.perm_middle.trans (List.Perm.cons _ ?_)
    exact List.perm_append_comm_assoc _ _ _
  have hR : (splitsL (xcs ++ [PTree.node xn xl (pre ++ post ++ above)])).Perm
      (edgeSplit (PTree.node xn xl (pre ++ post ++ above)) ::
        (splitsL xcs ++ (splitsL pre ++ (splitsL post ++ splitsL above)))) := by
    simp only [splitsL_append, splitsL, splits, List.append_assoc, List.append_nil]
    exact List.perm_middle
  exact .trans (SplitsEquiv.of_perm T hL)
    (.trans (.cons hside (SplitsEquiv.refl T _)) (SplitsEquiv.of_perm T hR.symm))

end CogentModel.Phylo
