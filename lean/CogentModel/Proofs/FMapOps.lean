import CogentModel.Model.FMapOps
import CogentModel.Proofs.FMapCover
/-! The operations of `Model/FMapOps.lean` (span predicates, `*`, `/`, `without_gaps`, `get_covering_span`) read through
`cover` / `coverSp`: the lemmas under the theorems of `Props/C08Ops.lean`. -/
namespace CogentModel.FMap

theorem containsInt_iff (s e x : Int) (r : Bool) : containsInt s e x = true ↔ some x ∈ coverSp (.span s e r) := by
  rw [mem_coverSp_span]; simp only [containsInt, decide_eq_true_eq]

/-! ### without_gaps -/
theorem coverSp_filter_lost (n : Int) : (coverSp (.lost n)).filter Option.isSome = [] := by
  simp [coverSp]

theorem coverSp_filter_span (s e : Int) (r : Bool) : (coverSp (.span s e r)).filter Option.isSome = coverSp (.span s e r) := by
  rw [List.filter_eq_self]
  intro o ho
  cases o with
  | none => exact absurd ho (by
      rw [coverSp_span_irange]; cases r <;> simp [irange])
  | some p => rfl

/-! ### `*` and `/` -/
theorem mkSpan_mul (s e k : Int) (r : Bool) (h : s ≤ e) (hk : 0 ≤ k) : mkSpan (s * k) (e * k) r = .span (s * k) (e * k) r :=
  mkSpan_of_le (Int.mul_le_mul_of_nonneg_right h hk) r

theorem FSp.mul_length (x : FSp) (k : Int) (h : 0 ≤ x.length) (hk : 0 ≤ k) : (x.mul k).length = x.length * k := by
  cases x with
  | lost n => rfl
  | span s e r =>
    simp only [FSp.length] at h
    simp only [FSp.mul, mkSpan_mul s e k r (by omega) hk, FSp.length, Int.sub_mul]

theorem lenL_map_mul (l : List FSp) (k : Int) (h : NonNegL l) (hk : 0 ≤ k) : lenL (l.map (·.mul k)) = lenL l * k := by
  induction l with
  | nil => simp
  | cons x xs ih =>
    simp only [List.map_cons, lenL_cons, ih h.tail, FSp.mul_length x k h.head hk, Int.add_mul]

theorem mem_scaled (s e k p : Int) (hk : 0 < k) :
    (s * k ≤ p ∧ p < e * k) ↔ ∃ q, (s ≤ q ∧ q < e) ∧ q * k ≤ p ∧ p < q * k + k := by
  constructor
  · rintro ⟨h1, h2⟩
    refine ⟨p / k, ⟨Int.le_ediv_of_mul_le hk h1, Int.ediv_lt_of_lt_mul hk h2⟩, Int.ediv_mul_le p (by omega), ?_⟩
    have := Int.lt_ediv_add_one_mul_self p hk
    rw [Int.add_mul, Int.one_mul] at this; exact this
  · rintro ⟨q, ⟨h1, h2⟩, h3, h4⟩
    have a := Int.mul_le_mul_of_nonneg_right h1 (Int.le_of_lt hk)
    have b := Int.mul_le_mul_of_nonneg_right (show q + 1 ≤ e by omega) (Int.le_of_lt hk)
    rw [Int.add_mul, Int.one_mul] at b
    omega

theorem FSp.mul_within {x : FSp} {pl : Int} (k : Int) (hk : 0 ≤ k) (h : x.within pl) : (x.mul k).within (pl * k) := by
  cases x with
  | lost n => trivial
  | span s e r =>
    obtain ⟨h0, h1, h2⟩ := h
    rw [FSp.mul, mkSpan_mul s e k r h1 hk]
    exact ⟨Int.mul_nonneg h0 hk, Int.mul_le_mul_of_nonneg_right h1 hk, Int.mul_le_mul_of_nonneg_right h2 hk⟩

/-- scaling turns every position `q` of a span into the block `[q * k, q * k + k)` -/
theorem mem_coverSp_mul {x : FSp} {k : Int} (hx : 0 ≤ x.length) (hk : 0 < k) (p : Int) :
    some p ∈ coverSp (x.mul k) ↔ ∃ q, some q ∈ coverSp x ∧ q * k ≤ p ∧ p < q * k + k := by
  cases x with
  | lost n => simp [FSp.mul, coverSp]
  | span s e r =>
    rw [FSp.mul, mkSpan_mul s e k r (by simp only [FSp.length] at hx; omega) (Int.le_of_lt hk), mem_coverSp_span,
      mem_scaled s e k p hk]
    simp only [mem_coverSp_span]

theorem FSp.truediv_mul (x : FSp) (k : Int) (h : 0 ≤ x.length) (hk : 0 < k)
    (h3 : ∀ n, x = .lost n → Int.fmod (n * k) 3 = 0) : (x.mul k).truediv k = .ok x := by
  cases x with
  | lost n =>
    simp only [FSp.mul, FSp.truediv, h3 n rfl, if_true]
    rw [Int.fdiv_eq_ediv_of_nonneg _ (Int.le_of_lt hk), Int.mul_ediv_cancel _ (by omega)]
  | span s e r =>
    simp only [FSp.length] at h
    simp only [FSp.mul, mkSpan_mul s e k r (by omega) (Int.le_of_lt hk), FSp.truediv]
    have : Int.fmod (s * k) k = 0 := by
      rw [Int.fmod_eq_emod_of_nonneg _ (Int.le_of_lt hk)]; exact Int.mul_emod_left s k
    rw [if_pos (Or.inl this)]
    rw [Int.fdiv_eq_ediv_of_nonneg _ (Int.le_of_lt hk), Int.fdiv_eq_ediv_of_nonneg _ (Int.le_of_lt hk),
      Int.mul_ediv_cancel _ (by omega), Int.mul_ediv_cancel _ (by omega)]
    rw [mkSpan_of_le (by omega)]

theorem mapSpans_truediv_mul (l : List FSp) (k : Int) (h : NonNegL l) (hk : 0 < k)
    (h3 : ∀ n, .lost n ∈ l → Int.fmod (n * k) 3 = 0) : mapSpans (·.truediv k) (l.map (·.mul k)) = .ok l := by
  induction l with
  | nil => rfl
  | cons x xs ih =>
    simp only [List.map_cons, mapSpans]
    rw [FSp.truediv_mul x k h.head hk (fun n hn => h3 n (by rw [hn]; exact List.mem_cons_self))]
    simp only []
    rw [ih h.tail (fun n hn => h3 n (List.mem_cons_of_mem _ hn))]

/-! ### start / end / get_covering_span -/
def seStep (acc : Option (Int × Int)) (s : FSp) : Option (Int × Int) :=
  match s with
  | .lost _ => acc
  | .span a b _ => match acc with
    | none => some (a, b)
    | some (x, y) => some (min x a, max y b)

theorem startEnd_eq (m : FM) : startEnd m = m.spans.foldl seStep none := rfl

theorem foldl_seStep_some (l : List FSp) (x y : Int) : ∃ lo hi, l.foldl seStep (some (x, y)) = some (lo, hi) ∧
    lo ≤ x ∧ y ≤ hi ∧ (∀ s e r, FSp.span s e r ∈ l → lo ≤ s ∧ e ≤ hi) ∧
    (lo = x ∨ ∃ s e r, FSp.span s e r ∈ l ∧ lo = s) ∧ (hi = y ∨ ∃ s e r, FSp.span s e r ∈ l ∧ hi = e) := by
  induction l generalizing x y with
  | nil => exact ⟨x, y, rfl, by omega, by omega, by simp, .inl rfl, .inl rfl⟩
  | cons sp rest ih =>
    cases sp with
    | lost n =>
      simp only [List.foldl_cons, seStep, List.mem_cons, reduceCtorEq, false_or]
      exact ih x y
    | span a b rv =>
      obtain ⟨lo, hi, h, h1, h2, h3, h4, h5⟩ := ih (min x a) (max y b)
      have hb : lo ≤ x ∧ lo ≤ a ∧ y ≤ hi ∧ b ≤ hi :=
        ⟨Int.le_trans h1 (Int.min_le_left x a), Int.le_trans h1 (Int.min_le_right x a),
          Int.le_trans (Int.le_max_left y b) h2, Int.le_trans (Int.le_max_right y b) h2⟩
      refine ⟨lo, hi, h, hb.1, hb.2.2.1, fun s e r hm => ?_, ?_, ?_⟩
      · rcases List.mem_cons.1 hm with hm | hm
        · cases hm; exact ⟨hb.2.1, hb.2.2.2⟩
        · exact h3 s e r hm
      · rcases h4 with h4 | ⟨s, e, r, hm, h4⟩
        · by_cases hx : x ≤ a
          · exact .inl (h4.trans (Int.min_eq_left hx))
          · exact .inr ⟨a, b, rv, List.mem_cons_self, h4.trans (Int.min_eq_right (by omega))⟩
        · exact .inr ⟨s, e, r, List.mem_cons_of_mem _ hm, h4⟩
      · rcases h5 with h5 | ⟨s, e, r, hm, h5⟩
        · by_cases hx : b ≤ y
          · exact .inl (h5.trans (Int.max_eq_left hx))
          · exact .inr ⟨a, b, rv, List.mem_cons_self, h5.trans (Int.max_eq_right (by omega))⟩
        · exact .inr ⟨s, e, r, List.mem_cons_of_mem _ hm, h5⟩

theorem foldl_seStep_none (l : List FSp) (hl : ∃ s e r, FSp.span s e r ∈ l) : ∃ lo hi, l.foldl seStep none = some (lo, hi) ∧
    (∀ s e r, FSp.span s e r ∈ l → lo ≤ s ∧ e ≤ hi) ∧
    (∃ s e r, FSp.span s e r ∈ l ∧ lo = s) ∧ (∃ s e r, FSp.span s e r ∈ l ∧ hi = e) := by
  induction l with
  | nil => simp at hl
  | cons sp rest ih =>
    cases sp with
    | lost n =>
      simp only [List.foldl_cons, seStep, List.mem_cons, reduceCtorEq, false_or] at hl ⊢
      exact ih hl
    | span a b rv =>
      obtain ⟨lo, hi, h, h1, h2, h3, h4, h5⟩ := foldl_seStep_some rest a b
      refine ⟨lo, hi, h, fun s e r hm => ?_, ?_, ?_⟩
      · rcases List.mem_cons.1 hm with hm | hm
        · cases hm; exact ⟨h1, h2⟩
        · exact h3 s e r hm
      · rcases h4 with h4 | ⟨s, e, r, hm, h4⟩
        · exact ⟨a, b, rv, List.mem_cons_self, h4⟩
        · exact ⟨s, e, r, List.mem_cons_of_mem _ hm, h4⟩
      · rcases h5 with h5 | ⟨s, e, r, hm, h5⟩
        · exact ⟨a, b, rv, List.mem_cons_self, h5⟩
        · exact ⟨s, e, r, List.mem_cons_of_mem _ hm, h5⟩
end CogentModel.FMap
