import CogentModel.Proofs.SolveLemmas
import Mathlib.Data.Matrix.Basic
/-! C05: bridge from the array model to Mathlib matrices: `toM` turns every array operation into the matrix operation, and
a successful `solve` into a unit of the matrix ring. -/

namespace CogentModel.Expm
open CogentModel.RateMatrix Finset

variable {K : Type*} [Field K]

/-- the `n × n` block of an array matrix as a Mathlib matrix -/
def toM (n : Nat) (M : Mat K) : Matrix (Fin n) (Fin n) K := Matrix.of fun i j => mget M i.val j.val

/-- Rewrite with this wherever an entry of `toM` appears: leaving `toM n M i j = mget M i j` to unification is slow. -/
theorem toM_apply (n : Nat) (M : Mat K) (i j : Fin n) : toM n M i j = mget M i.val j.val := Matrix.of_apply _ _ _

theorem entryEq_iff (n : Nat) (A B : Mat K) : EntryEq n A B ↔ toM n A = toM n B := by
  constructor
  · intro h; ext i j; rw [toM_apply, toM_apply]; exact h i.val j.val i.isLt j.isLt
  · intro h i j hi hj
    have := congrFun (congrFun h ⟨i, hi⟩) ⟨j, hj⟩
    rwa [toM_apply, toM_apply] at this

theorem entryZero_iff (n : Nat) (A : Mat K) : EntryZero n A ↔ toM n A = 0 := by
  constructor
  · intro h; ext i j; rw [toM_apply, Matrix.zero_apply]; exact h i.val j.val i.isLt j.isLt
  · intro h i j hi hj
    have := congrFun (congrFun h ⟨i, hi⟩) ⟨j, hj⟩
    rwa [toM_apply] at this

theorem toM_matMul (n : Nat) (A B : Mat K) : toM n (matMul n A B) = toM n A * toM n B := by
  ext i j
  rw [toM_apply, mget_matMul n A B i.isLt j.isLt, Matrix.mul_apply, ← Fin.sum_univ_eq_sum_range (fun k => mget A i k * mget B k j) n]
  exact Finset.sum_congr rfl fun k _ => by rw [toM_apply, toM_apply]

theorem toM_matAdd (n : Nat) (A B : Mat K) : toM n (matAdd n A B) = toM n A + toM n B := by
  ext i j; rw [Matrix.add_apply, toM_apply, toM_apply, toM_apply, mget_matAdd n A B i.isLt j.isLt]
theorem toM_matSub (n : Nat) (A B : Mat K) : toM n (matSub n A B) = toM n A - toM n B := by
  ext i j; rw [Matrix.sub_apply, toM_apply, toM_apply, toM_apply, mget_matSub n A B i.isLt j.isLt]
theorem toM_matScale (n : Nat) (c : K) (A : Mat K) : toM n (matScale n c A) = c • toM n A := by
  ext i j; rw [Matrix.smul_apply, toM_apply, toM_apply, mget_matScale n c A i.isLt j.isLt, smul_eq_mul]
theorem toM_matDivS (n : Nat) (c : K) (A : Mat K) : toM n (matDivS n A c) = c⁻¹ • toM n A := by
  ext i j; rw [Matrix.smul_apply, toM_apply, toM_apply, mget_matDivS n c A i.isLt j.isLt, div_eq_inv_mul, smul_eq_mul]
theorem toM_ident (n : Nat) : toM n (ident n : Mat K) = 1 := by
  ext i j; rw [toM_apply, mget_ident n i.isLt j.isLt, Matrix.one_apply]
  simp [Fin.ext_iff]

theorem toM_sqN (n : Nat) : ∀ (j : Nat) (F : Mat K), toM n (sqN n j F) = toM n F ^ (2 ^ j) := by
  intro j
  induction j with
  | zero => intro F; simp [sqN]
  | succ j ih => intro F; rw [sqN, ih, toM_matMul, ← pow_two, ← pow_mul, pow_succ, mul_comm]

/-- `solve` in ring terms: success means `D` is a unit of the matrix ring and the result is `D⁻¹ N`.  The inverse is the
solution for the identity (success does not depend on the right-hand side); it is a left inverse too because the array
`G·D - 1` is in the kernel of `D`, which is trivial. -/
theorem toM_solve [DecidableEq K] (n : Nat) (D N F : Mat K) (h : solve n D N = some F) :
    ∃ u : (Matrix (Fin n) (Fin n) K)ˣ, ↑u = toM n D ∧ toM n F = (↑u⁻¹ : Matrix (Fin n) (Fin n) K) * toM n N := by
  have hker := (solve_isSome_iff n D N).mp (by rw [h]; rfl)
  obtain ⟨G, hG⟩ := Option.isSome_iff_exists.mp ((solve_isSome_iff n D (ident n)).mpr hker)
  have hDG : toM n D * toM n G = 1 := by
    rw [← toM_matMul, (entryEq_iff n _ _).mp (solve_correct n D _ G hG).1, toM_ident]
  have hGD : toM n G * toM n D = 1 := by
    have := (entryZero_iff n _).mp (hker (matSub n (matMul n G D) (ident n)) ((entryZero_iff n _).mpr (by
      rw [toM_matMul, toM_matSub, toM_matMul, toM_ident, mul_sub, ← mul_assoc, hDG, one_mul, mul_one, sub_self])))
    rwa [toM_matSub, toM_matMul, toM_ident, sub_eq_zero] at this
  refine ⟨⟨toM n D, toM n G, hDG, hGD⟩, rfl, ?_⟩
  rw [← (entryEq_iff n _ _).mp (solve_correct n D N F h).1, toM_matMul]
  exact (Units.inv_mul_cancel_left ⟨toM n D, toM n G, hDG, hGD⟩ _).symm

end CogentModel.Expm
