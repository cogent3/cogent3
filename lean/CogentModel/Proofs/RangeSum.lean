import Mathlib.Algebra.BigOperators.Group.Finset.Basic
/-! The loops of the models run over `range n`; what a sum over it depends on is the summand below `n`. -/
namespace CogentModel

theorem sum_range_congr {M : Type*} [AddCommMonoid M] {n : Nat} {f g : Nat → M} (h : ∀ k, k < n → f k = g k) :
    ∑ k ∈ Finset.range n, f k = ∑ k ∈ Finset.range n, g k :=
  Finset.sum_congr rfl fun k hk => h k (Finset.mem_range.mp hk)

end CogentModel
