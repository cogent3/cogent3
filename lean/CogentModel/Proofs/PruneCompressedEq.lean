import CogentModel.Model.PruneCompressed
import CogentModel.Proofs.PruneCompress
/-!
C02: the hierarchically compressed evaluation (unique columns per node,
products through index arrays) computes, for every alignment column, the plain per-column pruning: `cplh_lookup`.
-/
namespace CogentModel.Prune

section semiring
variable {R : Type} [CommSemiring R] {α : Type}

/-- the profile of alignment column `j` -/
def colProf (seqs : α → List Nat) (symProf : Nat → Nat → R) (j : Nat) : α → Nat → R :=
  fun a => symProf ((seqs a).getD j 0)

mutual
/-- **Hierarchical compression is sound**: at every node the table of unique columns, read through the node's index
array, is the list of the plain partial likelihoods of all `n` alignment columns. -/
theorem cplh_lookup (m n : Nat) (seqs : α → List Nat) (symProf : Nat → Nat → R) :
    ∀ (t : PTree R α), (∀ a ∈ t.leaves, (seqs a).length = n) →
      (cplh m n seqs symProf t).index.map ((cplh m n seqs symProf t).table[·]?)
        = ((List.range n).map fun j => plh m (colProf seqs symProf j) t).map some
  | .leaf P a, hl => by
    obtain rfl := hl a List.mem_cons_self
    simp only [cplh, plh, colProf]
    rw [map_getD_range (seqs a) 0 fun sym => (⟨symProf sym⟩ : Vec R)]
    exact lookup_map (indexed_lookup (seqs a)) _
  | .node P cs, hl => by
    simp only [cplh, plh_node]
    rw [lookup_map (indexed_lookup _) _]
    refine congrArg (List.map some) ?_
    -- `childTuples` is a `map` over the column numbers, like the right side
    rw [childTuples, List.map_map]
    refine List.map_congr_left fun j hj => ?_
    simpa [List.map_map, Function.comp_def] using prodRow_eq m n seqs symProf j (List.mem_range.mp hj) cs hl
theorem prodRow_eq (m n : Nat) (seqs : α → List Nat) (symProf : Nat → Nat → R) (j : Nat) (hj : j < n) :
    ∀ (cs : List (PTree R α)), (∀ a ∈ PTree.leavesL cs, (seqs a).length = n) →
      prodRow m ((cplhL m n seqs symProf cs).map fun k => k.2.table.map (upWith m k.1))
          ((cplhL m n seqs symProf cs).map fun k => k.2.index.getD j 0)
        = prodUp m (colProf seqs symProf j) cs
  | [], _ => by simp [cplhL, prodRow, prodUp]
  | c :: cs, hl => by
    obtain ⟨h1, h2⟩ := List.forall_mem_append.mp hl
    have hc := getElem?_getD_of_lookup (cplh_lookup m n seqs symProf c h1) j (by simpa using hj)
    simp only [cplhL, List.map_cons, prodRow, prodUp, List.getElem?_map, hc, List.getElem_map, List.getElem_range,
      Option.map_some, Option.getD_some, prodRow_eq m n seqs symProf j hj cs h2]
end

theorem cplh_index_length (m n : Nat) (seqs : α → List Nat) (symProf : Nat → Nat → R) (t : PTree R α)
    (hl : ∀ a ∈ t.leaves, (seqs a).length = n) : (cplh m n seqs symProf t).index.length = n := by
  simpa using congrArg List.length (cplh_lookup m n seqs symProf t hl)

end semiring
end CogentModel.Prune
