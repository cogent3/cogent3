/-
  Rows as functions of gap-length functions; inserting the same number of gap columns at
  the same columns of both rows of a pairwise alignment keeps the alignment.
-/
import CogentModel.Proofs.GapDict
namespace CogentModel.GapMerge

/-- gap length in front of residue `p` as a natural number (what `rowFrom` replicates) -/
def glN (g : Gaps) (p : Nat) : Nat := ((dget g (p : Int)).getD 0).toNat

/-- the row of a gap-length *function* -/
def rowFn (f : Nat → Nat) : Nat → Nat → List (Option Nat)
  | 0, p => List.replicate (f p) none
  | n + 1, p => List.replicate (f p) none ++ some p :: rowFn f n (p + 1)

theorem rowFrom_eq_rowFn (g : Gaps) (n p : Nat) : rowFrom g n p = rowFn (glN g) n p := by
  induction n generalizing p with
  | zero => rfl
  | succ n ih => simp only [rowFrom, rowFn, ih]; rfl

theorem rowFn_congr (f f' : Nat → Nat) (n p : Nat) (h : ∀ i, i ≤ n → f (p + i) = f' (p + i)) :
    rowFn f n p = rowFn f' n p := by
  induction n generalizing p with
  | zero => simp only [rowFn]; rw [show f p = f' p from h 0 (Nat.le_refl _)]
  | succ n ih =>
    simp only [rowFn]
    rw [show f p = f' p from h 0 (Nat.zero_le _),
      ih (p + 1) (fun i hi => by rw [Nat.add_right_comm p 1 i]; exact h (i + 1) (Nat.succ_le_succ hi))]

/-- insert `k c` gap columns in front of column `c` (columns counted from `c0`), and `k` (end) at the end -/
def padCols (k : Nat → Nat) : Nat → List (Option Nat) → List (Option Nat)
  | c0, [] => List.replicate (k c0) none
  | c0, w :: ws => List.replicate (k c0) none ++ w :: padCols k (c0 + 1) ws

/-- `Σ_{i < cnt} k (c0 + i)` -/
def sumRange (k : Nat → Nat) (c0 : Nat) : Nat → Nat
  | 0 => 0
  | cnt + 1 => k c0 + sumRange k (c0 + 1) cnt

theorem padCols_replicate (k : Nat → Nat) (c0 a : Nat) (rest : List (Option Nat)) :
    padCols k c0 (List.replicate a none ++ rest) =
      List.replicate (a + sumRange k c0 a) none ++ padCols k (c0 + a) rest := by
  induction a generalizing c0 with
  | zero => simp [sumRange]
  | succ a ih =>
    simp only [List.replicate_succ, List.cons_append, padCols, sumRange]
    rw [ih (c0 + 1)]
    rw [Nat.add_assoc c0 1 a, Nat.add_comm 1 a]
    rw [← List.cons_append, ← List.replicate_succ, ← List.append_assoc, List.replicate_append_replicate]
    congr 2; omega

theorem sumRange_succ_right (k : Nat → Nat) (c0 cnt : Nat) :
    sumRange k c0 (cnt + 1) = sumRange k c0 cnt + k (c0 + cnt) := by
  induction cnt generalizing c0 with
  | zero => simp [sumRange]
  | succ cnt ih =>
    rw [show sumRange k c0 (cnt + 1 + 1) = k c0 + sumRange k (c0 + 1) (cnt + 1) from rfl, ih (c0 + 1)]
    simp only [sumRange]
    rw [Nat.add_assoc c0 1 cnt, Nat.add_comm 1 cnt]; omega

/-- padding a row = the row of the padded gap lengths: the run in front of residue `p+i` (columns
`c_i … c_i + f(p+i)`) absorbs everything inserted at its columns -/
theorem padCols_rowFn (k : Nat → Nat) (f f' : Nat → Nat) (n : Nat) : ∀ (c0 p : Nat) (st : Nat → Nat),
    st 0 = c0 → (∀ i, i < n → st (i + 1) = st i + f (p + i) + 1) →
    (∀ i, i ≤ n → f' (p + i) = f (p + i) + sumRange k (st i) (f (p + i) + 1)) →
    padCols k c0 (rowFn f n p) = rowFn f' n p := by
  induction n with
  | zero =>
    intro c0 p st h0 _ hf
    have := hf 0 (Nat.le_refl _)
    simp only [Nat.add_zero, h0] at this
    simp only [rowFn]
    have e := padCols_replicate k c0 (f p) []
    simp only [List.append_nil, padCols] at e
    rw [e, this, sumRange_succ_right, List.replicate_append_replicate]
    congr 1; omega
  | succ n ih =>
    intro c0 p st h0 hst hf
    have h00 := hf 0 (Nat.zero_le _)
    simp only [Nat.add_zero, h0] at h00
    simp only [rowFn]
    rw [padCols_replicate, padCols]
    have ih' := ih (c0 + f p + 1) (p + 1) (fun i => st (i + 1))
      (by rw [hst 0 (Nat.succ_pos n), h0]; rfl)
      (fun i hi => by rw [Nat.add_right_comm p 1 i]; exact hst (i + 1) (Nat.succ_lt_succ hi))
      (fun i hi => by rw [Nat.add_right_comm p 1 i]; exact hf (i + 1) (Nat.succ_le_succ hi))
    rw [ih', h00, sumRange_succ_right, ← List.append_assoc, List.replicate_append_replicate]
    congr 2; omega

theorem dropCommon_replicate (a : Nat) (r1 r2 : List (Option Nat)) :
    dropCommon (List.replicate a none ++ r1) (List.replicate a none ++ r2) = dropCommon r1 r2 := by
  induction a with
  | zero => simp
  | succ a ih => simp only [List.replicate_succ, List.cons_append, dropCommon]; simpa using ih

theorem dropCommon_length_le (a b : List (Option Nat)) : (dropCommon a b).length ≤ a.length := by
  induction a generalizing b with
  | nil => cases b <;> exact Nat.le_refl 0
  | cons x r ih =>
    cases b with
    | nil => exact Nat.zero_le _
    | cons y r2 =>
      rw [dropCommon]
      by_cases hc : (x.isNone && y.isNone) = true
      · rw [if_pos hc]; exact Nat.le_succ_of_le (ih r2)
      · rw [if_neg hc]; exact Nat.succ_le_succ (ih r2)

/-- rows of equal length from which `dropCommon` removes nothing: it pairs them up -/
theorem dropCommon_eq_zip (a b : List (Option Nat)) (hl : a.length = b.length)
    (hk : (dropCommon a b).length = a.length) : dropCommon a b = List.zip a b := by
  induction a generalizing b with
  | nil => cases b <;> rfl
  | cons x r ih =>
    cases b with
    | nil => cases hl
    | cons y r2 =>
      rw [dropCommon] at hk ⊢
      by_cases hc : (x.isNone && y.isNone) = true
      · rw [if_pos hc] at hk
        exact absurd (hk ▸ dropCommon_length_le r r2) (Nat.not_succ_le_self _)
      · rw [if_neg hc] at hk ⊢
        rw [ih r2 (Nat.succ.inj hl) (Nat.succ.inj hk)]; rfl

theorem padCols_pair (k : Nat → Nat) (r1 r2 : List (Option Nat)) (hl : r1.length = r2.length) : ∀ c0,
    (padCols k c0 r1).length = (padCols k c0 r2).length ∧
    dropCommon (padCols k c0 r1) (padCols k c0 r2) = dropCommon r1 r2 := by
  induction r1 generalizing r2 with
  | nil =>
    intro c0
    cases r2 with
    | nil => exact ⟨rfl, by simpa [padCols] using dropCommon_replicate (k c0) [] []⟩
    | cons b r2 => cases hl
  | cons a r1 ih =>
    intro c0
    cases r2 with
    | nil => cases hl
    | cons b r2 =>
      obtain ⟨h1, h2⟩ := ih r2 (Nat.succ.inj hl) (c0 + 1)
      refine ⟨by simp [padCols, h1], ?_⟩
      rw [padCols, padCols, dropCommon_replicate]
      simp only [dropCommon, h2]

/-! ### what `pairValid` gives the proofs -/

theorem gapsValid_ok (g : Gaps) (len : Int) (h : gapsValid g len = true) : GapsOK g len := by
  simp only [gapsValid, Bool.and_eq_true, List.all_eq_true, decide_eq_true_eq] at h
  have hall : ∀ e ∈ g, (0 ≤ e.1 ∧ e.1 ≤ len) ∧ 0 < e.2 := by
    intro e he
    have := h.1 e he
    obtain ⟨p, l⟩ := e
    simpa using this
  refine ⟨h.2, fun e he => (hall e he).2, fun k hk => ?_⟩
  obtain ⟨e, he, rfl⟩ := List.mem_map.mp hk
  exact (hall e he).1

theorem pairValid_parts (reflen : Int) (rg og : Gaps) (len : Int) (hv : pairValid reflen (rg, og, len) = true) :
    0 ≤ len ∧ GapsOK rg reflen ∧ GapsOK og len ∧ (rowOf rg reflen).length = (rowOf og len).length ∧
      (dropCommon (rowOf rg reflen) (rowOf og len)).length = (rowOf rg reflen).length := by
  simp only [pairValid, Bool.and_eq_true, decide_eq_true_eq, beq_iff_eq] at hv
  obtain ⟨⟨⟨⟨h0, h1⟩, h2⟩, h3⟩, h4⟩ := hv
  exact ⟨h0, gapsValid_ok rg reflen h1, gapsValid_ok og len h2, h3, h4⟩

end CogentModel.GapMerge
