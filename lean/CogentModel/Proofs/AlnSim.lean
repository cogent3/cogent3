import CogentModel.Proofs.AlnRc
import CogentModel.Proofs.AlnTakePos
import CogentModel.Proofs.AlnKeep
import CogentModel.Proofs.AlnFilter
/-! The simulation between the two alignment classes: what an annotatable alignment displays is what the dense
class holds, operation by operation and over whole histories. -/
namespace CogentModel.Aln
open CogentModel.IndelMap CogentModel.Gapped List CogentModel

/-- what an alignment of the annotatable class shows: name ↦ gapped string -/
def showA (a : AlnA) : AlnD := a.map fun p => (p.1, gapped p.2)

def ofStrings (d : AlnD) : AlnA := d.map fun p => (p.1, rowOfString p.2)

def AllWF (a : AlnA) : Prop := ∀ p ∈ a, RowWF p.2

theorem allWF_ofStrings (d : AlnD) : AllWF (ofStrings d) := fun p hp => by
  obtain ⟨q, _, rfl⟩ := mem_map.mp hp
  exact rowWF_ofString _

/-- a row operation that refines a (partial) string operation lifts to the alignments -/
theorem mapRows_partial (f : Row → Except Err Row) (g : List Char → Except Err (List Char))
    (hf : ∀ r r', RowWF r → f r = .ok r' → RowWF r' ∧ g (gapped r) = .ok (gapped r')) :
    ∀ (a a' : AlnA), AllWF a → mapRows f a = .ok a' →
      AllWF a' ∧ mapDense g (showA a) = .ok (showA a') := by
  intro a
  induction a with
  | nil => intro a' _ h; cases h; exact ⟨fun p hp => (nomatch hp), rfl⟩
  | cons x xs ih =>
    intro a' hwf h
    obtain ⟨n, r⟩ := x
    simp only [mapRows] at h
    cases hfr : f r with
    | error e => rw [hfr] at h; cases hm : mapRows f xs <;> rw [hm] at h <;> cases h
    | ok r' =>
      cases hm : mapRows f xs with
      | error e => rw [hfr, hm] at h; cases h
      | ok rest =>
        rw [hfr, hm] at h
        cases h
        obtain ⟨i1, i2⟩ := ih rest (fun p hp => hwf p (mem_cons_of_mem _ hp)) hm
        obtain ⟨j1, j2⟩ := hf r r' (hwf (n, r) mem_cons_self) hfr
        refine ⟨fun p hp => ?_, ?_⟩
        · rcases mem_cons.mp hp with rfl | hp'
          · exact j1
          · exact i1 p hp'
        · simp only [showA, map_cons, mapDense] at i2 ⊢
          rw [j2, i2]

theorem mapDense_ok (g : List Char → List Char) : ∀ (d : AlnD),
    mapDense (fun s => Except.ok (g s)) d = .ok (d.map fun p => (p.1, g p.2))
  | [] => rfl
  | (n, s) :: xs => by simp only [mapDense, mapDense_ok g xs, map_cons]

theorem gapped_mapData (r : Row) (h : RowWF r) (f : Char → Char) (hf : f '-' = '-') :
    RowWF { r with data := r.data.map f } ∧ gapped { r with data := r.data.map f } = (gapped r).map f :=
  ⟨⟨h.1, by simpa using h.2⟩, by rw [gapped_eq_fill r h.1, gapped_eq_fill ⟨r.map, r.data.map f⟩ h.1]; exact fill_map f hf _ _⟩

theorem mem_takeSeqs {α} (a : List (String × α)) (ns : List String) (neg : Bool) :
    ∀ p ∈ takeSeqs a ns neg, ∃ q ∈ a, p.2 = q.2 := by
  intro p hp
  unfold takeSeqs at hp
  cases neg with
  | true => simp only [if_true] at hp; exact ⟨p, (mem_filter.mp hp).1, rfl⟩
  | false =>
    simp only [Bool.false_eq_true, if_false, mem_filterMap] at hp
    obtain ⟨n, _, hn⟩ := hp
    cases hf : find? (fun x => decide (x.1 = n)) a with
    | none => rw [hf] at hn; simp at hn
    | some q =>
      rw [hf] at hn
      simp only [Option.map_some, Option.some.injEq] at hn
      subst hn
      exact ⟨q, mem_of_find?_eq_some hf, rfl⟩

theorem find_show (a : AlnA) (name : String) :
    (showA a).find? (fun x => decide (x.1 = name)) = (a.find? (fun x => decide (x.1 = name))).map (fun p => (p.1, gapped p.2)) := by
  unfold showA
  rw [List.find?_map]
  rfl

theorem takeSeqs_show (a : AlnA) (names : List String) (negate : Bool) :
    showA (takeSeqs a names negate) = takeSeqs (showA a) names negate := by
  cases negate with
  | true => simp [showA, takeSeqs, List.filter_map, Function.comp_def]
  | false =>
    simp only [takeSeqs, Bool.false_eq_true, if_false]
    induction names with
    | nil => rfl
    | cons n ns ih =>
      simp only [List.filterMap_cons]
      rw [find_show]
      cases a.find? (fun x => decide (x.1 = n)) with
      | none => exact ih
      | some x => exact congrArg ((n, gapped x.2) :: ·) ih

/-- the operations for which the history theorem is proved -/
def OpOK : AOp → Prop
  | .slice _ _ | .int _ | .rc | .takeSeqs _ _ | .takePositions _ _ | .toRna | .toDna | .addSelf | .addCopy
  | .degap _ | .sample _ _ | .reparse | .filterMask _ => True
  | .keep locs => sortPairs locs = locs

theorem rowSample_spec (r : Row) (h : RowWF r) (ml : Int) : ∀ (locs : List Int) (s : List Char),
    rowSample r ml locs = .ok s → s = denseSample (gapped r) ml locs := by
  intro locs
  induction locs with
  | nil => intro s hs; simp only [rowSample] at hs; cases hs; rfl
  | cons loc rest ih =>
    intro s hs
    simp only [rowSample] at hs
    cases hx : rowSlice r (some (loc * ml)) (some ((loc + 1) * ml)) with
    | error e => rw [hx] at hs; cases hr : rowSample r ml rest <;> rw [hr] at hs <;> cases hs
    | ok x =>
      cases hr : rowSample r ml rest with
      | error e => rw [hx, hr] at hs; cases hs
      | ok tl =>
        rw [hx, hr] at hs
        cases hs
        simp only [denseSample, (rowSlice_spec r x h _ _ hx).2, ih tl hr]

theorem toRna_gap : toRna '-' = '-' := by decide
theorem toDna_gap : toDna '-' = '-' := by decide

/-- The simulation between the classes is functional: an annotatable alignment with well-formed rows (`AllWF`)
stands for the dense alignment it displays (`showA`).  `Refines x y`: the outcome `x` of the annotatable class is
matched by the outcome `y` of the dense class — when `x` is an alignment, its rows are well formed and `y` is the
alignment it displays, with the same moltype flag. -/
def Refines (x : Except Err (AlnA × Bool)) (y : Option (Except Err (AlnD × Bool))) : Prop :=
  ∀ a' dna', x = .ok (a', dna') → AllWF a' ∧ y = some (.ok (showA a', dna'))

namespace Refines

theorem error (e : Err) (y) : Refines (.error e) y := fun _ _ h => nomatch h

theorem ok {a : AlnA} (hwf : AllWF a) (dna : Bool) : Refines (.ok (a, dna)) (some (.ok (showA a, dna))) :=
  fun _ _ h => by cases h; exact ⟨hwf, rfl⟩

/-- matching outcomes still match after continuations that match on every well-formed alignment; the two
`match`es are the `cons` cases of the run functions of both classes -/
theorem seq {x y} {k : AlnA → Bool → Except Err (AlnA × Bool)}
    {k' : AlnD → Bool → Option (Except Err (AlnD × Bool))}
    (hxy : Refines x y) (hk : ∀ a dna, AllWF a → Refines (k a dna) (k' (showA a) dna)) :
    Refines (match (generalizing := false) x with | .ok (a', dna') => k a' dna' | .error e => .error e)
      (match (generalizing := false) y with
        | some (.ok (d', dna')) => k' d' dna' | some (.error e) => some (.error e) | none => none) := by
  intro a' dna' h
  cases x with
  | error e => cases h
  | ok res =>
    obtain ⟨w, rfl⟩ := hxy res.1 res.2 rfl
    exact hk _ _ w a' dna' h

/-- a row operation that refines a partial string operation, applied row by row -/
theorem rows_partial {f : Row → Except Err Row} {g : List Char → Except Err (List Char)}
    (hf : ∀ r r', RowWF r → f r = .ok r' → RowWF r' ∧ g (gapped r) = .ok (gapped r'))
    {a : AlnA} (hwf : AllWF a) (dna : Bool) :
    Refines ((mapRows f a).map (·, dna)) (some ((mapDense g (showA a)).map (·, dna))) := by
  intro a' dna' h
  cases hm : mapRows f a with
  | error e => rw [hm] at h; cases h
  | ok a'' =>
    rw [hm] at h; cases h
    obtain ⟨i1, i2⟩ := mapRows_partial f g hf a a' hwf hm
    exact ⟨i1, by rw [i2]; rfl⟩

/-- … a total string operation -/
theorem rows_total {f : Row → Except Err Row} {g : List Char → List Char}
    (hf : ∀ r r', RowWF r → f r = .ok r' → RowWF r' ∧ gapped r' = g (gapped r))
    {a : AlnA} (hwf : AllWF a) (dna : Bool) :
    Refines ((mapRows f a).map (·, dna)) (some (.ok ((showA a).map (fun p => (p.1, g p.2)), dna))) := by
  have := rows_partial (g := fun s => .ok (g s))
    (fun r r' hr hh => (hf r r' hr hh).imp_right fun e => congrArg Except.ok e.symm) hwf dna
  rwa [mapDense_ok] at this

/-- … that cannot fail -/
theorem rows_map (f : Row → Row) (g : List Char → List Char)
    (hf : ∀ r, RowWF r → RowWF (f r) ∧ gapped (f r) = g (gapped r)) {a : AlnA} (hwf : AllWF a) (dna : Bool) :
    Refines (.ok (a.map fun p => (p.1, f p.2), dna)) (some (.ok ((showA a).map (fun p => (p.1, g p.2)), dna))) := by
  intro a' dna' h
  cases h
  refine ⟨fun p hp => ?_, ?_⟩
  · obtain ⟨q, hq, rfl⟩ := mem_map.mp hp
    exact (hf q.2 (hwf q hq)).1
  · simp only [showA, map_map]
    congr 3
    exact map_congr_left fun q hq => congrArg (q.1, ·) (hf q.2 (hwf q hq)).2.symm

/-- … that rebuilds every row from a string computed from it -/
theorem rows_reparse (w : Row → List Char) (g : List Char → List Char) (hw : ∀ r, RowWF r → w r = g (gapped r))
    {a : AlnA} (hwf : AllWF a) (dna : Bool) :
    Refines (.ok (a.map fun p => (p.1, rowOfString (w p.2)), dna))
      (some (.ok ((showA a).map (fun p => (p.1, g p.2)), dna))) :=
  rows_map (fun r => rowOfString (w r)) g (fun r hr => ⟨rowWF_ofString _, by rw [gapped_rowOfString, hw r hr]⟩) hwf dna

end Refines

/-- **one step refines**: on well-formed rows, an operation of the annotatable class that succeeds
shows exactly what the same operation gives on the gapped strings, and keeps rows well formed -/
theorem step_refines (dna : Bool) (a : AlnA) (op : AOp) (hop : OpOK op) (hwf : AllWF a) :
    Refines (stepA dna a op) (stepD dna (showA a) op) := by
  cases op with
  | slice x y => exact .rows_total (g := fun s => PySlice.slice s x y 1) (fun r r' hr hh => rowSlice_spec r r' hr x y hh) hwf dna
  | int i =>
    exact .rows_partial (g := fun s => denseTake s [i]) (fun r r' hr hh => by
      obtain ⟨w, c, c1, c2⟩ := rowInt_spec r r' hr i hh
      exact ⟨w, by rw [denseTake_cons, c1, c2]; rfl⟩) hwf dna
  | rc => exact .rows_total (g := fun s => s.reverse.map (comp dna)) (fun r r' hr hh => rowRc_spec dna r r' hr hh) hwf dna
  | keep locs => exact .rows_total (g := fun s => denseKeep s locs) (fun r r' hr hh => rowKeep_spec r r' hr locs hop hh) hwf dna
  | takeSeqs ns neg =>
    have := Refines.ok (a := takeSeqs a ns neg) (fun p hp => by
      obtain ⟨q, hq, hpq⟩ := mem_takeSeqs a ns neg p hp
      rw [hpq]; exact hwf q hq) dna
    rwa [takeSeqs_show] at this
  | takePositions cols neg =>
    cases neg with
    | false => exact .rows_partial (fun r r' hr hh => rowTakePositions_spec r r' hr cols hh) hwf dna
    | true =>
      exact .rows_partial (g := fun s => .ok (denseTakeNeg s cols)) (fun r r' hr hh =>
        (rowTakePositionsNeg_spec r r' hr cols hh).imp_right fun e => congrArg Except.ok e.symm) hwf dna
  | toRna => exact .rows_map (fun r => { r with data := r.data.map toRna }) _ (fun r hr => gapped_mapData r hr toRna toRna_gap) hwf _
  | toDna => exact .rows_map (fun r => { r with data := r.data.map toDna }) _ (fun r hr => gapped_mapData r hr toDna toDna_gap) hwf _
  | reparse =>
    have := Refines.rows_reparse gapped id (fun _ _ => rfl) hwf dna
    rwa [show (showA a).map (fun p => (p.1, id p.2)) = showA a from map_id' _] at this
  | addSelf => exact .rows_reparse (fun r => gapped r ++ gapped r) (fun s => s ++ s) (fun _ _ => rfl) hwf dna
  | addCopy =>
    exact .rows_reparse (fun r => gapped r ++ gapped (rowOfString (gapped r))) (fun s => s ++ s)
      (fun _ _ => by rw [gapped_rowOfString]) hwf dna
  | filterMask mask =>
    simp only [stepA, stepD]
    cases hl : maskRuns 0 none mask with
    | nil => exact .error _ _
    | cons c rest =>
      have hsorted : sortPairs (c :: rest) = c :: rest := by
        rw [← hl]
        exact sortPairs_sorted _ (maskRuns_keys mask 0 none (fun st hh => nomatch hh)).1
      have hall : ¬ mask.all (! ·) = true := fun hb => by
        rw [(maskRuns_eq_nil_iff mask 0 none).mpr ⟨rfl, hb⟩] at hl; cases hl
      rw [if_neg hall]
      simp only [← denseKeep_maskRuns, hl]
      exact .rows_total (g := fun s => denseKeep s (c :: rest)) (fun r r' hr hh => rowKeep_spec r r' hr _ hsorted hh) hwf dna
  | degap name =>
    simp only [stepA, stepD, find_show]
    cases hf : a.find? (fun x => decide (x.1 = name)) with
    | none => exact .error _ _
    | some p => exact .rows_partial (fun r r' hr hh => rowTakePositions_spec r r' hr _ hh) hwf dna
  | sample locs ml =>
    exact .rows_total (g := fun s => denseSample s ml locs) (fun r r' hr hh => by
      cases hs : rowSample r ml locs with
      | error e => rw [hs] at hh; cases hh
      | ok s =>
        rw [hs] at hh
        cases hh
        exact ⟨rowWF_ofString s, by rw [gapped_rowOfString]; exact rowSample_spec r hr ml locs s hs⟩) hwf dna

/-- **history theorem**: any finite sequence of the covered operations -/
theorem run_refines (ops : List AOp) : ∀ (dna : Bool) (a : AlnA), (∀ op ∈ ops, OpOK op) → AllWF a →
    Refines (runA dna a ops) (runD dna (showA a) ops) := by
  induction ops with
  | nil => exact fun dna a _ hwf => .ok hwf dna
  | cons op ops ih =>
    exact fun dna a hok hwf => (step_refines dna a op (hok op mem_cons_self) hwf).seq
      fun a1 d1 w1 => ih d1 a1 (fun o ho => hok o (mem_cons_of_mem _ ho)) w1

end CogentModel.Aln
