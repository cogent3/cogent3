import CogentModel.Proofs.ViewSem
import CogentModel.Proofs.LatticeSlice
/-! Direction lemma: positive slice step on a forward view (`fwdFromFwd`). -/
namespace CogentModel.View
open CogentModel CogentModel.PySlice

theorem fwdFromFwd_eq (fl : Flavour) (v : View) (ss se c S E0 : Int)
    (hS : S = if ss ≥ 0 then v.start + ss * v.step else max (v.start + len v * v.step + ss * v.step) v.start)
    (hE0 : E0 = if se > v.stop then v.stop else if se ≥ 0 then v.start + se * v.step
                else v.start + len v * v.step + se * v.step) :
    fwdFromFwd fl v ss se c =
      if S < 0 ∨ E0 < 0 then .ok (zero fl v)
      else if E0 < S then .ok (zero fl v)
      else if S > v.seqLen then .ok (zero fl v)
      else remk v S (min v.stop E0) (v.step * c) := by
  subst hS hE0; rfl

theorem fwdFromFwd_elems (fl : Flavour) (v w : View) (ss se c : Int) (h : Inv v) (hk : 0 < v.step)
    (hc : 0 < c) (hw : fwdFromFwd fl v ss se c = .ok w) :
    elems w = (rangeList (clampP ss (len v)) (clampP se (len v)) c).map fun j => first v + j * v.step := by
  have hN := h.1
  obtain ⟨_, i0, i1, i2⟩ := h.2.resolve_right fun hr => absurd hr.1 (by omega)
  have hn := len_nonneg v
  rw [first, if_pos hk, ← lattice_sliceP v.start v.step (len v) v.stop c ss se hk hc hn (len_isCeil_fwd v hk i1)]
  -- the code's start is the position of the wrapped index, clipped below
  have hS : v.start + max (wrapIdx ss (len v)) 0 * v.step =
      if ss ≥ 0 then v.start + ss * v.step else max (v.start + len v * v.step + ss * v.step) v.start := by
    unfold wrapIdx
    split
    · rw [Int.max_eq_left ‹_›]
    · rw [Int.add_assoc, ← Int.add_mul, max_pos _ _ _ hk]
  have hS0 : 0 ≤ v.start + max (wrapIdx ss (len v)) 0 * v.step :=
    Int.add_nonneg i0 (Int.mul_nonneg (Int.le_max_right ..) (Int.le_of_lt hk))
  rw [fwdFromFwd_eq fl v ss se c _ _ hS rfl, pos_wrapIdx] at hw
  -- a slice stop beyond `v.stop` is at a position beyond it as well, so the first test changes nothing
  have hT : min v.stop (if se > v.stop then v.stop else v.start + wrapIdx se (len v) * v.step) =
      min v.stop (v.start + wrapIdx se (len v) * v.step) := by
    split
    · have : se ≤ se * v.step := le_mul_pos _ _ (by omega) hk
      rw [wrapIdx, if_pos (by omega)]; omega
    · rfl
  rw [← hT]
  generalize v.start + max (wrapIdx ss (len v)) 0 * v.step = S at *
  generalize (if se > v.stop then v.stop else v.start + wrapIdx se (len v) * v.step) = E0 at *
  clear hT hS
  simp only [ite_ite_same] at hw
  split at hw
  · rw [← Except.ok.inj hw, rangeList_nil_pos _ _ _ (Int.mul_pos hk hc) (by omega)]
    exact elems_nil_of_len _ (len_zero fl v)
  · exact remk_pos_elems v w S _ _ h (Int.mul_pos hk hc) (by omega) (by omega) (by omega) hw

end CogentModel.View
