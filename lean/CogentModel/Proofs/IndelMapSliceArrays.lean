import CogentModel.Proofs.IndelMapDropTake
/-! The index computation of `__getitem__` (`searchsorted`, the `start` and `stop` case analyses, `take` / `drop` on the
arrays) is `dropT` then `takeT` on the triples (`core_spec`). -/
namespace CogentModel.IndelMap
open CogentModel.Gapped List

/-- list-level form of the `stop` case analysis of `__getitem__` -/
def endPhase (starts ends L : List Int) (stop : Int) (r : Nat) : Nat × List Int :=
  if r = ends.length then (r, L)
  else if getN starts r < stop ∧ stop ≤ getN ends r then (r + 1, L.set r (getN L r - (getN ends r - stop)))
  else (r, L)

theorem sliceEnd_eq (m : IMap) (stop : Int) (r : Nat) (starts ends L : List Int)
    (h : numGaps m = ends.length) : sliceEnd m stop r starts ends L = endPhase starts ends L stop r := by
  unfold sliceEnd endPhase; rw [h]

theorem endPhase_cons_succ (sd e x : Int) (S E L : List Int) (stop : Int) (r : Nat) :
    endPhase (sd :: S) (e :: E) (x :: L) stop (r + 1) = ((endPhase S E L stop r).1 + 1, x :: (endPhase S E L stop r).2) := by
  unfold endPhase
  simp only [length_cons, Nat.add_right_cancel_iff, getN_cons_succ, set_cons_succ]
  split
  · rfl
  · split <;> rfl

/-- the `starts` list agrees with the triples as far as `< stop` tests can see -/
def StartsOK (stop : Int) : List Int → List Trip → Prop
  | sd :: S, t :: T => (sd < stop ↔ t.2.1 < stop) ∧ StartsOK stop S T
  | [], [] => True
  | _, _ => False

theorem startsOK_refl (stop : Int) (T : List Trip) : StartsOK stop (T.map (·.2.1)) T := by
  induction T with
  | nil => trivial
  | cons t r ih => exact ⟨Iff.rfl, ih⟩

/-- the stop phase on whole lists equals `takeT` (the `starts` list may show the untrimmed start
of the first gap: only `< stop` tests are made on it) -/
theorem sp_spec (stop : Int) (T : List Trip) : ∀ (S : List Int), StartsOK stop S T →
    ((T.map (·.1)).take (endPhase S (T.map (·.2.2)) (T.map tlen) stop (ssRight (T.map (·.2.2)) stop)).1,
      (endPhase S (T.map (·.2.2)) (T.map tlen) stop (ssRight (T.map (·.2.2)) stop)).2.take
        (endPhase S (T.map (·.2.2)) (T.map tlen) stop (ssRight (T.map (·.2.2)) stop)).1)
      = ((takeT stop T).map (·.1), (takeT stop T).map tlen) := by
  induction T with
  | nil =>
    intro S hS
    cases S with
    | cons _ _ => exact hS.elim
    | nil => rfl
  | cons t r ih =>
    intro S hS
    obtain ⟨p, s, e⟩ := t
    cases S with
    | nil => exact hS.elim
    | cons sd S' =>
      obtain ⟨hd, htl⟩ := hS
      obtain ⟨i1, i2⟩ := Prod.mk.inj (ih S' htl)
      simp only [map_cons, ssRight, takeT]
      by_cases c1 : e ≤ stop
      · rw [if_pos c1, if_pos c1, endPhase_cons_succ, take_succ_cons, take_succ_cons, i1, i2, map_cons, map_cons]
      · rw [if_neg c1, if_neg c1]
        have hd' : sd < stop ↔ s < stop := hd
        unfold endPhase
        simp only [length_cons, getN_cons_zero, (Nat.succ_ne_zero _).symm, if_false, set_cons_zero]
        by_cases c2 : s < stop
        · rw [if_pos (show sd < stop ∧ stop ≤ e from ⟨hd'.mpr c2, by omega⟩), if_pos c2]
          simp only [take_succ_cons, take_zero, map_cons, map_nil, tlen]
          congr 2; omega
        · rw [if_neg (fun h => c2 (hd'.mp h.1)), if_neg c2]; rfl

/-- list-level form of the `start` case analysis of `__getitem__`; `H` is the first gap position -/
def beginPhase (H : Int) (starts ends L : List Int) (start : Int) (l : Nat) : Nat × List Int :=
  if start < H then (0, L)
  else if getN starts l ≤ start ∧ start < getN ends l then (l, L.set l (getN L l - (start - getN starts l)))
  else if start = getN ends l then (l + 1, L) else (l, L)

theorem sliceBegin_eq (m : IMap) (start : Int) (l : Nat) (starts ends L : List Int) :
    (sliceBegin m start l starts ends L).1 = (beginPhase (m.gapPos.headD 0) starts ends L start l).1 ∧
    (sliceBegin m start l starts ends L).2.2 = (beginPhase (m.gapPos.headD 0) starts ends L start l).2 := by
  simp only [sliceBegin, beginPhase, apply_ite Prod.fst, apply_ite Prod.snd, and_self]

/-- a gap that ends before `start` is skipped by the start phase: every index moves on by one -/
theorem beginPhase_cons_succ (H sd e x : Int) (S E L : List Int) (start : Int) (l : Nat) (h : ¬ start < H) :
    beginPhase H (sd :: S) (e :: E) (x :: L) start (l + 1) = ((beginPhase H S E L start l).1 + 1, x :: (beginPhase H S E L start l).2) := by
  unfold beginPhase
  simp only [getN_cons_succ, if_neg h, set_cons_succ]
  split
  · rfl
  · split <;> rfl

/-- the start phase when `searchsorted` gives 0: the first gap is kept whole, trimmed, or (when
`start` is its end) dropped -/
theorem beginPhase_zero_of_lt (H sd e : Int) (S E L : List Int) (start : Int) (h : start < sd) (he : sd < e) :
    beginPhase H (sd :: S) (e :: E) L start 0 = (0, L) := by
  unfold beginPhase
  simp only [getN_cons_zero]
  rw [if_neg (show ¬ (sd ≤ start ∧ start < e) by omega), if_neg (show ¬ start = e by omega), ite_self]

theorem beginPhase_zero_of_mem (H sd e x : Int) (S E L : List Int) (start : Int) (hH : H ≤ sd) (h1 : sd ≤ start)
    (h2 : start < e) : beginPhase H (sd :: S) (e :: E) (x :: L) start 0 = (0, (x - (start - sd)) :: L) := by
  unfold beginPhase
  simp only [getN_cons_zero, set_cons_zero]
  rw [if_neg (show ¬ start < H by omega), if_pos ⟨h1, h2⟩]

theorem beginPhase_zero_of_eq (H sd : Int) (S E L : List Int) (start : Int) (hH : H ≤ sd) (h : sd < start) :
    beginPhase H (sd :: S) (start :: E) L start 0 = (1, L) := by
  unfold beginPhase
  simp only [getN_cons_zero, show ¬ start < H by omega, show ¬ (sd ≤ start ∧ start < start) by omega, if_false,
    if_true]

/-- the index computation of `__getitem__` on plain lists (gap starts, ends, positions, lengths):
start phase, stop phase, `take`/`drop` -/
def sliceArrays (H : Int) (S E P L : List Int) (start stop : Int) : List Int × List Int :=
  let l := ssLeft E start
  let b := beginPhase H S E L start l
  let e := endPhase S E b.2 stop (ssRight (E.drop l) stop + l)
  ((P.take e.1).drop b.1, (e.2.take e.1).drop b.1)

theorem sliceArrays_cons_of_lt {H sd e p x start : Int} (S E P L : List Int) (stop : Int) (h : e < start)
    (hH : ¬ start < H) :
    sliceArrays H (sd :: S) (e :: E) (p :: P) (x :: L) start stop = sliceArrays H S E P L start stop := by
  unfold sliceArrays
  simp only [ssLeft, if_pos h, drop_succ_cons, beginPhase_cons_succ _ _ _ _ _ _ _ _ _ hH, ← Nat.add_assoc, endPhase_cons_succ,
    take_succ_cons]

/-- the whole index computation of `__getitem__` equals dropping then taking on the triples -/
theorem core_spec (start stop : Int) (hlt : start < stop) (T : List Trip) : ∀ (lo : Int), TSorted lo T →
    sliceArrays lo (T.map (·.2.1)) (T.map (·.2.2)) (T.map (·.1)) (T.map tlen) start stop
      = ((takeT stop (dropT start T)).map (·.1), (takeT stop (dropT start T)).map tlen) := by
  induction T with
  | nil => intro lo _; simp [sliceArrays, ssLeft, ssRight, endPhase, beginPhase, dropT, takeT]
  | cons t r ih =>
    intro lo hs
    obtain ⟨p, s, e⟩ := t
    have ⟨h1, h2, h3⟩ := hs
    by_cases c1 : e < start
    · simp only [map_cons, dropT]
      rw [sliceArrays_cons_of_lt _ _ _ _ _ c1 (by omega), if_pos (by omega)]
      exact ih lo (tsorted_mono _ _ _ (by omega) h3)
    · -- `start ≤ e`: the first gap is the first relevant one
      unfold sliceArrays
      simp only [map_cons, ssLeft, if_neg c1, drop_zero, Nat.add_zero]
      by_cases c2 : start < s
      · rw [beginPhase_zero_of_lt _ _ _ _ _ _ _ c2 h2, dropT_of_lt ((p, s, e) :: r) start ⟨by omega, h2, h3⟩]
        have := sp_spec stop ((p, s, e) :: r) _ (startsOK_refl stop ((p, s, e) :: r))
        simp only [map_cons] at this
        exact this
      · by_cases c3 : start < e
        · have hd : dropT start ((p, s, e) :: r) = (p, start, e) :: r := by
            simp only [dropT]; rw [if_neg (by omega), if_pos (by omega)]
          rw [beginPhase_zero_of_mem lo s e (tlen (p, s, e)) _ _ _ start h1 (by omega) c3, hd,
            show tlen (p, s, e) - (start - s) = tlen (p, start, e) by simp only [tlen]; omega]
          have := sp_spec stop ((p, start, e) :: r) (s :: map (·.2.1) r)
            ⟨show s < stop ↔ start < stop by omega, startsOK_refl stop r⟩
          simp only [map_cons] at this
          exact this
        · obtain rfl : start = e := by omega
          have hd : dropT start ((p, s, start) :: r) = r := by
            simp only [dropT]; rw [if_pos (Int.le_refl _)]
            exact dropT_of_lt r start h3
          have := sp_spec stop ((p, s, start) :: r) _ (startsOK_refl stop ((p, s, start) :: r))
          simp only [map_cons, takeT, if_pos (show start ≤ stop by omega)] at this
          obtain ⟨j1, j2⟩ := Prod.mk.inj this
          rw [beginPhase_zero_of_eq _ _ _ _ _ _ h1 h2, hd]
          simp only []
          rw [j1, j2]
          rfl

end CogentModel.IndelMap
