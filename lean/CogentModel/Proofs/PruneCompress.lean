import Mathlib.Algebra.BigOperators.Group.List.Basic
import Mathlib.Algebra.BigOperators.Ring.List
import CogentModel.Proofs.Prune
/-!
Column compression (`_indexed`), the weighted log-sum, the bin mixture.

`indexed` runs its loop from the left; every fact about its result is proved by induction from the
right, through `indexed_concat`: one more value is one more `indexedStep`.

`ix.map (tbl[·]?) = xs.map some` says that the table `tbl`, read through the index array `ix`, is the list `xs`; it is
what `_indexed` guarantees of its result (`indexed_lookup`) and, node by node, what the compressed likelihood tree
guarantees of its tables (`cplh_lookup`).
-/
namespace CogentModel.Prune

/-- every index that finds a value is a position of the list -/
theorem lt_of_map_getElem?_eq {κ : Type} {l ds : List κ} {is : List Nat} (h : is.map (l[·]?) = ds.map some)
    (i : Nat) (hi : i ∈ is) : i < l.length := by
  have : l[i]? ∈ ds.map some := h ▸ List.mem_map_of_mem hi
  obtain ⟨d, -, hd⟩ := List.mem_map.mp this
  exact (List.getElem?_eq_some_iff.mp hd.symm).1

section lookup
variable {κ : Type}

/-- the reading of one position -/
theorem getElem?_getD_of_lookup {tbl xs : List κ} {ix : List Nat} (h : ix.map (tbl[·]?) = xs.map some)
    (j : Nat) (hj : j < xs.length) : tbl[ix.getD j 0]? = some xs[j] := by
  have h := congrArg (·[j]?) h
  simp only [List.getElem?_map, List.getElem?_eq_getElem hj, Option.map_some] at h
  obtain ⟨i, hi, hf⟩ := Option.map_eq_some_iff.mp h
  rw [List.getD_eq_getElem?_getD, hi]
  exact hf

/-- `values[index]` with a default that is never reached (`likelihoods[self.index]`) -/
theorem map_getD_of_lookup {S : Type} {tbl xs : List κ} {ix : List Nat} (h : ix.map (tbl[·]?) = xs.map some)
    (f : κ → S) (d : S) : (ix.map fun i => (tbl.map f).getD i d) = xs.map f := by
  have h := congrArg (List.map fun o => (o.map f).getD d) h
  simpa [List.getD_eq_getElem?_getD, Function.comp_def] using h

theorem lookup_map {S : Type} {tbl xs : List κ} {ix : List Nat} (h : ix.map (tbl[·]?) = xs.map some)
    (f : κ → S) : ix.map ((tbl.map f)[·]?) = (xs.map f).map some := by
  have h := congrArg (List.map (Option.map f)) h
  simpa [Function.comp_def] using h

/-- rows appended to the table are not seen -/
theorem lookup_append {tbl xs : List κ} {ix : List Nat} (h : ix.map (tbl[·]?) = xs.map some) (e : List κ) :
    ix.map ((tbl ++ e)[·]?) = xs.map some :=
  h ▸ List.map_congr_left fun i hi => List.getElem?_append_left (lt_of_map_getElem?_eq h i hi)

/-- a sequence as a function of the column number -/
theorem map_getD_range {S : Type} (l : List κ) (d : κ) (f : κ → S) :
    (List.range l.length).map (fun j => f (l.getD j d)) = l.map f := by
  refine List.ext_getElem (by simp) fun i _ h => ?_
  rw [List.length_map] at h
  simp [h]

end lookup

section indexed
variable {κ : Type} [DecidableEq κ]

theorem indexedGo_append : ∀ (vs ws : List κ) (st : Indexed κ),
    indexedGo (vs ++ ws) st = indexedGo ws (indexedGo vs st)
  | [], _, _ => rfl
  | v :: vs, ws, st => indexedGo_append vs ws (indexedStep st v)

theorem indexed_concat (vs : List κ) (k : κ) : indexed (vs ++ [k]) = indexedStep (indexed vs) k :=
  indexedGo_append vs [k] _

theorem indexedStep_old {st : Indexed κ} {key : κ} (h : st.uniq.idxOf key < st.uniq.length) :
    indexedStep st key = { uniq := st.uniq, counts := bumpAt st.counts (st.uniq.idxOf key),
                           index := st.index ++ [st.uniq.idxOf key] } :=
  if_pos h

theorem indexedStep_new {st : Indexed κ} {key : κ} (h : ¬ st.uniq.idxOf key < st.uniq.length) :
    indexedStep st key = { uniq := st.uniq ++ [key], counts := st.counts ++ [1],
                           index := st.index ++ [st.uniq.length] } :=
  if_neg h

theorem bumpAt_length : ∀ (c : List Nat) (i : Nat), (bumpAt c i).length = c.length
  | [], _ => rfl
  | _ :: _, 0 => rfl
  | _ :: cs, i + 1 => congrArg (· + 1) (bumpAt_length cs i)

theorem indexed_len (vs : List κ) : (indexed vs).uniq.length = (indexed vs).counts.length := by
  induction vs using List.reverseRecOn with
  | nil => rfl
  | append_singleton vs k ih =>
    by_cases hi : (indexed vs).uniq.idxOf k < (indexed vs).uniq.length
    · rw [indexed_concat, indexedStep_old hi]
      exact ih.trans (bumpAt_length _ _).symm
    · rw [indexed_concat, indexedStep_new hi]
      simp only [List.length_append, List.length_singleton, ih]

/-- every value is found again through `index`: `uniq[index[j]] = values[j]` -/
theorem indexed_lookup (vs : List κ) :
    (indexed vs).index.map ((indexed vs).uniq[·]?) = vs.map some := by
  induction vs using List.reverseRecOn with
  | nil => rfl
  | append_singleton vs k ih =>
    by_cases hi : (indexed vs).uniq.idxOf k < (indexed vs).uniq.length
    · rw [indexed_concat, indexedStep_old hi]
      simp only [List.map_append, ih, List.map_cons, List.map_nil, List.getElem?_eq_getElem hi,
        List.getElem_idxOf hi]
    · rw [indexed_concat, indexedStep_new hi]
      simp only [List.map_append, List.map_cons, List.map_nil, List.getElem?_concat_length, lookup_append ih]

theorem indexed_index_lt (vs : List κ) : ∀ i ∈ (indexed vs).index, i < (indexed vs).uniq.length :=
  lt_of_map_getElem?_eq (indexed_lookup vs)

theorem indexed_index_length (vs : List κ) : (indexed vs).index.length = vs.length := by
  simpa using congrArg List.length (indexed_lookup vs)

end indexed

section compress
variable {κ S : Type} [AddCommMonoid S]

theorem nsmulR_eq (k : Nat) (x : S) : nsmulR k x = k • x := by
  induction k with
  | zero => simp [nsmulR]
  | succ n ih => rw [nsmulR, ih, succ_nsmul]

theorem weightedLogSum_cons (g : κ → S) (u : κ) (us : List κ) (c : Nat) (cs : List Nat) :
    weightedLogSum g (u :: us) (c :: cs) = c • g u + weightedLogSum g us cs :=
  congrArg (· + _) (nsmulR_eq c (g u))

/-- one more unique column with count `n` -/
theorem wls_append (g : κ → S) (k : κ) (n : Nat) (u : List κ) (c : List Nat) (h : u.length = c.length) :
    weightedLogSum g (u ++ [k]) (c ++ [n]) = weightedLogSum g u c + n • g k := by
  induction u generalizing c with
  | nil =>
    cases c with
    | nil => exact (weightedLogSum_cons g k [] n []).trans (add_comm _ _)
    | cons _ _ => cases h
  | cons x us ih =>
    cases c with
    | nil => cases h
    | cons y cs =>
      rw [List.cons_append, List.cons_append, weightedLogSum_cons, weightedLogSum_cons,
        ih cs (Nat.succ.inj h), add_assoc]

/-- one more occurrence of a column already seen -/
theorem wls_bump [DecidableEq κ] (g : κ → S) (key : κ) (u : List κ) (c : List Nat) (h : u.length = c.length)
    (hi : u.idxOf key < u.length) :
    weightedLogSum g u (bumpAt c (u.idxOf key)) = weightedLogSum g u c + g key := by
  induction u generalizing c with
  | nil => cases hi
  | cons x us ih =>
    cases c with
    | nil => cases h
    | cons y cs =>
      by_cases hx : x = key
      · subst hx
        rw [List.idxOf_cons_self, bumpAt, weightedLogSum_cons, weightedLogSum_cons, succ_nsmul, add_right_comm]
      · rw [List.idxOf_cons_ne _ hx] at hi ⊢
        rw [bumpAt, weightedLogSum_cons, weightedLogSum_cons,
          ih cs (Nat.succ.inj h) (Nat.lt_of_succ_lt_succ hi), add_assoc]

end compress

section bins
variable {R : Type} [CommSemiring R] {α : Type}

theorem weightedSum_eq : ∀ (bs ls : List R),
    weightedSum bs ls = ((List.zip bs ls).map fun p => p.1 * p.2).sum
  | [], _ => by simp [weightedSum]
  | _ :: _, [] => by simp [weightedSum]
  | b :: bs, l :: ls => by
    simp only [weightedSum, List.zip_cons_cons, List.map_cons, List.sum_cons]
    rw [weightedSum_eq bs ls, mul_comm]

end bins
end CogentModel.Prune
