import CogentModel.Proofs.ViewCoords
import CogentModel.Proofs.SeqCoords
/-!
  C04: unit stride is preserved by every slice with step `None`/`1`/`-1`, by integer indexing and by
  `rc()`, so the per-view theorems of `Props/C04.lean` (stated for `UnitView`) apply after ANY such
  history.  `OkAll P` is the predicate the `_leaves` lemmas of `Proofs/ViewShape.lean` are used at here.
-/
namespace CogentModel.View

/-- every successful result has unit stride -/
abbrev StepU : Except Err View → Prop := OkAll fun w => w.step = 1 ∨ w.step = -1

theorem stepU_remk (v : View) (a b k : Int) (hk : k = 1 ∨ k = -1) :
    StepU (remk v a b k) :=
  fun w hw => (remk_keepsStep v w a b k hw).elim (fun h => hk.imp h.trans h.trans) fun h => .inl (congrArg (·.2.2) h)

theorem unit_mul {a b : Int} (ha : a = 1 ∨ a = -1) (hb : b = 1 ∨ b = -1) : a * b = 1 ∨ a * b = -1 := by
  rcases ha with rfl | rfl <;> rcases hb with rfl | rfl <;> simp

/-- a slice step that keeps unit stride: `None`, `1` or `-1` -/
def unitStep (c : Option Int) : Prop := c = none ∨ c = some 1 ∨ c = some (-1)

instance (c : Option Int) : Decidable (unitStep c) := by unfold unitStep; infer_instance

/-- every result of `v[a:b:c]` is `v` itself, the `_zero_slice`, or `v` re-made with step `v.step` (the copy) or
`v.step * c` -/
theorem getitemSlice_stepU (fl : Flavour) (v : View) (hu : v.step = 1 ∨ v.step = -1) (a b c : Option Int)
    (hc : unitStep c) : StepU (getitemSlice fl v a b c) := by
  have hk : c.getD 1 = 1 ∨ c.getD 1 = -1 := by
    rcases hc with rfl | rfl | rfl <;> simp
  exact getitemSlice_leaves (P := StepU) fl v a b c (fun _ => okAll_ok hu) (fun _ => stepU_remk v _ _ _ hu)
    (okAll_ok (by cases fl <;> exact .inl rfl)) (fun s e => stepU_remk v s e _ (unit_mul hu hk)) fun _ => okAll_err

/-- every result of `v[i]` is `v` re-made with step `1` or `-1` -/
theorem getitemInt_stepU (v : View) (i : Int) : StepU (getitemInt v i) := by
  rcases getitemInt_cases v i with h | ⟨a, b, h⟩ <;> rw [h]
  · exact okAll_err
  · exact stepU_remk v a b _ (iteInduction (motive := fun k => k = 1 ∨ k = -1) (fun _ => .inl rfl) fun _ => .inr rfl)

theorem len_zero_of_seqLen_zero (v : View) (h : Inv v) (h0 : v.seqLen = 0) : len v = 0 := by
  apply len_eq_zero_of_eq
  rcases h.2 with hf | hr <;> omega

end CogentModel.View

namespace CogentModel.SeqWrap
open CogentModel.View CogentModel.FeatureView

/-- an op of a unit-stride history: slices with step `None`/`1`/`-1`, integer indexing, `rc` on nucleic acids -/
def SOp.unit (nucleic : Bool) : SOp → Prop
  | .slice _ _ c => unitStep c
  | .index _ => True
  | .rc => nucleic = true

instance (n : Bool) (op : SOp) : Decidable (op.unit n) := by cases op <;> unfold SOp.unit <;> infer_instance

theorem SOp.unit_ok {n : Bool} {op : SOp} (h : op.unit n) : op.ok n := by
  cases op with
  | slice a b c =>
    simp only [SOp.unit, unitStep] at h
    simp only [SOp.ok]
    rcases h with rfl | rfl | rfl <;> simp
  | index i => trivial
  | rc => exact h

theorem runOps_induction {I : Seq → Prop} (ops : List SOp)
    (hstep : ∀ t t' op, op ∈ ops → I t → step1 t op = .ok t' → I t') (s s' : Seq) (hs : I s)
    (h : runOps s ops = .ok s') : I s' := by
  induction ops generalizing s with
  | nil => exact Except.ok.inj h ▸ hs
  | cons op ops ih =>
    unfold runOps at h
    cases hu : step1 s op with
    | error e => rw [hu] at h; cases h
    | ok u =>
      rw [hu] at h
      exact ih (fun t t' o ho => hstep t t' o (List.mem_cons_of_mem _ ho)) u
        (hstep s u op List.mem_cons_self hs hu) h

theorem getitem_unit (s s' : Seq) (a b c : Option Int) (hw : WF s) (hu : UnitView s.v) (hc : unitStep c)
    (h : getitem s a b c = .ok s') : WF s' ∧ UnitView s'.v ∧ s'.nucleic = s.nucleic := by
  obtain ⟨h1, h2⟩ := wf_getitem s s' a b c hw h
  obtain ⟨w, hg, rfl⟩ := getitem_inv_ok s s' a b c h
  exact ⟨h1, ⟨h1.1, getitemSlice_stepU .seqView s.v hu.2 a b c hc w hg⟩, h2⟩

theorem step1_unit (s s' : Seq) (op : SOp) (hw : WF s) (hu : UnitView s.v) (hop : op.unit s.nucleic)
    (h : step1 s op = .ok s') : WF s' ∧ UnitView s'.v ∧ s'.nucleic = s.nucleic := by
  cases op with
  | slice a b c => exact getitem_unit s s' a b c hw hu hop h
  | index i =>
    obtain ⟨h1, h2⟩ := wf_getitemI s s' i hw h
    obtain ⟨w, hg, rfl⟩ := getitemI_inv_ok s s' i h
    exact ⟨h1, ⟨h1.1, getitemInt_stepU s.v i w hg⟩, h2⟩
  | rc => exact getitem_unit s s' none none (some (-1)) hw hu (.inr (.inr rfl)) h

/-- what every view reached from a sequence with parent string `t` at annotation offset `o` satisfies: it still reads
`t` at `o` -- or the parent is gone (`_zero_slice`), and then every later view is empty -/
def KeepsParent (t : List Char) (o : Int) (s : Seq) : Prop := (s.parent = t ∧ s.v.offset = o) ∨ s.v.seqLen = 0

theorem step1_keepsParent (t : List Char) (o : Int) (s s' : Seq) (op : SOp) (hs : KeepsParent t o s)
    (h : step1 s op = .ok s') : KeepsParent t o s' := by
  obtain ⟨w, rfl, hw⟩ := SeqCoords.step1_view s s' op h
  rcases hw with ⟨h1, h2⟩ | rfl
  · exact hs.imp (fun ⟨p, q⟩ => ⟨(if_pos h1).trans p, h2.trans q⟩) h1.trans
  · exact .inr rfl

/-- a non-empty view reached by a history still reads the ORIGINAL parent string at the ORIGINAL offset -/
theorem runOps_parent (ops : List SOp) (s s' : Seq) (hw' : WF s') (h : runOps s ops = .ok s')
    (hl : 0 < len s'.v) : s'.parent = s.parent ∧ s'.v.offset = s.v.offset := by
  rcases runOps_induction (I := KeepsParent s.parent s.v.offset) ops
    (fun t t' op _ ht => step1_keepsParent _ _ t t' op ht) s s' (.inl ⟨rfl, rfl⟩) h with k | z
  · exact k
  · have := len_zero_of_seqLen_zero s'.v hw'.1 z
    omega

end CogentModel.SeqWrap
