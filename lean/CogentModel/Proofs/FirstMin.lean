import Mathlib.Order.Basic
/-! First-minimum searches.  `numpy.argmin` over a flattened array and the first hit of an `argsort` are both a left
fold that keeps the best candidate so far unless the next one is strictly smaller; `minStep` is that step on an
optional best, and every such fold of the models is an instance of `foldl (minStep val)`. -/
namespace CogentModel.FirstMin
variable {α β : Type} [LinearOrder β]

def minStep (val : α → β) (best : Option α) (x : α) : Option α :=
  match best with
  | none => some x
  | some y => if val x < val y then some x else some y

theorem minStep_spec (val : α → β) (best : Option α) (x : α) :
    ∃ r, minStep val best x = some r ∧ (best = some r ∨ r = x) ∧ val r ≤ val x ∧
      ∀ q, best = some q → val r ≤ val q := by
  cases best with
  | none => exact ⟨x, rfl, Or.inr rfl, le_refl _, fun _ h => nomatch h⟩
  | some y =>
    by_cases h : val x < val y
    · exact ⟨x, if_pos h, Or.inr rfl, le_refl _, fun q hq => by cases hq; exact le_of_lt h⟩
    · exact ⟨y, if_neg h, Or.inl rfl, not_lt.1 h, fun q hq => by cases hq; exact le_refl _⟩

theorem foldl_minStep_spec (val : α → β) (l : List α) (acc : Option α) (p : α)
    (h : l.foldl (minStep val) acc = some p) :
    (acc = some p ∨ p ∈ l) ∧ (∀ q, acc = some q → val p ≤ val q) ∧ ∀ x ∈ l, val p ≤ val x := by
  induction l generalizing acc with
  | nil =>
    cases (h : acc = some p)
    exact ⟨Or.inl rfl, fun q hq => by cases hq; exact le_refl _, fun x hx => nomatch hx⟩
  | cons x xs ih =>
    obtain ⟨r, hr, hr1, hr2, hr3⟩ := minStep_spec val acc x
    rw [List.foldl_cons, hr] at h
    obtain ⟨a1, a2, a3⟩ := ih (some r) h
    have hpr := a2 r rfl
    refine ⟨?_, fun q hq => le_trans hpr (hr3 q hq), fun y hy => ?_⟩
    · rcases a1 with a1 | a1
      · cases a1
        exact hr1.imp id fun e => List.mem_cons.2 (Or.inl e)
      · exact Or.inr (List.mem_cons_of_mem _ a1)
    · rcases List.mem_cons.1 hy with rfl | hy
      · exact le_trans hpr hr2
      · exact a3 y hy

theorem foldl_minStep_ne_none (val : α → β) (l : List α) (acc : Option α) (h : acc ≠ none ∨ l ≠ []) :
    l.foldl (minStep val) acc ≠ none := by
  induction l generalizing acc with
  | nil => exact h.elim id fun c => absurd rfl c
  | cons x xs ih =>
    obtain ⟨r, hr, _⟩ := minStep_spec val acc x
    rw [List.foldl_cons, hr]
    exact ih _ (Or.inl nofun)

theorem foldl_minStep_congr (val val' : α → β) (l : List α) (acc : Option α)
    (hl : ∀ x ∈ l, val x = val' x) (ha : ∀ q, acc = some q → val q = val' q) :
    l.foldl (minStep val) acc = l.foldl (minStep val') acc := by
  induction l generalizing acc with
  | nil => rfl
  | cons x xs ih =>
    have e : minStep val acc x = minStep val' acc x := by
      cases acc with
      | none => rfl
      | some y => simp only [minStep, hl x List.mem_cons_self, ha y rfl]
    obtain ⟨r, hr, hr1, _⟩ := minStep_spec val' acc x
    rw [List.foldl_cons, List.foldl_cons, e, hr]
    refine ih _ (fun y hy => hl y (List.mem_cons_of_mem _ hy)) fun q hq => ?_
    cases hq
    rcases hr1 with hr1 | hr1
    · exact ha r hr1
    · exact hr1 ▸ hl x List.mem_cons_self

/-- a search with a definite first candidate, as `argmin` writes it -/
theorem foldl_ite_eq (val : α → β) (l : List α) (b : α) :
    some (l.foldl (fun best x => if val x < val best then x else best) b) = l.foldl (minStep val) (some b) := by
  induction l generalizing b with
  | nil => rfl
  | cons x xs ih => rw [List.foldl_cons, List.foldl_cons, ih, apply_ite some]; rfl

/-! row-major flattening of an `n × n` array -/

theorem flat_lt {n a b : Nat} (ha : a < n) (hb : b < n) : a * n + b < n * n :=
  calc a * n + b < a * n + n := Nat.add_lt_add_left hb _
    _ = (a + 1) * n := (Nat.succ_mul a n).symm
    _ ≤ n * n := Nat.mul_le_mul_right n ha

theorem flat_div {n b : Nat} (a : Nat) (hb : b < n) : (a * n + b) / n = a := by
  rw [Nat.add_comm, Nat.add_mul_div_right _ _ (by omega), Nat.div_eq_of_lt hb, Nat.zero_add]

theorem unflat_lt {n idx : Nat} (h : idx < n * n) : idx / n < n ∧ idx % n < n :=
  ⟨Nat.div_lt_of_lt_mul h, Nat.mod_lt _ (Nat.pos_of_ne_zero fun e => by subst e; simp at h)⟩

end CogentModel.FirstMin
