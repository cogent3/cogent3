import CogentModel.Model.AtomicSite
import CogentModel.Proofs.AtomicProgLemmas
import CogentModel.Proofs.AtomicTmpdirRoute
/-! The `tmpdir=` route and the bare-object protocol of `atomic_write`: run through the statement-language semantics
of Model/AtomicProg.lean the hand model issues `faultTraceTmp` / `bareFaultTrace` of Model/AtomicSite.lean; a covered
call site induces `Job.cfg`. -/
namespace CogentModel.AtomicSite
open CogentModel.AtomicWrite CogentModel.AtomicProg

theorem runWith_hand_tmp_block (c : Cfg) (j : Nat) : runWith hand c false (some (j + 1)) =
    (let r2 := runWrites c c.chunks (some j)
     let r3 := run c ⟨false, !r2.raised⟩ hand.exit r2.fault
     ⟨⟨.openW c.tmpfile, .enter⟩ :: (r2.trace ++ r3.trace), r2.raised || r3.raised, r3.fault⟩) := rfl

/-- all writes pass on the `tmpdir=` route: the close, the rename or the (suppressed) unlink of `__exit__` raises; with
the target kind fixed each position is an evaluation -/
theorem runWith_hand_tmp_exit (c : Cfg) (hz : c.zipMember = none) (d : Nat) (hd : d < 3) :
    runWith hand c false (some (c.chunks.length + d + 1)) =
      ⟨faultTraceTmp c (c.chunks.length + d + 1), decide (d < 2), none⟩ := by
  have hh : handlerTmp c (c.chunks.length + d + 1) = if d < 2 then [cleanupTmp c] else [] := by
    rw [handlerTmp, if_neg (Nat.succ_ne_zero _), if_neg (by omega)]
    exact ite_congr (propext (by omega)) (fun _ => rfl) (fun _ => rfl)
  rw [faultTraceTmp, programTmp_cons, runWith_hand_tmp_block, runWrites_pass, hh, List.take_succ_cons, Nat.add_assoc,
    ← writes_length c, List.take_length_add_append, List.cons_append, List.append_assoc]
  cases c; cases hz
  match d, hd with
  | 0, _ => rfl
  | 1, _ => rfl
  | 2, _ => rfl

theorem runWith_hand_tmpdir_fault (c : Cfg) (hz : c.zipMember = none) (hcb : c.closeInBody = false)
    (k : Nat) (hk : k < c.chunks.length + 4) :
    runWith hand c false (some k) = ⟨faultTraceTmp c k, decide (k < c.chunks.length + 3), none⟩ := by
  match k, hk with
  | 0, _ => rfl  -- the open raising: `__enter__` unlinks the temp file and re-raises, by evaluation
  | j + 1, hk =>
    by_cases hj : j < c.chunks.length
    · -- a write raising: `__exit__` sees the exception, closes and removes the temp file
      have hcl : (⟨.close c.tmpfile, .exitClose⟩ : Instr) = closeInstr c := by simp [closeInstr, hcb]
      rw [faultTraceTmp, programTmp_cons, runWith_hand_tmp_block, List.take_succ_cons, runWrites_some, if_pos hj,
        List.take_append_of_le_length (by rw [writes_length]; exact hj), handlerTmp,
        if_neg (Nat.succ_ne_zero j), if_pos (show j + 1 ≤ c.chunks.length from hj), hcl, decide_eq_true (by omega)]
      rfl
    · obtain ⟨d, rfl⟩ := Nat.exists_eq_add_of_le (Nat.le_of_not_lt hj)
      rw [runWith_hand_tmp_exit c hz d (by omega)]; simp

theorem runBare_hand_none (c : Cfg) (hc : c.commit = .replace) (hne : c.chunks ≠ []) :
    runBare handBare c true none = ⟨program c, false, none⟩ := by
  have hemp : c.chunks.isEmpty = false := List.isEmpty_eq_false_iff.mpr hne
  cases hz : c.zipMember <;>
    simp [program_eq, post, commitInstrs, hc, runBare, runBareOpened, hemp, handBare, hand, handCleanup, run, callPrim,
      runWrites_none, Prim.instr, hz]

theorem runBare_hand_opened (c : Cfg) (hemp : c.chunks.isEmpty = false) (j : Nat) :
    runBare handBare c true (some (j + 1)) = runBareOpened handBare c true ⟨[⟨.mkdir c.tmpdir, .ctor⟩], false, some j⟩ := by
  unfold runBare; rw [hemp]; rfl

/-- a fault at call `j + 2` reaches the writes with `j` calls to go; a write raising ends the run at once -/
theorem runBare_hand_block (c : Cfg) (hemp : c.chunks.isEmpty = false) (j : Nat) :
    runBare handBare c true (some (j + 2)) =
      (let r2 := runWrites c c.chunks (some j)
       if r2.raised then ⟨⟨.mkdir c.tmpdir, .ctor⟩ :: ⟨.openW c.tmpfile, .enter⟩ :: r2.trace, true, r2.fault⟩ else
       let r3 := run c ⟨true, true⟩ hand.exit r2.fault
       ⟨⟨.mkdir c.tmpdir, .ctor⟩ :: ⟨.openW c.tmpfile, .enter⟩ :: (r2.trace ++ r3.trace), r3.raised, r3.fault⟩) := by
  rw [runBare_hand_opened c hemp]; rfl

/-- from `close()` on a bare object behaves like the with-statement: `close()` is `__exit__(None, None, None)` -/
theorem runBare_hand_exit (c : Cfg) (hemp : c.chunks.isEmpty = false) (d : Nat) :
    runBare handBare c true (some (c.chunks.length + d + 2)) = runWith hand c true (some (c.chunks.length + d + 2)) := by
  rw [runBare_hand_block c hemp, runWith_hand_exit, runWrites_pass]; rfl

theorem runBare_hand_fault (c : Cfg) (hz : c.zipMember = none) (hc : c.commit = .replace) (hg : c.guarded = true)
    (hcb : c.closeInBody = false) (hne : c.chunks ≠ [])
    (k : Nat) (hk : k < (program c).length) :
    runBare handBare c true (some k) = ⟨bareFaultTrace c k, decide (k + 1 < (program c).length), none⟩ := by
  have hlen : (program c).length = c.chunks.length + 5 := by rw [program_length_replace c hz hc, pre_length]
  have hemp : c.chunks.isEmpty = false := List.isEmpty_eq_false_iff.mpr hne
  rw [hlen] at hk ⊢
  unfold bareFaultTrace
  by_cases hlt : k < c.chunks.length + 2
  · -- the constructor, the unguarded open or a write raises: the trace stops there
    rw [if_pos hlt, decide_eq_true (by omega), program_eq]
    match k, hlt with
    | 0, _ => rfl
    | 1, _ => rw [runBare_hand_opened c hemp]; rfl
    | j + 2, hlt =>
      have hj : j < c.chunks.length := by omega
      rw [runBare_hand_block c hemp, runWrites_some, if_pos hj, List.take_succ_cons, List.take_succ_cons,
        List.take_append_of_le_length (by rw [writes_length]; exact hj)]
      rfl
  · rw [if_neg hlt]
    obtain ⟨d, rfl⟩ := Nat.exists_eq_add_of_le (Nat.le_of_not_lt hlt)
    rw [Nat.add_right_comm, runBare_hand_exit c hemp, runWith_hand_fault_exit c hz hc hg hcb d (by omega)]; simp

theorem covered_cfg (s : Site) (h : s.covered = true) (j : Job) : s.cfg j = (plainJob j).cfg := by
  simp only [Site.covered, Bool.and_eq_true, Bool.not_eq_eq_eq_not, Bool.not_true, beq_iff_eq] at h
  obtain ⟨⟨⟨⟨⟨h1, h2⟩, h3⟩, h4⟩, h5⟩, h6⟩ := h
  simp [Site.cfg, Job.cfg, plainJob, h1, h3, h4, h5, h6]

end CogentModel.AtomicSite
