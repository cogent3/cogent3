/- C10: the registry loop seen through the list of matching entries.  `dispatch` is the first of them; a table in which no
   key occurs in a key registered after it (`NoShadow`) hands every key its own entry and, among keys that begin one type
   string, lists the longer first, and then `bestMatch` is the first of them too. -/
import CogentModel.Gen.C10Registry
namespace CogentModel.Registry
open CogentModel.Gen.C10Registry (dispatch test)

theorem isPrefix_eq_true_iff (k t : Str) : isPrefix k t = true ↔ k <+: t := by
  induction k generalizing t with
  | nil => simp [isPrefix]
  | cons a k ih => cases t <;> simp [isPrefix, List.cons_prefix_cons, ih]

theorem isInfix_eq_true_iff (k t : Str) : isInfix k t = true ↔ k <:+: t := by
  induction t with
  | nil => simp [isInfix, isPrefix_eq_true_iff]
  | cons c t ih => simp [isInfix, isPrefix_eq_true_iff, List.infix_cons_iff, ih]

theorem isInfix_self (k : Str) : isInfix k k = true := (isInfix_eq_true_iff k k).mpr List.infix_rfl

theorem dispatch_eq_head_matching (tbl : List Entry) (t : Str) : dispatch tbl t = (matching tbl t).head? := by
  simp only [dispatch, test, matching, List.head?_filter]

/-- the candidates come from one module: which -/
theorem oneModuleB_module {tbl : List Entry} {t : Str} (h : oneModuleB tbl t = true) :
    ∃ m, ∀ x ∈ matching tbl t, (x.module == m) = true := by
  unfold oneModuleB at h
  split at h
  · rename_i hm; exact ⟨"", fun x hx => by rw [hm] at hx; cases hx⟩
  · rename_i e rest hm
    refine ⟨e.module, fun x hx => ?_⟩
    rw [hm] at hx
    rcases List.mem_cons.mp hx with rfl | hr
    · exact beq_self_eq_true _
    · exact List.all_eq_true.mp h x hr

/-- where every candidate comes from the module `m`, the candidates are those of `m`'s own registrations -/
theorem matching_filter_module {tbl : List Entry} {t : Str} {m : String}
    (h : ∀ x ∈ matching tbl t, (x.module == m) = true) :
    matching tbl t = matching (tbl.filter (·.module == m)) t := by
  simp only [matching, List.filter_filter]
  exact List.filter_congr fun x hx => by
    cases hi : isInfix x.key t
    · rfl
    · rw [h x (List.mem_filter.mpr ⟨hx, hi⟩)]; rfl

/-- if the candidates of `t` come from one module, any registry with the same per-module registration sequences has the
    same candidates, in the same order -/
theorem matching_order_independent (tbl tbl' : List Entry) (t : Str) (h1 : oneModuleB tbl t = true)
    (hmod : ∀ m : String, tbl'.filter (fun e => e.module == m) = tbl.filter (fun e => e.module == m)) :
    matching tbl' t = matching tbl t := by
  obtain ⟨m, hm⟩ := oneModuleB_module h1
  -- an entry of `tbl'` stands in its module's block, which is that of `tbl`
  have hsub : ∀ x ∈ matching tbl' t, x ∈ matching tbl t := fun x hx => by
    obtain ⟨hx, hi⟩ := List.mem_filter.mp hx
    have : x ∈ tbl'.filter (fun e => e.module == x.module) := List.mem_filter.mpr ⟨hx, beq_self_eq_true _⟩
    rw [hmod] at this
    exact List.mem_filter.mpr ⟨(List.mem_filter.mp this).1, hi⟩
  rw [matching_filter_module hm, matching_filter_module fun x hx => hm x (hsub x hx), hmod]

/-- where the candidates stand in order of decreasing key length, the most specific is the first -/
theorem bestMatch_eq_head_of_decreasing (tbl : List Entry) (t : Str)
    (h : (matching tbl t).Pairwise (fun x e => e.key.length < x.key.length)) :
    bestMatch tbl t = (matching tbl t).head? := by
  induction tbl with
  | nil => rfl
  | cons e rest ih =>
    simp only [matching] at ih h
    cases he : isInfix e.key t
    · rw [List.filter_cons_of_neg (by simp [he])] at h
      simp only [matching, bestMatch, he, List.filter_cons_of_neg, ih h, Bool.false_eq_true, if_false, Bool.false_and,
        not_false_eq_true]
      cases (rest.filter fun e => isInfix e.key t).head? <;> rfl
    · rw [List.filter_cons_of_pos (by simp [he])] at h
      obtain ⟨hlt, hrest⟩ := List.pairwise_cons.mp h
      simp only [matching, bestMatch, he, List.filter_cons_of_pos, ih hrest, List.head?_cons, if_true, Bool.true_and]
      -- the best of the later candidates is their first, so shorter than `e`
      cases hb : (rest.filter fun e => isInfix e.key t).head? with
      | none => rfl
      | some b => simp [Nat.le_of_lt (hlt b (List.mem_of_mem_head? hb))]

/-- a table in which no key occurs in a key registered after it: every key selects its own entry, and the keys are distinct -/
def NoShadow (tbl : List Entry) : Prop := tbl.Pairwise (fun x e => isInfix x.key e.key = false)

theorem NoShadow.dispatch_key {tbl : List Entry} (h : NoShadow tbl) : ∀ e ∈ tbl, dispatch tbl e.key = some e := by
  induction tbl with
  | nil => intro e he; cases he
  | cons x rest ih =>
    obtain ⟨hx, hrest⟩ := List.pairwise_cons.mp h
    intro e he
    rcases List.mem_cons.mp he with rfl | he
    · simp [dispatch, test, isInfix_self]
    · simpa [dispatch, test, hx e he] using ih hrest e he

theorem NoShadow.keys_nodup {tbl : List Entry} (h : NoShadow tbl) : (tbl.map (·.key)).Nodup :=
  List.pairwise_map.mpr (h.imp fun hxe heq => by rw [heq, isInfix_self] at hxe; cases hxe)

/-- of the keys that begin one string, a table that shadows none lists the longer before the shorter -/
theorem NoShadow.matching_decreasing {tbl : List Entry} (h : NoShadow tbl) (t : Str)
    (hp : ∀ x ∈ matching tbl t, isPrefix x.key t = true) :
    (matching tbl t).Pairwise (fun x e => e.key.length < x.key.length) := by
  refine (List.Pairwise.filter (fun e => isInfix e.key t) h).imp_of_mem ?_
  intro x e hx he hxe
  -- two prefixes of `t` are comparable; `x.key` is no prefix of `e.key`, not even an equal one
  rcases List.prefix_or_prefix_of_prefix ((isPrefix_eq_true_iff _ _).mp (hp x hx))
    ((isPrefix_eq_true_iff _ _).mp (hp e he)) with hxe' | hex
  · rw [(isInfix_eq_true_iff _ _).mpr hxe'.isInfix] at hxe; cases hxe
  · refine Nat.lt_of_le_of_ne hex.length_le fun hl => ?_
    rw [← hex.eq_of_length hl, isInfix_self] at hxe; cases hxe

/-- dispatch picks the most specific registration, and it is unique, wherever the keys that occur in the type string
    occur at its front -/
theorem NoShadow.most_specific {tbl : List Entry} (h : NoShadow tbl) (t : Str)
    (hp : ∀ x ∈ matching tbl t, isPrefix x.key t = true) :
    dispatch tbl t = bestMatch tbl t ∧ lengthsDistinctB tbl t = true := by
  have hd := h.matching_decreasing t hp
  rw [dispatch_eq_head_matching, bestMatch_eq_head_of_decreasing tbl t hd, lengthsDistinctB, decide_eq_true_eq]
  exact ⟨rfl, List.pairwise_map.mpr (hd.imp fun hlt => (Nat.ne_of_lt hlt).symm)⟩

end CogentModel.Registry
