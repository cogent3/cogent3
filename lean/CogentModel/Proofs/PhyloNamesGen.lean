import CogentModel.Gen.C09Newick
import CogentModel.Proofs.PhyloNames
/-! The GENERATED `TreeBuilder._unique_name` (Gen/C09Newick.lean, translator/c09_names2lean.py) against the hand model
`Model/PhyloNames.lean`: the recursion lemmas used by `gen_unique_name_eq` in Props/C09.lean. -/
namespace CogentModel.C09
open CogentModel.Phylo
namespace GenNames
open CogentModel.Gen.C09Newick (pyOr dHas dGet uniqueNameRec usedNamesInit)

theorem suffixed_ne_empty (s t : String) : s ++ ("." ++ t) ≠ "" := by
  intro h
  have := congrArg String.length h
  simp [String.length_append] at this

theorem pyOr_some (s : String) (h : s ≠ "") (d : String) : pyOr (some s) d = s := by
  simp [pyOr, h]

end GenNames

/-- the names one builder hands out, computed with the GENERATED definitions only -/
def genAssignFrom : Used → List (Option String) → List String
  | _, [] => []
  | u, l :: ls => let r := CogentModel.Gen.C09Newick.uniqueName u l; r.2 :: genAssignFrom r.1 ls

end CogentModel.C09
