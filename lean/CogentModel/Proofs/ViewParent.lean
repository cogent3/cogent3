import CogentModel.Proofs.ViewSem
/-! The reported parent segment is exactly what is displayed: a view's positions are those of the strided
window `parent[ps:pe][::step]`. -/
namespace CogentModel.View
open CogentModel

/-- every displayed position is a valid index into the parent -/
theorem elems_mem_range (v : View) (h : Inv v) : ∀ i ∈ elems v, 0 ≤ i ∧ i < v.seqLen := by
  rw [← realise_eq' v h]
  exact sliceIdx_mem_range v.seqLen h.1 _ _ _ h.step_ne_zero

/-- `xs[a:b:c]` visits the positions of `xs[a:b][::c]`, shifted by `a` -/
theorem sliceIdx_window_pos (n a b c : Int) (hc : 0 < c) (h0 : 0 ≤ a) (h1 : a ≤ b) (h2 : b ≤ n) :
    PySlice.sliceIdx n.toNat (some a) (some b) c =
      (PySlice.sliceIdx (b - a).toNat none none c).map (· + a) := by
  rw [sliceIdx_pos _ (by omega) _ _ _ hc, sliceIdx_pos _ (by omega) _ _ _ hc, ← PySlice.rangeList_shift]
  simp only [Option.getD_some, Option.getD_none]
  rw [clampP_of_mem h0 (by omega), clampP_of_mem (by omega) h2, clampP_of_mem (Int.le_refl 0) (by omega),
    clampP_of_mem (by omega) (Int.le_refl _), Int.zero_add, Int.sub_add_cancel]

/-- the same for a negative step and negative indices `a ≥ b`: the window is `xs[b + n + 1 : a + n + 1]` -/
theorem sliceIdx_window_neg (n a b c : Int) (hc : c < 0) (h0 : -n - 1 ≤ b) (h1 : b ≤ a) (h2 : a ≤ -1) :
    PySlice.sliceIdx n.toNat (some a) (some b) c =
      (PySlice.sliceIdx (a - b).toNat none none c).map (· + (b + n + 1)) := by
  rw [sliceIdx_neg _ (by omega) _ _ _ hc, sliceIdx_neg _ (by omega) _ _ _ hc, ← PySlice.rangeList_shift]
  simp only [Option.getD_some, Option.getD_none]
  rw [clampN_of_neg (by omega) h2, clampN_of_neg h0 (by omega), clampN_of_neg (by omega) (Int.le_refl _),
    clampN_of_neg (Int.le_refl _) (by omega)]
  congr 1 <;> omega

/-- the plus-strand window of the parent that a view displays: its bounds are `richDictBounds v`, the reported
`parent_start` / `parent_stop` are those bounds behind the offset, and the stored triple visits the window strided -/
theorem window_spec (v : View) (h : Inv v) :
    0 ≤ (richDictBounds v).1 ∧ (richDictBounds v).1 ≤ (richDictBounds v).2 ∧ (richDictBounds v).2 ≤ v.seqLen ∧
    parentStart v = .ok (v.offset + (richDictBounds v).1) ∧ parentStop v = .ok (v.offset + (richDictBounds v).2) ∧
    PySlice.sliceIdx v.seqLen.toNat (some v.start) (some v.stop) v.step
      = (PySlice.sliceIdx ((richDictBounds v).2 - (richDictBounds v).1).toNat none none v.step).map
          (· + (richDictBounds v).1) := by
  obtain ⟨hN, ⟨hk, i0, i1, i2⟩ | ⟨hk, i0, i1, i2⟩⟩ := h
  · have hk' : ¬ v.step < 0 := by omega
    simp only [richDictBounds, parentStart, parentStop, if_neg hk']
    exact ⟨i0, i1, i2, trivial, trivial, sliceIdx_window_pos _ _ _ _ hk i0 i1 i2⟩
  · simp only [richDictBounds, parentStart, parentStop, if_pos hk, if_pos (show v.stop < 0 by omega),
      if_pos (show v.start < 0 by omega)]
    refine ⟨by omega, by omega, by omega, by rw [Int.add_assoc], by rw [Int.add_assoc], ?_⟩
    rw [sliceIdx_window_neg _ _ _ _ hk i0 i1 i2, Int.add_sub_add_right, Int.add_assoc]

end CogentModel.View
