import CogentModel.Model.SeqFormats
import CogentModel.Spec.FastaText
import CogentModel.Proofs.SeqFormats
/-! The three FASTA parsers on well-formed texts that are not writer shaped.  The lines of such a file are
`recLines` of its (label, body) parts, so the line parsers are covered by Proofs/SeqFormats; the record splitter of
the bytes parser finds exactly the records (`splitLabelStart_fileRaw`); what the writer produces is the special case
`ofWritten`. -/
namespace CogentModel.SeqFormats
open CogentModel.Splitlines CogentModel.SeqSpec CogentModel.FastaText

theorem pySplitlines_line {c : Str} (hc : ∀ x ∈ c, isBreak x = false) {t : Term} (ht : t ≠ .eof) (R : Str) :
    pySplitlines (c ++ eol t ++ R) = c :: pySplitlines R := by
  unfold pySplitlines
  rw [List.append_assoc, crlfAux_noCR_app _ _ (noBreak_noCR hc)]
  cases t with
  | lf => rw [show eol .lf ++ R = '\n' :: R from rfl, crlfAux_lf, splitCore_line_brk hc (by decide)]
  | crlf => rw [show eol .crlf ++ R = '\r' :: '\n' :: R from rfl, crlfAux_crlf, splitCore_line_brk hc (by decide)]
  | eof => exact absurd rfl ht

theorem bodyChar_facts {c : Char} (h : bodyChar c = true) :
    c ≠ '#' ∧ c ≠ '>' ∧ isBreak c = false ∧ isSpaceStr c = isBT c := by
  simp only [bodyChar, Bool.or_eq_true] at h
  rcases h with h | h
  · refine ⟨seqChar_not_hash h, ?_, printable_not_break (seqChar_printable h), ?_⟩
    · intro e; have := seqChar_not_label h; subst e; simp at this
    · have h2 : c ≠ '\t' := fun e => absurd (e ▸ seqChar_printable h) (by decide)
      simp [isBT, seqChar_not_space h, seqChar_ne_space h, h2]
  · simp only [isBT, Bool.or_eq_true, decide_eq_true_eq] at h
    rcases h with h | h <;> subst h <;> decide

theorem removeWs_body {s : Str} (h : ∀ x ∈ s, bodyChar x = true) : removeWs s = s.filter (fun c => !isBT c) := by
  unfold removeWs
  apply List.filter_congr
  intro x hx
  rw [(bodyChar_facts (h x hx)).2.2.2]

/-- the facts packed into the Boolean `wfRec` / `wfFile`, by name -/
structure RecFacts (g : GRec) : Prop where
  pre : ∀ c ∈ g.pre, isBT c = true
  post : ∀ c ∈ g.post, isBT c = true
  namePrintable : ∀ c ∈ g.name, printable c = true
  nameHead : g.name.head? ≠ some ' '
  nameLast : g.name.getLast? ≠ some ' '
  body : ∀ l ∈ g.body, ∀ x ∈ l.content, bodyChar x = true
  nonEmpty : ∃ l ∈ g.body, l.content ≠ []

theorem wfRec_facts {last : Bool} {g : GRec} (h : wfRec last g = true) : RecFacts g ∧ bodyOk last g.body = true := by
  simp only [wfRec, wfLabel, Bool.and_eq_true, List.all_eq_true, List.any_eq_true, bne_iff_ne, ne_eq,
    Bool.not_eq_true'] at h
  obtain ⟨⟨⟨⟨⟨h1, h2⟩, ⟨h3, h4⟩, h5⟩, h6⟩, h7⟩, h8⟩ := h
  refine ⟨⟨h1, h2, h3, h4, h5, h6, ?_⟩, h8⟩
  obtain ⟨l, hl, hne⟩ := h7
  exact ⟨l, hl, by intro e; rw [e] at hne; simp at hne⟩

/-- a record is the last one when no record follows -/
theorem wfFile_cons (g : GRec) (gs : List GRec) : wfFile (g :: gs) = (wfRec gs.isEmpty g && wfFile gs) := by
  cases gs <;> simp [wfFile]

theorem wfFile_facts : ∀ {gs : List GRec}, wfFile gs = true → ∀ g ∈ gs, RecFacts g
  | [], _, _, hg => nomatch hg
  | g0 :: gs, h, g, hg => by
    rw [wfFile_cons, Bool.and_eq_true] at h
    rcases List.mem_cons.mp hg with rfl | e
    · exact (wfRec_facts h.1).1
    · exact wfFile_facts h.2 g e

theorem isBT_space {c : Char} (h : isBT c = true) : isSpaceStr c = true ∧ isSpaceBytes c = true ∧
    isBreak c = false ∧ c ≠ '\n' ∧ c ≠ '>' := by
  simp only [isBT, Bool.or_eq_true, decide_eq_true_eq] at h
  rcases h with h | h <;> subst h <;> decide

theorem RecFacts.label_noNl {g : GRec} (f : RecFacts g) : ∀ c ∈ labelRest g, c ≠ '\n' ∧ isBreak c = false := by
  intro c hc
  simp only [labelRest, List.mem_append] at hc
  rcases hc with (h | h) | h
  · exact ⟨(isBT_space (f.pre c h)).2.2.2.1, (isBT_space (f.pre c h)).2.2.1⟩
  · exact ⟨printable_ne_nl (f.namePrintable c h), printable_not_break (f.namePrintable c h)⟩
  · exact ⟨(isBT_space (f.post c h)).2.2.2.1, (isBT_space (f.post c h)).2.2.1⟩

theorem RecFacts.name_ends {g : GRec} (f : RecFacts g) :
    (∀ c, g.name.head? = some c → isSpaceStr c = false ∧ isSpaceBytes c = false) ∧
    (∀ c, g.name.getLast? = some c → isSpaceStr c = false ∧ isSpaceBytes c = false) :=
  ends_notSpace f.namePrintable f.nameHead f.nameLast

theorem RecFacts.strip_label {g : GRec} (f : RecFacts g) : strip (labelRest g) = g.name :=
  stripBy_around (fun c hc => (isBT_space (f.pre c hc)).1) (fun c hc => (isBT_space (f.post c hc)).1)
    (fun c hc => (f.name_ends.1 c hc).1) (fun c hc => (f.name_ends.2 c hc).1)

def bodyContents (g : GRec) : List Str := g.body.map (·.content)

theorem RecFacts.kept_ne_nil {g : GRec} (f : RecFacts g) : kept (bodyContents g) ≠ [] := by
  obtain ⟨l, hl, hne⟩ := f.nonEmpty
  have : strip l.content ∈ kept (bodyContents g) :=
    List.mem_map_of_mem (List.mem_filter.mpr ⟨List.mem_map_of_mem hl, by rw [List.isEmpty_eq_false_iff.mpr hne]; rfl⟩)
  exact List.ne_nil_of_mem this

theorem RecFacts.clean_kept {g : GRec} (f : RecFacts g) : clean (kept (bodyContents g)) = residues g := by
  rw [SeqFormats.clean_kept, bodyContents, ← List.flatMap_def, removeWs_body, residues]
  intro x hx
  obtain ⟨l, hl, hxl⟩ := List.mem_flatMap.mp hx
  exact f.body l hl x hxl

/-- a record as the line parsers see it: the label line without its `>`, the body lines -/
def gParts (g : GRec) : Str × List Str := (labelRest g, bodyContents g)

/-- all lines of the file, without terminators -/
def gLines (gs : List GRec) : List Str := recLines '>' (gs.map gParts)

theorem dataRecs_gParts {gs : List GRec} (hf : ∀ g ∈ gs, RecFacts g) : DataRecs ['>'] (gs.map gParts) := by
  intro r hr
  obtain ⟨g, hg, rfl⟩ := List.mem_map.mp hr
  refine ⟨fun l hl c hc => ?_, (hf g hg).kept_ne_nil⟩
  obtain ⟨b, hb, rfl⟩ := List.mem_map.mp hl
  have := bodyChar_facts ((hf g hg).body b hb c (List.mem_of_head? hc))
  exact ⟨by simpa using this.2.1, this.1⟩

theorem parsed_gParts {gs : List GRec} (hf : ∀ g ∈ gs, RecFacts g) : parsed (gs.map gParts) = records gs := by
  rw [parsed, List.map_map]
  exact List.map_congr_left fun g hg => by
    rw [Function.comp_apply, gParts, (hf g hg).strip_label, (hf g hg).clean_kept]

theorem strictParser_grecs (gs : List GRec) (hne : gs ≠ []) (hf : ∀ g ∈ gs, RecFacts g) :
    strictParser ['>'] (gLines gs) = .ok (records gs) := by
  rw [gLines, strictParser_recLines (by decide) _ (by simpa using hne) (dataRecs_gParts hf), parsed_gParts hf]

theorem fasterParser_grecs (gs : List GRec) (hf : ∀ g ∈ gs, RecFacts g) :
    fasterParser ['>'] (gLines gs) = records gs := by
  rw [gLines, fasterParser_recLines (by decide) _ (dataRecs_gParts hf), parsed_gParts hf]

theorem labelTerm_ne_eof (g : GRec) : labelTerm g ≠ Term.eof := by
  unfold labelTerm; split <;> simp

/-- the body lines of a record, followed by `R`; only at the end of the file (`R = []`) may the last of them be
unterminated -/
theorem pySplitlines_body {last : Bool} {R : Str} (hR : last = true → R = []) : ∀ (body : List GLine),
    (∀ l ∈ body, ∀ x ∈ l.content, isBreak x = false) → bodyOk last body = true →
    pySplitlines (bodyRaw body ++ R) = body.map (·.content) ++ pySplitlines R
  | [], _, _ => rfl
  | [l], hb, h => by
    have hc := hb l List.mem_cons_self
    rw [bodyRaw, List.flatMap_cons, List.flatMap_nil, List.append_nil, lineRaw]
    by_cases ht : l.term = .eof
    · simp only [bodyOk, ht, bne_self_eq_false, Bool.false_or, Bool.and_eq_true, Bool.not_eq_true',
        List.isEmpty_eq_false_iff] at h
      rw [ht, hR h.1]
      unfold pySplitlines
      rw [eol, List.append_nil, List.append_nil, crlf_id_of_noCR _ (noBreak_noCR hc)]
      exact splitCore_single h.2 hc
    · exact pySplitlines_line hc ht R
  | l :: l2 :: ls, hb, h => by
    simp only [bodyOk, Bool.and_eq_true, bne_iff_ne, ne_eq] at h
    rw [bodyRaw, List.flatMap_cons, lineRaw, List.append_assoc, pySplitlines_line (hb l List.mem_cons_self) h.1, ← bodyRaw,
      pySplitlines_body hR (l2 :: ls) (fun x hx => hb x (List.mem_cons_of_mem _ hx)) h.2]
    rfl

theorem pySplitlines_rec {last : Bool} {R : Str} (hR : last = true → R = []) {g : GRec} (f : RecFacts g)
    (hb : bodyOk last g.body = true) :
    pySplitlines ('>' :: recRaw g ++ R) = ('>' :: labelRest g) :: (bodyContents g ++ pySplitlines R) := by
  have hl : ∀ x ∈ '>' :: labelRest g, isBreak x = false := fun x hx => by
    rcases List.mem_cons.mp hx with rfl | hx
    · decide
    · exact (f.label_noNl x hx).2
  rw [recRaw, ← List.cons_append, ← List.cons_append, List.append_assoc,
    pySplitlines_line hl (labelTerm_ne_eof g), pySplitlines_body hR g.body
      (fun l hl x hx => (bodyChar_facts (f.body l hl x hx)).2.2.1) hb]
  rfl

theorem pySplitlines_fileRaw : ∀ (gs : List GRec), wfFile gs = true → pySplitlines (fileRaw gs) = gLines gs
  | [], _ => rfl
  | g :: gs, h => by
    rw [wfFile_cons, Bool.and_eq_true] at h
    obtain ⟨f, hb⟩ := wfRec_facts h.1
    rw [fileRaw, List.flatMap_cons, ← fileRaw, pySplitlines_rec (fun e => by rw [List.isEmpty_iff.mp e]; rfl) f hb,
      pySplitlines_fileRaw gs h.2]
    rfl

/-- no `>` at a line start inside `s` -/
def NoSplit : Bool → Str → Prop
  | _, [] => True
  | bol, c :: cs => (bol && decide (c = '>')) = false ∧ NoSplit (decide (c = '\n')) cs

theorem splitLabelStart_none : ∀ (a : Str) (bol : Bool), NoSplit bol a → splitLabelStart bol a = [a]
  | [], _, _ => rfl
  | c :: cs, bol, h => by
    simp [splitLabelStart, h.1, splitLabelStart_none cs _ h.2, consHead]

theorem splitLabelStart_sep (rest : Str) : ∀ (a : Str) (bol : Bool), NoSplit bol a → a.getLast? = some '\n' →
    splitLabelStart bol (a ++ '>' :: rest) = a :: splitLabelStart false rest
  | [], _, _, hl => by simp at hl
  | [c], bol, h, hl => by
    simp at hl
    subst hl
    simp [splitLabelStart, consHead]
  | c :: c2 :: cs, bol, h, hl => by
    rw [List.getLast?_cons_cons] at hl
    have ih := splitLabelStart_sep rest (c2 :: cs) _ h.2 hl
    simp only [List.cons_append] at ih ⊢
    rw [splitLabelStart]
    simp only [h.1, Bool.false_eq_true, if_false]
    rw [ih]; rfl

theorem noSplit_append : ∀ (a : Str) (bol : Bool) (b : Str), NoSplit bol a → (∀ bol', NoSplit bol' b) → NoSplit bol (a ++ b)
  | [], bol, _, _, hb => hb bol
  | _ :: cs, _, b, ha, hb => ⟨ha.1, noSplit_append cs _ b ha.2 hb⟩

theorem noSplit_noGt : ∀ (c : Str) (bol : Bool), (∀ x ∈ c, x ≠ '>') → NoSplit bol c
  | [], _, _ => trivial
  | x :: xs, bol, h =>
    ⟨by rw [decide_eq_false (h x List.mem_cons_self), Bool.and_false],
      noSplit_noGt xs _ (fun y hy => h y (List.mem_cons_of_mem _ hy))⟩

theorem noSplit_noNl : ∀ (c : Str), (∀ x ∈ c, x ≠ '\n') → NoSplit false c
  | [], _ => trivial
  | x :: xs, h => by
    refine ⟨Bool.false_and _, ?_⟩
    have : decide (x = '\n') = false := by simpa using h x List.mem_cons_self
    rw [this]
    exact noSplit_noNl xs (fun y hy => h y (List.mem_cons_of_mem _ hy))

theorem eol_noGt (t : Term) : ∀ x ∈ eol t, x ≠ '>' := by
  cases t <;> simp [eol] <;> decide

theorem bodyRaw_noGt {g : GRec} (f : RecFacts g) : ∀ x ∈ bodyRaw g.body, x ≠ '>' := by
  intro x hx
  simp only [bodyRaw, lineRaw, List.mem_flatMap, List.mem_append] at hx
  obtain ⟨l, hl, h | h⟩ := hx
  · exact (bodyChar_facts (f.body l hl x h)).2.1
  · exact eol_noGt _ x h

theorem noSplit_recRaw {g : GRec} (f : RecFacts g) : NoSplit false (recRaw g) := by
  unfold recRaw
  rw [List.append_assoc]
  apply noSplit_append _ _ _ (noSplit_noNl _ (fun x hx => (f.label_noNl x hx).1))
  intro bol'
  apply noSplit_noGt
  intro x hx
  rcases List.mem_append.mp hx with h | h
  · exact eol_noGt _ x h
  · exact bodyRaw_noGt f x h

theorem bodyRaw_last : ∀ (body : List GLine), body ≠ [] → bodyOk false body = true → (bodyRaw body).getLast? = some '\n'
  | [], h, _ => absurd rfl h
  | [l], _, h => by
    have ht : l.term ≠ Term.eof := by simpa [bodyOk] using h
    simp only [bodyRaw, List.flatMap_cons, List.flatMap_nil, List.append_nil, lineRaw]
    cases hh : l.term with
    | lf => simp [eol]
    | crlf => simp [eol, List.getLast?_append]
    | eof => exact absurd hh ht
  | l :: l2 :: ls, _, h => by
    simp only [bodyOk, Bool.and_eq_true] at h
    have ih := bodyRaw_last (l2 :: ls) (by simp) h.2
    simp only [bodyRaw, List.flatMap_cons] at ih ⊢
    rw [List.getLast?_append, ih]; rfl

theorem recRaw_last {g : GRec} (f : RecFacts g) (h : bodyOk false g.body = true) : (recRaw g).getLast? = some '\n' := by
  unfold recRaw
  obtain ⟨l, hl, _⟩ := f.nonEmpty
  have hne : g.body ≠ [] := by intro e; rw [e] at hl; simp at hl
  rw [List.getLast?_append, bodyRaw_last g.body hne h]; rfl

/-- the record splitter cuts a well-formed file after its first `>` into the texts of its records -/
theorem splitLabelStart_fileRaw : ∀ (g : GRec) (gs : List GRec), wfFile (g :: gs) = true →
    splitLabelStart false (recRaw g ++ fileRaw gs) = (g :: gs).map recRaw
  | g, [], h => by
    rw [fileRaw, List.flatMap_nil, List.append_nil]
    exact splitLabelStart_none _ _ (noSplit_recRaw (wfRec_facts (last := true) h).1)
  | g, g2 :: gs, h => by
    rw [wfFile_cons, Bool.and_eq_true] at h
    obtain ⟨f, hb⟩ := wfRec_facts h.1
    rw [fileRaw, List.flatMap_cons, ← fileRaw, List.cons_append,
      splitLabelStart_sep _ _ _ (noSplit_recRaw f) (recRaw_last f hb), splitLabelStart_fileRaw g2 gs h.2]
    rfl

theorem convDel_body {x : Char} (h : bodyChar x = true) :
    (!(x = '\n' || x = '\r' || x = '\t' || x = ' ')) = !isBT x := by
  -- a body character is no line boundary, which leaves blank and tab on the left
  have hb := (bodyChar_facts h).2.2.1
  have h1 : x ≠ '\n' := fun e => absurd (e ▸ hb) (by decide)
  have h2 : x ≠ '\r' := fun e => absurd (e ▸ hb) (by decide)
  simp [isBT, h1, h2, Bool.or_comm]

/-- filtering the text of body lines: the line ends go, and on the contents `P` may be replaced by any `Q` that agrees
with it there -/
theorem filter_bodyRaw {P Q : Char → Bool} (hE : ∀ t, (eol t).filter P = []) : ∀ (body : List GLine),
    (∀ l ∈ body, ∀ x ∈ l.content, P x = Q x) → (bodyRaw body).filter P = (body.flatMap (·.content)).filter Q
  | [], _ => rfl
  | l :: ls, h => by
    rw [bodyRaw, List.flatMap_cons, List.filter_append, lineRaw, List.filter_append, hE, List.append_nil, ← bodyRaw,
      filter_bodyRaw hE ls fun x hx => h x (List.mem_cons_of_mem _ hx), List.flatMap_cons, List.filter_append,
      List.filter_congr (h l List.mem_cons_self)]

/-- a record is cut at its first newline: label line, then residues -/
theorem bytesRecord_line {lab : Str} (h : '\n' ∉ lab) (body : Str) :
    bytesRecord (lab ++ '\n' :: body) = some (bstrip lab, convertBytes body) := by
  have hp : ∀ c ∈ lab, decide (c ≠ '\n') = true := fun c hc => decide_eq_true fun e => h (e ▸ hc)
  have hne : (lab ++ '\n' :: body).isEmpty = false := by cases lab <;> rfl
  have hc : (lab ++ '\n' :: body).contains '\n' = true := by simp
  rw [bytesRecord, hne, hc, List.takeWhile_append_of_pos hp, List.dropWhile_append_of_pos hp]
  exact congrArg (fun l => some (bstrip l, convertBytes body)) (List.append_nil lab)

theorem bytesRecord_recRaw {g : GRec} (f : RecFacts g) : bytesRecord (recRaw g) = some (g.name, upper (residues g)) := by
  -- the label line ends in `"\n"` or `"\r\n"`; the `'\r'` goes with the blanks after the label
  obtain ⟨cr, hcr, hraw⟩ : ∃ cr : Str, (∀ c ∈ cr, c = '\r') ∧ recRaw g = (labelRest g ++ cr) ++ '\n' :: bodyRaw g.body := by
    unfold recRaw labelTerm
    by_cases hc : g.crlf = true
    · exact ⟨['\r'], by simp, by simp [hc, eol]⟩
    · exact ⟨[], by simp, by simp [hc, eol]⟩
  have hnl : '\n' ∉ labelRest g ++ cr := fun hm => by
    rcases List.mem_append.mp hm with h | h
    · exact (f.label_noNl _ h).1 rfl
    · exact absurd (hcr _ h) (by decide)
  have hlabel : bstrip (labelRest g ++ cr) = g.name := by
    rw [bstrip, labelRest, List.append_assoc]
    refine stripBy_around (fun c hc => (isBT_space (f.pre c hc)).2.1) (fun c hc => ?_)
      (fun c hc => (f.name_ends.1 c hc).2) (fun c hc => (f.name_ends.2 c hc).2)
    rcases List.mem_append.mp hc with h | h
    · exact (isBT_space (f.post c h)).2.1
    · rw [hcr c h]; decide
  rw [hraw, bytesRecord_line hnl, hlabel, convertBytes,
    filter_bodyRaw (Q := fun c => !isBT c) (fun t => by cases t <;> rfl) g.body fun l hl x hx => convDel_body (f.body l hl x hx)]
  rfl

private theorem filterMap_eq_map_of_forall {α β} {f : α → Option β} {g : α → β} : ∀ {xs : List α}, (∀ x ∈ xs, f x = some (g x)) →
    xs.filterMap f = xs.map g
  | [], _ => rfl
  | x :: xs, h => by
    rw [List.filterMap_cons, h x List.mem_cons_self, List.map_cons, filterMap_eq_map_of_forall fun y hy => h y (List.mem_cons_of_mem _ hy)]

theorem fastaBytes_grecs (gs : List GRec) (h : wfFile gs = true) :
    fastaBytes (fileRaw gs) = (records gs).map (fun r => (r.1, upper r.2)) := by
  have hf := wfFile_facts h
  have hrec : (gs.map recRaw).filterMap bytesRecord = (records gs).map (fun r => (r.1, upper r.2)) := by
    rw [List.filterMap_map, records, List.map_map]
    exact filterMap_eq_map_of_forall fun g hg => bytesRecord_recRaw (hf g hg)
  cases gs with
  | nil => rfl
  | cons g gs =>
    rw [← hrec, fastaBytes, fileRaw, List.flatMap_cons, List.cons_append, splitLabelStart, if_pos (by rfl), ← fileRaw,
      splitLabelStart_fileRaw g gs h]
    rfl

/-- a written record as a record of a general file: nothing around the label, every line ends in `"\n"` -/
def ofWritten (r : Str × List Str) : GRec := ⟨[], r.1, [], false, r.2.map (⟨·, .lf⟩)⟩

theorem fileRaw_ofWritten (recs : List (Str × List Str)) :
    fileRaw (recs.map ofWritten) = unlines (recLines '>' recs) := by
  rw [unlines_recLines, fileRaw, List.flatMap_map]
  congr 1; funext r
  simp [ofWritten, recRaw, labelRest, labelTerm, eol, bodyRaw, lineRaw, unlines, List.flatMap_map]

theorem bodyOk_lf (last : Bool) : ∀ ws : List Str, bodyOk last (ws.map (⟨·, .lf⟩)) = true
  | [] => rfl
  | [_] => rfl
  | _ :: w :: ws => bodyOk_lf last (w :: ws)

theorem wfRec_ofWritten (last : Bool) {r : Str × List Str} (hn : wfName r.1 = true) (hw : wfLines ['>'] r.2 = true) :
    wfRec last (ofWritten r) = true := by
  obtain ⟨hne, hws⟩ := wfLines_iff hw
  simp only [wfRec, ofWritten, wfLabel, bodyOk_lf, List.all_nil, List.all_map, List.any_map, Bool.and_eq_true,
    List.all_eq_true, List.any_eq_true, Function.comp_apply, bodyChar, Bool.or_eq_true]
  refine ⟨⟨⟨⟨⟨trivial, trivial⟩, ⟨(wfName_chars hn).2, by simpa using (wfName_ends hn).1⟩, by simpa using (wfName_ends hn).2⟩, fun w hw c hc => .inl ((wfSeq_chars (hws w hw)).2 c hc)⟩, ?_⟩, trivial⟩
  obtain ⟨w, hw⟩ := List.exists_mem_of_ne_nil _ hne
  exact ⟨w, hw, by simpa using (wfSeq_chars (hws w hw)).1⟩

theorem wfFile_ofWritten : ∀ {recs : List (Str × List Str)}, WfRecs ['>'] recs → wfFile (recs.map ofWritten) = true
  | [], _ => rfl
  | r :: rs, h => by
    rw [List.map_cons, wfFile_cons, Bool.and_eq_true]
    exact ⟨wfRec_ofWritten _ (h r List.mem_cons_self).1 (h r List.mem_cons_self).2,
      wfFile_ofWritten fun x hx => h x (List.mem_cons_of_mem _ hx)⟩

theorem records_ofWritten {recs : List (Str × List Str)} (h : WfRecs ['>'] recs) :
    records (recs.map ofWritten) = expected recs := by
  rw [records, List.map_map]
  refine List.map_congr_left fun r hr => ?_
  have hws := (wfLines_iff (h r hr).2).2
  have hf : (ofWritten r).body.flatMap (·.content) = r.2.flatten := by
    simp [ofWritten, List.flatMap_map]
  rw [Function.comp_apply, residues, hf, ← removeWs_body, ← clean, clean_wf hws]
  · rfl
  · intro c hc
    obtain ⟨w, hw, hcw⟩ := List.mem_flatten.mp hc
    simp [bodyChar, (wfSeq_chars (hws w hw)).2 c hcw]

/-- the bytes based parser returns every well-formed label verbatim — `>` inside a label included -/
theorem fastaBytes_recs (recs : List (Str × List Str)) (hwf : WfRecs ['>'] recs)
    (hlow : ∀ r ∈ recs, noLower r.2.flatten = true) :
    fastaBytes (unlines (recLines '>' recs)) = expected recs := by
  rw [← fileRaw_ofWritten, fastaBytes_grecs _ (wfFile_ofWritten hwf), records_ofWritten hwf]
  exact map_rebuild fun r hr => by
    obtain ⟨x, hx, rfl⟩ := List.mem_map.mp hr
    exact upper_id (hlow x hx)

end CogentModel.SeqFormats
