import Mathlib.Algebra.BigOperators.Group.List.Basic
import Mathlib.Algebra.Order.Group.Nat
import Mathlib.Tactic.Ring
import CogentModel.Model.Prune
/-!
Sanity of the first-principles definition: with `keep ≡ true`, `labelings m t` is exactly the set of
all assignments of a state `< m` to every node of `t`, and there are `m ^ (number of nodes)` of them.
-/
namespace CogentModel.Prune

variable {R α : Type}

def LTree.kids : LTree R α → List (LTree R α)
  | .leaf _ _ _ => []
  | .node _ _ cs => cs

theorem LTree.allStates_eq (p : Nat → Bool) (l : LTree R α) :
    l.allStates p = (p l.state && LTree.allStatesL p l.kids) := by
  cases l <;> simp [LTree.allStates, LTree.state, LTree.kids, LTree.allStatesL]

abbrev allKeep : α → Nat → Bool := fun _ _ => true

/-- membership in `labelingsAt`; the motive for lists of siblings is membership in `labelingsL` -/
theorem mem_labelingsAt (m : Nat) (t : PTree R α) : ∀ (s : Nat) (l : LTree R α),
    l ∈ labelingsAt allKeep m t s ↔
      (l.erase = t ∧ l.state = s ∧ LTree.allStatesL (fun x => decide (x < m)) l.kids = true) := by
  induction t using PTree.rec (motive_2 := fun cs => ∀ ls : List (LTree R α),
      ls ∈ labelingsL allKeep m cs ↔
        (LTree.eraseL ls = cs ∧ LTree.allStatesL (fun x => decide (x < m)) ls = true)) with
  | leaf P a =>
    intro s l
    cases l <;> simp [labelingsAt, allKeep, LTree.erase, LTree.state, LTree.kids, LTree.allStatesL, and_assoc]
  | node P cs ih =>
    intro s l
    cases l with
    | leaf P' a' s' => simp [labelingsAt, LTree.erase]
    | node P' s' ls =>
      simp only [labelingsAt, List.mem_map, LTree.node.injEq, LTree.erase, PTree.node.injEq, LTree.state,
        LTree.kids, ih]
      constructor
      · rintro ⟨ls', ⟨h1, h2⟩, rfl, rfl, rfl⟩
        exact ⟨⟨rfl, h1⟩, rfl, h2⟩
      · rintro ⟨⟨rfl, h1⟩, rfl, h2⟩
        exact ⟨ls, ⟨h1, h2⟩, rfl, rfl, rfl⟩
  | nil =>
    rename_i ls
    cases ls <;> simp [labelingsL, LTree.eraseL, LTree.allStatesL]
  | cons c cs ihc ihcs =>
    rename_i ls
    cases ls with
    | nil => simp [labelingsL, LTree.eraseL]
    | cons l ls' =>
      simp only [labelingsL, List.mem_flatMap, List.mem_range, List.mem_map, List.cons.injEq, LTree.eraseL,
        LTree.allStatesL, Bool.and_eq_true, ihc, ihcs, LTree.allStates_eq _ l, decide_eq_true_eq]
      constructor
      · rintro ⟨s', hs', l', ⟨e1, rfl, e3⟩, ls'', ⟨f1, f2⟩, rfl, rfl⟩
        exact ⟨⟨e1, f1⟩, ⟨hs', e3⟩, f2⟩
      · rintro ⟨⟨e1, f1⟩, ⟨hs, e3⟩, f2⟩
        exact ⟨l.state, hs, l, ⟨e1, rfl, e3⟩, ls', ⟨f1, f2⟩, rfl, rfl⟩

theorem length_labelingsAt (m : Nat) (t : PTree R α) (s : Nat) :
    (labelingsAt allKeep m t s).length = (labelingsL allKeep m t.children).length := by
  cases t <;> simp [labelingsAt, labelingsL, PTree.children]

theorem numNodes_eq (t : PTree R α) : t.numNodes = 1 + PTree.numNodesL t.children := by
  cases t <;> rfl

theorem length_labelingsL (m : Nat) : ∀ (cs : List (PTree R α)),
    (labelingsL allKeep m cs).length = m ^ PTree.numNodesL cs := by
  intro cs
  induction cs using PTree.rec_1
    (motive_1 := fun t => (labelingsL allKeep m t.children).length = m ^ PTree.numNodesL t.children) with
  | leaf P a => rfl
  | node P cs ih => exact ih
  | nil => rfl
  | cons c cs ihc ihcs =>
    -- `m` states for `c`, each with the labelings of its children and of its siblings
    simp only [labelingsL, List.length_flatMap, List.length_map, length_labelingsAt, ihc, ihcs, List.map_const',
      List.sum_replicate_nat, List.length_range, PTree.numNodesL, numNodes_eq, Nat.pow_add, Nat.pow_one, Nat.mul_assoc]

end CogentModel.Prune
