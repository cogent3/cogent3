import CogentModel.Proofs.ExceptDecEq
import Mathlib.Logic.Basic
import CogentModel.Model.SeqCoords
import CogentModel.Proofs.SeqWrap
import CogentModel.Proofs.ViewParent
import CogentModel.Proofs.SliceWindow
/-! `SeqDataView.str_value`, and `parent_coordinates()` through chains: the reported parent window,
read off the plain parent string, is the displayed string; `parent_coordinates()` of `seq[i]` after any chain. -/
namespace CogentModel.SeqCoords
open CogentModel CogentModel.View CogentModel.SeqWrap

/-- the displayed raw string is the reported parent window, strided by the reported step -/
theorem value_eq_window (s : Seq) (h : WF s) :
    ∃ ps pe : Int, parentStart s.v = .ok (s.v.offset + ps) ∧ parentStop s.v = .ok (s.v.offset + pe) ∧
      0 ≤ ps ∧ ps ≤ pe ∧ pe ≤ s.parent.length ∧
      value s = PySlice.slice (PySlice.slice s.parent (some ps) (some pe) 1) none none s.v.step := by
  obtain ⟨c0, c1, c2, a, b, hw⟩ := window_spec s.v h.1
  rw [h.2] at c2
  rw [h.2, Int.toNat_natCast] at hw
  exact ⟨_, _, a, b, c0, c1, c2, PySlice.slice_eq_stride_window s.parent _ _ c0 c1 c2 _ _ _ h.1.step_ne_zero hw⟩

/-- for offset 0 the `SeqDataView` reading (`data[parent_start:parent_stop][::step]`) is the same
string as `SeqView.value` (`data[start:stop:step]`) -/
theorem sdv_str_value_eq (data : List Char) (v : View) (h : Inv v) (hl : v.seqLen = data.length)
    (ho : v.offset = 0) :
    sdvStrValue data v = .ok (PySlice.slice data (some v.start) (some v.stop) v.step) := by
  obtain ⟨ps, pe, a, b, _, _, _, hv⟩ := value_eq_window { parent := data, v := v, nucleic := false } ⟨h, hl⟩
  simp only [ho, Int.zero_add] at a b
  unfold sdvStrValue
  rw [a, b]
  simp only []
  have : value { parent := data, v := v, nucleic := false }
      = PySlice.slice data (some v.start) (some v.stop) v.step := rfl
  rw [← this, hv]
  split
  · rename_i h1; rw [h1, PySlice.slice_full]
  · rfl

/-- with a non-zero offset `str_value` reads a shifted (and truncated) window of the stored data -/
theorem sdv_offset_counter :
    sdvStrValue "ACGTACGTAC".toList { start := 0, stop := 10, step := 1, offset := 3, seqLen := 10 }
      = .ok "TACGTAC".toList ∧
    PySlice.slice "ACGTACGTAC".toList (some 0) (some 10) 1 = "ACGTACGTAC".toList := by decide +kernel

/-- the sequence still points into the original parent, with the original offset and seqid -/
def Keep (t : List Char) (o : Int) (sid : Option String) (s : ASeq) : Prop :=
  s.q.v.offset = o ∧ s.q.parent = t ∧ s.seqid = sid

theorem rewrap_ok (s s' : ASeq) (r : Except Err Seq) (h : rewrap s r = .ok s') :
    ∃ q', r = .ok q' ∧ s' = { q := q', seqid := if q'.v.seqLen = s.q.v.seqLen then s.seqid else none } := by
  cases r with
  | error e => cases h
  | ok q' => exact ⟨q', rfl, (Except.ok.inj h).symm⟩

theorem step1_base (s s' : ASeq) (op : SOp) (h : step1 s op = .ok s') :
    ∃ q', SeqWrap.step1 s.q op = .ok q' ∧
      s' = { q := q', seqid := if q'.v.seqLen = s.q.v.seqLen then s.seqid else none } := by
  cases op <;> exact rewrap_ok s s' _ h

theorem step1_view (q q' : Seq) (op : SOp) (hq : SeqWrap.step1 q op = .ok q') :
    ∃ w, q' = wrap q w ∧ ((w.seqLen = q.v.seqLen ∧ w.offset = q.v.offset) ∨ w = zeroSlice) := by
  cases op with
  | slice a b c =>
    obtain ⟨w, hg, rfl⟩ := getitem_inv_ok q q' a b c hq
    exact ⟨w, rfl, getitemSlice_keep q.v w a b c hg⟩
  | index i =>
    obtain ⟨w, hg, rfl⟩ := getitemI_inv_ok q q' i hq
    exact ⟨w, rfl, Or.inl (getitemInt_keep q.v w i hg)⟩
  | rc =>
    obtain ⟨w, hg, rfl⟩ := getitem_inv_ok q q' none none (some (-1)) hq
    exact ⟨w, rfl, getitemSlice_keep q.v w _ _ _ hg⟩

theorem step1_wf (s s' : ASeq) (op : SOp) (h : WF s.q) (hs : step1 s op = .ok s') :
    WF s'.q ∧ s'.q.nucleic = s.q.nucleic := by
  obtain ⟨q', hq, rfl⟩ := step1_base s s' op hs
  cases op with
  | slice a b c => exact wf_getitem s.q q' a b c h hq
  | index i => exact wf_getitemI s.q q' i h hq
  | rc => exact wf_getitem s.q q' _ _ _ h hq

/-- a step keeps parent, offset and seqid, or it went through `_zero_slice`, whose parent is `""`; an empty parent
stays empty -/
theorem step1_keep (t : List Char) (o : Int) (sid : Option String) (s s' : ASeq) (op : SOp)
    (hs : step1 s op = .ok s') (hk : Keep t o sid s ∨ s.q.v.seqLen = 0) :
    Keep t o sid s' ∨ s'.q.v.seqLen = 0 := by
  obtain ⟨q', hq, rfl⟩ := step1_base s s' op hs
  obtain ⟨w, rfl, ⟨h1, h2⟩ | rfl⟩ := step1_view s.q q' op hq
  · exact hk.imp (fun hk => ⟨h2.trans hk.1, (if_pos h1).trans hk.2.1, (if_pos h1).trans hk.2.2⟩) h1.trans
  · exact .inr rfl

theorem runOps_keep (t : List Char) (o : Int) (sid : Option String) (ops : List SOp) (s s' : ASeq) (h : WF s.q)
    (hk : Keep t o sid s ∨ s.q.v.seqLen = 0) (hs : runOps s ops = .ok s') :
    WF s'.q ∧ s'.q.nucleic = s.q.nucleic ∧ (Keep t o sid s' ∨ s'.q.v.seqLen = 0) := by
  induction ops generalizing s with
  | nil => cases hs; exact ⟨h, rfl, hk⟩
  | cons op ops ih =>
    unfold runOps at hs
    cases h1 : step1 s op with
    | error e => rw [h1] at hs; cases hs
    | ok u =>
      rw [h1] at hs
      obtain ⟨wu, nu⟩ := step1_wf s u op h h1
      obtain ⟨w', n', k'⟩ := ih u wu (step1_keep t o sid s u op h1 hk) hs
      exact ⟨w', n'.trans nu, k'⟩

/-- over an empty parent nothing is displayed -/
theorem str_nil_of_seqLen (comp : Char → Char) (q : Seq) (h : WF q) (h0 : q.v.seqLen = 0) : str comp q = [] := by
  have he : elems q.v = [] := List.eq_nil_iff_forall_not_mem.2 fun i hi => by
    have := elems_mem_range q.v h.1 i hi
    omega
  rw [str_eq_elems comp q h, he]; rfl

/-- after any chain from `make_seq(t, name=sid, annotation_offset=o)` the sequence is well formed, of the same
kind, and, unless it displays nothing, still points into `t` with offset `o` and seqid `sid` -/
theorem runOps_ofString (comp : Char → Char) (t : List Char) (nucleic : Bool)
    (o : Int) (sid : Option String) (ops : List SOp) (s' : ASeq)
    (hs : runOps (ofString t nucleic o sid) ops = .ok s') :
    WF s'.q ∧ s'.q.nucleic = nucleic ∧ (str comp s'.q ≠ [] → Keep t o sid s') := by
  obtain ⟨hwf', hn, hk⟩ := runOps_keep t o sid ops _ s' (wf_ofString t nucleic) (.inl ⟨rfl, rfl, rfl⟩) hs
  exact ⟨hwf', hn, fun hne => hk.resolve_right fun h0 => hne (str_nil_of_seqLen comp s'.q hwf' h0)⟩

/-- reading the reported coordinates off the parent gives the displayed string -/
theorem str_eq_readSegment (comp : Char → Char) (q : Seq) (h : WF q) :
    ∃ ps pe : Int, parentStart q.v = .ok (q.v.offset + ps) ∧ parentStop q.v = .ok (q.v.offset + pe) ∧
      0 ≤ ps ∧ ps ≤ pe ∧ pe ≤ q.parent.length ∧
      str comp q = readSegment comp q.nucleic q.parent ps pe (if q.v.step < 0 then -1 else 1) (pyabs q.v.step) := by
  obtain ⟨ps, pe, a, b, c0, c1, c2, hv⟩ := value_eq_window q h
  refine ⟨ps, pe, a, b, c0, c1, c2, ?_⟩
  have hs := h.1.step_ne_zero
  unfold str readSegment pyabs
  simp only []
  rcases Int.lt_or_lt_of_ne hs with hk | hk
  · simp only [hk, if_true, true_and]
    have e : q.v.step = -(-q.v.step) := by omega
    rw [hv]
    conv => lhs; rw [e]
    rw [PySlice.slice_neg_rev _ (-q.v.step) (by omega)]
    cases hn : q.nucleic
    · simp
    · simp only [if_true]
      rw [PySlice.slice_map _ _ _ _ _ (by omega)]
  · have hk' : ¬ q.v.step < 0 := by omega
    simp only [hk', if_false, false_and]
    rw [hv]
    simp

theorem parent_coordinates_chain' (comp : Char → Char) (t : List Char) (nucleic : Bool) (o : Int)
    (sid : Option String) (ops : List SOp) (s' : ASeq) (hs : runOps (ofString t nucleic o sid) ops = .ok s')
    (hne : str comp s'.q ≠ []) :
    ∃ ps pe : Int,
      parentCoordinates s' = .ok (sid, o + ps, o + pe, if s'.q.v.step < 0 then -1 else 1) ∧
      annotationOffset s' = .ok (o + ps) ∧ 0 ≤ ps ∧ ps ≤ pe ∧ pe ≤ t.length ∧
      str comp s'.q = readSegment comp nucleic t ps pe (if s'.q.v.step < 0 then -1 else 1) (pyabs s'.q.v.step) := by
  obtain ⟨hwf, hn, hk⟩ := runOps_ofString comp t nucleic o sid ops s' hs
  obtain ⟨k1, k2, k3⟩ := hk hne
  obtain ⟨ps, pe, a, b, c0, c1, c2, hstr⟩ := str_eq_readSegment comp s'.q hwf
  rw [k1] at a b
  rw [k2] at c2 hstr
  rw [hn] at hstr
  refine ⟨ps, pe, ?_, a, c0, c1, c2, hstr⟩
  unfold parentCoordinates
  rw [a, b, k3]

/-- **`parent_coordinates()` of `seq[i]` after any chain** of slices / indexing / rc from
`make_seq(t, name=sid, annotation_offset=o)`: whenever the displayed string has an `i`-th character `ch`
(python indexing, negative from the end), `seq[i]` succeeds, displays `[ch]`, and reports
`(sid, o + x, o + x + 1, strand of seq)` for a parent position `x` with `0 ≤ x < len(t)` at which the parent
holds `ch` (complemented iff `seq` is a reversed nucleic acid); `annotation_offset` of the result is `o + x`.
Otherwise `seq[i]` raises `IndexError`. -/
theorem parent_coordinates_index' (comp : Char → Char) (t : List Char) (nucleic : Bool) (o : Int)
    (sid : Option String) (ops : List SOp) (s' : ASeq) (i : Int) (hs : runOps (ofString t nucleic o sid) ops = .ok s') :
    (∀ ch, PySlice.index (str comp s'.q) i = some ch →
      ∃ s'' x, step1 s' (.index i) = .ok s'' ∧ str comp s''.q = [ch] ∧
        parentCoordinates s'' = .ok (sid, o + x, o + x + 1, if s'.q.v.step < 0 then -1 else 1) ∧
        annotationOffset s'' = .ok (o + x) ∧ 0 ≤ x ∧ x < t.length ∧
        ch = (if s'.q.v.step < 0 ∧ nucleic then comp (t[x.toNat]!) else t[x.toNat]!)) ∧
    (PySlice.index (str comp s'.q) i = none → step1 s' (.index i) = .error .indexError) := by
  obtain ⟨hwf, rfl, hk⟩ := runOps_ofString comp t _ o sid ops s' hs
  refine ⟨fun ch hch => ?_, fun hnone => ?_⟩
  · obtain ⟨rfl, rfl, rfl⟩ := hk fun he => by rw [he] at hch; simp [PySlice.index] at hch
    rw [index_str comp s'.q i hwf] at hch
    obtain ⟨x, hx, rfl⟩ := Option.map_eq_some_iff.1 hch
    obtain ⟨hg, x0, x1, -, hstr⟩ := getitemI_single comp s'.q hwf i x hx
    obtain ⟨_, _, _, _, s5, s7, s8⟩ := single_spec s'.q.v x x0 (hwf.2 ▸ x1)
    refine ⟨{ q := { s'.q with v := single s'.q.v x }, seqid := s'.seqid }, x, ?_, hstr, ?_, s7, x0, x1, ite_apply ..⟩
    · show rewrap s' (getitemI s'.q i) = _
      rw [hg, rewrap, if_pos s5]
    · unfold parentCoordinates
      simp only []
      rw [s7, s8]
      simp only [single_step_neg s'.q.v hwf.1 x]
  · show rewrap s' (getitemI s'.q i) = _
    rw [index_str comp s'.q i hwf, Option.map_eq_none_iff] at hnone
    rw [getitemI_none s'.q i hnone]; rfl

end CogentModel.SeqCoords
