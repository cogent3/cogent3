import CogentModel.Proofs.AtomicCrashStates
/-! The own-temp-dir route of `atomic_write` when a call raises: the phase of every call (`phaseAt_*`), and the state
after the handler of that phase ran.  Before the commit every handler ends in the `rmtree` (`fault_cleanup`); the
positions of the commit and after it are treated one by one. -/
namespace CogentModel.AtomicWrite

/-- the calls from the close on, counted from the end of the writes -/
theorem phaseAt_tail (c : Cfg) (d : Nat) :
    phaseAt c (c.chunks.length + d + 2) = (((closeInstr c :: post c)[d]?).map (·.phase)).getD .cleanup := by
  rw [phaseAt, program_eq, List.getElem?_cons_succ, List.getElem?_cons_succ, ← writes_length c,
    List.getElem?_append_right (Nat.le_add_right _ _), Nat.add_sub_cancel_left]
  cases (closeInstr c :: post c)[d]? <;> rfl

theorem phaseAt_0 (c : Cfg) : phaseAt c 0 = .ctor := by simp [phaseAt, program, pre]
theorem phaseAt_1 (c : Cfg) : phaseAt c 1 = .enter := by simp [phaseAt, program, pre]
theorem phaseAt_body (c : Cfg) (j : Nat) (hj : j < c.chunks.length) : phaseAt c (j + 2) = .body := by
  simp [phaseAt, program, pre, writes, List.getElem?_append, hj]

theorem fault_cleanup (c : Cfg) (fs : FS) (h : WF c fs) (k : Nat) (hk1 : 1 ≤ k) (hk : k ≤ (pre c).length)
    (hl : handler c (phaseAt c k) = [⟨.rmtree c.tmpdir, .cleanup⟩] ∨
      handler c (phaseAt c k) = [⟨.close c.tmpfile, .exitClose⟩, ⟨.rmtree c.tmpdir, .cleanup⟩]) :
    faultState c fs k c.dest = fs c.dest ∧ ∀ p, under c.tmpdir p = true → faultState c fs k p = none := by
  have hr := exec_rmtree c h.hne _ (crash_tmpdir_pre c fs h k hk1 hk)
  rw [crash_before_commit c fs h.hne k hk] at hr
  unfold faultState
  rcases hl with e | e
  · rw [e]; exact hr
  · rw [e]; exact hr  -- `exec` steps over the close, which changes nothing, by evaluation

/-- any call before the commit raising (mkdtemp, open, a data write, close), whatever the target: destination
untouched, no temp left -/
theorem fault_before_commit (c : Cfg) (fs : FS) (h : WF c fs) (hg : c.guarded = true) (hw : c.withBlock = true)
    (hb : c.bodyUnlink = false) (k : Nat) (hk : k < (pre c).length) :
    faultState c fs k c.dest = fs c.dest ∧ ∀ p, under c.tmpdir p = true → faultState c fs k p = none := by
  have hk' := hk
  rw [pre_length] at hk'
  match k, hk' with
  | 0, _ =>
    simp only [faultState, phaseAt_0, handler, exec, crash_zero, true_and]
    exact fun p hp => h.hfresh p hp
  | 1, _ => exact fault_cleanup c fs h 1 (Nat.le_refl _) (Nat.le_of_lt hk) (Or.inl (by rw [phaseAt_1]; simp [handler, hg]))
  | j + 2, hk' =>
    refine fault_cleanup c fs h _ (Nat.le_add_left _ _) (Nat.le_of_lt hk) ?_
    by_cases hj : j < c.chunks.length
    · rw [phaseAt_body c j hj]; simp [handler, hw, hb]
    · obtain rfl : j = c.chunks.length := by omega
      rw [show phaseAt c (c.chunks.length + 2) = _ from phaseAt_tail c 0]
      cases hcb : c.closeInBody <;> simp [closeInstr, hcb, handler, hg, hw, hb]

/-- fault at any call before the final rmtree, one-call commit -/
theorem fault_guarded_replace (c : Cfg) (fs : FS) (h : WF c fs) (hz : c.zipMember = none)
    (hc : c.commit = .replace) (hg : c.guarded = true) (hw : c.withBlock = true) (hb : c.bodyUnlink = false)
    (k : Nat) (hk : k + 1 < (program c).length) :
    faultState c fs k c.dest = fs c.dest ∧ ∀ p, under c.tmpdir p = true → faultState c fs k p = none := by
  rw [program_length_replace c hz hc] at hk
  by_cases hlt : k < (pre c).length
  · exact fault_before_commit c fs h hg hw hb k hlt
  · obtain rfl : k = (pre c).length := by omega
    refine fault_cleanup c fs h _ (by rw [pre_length]; omega) (Nat.le_refl _) (Or.inl ?_)
    rw [pre_length, show phaseAt c (c.chunks.length + 3) = _ from phaseAt_tail c 1, post_replace c hz hc]
    simp [handler, hg]

/-- the final `rmtree` raising (swallowed, `ignore_errors=True`): nothing runs after it and the commit has happened -/
theorem fault_at_cleanup_replace (c : Cfg) (fs : FS) (h : WF c fs) (hz : c.zipMember = none) (hc : c.commit = .replace)
    (k : Nat) (hk : k + 1 = (program c).length) :
    faultState c fs k c.dest = some (.file c.newData) := by
  rw [program_length_replace c hz hc] at hk
  obtain rfl : k = (pre c).length + 1 := Nat.succ.inj hk
  have hp : phaseAt c ((pre c).length + 1) = .cleanup := by
    rw [pre_length]; exact (phaseAt_tail c 2).trans (by rw [post_replace c hz hc]; rfl)
  rw [faultState, hp]
  exact crash_replace_after c fs h hz hc _ (Nat.lt_succ_self _)

section zipfault
variable (c : Cfg) (fs : FS) (h : WF c fs) (m : Nat) (hg : c.guarded = true)
include h hg

/-- the open of the archive for append raising: zipfile retries with 'w+b', the write "succeeds" with
an archive that holds ONLY the new member -/
theorem fault_at_zipData (hz : c.zipMember = some m) (ms : List (Nat × Data)) (hold : fs c.dest = some (.archive ms false)) :
    faultState c fs (pre c).length c.dest = some (.archive [(m, c.newData)] false) ∧
    ∀ p, under c.tmpdir p = true → faultState c fs (pre c).length p = none := by
  have hph : phaseAt c (pre c).length = .zipData := by
    rw [pre_length, show phaseAt c (c.chunks.length + 3) = _ from phaseAt_tail c 1, post_zip c m hz]; rfl
  have hcr : crashState c fs (pre c).length = preState c fs c.newData := by
    rw [crash_after_pre c fs h _ (Nat.le_refl _)]; simp [exec]
  unfold faultState
  rw [hph, hcr]
  simp only [handler, hg, if_true, hz, List.cons_append, List.nil_append]
  have e0 := preState_dest c fs h c.newData
  have r1 : runInstr (preState c fs c.newData) ⟨.zipTrunc c.dest, .zipData⟩
      = .ok (upd (preState c fs c.newData) c.dest (some (.archive [] false))) := by
    simp [runInstr, step, isDir, e0, hold, preState_dir c fs h]
  have r2 : runInstr (upd (preState c fs c.newData) c.dest (some (.archive [] false))) ⟨.zipData c.dest m c.tmpfile, .zipData⟩
      = .ok (upd (preState c fs c.newData) c.dest (some (.archive [(m, c.newData)] true))) := by
    simp only [runInstr, step, upd_other _ _ _ _ (tmpfile_ne_dest c), preState_tmpfile, upd_same, List.nil_append, upd_idem]
  have r3 : runInstr (upd (preState c fs c.newData) c.dest (some (.archive [(m, c.newData)] true))) ⟨.zipDir c.dest, .zipDir⟩
      = .ok (upd (preState c fs c.newData) c.dest (some (.archive [(m, c.newData)] false))) := by
    simp only [runInstr, step, upd_same, upd_idem]
  have hd : upd (preState c fs c.newData) c.dest (some (.archive [(m, c.newData)] false)) c.tmpdir = some .dir := by
    rw [upd_other _ _ _ _ (tmpdir_ne_dest c h.hne), preState_tmpdir]
  rw [exec_cons_ok _ _ _ _ r1, exec_cons_ok _ _ _ _ r2, exec_cons_ok _ _ _ _ r3]
  have hr := exec_rmtree c h.hne _ hd
  exact ⟨hr.1.trans (upd_same _ _ _), hr.2⟩

/-- the close of the archive (central directory) raising: the temp dir is removed, the archive stays torn -/
theorem fault_at_zipDir (hz : c.zipMember = some m) (ms : List (Nat × Data)) (hold : fs c.dest = some (.archive ms false)) :
    readable (faultState c fs ((pre c).length + 1) c.dest) = none ∧
    ∀ p, under c.tmpdir p = true → faultState c fs ((pre c).length + 1) p = none := by
  have hph : phaseAt c ((pre c).length + 1) = .zipDir := by
    rw [pre_length]; exact (phaseAt_tail c 2).trans (by rw [post_zip c m hz]; rfl)
  unfold faultState
  rw [hph, crash_after_first c fs h _ _ (post_zip c m hz) _ (run_zipData c fs h m ms hold)]
  simp only [handler, hg, if_true]
  have hd : zipTorn c fs ms m c.tmpdir = some .dir := by
    simp [zipTorn, upd, tmpdir_ne_dest c h.hne, preState_tmpdir c fs]
  have hr := exec_rmtree c h.hne _ hd
  exact ⟨by rw [hr.1]; simp [zipTorn, readable], hr.2⟩

end zipfault

end CogentModel.AtomicWrite
