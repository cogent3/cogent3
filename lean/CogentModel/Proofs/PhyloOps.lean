import CogentModel.Proofs.PhyloReroot
import CogentModel.Proofs.PhyloSorted
import CogentModel.Proofs.PhyloPhi
/-! C09: induction over histories of re-rootings, sortings and copies. -/
namespace CogentModel.Phylo
open PTree
variable {K : Type}

/-- re-rooting at any node keeps the tips, the split multiset and every path length -/
theorem rerootAt_preserves [AddCommMonoid K] (d : K) (t r : PTree K) (p : List Nat)
    (h : rerootAt t p = some r) (hdeg : 2 ≤ t.children.length) (hnd : (tips t).Nodup) :
    (tips r).Perm (tips t) ∧ SplitsEquiv (tips t) (splits t) (splits r) ∧
      ∀ a b, a ∈ tips t → b ∈ tips t → distSpec d a b r = distSpec d a b t :=
  have hs := rerootAt_spec t r p h (Or.inr hdeg)
  ⟨hs.1, hs.2 hnd, fun a b ha hb => hs.topo hnd d _ (bipPred_sep _ a b ha hb)⟩

/-- one step of a history keeps the degree of the root, the tips and the split multiset -/
theorem applyOp_spec (t r : PTree K) (op : TOp) (h : applyOp t op = some r)
    (hdeg : 2 ≤ t.children.length) : 2 ≤ r.children.length ∧ SameSplits t r := by
  cases op with
  | reroot p => exact ⟨rerootGo_degree p [] t r h (.inr (.inr hdeg)), rerootAt_spec t r p h (Or.inr hdeg)⟩
  | sorted o => cases h; exact ⟨(sorted_degree t o).symm ▸ hdeg, (sorted_ok t o).sameSplits⟩
  | copy => cases h; exact ⟨hdeg, .refl t⟩

theorem applyOps_spec : ∀ (ops : List TOp) (t r : PTree K), applyOps t ops = some r →
    2 ≤ t.children.length → SameSplits t r
  | [], t, r, h, _ => by cases h; exact .refl t
  | op :: ops, t, r, h, hdeg => by
    simp only [applyOps] at h
    split at h
    · cases h
    · rename_i m h1
      obtain ⟨hd, hs⟩ := applyOp_spec t m op h1 hdeg
      exact hs.trans (applyOps_spec ops m r h hd)

end CogentModel.Phylo
