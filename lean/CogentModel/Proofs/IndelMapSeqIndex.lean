import CogentModel.Proofs.IndelMapDropTake
import CogentModel.Proofs.IndelMapGapSpans
import CogentModel.Proofs.IndelMapSearchSorted
/-! `get_seq_index`: what `searchsorted` finds gives a closed form (`siCore`); the code computes it, and so does the
scan over the triples; the scan counts the residues before the column (taking the first `i` columns leaves a pattern
whose residues are counted directly), and beyond the end it counts on. -/
namespace CogentModel.IndelMap
open CogentModel.Gapped List

/-- `get_seq_index` in closed form, generalised by the previous cumulative length: with `l` the number of gaps that end
before column `ai` (`searchsorted`), the column lies in gap `l` and shows its position, or it lies before that gap
(after all gaps, for `l` the number of gaps) and `cum[l - 1]` columns before it are gaps -/
def siCore (prevCum : Int) (gp cum : List Int) (ai : Int) : Int :=
  if ssLeft (gapEnds gp cum) ai < gp.length ∧ getN (startsFrom prevCum gp cum) (ssLeft (gapEnds gp cum) ai) ≤ ai
  then getN gp (ssLeft (gapEnds gp cum) ai) else ai - getN (prevCum :: cum) (ssLeft (gapEnds gp cum) ai)

/-- the scan computes the closed form -/
theorem siCore_eq_T (gp cum : List Int) (pp pc next ai : Int) (h : Inc pp pc gp cum) :
    seqIdxT (next + pc) next (trips pc gp cum) ai = siCore pc gp cum ai := by
  fun_induction Inc pp pc gp cum generalizing next with
  | case1 pp pc p ps c cs ih =>
    obtain ⟨_, h2, h3⟩ := h
    rw [seqIdxT_trips_cons]
    simp only [siCore, gapEnds, startsFrom, ssLeft, length_cons]
    by_cases hlt : p + c < ai
    · rw [if_neg (by omega), if_neg (by omega), ih p h3, if_pos hlt]
      simp only [siCore, getN_cons_succ, Nat.add_lt_add_iff_right]
    · rw [if_neg hlt]
      simp only [getN_cons_zero, Nat.zero_lt_succ, true_and]
      by_cases h1 : ai < p + pc
      · rw [if_pos h1, if_neg (by omega)]
      · rw [if_neg h1, if_pos (by omega), if_pos (by omega)]
  | case2 =>
    simp only [trips, seqIdxT, siCore, gapEnds, ssLeft, length_nil, Nat.lt_irrefl, false_and, if_false, getN_cons_zero]
    omega
  | case3 => exact h.elim

/-- the index arithmetic of `get_seq_index` computes the closed form: beyond the last gap end `searchsorted` counts
all gaps, at it the last gap is found (and `cum[-1]` is its cumulative length); `cum[index - 1]` wraps around for
`index = 0`, but then `ai < starts[0]` is excluded -/
theorem seqIndexNN_eq_siCore (m : IMap) (h : WF m) (ai : Int) :
    seqIndexNN m ai = siCore 0 m.gapPos m.cumLens ai := by
  obtain ⟨gp, cum, pl⟩ := m
  have hl : gp.length = cum.length := h.len_eq
  have hinc : Inc (-1) 0 gp cum := h.inc
  unfold seqIndexNN siCore gapStarts
  simp only
  generalize hlv : ssLeft (gapEnds gp cum) ai = l
  by_cases hfirst : gp = [] ∨ ai < gp.headD 0
  · -- before the first gap `searchsorted` finds nothing
    have hl0 : l = 0 := by
      rw [← hlv]
      match gp, cum, hinc, hfirst with
      | [], _, _, _ => cases cum <;> rfl
      | p :: ps, c :: cs, hinc, hfirst =>
        have := hinc.2.1
        have : ai < p := hfirst.resolve_left (cons_ne_nil _ _)
        rw [gapEnds, ssLeft, if_neg (by omega)]
    subst hl0
    rw [if_pos hfirst, if_neg, getN_cons_zero, Int.sub_zero]
    rintro ⟨hn, hs⟩
    have hp : ai < gp.headD 0 := hfirst.resolve_left (List.ne_nil_of_length_pos hn)
    rw [(gapSpans_at gp cum _ _ hinc 0 hn).1, getN_cons_zero] at hs
    cases gp with
    | nil => cases hn
    | cons p ps => exact absurd hs (by rw [getN_cons_zero]; exact Int.not_le.mpr (by simpa using hp))
  · have hne : gp ≠ [] := fun e => hfirst (Or.inl e)
    have hcne : cum ≠ [] := fun e => hne (length_eq_zero_iff.mp (by rw [hl, e]; rfl))
    have hEs := inc_ends_pairwise gp cum (-1) 0 hinc
    have hElen := gapEnds_length gp cum hl
    have hlastE := lastD_gapEnds gp cum hl hne
    rw [if_neg hfirst]
    by_cases hgt : lastD (gapEnds gp cum) < ai
    · -- beyond the last gap `searchsorted` counts them all
      have : l = gp.length := by
        rw [← hlv, ← hElen]
        exact ssLeft_all _ _ fun x hx => Int.lt_of_le_of_lt (pairwise_le_lastD _ hEs x hx) hgt
      rw [if_pos (by omega), if_neg (by omega), this, hl, getN_cons_length cum 0 hcne]
    · have hlt : l < gp.length := by
        rw [← hlv, ← hElen]
        exact ssLeft_lt_length _ _ (fun e => hne (length_eq_zero_iff.mp (by rw [← hElen, e]; rfl))) (by omega)
      have hle : ai ≤ getN (gapEnds gp cum) l := by
        rw [← hlv]; exact ssLeft_lt_spec _ _ (by rw [hlv, hElen]; exact hlt)
      obtain ⟨h1, h2, h3⟩ := gapSpans_at gp cum _ _ hinc l hlt
      -- the position and cumulative length of the last gap are the largest
      have h4 := pairwise_le_lastD gp h.pos_sorted _ (getN_mem gp l hlt)
      have h5 := pairwise_le_lastD cum (pairwise_cons.mp h.cum_sorted).2 _ (getN_mem cum l (hl ▸ hlt))
      have h6 : l = 0 → getN gp l = gp.headD 0 ∧ getN (0 :: cum) l = 0 := by
        rintro rfl; exact ⟨by cases gp <;> rfl, rfl⟩
      have h7 : l ≠ 0 → getN cum (l - 1) = getN (0 :: cum) l := fun hl0 => (if_neg hl0).symm.trans (getN_cons_pred 0 cum l)
      rw [hlastE] at hgt ⊢
      generalize getN (startsFrom 0 gp cum) l = S at *
      generalize getN (gapEnds gp cum) l = E at *
      generalize getN (0 :: cum) l = X at *
      generalize getN cum (l - 1) = X' at *
      generalize getN cum l = C at *
      generalize getN gp l = G at *
      generalize gp.headD 0 = H at *
      clear hEs hElen hlastE hinc hl hlv hcne hne h
      by_cases hS : S ≤ ai
      · rw [if_pos (show l < gp.length ∧ S ≤ ai from ⟨hlt, hS⟩), if_neg (show ¬ ai < S by omega)]
        split
        · omega
        · split <;> omega
      · rw [if_neg (show ¬ (l < gp.length ∧ S ≤ ai) from fun hh => hS hh.2),
          if_neg (show ¬ ai ≥ lastD gp + lastD cum by omega), if_pos (show ai < S by omega)]
        by_cases hl0 : l = 0
        · have := h6 hl0; omega
        · rw [if_neg hl0, h7 hl0]

theorem seqIndexNN_eq_T (m : IMap) (h : WF m) (ai : Int) :
    seqIndexNN m ai = seqIdxT 0 0 (trips 0 m.gapPos m.cumLens) ai := by
  rw [seqIndexNN_eq_siCore m h, ← siCore_eq_T _ _ (-1) 0 0 ai h.inc]; rfl

theorem seq_index_spec' (m : IMap) (h : WF m) (i : Int) (h0 : 0 ≤ i) (h1 : i ≤ len m) :
    seqIndexNN m i = (seqIndex (abs m) i.toNat : Int) := by
  have hTs := h.tsorted
  have hTr := trel_trips m.gapPos m.cumLens
  obtain ⟨c1, c2, c3⟩ := patG_cut _ 0 0 m.parentLength i hTs hTr h0 (by rw [endColT_abs m h]; exact h1)
  rw [Int.sub_zero] at c2 c3
  rw [seqIndexNN_eq_T m h, seqIndex, seqLen_eq_count, pattern, map_take, ← pattern, pattern_abs_trips, c1,
    take_left' c2, c3, Int.toNat_of_nonneg (seqIdxT_ge_next _ 0 0 i hTs hTr h0)]

/-- from the end on, `get_seq_index` counts on from the parent length -/
theorem seqIndexNN_beyond (m : IMap) (h : WF m) (x : Int) (hx : len m ≤ x) :
    seqIndexNN m x = m.parentLength + (x - len m) := by
  unfold seqIndexNN
  by_cases hg : m.gapPos = []
  · rw [if_pos (Or.inl hg)]; unfold len at hx ⊢; rw [if_pos hg] at hx ⊢; omega
  · have hlen : len m = m.parentLength + lastD m.cumLens := by unfold len; rw [if_neg hg]
    have hc := cum_pos m h _ (lastD_mem _ (mt h.gapPos_eq_nil_iff.mpr hg))
    have hp := (h.pos_range _ (lastD_mem _ hg)).2
    have hh : m.gapPos.headD 0 ≤ m.parentLength := by
      cases hgp : m.gapPos with
      | nil => exact absurd hgp hg
      | cons p ps => exact (h.pos_range p (by rw [hgp]; exact mem_cons_self)).2
    rw [if_neg (by simp only [hg, false_or]; omega)]
    simp only
    rw [lastD_gapEnds _ _ h.len_eq hg, if_pos (by omega)]; omega

/-- the columns of a map hold exactly `parentLength` residues -/
theorem seqLen_abs (m : IMap) (h : WF m) : seqLen (abs m) = m.parentLength.toNat := by
  have hl := len_eq' m h
  have := seq_index_spec' m h (len m) (by omega) (Int.le_refl _)
  rw [seqIndexNN_beyond m h _ (Int.le_refl _), seqIndex, take_of_length_le (by omega)] at this
  omega

/-- **`get_seq_index` of every column `0 ≤ x`**: the residues before the column, and one more for every column
beyond the end -/
theorem seqIndexNN_eq (m : IMap) (h : WF m) (x : Int) (hx : 0 ≤ x) :
    seqIndexNN m x = (seqIndex (abs m) x.toNat : Int) + (x - len m).toNat := by
  by_cases hxl : x ≤ len m
  · rw [seq_index_spec' m h x hx hxl, Int.toNat_eq_zero.mpr (Int.sub_nonpos_of_le hxl)]; exact (Int.add_zero _).symm
  · have hle : len m ≤ x := Int.le_of_lt (Int.not_le.mp hxl)
    have hlen := len_eq' m h
    rw [seqIndexNN_beyond m h x hle, seqIndex, take_of_length_le (by omega), seqLen_abs m h,
      Int.toNat_of_nonneg h.pl_nonneg, Int.toNat_of_nonneg (Int.sub_nonneg.mpr hle)]

theorem seqIndexNN_mono (m : IMap) (h : WF m) (x y : Int) (hx : 0 ≤ x) (hxy : x ≤ y) :
    seqIndexNN m x ≤ seqIndexNN m y := by
  rw [seqIndexNN_eq m h x hx, seqIndexNN_eq m h y (Int.le_trans hx hxy)]
  exact Int.add_le_add (Int.ofNat_le.mpr (length_filter_take_le _ _ (Int.toNat_le_toNat hxy)))
    (Int.ofNat_le.mpr (Int.toNat_le_toNat (Int.sub_le_sub_right hxy _)))

end CogentModel.IndelMap
