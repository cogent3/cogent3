import CogentModel.Proofs.IndelMapPattern
namespace CogentModel.IndelMap
open CogentModel.Gapped List CogentModel

theorem toNat_mul_nat (x : Int) (n : Nat) : (x * (n : Int)).toNat = x.toNat * n := by
  rcases Int.lt_or_le x 0 with h | h
  · have h1 : x * (n : Int) ≤ 0 := Int.mul_nonpos_of_nonpos_of_nonneg (by omega) (by omega)
    have h2 : x.toNat = 0 := by omega
    rw [h2]; omega
  · obtain ⟨m, rfl⟩ := Int.eq_ofNat_of_zero_le h
    rw [← Int.natCast_mul, Int.toNat_natCast, Int.toNat_natCast]

theorem diffsFrom_scale (cum : List Int) (k : Int) : ∀ pc,
    diffsFrom (pc * k) (cum.map (· * k)) = (diffsFrom pc cum).map (· * k) := by
  induction cum with
  | nil => intro _; rfl
  | cons c cs ih => intro pc; simp only [map_cons, diffsFrom, ih, Int.sub_mul]

theorem patG_scale (k : Nat) (G : List (Int × Int)) : ∀ (next pl : Int),
    patG (next * k) (G.map fun g => (g.1 * k, g.2 * k)) (pl * k) =
      (patG next G pl).flatMap (fun x => replicate k x) := by
  induction G with
  | nil => intro next pl; simp only [map_nil, patG, ← Int.sub_mul, toNat_mul_nat, List.flatMap_replicate, flatten_replicate_replicate]
  | cons g r ih =>
    intro next pl
    obtain ⟨p, l⟩ := g
    simp only [map_cons, patG, flatMap_append, ih, ← Int.sub_mul, toNat_mul_nat, List.flatMap_replicate, flatten_replicate_replicate]

end CogentModel.IndelMap
