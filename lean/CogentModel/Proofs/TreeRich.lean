import CogentModel.Model.TreeRich
/-! Tree rich dict: with unique names the attribute dict returns every node its own entry and the name parser returns
every printed name unchanged, so rebuilding by name is the identity; the arities survive whatever the names are. -/
namespace CogentModel.TreeRich

theorem dictGet_set_same {β} (d : List (String × β)) (k : String) (v : β) :
    dictGet (dictSet d k v) k = some v := by
  induction d with
  | nil => simp [dictSet, dictGet]
  | cons p d ih => by_cases h : p.1 = k <;> simp [dictSet, dictGet, h, ih]

theorem dictGet_set_other {β} (d : List (String × β)) (k k2 : String) (v : β) (h : k2 ≠ k) :
    dictGet (dictSet d k v) k2 = dictGet d k2 := by
  induction d with
  | nil => simp [dictSet, dictGet, h.symm]
  | cons p d ih =>
    by_cases h1 : p.1 = k <;> by_cases h2 : p.1 = k2 <;> simp_all [dictSet, dictGet]

/-- the attribute dict built by assignment in traversal order: with unique names every node finds its own entry,
and keys that are not node names are untouched -/
theorem foldl_attrs {V} (t : List (NodeRec V)) :
    ∀ (d : List (String × Attr V)), (names t).Nodup →
      (∀ n ∈ t, dictGet (t.foldl (fun d n => dictSet d n.name (n.length, n.params)) d) n.name
          = some (n.length, n.params)) ∧
      (∀ k, k ∉ names t → dictGet (t.foldl (fun d n => dictSet d n.name (n.length, n.params)) d) k = dictGet d k) := by
  induction t with
  | nil => intro d _; simp [names]
  | cons a t ih =>
    intro d hnd
    simp only [names, List.map_cons, List.nodup_cons] at hnd
    obtain ⟨ha, hnd⟩ := hnd
    obtain ⟨h1, h2⟩ := ih (dictSet d a.name (a.length, a.params)) hnd
    refine ⟨?_, ?_⟩
    · intro n hn
      simp only [List.mem_cons] at hn
      rcases hn with rfl | hn
      · simp only [List.foldl_cons]
        rw [h2 _ ha, dictGet_set_same]
      · simpa only [List.foldl_cons] using h1 n hn
    · intro k hk
      simp only [names, List.map_cons, List.mem_cons, not_or] at hk
      simp only [List.foldl_cons]
      rw [h2 k hk.2, dictGet_set_other _ _ _ _ hk.1]

theorem uniqueName_fresh (fuel : Nat) (used : Used) (n : String) (hne : n ≠ "") (hfree : dictGet used n = none) :
    uniqueName (fuel + 1) used n = (n, dictSet used n 1) := by
  simp [uniqueName, hne, hfree]

theorem printedNames_concat {V} (body : List (NodeRec V)) (r : NodeRec V) :
    printedNames (body ++ [r]) = names body ++ [""] := by
  induction body with
  | nil => rfl
  | cons a body ih =>
    obtain ⟨x, xs, hx⟩ : ∃ x xs, body ++ [r] = x :: xs := by cases body <;> simp
    rw [List.cons_append, hx, printedNames, ← hx, ih]; rfl

/-- fresh, non-empty, distinct names pass through the builder unchanged; the root, printed without a name, is called "root" -/
theorem parseNames_fresh (ns : List String) : ∀ (used : Used), ns.Nodup → "" ∉ ns →
    (∀ n ∈ ns, dictGet used n = none) → parseNames used (ns ++ [""]) = ns ++ ["root"] := by
  induction ns with
  | nil => intro _ _ _ _; rfl
  | cons n ns ih =>
    intro used hnd hne hfree
    obtain ⟨hn, hnd⟩ := List.nodup_cons.mp hnd
    obtain ⟨x, xs, hx⟩ : ∃ x xs, ns ++ [""] = x :: xs := by cases ns <;> simp
    have hstep := uniqueName_fresh (used.length + 1) used n (fun e => hne (e ▸ List.mem_cons_self))
      (hfree n List.mem_cons_self)
    rw [List.cons_append, hx, parseNames, hstep, ← hx,
      ih _ hnd (fun h => hne (List.mem_cons_of_mem _ h)) fun m hm => by
        have hmn : m ≠ n := fun e => hn (e ▸ hm)
        exact (dictGet_set_other _ _ _ _ hmn).trans (hfree m (List.mem_cons_of_mem _ hm))]
    rfl

/-- with unique, unreserved names and a root called "root" the parser gives every node its own name back -/
theorem parseNames_printed {V} (t : List (NodeRec V)) (h : WF t) :
    parseNames [("edge", -1)] (printedNames t) = names t := by
  obtain ⟨hnd, hres, hroot⟩ := h
  rcases List.eq_nil_or_concat t with rfl | ⟨body, r, rfl⟩
  · rfl
  · simp only [List.concat_eq_append, names, List.map_append, List.map_cons, List.map_nil, List.getLast?_append,
      List.getLast?_singleton, Option.some_or, Option.some.injEq] at hnd hres hroot
    rw [List.concat_eq_append, printedNames_concat]
    simp only [names, List.map_append, List.map_cons, List.map_nil, hroot]
    refine parseNames_fresh _ _ (List.nodup_append.mp hnd).1 (fun h => (hres _ (List.mem_append_left _ h)).1 rfl) fun n hn => ?_
    have hne : ¬ "edge" = n := fun e => (hres n (List.mem_append_left _ hn)).2 e.symm
    simp [dictGet, hne]

theorem zipRebuild_id {V} (attrs : List (String × Attr V)) (t : List (NodeRec V))
    (h : ∀ n ∈ t, dictGet attrs n.name = some (n.length, n.params)) :
    zipRebuild attrs (names t) (t.map (·.arity)) = t := by
  induction t with
  | nil => rfl
  | cons a t ih =>
    have ha := h a (by simp)
    simp only [names, List.map_cons, zipRebuild, rebuild, ha]
    congr 1
    exact ih (fun n hn => h n (by simp [hn]))

theorem parseNames_length (used : Used) (l : List String) : (parseNames used l).length = l.length := by
  induction l generalizing used with
  | nil => rfl
  | cons n l ih =>
    cases l with
    | nil => simp only [parseNames]; split <;> rfl
    | cons m l => simp only [parseNames, List.length_cons, ih]

theorem printedNames_length {V} (t : List (NodeRec V)) : (printedNames t).length = t.length := by
  induction t with
  | nil => rfl
  | cons a t ih => cases t <;> simp_all [printedNames]

theorem zipRebuild_arity {V} (attrs : List (String × Attr V)) (ns : List String) (as : List Nat)
    (h : ns.length = as.length) : (zipRebuild attrs ns as).map (·.arity) = as := by
  induction ns generalizing as with
  | nil => cases as <;> simp_all [zipRebuild]
  | cons n ns ih =>
    cases as with
    | nil => simp at h
    | cons a as =>
      have : (rebuild attrs n a).arity = a := by unfold rebuild; split <;> rfl
      simp only [zipRebuild, List.map_cons, this, ih as (by simpa using h)]

end CogentModel.TreeRich
