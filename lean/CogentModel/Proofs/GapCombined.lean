/-
  `_combined_refseq_gaps` returns the entries of `_gap_difference` moved to the alignment columns of their reference
  residues (`combined_eq`): a gap dict over the columns of the pairwise alignment (`combined_ok`), and exactly the
  columns whose insertion turns the pairwise reference row into the merged one (`combined_row`).
-/
import CogentModel.Proofs.GapOffsetNI
import CogentModel.Proofs.GapRuns
import CogentModel.Proofs.GapDifference
namespace CogentModel.GapMerge

theorem subsetToAlign_eq (orig : Gaps) (s2a : GapOffset) (l : Gaps) : ∀ res,
    subsetToAlign orig s2a l res =
      dsetAll res (l.map fun e => (s2a.get e.1 + e.1 + (dget orig e.1).getD 0, e.2)) := by
  induction l with
  | nil => intro res; rfl
  | cons e r ih => intro res; obtain ⟨p, dl⟩ := e; simp only [subsetToAlign, ih, dsetAll, List.map_cons, List.foldl_cons]

theorem updateDiff_eq (s2a : GapOffset) (l : Gaps) : ∀ res,
    updateDiff s2a l res = dsetAll res (l.map fun e => (e.1 + s2a.get e.1, e.2)) := by
  induction l with
  | nil => intro res; rfl
  | cons e r ih => intro res; obtain ⟨p, v⟩ := e; simp only [updateDiff, ih, dsetAll, List.map_cons, List.foldl_cons]

/-- one pairwise alignment inside a merge whose reference gaps `u` dominate its own -/
structure MergeHyp (rg u : Gaps) (reflen : Int) : Prop where
  ref : GapsOK rg reflen
  union : GapsOK u reflen
  dom : ∀ p, gl rg p ≤ gl u p

/-- the entries of `_gap_difference`, moved to their alignment columns, have distinct keys -/
theorem colOf_gapDiff_nodup {rg u : Gaps} {reflen : Int} (H : MergeHyp rg u reflen) :
    (keys ((gapDiff rg u).map fun e => (colOf rg e.1, e.2))).Nodup := by
  have hk : keys ((gapDiff rg u).map fun e => (colOf rg e.1, e.2)) = (keys (gapDiff rg u)).map (colOf rg) := by
    simp only [keys, List.map_map, Function.comp_def]
  rw [hk]
  exact List.Pairwise.map _ (fun a b hab h => hab (colOf_inj H.ref a b h))
    (gapDiff_nodup rg u H.union.nodup)

/-- the dict `_combined_refseq_gaps` returns, as a list -/
theorem combined_eq {rg u : Gaps} {reflen : Int} (H : MergeHyp rg u reflen) :
    combinedRefseqGaps rg u = (gapDiff rg u).map fun e => (colOf rg e.1, e.2) := by
  simp only [combinedRefseqGaps, subsetToAlign_eq, updateDiff_eq, s2a_get rg H.ref.nodup]
  -- uniform key function on both parts
  have e2 : ((gapDifference rg u).2.map fun e => (sumLt rg e.1 + e.1 + (dget rg e.1).getD 0, e.2)) =
      (gapDifference rg u).2.map fun e => (colOf rg e.1, e.2) :=
    List.map_congr_left fun e _ => by simp only [colOf, gl]; congr 1; omega
  have e1 : ((gapDifference rg u).1.map fun e => (e.1 + sumLt rg e.1, e.2)) =
      (gapDifference rg u).1.map fun e => (colOf rg e.1, e.2) :=
    List.map_congr_left fun e he => by
      simp only [colOf, gl, gapDifference_missing_none rg u e he, Option.getD_none, Int.add_zero]
  rw [e2, e1]
  -- every assignment is to a fresh key
  have hnd := colOf_gapDiff_nodup H
  rw [gapDiff, List.map_append, keys_append, List.nodup_append] at hnd
  rw [dsetAll_nil _ hnd.1,
    dsetAll_fresh _ _ hnd.2.1 (fun k hk1 hk2 => hnd.2.2 k hk2 k hk1 rfl), gapDiff, List.map_append]

/-- `_combined_refseq_gaps` returns a gap dict over the columns of the pairwise alignment -/
theorem combined_ok {rg u : Gaps} {reflen : Int} (H : MergeHyp rg u reflen) :
    GapsOK (combinedRefseqGaps rg u) (reflen + total rg) := by
  refine ⟨combined_eq H ▸ colOf_gapDiff_nodup H, ?_, ?_⟩
  · rw [combined_eq H]
    refine List.forall_mem_map.mpr fun e he => ?_
    obtain ⟨l, h1, h2, h3⟩ := (mem_gapDiff rg u e.1 e.2).mp he
    have hd := H.dom e.1
    have hl := H.union.pos _ h1
    rw [gl_of_mem u H.union.nodup e.1 l h1] at hd
    -- the pairwise gap at this position is not `l`, and not longer
    have hne : gl rg e.1 ≠ l := fun h => by
      cases hr : dget rg e.1 with
      | none => rw [gl, hr] at h; exact Int.lt_irrefl _ (h ▸ hl)
      | some l' => rw [gl, hr] at h; exact h2 (hr.trans (congrArg some h))
    show 0 < e.2
    omega
  · intro c hc
    rw [combined_eq H, keys, List.map_map] at hc
    obtain ⟨e, he, rfl⟩ := List.mem_map.mp hc
    have hpr := H.union.range e.1 (gapDiff_keys_sub rg u e.1 (List.mem_map.mpr ⟨e, he, rfl⟩))
    -- `colOf rg p = p + sumLt rg (p + 1)`, and everything of `rg` lies before `reflen + 1`
    have h1 := sumLt_succ rg H.ref.nodup e.1
    have h2 := sumLt_mono rg H.ref.nonneg (e.1 + 1) (reflen + 1) (by omega)
    have h3 := sumLt_total rg reflen H.ref (reflen + 1) (by omega)
    have h4 : 0 ≤ sumLt rg e.1 := sumIf_nonneg _ rg H.ref.nonneg
    have h5 := gl_nonneg rg H.ref.nonneg e.1
    simp only [Function.comp, colOf]; omega

/-- of the columns `_combined_refseq_gaps` lists, the run of reference position `i` holds only the column of `i`, and
that carries exactly the missing gap length -/
theorem inserted_combined {rg u : Gaps} {reflen : Int} (H : MergeHyp rg u reflen) (i : Int) :
    inserted rg (combinedRefseqGaps rg u) i = gl u i - gl rg i := by
  rw [inserted, combined_eq H, sumIf_mapKeys, ← gl_gapDiff rg u H.union.nodup H.ref.nonneg H.dom,
    ← sumIf_eq_gl _ (gapDiff_nodup rg u H.union.nodup)]
  refine sumIf_congr _ _ _ fun e _ => decide_eq_decide.mpr ⟨fun h => ?_, fun h => ?_⟩
  · exact inRun_unique H.ref (inRun_colOf H.ref e.1) h
  · rw [h]; exact inRun_colOf H.ref i

/-- **the reference row**: `_combined_refseq_gaps` lists the columns whose insertion turns the pairwise reference row
into the merged one -/
theorem combined_row {rg u : Gaps} {reflen : Int} (H : MergeHyp rg u reflen) :
    rowOf u reflen = padCols (glN (combinedRefseqGaps rg u)) 0 (rowOf rg reflen) :=
  rowOf_inserted u H.ref (combined_ok H) fun r _ => by
    rw [inserted_combined H]; omega

end CogentModel.GapMerge
