import CogentModel.Proofs.AlnDisplay
/-! The sequence index (`get_seq_index`) of a column of a well-formed map, in terms of its gap pattern. -/
namespace CogentModel.Aln
open CogentModel.IndelMap CogentModel.Gapped List CogentModel

theorem seqIndex_eq_cntF (g : Gapped) (i : Nat) : seqIndex g i = cntF ((pattern g).take i) := by
  unfold seqIndex; rw [seqLen_eq_cntF]; simp [pattern, map_take]

theorem cntF_pattern_abs (m : IMap) (h : WF m) : (cntF (pattern (IndelMap.abs m)) : Int) = m.parentLength := by
  rw [← seqLen_eq_cntF, seqLen_abs m h, Int.toNat_of_nonneg h.pl_nonneg]

theorem take_pattern_beyond (m : IMap) (h : WF m) (x : Int) (hx : len m ≤ x) :
    (pattern (IndelMap.abs m)).take x.toNat = pattern (IndelMap.abs m) := by
  refine take_of_length_le ?_
  rw [pattern, length_map, ← Int.toNat_natCast (IndelMap.abs m).length, len_eq' m h]
  exact Int.toNat_le_toNat hx

/-- **closed form of the sequence index** of a column `0 ≤ x`: the residues before the column, and one more for
every column beyond the end -/
theorem seqIndexNN_eq (m : IMap) (h : WF m) (x : Int) (hx : 0 ≤ x) :
    seqIndexNN m x = cntF ((pattern (IndelMap.abs m)).take x.toNat) + (x - len m).toNat := by
  rw [IndelMap.seqIndexNN_eq m h x hx, seqIndex_eq_cntF]

/-- clamped as slicing the data clamps it, the sequence index counts the residues before the column -/
theorem seqIndexNN_clamp (m : IMap) (h : WF m) (L : Nat) (hp : m.parentLength = L) (x : Int) (hx : 0 ≤ x) :
    0 ≤ seqIndexNN m x ∧ min (seqIndexNN m x).toNat L = cntF ((pattern (IndelMap.abs m)).take x.toNat) := by
  have hall : cntF (pattern (IndelMap.abs m)) = L := Int.ofNat.inj ((cntF_pattern_abs m h).trans hp)
  rw [seqIndexNN_eq m h x hx, ← Int.natCast_add, Int.toNat_natCast]
  refine ⟨Int.natCast_nonneg _, ?_⟩
  by_cases hxl : x ≤ len m
  · rw [Int.toNat_eq_zero.mpr (Int.sub_nonpos_of_le hxl)]
    exact Nat.min_eq_left (hall ▸ cntF_take_le_all _ _)
  · rw [take_pattern_beyond m h x (Int.le_of_lt (Int.not_le.mp hxl)), hall]
    exact Nat.min_eq_right (Nat.le_add_right L _)

end CogentModel.Aln
