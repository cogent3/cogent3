import CogentModel.Proofs.FMapLocations
import CogentModel.Proofs.InsertionSort
/-! `covered()`: the delta dict (`+1` at every start, `-1` at every end) read as a depth function — the sum of the
deltas at keys `≤ p` is the number of spans over `p` — and the sweep over its sorted keys, which emits exactly the
maximal runs of non-zero depth; the end points of what it emits are a subsequence of the keys. -/
namespace CogentModel.FMap

/-! ### covered(): the delta dict as a depth function -/

/-- sum of the delta values whose key satisfies `P` -/
def dsum (P : Int → Bool) : List (Int × Int) → Int
  | [] => 0
  | (k, v) :: r => (if P k then v else 0) + dsum P r

theorem dsum_deltaAdd (P : Int → Bool) (k v : Int) (d : List (Int × Int)) :
    dsum P (deltaAdd k v d) = dsum P d + (if P k then v else 0) := by
  induction d with
  | nil => simp [deltaAdd, dsum]
  | cons x xs ih =>
    obtain ⟨a, w⟩ := x
    simp only [deltaAdd]
    split
    · rename_i h; subst h
      simp only [dsum]; split <;> omega
    · simp only [dsum, ih]; omega

/-- `sorted(delta)` is a permutation of the dict's items -/
theorem sortKey_perm (d : List (Int × Int)) : (d.foldr insertKey []).Perm d :=
  InsertionSort.sort_perm (ins := insertKey) (le := fun a b => a.1 ≤ b.1) (fun _ => rfl) (fun _ _ _ => rfl) d

theorem dsum_perm (P : Int → Bool) {a b : List (Int × Int)} (h : a.Perm b) : dsum P a = dsum P b := by
  induction h with
  | nil => rfl
  | cons x _ ih => obtain ⟨k, v⟩ := x; simp only [dsum, ih]
  | swap x y l => obtain ⟨k, v⟩ := x; obtain ⟨k', v'⟩ := y; simp only [dsum]; omega
  | trans _ _ ih1 ih2 => exact ih1.trans ih2

/-- contribution of the real spans to `dsum P` of the delta dict -/
def cntP (P : Int → Bool) : List FSp → Int
  | [] => 0
  | .lost _ :: r => cntP P r
  | .span a b _ :: r => ((if P a then 1 else 0) + (if P b then -1 else 0)) + cntP P r

def deltaStep (d : List (Int × Int)) (s : FSp) : List (Int × Int) :=
  match s with
  | .lost _ => d
  | .span a b _ => deltaAdd b (-1) (deltaAdd a 1 d)

theorem dsum_foldl (P : Int → Bool) (l : List FSp) (d : List (Int × Int)) :
    dsum P (l.foldl deltaStep d) = dsum P d + cntP P l := by
  induction l generalizing d with
  | nil => simp [cntP]
  | cons x xs ih =>
    cases x with
    | lost n => simp only [List.foldl_cons, deltaStep, cntP, ih]
    | span a b rv => simp only [List.foldl_cons, deltaStep, cntP, ih, dsum_deltaAdd]; omega

theorem cntP_true (l : List FSp) : cntP (fun _ => true) l = 0 := by
  induction l with
  | nil => rfl
  | cons x xs ih => cases x <;> simp [cntP, ih]

theorem cntP_le_nonneg (p : Int) (l : List FSp) (hw : ∀ x ∈ l, ∀ s e rv, x = .span s e rv → s ≤ e) :
    0 ≤ cntP (fun k => decide (k ≤ p)) l ∧
    (cntP (fun k => decide (k ≤ p)) l ≠ 0 ↔ some p ∈ coverL l) := by
  induction l with
  | nil => simp [cntP]
  | cons x xs ih =>
    have ih := ih (fun y hy => hw y (List.mem_cons_of_mem _ hy))
    cases x with
    | lost n =>
      simp only [cntP, coverL_cons, List.mem_append, mem_coverSp]
      refine ⟨ih.1, ?_⟩
      rw [ih.2]; simp
    | span a b rv =>
      have hab := hw _ List.mem_cons_self a b rv rfl
      have h0 := ih.1
      simp only [cntP, coverL_cons, List.mem_append, mem_coverSp_span, decide_eq_true_eq, ← ih.2]
      constructor <;> split <;> split <;> omega


/-! ### covered(): sorted keys and the sweep -/

def keys (d : List (Int × Int)) : List Int := d.map (·.1)

theorem mem_keys_deltaAdd (k v : Int) (d : List (Int × Int)) (j : Int) :
    j ∈ keys (deltaAdd k v d) ↔ j = k ∨ j ∈ keys d := by
  induction d with
  | nil => simp [deltaAdd, keys]
  | cons x xs ih =>
    obtain ⟨a, w⟩ := x
    simp only [deltaAdd]
    split
    · rename_i h; subst h; simp [keys]
    · simp only [keys, List.map_cons, List.mem_cons] at ih ⊢
      rw [ih]; constructor <;> (intro h; rcases h with h | h | h <;> simp [h])

theorem keys_nodup_deltaAdd (k v : Int) (d : List (Int × Int)) (h : (keys d).Nodup) :
    (keys (deltaAdd k v d)).Nodup := by
  induction d with
  | nil => simp [deltaAdd, keys]
  | cons x xs ih =>
    obtain ⟨a, w⟩ := x
    simp only [deltaAdd]
    simp only [keys, List.map_cons, List.nodup_cons] at h
    split
    · simpa [keys] using h
    · rename_i hne
      simp only [keys, List.map_cons, List.nodup_cons]
      refine ⟨?_, ih h.2⟩
      intro hm
      have := (mem_keys_deltaAdd k v xs a).1 hm
      rcases this with h1 | h1
      · exact hne h1
      · exact h.1 h1

theorem keys_nodup_foldl (l : List FSp) (d : List (Int × Int)) (h : (keys d).Nodup) :
    (keys (l.foldl deltaStep d)).Nodup := by
  induction l generalizing d with
  | nil => exact h
  | cons x xs ih =>
    cases x with
    | lost n => exact ih d h
    | span a b rv => exact ih _ (keys_nodup_deltaAdd _ _ _ (keys_nodup_deltaAdd _ _ _ h))

def SSorted (L : List (Int × Int)) : Prop := L.Pairwise (fun a b => a.1 < b.1)

theorem keys_foldl (l : List FSp) (d : List (Int × Int)) (j : Int)
    (h : j ∈ keys (l.foldl deltaStep d)) :
    j ∈ keys d ∨ ∃ s e rv, .span s e rv ∈ l ∧ (j = s ∨ j = e) := by
  induction l generalizing d with
  | nil => left; exact h
  | cons x xs ih =>
    simp only [List.foldl_cons] at h
    rcases ih _ h with h1 | ⟨s, e, rv, hm, hj⟩
    · cases x with
      | lost n => left; exact h1
      | span a b rv =>
        simp only [deltaStep, mem_keys_deltaAdd] at h1
        rcases h1 with h1 | h1 | h1
        · right; exact ⟨a, b, rv, List.mem_cons_self, Or.inr h1⟩
        · right; exact ⟨a, b, rv, List.mem_cons_self, Or.inl h1⟩
        · left; exact h1
    · right; exact ⟨s, e, rv, List.mem_cons_of_mem _ hm, hj⟩

/-- the delta dict of `covered()`, its items sorted by position: what the sweep walks over -/
def sortedDelta (l : List FSp) : List (Int × Int) := (l.foldl deltaStep []).foldr insertKey []

/-- the keys of a dict are distinct, so sorting them gives a strictly increasing list -/
theorem ssorted_sortedDelta (l : List FSp) : SSorted (sortedDelta l) := by
  have hs : (sortedDelta l).Pairwise (fun a b => a.1 ≤ b.1) :=
    InsertionSort.sort_sorted (ins := insertKey) (fun _ => rfl) (fun _ _ _ => rfl) (fun a b h => by omega)
      (fun a b c h1 h2 => by omega) _
  have hn : (sortedDelta l).Pairwise (fun a b => a.1 ≠ b.1) :=
    List.pairwise_map.1 (((sortKey_perm _).map _).nodup_iff.2 (keys_nodup_foldl l [] .nil))
  exact (hs.and hn).imp fun ⟨h1, h2⟩ => by omega

/-- sorting does not change what the deltas sum to: each real span gives `+1` at its start and `-1` at its end -/
theorem dsum_sortedDelta (P : Int → Bool) (l : List FSp) : dsum P (sortedDelta l) = cntP P l := by
  rw [sortedDelta, dsum_perm P (sortKey_perm _), dsum_foldl, dsum, Int.zero_add]

/-- every key of the delta dict is the start or the end of a real span -/
theorem mem_keys_sortedDelta {l : List FSp} {j : Int} (h : j ∈ keys (sortedDelta l)) :
    ∃ s e rv, .span s e rv ∈ l ∧ (j = s ∨ j = e) :=
  (keys_foldl l [] j (((sortKey_perm _).map _).mem_iff.1 h)).resolve_left fun h0 => nomatch h0

/-- depth just after position `p` when the sweep is in state `y` in front of `L` -/
def depth (y : Int) (L : List (Int × Int)) (p : Int) : Int := y + dsum (fun k => decide (k ≤ p)) L

/-- the delta dict as a depth function: the deltas at keys `≤ p` sum to the number of spans over `p` -/
theorem depth_sortedDelta (p : Int) (l : List FSp) (hw : ∀ x ∈ l, ∀ s e rv, x = .span s e rv → s ≤ e) :
    depth 0 (sortedDelta l) p ≠ 0 ↔ some p ∈ coverL l := by
  rw [depth, Int.zero_add, dsum_sortedDelta]
  exact (cntP_le_nonneg p l hw).2

theorem dsum_none (p : Int) (L : List (Int × Int)) (h : ∀ x ∈ L, p < x.1) :
    dsum (fun k => decide (k ≤ p)) L = 0 := by
  induction L with
  | nil => rfl
  | cons x xs ih =>
    obtain ⟨a, w⟩ := x
    have := h (a, w) List.mem_cons_self
    simp only [dsum, decide_eq_true_eq] at *
    rw [if_neg (by omega), ih (fun z hz => h z (List.mem_cons_of_mem _ hz))]; rfl

/-- the end points of the emitted intervals are, in order, a subsequence of the start of the open run
    followed by the keys -/
theorem sweep_endpoints : ∀ (L : List (Int × Int)) (y : Int) (start : Option Int) (locs : List (Int × Int)),
    (y ≠ 0 → start.isSome = true) → sweep y start L = .ok locs →
    (locs.flatMap fun ab => [ab.1, ab.2]).Sublist (start.toList ++ keys L)
  | [], _, _, _, _, h => by cases h; exact List.nil_sublist _
  | (x, d) :: r, y, start, locs, hy, h => by
    simp only [sweep] at h
    split at h
    · -- a run starts at `x`
      split at h
      · cases h
      · rename_i hs
        rw [Option.not_isSome_iff_eq_none.1 hs]
        exact sweep_endpoints r (y + d) (some x) locs (fun _ => rfl) h
    · split at h
      · -- the open run ends at `x`
        rename_i hc
        split at h
        · cases h
        · rename_i rest hrest
          cases h
          obtain ⟨s0, rfl⟩ := Option.isSome_iff_exists.1 (hy hc.1)
          exact ((sweep_endpoints r (y + d) none rest (fun h0 => absurd hc.2 h0) hrest).cons_cons x).cons_cons s0
      · rename_i hc1 hc2
        exact (sweep_endpoints r (y + d) start locs
          (fun h0 => hy fun hy0 => hc1 ⟨h0, hy0⟩) h).trans
          ((List.sublist_cons_self x _).append_left _)

/-- the sweep emits non-empty, strictly separated intervals whose end points are keys -/
theorem sweep_sep (L : List (Int × Int)) (y : Int) (start : Option Int) (locs : List (Int × Int))
    (hS : SSorted L) (hst : ∀ s0, start = some s0 → ∀ x ∈ L, s0 < x.1) (hy : y ≠ 0 → start.isSome = true)
    (h : sweep y start L = .ok locs) :
    (∀ ab ∈ locs, ab.1 < ab.2) ∧ locs.Pairwise (fun a b => a.2 < b.1) ∧
    (∀ ab ∈ locs, (ab.1 ∈ keys L ∨ start = some ab.1) ∧ ab.2 ∈ keys L) := by
  have hsub := sweep_endpoints L y start locs hy h
  have hlt : (start.toList ++ keys L).Pairwise (· < ·) := by
    rw [List.pairwise_append]
    refine ⟨by cases start <;> simp, List.pairwise_map.2 hS, fun a ha b hb => ?_⟩
    obtain ⟨z, hz, rfl⟩ := List.mem_map.1 hb
    exact hst a (Option.mem_toList.1 ha) z hz
  have hp := List.pairwise_flatMap.1 (hlt.sublist hsub)
  have hmem : ∀ ab ∈ locs, ∀ c ∈ [ab.1, ab.2], c ∈ keys L ∨ start = some c := fun ab hab c hc => by
    have := hsub.subset (List.mem_flatMap.2 ⟨ab, hab, hc⟩)
    rwa [List.mem_append, Option.mem_toList, or_comm] at this
  have A : ∀ ab ∈ locs, ab.1 < ab.2 := fun ab hab =>
    List.rel_of_pairwise_cons (hp.1 ab hab) (List.mem_singleton_self _)
  refine ⟨A, hp.2.imp fun h => h _ (by simp) _ (by simp), fun ab hab => ?_⟩
  have h1 := hmem ab hab ab.1 (by simp)
  refine ⟨h1, (hmem ab hab ab.2 (by simp)).resolve_right fun hs => ?_⟩
  -- `ab.2` cannot be the start of the open run, which lies below `ab.1`
  have := A ab hab
  rcases h1 with h1 | h1
  · obtain ⟨z, hz, hz1⟩ := List.mem_map.1 h1
    have := hst _ hs z hz; omega
  · rw [hs] at h1; injection h1; omega
/-- a run that is open is closed by the end of the sweep, because the deltas sum to zero -/
theorem sweep_closes : ∀ (L : List (Int × Int)) (y s0 : Int) (locs : List (Int × Int)),
    y ≠ 0 → y + dsum (fun _ => true) L = 0 → sweep y (some s0) L = .ok locs → ∃ b, (s0, b) ∈ locs
  | [], y, s0, locs, hy, htot, _ => by simp only [dsum] at htot; omega
  | (x, d) :: r, y, s0, locs, hy, htot, h => by
    have htot' : (y + d) + dsum (fun _ => true) r = 0 := by
      simp only [dsum, if_true] at htot; omega
    simp only [sweep] at h
    split at h
    · rename_i hc; exact absurd hc.2 hy
    · split at h
      · split at h
        · cases h
        · cases h; exact ⟨x, List.mem_cons_self⟩
      · rename_i hc
        exact sweep_closes r (y + d) s0 locs (fun h0 => hc ⟨hy, h0⟩) htot' h

/-- when all remaining keys lie above `p`, `p` is covered exactly if a run is open -/
theorem sweep_above (p : Int) (L : List (Int × Int)) (y : Int) (start : Option Int) (locs : List (Int × Int))
    (hS : SSorted L) (hp : ∀ x ∈ L, p < x.1) (hst : ∀ s0, start = some s0 → s0 ≤ p)
    (hs1 : y ≠ 0 → start.isSome = true) (hs0 : y = 0 → start = none)
    (htot : y + dsum (fun _ => true) L = 0) (h : sweep y start L = .ok locs) : inLocs locs p ↔ y ≠ 0 := by
  obtain ⟨_, _, C⟩ := sweep_sep L y start locs hS
    (fun s0 h0 x hx => by have := hst s0 h0; have := hp x hx; omega) hs1 h
  have hkey : ∀ k ∈ keys L, p < k := by
    intro k hk
    simp only [keys, List.mem_map] at hk
    obtain ⟨z, hz, rfl⟩ := hk
    exact hp z hz
  constructor
  · rintro ⟨ab, hab, h1, _⟩ hy
    rcases (C ab hab).1 with hk | hk
    · have := hkey _ hk; omega
    · rw [hs0 hy] at hk; cases hk
  · intro hy
    obtain ⟨s0, rfl⟩ := Option.isSome_iff_exists.1 (hs1 hy)
    obtain ⟨b, hb⟩ := sweep_closes L y s0 locs hy htot h
    exact ⟨(s0, b), hb, hst s0 rfl, hkey _ (C _ hb).2⟩

/-- the sweep of `covered()` emits exactly the maximal runs of non-zero depth -/
theorem sweep_spec (p : Int) : ∀ (L : List (Int × Int)) (y : Int) (start : Option Int) (locs : List (Int × Int)),
    SSorted L → (∀ s0, start = some s0 → s0 ≤ p ∧ ∀ x ∈ L, s0 < x.1) →
    (y ≠ 0 → start.isSome = true) → (y = 0 → start = none) →
    y + dsum (fun _ => true) L = 0 → sweep y start L = .ok locs →
    (inLocs locs p ↔ depth y L p ≠ 0)
  | [], y, start, locs, hS, hst, hs1, hs0, htot, h => by
    rw [sweep_above p [] y start locs hS (fun _ hx => nomatch hx) (fun s0 h0 => (hst s0 h0).1) hs1 hs0 htot h]
    simp only [depth, dsum, Int.add_zero]
  | (x, d) :: r, y, start, locs, hS, hst, hs1, hs0, htot, h => by
    have hS' := hS
    simp only [SSorted, List.pairwise_cons] at hS'
    by_cases hpx : p < x
    · have hp : ∀ z ∈ (x, d) :: r, p < z.1 := by
        intro z hz
        rcases List.mem_cons.1 hz with rfl | hz
        · exact hpx
        · have := hS'.1 z hz; omega
      rw [sweep_above p _ y start locs hS hp (fun s0 h0 => (hst s0 h0).1) hs1 hs0 htot h]
      simp only [depth, dsum_none p _ hp, Int.add_zero]
    · have hdep : depth y ((x, d) :: r) p = depth (y + d) r p := by
        simp only [depth, dsum, decide_eq_true_eq]; rw [if_pos (by omega)]; omega
      have htot' : (y + d) + dsum (fun _ => true) r = 0 := by
        simp only [dsum, if_true] at htot; omega
      have hst' : ∀ s0, start = some s0 → s0 ≤ p ∧ ∀ z ∈ r, s0 < z.1 :=
        fun s0 h0 => ⟨(hst s0 h0).1, fun z hz => (hst s0 h0).2 z (List.mem_cons_of_mem _ hz)⟩
      rw [hdep]
      simp only [sweep] at h
      split at h
      · -- a run starts at x
        rename_i hc
        rw [hs0 hc.2] at h
        exact sweep_spec p r (y + d) (some x) locs hS'.2
          (fun s0 h0 => by cases h0; exact ⟨by omega, fun z hz => hS'.1 z hz⟩)
          (fun _ => rfl) (fun h0 => absurd h0 hc.1) htot' h
      · split at h
        · -- a run ends at x, which is not above p
          rename_i hc
          split at h
          · cases h
          · rename_i rest hrest
            cases h
            rw [← sweep_spec p r (y + d) none rest hS'.2 (fun s0 h0 => nomatch h0)
              (fun h0 => absurd hc.2 h0) (fun _ => rfl) htot' hrest]
            simp only [inLocs, List.mem_cons, exists_eq_or_imp]
            exact ⟨fun h1 => h1.elim (fun h2 => by omega) id, .inr⟩
        · -- no change of state
          rename_i hc1 hc2
          exact sweep_spec p r (y + d) start locs hS'.2 hst'
            (fun h0 => hs1 fun hy => hc1 ⟨h0, hy⟩) (fun h0 => hs0 (Decidable.byContradiction fun hy => hc2 ⟨hy, h0⟩))
            htot' h


/-! ### covered(): a successful call -/

/-- `covered()` succeeds only with a successful sweep over the sorted delta dict, and hands what the sweep emits to
    `from_locations` -/
theorem covered_eq_ok {m c : FM} (h : covered m = .ok c) :
    ∃ locs, sweep 0 none (sortedDelta m.spans) = .ok locs ∧ fromLocations locs m.parentLength = .ok c := by
  change (match sweep 0 none (sortedDelta m.spans) with
    | .error e => .error e
    | .ok locs => fromLocations locs m.parentLength) = Except.ok c at h
  split at h
  · cases h
  · exact ⟨_, ‹_›, h⟩

end CogentModel.FMap

