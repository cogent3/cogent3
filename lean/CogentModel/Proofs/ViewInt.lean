import CogentModel.Proofs.ViewSem
/-! Integer indexing: `v[i]` is `single v x`, the one-element view on the `i`-th displayed position `x`, or raises
`IndexError` where the plain list does; so `getitemInt` agrees with Python indexing of the displayed positions. -/
namespace CogentModel.View
open CogentModel

/-- `_get_index` without the boundary flag: out-of-range test and the selected triple -/
theorem getIndex_eq (v : View) (i : Int) :
    getIndex v i =
      if len v = 0 ∨ len v ≤ i ∨ i < -len v then .error .indexError
      else if v.step > 0
        then .ok ((if i ≥ 0 then v.start + i * v.step else v.start + len v * v.step + i * pyabs v.step),
            (if i ≥ 0 then v.start + i * v.step else v.start + len v * v.step + i * pyabs v.step) + 1, 1)
        else .ok ((if i ≥ 0 then v.start + i * v.step else v.start + len v * v.step + i * v.step),
            (if i ≥ 0 then v.start + i * v.step else v.start + len v * v.step + i * v.step) - 1, -1) := by
  have hn := len_nonneg v
  unfold getIndex
  simp only [Bool.false_eq_true, false_and, and_false, if_false, not_false_eq_true, true_and]
  by_cases h0 : len v = 0
  · rw [if_pos h0, if_pos (Or.inl h0)]
  rw [if_neg h0]
  by_cases h1 : i > 0 ∧ i ≥ len v
  · rw [if_pos h1, if_pos (by omega)]
  rw [if_neg h1]
  by_cases h2 : i < 0 ∧ pyabs i > len v
  · rw [if_pos h2, if_pos (by unfold pyabs at h2; omega)]
  · have h3 : ¬ (len v = 0 ∨ len v ≤ i ∨ i < -len v) := by unfold pyabs at h2; omega
    rw [if_neg h2, if_neg h3]

/-- the shape of `v[i]`, with or without the invariant: `IndexError`, or `v` re-made with step `±1` -/
theorem getitemInt_cases (v : View) (i : Int) :
    getitemInt v i = .error .indexError ∨
      ∃ a b, getitemInt v i = remk v a b (if v.step > 0 then 1 else -1) := by
  unfold getitemInt
  rw [getIndex_eq]
  by_cases hr : len v = 0 ∨ len v ≤ i ∨ i < -len v
  · rw [if_pos hr]; exact .inl rfl
  · rw [if_neg hr]; right; split <;> exact ⟨_, _, rfl⟩

theorem index_elems (v : View) (i : Int) :
    PySlice.index (elems v) i =
      if len v = 0 ∨ len v ≤ i ∨ i < -len v then none
      else some (first v + (if i ≥ 0 then i else i + len v) * v.step) := by
  have hn := len_nonneg v
  unfold PySlice.index
  simp only [elems_length, Int.toNat_of_nonneg hn]
  by_cases hr : len v = 0 ∨ len v ≤ i ∨ i < -len v
  · rw [if_pos hr, if_neg (by omega), if_neg (by omega)]
  rw [if_neg hr]
  by_cases hi : i ≥ 0
  · rw [if_pos ⟨hi, by omega⟩, if_pos hi, elems_getElem? v i hi (by omega)]
  · rw [if_neg (by omega), if_pos (by omega), if_neg hi, elems_getElem? v (i + len v) (by omega) (by omega)]

theorem getitemInt_eq (v : View) (i : Int) (r : Int × Int × Int) (h : getIndex v i = .ok r) :
    getitemInt v i = remk v r.1 r.2.1 r.2.2 := by
  unfold getitemInt
  rw [h]; rfl

theorem getIndex_in (v : View) (i j : Int) (hj0 : 0 ≤ j) (hj : j < len v)
    (hij : j = if i ≥ 0 then i else i + len v) :
    getIndex v i = .ok (if v.step > 0 then (v.start + j * v.step, v.start + j * v.step + 1, 1)
      else (v.start + j * v.step, v.start + j * v.step - 1, -1)) := by
  have hr : ¬ (len v = 0 ∨ len v ≤ i ∨ i < -len v) := by omega
  have hval : ∀ k, k = v.step →
      (if i ≥ 0 then v.start + i * v.step else v.start + len v * v.step + i * k) = v.start + j * v.step := by
    rintro k rfl
    rw [hij]
    split
    · rfl
    · rw [Int.add_mul]; omega
  rw [getIndex_eq, if_neg hr]
  split
  · rw [hval _ (show pyabs v.step = v.step from if_neg (by omega))]
  · rw [hval _ rfl]

/-- the one-element view on parent position `x`, oriented like `v`: what `v[i]` returns -/
def single (v : View) (x : Int) : View :=
  if v.step > 0 then { start := x, stop := x + 1, step := 1, offset := v.offset, seqLen := v.seqLen }
  else { start := x - v.seqLen, stop := x - v.seqLen - 1, step := -1, offset := v.offset, seqLen := v.seqLen }

theorem single_spec (v : View) (x : Int) (h0 : 0 ≤ x) (h1 : x < v.seqLen) :
    Inv (single v x) ∧ elems (single v x) = [x] ∧ len (single v x) = 1 ∧
      (single v x).offset = v.offset ∧ (single v x).seqLen = v.seqLen ∧
      parentStart (single v x) = .ok (v.offset + x) ∧ parentStop (single v x) = .ok (v.offset + x + 1) := by
  have hl : ∀ w : View, elems w = [x] → len w = 1 := fun w he => by
    have := elems_length w
    rw [he, List.length_singleton] at this
    omega
  unfold single
  split
  · have hI : Inv { start := x, stop := x + 1, step := 1, offset := v.offset, seqLen := v.seqLen } := by
      simp only [Inv]; omega
    have he := (elems_eq_rangeList _ hI).trans (PySlice.rangeList_single x 1 Int.one_ne_zero)
    exact ⟨hI, he, hl _ he, rfl, rfl, rfl, congrArg Except.ok (Int.add_assoc _ _ _).symm⟩
  · -- the stored start of a reversed record counts from the end
    obtain ⟨s, hs⟩ : ∃ s, s = x - v.seqLen := ⟨_, rfl⟩
    rw [← hs]
    have hI : Inv { start := s, stop := s - 1, step := -1, offset := v.offset, seqLen := v.seqLen } := by
      simp only [Inv]; omega
    have he := (elems_eq_rangeList _ hI).trans <|
      show PySlice.rangeList (s + v.seqLen) (s - 1 + v.seqLen) (-1) = [x] by
        rw [show s + v.seqLen = x by omega, show s - 1 + v.seqLen = x + -1 by omega,
          PySlice.rangeList_single x (-1) (by omega)]
    refine ⟨hI, he, hl _ he, rfl, rfl, ?_, ?_⟩
    · rw [parentStart, if_pos (show (-1 : Int) < 0 by omega), if_pos (show s - 1 < 0 by omega)]
      exact congrArg (fun y => Except.ok (v.offset + y)) (show s - 1 + v.seqLen + 1 = x by omega)
    · rw [parentStop, if_pos (show (-1 : Int) < 0 by omega), if_pos (show s < 0 by omega)]
      exact congrArg Except.ok (show v.offset + (s + v.seqLen + 1) = v.offset + x + 1 by omega)

/-- the one-element view is oriented like `v` -/
theorem single_step (v : View) (h : Inv v) (x : Int) : (single v x).step = if v.step < 0 then -1 else 1 := by
  have hv := h.step_ne_zero
  unfold single
  split
  · exact (if_neg (by omega)).symm
  · exact (if_pos (by omega)).symm

theorem single_step_neg (v : View) (h : Inv v) (x : Int) : (single v x).step < 0 ↔ v.step < 0 := by
  rw [single_step v h x]; split <;> omega

/-- **`v[i]` is the one-element view on the `i`-th displayed position**, a valid position of the parent -/
theorem getitemInt_single (v : View) (h : Inv v) (i x : Int) (hx : PySlice.index (elems v) i = some x) :
    getitemInt v i = .ok (single v x) ∧ 0 ≤ x ∧ x < v.seqLen := by
  have hn := len_nonneg v
  rw [index_elems] at hx
  split at hx
  · cases hx
  obtain rfl := Option.some.inj hx
  have hj : 0 ≤ (if i ≥ 0 then i else i + len v) ∧ (if i ≥ 0 then i else i + len v) < len v := by split <;> omega
  rw [getitemInt_eq v i _ (getIndex_in v i _ hj.1 hj.2 rfl), single, first]
  generalize (if i ≥ 0 then i else i + len v) = j at hj ⊢
  obtain ⟨hj0, hj⟩ := hj
  -- the position lies inside the record's bounds, so the constructor keeps the one-element range
  obtain ⟨hN, ⟨hk, i0, i1, i2⟩ | ⟨hk, i0, i1, i2⟩⟩ := h
  · have b1 := ((len_isCeil_fwd v hk i1).lt_iff hk j).mpr hj
    have b0 := Int.mul_nonneg hj0 (Int.le_of_lt hk)
    simp only [if_pos hk]
    rw [remk_pos_eq v _ _ 1 hN Int.one_pos (by omega) (by omega) (by omega), if_pos (by omega)]
    exact ⟨rfl, by omega, by omega⟩
  · have b1 := ((len_isCeil_rev v hk i1).lt_iff (by omega) j).mpr hj
    have b0 := Int.mul_nonpos_of_nonneg_of_nonpos hj0 (Int.le_of_lt hk)
    rw [Int.mul_neg] at b1
    have hk' : ¬ v.step > 0 := by omega
    simp only [if_neg hk']
    rw [remk_neg_eq v _ _ (-1) hN (by omega) (by omega) (by omega) (by omega), if_neg (by omega),
      Int.add_right_comm, Int.add_sub_cancel]
    exact ⟨rfl, by omega, by omega⟩

theorem getitemInt_none (v : View) (i : Int) (hx : PySlice.index (elems v) i = none) :
    getitemInt v i = .error .indexError := by
  rw [index_elems] at hx
  split at hx
  · rename_i hr
    unfold getitemInt
    rw [getIndex_eq, if_pos hr]; rfl
  · cases hx

/-- `getitemInt_single` read through getters `pc`, `ao` that compute `parent_coordinates()` (without seqid) and
`annotation_offset` from `parent_start`, `parent_stop` and the sign of the step -/
theorem getitemInt_coords (pc : View → Except Err (Int × Int × Int)) (ao : View → Except Err Int)
    (hpc : ∀ w a b, parentStart w = .ok a → parentStop w = .ok b →
      pc w = .ok (a, b, if w.step < 0 then -1 else 1))
    (hao : ∀ w, ao w = parentStart w) (v : View) (h : Inv v) (i : Int) :
    (∀ x, PySlice.index (elems v) i = some x →
      ∃ w, getitemInt v i = .ok w ∧ elems w = [x] ∧
        pc w = .ok (v.offset + x, v.offset + x + 1, if v.step < 0 then -1 else 1) ∧
        ao w = .ok (v.offset + x)) ∧
    (PySlice.index (elems v) i = none → getitemInt v i = .error .indexError) := by
  refine ⟨fun x hx => ?_, getitemInt_none v i⟩
  obtain ⟨hg, x0, x1⟩ := getitemInt_single v h i x hx
  obtain ⟨_, s2, _, _, _, s7, s8⟩ := single_spec v x x0 x1
  refine ⟨_, hg, s2, ?_, by rw [hao, s7]⟩
  rw [hpc _ _ _ s7 s8]
  simp only [single_step_neg v h x]

end CogentModel.View
