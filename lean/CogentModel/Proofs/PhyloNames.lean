import CogentModel.Model.PhyloNames
/-! C09: `TreeBuilder._unique_name` never hands out a name twice. -/
namespace CogentModel.Phylo

theorem usedGet_none_iff (u : Used) (k : String) : usedGet u k = none ↔ k ∉ usedKeys u := by
  induction u with
  | nil => simp [usedGet, usedKeys]
  | cons p u ih =>
    obtain ⟨k', v⟩ := p
    by_cases h : k' = k
    · simp [usedGet, usedKeys, h]
    · simp only [usedGet, h, if_false, ih, usedKeys, List.map_cons, List.mem_cons, not_or]
      constructor
      · intro hh; exact ⟨fun e => h e.symm, hh⟩
      · intro hh; exact hh.2

theorem usedGet_usedSet_same (u : Used) (k : String) (v : Int) : usedGet (usedSet u k v) k = some v := by
  induction u with
  | nil => simp [usedSet, usedGet]
  | cons p u ih =>
    obtain ⟨k', v'⟩ := p
    by_cases h : k' = k
    · simp [usedSet, usedGet, h]
    · simp [usedSet, usedGet, h, ih]

theorem usedKeys_set_mem (u : Used) (k : String) (v : Int) (h : k ∈ usedKeys u) :
    usedKeys (usedSet u k v) = usedKeys u := by
  induction u with
  | nil => simp [usedKeys] at h
  | cons p u ih =>
    obtain ⟨k', v'⟩ := p
    by_cases hk : k' = k
    · simp [usedSet, usedKeys, hk]
    · have : k ∈ usedKeys u := by
        simp only [usedKeys, List.map_cons, List.mem_cons] at h
        rcases h with h | h
        · exact absurd h.symm hk
        · exact h
      simp only [usedSet, hk, if_false, usedKeys, List.map_cons] at ih ⊢
      rw [ih this]

theorem usedKeys_set_not_mem (u : Used) (k : String) (v : Int) (h : k ∉ usedKeys u) :
    usedKeys (usedSet u k v) = usedKeys u ++ [k] := by
  induction u with
  | nil => simp [usedSet, usedKeys]
  | cons p u ih =>
    obtain ⟨k', v'⟩ := p
    simp only [usedKeys, List.map_cons, List.mem_cons, not_or] at h
    have hk : ¬ k' = k := fun e => h.1 e.symm
    simp only [usedSet, hk, if_false, usedKeys, List.map_cons, List.cons_append] at ih ⊢
    rw [ih h.2]

/-- keys at least as long as the candidate: the recursion of `_unique_name` strictly decreases it -/
def longKeys (u : Used) (name : String) : Nat :=
  (usedKeys u).countP fun k => decide (name.length ≤ k.length)

theorem longKeys_le (u : Used) (name : String) : longKeys u name ≤ u.length :=
  Nat.le_trans List.countP_le_length (by simp [usedKeys])

/-- a weaker predicate that gains a member counts strictly more -/
theorem countP_lt_of_mem {α : Type} (p q : α → Bool) (hpq : ∀ x, p x = true → q x = true) (a : α)
    (hp : p a = false) (hq : q a = true) : ∀ (l : List α), a ∈ l → l.countP p < l.countP q
  | b :: l, h => by
    have hmono : l.countP p ≤ l.countP q := List.countP_mono_left fun x _ => hpq x
    rw [List.countP_cons, List.countP_cons]
    rcases List.mem_cons.1 h with rfl | hm
    · rw [hp, hq]
      exact Nat.lt_succ_of_le hmono
    · have ih := countP_lt_of_mem p q hpq a hp hq l hm
      cases hb : p b with
      | false => exact Nat.lt_of_lt_of_le ih (Nat.le_add_right _ _)
      | true => rw [hpq b hb]; exact Nat.add_lt_add_right ih 1

theorem suffix_longer (name : String) (n : Int) : name.length < (name ++ "." ++ toString n).length := by
  have h1 : ".".length = 1 := by decide
  simp only [String.length_append, h1]
  omega

/-- the result of `_unique_name` is a name that was NOT in use, and it is in use afterwards -/
theorem uniqueNameFuel_fresh : ∀ (fuel : Nat) (u : Used) (name : String), longKeys u name < fuel →
    (uniqueNameFuel fuel u name).2 ∉ usedKeys u ∧
    (uniqueNameFuel fuel u name).2 ∈ usedKeys (uniqueNameFuel fuel u name).1 ∧
    ∀ k ∈ usedKeys u, k ∈ usedKeys (uniqueNameFuel fuel u name).1 := by
  -- by `induction`: written as a recursive definition by cases on `fuel` this is very slow to compile
  intro fuel
  induction fuel with
  | zero => exact fun u name h => absurd h (Nat.not_lt_zero _)
  | succ fuel ihf =>
    intro u name h
    cases hg : usedGet u name with
    | some c =>
      -- the name is taken: the counter goes up, the keys stay, and the longer candidate has fewer rivals
      have hm : name ∈ usedKeys u := Classical.not_not.1 fun hh => by
        rw [(usedGet_none_iff u name).2 hh] at hg; cases hg
      have hk := usedKeys_set_mem u name (c + 1) hm
      have hlen := suffix_longer name (c + 1)
      have hlt : longKeys (usedSet u name (c + 1)) (name ++ "." ++ toString (c + 1)) < longKeys u name := by
        unfold longKeys
        rw [hk]
        exact countP_lt_of_mem _ _ (fun x hx => decide_eq_true (Nat.le_trans (Nat.le_of_lt hlen) (of_decide_eq_true hx)))
          name (decide_eq_false (Nat.not_le_of_lt hlen)) (decide_eq_true (Nat.le_refl _)) _ hm
      have ih := ihf (usedSet u name (c + 1)) (name ++ "." ++ toString (c + 1))
        (Nat.lt_of_lt_of_le hlt (Nat.le_of_lt_succ h))
      rw [uniqueNameFuel, hg]
      rwa [hk] at ih
    | none =>
      have hn : name ∉ usedKeys u := (usedGet_none_iff u name).1 hg
      rw [uniqueNameFuel, hg, usedKeys_set_not_mem u name 1 hn]
      exact ⟨hn, by simp, fun k hk => by simp [hk]⟩

theorem uniqueName_fresh (u : Used) (l : Option String) :
    (uniqueName u l).2 ∉ usedKeys u ∧ (uniqueName u l).2 ∈ usedKeys (uniqueName u l).1 ∧
    ∀ k ∈ usedKeys u, k ∈ usedKeys (uniqueName u l).1 := by
  unfold uniqueName
  exact uniqueNameFuel_fresh _ _ _ (Nat.lt_succ_of_le (longKeys_le _ _))

theorem assignFrom_fresh : ∀ (ls : List (Option String)) (u : Used),
    (assignFrom u ls).Nodup ∧ ∀ x ∈ assignFrom u ls, x ∉ usedKeys u
  | [], u => by simp [assignFrom]
  | l :: ls, u => by
    obtain ⟨h1, h2, h3⟩ := uniqueName_fresh u l
    obtain ⟨ih1, ih2⟩ := assignFrom_fresh ls (uniqueName u l).1
    simp only [assignFrom, List.nodup_cons, List.mem_cons]
    refine ⟨⟨fun hmem => ih2 _ hmem h2, ih1⟩, ?_⟩
    rintro x (rfl | hx)
    · exact h1
    · exact fun hk => ih2 x hx (h3 x hk)

theorem assignNames_nodup (labels : List (Option String)) : (assignNames labels).Nodup :=
  (assignFrom_fresh labels _).1

end CogentModel.Phylo
