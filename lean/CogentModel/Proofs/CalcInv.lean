import CogentModel.Proofs.CalcCoh
import CogentModel.Proofs.CalcPatch
import CogentModel.Proofs.ListFacts
/-! # C07 — invariant of the two-buffer calculator

`Inv`: the current buffer is a coherent evaluation (`Coh`) at `last_values`, the other one at `last_values` patched
by `last_undo`, and `spare` never names an array both buffers point to (`SpareOK`).  Inside a call the state satisfies
`Mid`; `change_spec` says what a whole call does, and in particular that it preserves `Inv`. -/
namespace CogentModel.Calc
variable {V : Type} [Inhabited V]

theorem cell_ge {g : Graph V} {k : Nat} (h : g.n ≤ k) : g.cell k = .const default := by
  unfold Graph.cell Graph.n at *
  simp [List.getD, List.getElem?_eq_none h]

theorem reach_fuel (g : Graph V) (hwf : g.WF) (C : List Nat) :
    ∀ a f f', a < f → a < f' → reach g C f a = reach g C f' a := by
  intro a
  induction a using Nat.strongRecOn with
  | _ a ih =>
    intro f f' hf hf'
    obtain ⟨f0, rfl⟩ := Nat.exists_eq_add_one_of_ne_zero (Nat.ne_of_gt (Nat.zero_lt_of_lt hf))
    obtain ⟨f1, rfl⟩ := Nat.exists_eq_add_one_of_ne_zero (Nat.ne_of_gt (Nat.zero_lt_of_lt hf'))
    simp only [reach]
    by_cases han : a < g.n
    · apply any_congr_mem
      intro b hb
      have hba : b < a := hwf.1 a han b hb
      rw [ih b hba f0 f1 (Nat.lt_of_lt_of_le hba (Nat.le_of_lt_succ hf))
        (Nat.lt_of_lt_of_le hba (Nat.le_of_lt_succ hf'))]
    · rw [cell_ge (Nat.le_of_not_lt han)]
      rfl

/-- at full fuel `reach` is a fixed point of its own recursion -/
theorem reach_eq (g : Graph V) (hwf : g.WF) (C : List Nat) (k : Nat) (hk : k < g.n) :
    reach g C g.n k = (g.cell k).args.any (fun a => C.contains a || reach g C g.n a) := by
  obtain ⟨m, hm⟩ := Nat.exists_eq_add_one_of_ne_zero (Nat.ne_of_gt (Nat.zero_lt_of_lt hk))
  have hkm : k < m + 1 := hm ▸ hk
  rw [hm, reach]
  apply any_congr_mem
  intro a ha
  have hak : a < k := hwf.1 k hk a ha
  rw [reach_fuel g hwf C a m (m + 1) (Nat.lt_of_lt_of_le hak (Nat.le_of_lt_succ hkm)) (Nat.lt_trans hak hkm)]

theorem mem_program {g : Graph V} {C : List Nat} {k : Nat} :
    k ∈ program g C ↔ k < g.n ∧ reach g C g.n k = true := by
  simp [program]

/-- closure of a program: a cell outside it has no changed argument and no argument inside it -/
theorem program_closed (g : Graph V) (hwf : g.WF) (C : List Nat) (k : Nat) (hk : k < g.n)
    (hnot : k ∉ program g C) : ∀ a, a ∈ (g.cell k).args → a ∉ C ∧ a ∉ program g C := by
  intro a ha
  have hr : ¬ reach g C g.n k = true := fun h => hnot (mem_program.2 ⟨hk, h⟩)
  rw [reach_eq g hwf C k hk, List.any_eq_true] at hr
  constructor
  · intro hc
    exact hr ⟨a, ha, by simp [hc]⟩
  · intro hp
    exact hr ⟨a, ha, by simp [(mem_program.1 hp).2]⟩

theorem program_evals (g : Graph V) (C : List Nat) (k : Nat) (hk : k ∈ program g C) :
    (g.cell k).args ≠ [] := by
  have h := (mem_program.1 hk).2
  intro h0
  cases hn : g.n with
  | zero => rw [hn] at h; simp [reach] at h
  | succ m => rw [hn] at h; simp [reach, h0] at h

theorem program_sorted (g : Graph V) (C : List Nat) : (program g C).Pairwise (· < ·) := by
  unfold program
  apply List.Pairwise.filter
  exact List.pairwise_lt_range

theorem content_write_ne (g : Graph V) (s : St V) (d c : Bool) (j k : Nat) (v : V) (h : k ≠ j) :
    content g (write g s d j v) c k = content g s c k := by
  unfold content write
  by_cases hj : g.isRec j <;> by_cases hk : g.isRec k <;> by_cases hcd : c = d <;>
    simp [hj, hk, upd, updB, h, hcd]

theorem content_write_self (g : Graph V) (s : St V) (d : Bool) (j : Nat) (v : V) :
    content g (write g s d j v) d j = v := by
  unfold content write
  by_cases hj : g.isRec j <;> simp [hj, upd, updB]

theorem content_write_other (g : Graph V) (s : St V) (d : Bool) (j : Nat) (v : V)
    (h : g.isRec j = true → s.ptr d j ≠ s.ptr (!d) j) (k : Nat) :
    content g (write g s d j v) (!d) k = content g s (!d) k := by
  by_cases hkj : k = j
  · subst hkj
    unfold content write
    by_cases hj : g.isRec k
    · have := h hj
      simp [hj, upd, updB]
      intro h'; exact absurd h'.symm this
    · simp [hj, updB]
  · exact content_write_ne g s d (!d) j k v hkj

theorem write_fields (g : Graph V) (s : St V) (d : Bool) (j : Nat) (v : V) :
    (write g s d j v).ptr = s.ptr ∧ (write g s d j v).spare = s.spare ∧ (write g s d j v).sw = s.sw ∧
    (write g s d j v).lastValues = s.lastValues := by
  unfold write
  by_cases hj : g.isRec j <;> simp [hj]

theorem args_not_mem {g : Graph V} (hwf : g.WF) {j : Nat} {rest : List Nat} (hs : (j :: rest).Pairwise (· < ·))
    (hj : j < g.n) : ∀ a, a ∈ (g.cell j).args → a ∉ j :: rest := by
  intro a ha hmem
  have haj := hwf.1 j hj a ha
  rcases List.mem_cons.1 hmem with h | h
  · omega
  · have := (List.pairwise_cons.1 hs).1 a h; omega

/-! ### `prepare` and the spare-array discipline -/

/-- if both buffers point a recycled cell to the same array, `spare` is not that array -/
def SpareOK (g : Graph V) (s : St V) : Prop :=
  ∀ r, g.isRec r = true → ∀ b, s.ptr b r = s.ptr (!b) r → s.spare r ≠ some (s.ptr b r)

theorem prepare_base (g : Graph V) (s : St V) (prog : List Nat) (k : Nat) :
    content g (prepare g s prog) (!s.sw) k = content g s (!s.sw) k := by
  unfold content prepare
  cases s.sw <;> simp [updB]

theorem prepare_data (g : Graph V) (s : St V) (prog : List Nat) (k : Nat)
    (h : g.isRec k = true → k ∉ prog) :
    content g (prepare g s prog) s.sw k = content g s (!s.sw) k := by
  unfold content prepare
  by_cases hk : g.isRec k
  · have := h hk
    simp [hk, updB, this]
  · simp [hk, updB]

/-- `SpareOK` may be checked with the two buffers in one fixed order -/
theorem spareOK_of {g : Graph V} {s : St V} (d : Bool)
    (h : ∀ r, g.isRec r = true → s.ptr d r = s.ptr (!d) r → s.spare r ≠ some (s.ptr (!d) r)) : SpareOK g s := by
  intro r hr b heq
  by_cases hb : b = d
  · subst hb; rw [heq]; exact h r hr heq
  · have : b = !d := by cases b <;> cases d <;> first | rfl | exact absurd rfl hb
    subst this
    rw [Bool.not_not] at heq
    exact h r hr heq.symm

theorem prepare_ptr (g : Graph V) (s : St V) (prog : List Nat) (hsp : SpareOK g s) :
    SpareOK g (prepare g s prog) ∧
    ∀ r, r ∈ prog → g.isRec r = true →
      (prepare g s prog).ptr s.sw r ≠ (prepare g s prog).ptr (!s.sw) r := by
  have hb : ∀ r, (prepare g s prog).ptr (!s.sw) r = s.ptr (!s.sw) r := by
    intro r; simp only [prepare, updB]; cases s.sw <;> simp
  -- a program cell gets the spare array or a new one, never the array base points to
  have key : ∀ r, g.isRec r = true → r ∈ prog →
      (prepare g s prog).ptr s.sw r ≠ s.ptr (!s.sw) r := by
    intro r hr hp
    by_cases hd : s.ptr s.sw r = s.ptr (!s.sw) r
    · have h2 := hsp r hr s.sw hd
      cases hs : s.spare r with
      | none => simp [prepare, updB, hr, hp, hd, hs]
      | some q =>
        have : q ≠ s.ptr (!s.sw) r := by intro hq; apply h2; rw [hs, hq, hd]
        simp [prepare, updB, hr, hp, hd, hs, this]
    · simp [prepare, updB, hr, hp, hd]
  refine ⟨spareOK_of s.sw fun r hr _ => ?_, fun r hp hr => hb r ▸ key r hr hp⟩
  -- `spare` is never base's array: it is the array data dropped when that was another one, else as before
  rw [hb r]
  show (if (g.isRec r && (s.ptr s.sw r != s.ptr (!s.sw) r)) = true then some (s.ptr s.sw r) else s.spare r) ≠ _
  by_cases hdd : s.ptr s.sw r = s.ptr (!s.sw) r
  · simp only [hdd, bne_self_eq_false, Bool.and_false, Bool.false_eq_true, if_false]
    exact hdd ▸ hsp r hr s.sw hdd
  · simp [hr, hdd]

/-! ### one `change` call -/

structure Inv (g : Graph V) (s : St V) : Prop where
  /-- the current buffer is a fresh evaluation at `last_values` -/
  cur : Coh g (content g s s.sw) s.lastValues
  /-- the other buffer is a fresh evaluation at `last_values` patched by `last_undo` -/
  other : s.lastUndo ≠ [] → Coh g (content g s (!s.sw)) (patch s.lastValues s.lastUndo)
  /-- no recycled array is about to be overwritten while the other buffer still points to it -/
  spare : SpareOK g s

theorem isRec_opt {g : Graph V} {k : Nat} (h : (g.cell k).isOpt = true) : g.isRec k = false := by
  unfold Graph.isRec
  cases hc : g.cell k <;> simp_all [Cell.isOpt, Cell.recycled]

/-- the state at the top of the `if self.with_undo:` block: switch flipped, `last_undo` cleared -/
def flipped (s1 : St V) : St V := { s1 with sw := !s1.sw, lastUndo := [] }

/-- a state in the middle of a `change`: buffer `d` is being written towards the vector `x'` and is already right
outside the cells `rest` still to be run; the other buffer holds `c0`; a recycled cell still to be run owns an array
the other buffer does not point to.  The copy `data[:] = base[:]` establishes it, every new optimiser value and every
program cell is a step of it. -/
structure Mid (g : Graph V) (c0 x' : Nat → V) (d : Bool) (rest : List Nat) (s : St V) : Prop where
  sw : s.sw = d
  lastValues : s.lastValues = x'
  base : ∀ k, content g s (!d) k = c0 k
  spare : SpareOK g s
  done : ∀ k, k < g.n → k ∉ rest → CohAt g (content g s d) x' k
  ptr : ∀ j, j ∈ rest → g.isRec j = true → s.ptr d j ≠ s.ptr (!d) j

/-- the cells still to be run are a tail of a program: in rank order, evaluated cells, closed under consequences -/
structure Tail (g : Graph V) (rest : List Nat) : Prop where
  sorted : rest.Pairwise (· < ·)
  evals : ∀ j, j ∈ rest → j < g.n ∧ (g.cell j).args ≠ []
  closed : ArgsDone g rest

theorem Tail.tail {g : Graph V} (hwf : g.WF) {j : Nat} {rest : List Nat} (h : Tail g (j :: rest)) : Tail g rest := by
  refine ⟨(List.pairwise_cons.1 h.sorted).2, fun k hk => h.evals k (List.mem_cons_of_mem _ hk), fun k hk hkr a ha => ?_⟩
  by_cases hkj : k = j
  · subst hkj
    exact fun har => args_not_mem hwf h.sorted hk a ha (List.mem_cons_of_mem _ har)
  · have := h.closed k hk (by simp [hkj, hkr]) a ha
    simp at this
    exact this.2

theorem tail_program (g : Graph V) (hwf : g.WF) (C : List Nat) : Tail g (program g C) :=
  ⟨program_sorted g C, fun j hj => ⟨(mem_program.1 hj).1, program_evals g C j hj⟩,
    fun k hk hkp a ha => (program_closed g hwf C k hk hkp a ha).2⟩

theorem content_setPar (g : Graph V) (s : St V) (d c : Bool) (i k : Nat) (x : Nat → V) (w : V) (h : c = d → k ≠ i) :
    content g { s with lastValues := x, val := updB s.val d (upd (s.val d) i w) } c k = content g s c k := by
  unfold content
  by_cases hcd : c = d
  · subst hcd; simp [updB, upd, h rfl]
  · simp [updB, hcd]

/-- `changed_optpars`: the old values of the changed positions -/
theorem setPars_undo (g : Graph V) (d : Bool) : ∀ (ch : List (Nat × V)) (s : St V) (acc : List (Nat × V)),
    (∀ p, p ∈ ch → p.1 < g.nOpt) → (ch.map Prod.fst).Nodup →
    (setPars g d ch s acc).2 = acc ++ ch.map (fun p => (p.1, s.lastValues p.1))
  | [], s, acc, _, _ => by simp [setPars]
  | (i, v) :: ch, s, acc, hv, hnd => by
    simp only [List.map_cons, List.nodup_cons] at hnd
    simp only [setPars, hv (i, v) (by simp), if_true]
    rw [setPars_undo g d ch _ _ (fun p hp => hv p (by simp [hp])) hnd.2]
    simp only [List.map_cons, List.append_assoc, List.singleton_append]
    congr 2
    apply List.map_congr_left
    intro q hq
    have : q.1 ≠ i := fun e => hnd.1 (e ▸ List.mem_map_of_mem hq)
    simp [upd, this]

namespace Mid

/-- after `data[:] = base[:]` everything but the program is right already, at the old vector -/
theorem copy (g : Graph V) (hwf : g.WF) (s : St V) (C : List Nat) {c0 : Nat → V}
    (hc0 : ∀ k, content g s (!s.sw) k = c0 k) (hcur : Coh g c0 s.lastValues) (hsp : SpareOK g s) :
    Mid g c0 s.lastValues s.sw (program g C) (prepare g s (program g C)) := by
  obtain ⟨hsp2, hptr2⟩ := prepare_ptr g s (program g C) hsp
  refine ⟨rfl, rfl, fun k => (prepare_base g s _ k).trans (hc0 k), hsp2, fun k hk hkp => ?_, hptr2⟩
  refine (hcur k hk).congr ((prepare_data g s _ k fun _ => hkp).trans (hc0 k)) (fun a ha => ?_) fun _ => rfl
  exact (prepare_data g s _ a fun _ => (program_closed g hwf C k hk hkp a ha).2).trans (hc0 a)

/-- one new optimiser value: the vector moves, its cell follows; every cell that reads it is in the program -/
theorem opt {g : Graph V} (hwf : g.WF) {c0 x' : Nat → V} {d : Bool} {C : List Nat} {s : St V}
    (h : Mid g c0 x' d (program g C) s) {i : Nat} (hi : i < g.nOpt) (hC : i ∈ C) (v : V) :
    Mid g c0 (upd x' i v) d (program g C)
      { s with lastValues := upd s.lastValues i v, val := updB s.val d (upd (s.val d) i (g.tr i v)) } := by
  refine ⟨h.sw, by rw [← h.lastValues], fun k => ?_, h.spare, fun k hk hkp => ?_, h.ptr⟩
  · rw [content_setPar g s d (!d) i k _ _ (by cases d <;> simp), h.base k]
  · by_cases hki : k = i
    · subst hki
      have hopt : (g.cell k).isOpt = true := (hwf.2.1 k hk).2 hi
      rw [cohAt_opt hopt]
      simp [content, isRec_opt hopt, updB, upd]
    · refine (h.done k hk hkp).congr (content_setPar g s d d i k _ _ fun _ => hki) (fun a ha => ?_) fun _ => if_neg hki
      exact content_setPar g s d d i a _ _ fun _ e => (program_closed g hwf C k hk hkp a ha).1 (e ▸ hC)

theorem opts {g : Graph V} (hwf : g.WF) {c0 : Nat → V} {d : Bool} {C : List Nat} :
    ∀ (ch : List (Nat × V)) (s : St V) (acc : List (Nat × V)) (x' : Nat → V),
      (∀ p, p ∈ ch → p.1 < g.nOpt ∧ p.1 ∈ C) → Mid g c0 x' d (program g C) s →
      Mid g c0 (patch x' ch) d (program g C) (setPars g d ch s acc).1
  | [], _, _, _, _, h => h
  | (i, v) :: ch, s, acc, x', hv, h => by
    obtain ⟨hi, hC⟩ := hv (i, v) (by simp)
    simp only [setPars, hi, if_true]
    exact opts hwf ch _ _ _ (fun p hp => hv p (by simp [hp])) (h.opt hwf hi hC v)

/-- running one cell of the program -/
theorem cell {g : Graph V} (hwf : g.WF) {c0 x' : Nat → V} {d : Bool} {j : Nat} {rest : List Nat} {s : St V}
    (hT : Tail g (j :: rest)) (h : Mid g c0 x' d (j :: rest) s) {r : Bool} {args : List Nat} {f : List V → Option V}
    (hc : g.cell j = .eval r args f) {v : V} (hf : f (args.map (content g s d)) = some v) :
    Mid g c0 x' d rest (write g s d j v) := by
  obtain ⟨hjn, _⟩ := hT.evals j (by simp)
  obtain ⟨w1, w2, w3, w4⟩ := write_fields g s d j v
  refine ⟨w3.trans h.sw, w4.trans h.lastValues, fun k => ?_, ?_, fun k hk hkr => ?_, fun k hk hr => ?_⟩
  · rw [content_write_other g s d j v (h.ptr j (by simp)) k, h.base k]
  · intro r hr b heq
    rw [w1] at heq ⊢
    rw [w2]
    exact h.spare r hr b heq
  · by_cases hkj : k = j
    · subst hkj
      rw [cohAt_eval hc, content_write_self,
        map_args_congr hc fun a ha => content_write_ne g s d d k a v (Nat.ne_of_lt (hwf.1 k hjn a ha)), hf]
    · have hkn : k ∉ j :: rest := by simp [hkj, hkr]
      refine (h.done k hk hkn).congr (content_write_ne g s d d j k v hkj) (fun a ha => ?_) fun _ => rfl
      exact content_write_ne g s d d j a v fun e => hT.closed k hk hkn a ha (by simp [e])
  · rw [w1]
    exact h.ptr k (by simp [hk]) hr

/-- `plain_update` from a mid-call state ends in a mid-call state, with nothing left to run if it completes; if a calc
raises, no evaluation at `x'` exists -/
theorem prog {g : Graph V} (hwf : g.WF) {c0 x' : Nat → V} {d : Bool} :
    ∀ (rest : List Nat) (s : St V), Tail g rest → Mid g c0 x' d rest s →
      (∃ rest', Mid g c0 x' d rest' (runProg g d rest s).1 ∧ ((runProg g d rest s).2 = true → rest' = [])) ∧
      ((runProg g d rest s).2 = false → ∀ c, ¬ Coh g c x') := by
  intro rest
  induction rest with
  | nil => intro s _ h; exact ⟨⟨[], h, fun _ => rfl⟩, fun h => by cases h⟩
  | cons j rest ih =>
    intro s hT h
    obtain ⟨hjn, hjargs⟩ := hT.evals j (by simp)
    unfold runProg
    cases hc : g.cell j with
    | opt t => exact absurd (by simp [hc, Cell.args]) hjargs
    | const v => exact absurd (by simp [hc, Cell.args]) hjargs
    | eval r args f =>
      simp only []
      cases hf : f (args.map (content g s d)) with
      | some v => exact ih _ (hT.tail hwf) (h.cell hwf hT hc hf)
      | none =>
        refine ⟨⟨j :: rest, h, fun h => by simp at h⟩, fun _ c hcoh => ?_⟩
        -- a coherent `c` agrees with the buffer on the arguments of `j` (`coh_agree`), where `f` has just failed
        have hagree := coh_agree g hwf x' (content g s d) c (j :: rest) hT.closed h.done hcoh
        have hj := (cohAt_eval hc c x').1 (hcoh j hjn)
        rw [map_args_congr hc fun a ha =>
          (hagree a (Nat.lt_trans (hwf.1 j hjn a ha) hjn) (args_not_mem hwf hT.sorted hjn a ha)).symm, hf] at hj
        cases hj

end Mid

/-- the results of `setPars` and of `runProg` inside `applyChanges`, named so that `applyChanges_spec` can treat them as
variables once `Mid` has said what is known of them -/
def stage3 (g : Graph V) (s1 : St V) (ch : List (Nat × V)) : St V × List (Nat × V) :=
  setPars g (!s1.sw) ch (prepare g (flipped s1) (program g (ch.map (·.1)))) []
def stage4 (g : Graph V) (s1 : St V) (ch : List (Nat × V)) : St V × Bool :=
  runProg g (!s1.sw) (program g (ch.map (·.1))) (stage3 g s1 ch).1

theorem applyChanges_eq (g : Graph V) (s1 : St V) (ch : List (Nat × V)) :
    applyChanges g s1 ch =
      if (stage4 g s1 ch).2 then
        ({ (stage4 g s1 ch).1 with lastUndo := (stage3 g s1 ch).2 },
          some (content g (stage4 g s1 ch).1 (stage4 g s1 ch).1.sw (g.n - 1)))
      else
        ({ (stage4 g s1 ch).1 with sw := (!(stage4 g s1 ch).1.sw), lastValues := patch (stage4 g s1 ch).1.lastValues (stage3 g s1 ch).2, lastUndo := [] }, none) := rfl

/-- what one `applyChanges` (= `change` after its undo block) establishes -/
theorem applyChanges_spec (g : Graph V) (hwf : g.WF) (s1 : St V) (ch : List (Nat × V))
    (hv : ValidCh g ch) (hcur : Coh g (content g s1 s1.sw) s1.lastValues) (hsp : SpareOK g s1) :
    Inv g (applyChanges g s1 ch).1 ∧
    (∀ v, (applyChanges g s1 ch).2 = some v →
      (applyChanges g s1 ch).1.lastValues = patch s1.lastValues ch ∧
      v = content g (applyChanges g s1 ch).1 (applyChanges g s1 ch).1.sw (g.n - 1)) ∧
    ((applyChanges g s1 ch).2 = none →
      (applyChanges g s1 ch).1.lastValues = s1.lastValues ∧ (applyChanges g s1 ch).1.sw = s1.sw ∧
      (∀ k, content g (applyChanges g s1 ch).1 s1.sw k = content g s1 s1.sw k) ∧
      (applyChanges g s1 ch).1.lastUndo = []) ∧
    ((applyChanges g s1 ch).2 = none → ∀ c, ¬ Coh g c (patch s1.lastValues ch)) := by
  -- the buffer to be written is `!s1.sw`; the one kept is `!!s1.sw`
  have hnn : (!(flipped s1).sw) = s1.sw := Bool.not_not _
  have hm := Mid.opts hwf ch _ [] _ (fun p hp => ⟨hv.1 p hp, List.mem_map_of_mem hp⟩)
    (Mid.copy g hwf (flipped s1) (ch.map (·.1)) (fun k => by rw [hnn]; rfl) hcur hsp)
  have hundo := setPars_undo g (!s1.sw) ch (prepare g (flipped s1) (program g (ch.map (·.1)))) [] hv.1 hv.2
  obtain ⟨⟨rest, hr, hrest⟩, hfail⟩ := hm.prog hwf _ _ (tail_program g hwf _)
  rw [applyChanges_eq]
  change Mid g _ _ _ rest (stage4 g s1 ch).1 at hr
  change (stage4 g s1 ch).2 = true → _ at hrest
  change (stage4 g s1 ch).2 = false → _ at hfail
  change (stage3 g s1 ch).2 = ch.map (fun p => (p.1, s1.lastValues p.1)) at hundo
  -- only these facts about the two stages are used from here on
  generalize stage4 g s1 ch = r4 at *
  generalize (stage3 g s1 ch).2 = undo at *
  obtain ⟨r, ok⟩ := r4
  subst hundo
  have h2 : ∀ k, content g r s1.sw k = content g s1 s1.sw k := fun k => hnn ▸ hr.base k
  have h4 : r.sw = (!s1.sw) := hr.sw
  have h5 : r.lastValues = patch s1.lastValues ch := hr.lastValues
  -- the buffer the call did not write still holds the evaluation at the old vector
  have hother : Coh g (content g r (!r.sw)) (patch r.lastValues (ch.map fun p => (p.1, s1.lastValues p.1))) := by
    rw [h4, h5, patch_changed, Bool.not_not]
    exact fun k hk => (hcur k hk).congr (h2 k) (fun a _ => h2 a) (fun _ => rfl)
  cases ok with
  | true =>
    refine ⟨⟨?_, fun _ => hother, hr.spare⟩, fun v hv' => ⟨h5, (Option.some.inj hv').symm⟩, nofun, nofun⟩
    show Coh g (content g r r.sw) r.lastValues
    rw [h4, h5]
    cases hrest rfl
    exact fun k hk => hr.done k hk List.not_mem_nil
  | false =>
    refine ⟨⟨hother, fun h => absurd rfl h, hr.spare⟩, nofun, fun _ => ⟨?_, ?_, h2, rfl⟩, fun _ => hfail rfl⟩
    · show patch r.lastValues _ = _
      rw [h5, patch_changed]
    · show (!r.sw) = _
      rw [h4, Bool.not_not]

/-! ### the undo block and a whole `change` -/

theorem afterUndo_spec [DecidableEq V] (g : Graph V) (s : St V) (ch : List (Nat × V))
    (hI : Inv g s) (hv : ValidCh g ch) :
    Coh g (content g (afterUndo s ch).1 (afterUndo s ch).1.sw) (afterUndo s ch).1.lastValues ∧
    SpareOK g (afterUndo s ch).1 ∧ ValidCh g (afterUndo s ch).2 := by
  unfold afterUndo
  split
  · rename_i hu
    refine ⟨?_, hI.spare, ?_, ?_⟩
    · have hne : s.lastUndo ≠ [] := by
        intro h; simp [undoApplies, h] at hu
      exact hI.other hne
    · intro p hp
      exact hv.1 p (List.mem_filter.1 hp).1
    · exact hv.2.sublist ((List.filter_sublist).map _)
  · exact ⟨hI.cur, hI.spare, hv⟩

/-- what one `change` call does: the invariant is kept; a call that returns is at the requested vector and returns the
last cell of the current buffer; a call that raises stays at the vector its undo block left, with `last_undo` empty, and
then no evaluation at the requested vector exists -/
theorem change_spec [DecidableEq V] (g : Graph V) (hwf : g.WF) (s : St V) (ch : List (Nat × V))
    (hI : Inv g s) (hv : ValidCh g ch) :
    Inv g (change g s ch).1 ∧
    (∀ v, (change g s ch).2 = some v →
      (change g s ch).1.lastValues = patch s.lastValues ch ∧
      v = content g (change g s ch).1 (change g s ch).1.sw (g.n - 1)) ∧
    ((change g s ch).2 = none →
      (change g s ch).1.lastValues = (afterUndo s ch).1.lastValues ∧ (change g s ch).1.lastUndo = [] ∧
      ∀ c, ¬ Coh g c (patch s.lastValues ch)) := by
  obtain ⟨h1, h2, h3⟩ := afterUndo_spec g s ch hI hv
  obtain ⟨a, b, c, e⟩ := applyChanges_spec g hwf (afterUndo s ch).1 (afterUndo s ch).2 h3 h1 h2
  have hp := funext (afterUndo_patch s ch hv.2)
  exact ⟨a, fun v hr => ⟨(b v hr).1.trans hp, (b v hr).2⟩, fun hr => ⟨(c hr).1, (c hr).2.2.2, hp ▸ e hr⟩⟩

/-- a `change` call that raises: a fresh evaluation at the requested vector raises too -/
theorem change_fails_fresh_fails [DecidableEq V] (g : Graph V) (hwf : g.WF) (s : St V) (ch : List (Nat × V))
    (hI : Inv g s) (hv : ValidCh g ch) (hr : (change g s ch).2 = none) :
    evalFresh g (patch s.lastValues ch) = none := by
  cases h : evalFresh g (patch s.lastValues ch) with
  | none => rfl
  | some vs => exact absurd (evalFresh_coh g hwf _ vs h) (((change_spec g hwf s ch hI hv).2.2 hr).2.2 _)

theorem init_inv (g : Graph V) (hwf : g.WF) (x0 : Nat → V) (s0 : St V) (h : init g x0 = some s0) :
    Inv g s0 := by
  unfold init at h
  cases he : evalFresh g x0 with
  | none => rw [he] at h; simp at h
  | some vs =>
    rw [he] at h
    simp only [Option.some.injEq] at h
    subst h
    have hs := evalFresh_coh g hwf x0 vs he
    have hcont : ∀ b k, content g
        { val := fun _ k => vs.getD k default, ptr := fun b k => if isConstF g g.n k then false else b,
          heap := fun k _ => vs.getD k default, spare := fun _ => none, sw := false,
          lastValues := x0, lastUndo := [] } b k = vs.getD k default := by
      intro b k; unfold content; simp
    refine ⟨?_, ?_, ?_⟩
    · intro k hk
      apply (hs k hk).congr
      · exact hcont _ k
      · intro a _; exact hcont _ a
      · intro _; rfl
    · intro h; exact absurd rfl h
    · intro r _ b _; simp

end CogentModel.Calc
