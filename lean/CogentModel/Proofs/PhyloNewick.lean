import CogentModel.Model.PhyloNewick
import CogentModel.Proofs.PhyloBasic
set_option linter.unusedSimpArgs false
/-! C09: the parser state machine inverts the writer on token lists. -/
namespace CogentModel.Phylo
open PTree
variable {K : Type}

/-- parser state between tokens (never expecting a length) -/
abbrev ps (stack : List (Frame K)) (nodes : List (PTree K)) (inParen : Bool)
    (children : Option (List (PTree K))) (name : Option String) (len : Option K) : PState K :=
  ⟨stack, nodes, inParen, children, name, len, false⟩

def kidsOpt (w : Bool) : PTree K → Option (List (PTree K))
  | .node _ _ [] => none
  | .node _ _ (c :: cs) => some (stripLensL w (c :: cs))
def nameOpt : PTree K → Option String
  | .node n _ _ => if n = "" then none else some n
def lenOpt (w : Bool) : PTree K → Option K
  | .node _ l _ => if w then l else none

theorem mkNode_opts (w : Bool) (t : PTree K) : mkNode (kidsOpt w t) (nameOpt t) (lenOpt w t) = stripLens w t := by
  cases t with
  | node n l cs =>
    cases cs with
    | nil => by_cases h : n = "" <;> simp [mkNode, kidsOpt, nameOpt, lenOpt, stripLens, stripLensL, h]
    | cons c cs => by_cases h : n = "" <;> simp [mkNode, kidsOpt, nameOpt, lenOpt, stripLens, stripLensL, h]

section
variable (stack : List (Frame K)) (nodes : List (PTree K)) (ip : Bool) (kids : Option (List (PTree K)))
  (name : Option String) (len : Option K) (rest : List (Tok K))

theorem prun_name_len (w : Bool) (n : String) (l : Option K) :
    prun (ps stack nodes ip kids none none) ((nameToks n ++ lenToks w l) ++ rest) =
      prun (ps stack nodes ip kids (if n = "" then none else some n) (if w then l else none)) rest := by
  by_cases hn : n = "" <;> cases l <;> cases w <;>
    simp [nameToks, lenToks, hn, prun, pstep, ps]

theorem prun_lp : prun (ps stack nodes ip none none none) (Tok.lp :: rest) =
    prun (ps (⟨nodes, ip⟩ :: stack) [] true none none none) rest := by
  simp [prun, pstep, ps]

theorem prun_comma : prun (ps stack nodes true kids name len) (Tok.comma :: rest) =
    prun (ps stack (nodes ++ [mkNode kids name len]) true none none none) rest := by
  simp [prun, pstep, closeNode, ps]

theorem prun_rp (f : Frame K) : prun (ps (f :: stack) nodes true kids name len) (Tok.rp :: rest) =
    prun (ps stack f.nodes f.inParen (some (nodes ++ [mkNode kids name len])) none none) rest := by
  simp [prun, pstep, closeNode, ps]

end

mutual
theorem prun_toks (w : Bool) : ∀ (t : PTree K) (stack : List (Frame K)) (nodes : List (PTree K)) (ip : Bool)
    (rest : List (Tok K)),
    prun (ps stack nodes ip none none none) (toks w t ++ rest) =
      prun (ps stack nodes ip (kidsOpt w t) (nameOpt t) (lenOpt w t)) rest
  | .node n l [], stack, nodes, ip, rest => prun_name_len stack nodes ip none rest w n l
  | .node n l (c :: cs), stack, nodes, ip, rest => by
    simp only [toks, List.cons_append, List.append_assoc]
    rw [prun_lp, prun_toks w c, prun_toksTail w cs, ← List.append_assoc, prun_name_len, List.nil_append, mkNode_opts]
    rfl
/-- the remaining children and the closing parenthesis, after the tokens of a child -/
theorem prun_toksTail (w : Bool) : ∀ (cs : List (PTree K)) (f : Frame K) (stack : List (Frame K))
    (acc : List (PTree K)) (k : Option (List (PTree K))) (n : Option String) (l : Option K) (rest : List (Tok K)),
    prun (ps (f :: stack) acc true k n l) (toksTail w cs ++ rest) =
      prun (ps stack f.nodes f.inParen (some (acc ++ mkNode k n l :: stripLensL w cs)) none none) rest
  | [], f, stack, acc, k, n, l, rest => prun_rp stack acc k n l rest f
  | c :: cs, f, stack, acc, k, n, l, rest => by
    simp only [toksTail, List.cons_append, List.append_assoc]
    rw [prun_comma, prun_toks w c, prun_toksTail w cs, mkNode_opts, List.append_assoc]
    rfl
end

theorem prun_tail (w : Bool) : ∀ (cs : List (PTree K)) (c : PTree K) (f : Frame K) (stack : List (Frame K))
    (acc : List (PTree K)) (rest : List (Tok K)),
    prun (ps (f :: stack) acc true none none none) (toks w c ++ (toksTail w cs ++ rest)) =
      prun (ps stack f.nodes f.inParen (some (acc ++ stripLens w c :: stripLensL w cs)) none none) rest :=
  fun cs c f stack acc rest => by rw [prun_toks w c, prun_toksTail w cs, mkNode_opts]

theorem parse_newickToks (w : Bool) (t : PTree K) : parseToks (newickToks w t) = some (stripLens w t) := by
  unfold parseToks newickToks
  have := prun_toks w t [] [] false [Tok.semi]
  simp only [ps] at this
  rw [show ({} : PState K) = ⟨[], [], false, none, none, none, false⟩ from rfl, this]
  simp [prun, pstep, closeNode, mkNode_opts]

mutual
theorem stripLens_true : ∀ t : PTree K, stripLens true t = t
  | .node n l cs => by simp [stripLens, stripLensL_true cs]
theorem stripLensL_true : ∀ cs : List (PTree K), stripLensL true cs = cs
  | [] => rfl
  | c :: cs => by simp [stripLensL, stripLens_true c, stripLensL_true cs]
end

end CogentModel.Phylo
