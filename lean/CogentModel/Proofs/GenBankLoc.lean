import CogentModel.Model.GenBankLoc
import CogentModel.Proofs.PyText
/-! GenBank location strings parse to the spans written.  `Denotes t v` says which texts denote which parts (a segment,
a keyword applied to a location, a comma list); one induction over it follows the tokenizer and the stack machine of
`parse_location_line` together.  The four shapes `GbLoc` that the harness writes are such texts. -/
namespace CogentModel.GenBank
open CogentModel.SeqFormats CogentModel.SeqSpec CogentModel.Splitlines

/-- `a..b` -/
def segText (p : Nat × Nat) : Str := natDigits p.1 ++ '.' :: '.' :: natDigits p.2
def mkSpan (p : Nat × Nat) : Span := ⟨p.1, p.2, 1⟩

def special (c : Char) : Bool := c = '(' || c = ')' || c = ','

theorem tokGo_word : ∀ (w curr rest : Str), (∀ c ∈ w, special c = false) → tokGo curr (w ++ rest) = tokGo (curr ++ w) rest
  | [], curr, rest, _ => by rw [List.nil_append, List.append_nil]
  | c :: cs, curr, rest, h => by
    have hc := h c List.mem_cons_self
    simp only [special, Bool.or_eq_false_iff, decide_eq_false_iff_not] at hc
    rw [List.cons_append, tokGo, if_neg hc.1.1, if_neg hc.1.2, if_neg hc.2,
      tokGo_word cs (curr ++ [c]) rest (fun d hd => h d (List.mem_cons_of_mem _ hd)), List.append_assoc]
    rfl

theorem digit_ne {c d : Char} (h : isDigit c = true) (hd : isDigit d = false) : c ≠ d := fun e => by
  rw [e, hd] at h
  cases h

theorem digit_not_special {c : Char} (h : isDigit c = true) : special c = false := by
  simp [special, digit_ne h (d := '(') rfl, digit_ne h (d := ')') rfl, digit_ne h (d := ',') rfl]

theorem segText_chars (p : Nat × Nat) : ∀ c ∈ segText p, special c = false ∧ isSpaceStr c = false := by
  intro c hc
  simp only [segText, List.mem_append, List.mem_cons] at hc
  rcases hc with h | rfl | rfl | h
  · exact ⟨digit_not_special (natDigits_chars _ c h).isDigit, natDigits_noSpace _ c h⟩
  · decide
  · decide
  · exact ⟨digit_not_special (natDigits_chars _ c h).isDigit, natDigits_noSpace _ c h⟩

theorem segText_ne_nil (p : Nat × Nat) : segText p ≠ [] := by
  simp [segText]

theorem segText_strip (p : Nat × Nat) : strip (segText p) = segText p :=
  stripBy_of_all fun c hc => (segText_chars p c hc).2

/-- a keyword: it holds no bracket or comma, and `strip` leaves it alone -/
def Plain (w : Str) : Prop := (∀ c ∈ w, special c = false) ∧ strip w = w

theorem segText_not_special (p : Nat × Nat) {c : Char} (hc : special c = true) : c ∉ segText p := fun hm => by
  rw [(segText_chars p c hm).1] at hc
  cases hc

theorem tokGo_kw {kw : Str} (hk : Plain kw) (rest : Str) :
    tokGo [] (kw ++ '(' :: rest) = (kw ++ ['(']) :: tokGo [] rest := by
  rw [tokGo_word _ _ _ hk.1]
  simp only [List.nil_append]
  rw [tokGo]
  simp [hk.2]

theorem tokGo_close (rest : Str) : tokGo [] (')' :: rest) = [')'] :: tokGo [] rest := by
  rw [tokGo]
  simp

theorem tokGo_comma (rest : Str) : tokGo [] (',' :: rest) = [','] :: tokGo [] rest := by
  rw [tokGo]
  simp

theorem tokGo_nil : tokGo [] [] = [] := by simp [tokGo]

/-- the text behind a segment that ends the segment's token: nothing, or text that goes on with `)` or `,` -/
inductive Ends : Str → Prop
  | nil : Ends []
  | close (r : Str) : Ends (')' :: r)
  | comma (r : Str) : Ends (',' :: r)

theorem tokGo_seg (p : Nat × Nat) {rest : Str} (h : Ends rest) :
    tokGo [] (segText p ++ rest) = segText p :: tokGo [] rest := by
  rw [tokGo_word _ _ _ fun c hc => (segText_chars p c hc).1, List.nil_append]
  have hemp := List.isEmpty_eq_false_iff.mpr (segText_ne_nil p)
  cases h with
  | nil => simp [tokGo, hemp, segText_strip]
  | close r =>
    rw [tokGo, tokGo_close]
    simp [hemp, segText_strip]
  | comma r =>
    rw [tokGo, tokGo_comma]
    simp [hemp, segText_strip]

/-- a character other than `.` joins the first field of what follows, whatever follows -/
theorem splitDotDot_cons {c : Char} (hc : c ≠ '.') : ∀ rest : Str, splitDotDot (c :: rest) = consHead c (splitDotDot rest)
  | [] => rfl
  | d :: cs => by rw [splitDotDot, if_neg fun h => hc h.1]

/-- a word without `.` in front of `r` joins the first field of `r`: `r = []` is a text without `..`,
`r = '.' :: '.' :: _` a field that ends at its `..` -/
theorem splitDotDot_word {r hd : Str} {tl : List Str} (hr : splitDotDot r = hd :: tl) : ∀ w : Str, '.' ∉ w →
    splitDotDot (w ++ r) = (w ++ hd) :: tl
  | [], _ => hr
  | c :: w, h => by
    rw [List.cons_append, splitDotDot_cons (fun e => h (e ▸ List.mem_cons_self)),
      splitDotDot_word hr w fun hm => h (List.mem_cons_of_mem _ hm)]
    rfl

theorem natDigits_noDot (n : Nat) : '.' ∉ natDigits n := fun hm =>
  digit_ne (natDigits_chars n _ hm).isDigit rfl rfl

theorem parseEnd_digits (n : Nat) : parseEnd (natDigits n) = .ok (n : Int) := by
  cases h : natDigits n with
  | nil => exact absurd h (natDigits_ne_nil n)
  | cons c r =>
    have hc := (natDigits_chars n c (by rw [h]; exact List.mem_cons_self)).isDigit
    simp only [parseEnd, hc, if_true]
    rw [← h]; exact pyInt_natDigits n

theorem parseSegment_segText (p : Nat × Nat) : parseSegment (segText p) = .ok (mkSpan p) := by
  have h2 := splitDotDot_word (r := []) rfl _ (natDigits_noDot p.2)
  have h1 := splitDotDot_word (r := '.' :: '.' :: natDigits p.2) (by rw [splitDotDot, if_pos ⟨rfl, rfl⟩]) _
    (natDigits_noDot p.1)
  rw [List.append_nil] at h2
  rw [parseSegment, segText, h1, h2, List.append_nil]
  simp [parseEnd_digits, mkSpan, bind, Except.bind, pure, Except.pure]

theorem locGo_seg (p : Nat × Nat) (kw : Str) (ch : List Span) (rest : List (Str × List Span)) (ts : List Str) :
    locGo ((kw, ch) :: rest) (segText p :: ts) = locGo ((kw, ch ++ [mkSpan p]) :: rest) ts := by
  have h1 : ¬ (segText p).getLast? = some '(' := fun e => segText_not_special p rfl (List.mem_of_getLast? e)
  have h2 : segText p ≠ [','] := fun e => segText_not_special p (c := ',') rfl (by rw [e]; exact List.mem_singleton_self _)
  have h3 : segText p ≠ [')'] := fun e => segText_not_special p (c := ')') rfl (by rw [e]; exact List.mem_singleton_self _)
  rw [locGo.eq_def]
  simp only [h1, h2, h3, if_false, parseSegment_segText]

theorem locGo_comma (frames : List (Str × List Span)) (ts : List Str) : locGo frames ([','] :: ts) = locGo frames ts := by
  rw [locGo.eq_def]
  simp

/-- text of `a..b,c..d,...` -/
def segsText : List (Nat × Nat) → Str
  | [] => []
  | [p] => segText p
  | p :: q :: r => segText p ++ ',' :: segsText (q :: r)

/-- the location shapes the harness writes: single span, complement of a span, join of spans, complement of a
join -/
inductive GbLoc where
  | span (p : Nat × Nat)
  | comp (p : Nat × Nat)
  | join (ps : List (Nat × Nat))
  | compJoin (ps : List (Nat × Nat))

def kwC : Str := ['c', 'o', 'm', 'p', 'l', 'e', 'm', 'e', 'n', 't']
def kwJ : Str := ['j', 'o', 'i', 'n']

/-- the location string as written into the FEATURES table -/
def render : GbLoc → Str
  | .span p => segText p
  | .comp p => kwC ++ ('(' :: (segText p ++ [')']))
  | .join ps => kwJ ++ ('(' :: (segsText ps ++ [')']))
  | .compJoin ps => kwC ++ ('(' :: (kwJ ++ ('(' :: (segsText ps ++ [')', ')']))))

def flip (l : List Span) : List Span := l.reverse.map (fun s => { s with strand := -s.strand })

/-- the meaning of the location: its parts in the order and orientation GenBank defines -/
def eval : GbLoc → List Span
  | .span p => [mkSpan p]
  | .comp p => flip [mkSpan p]
  | .join ps => ps.map mkSpan
  | .compJoin ps => flip (ps.map mkSpan)

def GbLoc.wf : GbLoc → Prop
  | .join ps => ps ≠ []
  | .compJoin ps => ps ≠ []
  | _ => True

theorem locGo_open (kw : Str) (frames : List (Str × List Span)) (ts : List Str) :
    locGo frames ((kw ++ ['(']) :: ts) = locGo ((kw ++ ['('], []) :: frames) ts := by
  rw [locGo.eq_def]
  simp

theorem locGo_close (kw : Str) (children : List Span) (pkw : Str) (pch : List Span) (rest : List (Str × List Span))
    (ts : List Str) :
    locGo ((kw, children) :: (pkw, pch) :: rest) ([')'] :: ts) =
      locGo ((pkw, pch ++ (if kw = kwComplement then flip children else children)) :: rest) ts := by
  rw [locGo.eq_def]
  simp [flip]

/-- `t` is a location text that denotes the parts `v`: a segment, a keyword applied to a location text (`complement`
reverses the parts and flips their strands, every other keyword keeps them, as in `parse_location_line`), or two
location texts with a comma between them -/
inductive Denotes : Str → List Span → Prop
  | seg (p : Nat × Nat) : Denotes (segText p) [mkSpan p]
  | op {kw t : Str} {v : List Span} : Plain kw → Denotes t v →
      Denotes (kw ++ '(' :: (t ++ [')'])) (if kw ++ ['('] = kwComplement then flip v else v)
  | comma {t t' : Str} {v v' : List Span} : Denotes t v → Denotes t' v' → Denotes (t ++ ',' :: t') (v ++ v')

/-- the stack machine over the tokens of a location text: its parts join the children of the top frame -/
theorem locGo_denotes {t : Str} {v : List Span} (h : Denotes t v) : ∀ {rest : Str}, Ends rest →
    ∀ (kw : Str) (ch : List Span) (fr : List (Str × List Span)),
      locGo ((kw, ch) :: fr) (tokGo [] (t ++ rest)) = locGo ((kw, ch ++ v) :: fr) (tokGo [] rest) := by
  induction h with
  | seg p =>
    intro rest hr kw ch fr
    rw [tokGo_seg p hr, locGo_seg]
  | @op k t v hk _ ih =>
    intro rest hr kw ch fr
    -- the keyword opens a frame, the inner text fills it, `)` splices it into the frame below
    rw [List.append_assoc, List.cons_append, List.append_assoc, List.singleton_append, tokGo_kw hk,
      locGo_open, ih (.close rest), tokGo_close, locGo_close, List.nil_append]
  | @comma t t' v v' _ _ ih ih' =>
    intro rest hr kw ch fr
    rw [List.append_assoc, List.cons_append, ih (.comma _), tokGo_comma, locGo_comma, ih' hr, List.append_assoc]

/-- every location text parses to the parts it denotes -/
theorem parseLocation_denotes {t : Str} {v : List Span} (h : Denotes t v) : parseLocation t = .ok v := by
  have := locGo_denotes h .nil [] [] []
  rwa [List.append_nil, tokGo_nil] at this

theorem kwC_plain : Plain kwC := ⟨by decide, by decide +kernel⟩
theorem kwJ_plain : Plain kwJ := ⟨by decide, by decide +kernel⟩

theorem Denotes.comp {t : Str} {v : List Span} (h : Denotes t v) : Denotes (kwC ++ '(' :: (t ++ [')'])) (flip v) :=
  .op kwC_plain h

theorem Denotes.join {t : Str} {v : List Span} (h : Denotes t v) : Denotes (kwJ ++ '(' :: (t ++ [')'])) v := by
  have := Denotes.op kwJ_plain h
  rwa [if_neg (by decide)] at this

theorem denotes_segs : ∀ ps : List (Nat × Nat), ps ≠ [] → Denotes (segsText ps) (ps.map mkSpan)
  | [], h => absurd rfl h
  | [p], _ => .seg p
  | p :: q :: r, _ => .comma (.seg p) (denotes_segs (q :: r) (List.cons_ne_nil _ _))

theorem denotes_render (l : GbLoc) (h : l.wf) : Denotes (render l) (eval l) := by
  cases l with
  | span p => exact .seg p
  | comp p => exact (Denotes.seg p).comp
  | join ps => exact (denotes_segs ps h).join
  | compJoin ps =>
    have := (denotes_segs ps h).join.comp
    rwa [List.append_assoc, List.cons_append, List.append_assoc] at this

theorem listStrand_const {l : List Span} {k : Int} (hne : l ≠ []) (h : ∀ s ∈ l, s.strand = k) :
    listStrand l = .ok k := by
  cases l with
  | nil => exact absurd rfl hne
  | cons s rest =>
    have hs := h s List.mem_cons_self
    rw [listStrand, if_pos, hs]
    exact List.all_eq_true.mpr fun t ht => decide_eq_true (by rw [h t (List.mem_cons_of_mem _ ht), hs])

theorem listStrand_fwd (ps : List (Nat × Nat)) (h : ps ≠ []) : listStrand (ps.map mkSpan) = .ok 1 :=
  listStrand_const (fun e => h (List.map_eq_nil_iff.mp e)) fun s hs => by
    obtain ⟨p, _, rfl⟩ := List.mem_map.mp hs
    rfl

theorem listStrand_flip (ps : List (Nat × Nat)) (h : ps ≠ []) : listStrand (flip (ps.map mkSpan)) = .ok (-1) :=
  listStrand_const (fun e => h (by simpa [flip] using e)) fun s hs => by
    simp only [flip, List.mem_map, List.mem_reverse] at hs
    obtain ⟨_, ⟨p, _, rfl⟩, rfl⟩ := hs
    rfl

end CogentModel.GenBank
