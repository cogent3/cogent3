import CogentModel.Model.AlnPred
import CogentModel.Proofs.PyRange
/-! C03: the slices `sliding_windows` yields stay inside the alignment. -/
namespace CogentModel.Aln
open List CogentModel

/-- window starts of `sliding_windows` stay inside the alignment: for `0 ≤ start`, `1 ≤ step` every yielded
slice `[pos : pos + window]` has `0 ≤ pos` and `pos + window ≤ n` -/
theorem windowBounds_in_range (n window step : Int) (start stop : Option Int) (hstep : 0 < step)
    (hstart : ∀ x, start = some x → 0 ≤ x) :
    ∀ p ∈ windowBounds n window step start stop, 0 ≤ p.1 ∧ p.2 = p.1 + window ∧ p.2 ≤ n := by
  intro p hp
  unfold windowBounds at hp
  simp only at hp
  split at hp
  · obtain ⟨x, hx, rfl⟩ := mem_map.mp hp
    obtain ⟨h1, h2⟩ := PySlice.mem_rangeList_pos hstep hx
    have hs0 : 0 ≤ start.getD 0 := by
      cases start with
      | none => exact Int.le_refl 0
      | some x => exact hstart x rfl
    have hle := Int.min_le_left (n - window + 1) (stop.getD (n - window + 1))
    exact ⟨by omega, rfl, by omega⟩
  · cases hp

end CogentModel.Aln
