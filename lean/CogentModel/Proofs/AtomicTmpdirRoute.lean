import CogentModel.Model.AtomicSite
import CogentModel.Proofs.AtomicExecFrame
/-! The `tmpdir=` route of `atomic_write` (the temp file lives in a directory of the caller's): the state after the
rename has a closed form (`tmpCommitted`); before it only the temp file changes (`crashTmp_before`) and holds a file or
nothing (`fileOrNone`), so the cleanup's unlink removes it whichever call raised. -/
namespace CogentModel.AtomicWrite

structure WFtmp (c : Cfg) (fs : FS) : Prop where
  hdir : fs c.dir = some .dir
  hne : c.t ≠ c.name
  htmp : fs c.tmpdir = some .dir         -- the caller's directory exists (and may hold anything)
  hfile : fs c.tmpfile = none            -- the uuid name is fresh
  hdest : fs c.dest ≠ some .dir

def tmpCommitted (c : Cfg) (fs : FS) : FS :=
  upd (upd (tmpState c fs) c.dest (some (.file c.newData))) c.tmpfile none

theorem tmpCommitted_spec (c : Cfg) (fs : FS) :
    tmpCommitted c fs c.dest = some (.file c.newData) ∧ tmpCommitted c fs c.tmpfile = none ∧
    ∀ q, q ≠ c.dest → q ≠ c.tmpfile → tmpCommitted c fs q = fs q :=
  ⟨by simp [tmpCommitted, upd, (tmpfile_ne_dest c).symm], by simp [tmpCommitted],
    fun q h1 h2 => by simp [tmpCommitted, tmpState, upd, h1, h2]⟩

theorem run_rename_tmp (c : Cfg) (fs : FS) (h : WFtmp c fs) :
    runInstr (tmpState c fs) ⟨.rename c.tmpfile c.dest, .commitRename⟩ = .ok (tmpCommitted c fs) :=
  run_rename c _ _ (upd_same _ _ _) (by rw [tmpState, upd_other _ _ _ _ (dir_ne_tmpfile c)]; exact h.hdir)
    (by rw [tmpState, upd_other _ _ _ _ (tmpfile_ne_dest c).symm]; exact h.hdest)

theorem exec_tmp_commit (c : Cfg) (fs : FS) (h : WFtmp c fs) :
    exec fs ([⟨.openW c.tmpfile, .enter⟩] ++ writes c c.chunks ++ [closeInstr c] ++ [⟨.rename c.tmpfile c.dest, .commitRename⟩]) =
      (tmpCommitted c fs, none) := by
  rw [exec_append_ok _ _ _ _ (exec_preTmp c fs h.htmp h.hfile),
    exec_cons_ok _ _ _ _ (run_rename_tmp c fs h)]
  rfl

theorem exec_programTmp_rmtree (c : Cfg) (fs : FS) (h : WFtmp c fs) :
    exec fs (programTmp c .rmtreeDir) = ((fun q => if under c.tmpdir q then none else tmpCommitted c fs q), none) := by
  have hd : tmpCommitted c fs c.tmpdir = some .dir := by
    simp [tmpCommitted, tmpState, upd, (tmpfile_ne_tmpdir c).symm, tmpdir_ne_dest c h.hne, h.htmp]
  rw [programTmp, exec_append_ok _ _ _ _ (exec_tmp_commit c fs h),
    exec_cons_ok _ _ _ _ (run_rmtree c _ hd)]
  rfl

theorem exec_programTmp_unlink (c : Cfg) (fs : FS) (h : WFtmp c fs) :
    exec fs (programTmp c .unlinkFile) = (tmpCommitted c fs, none) := by
  have : runInstr (tmpCommitted c fs) ⟨.unlink c.tmpfile, .commitUnlink⟩ = .ok (tmpCommitted c fs) := by
    simp [runInstr, step, tmpCommitted]
  rw [programTmp, exec_append_ok _ _ _ _ (exec_tmp_commit c fs h),
    exec_cons_ok _ _ _ _ this]
  rfl

end CogentModel.AtomicWrite

namespace CogentModel.AtomicSite
open CogentModel.AtomicWrite CogentModel.AtomicProg

theorem programTmp_eq (c : Cfg) :
    programTmp c .unlinkFile = preTmp c ++ [⟨.rename c.tmpfile c.dest, .commitRename⟩, cleanupTmp c] := by
  simp [programTmp, preTmp, cleanupTmp]

theorem preTmp_length (c : Cfg) : (preTmp c).length = c.chunks.length + 2 := by simp [preTmp, writes]

theorem programTmp_length (c : Cfg) : (programTmp c .unlinkFile).length = c.chunks.length + 4 := by
  simp [programTmp_eq, preTmp_length]

theorem programTmp_cons (c : Cfg) : programTmp c .unlinkFile = ⟨.openW c.tmpfile, .enter⟩ ::
    (writes c c.chunks ++ [closeInstr c, ⟨.rename c.tmpfile c.dest, .commitRename⟩, ⟨.unlink c.tmpfile, .commitUnlink⟩]) := by
  simp [programTmp]

/-- invariant of the temp file up to the rename: not a directory, so the unlink of `cleanupTmp` removes it or finds
nothing (`runInstr` swallows only ENOENT) -/
def fileOrNone : Option Node → Prop
  | none => True
  | some (.file _) => True
  | _ => False

theorem exec_cleanupTmp (c : Cfg) (S : FS) (hS : fileOrNone (S c.tmpfile)) :
    (exec S [cleanupTmp c]).1 c.tmpfile = none ∧ ∀ q, q ≠ c.tmpfile → (exec S [cleanupTmp c]).1 q = S q := by
  cases hv : S c.tmpfile with
  | none => simp [exec, runInstr, step, cleanupTmp, hv]
  | some n =>
    cases n with
    | file d => simp [exec, runInstr, step, cleanupTmp, hv, upd]; intro q hq; simp [hq]
    | dir => rw [hv] at hS; cases hS
    | archive ms t => rw [hv] at hS; cases hS

theorem take_le_pre (c : Cfg) (k : Nat) (hk : k ≤ c.chunks.length + 2) :
    (programTmp c .unlinkFile).take k = (preTmp c).take k := by
  rw [programTmp_eq, List.take_append_of_le_length (by rw [preTmp_length]; exact hk)]

theorem crashTmp_before (c : Cfg) (fs : FS) (k : Nat) (hk : k ≤ c.chunks.length + 2) (q : Path) (hq : q ≠ c.tmpfile) :
    crashStateTmp c fs k q = fs q := by
  unfold crashStateTmp
  rw [take_le_pre c k hk]
  exact exec_frame _ _ _ (fun i hi => tmpCalls_frame c _ q hq i (List.mem_of_mem_take hi))

theorem crashTmp_before_file (c : Cfg) (fs : FS) (hf : fileOrNone (fs c.tmpfile)) (k : Nat) (hk : k ≤ c.chunks.length + 2) :
    fileOrNone (crashStateTmp c fs k c.tmpfile) := by
  unfold crashStateTmp
  rw [take_le_pre c k hk]
  -- each call of `preTmp` that succeeds keeps the invariant: the open and a write leave a file, the close changes nothing
  refine exec_inv (fun S => fileOrNone (S c.tmpfile)) _ (fun i hi S S' hS hr => ?_) fs hf
  have hi := List.mem_of_mem_take hi
  simp only [preTmp, writes, List.mem_append, List.mem_cons, List.mem_map, List.not_mem_nil, or_false] at hi
  rcases hi with (rfl | ⟨ch, _, rfl⟩) | rfl
  · simp only [step] at hr
    split at hr
    · cases hr
    · split at hr
      · cases hr; simp [upd, fileOrNone]
      · cases hr
  · simp only [step] at hr
    split at hr
    · cases hr; simp [upd, fileOrNone]
    · cases hr
  · simp only [step] at hr; cases hr; exact hS

/-- from the rename on the state is the committed one (the final unlink finds nothing and changes nothing) -/
theorem crashTmp_after (c : Cfg) (fs : FS) (h : WFtmp c fs) (k : Nat) (hk : c.chunks.length + 3 ≤ k) :
    crashStateTmp c fs k = tmpCommitted c fs := by
  unfold crashStateTmp
  by_cases h3 : k = c.chunks.length + 3
  · rw [programTmp_eq, h3, show c.chunks.length + 3 = (preTmp c).length + 1 from by rw [preTmp_length],
      List.take_length_add_append]
    exact congrArg Prod.fst (exec_tmp_commit c fs h)
  · rw [List.take_of_length_le (by rw [programTmp_length]; omega), exec_programTmp_unlink c fs h]

theorem faultTmp_before (c : Cfg) (fs : FS) (hf : fileOrNone (fs c.tmpfile)) (k : Nat) (hk : k < c.chunks.length + 3) :
    faultStateTmp c fs k c.tmpfile = none ∧ ∀ q, q ≠ c.tmpfile → faultStateTmp c fs k q = fs q := by
  have hS := crashTmp_before_file c fs hf k (by omega)
  have hcl := exec_cleanupTmp c (crashStateTmp c fs k) hS
  have e : exec (crashStateTmp c fs k) (handlerTmp c k) = exec (crashStateTmp c fs k) [cleanupTmp c] := by
    unfold handlerTmp
    split
    · rfl
    · split
      · rw [exec_cons_ok _ _ _ _ (show runInstr _ ⟨.close c.tmpfile, .exitClose⟩ = .ok _ from rfl)]
      · simp
  unfold faultStateTmp
  rw [e]
  exact ⟨hcl.1, fun q hq => by rw [hcl.2 q hq]; exact crashTmp_before c fs k (by omega) q hq⟩

/-- the final unlink raising is suppressed: the committed state stays -/
theorem faultTmp_last (c : Cfg) (fs : FS) (h : WFtmp c fs) :
    faultStateTmp c fs (c.chunks.length + 3) = tmpCommitted c fs := by
  unfold faultStateTmp handlerTmp
  have a : ¬ (c.chunks.length + 3 = 0) := by omega
  have b : ¬ (c.chunks.length + 3 ≤ c.chunks.length) := by omega
  simp only [a, b, if_false, Nat.lt_irrefl, exec]
  exact crashTmp_after c fs h _ (Nat.le_refl _)

end CogentModel.AtomicSite
