/-! Python's `sorted(xs)` / `xs.sort()` is modelled throughout as an insertion sort, `xs.foldr ins []` with
`ins v [] = [v]` and `ins v (x :: xs) = if le v x then v :: x :: xs else x :: ins v xs`.  What a proof needs of such a
sort is shown here once, for any `ins` that satisfies these two equations (each model's own `insert…` does, by `rfl`):
the result is a permutation of the input — membership, `Nodup`, sums and symmetric pairwise relations then carry over by
the `List.Perm` lemmas of core — and it is sorted when `le` is total and transitive. -/
namespace CogentModel.InsertionSort

variable {α : Type _} {le : α → α → Prop} [DecidableRel le] {ins : α → List α → List α}
  (nil : ∀ v, ins v [] = [v])
  (cons : ∀ v x xs, ins v (x :: xs) = if le v x then v :: x :: xs else x :: ins v xs)
include nil cons

theorem ins_perm (v : α) : ∀ L : List α, (ins v L).Perm (v :: L)
  | [] => by rw [nil]
  | x :: xs => by
    rw [cons]
    split
    · exact .refl _
    · exact ((ins_perm v xs).cons x).trans (.swap v x xs)

theorem sort_perm : ∀ T : List α, (T.foldr ins []).Perm T
  | [] => .nil
  | x :: xs => (ins_perm nil cons x _).trans ((sort_perm xs).cons x)

theorem ins_sorted (total : ∀ a b, ¬ le a b → le b a) (trans : ∀ a b c, le a b → le b c → le a c) (v : α) :
    ∀ L : List α, L.Pairwise le → (ins v L).Pairwise le
  | [], _ => by rw [nil]; exact List.pairwise_singleton _ _
  | x :: xs, h => by
    rw [cons]
    split
    · rename_i hvx
      -- `v` goes in front: it is below `x`, hence below everything `x` is below
      exact .cons (fun z hz => (List.mem_cons.1 hz).elim (fun e => e ▸ hvx)
        fun hz => trans _ _ _ hvx (List.rel_of_pairwise_cons h hz)) h
    · rename_i hvx
      -- `x` stays in front: what follows it is `v` or an element of `xs`
      refine .cons (fun z hz => ?_) (ins_sorted total trans v xs h.of_cons)
      rcases List.mem_cons.1 ((ins_perm nil cons v xs).mem_iff.1 hz) with rfl | hz
      · exact total _ _ hvx
      · exact List.rel_of_pairwise_cons h hz

theorem sort_sorted (total : ∀ a b, ¬ le a b → le b a) (trans : ∀ a b c, le a b → le b c → le a c) :
    ∀ T : List α, (T.foldr ins []).Pairwise le
  | [] => .nil
  | x :: xs => ins_sorted nil cons total trans x _ (sort_sorted total trans xs)

/-- sorting a sorted list changes nothing -/
theorem sort_of_sorted : ∀ T : List α, T.Pairwise le → T.foldr ins [] = T
  | [], _ => rfl
  | x :: r, h => by
    rw [List.foldr_cons, sort_of_sorted r h.of_cons]
    cases r with
    | nil => exact nil x
    | cons y ys => rw [cons]; exact if_pos (List.rel_of_pairwise_cons h List.mem_cons_self)

end CogentModel.InsertionSort
