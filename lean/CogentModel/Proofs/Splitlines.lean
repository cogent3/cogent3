import CogentModel.Model.Splitlines
/-! `iter_splitlines` is independent of the chunking: what the loop carries from one chunk to the next splits,
together with the rest of the text, like the text itself (`splitCore_carry`). -/
namespace CogentModel.Splitlines

/-- the text uses `'\n'` as its only line boundary (true of every file read in text mode with
universal newlines that has no VT/FF/FS/GS/RS/NEL/LS/PS control characters) -/
def NlOnly (s : List Char) : Prop := ∀ c ∈ s, isBreak c = true → c = '\n'

instance (s : List Char) : Decidable (NlOnly s) := by unfold NlOnly; infer_instance

theorem isBreak_nl : isBreak '\n' = true := by decide

theorem nlOnly_append {a b : List Char} : NlOnly (a ++ b) ↔ NlOnly a ∧ NlOnly b := by
  simp only [NlOnly, List.mem_append, or_imp, forall_and]

theorem nlOnly_cons {c : Char} {s : List Char} : NlOnly (c :: s) ↔ (isBreak c = true → c = '\n') ∧ NlOnly s := by
  simp only [NlOnly, List.mem_cons, or_imp, forall_and, forall_eq]

theorem crlfAux_noCR_app : ∀ (c X : List Char), (∀ d ∈ c, d ≠ '\r') → crlfAux false (c ++ X) = c ++ crlfAux false X
  | [], _, _ => rfl
  | d :: ds, X, h => by
    have hd : d ≠ '\r' := h d List.mem_cons_self
    have ih := crlfAux_noCR_app ds X (fun x hx => h x (List.mem_cons_of_mem _ hx))
    simp [crlfAux, hd, ih]

theorem crlf_id_of_noCR (s : List Char) (h : ∀ c ∈ s, c ≠ '\r') : crlfAux false s = s := by
  have := crlfAux_noCR_app s [] h
  rw [List.append_nil] at this
  exact this.trans (List.append_nil s)

theorem nlOnly_noCR {s : List Char} (h : NlOnly s) : ∀ c ∈ s, c ≠ '\r' :=
  fun c hc e => absurd (h c hc (e ▸ by decide)) (e ▸ by decide)

theorem pySplitlines_eq_core {s : List Char} (h : NlOnly s) : pySplitlines s = splitCore s := by
  unfold pySplitlines
  rw [crlf_id_of_noCR s (nlOnly_noCR h)]

theorem splitCore_eq_nil {s : List Char} : splitCore s = [] ↔ s = [] := by
  cases s with
  | nil => simp [splitCore]
  | cons c cs =>
    simp only [splitCore]
    split
    · simp
    · cases h : splitCore cs <;> simp [consHead]

theorem consHead_ne_nil (c : Char) (ls : List (List Char)) : consHead c ls ≠ [] := by
  cases ls <;> simp [consHead]

theorem consHead_append (c : Char) {a : List (List Char)} (b : List (List Char)) (ha : a ≠ []) :
    consHead c (a ++ b) = consHead c a ++ b := by
  cases a with
  | nil => exact absurd rfl ha
  | cons l ls => simp [consHead]

/-- what holds of `c` and of every character of the lines `ls` holds of every character of `consHead c ls` -/
theorem consHead_forall {P : Char → Prop} {c : Char} {ls : List (List Char)} (hc : P c) (h : ∀ l ∈ ls, ∀ x ∈ l, P x) :
    ∀ l ∈ consHead c ls, ∀ x ∈ l, P x := by
  cases ls with
  | nil =>
    intro l hl x hx
    obtain rfl := List.mem_singleton.mp hl
    exact List.mem_singleton.mp hx ▸ hc
  | cons l0 ls =>
    intro l hl x hx
    rcases List.mem_cons.mp hl with rfl | hl
    · rcases List.mem_cons.mp hx with rfl | hx
      · exact hc
      · exact h l0 List.mem_cons_self x hx
    · exact h l (List.mem_cons_of_mem _ hl) x hx

theorem splitCore_noBreak : ∀ (s : List Char), ∀ l ∈ splitCore s, ∀ c ∈ l, isBreak c = false
  | [], l, hl => nomatch hl
  | d :: ds, l, hl => by
    rw [splitCore] at hl
    split at hl
    · rcases List.mem_cons.mp hl with rfl | h
      · exact fun c hc => nomatch hc
      · exact splitCore_noBreak ds l h
    · next hd => exact consHead_forall (Bool.eq_false_iff.mpr hd) (splitCore_noBreak ds) l hl

theorem endsWithNl_cons (c : Char) {cs : List Char} (h : cs ≠ []) : endsWithNl (c :: cs) = endsWithNl cs := by
  unfold endsWithNl
  cases cs with
  | nil => exact absurd rfl h
  | cons d ds => simp [List.getLast?_cons_cons]

/-- the lines of a non-empty text as complete lines and a last line, and how the last line joins what follows -/
theorem splitCore_snoc : ∀ (data : List Char), data ≠ [] → NlOnly data → ∃ init last, splitCore data = init ++ [last] ∧
    ∀ rest, splitCore (data ++ rest) = init ++ splitCore ((if endsWithNl data then last ++ ['\n'] else last) ++ rest)
  | [], h, _ => absurd rfl h
  | [c], _, hnl => by
    by_cases hb : isBreak c = true
    · obtain rfl : c = '\n' := (nlOnly_cons.mp hnl).1 hb
      exact ⟨[], [], rfl, fun _ => rfl⟩
    · have hne : c ≠ '\n' := fun e => hb (e ▸ isBreak_nl)
      refine ⟨[], [c], by rw [splitCore, if_neg hb]; rfl, fun rest => ?_⟩
      rw [endsWithNl, List.getLast?_singleton, decide_eq_false (fun e => hne (Option.some.inj e))]
      rfl
  | c :: c2 :: cs, _, hnl => by
    obtain ⟨init, last, hs, hrest⟩ := splitCore_snoc (c2 :: cs) (List.cons_ne_nil _ _) (nlOnly_cons.mp hnl).2
    have hend : endsWithNl (c :: c2 :: cs) = endsWithNl (c2 :: cs) := endsWithNl_cons c (List.cons_ne_nil _ _)
    rw [hend]
    by_cases hb : isBreak c = true
    · refine ⟨[] :: init, last, by rw [splitCore, if_pos hb, hs]; rfl, fun rest => ?_⟩
      rw [List.cons_append, splitCore, if_pos hb, hrest]
      rfl
    · cases init with
      | nil =>
        refine ⟨[], c :: last, by rw [splitCore, if_neg hb, hs]; rfl, fun rest => ?_⟩
        rw [List.cons_append, splitCore, if_neg hb, hrest, List.nil_append, List.nil_append]
        split <;> (simp only [List.cons_append]; rw [splitCore, if_neg hb])
      | cons i init =>
        refine ⟨(c :: i) :: init, last, by rw [splitCore, if_neg hb, hs]; rfl, fun rest => ?_⟩
        rw [List.cons_append, splitCore, if_neg hb, hrest]
        rfl

/-- **the carry-over lemma**: splitting `data ++ rest` = the lines `iter_splitlines` yields for `data`, then the
split of (what it carries over) `++ rest`. -/
theorem splitCore_carry (data : List Char) (hne : data ≠ []) (hnl : NlOnly data) (rest : List Char) :
    splitCore (data ++ rest) = emitted data ++ splitCore (carry data ++ rest) := by
  obtain ⟨init, last, hs, hrest⟩ := splitCore_snoc data hne hnl
  rw [hrest, emitted, carry, pySplitlines_eq_core hnl, hs, List.dropLast_concat, List.getLast?_concat]
  rfl

theorem carry_nlOnly {data : List Char} (hnl : NlOnly data) : NlOnly (carry data) := by
  have hlast : NlOnly (((splitCore data).getLast?).getD []) := fun c hc hb => by
    cases hl : (splitCore data).getLast? with
    | none => rw [hl] at hc; cases hc
    | some l =>
      rw [hl] at hc
      rw [splitCore_noBreak data l (List.mem_of_getLast? hl) c hc] at hb
      cases hb
  rw [carry, pySplitlines_eq_core hnl]
  split
  · exact nlOnly_append.mpr ⟨hlast, fun c hc _ => List.mem_singleton.mp hc⟩
  · exact hlast

/-- the loop invariant of `iter_splitlines` -/
theorem iterGo_eq : ∀ (chunks : List (List Char)) (last : List Char),
    (∀ ch ∈ chunks, ch ≠ []) → NlOnly (last ++ chunks.flatten) →
    iterGo last chunks = splitCore (last ++ chunks.flatten)
  | [], last, _, hnl => by
    simp only [List.flatten_nil, List.append_nil] at hnl ⊢
    unfold iterGo
    by_cases hl : last = []
    · subst hl; simp [splitCore]
    · simp [List.isEmpty_eq_false_iff.mpr hl, pySplitlines_eq_core hnl]
  | ch :: rest, last, hne, hnl => by
    have hch : ch ≠ [] := hne ch List.mem_cons_self
    have hemp := List.isEmpty_eq_false_iff.mpr hch
    simp only [List.flatten_cons] at hnl ⊢
    rw [← List.append_assoc] at hnl ⊢
    have hd : NlOnly (last ++ ch) := (nlOnly_append.mp hnl).1
    have hr : NlOnly rest.flatten := (nlOnly_append.mp hnl).2
    have hdne : last ++ ch ≠ [] := by simp [hch]
    unfold iterGo
    simp only [hemp, Bool.false_eq_true, if_false]
    rw [iterGo_eq rest (carry (last ++ ch)) (fun x hx => hne x (List.mem_cons_of_mem _ hx))
      (nlOnly_append.mpr ⟨carry_nlOnly hd, hr⟩)]
    exact (splitCore_carry (last ++ ch) hdne hd rest.flatten).symm

end CogentModel.Splitlines
