/-
  What the middle row holds.  Its forward half is a row of the table; the reversed DP computes, per (cell, state), the
  maximum tail score over all continuations to the end (`bwd_isOpt`); the scan returns the best sum of the two
  (`midRow_isMax`).
-/
import CogentModel.Proofs.HirschDerived
import CogentModel.Proofs.PairHMMGlobal
namespace CogentModel.PairHMM
set_option linter.unusedSectionVars false

variable {S : Type} [Add S] [LT S] [DecidableLT S] [ScoreLawsAC S]

/-- the backward value of `(cell (i0, j0), state a)` as `hirsch` computes it -/
def bwdVal (h : HMM S) (n m i0 j0 a : Nat) : Option S :=
  bwdAt (revHMM h n m) (V (revHMM h n m) false m (n - i0) (m - j0)) (n - i0) (m - j0) a

/-- the backward value is the best score of a continuation: the continuations from `(i0, j0)` are the reversed global
paths of the reversed problem to its cell `(n - i0, m - j0)` -/
theorem bwd_isOpt (h : HMM S) (hns : NoSilent h) (n m i0 j0 a : Nat) (hi : i0 ≤ n) (hj : j0 ≤ m) :
    IsOpt (tailScore h a i0 j0) (fun q => statesOK h q ∧ consumedFrom h i0 j0 q = (n, m)) (bwdVal h n m i0 j0 a) := by
  refine (read_isOpt (revHMM h n m) hns m (n - i0) (m - j0) a (Nat.sub_le _ _)).congr (fun p v hp _ hs => ?_)
    fun q v hq hs => ?_
  · have hst : statesOK h p.reverse := fun x hx => hp.1 x (List.mem_reverse.mp hx)
    have hc : consumedFrom h i0 j0 p.reverse = (n, m) := by
      rw [consumedFrom_reverse, ← consumedFrom_sub h hi hj, ← consumedFrom_congr (revHMM h n m) h (fun _ => rfl)]
      exact hp.2
    exact ⟨p.reverse, trivial, ⟨hst, hc⟩, by
      rw [← reverse_scoreTo h n m p.reverse a i0 j0 (fun x hx => (hst x hx).1) hc, List.reverse_reverse]; exact hs⟩
  · exact ⟨q.reverse, ⟨fun x hx => hq.1 x (List.mem_reverse.mp hx), consumed_rev h n m i0 j0 q hq.2⟩,
      (reverse_scoreTo h n m q a i0 j0 (fun x hx => (hq.1 x hx).1) hq.2).trans hs⟩

theorem midCell_isMax (rv : HMM S) (bc : Cell S) (i' j' j : Nat) (fc : Cell S) (s : Nat) (cur : Option S × Nat × Nat) :
    IsMax (·.1) (fun c => ∃ q x, fc[q]? = some x ∧ c = (eadd x.1 (bwdAt rv bc i' j' (q + s)), j, q + s)) cur
      (midCell rv bc i' j' j fc s cur) :=
  isMax_scan (Cf := fun s x c => c = (eadd x.1 (bwdAt rv bc i' j' s), j, s)) (g := midCell rv bc i' j' j)
    (fun _ _ _ => IsMax.step _ _) (fun _ _ => rfl) (fun _ _ _ _ => rfl) fc s cur

/-- **the scan of the middle row** returns the maximum, over all columns and states, of stored value + backward value (what
`hirsch` puts into `middle_row[j, s]`), or the initial `-inf` -/
theorem midRow_isMax (h : HMM S) (n m half : Nat) :
    IsMax (·.1) (fun c => ∃ j s, j ≤ m ∧ 1 ≤ s ∧ s ≤ h.k ∧
        c = (eadd (val h false m half j s) (bwdVal h n m half j s), j, s)) (none, 0, 0)
      (midRow (revHMM h n m) (n - half) m (Vrow (revHMM h n m) false m (n - half)) (Vrow h false m half) 0
        (none, 0, 0)) := by
  refine (isMax_scan (g := midRow (revHMM h n m) (n - half) m (Vrow (revHMM h n m) false m (n - half)))
    (fun j fc cur => midCell_isMax _ _ _ _ j fc 1 cur) (fun _ _ => rfl) (fun _ _ _ _ => rfl) _ 0 _).of_iff
    fun c => ⟨?_, ?_⟩
  · rintro ⟨j, s, hj, hs1, hsk, rfl⟩
    obtain ⟨q, rfl⟩ : ∃ q, s = q + 1 := ⟨s - 1, (Nat.sub_add_cancel hs1).symm⟩
    exact ⟨j, _, Vrow_getElem?.mpr ⟨hj, rfl⟩, q, _, (V_getElem? hj).mpr ⟨hsk, rfl⟩, by rw [Nat.add_zero]; rfl⟩
  · rintro ⟨j, fc, hfc, q, x, hx, rfl⟩
    obtain ⟨hj, rfl⟩ := Vrow_getElem?.mp hfc
    obtain ⟨hq, rfl⟩ := (V_getElem? hj).mp hx
    exact ⟨j, q + 1, hj, Nat.le_add_left 1 q, hq, by rw [Nat.add_zero]; rfl⟩

end CogentModel.PairHMM
