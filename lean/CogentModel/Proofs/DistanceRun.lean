import CogentModel.Proofs.DistancePair
import Mathlib.Tactic.SplitIfs
/-! The two loops of `_PairwiseDistance.run` with the duplicate aliasing, then `_expand`, for n sequences: a loop
invariant (`LoopInv`), and `Settled` carried through the expansion of each alias. -/
namespace CogentModel.Distance
open CogentModel.ListGetD (getD_map_range)

/-- a `for k in range(s, s + len)` loop: a property indexed by the loop position that every step carries forward -/
theorem foldl_range'_inv {σ : Type} (P : Nat → σ → Prop) (f : σ → Nat → σ) (h : ∀ k st, P k st → P (k + 1) (f st k)) :
    ∀ (len s : Nat) (st : σ), P s st → P (s + len) ((List.range' s len).foldl f st)
  | 0, _, _, hP => hP
  | len + 1, s, st, hP => by
    rw [List.range'_succ, List.foldl_cons, ← Nat.add_assoc s, Nat.add_right_comm]
    exact foldl_range'_inv P f h len (s + 1) _ (h s st hP)

theorem dictSet_get (d : Dict) (k : Nat × Nat) (v : Stat) (x y : Nat) :
    (dictSet d k v).get x y = if x = k.1 ∧ y = k.2 then some v else d.get x y := rfl

/-- The state when the outer loop is at `i` and the inner loop is about to look at `j`: the pairs (a,b), a<b,
visited so far are those with `a < i ∨ (a = i ∧ b < j)`. -/
structure LoopInv (c : Calc) (seqs : List (List Int)) (i j : Nat) (st : RunState) : Prop where
  dup_sound : ∀ p ∈ st.duped, seqs.getD p.1 [] = seqs.getD p.2 [] ∧ p.1 ∉ st.dupes ∧ p.2 ∈ st.dupes ∧ p.1 ≤ i
  dup_complete : ∀ b ∈ st.dupes, ∃ a, (a, b) ∈ st.duped
  dists_ok : ∀ a b, a < b → b < seqs.length → a < i ∨ (a = i ∧ b < j) → a ∉ st.dupes → b ∉ st.dupes →
    st.dists.get a b = some (pairReport c (seqs.getD a []) (seqs.getD b [])) ∧
    st.dists.get b a = some (pairReport c (seqs.getD a []) (seqs.getD b []))

/-- moving the loop position forward without touching the state, when no live pair lies in between -/
theorem LoopInv.mono {c : Calc} {seqs : List (List Int)} {i j i' j' : Nat} {st : RunState}
    (h : LoopInv c seqs i j st) (hi : i ≤ i')
    (hv : ∀ a b, a < b → b < seqs.length → a ∉ st.dupes → b ∉ st.dupes → a < i' ∨ (a = i' ∧ b < j') →
      a < i ∨ (a = i ∧ b < j)) :
    LoopInv c seqs i' j' st :=
  ⟨fun p hp => let ⟨h1, h2, h3, h4⟩ := h.dup_sound p hp; ⟨h1, h2, h3, by omega⟩, h.dup_complete,
   fun a b hab hb hvis ha hbd => h.dists_ok a b hab hb (hv a b hab hb ha hbd hvis) ha hbd⟩

/-- stepping the inner loop back over a pair that is not live -/
theorem visited_pred {i j a b : Nat} (hv : a < i ∨ (a = i ∧ b < j + 1)) (h : ¬(a = i ∧ b = j)) :
    a < i ∨ (a = i ∧ b < j) := by omega

theorem innerStep_inv (c : Calc) (seqs : List (List Int)) (i j : Nat) (st : RunState) (hij : i < j)
    (hI : LoopInv c seqs i j st) (hi : i ∉ st.dupes) :
    LoopInv c seqs i (j + 1) (innerStep c seqs i st j) ∧ i ∉ (innerStep c seqs i st j).dupes := by
  unfold innerStep
  split_ifs with hj hd
  · -- `j` is already known as a duplicate: no live pair is added
    rw [List.contains_iff_mem] at hj
    exact ⟨hI.mono (le_refl i) fun a b _ _ _ hb hv => visited_pred hv fun h => hb (h.2 ▸ hj), hi⟩
  · -- `j` becomes a duplicate of `i`
    have heq : seqs.getD i [] = seqs.getD j [] := beq_iff_eq.1 (Bool.and_eq_true _ _ ▸ hd).2
    refine ⟨⟨?_, ?_, ?_⟩, ?_⟩
    all_goals simp only [List.mem_append, List.mem_singleton, not_or]
    · rintro p (hp | rfl)
      · obtain ⟨h1, h2, h3, h4⟩ := hI.dup_sound p hp
        exact ⟨h1, ⟨h2, (h4.trans_lt hij).ne⟩, Or.inl h3, h4⟩
      · exact ⟨heq, ⟨hi, hij.ne⟩, Or.inr rfl, le_refl _⟩
    · rintro b (hb | rfl)
      · exact (hI.dup_complete b hb).imp fun a ha => Or.inl ha
      · exact ⟨i, Or.inr rfl⟩
    · intro a b hab hb hv ha hbd
      exact hI.dists_ok a b hab hb (visited_pred hv fun h => hbd.2 h.2) ha.1 hbd.1
    · exact ⟨hi, hij.ne⟩
  · -- the distance of the pair (i,j) is stored under both keys
    refine ⟨⟨hI.dup_sound, hI.dup_complete, ?_⟩, hi⟩
    intro a b hab hb hv ha hbd
    have hji : ¬(a = j ∧ b = i) := by rintro ⟨rfl, rfl⟩; exact Nat.lt_asymm hab hij
    simp only [dictSet_get]
    rw [if_neg hji]
    by_cases hcur : a = i ∧ b = j
    · rw [if_pos hcur, if_pos hcur.symm, hcur.1, hcur.2, pairReport_eq, if_neg hd]
      exact ⟨rfl, rfl⟩
    · rw [if_neg hcur, if_neg (fun h => hcur h.symm), if_neg (fun h => hji h.symm)]
      exact hI.dists_ok a b hab hb (visited_pred hv hcur) ha hbd

theorem outerStep_inv (c : Calc) (seqs : List (List Int)) (i : Nat) (st : RunState)
    (hI : LoopInv c seqs i (i + 1) st) : LoopInv c seqs (i + 1) (i + 2) (outerStep c seqs st i) := by
  unfold outerStep
  split_ifs with hd
  · rw [List.contains_iff_mem] at hd
    exact hI.mono (Nat.le_succ i) fun a b _ _ ha _ hv => by
      have : a ≠ i := fun e => ha (e ▸ hd)
      omega
  · rw [List.contains_iff_mem] at hd
    have h := (foldl_range'_inv (fun j st => i < j ∧ LoopInv c seqs i j st ∧ i ∉ st.dupes) _
      (fun j st h => ⟨Nat.lt_succ_of_lt h.1, innerStep_inv c seqs i j st h.1 h.2.1 h.2.2⟩)
      (seqs.length - (i + 1)) (i + 1) st ⟨Nat.lt_succ_self i, hI, hd⟩).2.1
    exact h.mono (Nat.le_succ i) fun a b _ _ _ _ hv => by omega

theorem runLoops_inv (c : Calc) (seqs : List (List Int)) :
    LoopInv c seqs (seqs.length - 1) (seqs.length - 1 + 1) (runLoops c seqs) := by
  have h0 : LoopInv c seqs 0 1 ⟨[], [], ⟨fun _ _ => none⟩, false⟩ :=
    ⟨fun p hp => absurd hp List.not_mem_nil, fun j hj => absurd hj List.not_mem_nil,
     fun a b hab _ hv _ _ => by omega⟩
  have := foldl_range'_inv (fun i st => LoopInv c seqs i (i + 1) st) _ (outerStep_inv c seqs) (seqs.length - 1) 0 _ h0
  rwa [Nat.zero_add] at this

/-- the value `_expand` writes for `name` when expanding an alias of `i` -/
def expVal (pw : Dict) (i name : Nat) : Stat := if name = i then .zero else (pw.get i name).getD .invalid

theorem expandName_get (add src : Nat) (pw : Dict) (name x y : Nat) :
    (expandName add src pw name).get x y =
      if name = add then pw.get x y
      else if x = name ∧ y = add then some (expVal pw src name)
      else if x = add ∧ y = name then some (expVal pw src name) else pw.get x y := by
  unfold expandName
  split <;> rfl

theorem expandOne_succ (m : Nat) (pw : Dict) (i j : Nat) :
    expandOne (m + 1) pw (i, j) = expandName j i (expandOne m pw (i, j)) m := by
  unfold expandOne
  rw [List.range'_concat, List.foldl_append, Nat.one_mul, Nat.zero_add]; rfl

/-- expanding the duplicate `j` touches only row and column `j` -/
theorem expandOne_frame (n i j : Nat) (pw : Dict) (x y : Nat) (hx : x ≠ j) (hy : y ≠ j) :
    (expandOne n pw (i, j)).get x y = pw.get x y := by
  induction n with
  | zero => rfl
  | succ m ih =>
    rw [expandOne_succ, expandName_get, ih]
    simp only [hx, hy, and_false, false_and, if_false, ite_self]

/-- expanding the duplicate `j` of `i` fills row and column `j` from row `i` -/
theorem expandOne_row (n i j : Nat) (hij : i ≠ j) (pw : Dict) (y : Nat) (hy : y ≠ j) (hn : y < n) :
    (expandOne n pw (i, j)).get j y = some (expVal pw i y) ∧ (expandOne n pw (i, j)).get y j = some (expVal pw i y) := by
  induction n with
  | zero => omega
  | succ m ih =>
    rw [expandOne_succ, expandName_get, expandName_get]
    by_cases hm : m = j
    · rw [if_pos hm, if_pos hm]; exact ih (by omega)
    · have hv : expVal (expandOne m pw (i, j)) i m = expVal pw i m := by
        unfold expVal; rw [expandOne_frame m i j pw i m hij hm]
      rw [if_neg hm, if_neg hm, if_neg (fun h => hy h.2), hv]
      by_cases hym : y = m
      · rw [if_pos ⟨rfl, hym⟩, if_pos ⟨hym, rfl⟩, hym]; exact ⟨rfl, rfl⟩
      · rw [if_neg (fun h => hym h.2), if_neg (fun h => hym h.1), if_neg (fun h => hy h.1)]; exact ih (by omega)

/-- every key between indices in `S` holds the pair's own report -/
def Settled (c : Calc) (seqs : List (List Int)) (S : Nat → Prop) (pw : Dict) : Prop :=
  ∀ x y, x < seqs.length → y < seqs.length → x ≠ y → S x → S y →
    pw.get x y = some (pairReport c (seqs.getD x []) (seqs.getD y []))

theorem Settled.mono {c : Calc} {seqs : List (List Int)} {S S' : Nat → Prop} {pw : Dict}
    (h : Settled c seqs S pw) (hS : ∀ x, S' x → S x) : Settled c seqs S' pw :=
  fun x y hx hy hxy hSx hSy => h x y hx hy hxy (hS x hSx) (hS y hSy)

/-- expanding a duplicate `j` of a settled `i` settles `j`: its row is row `i`, and equal arrays have equal reports -/
theorem settled_step (c : Calc) (seqs : List (List Int)) (S : Nat → Prop) (pw : Dict) (i j : Nat)
    (heq : seqs.getD i [] = seqs.getD j []) (hi : S i) (hij : i ≠ j) (hin : i < seqs.length)
    (h : Settled c seqs S pw) : Settled c seqs (fun x => S x ∨ x = j) (expandOne seqs.length pw (i, j)) := by
  have hval : ∀ y, y < seqs.length → S y → expVal pw i y = pairReport c (seqs.getD j []) (seqs.getD y []) := by
    intro y hy hS
    unfold expVal
    split
    · next hyi => rw [hyi, ← heq, pairReport_self]
    · next hyi => rw [h i y hin hy (Ne.symm hyi) hi hS, heq]; rfl
  intro x y hx hy hxy hSx hSy
  by_cases hxj : x = j
  · subst hxj
    rw [(expandOne_row _ i x hij pw y (Ne.symm hxy) hy).1, hval y hy (hSy.resolve_right (Ne.symm hxy))]
  · by_cases hyj : y = j
    · subst hyj
      rw [(expandOne_row _ i y hij pw x hxj hx).2, hval x hx (hSx.resolve_right hxj), pairReport_symm]
    · rw [expandOne_frame _ _ _ _ _ _ hxj hyj]
      exact h x y hx hy hxy (hSx.resolve_right hxj) (hSy.resolve_right hyj)

theorem settled_fold (c : Calc) (seqs : List (List Int)) :
    ∀ (l : List (Nat × Nat)) (S : Nat → Prop) (pw : Dict),
      (∀ p ∈ l, seqs.getD p.1 [] = seqs.getD p.2 [] ∧ S p.1 ∧ p.1 ≠ p.2 ∧ p.1 < seqs.length) →
      Settled c seqs S pw →
      Settled c seqs (fun x => S x ∨ x ∈ l.map Prod.snd) (l.foldl (expandOne seqs.length) pw)
  | [], _, _, _, h => h.mono fun _ hx => hx.resolve_right List.not_mem_nil
  | p :: l, S, pw, hl, h => by
    obtain ⟨h1, h2, h3, h4⟩ := hl p List.mem_cons_self
    refine (settled_fold c seqs l _ _ (fun q hq => ?_) (settled_step c seqs S pw p.1 p.2 h1 h2 h3 h4 h)).mono
      fun x hx => by simpa only [List.map_cons, List.mem_cons, or_assoc] using hx
    obtain ⟨q1, q2, q3, q4⟩ := hl q (List.mem_cons_of_mem _ hq)
    exact ⟨q1, Or.inl q2, q3, q4⟩

theorem expand_eq_fold (n : Nat) (st : RunState) : expand n st = st.duped.foldl (expandOne n) st.dists := by
  unfold expand
  cases st.duped <;> rfl

theorem clean_duped (st : RunState) : (clean st).duped = st.duped := by
  unfold clean; split <;> rfl

theorem clean_get (st : RunState) (x y : Nat) (hx : x ∉ st.dupes) (hy : y ∉ st.dupes) :
    (clean st).dists.get x y = st.dists.get x y := by
  unfold clean
  split
  · rfl
  · exact if_neg (by simp [hx, hy])

/-- after `run` and `_expand`, every off-diagonal key holds the report of that
pair taken alone -/
theorem expand_settled (c : Calc) (seqs : List (List Int)) (a b : Nat) (ha : a < seqs.length) (hb : b < seqs.length)
    (hab : a ≠ b) :
    (expand seqs.length (run c seqs)).get a b = some (pairReport c (seqs.getD a []) (seqs.getD b [])) := by
  have hI := runLoops_inv c seqs
  have hvis : ∀ x y, x < y → y < seqs.length →
      x < seqs.length - 1 ∨ (x = seqs.length - 1 ∧ y < seqs.length - 1 + 1) := by omega
  have hbase : Settled c seqs (· ∉ (runLoops c seqs).dupes) (run c seqs).dists := by
    intro x y hx hy hxy hSx hSy
    rw [run, clean_get _ x y hSx hSy]
    rcases Nat.lt_or_gt_of_ne hxy with hlt | hlt
    · exact (hI.dists_ok x y hlt hy (hvis x y hlt hy) hSx hSy).1
    · rw [pairReport_symm]; exact (hI.dists_ok y x hlt hx (hvis y x hlt hx) hSy hSx).2
  have hfold := settled_fold c seqs (runLoops c seqs).duped _ _ (fun p hp =>
    let ⟨h1, h2, h3, h4⟩ := hI.dup_sound p hp; ⟨h1, h2, fun e => h2 (e ▸ h3), by omega⟩) hbase
  have hcov : ∀ x, x ∉ (runLoops c seqs).dupes ∨ x ∈ (runLoops c seqs).duped.map Prod.snd := fun x =>
    (Classical.em (x ∈ (runLoops c seqs).dupes)).symm.imp_right fun hx =>
      let ⟨i, hi⟩ := hI.dup_complete x hx; List.mem_map.2 ⟨(i, x), hi, rfl⟩
  rw [expand_eq_fold, run, clean_duped]
  exact hfold a b ha hb hab (hcov a) (hcov b)

/-- every cell of `calc.run(); calc.get_pairwise_distances()`: the literal zero on the diagonal, elsewhere what the
code reports for that pair taken alone -/
theorem distanceMatrix_cell (c : Calc) (seqs : List (List Int)) (a b : Nat) (ha : a < seqs.length) (hb : b < seqs.length) :
    ((distanceMatrix c seqs).getD a []).getD b .absent =
      if a = b then .zero else pairReport c (seqs.getD a []) (seqs.getD b []) := by
  rw [distanceMatrix, getD_map_range, if_pos ha, getD_map_range, if_pos hb, cell]
  by_cases hab : a = b
  · rw [if_pos hab, if_pos hab]
  · rw [if_neg hab, if_neg hab, dictGet, expand_settled c seqs a b ha hb hab]; rfl

end CogentModel.Distance
