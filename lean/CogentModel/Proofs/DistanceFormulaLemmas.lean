import CogentModel.Model.Distance
import CogentModel.Spec.DistanceFormulas
import Mathlib.Tactic.Ring
import Mathlib.Algebra.Order.Field.Rat
/-! The model's sums over cogent3 indices 0..3 (T,C,A,G)
equal the spec's sums over nucleotide names, and the model's Laplace determinant equals the Leibniz sum. -/
namespace CogentModel.DistanceFormulas
open CogentModel.Distance

/-- a sum over the nucleotide names, taken in the order of cogent3's alphabet -/
theorem sumNuc_tcag (f : Nuc → Rat) : sumNuc f = f .T + f .C + f .A + f .G := by
  unfold sumNuc; ring

theorem n_ofMatrix (m : M4) : n (ofMatrix m) = total m := by
  simp only [n, sumNuc_tcag]; rfl

theorem hamming_ofMatrix (m : M4) : hamming (ofMatrix m) = total m - diagSum m := by
  simp only [hamming, sumNuc_tcag, reduceCtorEq, if_true, if_false]
  unfold ofMatrix total rowSum diagSum
  simp only [Nuc.idx]
  ring

theorem p_ofMatrix (m : M4) : p (ofMatrix m) = (total m - diagSum m) / total m := by
  unfold p; rw [hamming_ofMatrix, n_ofMatrix]

theorem jcArg_ofMatrix (m : M4) : jcArg (ofMatrix m) = 1 - 4 / 3 * ((total m - diagSum m) / total m) := by
  unfold jcArg; rw [p_ofMatrix]; ring

theorem fx_ofMatrix (f : M4) (x : Nuc) : fx (ofMatrix f) x = rowSum f x.idx := by
  rw [fx, sumNuc_tcag]; rfl

theorem fy_ofMatrix (f : M4) (x : Nuc) : fy (ofMatrix f) x = colSum f x.idx := by
  rw [fy, sumNuc_tcag]; rfl

theorem pi_ofMatrix (m : M4) (x : Nuc) : pi (ofMatrix m) x = tnFreq m x.idx := by
  unfold pi tnFreq; rw [n_ofMatrix, add_comm]
  -- `seq1Count`, `seq2Count` are `fx`, `fy` under another name
  exact congrArg₂ (fun a b => (a + b) / _) (fy_ofMatrix m x) (fx_ofMatrix m x)

theorem diffs_eq (m : M4) : purTs m + pyrTs m + tvSum m = total m - diagSum m := by
  unfold purTs pyrTs tvSum total rowSum diagSum; ring

theorem P1_ofMatrix (m : M4) : P1 (ofMatrix m) = purTs m / total m := by
  unfold P1; rw [n_ofMatrix]; rfl
theorem P2_ofMatrix (m : M4) : P2 (ofMatrix m) = pyrTs m / total m := by
  unfold P2; rw [n_ofMatrix]; rfl
theorem Q_ofMatrix (m : M4) : Q (ofMatrix m) = tvSum m / total m := by
  unfold Q; rw [p_ofMatrix, P1_ofMatrix, P2_ofMatrix, ← diffs_eq]; ring

/-! The coefficients and log arguments of Tamura & Nei's formula, for any table, grouped the way `_tn93_from_matrix` computes
them (`coeff1 = 2 * prod_purs / freq_purs`, `term1 = 1 - pur_ts_diffs / coeff1 - tv_diffs / (2 * freq_purs)`, …). -/

theorem tnK1_eq (N : Joint) : tnK1 N = 2 * (pi N .A * pi N .G) / piR N := by
  unfold tnK1; ring
theorem tnK2_eq (N : Joint) : tnK2 N = 2 * (pi N .C * pi N .T) / piY N := by
  unfold tnK2; ring
theorem tnK3_eq (N : Joint) : tnK3 N = 2 * (piR N * piY N - pi N .A * pi N .G * piY N / piR N -
    pi N .C * pi N .T * piR N / piY N) := by
  unfold tnK3; ring
theorem tnW1_eq (N : Joint) : tnW1 N = 1 - P1 N / (2 * (pi N .A * pi N .G) / piR N) - Q N / (2 * piR N) := by
  unfold tnW1; rw [div_div_eq_mul_div]; ring
theorem tnW2_eq (N : Joint) : tnW2 N = 1 - P2 N / (2 * (pi N .C * pi N .T) / piY N) - Q N / (2 * piY N) := by
  unfold tnW2; rw [div_div_eq_mul_div]; ring

/-- Away from the 0/0 cases the three guards of `_tn93_from_matrix` are the positivity of the three log arguments. -/
theorem tn93_core (m : M4)
    (h0 : n (ofMatrix m) ≠ 0)
    (hAG : pi (ofMatrix m) .A * pi (ofMatrix m) .G ≠ 0) (hCT : pi (ofMatrix m) .C * pi (ofMatrix m) .T ≠ 0)
    (hR : piR (ofMatrix m) ≠ 0) (hY : piY (ofMatrix m) ≠ 0) :
    tn93Stat m =
      if 0 < tnW1 (ofMatrix m) ∧ 0 < tnW2 (ofMatrix m) ∧ 0 < tnW3 (ofMatrix m) then
        .tn93 (n (ofMatrix m)) (p (ofMatrix m)) (tnK1 (ofMatrix m)) (tnK2 (ofMatrix m)) (tnK3 (ofMatrix m))
          (tnW1 (ofMatrix m)) (tnW2 (ofMatrix m)) (tnW3 (ofMatrix m))
      else .invalid := by
  rw [tnW1_eq, tnW2_eq, tnK1_eq, tnK2_eq, tnK3_eq, p_ofMatrix, ← diffs_eq]
  simp only [piR, piY, tnW3, P1_ofMatrix, P2_ofMatrix, Q_ofMatrix, n_ofMatrix, pi_ofMatrix, Nuc.idx] at h0 hAG hCT hR hY ⊢
  unfold tn93Stat
  simp only [h0, hAG, hCT, hR, hY, if_false, ne_eq, not_false_eq_true, true_and, and_self, or_self,
    ← not_lt, ← not_and_or, ite_not]

theorem sumNuc_nonneg (f : Nuc → Rat) (h : ∀ x, 0 ≤ f x) : 0 ≤ sumNuc f :=
  add_nonneg (add_nonneg (add_nonneg (h _) (h _)) (h _)) (h _)

theorem n_nonneg (N : Joint) (h : ∀ x y, 0 ≤ N x y) : 0 ≤ n N :=
  sumNuc_nonneg _ fun x => sumNuc_nonneg _ (h x)

theorem pi_nonneg (N : Joint) (h : ∀ x y, 0 ≤ N x y) (x : Nuc) : 0 ≤ pi N x :=
  div_nonneg (add_nonneg (sumNuc_nonneg _ (h x)) (sumNuc_nonneg _ fun y => h y x))
    (mul_nonneg (by norm_num) (n_nonneg N h))

theorem tn93_of_nonneg (m : M4) (hN : ∀ x y, 0 ≤ ofMatrix m x y)
    (h0 : n (ofMatrix m) ≠ 0)
    (hA : pi (ofMatrix m) .A ≠ 0) (hC : pi (ofMatrix m) .C ≠ 0)
    (hG : pi (ofMatrix m) .G ≠ 0) (hT : pi (ofMatrix m) .T ≠ 0) :
    tn93Stat m =
      if 0 < tnW1 (ofMatrix m) ∧ 0 < tnW2 (ofMatrix m) ∧ 0 < tnW3 (ofMatrix m) then
        .tn93 (n (ofMatrix m)) (p (ofMatrix m)) (tnK1 (ofMatrix m)) (tnK2 (ofMatrix m)) (tnK3 (ofMatrix m))
          (tnW1 (ofMatrix m)) (tnW2 (ofMatrix m)) (tnW3 (ofMatrix m))
      else .invalid := by
  have pos : ∀ x, pi (ofMatrix m) x ≠ 0 → 0 < pi (ofMatrix m) x := fun x hx =>
    lt_of_le_of_ne (pi_nonneg _ hN x) (Ne.symm hx)
  exact tn93_core m h0 (mul_ne_zero hA hG) (mul_ne_zero hC hT)
    (add_pos (pos _ hA) (pos _ hG)).ne' (add_pos (pos _ hC) (pos _ hT)).ne'

theorem perms4_eq : perms4 =
   [(.A, .C, .G, .T), (.A, .C, .T, .G), (.A, .G, .C, .T), (.A, .G, .T, .C), (.A, .T, .C, .G), (.A, .T, .G, .C),
    (.C, .A, .G, .T), (.C, .A, .T, .G), (.C, .G, .A, .T), (.C, .G, .T, .A), (.C, .T, .A, .G), (.C, .T, .G, .A),
    (.G, .A, .C, .T), (.G, .A, .T, .C), (.G, .C, .A, .T), (.G, .C, .T, .A), (.G, .T, .A, .C), (.G, .T, .C, .A),
    (.T, .A, .C, .G), (.T, .A, .G, .C), (.T, .C, .A, .G), (.T, .C, .G, .A), (.T, .G, .A, .C), (.T, .G, .C, .A)] := by
  decide +kernel

theorem detLeibniz_ofMatrix (f : M4) : detLeibniz (ofMatrix f) = det4 f := by
  unfold detLeibniz
  rw [perms4_eq]
  simp (decide := true) only [List.map_cons, List.map_nil, List.sum_cons, List.sum_nil, sign, Nuc.rank, ofMatrix, Nuc.idx, if_true, if_false]
  unfold det4 det3
  ring

theorem Nuc.idx_inj (x y : Nuc) : x.idx = y.idx ↔ x = y := by
  cases x <;> cases y <;> decide

theorem pseudo_ofMatrix (m : M4) : pseudo (ofMatrix m) = ofMatrix (halfDiag m) := by
  funext x y
  exact if_congr (and_congr_left' (Nuc.idx_inj x y).symm) rfl rfl

theorem freqTable_ofMatrix (m : M4) : freqTable (ofMatrix m) = ofMatrix (freqMatrix m) := by
  funext x y
  unfold freqTable
  rw [pseudo_ofMatrix, n_ofMatrix]
  rfl

theorem margProd_ofMatrix (f : M4) : margProd (ofMatrix f) = freqProd f := by
  unfold margProd prodNuc freqProd
  simp only [fx_ofMatrix, fy_ofMatrix, Nuc.idx]; ring

theorem tkCoeff_ofMatrix (f : M4) : tkCoeff (ofMatrix f) = (freqSqSum f / 4 - 1) / (4 - 1) := by
  unfold tkCoeff avgFreq freqSqSum
  simp only [sumNuc_tcag, fx_ofMatrix, fy_ofMatrix, Nuc.idx]; ring

/-- the three guards of `_logdetcommon` as one test -/
theorem _root_.CogentModel.Distance.logdetCommon_ite (m : M4) (k : Rat → Rat → M4 → Stat) :
    logdetCommon m k =
      if total m = 0 ∨ total m - diagSum m = 0 ∨ det4 (freqMatrix m) ≤ 0 then .invalid
      else k (total m) ((total m - diagSum m) / total m) (freqMatrix m) := by
  rw [ite_or, ite_or]; rfl

/-- the three guards of `_logdetcommon`, by nucleotide name -/
theorem logdetCommon_eq (m : M4) (k : Rat → Rat → M4 → Stat) :
    logdetCommon m k =
      if n (ofMatrix m) = 0 ∨ hamming (ofMatrix m) = 0 ∨ detLeibniz (freqTable (ofMatrix m)) ≤ 0 then .invalid
      else k (n (ofMatrix m)) (p (ofMatrix m)) (freqMatrix m) := by
  rw [n_ofMatrix, hamming_ofMatrix, p_ofMatrix, freqTable_ofMatrix, detLeibniz_ofMatrix, logdetCommon_ite]

/-! ### concrete count matrices (cogent3 index order T,C,A,G) for the satisfiability examples -/

/-- a typical pair: 60 columns, 16 differences -/
def exCounts : M4 := fun i j =>
  (([[10, 1, 2, 0], [2, 12, 0, 1], [1, 0, 7, 3], [0, 2, 4, 15]] : List (List Rat)).getD i []).getD j 0

/-- a saturated pair: every cell 1, p = 3/4 -/
def exSaturated : M4 := fun i j => if i < 4 ∧ j < 4 then 1 else 0

/-- no canonical column at all -/
def exEmpty : M4 := fun _ _ => 0

/-- identical sequences -/
def exIdentical : M4 := fun i j => if i = j ∧ i < 4 then 5 else 0

end CogentModel.DistanceFormulas
