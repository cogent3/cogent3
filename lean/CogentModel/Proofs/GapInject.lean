/-
  The repaired `_gaps_for_injection`: `seq_position` maps an alignment column to the position whose run holds it,
  the injection loop adds each column's length to that run, and so the result is the row padded at those columns
  (`inject_row`), for every well-formed dict of columns.
-/
import CogentModel.Proofs.GapRuns
namespace CogentModel.GapMerge

/-- **window lemma**: column `c` lies in the gap run (or on the residue) of the position `seq_position` returns -/
theorem seqPosAt_window (s : Gaps) (hs : SortedLT s) (hpos : ∀ e ∈ s, 0 < e.2) : ∀ (tot c : Int),
    seqPosAt s tot c + tot + sumLt s (seqPosAt s tot c) ≤ c ∧
    c ≤ seqPosAt s tot c + tot + sumLt s (seqPosAt s tot c) + gl s (seqPosAt s tot c) := by
  induction s with
  | nil => intro tot c; simp [seqPosAt, sumLt, sumIf, gl, dget]
  | cons e r ih =>
    intro tot c
    obtain ⟨q, l⟩ := e
    rw [sortedLT_cons] at hs
    have hl : 0 < l := hpos (q, l) List.mem_cons_self
    -- the tail has nothing at or before `q`
    have hr : ∀ x, x ≤ q → sumLt r x = 0 ∧ gl r x = 0 := fun x hx =>
      ⟨sumLt_all_ge r x fun k hk => Int.le_of_lt (Int.lt_of_le_of_lt hx (hs.1 k hk)),
        gl_of_not_mem r x fun hk => Int.lt_irrefl _ (Int.lt_of_lt_of_le (hs.1 x hk) hx)⟩
    simp only [seqPosAt]
    by_cases h1 : c ≤ q + tot
    · -- at or before the start of the first gap run
      have hct : c - tot ≤ q := Int.sub_right_le_iff_le_add.mpr h1
      rw [if_pos h1, sumLt_cons, if_neg (Int.not_lt.mpr hct), (hr (c - tot) hct).1]
      have := gl_nonneg ((q, l) :: r) (fun e he => Int.le_of_lt (hpos e he)) (c - tot)
      omega
    · rw [if_neg h1]
      by_cases h2 : c < q + tot + l
      · rw [if_pos h2, sumLt_cons, if_neg (Int.lt_irrefl q), (hr q (Int.le_refl q)).1, gl_cons, if_pos rfl]
        omega
      · rw [if_neg h2]
        have ih' := ih hs.2 (fun e he => hpos e (List.mem_cons_of_mem _ he)) (tot + l) c
        generalize seqPosAt r (tot + l) c = x at ih'
        rw [sumLt_cons, gl_cons]
        by_cases hx : q < x
        · rw [if_pos hx, if_neg (Int.ne_of_lt hx)]; omega
        · -- the tail has nothing up to `x ≤ q`, so `c` is the column of residue `x`, and that is `q`
          rw [(hr x (Int.not_lt.mp hx)).1, (hr x (Int.not_lt.mp hx)).2] at ih'
          have hq : q = x := by omega
          subst hq
          rw [if_neg hx, if_pos rfl, (hr q (Int.le_refl q)).1]
          omega

/-- `seq_position(c)` for a column of the alignment: a position of the sequence whose run holds column `c` -/
theorem seqPos_spec (og : Gaps) (len : Int) (hog : GapsOK og len) (c : Int) (hc : 0 ≤ c ∧ c ≤ len + total og) :
    0 ≤ seqPosAt (sortGaps og) 0 c ∧ seqPosAt (sortGaps og) 0 c ≤ len ∧ InRun og (seqPosAt (sortGaps og) 0 c) c := by
  have hw := seqPosAt_window (sortGaps og) (sortGaps_sorted og hog.nodup)
    (fun e he => hog.pos e ((mem_sortGaps og e).mp he)) 0 c
  rw [sumLt_sortGaps, gl_sortGaps] at hw
  generalize seqPosAt (sortGaps og) 0 c = x at hw ⊢
  -- outside `[0, len]` a position has no gap of its own, and none (all) of the gaps before it
  have hx0 : 0 ≤ x := Int.not_lt.mp fun hlt => by
    have := sumLt_all_ge og x fun k hk => Int.le_trans (Int.le_of_lt hlt) (hog.range k hk).1
    have := gl_of_not_mem og x fun hk => Int.not_le.mpr hlt (hog.range x hk).1
    omega
  have hx : x ≤ len := Int.not_lt.mp fun hlt => by
    have := sumLt_total og len hog x hlt
    have := gl_nonneg og hog.nonneg x
    omega
  unfold InRun colOf startZ; omega

/-- `seq_position` returns `r` exactly for the columns of the run of `r` -/
theorem seqPos_eq_iff (og : Gaps) (len : Int) (hog : GapsOK og len) (c : Int) (hc : 0 ≤ c ∧ c ≤ len + total og)
    (r : Int) : min len (seqPosAt (sortGaps og) 0 c) = r ↔ InRun og r c := by
  obtain ⟨-, h1, h2⟩ := seqPos_spec og len hog c hc
  rw [Int.min_eq_right h1]
  exact ⟨fun h => h ▸ h2, inRun_unique hog h2⟩

theorem injectLoop_ok (a2s : GapOffset) (sO : Gaps) (len : Int) (ds : Gaps) : ∀ all : Gaps,
    (∀ e ∈ ds, 0 ≤ min len (seqPosAt sO 0 e.1)) →
    ∃ res, injectLoop true a2s sO len ds all = .ok res ∧
      ∀ r, gl res r = gl all r + sumIf (fun c => decide (min len (seqPosAt sO 0 c) = r)) ds := by
  induction ds with
  | nil => intro all _; exact ⟨all, rfl, fun r => by simp [sumIf]⟩
  | cons e rest ih =>
    intro all hpos
    obtain ⟨gp, gv⟩ := e
    have h0 := hpos (gp, gv) List.mem_cons_self
    simp only at h0
    simp only [injectLoop, injectPos, if_true]
    rw [if_neg (by omega)]
    obtain ⟨res, hres, hgl⟩ := ih (dset all (min len (seqPosAt sO 0 gp))
      (match dget all (min len (seqPosAt sO 0 gp)) with | some x => gv + x | none => gv))
      (fun e he => hpos e (List.mem_cons_of_mem _ he))
    refine ⟨res, hres, fun r => ?_⟩
    rw [hgl r, gl_dset]
    simp only [sumIf]
    by_cases hr : r = min len (seqPosAt sO 0 gp)
    · subst hr
      simp only [if_true, decide_true]
      cases hd : dget all (min len (seqPosAt sO 0 gp)) with
      | none => simp [gl, hd]
      | some x => simp [gl, hd]; omega
    · have : ¬ min len (seqPosAt sO 0 gp) = r := fun e => hr e.symm
      simp [hr, this]

/-- **the other row**: the repaired `_gaps_for_injection` inserts the columns `D` into the row, for every column dict
that lies inside the alignment -/
theorem inject_row (og D : Gaps) (len : Int) (hlen : 0 ≤ len) (hog : GapsOK og len) (hD : GapsOK D (len + total og)) :
    ∃ inj, gapsForInjection true og D len = .ok inj ∧ rowOf inj len = padCols (glN D) 0 (rowOf og len) := by
  have hr : ∀ e ∈ D, 0 ≤ e.1 ∧ e.1 ≤ len + total og := fun e he => hD.range e.1 (List.mem_map.mpr ⟨e, he, rfl⟩)
  obtain ⟨inj, hinj, hgl⟩ := injectLoop_ok (GapOffset.mk' og true) (sortGaps og) len (sortGaps D) og fun e he =>
    Int.le_min.mpr ⟨hlen, (seqPos_spec og len hog e.1 (hr e ((mem_sortGaps _ e).mp he))).1⟩
  refine ⟨inj, hinj, rowOf_inserted inj hog hD fun r _ => ?_⟩
  rw [hgl r, sumIf_sortGaps]
  exact congrArg _ (sumIf_congr _ _ _ fun e he => decide_eq_decide.mpr (seqPos_eq_iff og len hog e.1 (hr e he) r))

end CogentModel.GapMerge
