import Mathlib.Algebra.BigOperators.Ring.Finset
import Mathlib.Algebra.Field.Basic
import CogentModel.Proofs.PruneSites
/-!
Lumping of the bin-level hidden chain onto the two patches (`PatchSiteDistribution.get_weighted_sum_lhs` + the forward loop
over patches = the forward loop over bins), and stationarity of the bin probabilities under the bin-level matrix.
-/
namespace CogentModel.PruneSites
open CogentModel.Prune Finset

section semiring
variable {R : Type} [CommSemiring R]

/-- patch-level view of a bin-level vector: `W[a] = Σ_{b : patch b = a} v[b]` -/
def lumpW (nb : Nat) (p : Nat → Nat) (v : Nat → R) (a : Nat) : R := ∑ b ∈ range nb, if p b = a then v b else 0

theorem sum_fiber (nb k : Nat) (p : Nat → Nat) (hp : ∀ b, b < nb → p b < k) (f : Nat → R) :
    ∑ b ∈ range nb, f b = ∑ a ∈ range k, ∑ b ∈ range nb, if p b = a then f b else 0 := by
  rw [Finset.sum_comm]
  refine sum_range_congr fun b hb => ?_
  rw [Finset.sum_ite_eq (range k) (p b) (fun _ => f b)]
  simp [hp b hb]

theorem lump_key (nb k : Nat) (p : Nat → Nat) (hp : ∀ b, b < nb → p b < k) (T : Mat R) (v w : Nat → R)
    (hw : ∀ a, a < k → w a = lumpW nb p v a) (a : Nat) :
    ∑ b ∈ range nb, v b * T (p b) a = ∑ i ∈ range k, w i * T i a := by
  rw [sum_fiber nb k p hp]
  refine sum_range_congr fun i hi => ?_
  rw [hw i hi]
  unfold lumpW
  rw [Finset.sum_mul]
  refine Finset.sum_congr rfl fun b _ => ?_
  by_cases h : p b = i <;> simp [h]

theorem step_lump (nb k : Nat) (p : Nat → Nat) (hp : ∀ b, b < nb → p b < k) (T : Mat R) (cond lh : Nat → R) (v w : Vec R)
    (hw : ∀ a, a < k → w.get a = lumpW nb p v.get a) (a : Nat) :
    (step k T w (fun a => ∑ b ∈ range nb, if p b = a then lh b * cond b else 0)).get a
      = lumpW nb p (step nb (fun b c => T (p b) (p c) * cond c) v lh).get a := by
  rw [step_get]
  unfold lumpW
  simp only [step_get]
  rw [Finset.mul_sum]
  refine Finset.sum_congr rfl fun c _ => ?_
  by_cases h : p c = a
  · subst h
    simp only [if_true]
    rw [← lump_key nb k p hp T v.get w.get hw (p c)]
    simp only [← mul_assoc, ← Finset.sum_mul]
    ring
  · simp [h]

theorem forwardGo_lump (nb k : Nat) (p : Nat → Nat) (hp : ∀ b, b < nb → p b < k) (T : Mat R) (cond : Nat → R) :
    ∀ (es : List (Nat → R)) (v w : Vec R), (∀ a, a < k → w.get a = lumpW nb p v.get a) →
      ∀ a, a < k →
        (forwardGo k T (es.map fun lh a => ∑ b ∈ range nb, if p b = a then lh b * cond b else 0) w).get a
          = lumpW nb p (forwardGo nb (fun b c => T (p b) (p c) * cond c) es v).get a
  | [], v, w, hw, a, ha => by simpa [forwardGo] using hw a ha
  | lh :: es, v, w, hw, a, ha => by
    simp only [List.map_cons, forwardGo]
    exact forwardGo_lump nb k p hp T cond es _ _ (fun a' _ => step_lump nb k p hp T cond lh v w hw a') a ha

/-- **Lumping.**  A hidden chain over `nb` bins whose move `b → c` has probability `T[patch b, patch c] · cond[c]`
is, for the likelihood, the chain over the `k` patches with matrix `T` whose emission in patch `a` is
`Σ_{c ∈ a} lh[c] · cond[c]`, started from the lumped initial vector. -/
theorem forward_lump (nb k : Nat) (p : Nat → Nat) (hp : ∀ b, b < nb → p b < k) (T : Mat R) (cond ib : Nat → R)
    (es : List (Nat → R)) :
    forward k T (lumpW nb p ib) (es.map fun lh a => ∑ b ∈ range nb, if p b = a then lh b * cond b else 0)
      = forward nb (fun b c => T (p b) (p c) * cond c) ib es := by
  unfold forward
  rw [sumOver_eq, sumOver_eq, sum_fiber nb k p hp]
  refine sum_range_congr fun a ha => ?_
  exact forwardGo_lump nb k p hp T cond es ⟨ib⟩ ⟨lumpW nb p ib⟩ (fun _ _ => rfl) a ha

end semiring

section field
variable {R : Type} [Field R]

/-- the last bin is never in the first half, so there are always two patches -/
theorem alloc_lt (n b : Nat) : alloc n b < npatch n := by
  have h : ¬ n - 1 < n / 2 := by
    cases n with
    | zero => decide
    | succ n => exact Nat.not_lt.mpr (Nat.le_pred_of_lt (Nat.div_lt_self (Nat.succ_pos n) (by decide)))
  simp only [npatch, alloc, if_neg h]
  split <;> decide

theorem patchProbs_eq (bprobs : List R) :
    patchProbs bprobs = lumpW bprobs.length (alloc bprobs.length) (fun b => bprobs.getD b 0) :=
  funext fun a => by simp only [patchProbs, lumpW, sumOver_eq]

theorem siteEmissions_eq (bprobs : List R) (lhs : List (List R)) (index : List Nat) :
    siteEmissions bprobs lhs index
      = (binEmissions lhs index).map fun lh a =>
          ∑ b ∈ range bprobs.length, if alloc bprobs.length b = a then lh b * condProbs bprobs b else 0 := by
  simp only [siteEmissions, binEmissions, List.map_map]
  refine List.map_congr_left fun u _ => funext fun a => ?_
  simp only [Function.comp_apply, tabulate_get, patchEmission, sumOver_eq]

theorem site_hmm_eq_bin_forward (bprobs : List R) (switch : R) (lhs : List (List R)) (index : List Nat) :
    siteHmm bprobs switch lhs index
      = forward bprobs.length (binMatrix bprobs switch) (fun b => bprobs.getD b 0) (binEmissions lhs index) := by
  have h := forward_lump bprobs.length (npatch bprobs.length) (alloc bprobs.length) (fun b _ => alloc_lt _ b)
    (switchMatrix switch (patchProbs bprobs)) (condProbs bprobs) (fun b => bprobs.getD b 0) (binEmissions lhs index)
  rw [← patchProbs_eq, ← siteEmissions_eq] at h
  exact h

theorem binMatrix_stationary (bprobs : List R) (switch : R)
    (h1 : ∑ b ∈ range bprobs.length, bprobs.getD b 0 = 1)
    (hpos : ∀ a, a < npatch bprobs.length → patchProbs bprobs a ≠ 0) (c : Nat) :
    ∑ b ∈ range bprobs.length, bprobs.getD b 0 * binMatrix bprobs switch b c = bprobs.getD c 0 := by
  have hp : ∀ b, b < bprobs.length → alloc bprobs.length b < npatch bprobs.length := fun b _ => alloc_lt _ b
  have hsum : ∑ a ∈ range (npatch bprobs.length), patchProbs bprobs a = 1 := by
    rw [← h1, sum_fiber bprobs.length (npatch bprobs.length) (alloc bprobs.length) hp]
    refine Finset.sum_congr rfl fun a _ => ?_
    rw [patchProbs_eq]; rfl
  simp only [binMatrix, ← mul_assoc, ← Finset.sum_mul]
  rw [lump_key bprobs.length (npatch bprobs.length) (alloc bprobs.length) hp _ _ (patchProbs bprobs)
    (fun a _ => congrFun (patchProbs_eq bprobs) a),
    switchMatrix_stationary (npatch bprobs.length) switch (patchProbs bprobs) hsum _ (alloc_lt _ c),
    condProbs, mul_div_cancel₀ _ (hpos _ (alloc_lt _ c))]

end field
end CogentModel.PruneSites
