import CogentModel.Proofs.SplitMetric
import CogentModel.Proofs.NJTips
/-! Generating trees (binary, branch lengths ≥ 0; multifurcations = zero-length edges) as split systems. -/
namespace CogentModel.NJ

/-- the clade of a subtree as a split side -/
def memb (t : T) : Side := fun x => decide (x ∈ t.tips)

/-- one split per branch: the branch above each child carries that child's clade -/
def splitsOf : T → WSplits
  | .tip _ => []
  | .bin l1 t1 l2 t2 => (l1, memb t1) :: (l2, memb t2) :: (splitsOf t1 ++ splitsOf t2)

def NonNegT : T → Prop
  | .tip _ => True
  | .bin l1 t1 l2 t2 => 0 ≤ l1 ∧ 0 ≤ l2 ∧ NonNegT t1 ∧ NonNegT t2

theorem memb_iff {t : T} {x : Nat} : memb t x = true ↔ x ∈ t.tips := by simp [memb]

/-- every split of a subtree is a clade inside it -/
theorem splitsOf_sub (t : T) : ∀ S ∈ splitsOf t, ∀ x, S.2 x = true → x ∈ t.tips := by
  induction t with
  | tip a => intro S hS; cases hS
  | bin l1 t1 l2 t2 ih1 ih2 =>
    intro S hS x hx
    rw [tips_bin_eq, List.mem_append]
    simp only [splitsOf, List.mem_cons, List.mem_append] at hS
    rcases hS with rfl | rfl | hS | hS
    · exact Or.inl (memb_iff.1 hx)
    · exact Or.inr (memb_iff.1 hx)
    · exact Or.inl (ih1 S hS x hx)
    · exact Or.inr (ih2 S hS x hx)

theorem mem_tips_depth (t : T) (x : Nat) (hx : x ∈ t.tips) : ∃ h, (x, h) ∈ t.depths := by
  unfold T.tips at hx
  obtain ⟨p, hp, rfl⟩ := List.mem_map.1 hx
  exact ⟨p.2, hp⟩

theorem depth_mem_tips (t : T) (p : Nat × Rat) (hp : p ∈ t.depths) : p.1 ∈ t.tips :=
  List.mem_map.2 ⟨p, hp, rfl⟩

/-- the splits of a binary node fall into two groups: a child's branch together with the splits below it -/
theorem wsum_splitsOf_bin (l1 l2 : Rat) (t1 t2 : T) (g : Side → Rat) :
    wsum (splitsOf (T.bin l1 t1 l2 t2)) g
      = wsum ((l1, memb t1) :: splitsOf t1) g + wsum ((l2, memb t2) :: splitsOf t2) g := by
  show wsum ((l1, memb t1) :: (l2, memb t2) :: (splitsOf t1 ++ splitsOf t2)) g = _
  simp only [wsum]
  rw [wsum_append]; ring

theorem group_sub (t : T) (l : Rat) : ∀ S ∈ (l, memb t) :: splitsOf t, ∀ x, S.2 x = true → x ∈ t.tips := by
  intro S hS
  rcases List.mem_cons.1 hS with rfl | hS
  · exact fun x => memb_iff.1
  · exact splitsOf_sub t S hS

/-- a quantity that vanishes on every side inside `t` gets nothing from the group of `t` -/
theorem wsum_group_eq_zero (t : T) (l : Rat) (g : Side → Rat)
    (hg : ∀ s : Side, (∀ x, s x = true → x ∈ t.tips) → g s = 0) : wsum ((l, memb t) :: splitsOf t) g = 0 :=
  wsum_eq_zero _ g fun S hS => hg S.2 (group_sub t l S hS)

/-- the depth of a tip is the total length of the branches above it -/
theorem depth_eq (t : T) (hnd : t.tips.Nodup) : ∀ p ∈ t.depths,
    wsum (splitsOf t) (fun s => if s p.1 = true then 1 else 0) = p.2 := by
  induction t with
  | tip a =>
    intro p hp
    simp only [T.depths, List.mem_singleton] at hp
    subst hp; rfl
  | bin l1 t1 l2 t2 ih1 ih2 =>
    intro p hp
    rw [tips_bin_eq] at hnd
    have hd := List.disjoint_of_nodup_append hnd
    rw [wsum_splitsOf_bin]
    -- the group of the child holding the tip adds that child's branch to the depth below; the other group has no part
    rcases depths_bin _ _ _ _ p hp with ⟨p0, h0, rfl⟩ | ⟨p0, h0, rfl⟩
    · have hin := depth_mem_tips t1 p0 h0
      rw [wsum_group_eq_zero t2 l2 _ fun s hs => if_neg fun h => hd hin (hs _ h), add_zero]
      show l1 * (if memb t1 p0.1 = true then 1 else 0) + wsum (splitsOf t1) _ = p0.2 + l1
      rw [if_pos (memb_iff.2 hin), ih1 (List.nodup_append.1 hnd).1 p0 h0, mul_one, add_comm]
    · have hin := depth_mem_tips t2 p0 h0
      rw [wsum_group_eq_zero t1 l1 _ fun s hs => if_neg fun h => hd (hs _ h) hin, zero_add]
      show l2 * (if memb t2 p0.1 = true then 1 else 0) + wsum (splitsOf t2) _ = p0.2 + l2
      rw [if_pos (memb_iff.2 hin), ih2 (List.nodup_append.1 hnd).2.1 p0 h0, mul_one, add_comm]

/-- a side contained in a set of leaves does not separate two leaves outside it -/
theorem sep_outside (s : Side) (A : List Nat) (hs : ∀ x, s x = true → x ∈ A) (x y : Nat) (hx : x ∉ A) (hy : y ∉ A) :
    sep s x y = 0 :=
  sep_of_eq (bool_eq_of_ne_ne (fun h => hx (hs x h)) fun h => hy (hs y h))

/-- and separates a leaf from one outside it exactly if it contains the former -/
theorem sep_one_outside (s : Side) (A : List Nat) (hs : ∀ x, s x = true → x ∈ A) (x y : Nat) (hy : y ∉ A) :
    sep s x y = if s x = true then 1 else 0 := by
  by_cases h : s x = true
  · rw [if_pos h]; exact sep_of_ne fun e => hy (hs y (e ▸ h))
  · rw [if_neg h]; exact sep_of_eq (bool_eq_of_ne_ne h fun e => hy (hs y e))

/-- two tips of `t` are separated only by splits below `t` -/
theorem wsum_group_inside (t : T) (l : Rat) (x y : Nat) (hx : x ∈ t.tips) (hy : y ∈ t.tips) :
    wsum ((l, memb t) :: splitsOf t) (fun s => sep s x y) = splitDist (splitsOf t) x y := by
  show l * sep (memb t) x y + _ = _
  rw [sep_of_eq ((memb_iff.2 hx).trans (memb_iff.2 hy).symm), mul_zero, zero_add]; rfl

/-- a tip of `t` is separated from a leaf outside `t` by the branch of `t` and the branches of `t` above the tip -/
theorem wsum_group_cross (t : T) (l : Rat) (hnd : t.tips.Nodup) (p : Nat × Rat) (hp : p ∈ t.depths) (y : Nat)
    (hy : y ∉ t.tips) : wsum ((l, memb t) :: splitsOf t) (fun s => sep s p.1 y) = p.2 + l := by
  rw [wsum_congr _ _ (fun s => if s p.1 = true then 1 else 0) fun S hS =>
    sep_one_outside _ _ (group_sub t l S hS) p.1 y hy]
  show l * (if memb t p.1 = true then 1 else 0) + wsum (splitsOf t) _ = _
  rw [if_pos (memb_iff.2 (depth_mem_tips t p hp)), depth_eq t hnd p hp, mul_one, add_comm]

/-- the split metric of a tree is its path metric -/
theorem splitDist_real (t : T) (hnd : t.tips.Nodup) : ∀ D : Nat → Nat → Rat,
    (∀ x y, x ∈ t.tips → y ∈ t.tips → D x y = splitDist (splitsOf t) x y) → Real D t := by
  induction t with
  | tip a => intro D _; trivial
  | bin l1 t1 l2 t2 ih1 ih2 =>
    intro D hD
    rw [tips_bin_eq] at hnd hD
    have hd := List.disjoint_of_nodup_append hnd
    have hn1 := (List.nodup_append.1 hnd).1
    have hn2 := (List.nodup_append.1 hnd).2.1
    refine ⟨ih1 hn1 D fun x y hx hy => ?_, ih2 hn2 D fun x y hx hy => ?_, fun p hp q hq => ?_⟩
    · rw [hD x y (List.mem_append_left _ hx) (List.mem_append_left _ hy), splitDist, wsum_splitsOf_bin,
        wsum_group_inside t1 l1 x y hx hy,
        wsum_group_eq_zero t2 l2 _ fun s hs => sep_outside s _ hs x y (fun h => hd hx h) fun h => hd hy h, add_zero]
    · rw [hD x y (List.mem_append_right _ hx) (List.mem_append_right _ hy), splitDist, wsum_splitsOf_bin,
        wsum_group_inside t2 l2 x y hx hy,
        wsum_group_eq_zero t1 l1 _ fun s hs => sep_outside s _ hs x y (fun h => hd h hx) fun h => hd h hy, zero_add]
    · have hx := depth_mem_tips t1 p hp
      have hy := depth_mem_tips t2 q hq
      rw [hD p.1 q.1 (List.mem_append_left _ hx) (List.mem_append_right _ hy), splitDist, wsum_splitsOf_bin,
        wsum_group_cross t1 l1 hn1 p hp q.1 fun h => hd h hy,
        wsum_congr _ _ (fun s => sep s q.1 p.1) fun S _ => sep_symm S.2 p.1 q.1,
        wsum_group_cross t2 l2 hn2 q hq p.1 fun h => hd hx h]
      ring

/-- two clades are nested or disjoint -/
def Lam (s t : Side) : Prop :=
  (∀ x, s x = true → t x = true) ∨ (∀ x, t x = true → s x = true) ∨ (∀ x, ¬ (s x = true ∧ t x = true))

theorem Lam.compat {s t : Side} (L : Nat) (h : Lam s t) : Compat L s t := by
  rcases h with h | h | h
  · exact ⟨true, false, fun x _ hx => by have := h x hx.1; rw [hx.2] at this; cases this⟩
  · exact ⟨false, true, fun x _ hx => by have := h x hx.2; rw [hx.1] at this; cases this⟩
  · exact ⟨true, true, fun x _ hx => h x hx⟩

theorem mem_splitsOf_bin (l1 l2 : Rat) (t1 t2 : T) (S : Rat × Side) (hS : S ∈ splitsOf (T.bin l1 t1 l2 t2)) :
    S ∈ (l1, memb t1) :: splitsOf t1 ∨ S ∈ (l2, memb t2) :: splitsOf t2 := by
  simp only [splitsOf, List.mem_cons, List.mem_append] at hS ⊢
  rcases hS with h | h | h | h
  · exact Or.inl (Or.inl h)
  · exact Or.inr (Or.inl h)
  · exact Or.inl (Or.inr h)
  · exact Or.inr (Or.inr h)

/-- a clade contains every split below it, so laminarity extends from the splits of `t` to its branch -/
theorem lam_group (t : T) (l : Rat) (ih : ∀ S ∈ splitsOf t, ∀ U ∈ splitsOf t, Lam S.2 U.2) :
    ∀ S ∈ (l, memb t) :: splitsOf t, ∀ U ∈ (l, memb t) :: splitsOf t, Lam S.2 U.2 := by
  intro S hS U hU
  rcases List.mem_cons.1 hS with rfl | hS <;> rcases List.mem_cons.1 hU with rfl | hU
  · exact Or.inl fun _ h => h
  · exact Or.inr (Or.inl fun x hx => memb_iff.2 (splitsOf_sub t U hU x hx))
  · exact Or.inl fun x hx => memb_iff.2 (splitsOf_sub t S hS x hx)
  · exact ih S hS U hU

theorem splitsOf_lam (t : T) (hnd : t.tips.Nodup) : ∀ S ∈ splitsOf t, ∀ U ∈ splitsOf t, Lam S.2 U.2 := by
  induction t with
  | tip a => intro S hS; cases hS
  | bin l1 t1 l2 t2 ih1 ih2 =>
    rw [tips_bin_eq] at hnd
    have hd := List.disjoint_of_nodup_append hnd
    have g1 := lam_group t1 l1 (ih1 (List.nodup_append.1 hnd).1)
    have g2 := lam_group t2 l2 (ih2 (List.nodup_append.1 hnd).2.1)
    intro S hS U hU
    rcases mem_splitsOf_bin l1 l2 t1 t2 S hS with hS | hS <;> rcases mem_splitsOf_bin l1 l2 t1 t2 U hU with hU | hU
    · exact g1 S hS U hU
    -- splits of different groups live inside the disjoint tip sets of the two children
    · exact Or.inr (Or.inr fun x hx => hd (group_sub t1 l1 S hS x hx.1) (group_sub t2 l2 U hU x hx.2))
    · exact Or.inr (Or.inr fun x hx => hd (group_sub t1 l1 U hU x hx.2) (group_sub t2 l2 S hS x hx.1))
    · exact g2 S hS U hU

theorem splitsOf_nonneg (t : T) (h : NonNegT t) : ∀ S ∈ splitsOf t, 0 ≤ S.1 := by
  induction t with
  | tip a => intro S hS; cases hS
  | bin l1 t1 l2 t2 ih1 ih2 =>
    obtain ⟨h1, h2, h3, h4⟩ := h
    intro S hS
    simp only [splitsOf, List.mem_cons, List.mem_append] at hS
    rcases hS with rfl | rfl | hS | hS
    · exact h1
    · exact h2
    · exact ih1 h3 S hS
    · exact ih2 h4 S hS

/-- a generating tree with non-negative branch lengths and distinct tips is a split system on any leaf range -/
theorem splitsOf_system (t : T) (L : Nat) (hnn : NonNegT t) (hnd : t.tips.Nodup) : SplitSystem L (splitsOf t) :=
  ⟨splitsOf_nonneg t hnn, fun S hS U hU => (splitsOf_lam t hnd S hS U hU).compat L⟩
end CogentModel.NJ
