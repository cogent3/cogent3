import CogentModel.Model.PhyloNewickStr
import CogentModel.Proofs.ListFacts
set_option linter.unusedSimpArgs false
/-! C09: the character-level tokeniser (stage 1 `lexRun`, the regular-expression split; stage 2 `mRun`, the token
loop) reads back one name as the writer's escaping produced it (`reads_label`). -/
namespace CogentModel.Phylo

/-- the characters that can follow a label in the writer's output -/
def Term (c : Char) : Prop := c = ',' ∨ c = ')' ∨ c = ';' ∨ c = ':'

def Printable (c : Char) : Prop := 32 ≤ c.toNat ∧ c.toNat ≤ 126

instance : DecidablePred Printable := fun c => by unfold Printable; infer_instance

theorem lexRun_cons (σ : LexSt) (c : Char) (cs : List Char) :
    lexRun σ (c :: cs) = (lexStep σ c).2 ++ lexRun (lexStep σ c).1 cs := rfl

theorem lex_lparen (rest : List Char) : lexRun {} ('(' :: rest) = Raw.sp '(' :: lexRun {} rest := rfl

/-- a character that goes into an unquoted text chunk -/
def PlainCh (x : Char) : Prop :=
  isBlank x = false ∧ x ≠ '\n' ∧ x ≠ '\'' ∧ x ≠ '"' ∧ isPunct x = false

/-- what the lexer and the token loop need to know of the punctuation `( ) , : ;` -/
theorem punTokChar_spec {c : Char} (hc : isPunTokChar c = true) :
    isPunct c = true ∧ isBlank c = false ∧ c ≠ '\n' ∧ c ≠ '\'' ∧ c ≠ '"' ∧ c ≠ '[' ∧ c ≠ ']' := by
  simp only [isPunTokChar, Bool.or_eq_true, decide_eq_true_eq] at hc
  rcases hc with (((rfl | rfl) | rfl) | rfl) | rfl <;> decide

theorem term_punTok {c : Char} (hc : Term c) : isPunTokChar c = true := by
  rcases hc with rfl | rfl | rfl | rfl <;> rfl

theorem lexFresh_pun (acc : List Char) (c : Char) (hc : isPunTokChar c = true) :
    lexFresh acc c = (⟨[], .none⟩, flushTxt acc ++ [Raw.sp c]) := by
  obtain ⟨hp, hb, hn, hq, hd, _⟩ := punTokChar_spec hc
  rw [lexFresh, if_neg (by simp [hb]), if_neg hn, if_neg hq, if_neg hd, if_pos hp]

/-- punctuation flushes whatever is pending (`lexEnd`) and leaves the lexer in its initial state -/
theorem lexRun_pun (σ : LexSt) (c : Char) (hc : isPunTokChar c = true) (rest : List Char) :
    lexRun σ (c :: rest) = lexEnd σ ++ Raw.sp c :: lexRun {} rest := by
  obtain ⟨_, hb, _, hq, hd, _⟩ := punTokChar_spec hc
  have h0 : lexFresh [] c = (⟨[], .none⟩, [Raw.sp c]) := lexFresh_pun [] c hc
  obtain ⟨txt, pend⟩ := σ
  cases pend with
  | none => simp only [lexRun_cons, lexStep, lexEnd, lexFresh_pun txt c hc, List.append_assoc]; rfl
  | ws run => simp only [lexRun_cons, lexStep, lexEnd, hb, h0, Bool.false_eq_true, if_false]; rfl
  | sq => simp only [lexRun_cons, lexStep, lexEnd, hq, h0, if_false]; rfl
  | dq => simp only [lexRun_cons, lexStep, lexEnd, hd, h0, if_false]; rfl

/-! ### inside a label

One invariant, `Emits`, serves the quoted and the unquoted label. -/
def pendStr (σ : LexSt) : List Char :=
  match σ.pend with
  | .none => σ.txt.reverse
  | .ws run => run.reverse
  | .sq => ['\'']
  | .dq => ['"']

/-- what a piece contributes to the text of a label quoted with `'` -/
def inQuoteStr : Raw → List Char
  | .sq2 => ['\'']
  | r => r.str

def Piece : Raw → Prop
  | .ws s => s ≠ [] ∧ ∀ y ∈ s, isBlank y = true
  | .txt s => s ≠ []
  | .sp c => c = '"' ∨ isPunct c = true
  | .nl => False
  | _ => True

/-- lexer states met inside a label: no single quote is pending, a pending blank run is one -/
def LexWF (σ : LexSt) : Prop :=
  match σ.pend with
  | .ws run => run ≠ [] ∧ ∀ y ∈ run, isBlank y = true
  | .sq => False
  | _ => True

/-- from the state `σ`, over the text `s`, the split emits the pieces `R` and is left in `σ'`: only `Piece`s,
and the text of the pieces followed by what is still pending is what was pending followed by `s` (a doubled
single quote counting once, as the token loop will count it inside `'…'`) -/
def Emits (σ : LexSt) (s : List Char) (R : List Raw) (σ' : LexSt) : Prop :=
  LexWF σ' ∧ (∀ r ∈ R, Piece r) ∧ R.flatMap inQuoteStr ++ pendStr σ' = pendStr σ ++ s

namespace Emits
theorem trans {σ σ' σ'' : LexSt} {s s' : List Char} {R R' : List Raw} (h : Emits σ s R σ')
    (h' : Emits σ' s' R' σ'') : Emits σ (s ++ s') (R ++ R') σ'' :=
  ⟨h'.1, List.forall_mem_append.2 ⟨h.2.1, h'.2.1⟩, by
    rw [List.flatMap_append, List.append_assoc, h'.2.2, ← List.append_assoc, h.2.2, List.append_assoc]⟩
end Emits

/-- the end of the text, or a delimiter, flushes what is pending -/
theorem lexEnd_emits (σ : LexSt) (h : LexWF σ) : Emits σ [] (lexEnd σ) {} := by
  obtain ⟨txt, pend⟩ := σ
  cases pend with
  | none =>
    cases txt with
    | nil => exact ⟨trivial, List.forall_mem_nil _, rfl⟩
    | cons a txt =>
      exact ⟨trivial, List.forall_mem_singleton.2 (mt List.reverse_eq_nil_iff.1 (List.cons_ne_nil a txt)), List.append_nil _⟩
  | ws run =>
    exact ⟨trivial, List.forall_mem_singleton.2 ⟨mt List.reverse_eq_nil_iff.1 h.1, fun y hy => h.2 y (List.mem_reverse.1 hy)⟩,
      List.append_nil _⟩
  | sq => exact h.elim
  | dq => exact ⟨trivial, List.forall_mem_singleton.2 (Or.inl rfl), rfl⟩

theorem lexStep_quote (σ : LexSt) (h : LexWF σ) : lexStep σ '\'' = (⟨[], .sq⟩, lexEnd σ) := by
  have hfresh : ∀ acc, lexFresh acc '\'' = (⟨[], .sq⟩, flushTxt acc) := fun acc => by simp [lexFresh, isBlank]
  obtain ⟨txt, pend⟩ := σ
  cases pend with
  | none => simp [lexStep, hfresh, lexEnd]
  | ws run => simp [lexStep, isBlank, hfresh, flushTxt, lexEnd]
  | sq => exact h.elim
  | dq => simp [lexStep, hfresh, flushTxt, lexEnd]

/-- one character other than a single quote or a newline, met with nothing pending -/
theorem lexFresh_emits (txt : List Char) (x : Char) (hq : x ≠ '\'') (hn : x ≠ '\n') :
    Emits ⟨txt, .none⟩ [x] (lexFresh txt x).2 (lexFresh txt x).1 := by
  have hf : Emits ⟨txt, .none⟩ [] (flushTxt txt) {} := lexEnd_emits ⟨txt, .none⟩ trivial
  have hf' : ∀ σ', Emits {} [x] [] σ' → Emits ⟨txt, .none⟩ [x] (flushTxt txt) σ' := fun σ' h =>
    List.append_nil (flushTxt txt) ▸ hf.trans h
  unfold lexFresh
  by_cases h1 : isBlank x = true
  · rw [if_pos h1]
    exact hf' _ ⟨⟨List.cons_ne_nil _ _, by simpa using h1⟩, List.forall_mem_nil _, rfl⟩
  · rw [if_neg h1, if_neg hn, if_neg hq]
    by_cases h2 : x = '"'
    · subst h2
      exact hf' _ ⟨trivial, List.forall_mem_nil _, rfl⟩
    · rw [if_neg h2]
      by_cases h3 : isPunct x = true
      · rw [if_pos h3]
        exact hf.trans ⟨trivial, List.forall_mem_singleton.2 (Or.inr h3), rfl⟩
      · rw [if_neg h3]
        exact ⟨trivial, List.forall_mem_nil _, by simp [pendStr]⟩

theorem lexStep_emits (σ : LexSt) (hwf : LexWF σ) (x : Char) (hq : x ≠ '\'') (hn : x ≠ '\n') :
    Emits σ [x] (lexStep σ x).2 (lexStep σ x).1 := by
  -- what is pending is flushed, then `x` is met with nothing pending
  have after := (lexEnd_emits σ hwf).trans (lexFresh_emits [] x hq hn)
  obtain ⟨txt, pend⟩ := σ
  cases pend with
  | none => exact lexFresh_emits txt x hq hn
  | sq => exact hwf.elim
  | ws run =>
    by_cases h1 : isBlank x = true
    · rw [show lexStep ⟨txt, .ws run⟩ x = (⟨[], .ws (x :: run)⟩, []) from if_pos h1]
      exact ⟨⟨List.cons_ne_nil _ _, List.forall_mem_cons.2 ⟨h1, hwf.2⟩⟩, List.forall_mem_nil _, List.reverse_cons⟩
    · rw [show lexStep ⟨txt, .ws run⟩ x = ((lexFresh [] x).1, .ws run.reverse :: (lexFresh [] x).2) from if_neg h1]
      exact after
  | dq =>
    by_cases h1 : x = '"'
    · rw [show lexStep ⟨txt, .dq⟩ x = (⟨[], .none⟩, [.dq2]) from if_pos h1, h1]
      exact ⟨trivial, List.forall_mem_singleton.2 trivial, rfl⟩
    · rw [show lexStep ⟨txt, .dq⟩ x = ((lexFresh [] x).1, .sp '"' :: (lexFresh [] x).2) from if_neg h1]
      exact after

/-- the body of a label as the writer emits it (single quotes doubled) -/
theorem lex_chunk : ∀ (n : List Char) (σ : LexSt), LexWF σ → (∀ x ∈ n, x ≠ '\n') →
    ∃ R σ', Emits σ n R σ' ∧ ∀ tail, lexRun σ (doubleQuotes n ++ tail) = R ++ lexRun σ' tail
  | [], σ, hwf, _ => ⟨[], σ, ⟨hwf, List.forall_mem_nil _, (List.append_nil _).symm⟩, fun _ => rfl⟩
  | x :: n, σ, hwf, hn => by
    have hn' : ∀ y ∈ n, y ≠ '\n' := fun y hy => hn y (List.mem_cons_of_mem _ hy)
    by_cases hx : x = '\''
    · subst hx
      obtain ⟨R', σ', he, hl'⟩ := lex_chunk n ⟨[], .none⟩ trivial hn'
      have hq : Emits {} ['\''] [Raw.sq2] {} := ⟨trivial, List.forall_mem_singleton.2 trivial, rfl⟩
      refine ⟨lexEnd σ ++ Raw.sq2 :: R', σ', (lexEnd_emits σ hwf).trans (hq.trans he), fun tail => ?_⟩
      have e2 : lexStep ⟨[], .sq⟩ '\'' = (⟨[], .none⟩, [Raw.sq2]) := rfl
      simp only [doubleQuotes, if_true, List.cons_append]
      rw [lexRun_cons, lexStep_quote σ hwf, lexRun_cons, e2, hl' tail]
      simp
    · have he1 := lexStep_emits σ hwf x hx (hn x List.mem_cons_self)
      obtain ⟨R', σ', he, hl'⟩ := lex_chunk n (lexStep σ x).1 he1.1 hn'
      refine ⟨(lexStep σ x).2 ++ R', σ', he1.trans he, fun tail => ?_⟩
      simp only [doubleQuotes, hx, if_false, List.cons_append]
      rw [lexRun_cons, hl' tail, List.append_assoc]

theorem doubleQuotes_noop : ∀ (n : List Char), (∀ x ∈ n, x ≠ '\'') → doubleQuotes n = n
  | [], _ => rfl
  | x :: n, h => by
    rw [doubleQuotes, if_neg (h x List.mem_cons_self), doubleQuotes_noop n fun y hy => h y (List.mem_cons_of_mem _ hy)]

/-- a whole label read from the initial state, up to its terminator (unquoted) or its closing quote -/
theorem lex_label (n : List Char) (hn : ∀ x ∈ n, x ≠ '\n') :
    ∃ R, (∀ r ∈ R, Piece r) ∧ R.flatMap inQuoteStr = n ∧ ∀ (c : Char) (rest : List Char), Term c →
      lexRun {} (doubleQuotes n ++ c :: rest) = R ++ Raw.sp c :: lexRun {} rest ∧
      lexRun {} (doubleQuotes n ++ '\'' :: c :: rest) = R ++ Raw.sp '\'' :: Raw.sp c :: lexRun {} rest := by
  obtain ⟨R, σ', he, hl⟩ := lex_chunk n {} trivial hn
  obtain ⟨_, hp, hs⟩ := he.trans (lexEnd_emits σ' he.1)
  refine ⟨R ++ lexEnd σ', hp, by simpa [pendStr] using hs, ?_⟩
  intro c rest hc
  rw [hl, hl, lexRun_pun σ' c (term_punTok hc), lexRun_cons, lexStep_quote σ' he.1, lexRun_pun _ c (term_punTok hc)]
  simp [lexEnd]

def feed : MSt → List Raw → Option (MSt × List STok)
  | σ, [] => some (σ, [])
  | σ, r :: rs =>
    match mStep σ r with
    | none => none
    | some (σ', o) => (feed σ' rs).map fun p => (p.1, o ++ p.2)

theorem mRun_append : ∀ (A B : List Raw) (σ : MSt),
    mRun σ (A ++ B) = match feed σ A with
      | none => none
      | some (σ', o) => (mRun σ' B).map (o ++ ·)
  | [], B, σ => by simp [feed]
  | r :: A, B, σ => by
    simp only [List.cons_append, mRun, feed]
    cases h : mStep σ r with
    | none => rfl
    | some p =>
      obtain ⟨σ', o⟩ := p
      simp only [mRun_append A B σ']
      cases h2 : feed σ' A with
      | none => rfl
      | some q =>
        obtain ⟨σ'', o'⟩ := q
        simp only [Option.map_some]
        cases mRun σ'' B <;> simp

/-- a run of pieces each of which the machine, in the states `st acc`, appends to the text it collects -/
theorem feed_acc (st : List Char → MSt) (Q : Raw → Prop)
    (hstep : ∀ acc r, Q r → mStep (st acc) r = some (st (acc ++ inQuoteStr r), [])) :
    ∀ (R : List Raw) (acc : List Char), (∀ r ∈ R, Q r) →
      feed (st acc) R = some (st (acc ++ R.flatMap inQuoteStr), [])
  | [], acc, _ => by simp [feed]
  | r :: R, acc, h => by
    simp only [feed, hstep acc r (h r List.mem_cons_self),
      feed_acc st Q hstep R _ fun x hx => h x (List.mem_cons_of_mem _ hx)]
    simp

/-- inside a quoted label every piece is appended to its text -/
theorem feedQ (R : List Raw) (acc : List Char) (h : ∀ r ∈ R, Piece r) :
    feed ⟨some acc, some '\'', false, []⟩ R =
      some (⟨some (acc ++ R.flatMap inQuoteStr), some '\'', false, []⟩, []) := by
  refine feed_acc (fun acc => ⟨some acc, some '\'', false, []⟩) Piece (fun acc r hr => ?_) R acc h
  cases r with
  | sp c =>
    have hc : c ≠ '\'' := by rintro rfl; exact hr.elim (by decide) (by decide)
    simp [mStep, mBody, inQuoteStr, Raw.str, hc]
  | nl => exact hr.elim
  | _ => rfl

theorem mStep_pun (c : Char) (hc : isPunct c = true) (h1 : c ≠ '[') (h2 : c ≠ ']') :
    mStep {} (Raw.sp c) = some ({}, [STok.pun c]) := by
  simp [mStep, mBody, hc, finishText, h1, h2]

theorem mRun_pun (c : Char) (hc : isPunct c = true) (h1 : c ≠ '[') (h2 : c ≠ ']') (X : List Raw) :
    mRun {} (Raw.sp c :: X) = (mRun {} X).map (STok.pun c :: ·) := by
  simp only [mRun, mStep_pun c hc h1 h2]
  cases mRun {} X <;> simp

/-- a quoted label followed by a terminator -/
theorem mRun_quoted (R : List Raw) (hR : ∀ r ∈ R, Piece r) (c : Char) (hc : Term c) (X : List Raw) :
    mRun {} (Raw.sp '\'' :: (R ++ Raw.sp '\'' :: Raw.sp c :: X)) =
      (mRun {} X).map (fun ts => STok.lab (R.flatMap inQuoteStr) :: STok.pun c :: ts) := by
  obtain ⟨hp, _, _, _, _, h1, h2⟩ := punTokChar_spec (term_punTok hc)
  have hs1 : mStep {} (Raw.sp '\'') = some (⟨some [], some '\'', false, []⟩, []) := by
    simp [mStep, mBody, isPunct]
  have hs2 : mStep ⟨some (R.flatMap inQuoteStr), some '\'', false, []⟩ (Raw.sp '\'') =
      some ({}, [STok.lab (R.flatMap inQuoteStr)]) := by
    simp [mStep, mBody]
  simp only [mRun, hs1, Option.map_some]
  rw [mRun_append R _ _, feedQ R [] hR]
  simp only [List.nil_append, mRun, hs2, mStep_pun c hp h1 h2]
  cases mRun {} X <;> simp

/-! ### unquoted labels: any characters but newline, quotes and punctuation (tabs inside, odd white space) -/
def UCh (x : Char) : Prop := x ≠ '\n' ∧ x ≠ '\'' ∧ x ≠ '"' ∧ isPunct x = false

def Soft : Raw → Prop
  | .ws s => s ≠ [] ∧ ∀ y ∈ s, isBlank y = true
  | .txt s => s ≠ []
  | _ => False

/-- a piece that carries none of the quote or punctuation characters is a blank run or a text chunk -/
theorem soft_of_piece {r : Raw} (hp : Piece r) (hu : ∀ y ∈ inQuoteStr r, UCh y) : Soft r := by
  cases r with
  | ws s => exact hp
  | txt s => exact hp
  | nl => exact hp
  | sq2 => exact (hu '\'' (by simp [inQuoteStr])).2.1 rfl
  | dq2 => exact (hu '"' (by simp [inQuoteStr, Raw.str])).2.2.1 rfl
  | sp c =>
    obtain ⟨_, _, h3, h4⟩ := hu c (by simp [inQuoteStr, Raw.str])
    rcases hp with hp | hp
    · exact h3 hp
    · rw [h4] at hp; cases hp

theorem feedText (R : List Raw) (acc : List Char) (h : ∀ r ∈ R, Soft r) :
    feed ⟨some acc, none, false, []⟩ R = some (⟨some (acc ++ R.flatMap inQuoteStr), none, false, []⟩, []) := by
  refine feed_acc (fun acc => ⟨some acc, none, false, []⟩) Soft (fun acc r hr => ?_) R acc h
  cases r <;> first | exact hr.elim | rfl

theorem isBlank_pySpace {x : Char} (h : isBlank x = true) : pySpace x = true := by
  simp only [isBlank, Bool.or_eq_true, decide_eq_true_eq] at h
  rcases h with rfl | rfl <;> decide

theorem dropWhile_nil_all {α} (p : α → Bool) : ∀ (l : List α), l.dropWhile p = [] → ∀ y ∈ l, p y = true
  | [], _, y, hy => by simp at hy
  | a :: l, h, y, hy => by
    by_cases ha : p a = true
    · simp only [List.dropWhile, ha] at h
      rcases List.mem_cons.1 hy with rfl | hy
      · exact ha
      · exact dropWhile_nil_all p l h y hy
    · simp [List.dropWhile, ha] at h

theorem strip_ne_nil_of_head (x : Char) (s : List Char) (hx : pySpace x = false) : strip (x :: s) ≠ [] := by
  unfold strip
  simp only [List.dropWhile, hx]
  intro h
  have h' : ((x :: s).reverse.dropWhile pySpace) = [] := by simpa using h
  have := dropWhile_nil_all pySpace _ h' x (by simp)
  rw [hx] at this; cases this

theorem feedStart (R : List Raw) (hR : ∀ r ∈ R, Soft r) (x : Char) (m : List Char)
    (hflat : R.flatMap inQuoteStr = x :: m) (hsp : pySpace x = false) :
    feed {} R = some (⟨some (x :: m), none, false, []⟩, []) := by
  cases R with
  | nil => simp at hflat
  | cons r R =>
    have hr := hR r (by simp)
    have hR' : ∀ r ∈ R, Soft r := fun y hy => hR y (by simp [hy])
    cases r with
    | ws s =>
      obtain ⟨hne, hall⟩ := hr
      obtain ⟨y, s', rfl⟩ := List.exists_cons_of_ne_nil hne
      simp only [List.flatMap_cons, inQuoteStr, Raw.str, List.cons_append, List.cons.injEq] at hflat
      have := isBlank_pySpace (hall y (by simp))
      rw [hflat.1, hsp] at this; cases this
    | txt s =>
      have hne : s ≠ [] := hr
      obtain ⟨y, s', rfl⟩ := List.exists_cons_of_ne_nil hne
      simp only [List.flatMap_cons, inQuoteStr, Raw.str, List.cons_append, List.cons.injEq] at hflat
      obtain ⟨rfl, hrest⟩ := hflat
      have hst := strip_ne_nil_of_head y s' hsp
      have hs1 : mStep {} (Raw.txt (y :: s')) = some (⟨some (y :: s'), none, false, []⟩, []) := by
        simp [mStep, mBody, Raw.str, hst]
      simp only [feed, hs1, feedText R _ hR']
      simp [hrest]
    | _ => exact hr.elim

/-- an unquoted label (possibly with tabs inside) followed by a terminator -/
theorem mRun_unquoted (R : List Raw) (hR : ∀ r ∈ R, Soft r) (x : Char) (m : List Char)
    (hflat : R.flatMap inQuoteStr = x :: m) (hsp : pySpace x = false)
    (c : Char) (hc : Term c) (X : List Raw) :
    mRun {} (R ++ Raw.sp c :: X) =
      (mRun {} X).map (fun ts => STok.lab (unmunge (strip (x :: m))) :: STok.pun c :: ts) := by
  obtain ⟨hp, _, _, _, _, h1, h2⟩ := punTokChar_spec (term_punTok hc)
  have hs2 : mStep ⟨some (x :: m), none, false, []⟩ (Raw.sp c) =
      some ({}, [STok.lab (unmunge (strip (x :: m))), STok.pun c]) := by
    simp [mStep, mBody, hp, finishText, h1, h2]
  rw [mRun_append, feedStart R hR x m hflat hsp]
  simp only [mRun, hs2, List.nil_append]
  cases mRun {} X <;> simp

def run (cs : List Char) : Option (List STok) := mRun {} (lexRun {} cs)

theorem tokenise_eq_run (cs : List Char) : tokenise cs = run cs := rfl

theorem run_pun (c : Char) (hc : isPunTokChar c = true) (rest : List Char) :
    run (c :: rest) = (run rest).map (STok.pun c :: ·) := by
  obtain ⟨hp, _, _, _, _, h1, h2⟩ := punTokChar_spec hc
  exact (congrArg (mRun {}) (lexRun_pun {} c hc rest)).trans (mRun_pun c hp h1 h2 _)

/-! ### reading in sequence

Both the tokeniser on characters and the classification of its tokens are prefix-wise: a chunk `a` is turned
into `s` and the rest is read independently — for the tokeniser only if the rest begins with a terminator
when `a` may end in an unquoted label.  `Reads f P a s` says so; chunks compose by `reads_append`. -/
def Reads {α β : Type} (f : List α → Option (List β)) (P : List α → Prop) (a : List α) (s : List β) : Prop :=
  ∀ Z, P Z → f (a ++ Z) = (f Z).map (s ++ ·)

def AnyRest {α : Type} (_ : List α) : Prop := True

def TermHead (Z : List Char) : Prop := ∃ d more, Z = d :: more ∧ Term d

theorem termHead_append {b : List Char} (h : TermHead b) (Z : List Char) : TermHead (b ++ Z) := by
  obtain ⟨d, more, rfl, hd⟩ := h
  exact ⟨d, more ++ Z, rfl, hd⟩

section
variable {α β : Type} {f : List α → Option (List β)} {P Q : List α → Prop}

theorem reads_nil : Reads f P [] [] := fun Z _ => by
  simp only [List.nil_append, Option.map_id']

theorem reads_append {a b : List α} {s t : List β} (ha : Reads f P a s) (hb : Reads f Q b t)
    (h : ∀ Z, Q Z → P (b ++ Z)) : Reads f Q (a ++ b) (s ++ t) := fun Z hZ => by
  rw [List.append_assoc, ha _ (h Z hZ), hb Z hZ, Option.map_map]
  exact congrArg (Option.map · (f Z)) (funext fun ts => (List.append_assoc s t ts).symm)

/-- after a chunk that can be followed by anything -/
theorem reads_append_anyRest {a b : List α} {s t : List β} (ha : Reads f AnyRest a s) (hb : Reads f Q b t) :
    Reads f Q (a ++ b) (s ++ t) :=
  reads_append ha hb fun _ _ => trivial

end

theorem reads_pun {c : Char} (hc : isPunTokChar c = true) : Reads run AnyRest [c] [STok.pun c] :=
  fun Z _ => run_pun c hc Z

theorem reads_of_term {cs : List Char} {ts : List STok}
    (h : ∀ c, Term c → ∀ rest, run (cs ++ c :: rest) = (run rest).map (fun r => ts ++ STok.pun c :: r)) :
    Reads run TermHead cs ts := by
  rintro _ ⟨c, rest, rfl, hc⟩
  rw [h c hc, run_pun c (term_punTok hc), Option.map_map]
  rfl

/-- an unquoted chunk before a terminator is one label: stripped, underscores turned into blanks -/
theorem reads_unquoted (x : Char) (m : List Char) (hsp : pySpace x = false) (hm : ∀ y ∈ x :: m, UCh y) :
    Reads run TermHead (x :: m) [STok.lab (unmunge (strip (x :: m)))] := reads_of_term fun c hc rest => by
  obtain ⟨R, hP, hflat, hl⟩ := lex_label (x :: m) fun y hy => (hm y hy).1
  have hsoft : ∀ r ∈ R, Soft r := fun r hr => soft_of_piece (hP r hr) fun y hy =>
    hm y (hflat ▸ List.mem_flatMap.2 ⟨r, hr, hy⟩)
  have h := (hl c rest hc).1
  rw [doubleQuotes_noop _ fun y hy => (hm y hy).2.1] at h
  rw [run, h]
  exact mRun_unquoted R hsoft x m hflat hsp c hc _

/-- names the writer / tokeniser / parser triple handles: exactly the decidable predicate `roundTrips`
of the model (ANY characters, not only printable ASCII) -/
def GoodName (n : List Char) : Prop := roundTrips n = true

instance : DecidablePred GoodName := fun n => by unfold GoodName; infer_instance

theorem printable_ne_nl {x : Char} (h : Printable x) : x ≠ '\n' := by
  rintro rfl; exact absurd h.1 (by decide)

theorem munge_ne_nil {n : List Char} (h : n ≠ []) : munge n ≠ [] := by
  cases n with
  | nil => exact absurd rfl h
  | cons x n => simp [munge]

theorem startsEndsQuote_false {n : List Char} (h : n.head? ≠ some '\'') : startsEndsQuote n = false := by
  cases n with
  | nil => rfl
  | cons c cs =>
    have : c ≠ '\'' := by simpa using h
    simp [startsEndsQuote, this]

def mungeCh (c : Char) : Char := if c = ' ' then '_' else c

theorem munge_eq_map : ∀ (n : List Char), munge n = n.map mungeCh
  | [] => rfl
  | x :: n => by simp [munge, mungeCh, munge_eq_map n]

theorem mungeCh_soft {x : Char} (h : hardSpace x = false) : pySpace (mungeCh x) = false := by
  unfold mungeCh
  by_cases hs : x = ' '
  · subst hs; decide
  · simp only [hs, if_false]
    simp only [hardSpace, Bool.and_eq_false_iff, bne_eq_false_iff_eq] at h
    exact h.resolve_right hs

/-- a character the writer leaves unquoted -/
theorem not_needsQuote {x : Char} (hq : needsQuote x = false) :
    x ≠ '\'' ∧ x ≠ '"' ∧ x ≠ '_' ∧ isPunct x = false := by
  simp only [needsQuote, Bool.or_eq_false_iff, decide_eq_false_iff_not] at hq
  obtain ⟨⟨⟨⟨⟨⟨⟨⟨⟨a1, a2⟩, a3⟩, a4⟩, a5⟩, a6⟩, a7⟩, a8⟩, a9⟩, a10⟩ := hq
  exact ⟨a3, a4, a10, by simp [isPunct, a1, a2, a5, a6, a7, a8, a9]⟩

theorem mungeCh_UCh {x : Char} (hq : needsQuote x = false) (hn : x ≠ '\n') : UCh (mungeCh x) := by
  obtain ⟨a3, a4, _, hp⟩ := not_needsQuote hq
  unfold mungeCh
  by_cases hs : x = ' '
  · subst hs; exact ⟨by decide, by decide, by decide, by decide⟩
  · rw [if_neg hs]
    exact ⟨hn, a3, a4, hp⟩

theorem unmunge_munge : ∀ (n : List Char), n.any needsQuote = false → unmunge (munge n) = n
  | [], _ => rfl
  | x :: n, hq => by
    simp only [List.any_cons, Bool.or_eq_false_iff] at hq
    have hu : x ≠ '_' := (not_needsQuote hq.1).2.2.1
    simp only [munge, unmunge, unmunge_munge n hq.2]
    by_cases hs : x = ' '
    · simp [hs]
    · simp [hs, hu]

/-- printable ASCII has no white space but the blank -/
theorem printable_hardSpace {x : Char} (h : Printable x) : hardSpace x = false := by
  by_cases hs : x = ' '
  · subst hs; decide
  · have h1 : x ≠ '\t' := by rintro rfl; exact absurd h.1 (by decide)
    have h2 := printable_ne_nl h
    have h3 : x ≠ '\r' := by rintro rfl; exact absurd h.1 (by decide)
    obtain ⟨h32, h126⟩ := h
    rw [hardSpace, Bool.and_eq_false_iff]
    left
    simp only [pySpace, Bool.or_eq_false_iff, Bool.and_eq_false_iff, decide_eq_false_iff_not, hs, h1, h2, h3,
      not_false_eq_true, true_and]
    omega

/-- the printable-ASCII case of `mungeCh_UCh` and `mungeCh_soft` -/
theorem munge_plain : ∀ (n : List Char), (∀ x ∈ n, Printable x) → n.any needsQuote = false →
    ∀ y ∈ munge n, PlainCh y ∧ pySpace y = false := fun n hp hq y hy => by
  rw [munge_eq_map] at hy
  obtain ⟨z, hz, rfl⟩ := List.mem_map.1 hy
  have hs := mungeCh_soft (printable_hardSpace (hp z hz))
  have hz' : needsQuote z = false := by simpa using List.any_eq_false.1 hq z hz
  have hb : isBlank (mungeCh z) = false := Bool.eq_false_iff.2 fun hb => by rw [isBlank_pySpace hb] at hs; cases hs
  exact ⟨⟨hb, mungeCh_UCh hz' (printable_ne_nl (hp z hz))⟩, hs⟩

theorem strip_eq_self (s : List Char) (hh : ∀ x, s.head? = some x → pySpace x = false)
    (hl : ∀ x, s.getLast? = some x → pySpace x = false) : strip s = s := strip_id hh hl

/-- `roundTrips` unpacked -/
theorem roundTrips_iff (n : List Char) : roundTrips n = true ↔
    n ≠ [] ∧ (∀ x ∈ n, x ≠ '\n') ∧ n.head? ≠ some '\'' ∧ notPunLab n = true ∧
      (n.any needsQuote = true ∨
        ((∀ x, n.head? = some x → hardSpace x = false) ∧ (∀ x, n.getLast? = some x → hardSpace x = false))) := by
  have hnl : n.contains '\n' = false ↔ ∀ x ∈ n, x ≠ '\n' := by
    rw [← Bool.not_eq_true, List.contains_iff_mem]
    exact ⟨fun h x hx e => h (e ▸ hx), fun h hm => h _ hm rfl⟩
  unfold roundTrips
  simp only [Bool.and_eq_true, Bool.not_eq_true', Bool.or_eq_true, List.isEmpty_eq_false_iff, bne_iff_ne, ne_eq,
    Option.any_eq_false, hnl, and_assoc]

/-- an opening quote is a piece of its own unless another quote follows -/
theorem lex_open (x : Char) (hx : x ≠ '\'') (tail : List Char) :
    lexRun {} ('\'' :: x :: tail) = Raw.sp '\'' :: lexRun {} (x :: tail) := by
  have e1 : lexStep {} '\'' = (⟨[], .sq⟩, []) := rfl
  rw [lexRun_cons, e1, lexRun_cons]
  simp only [lexStep, hx, if_false]
  rfl

/-- the escaped name before a terminator is read back as the name -/
theorem reads_label (n : List Char) (hn : GoodName n) : Reads run TermHead (escapeName n) [STok.lab n] := by
  obtain ⟨hne, hnl, hhead, _, hcase⟩ := (roundTrips_iff n).1 hn
  unfold escapeName
  rw [startsEndsQuote_false hhead]
  simp only [Bool.false_eq_true, if_false]
  by_cases hq : n.any needsQuote = true
  · -- quoted: the opening quote, then the body up to the closing quote
    simp only [hq, if_true]
    refine reads_of_term fun c hc rest => ?_
    obtain ⟨x, n', rfl⟩ := List.exists_cons_of_ne_nil hne
    have hx : x ≠ '\'' := by simpa using hhead
    obtain ⟨R, hR, hRs, hRl⟩ := lex_label (x :: n') hnl
    have h := (hRl c rest hc).2
    rw [doubleQuotes, if_neg hx] at h ⊢
    simp only [run, List.cons_append, List.append_assoc, List.nil_append] at h ⊢
    rw [lex_open x hx, h, mRun_quoted R hR c hc, hRs]
  · -- unquoted: blanks become underscores; nothing is stripped because neither end is white space
    have hq' : n.any needsQuote = false := by simpa using hq
    simp only [hq', Bool.false_eq_true, if_false]
    obtain ⟨hh, hl⟩ := hcase.resolve_left hq
    obtain ⟨x, n', rfl⟩ := List.exists_cons_of_ne_nil hne
    have hall : ∀ y ∈ munge (x :: n'), UCh y := by
      intro y hy
      rw [munge_eq_map] at hy
      obtain ⟨z, hz, rfl⟩ := List.mem_map.1 hy
      exact mungeCh_UCh (by simpa using List.any_eq_false.1 hq' z hz) (hnl z hz)
    have hm : munge (x :: n') = mungeCh x :: munge n' := rfl
    have hstrip : strip (munge (x :: n')) = munge (x :: n') := by
      apply strip_eq_self
      · intro y hy
        cases hy; exact mungeCh_soft (hh x rfl)
      · intro y hy
        rw [munge_eq_map, List.getLast?_map] at hy
        obtain ⟨z, hz, rfl⟩ := Option.map_eq_some_iff.1 hy
        exact mungeCh_soft (hl z hz)
    have := reads_unquoted (mungeCh x) (munge n') (mungeCh_soft (hh x rfl)) hall
    rwa [← hm, hstrip, unmunge_munge _ hq'] at this

end CogentModel.Phylo
