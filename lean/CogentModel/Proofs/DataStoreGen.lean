/-
  The translated `get_format_suffixes` (Gen/C13Fmt.lean) spells list indexing and the suffix list the Python way (`pyIdx`, `pyLastN`,
  `pathSuffixesDot`); these lemmas bring it to the spelling of the hand model `getFormatSuffixes`.
-/
import CogentModel.Gen.C13Fmt
namespace CogentModel.C13
open CogentModel CogentModel.KV
open CogentModel.DataStore (splitExt pathSuffixes pathSuffixDot pathSuffixesDot reSubLeadDot lower pyLastN pyIdx getFormatSuffixes
  compression)

theorem pyIdx_last {α} (xs : List α) : pyIdx xs (-1) = xs.getLast? := by
  unfold pyIdx
  cases h : xs.getLast? with
  | none => simp [List.getLast?_eq_none_iff] at h; subst h; simp
  | some a =>
    obtain ⟨l, rfl⟩ := List.getLast?_eq_some_iff.mp h
    simp

theorem pyIdx_zero {α} (xs : List α) : pyIdx xs 0 = xs.head? := by
  unfold pyIdx; cases xs <;> simp

theorem pathSuffixDot_isEmpty (n : Str) : (pathSuffixDot n).isEmpty = (splitExt n).isNone := by
  unfold pathSuffixDot; cases splitExt n <;> simp

/-- the two suffix lists agree: last two dotted suffixes, dot removed, lower-cased -/
theorem fmt_suffixes_eq (n : Str) :
    (pyLastN 2 (pathSuffixesDot n)).map (fun sfx => lower (reSubLeadDot ([] : Str) sfx))
      = ((pathSuffixes n).map (fun s => s.map Char.toLower)).drop (((pathSuffixes n).map (fun s => s.map Char.toLower)).length - 2) := by
  simp [pyLastN, pathSuffixesDot, lower, List.map_drop, reSubLeadDot, Function.comp_def]

/-- The translated function, case by case: no `.suffix` gives `(None, None)`; a `.suffix` but an empty `.suffixes` (`..a`) makes
    `suffixes[-1]` raise; otherwise it computes what the hand model computes. -/
theorem gen_get_format_suffixes_cases (n : Str) :
    Gen.C13Fmt.get_format_suffixes n =
      if (splitExt n).isNone then some (none, none)
      else if (pathSuffixes n).isEmpty then none else some (getFormatSuffixes n) := by
  unfold Gen.C13Fmt.get_format_suffixes getFormatSuffixes
  simp only [pathSuffixDot_isEmpty, pyIdx_last, pyIdx_zero, fmt_suffixes_eq, compression]
  by_cases h : (splitExt n).isNone
  · simp [h]
  · have hnil : (List.drop ((List.map (fun s => List.map Char.toLower s) (pathSuffixes n)).length - 2)
        (List.map (fun s => List.map Char.toLower s) (pathSuffixes n))).isEmpty = (pathSuffixes n).isEmpty := by
      cases pathSuffixes n with
      | nil => rfl
      | cons a t => simp; omega
    simp only [h, ← hnil]
    generalize List.drop _ (List.map (fun s => List.map Char.toLower s) (pathSuffixes n)) = l2
    cases hl : l2.getLast? with
    | none => simp at hl; simp [hl]
    | some last =>
      have hne : l2.isEmpty = false := by cases l2 <;> simp_all
      simp only [hne, Option.pure_def, Option.bind_eq_bind, Option.bind_some]
      by_cases hc : (last = ['b','z','2'] ∨ last = ['g','z'] ∨ last = ['z','i','p'])
      · by_cases h2 : l2.length = 2
        · cases hh : l2.head? with
          | none => simp at hh; subst hh; simp at h2
          | some v => simp [hc, h2]
        · have h2i : ¬ (l2.length : Int) = 2 := by omega
          simp [hc, h2, h2i]
      · simp [hc]

end CogentModel.C13
