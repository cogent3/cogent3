import CogentModel.Model.ControllerLf
import CogentModel.Proofs.CtlInv
/-! # C07 — likelihood-function level operations leave the block stack as they found it -/
namespace CogentModel.Ctl
variable {V : Type} [Inhabited V]

/-- an op list that gives back the block stack and the suspension flag it found -/
def Frame (g : Graph V) (ops : List (Op V)) : Prop :=
  ∀ s : St V, (run g s ops).stack = s.stack ∧ (run g s ops).suspended = s.suspended

theorem run_append (g : Graph V) (s : St V) (a b : List (Op V)) :
    run g s (a ++ b) = run g (run g s a) b := by
  induction a generalizing s with
  | nil => rfl
  | cons o a ih => simp only [List.cons_append, run]; exact ih _

theorem frame_nil (g : Graph V) : Frame g [] := fun _ => ⟨rfl, rfl⟩

theorem frame_append (g : Graph V) {a b : List (Op V)} (ha : Frame g a) (hb : Frame g b) :
    Frame g (a ++ b) := by
  intro s
  rw [run_append]
  obtain ⟨h1, h2⟩ := hb (run g s a)
  obtain ⟨h3, h4⟩ := ha s
  exact ⟨h1.trans h3, h2.trans h4⟩

theorem frame_assign (g : Graph V) (k : Nat) (v : V) : Frame g [Op.assign k v] := by
  intro s
  exact ⟨(updateIntermediate_fields g _).2.2, (updateIntermediate_fields g _).2.1⟩

theorem frame_flatMap (g : Graph V) {α : Type} (f : α → List (Op V)) :
    ∀ (l : List α), (∀ a, a ∈ l → Frame g (f a)) → Frame g (l.flatMap f) := by
  intro l
  induction l with
  | nil => intro _; exact frame_nil g
  | cons a l ih =>
    intro h
    rw [List.flatMap_cons]
    exact frame_append g (h a (by simp)) (ih (fun b hb => h b (by simp [hb])))

/-- a block around a framed body is framed, whether it is left normally or by an exception -/
theorem frame_block (g : Graph V) {body : List (Op V)} (hb : Frame g body) (closing : Op V)
    (hc : closing = Op.exit ∨ closing = Op.xexit) : Frame g ([Op.enter] ++ body ++ [closing]) := by
  intro s
  rw [run_append, run_append]
  have h1 : (run g (run g s [Op.enter]) body).stack = s.suspended :: s.stack := (hb _).1
  generalize run g (run g s [Op.enter]) body = t at h1
  have hstep : step g t closing = updateIntermediate g { t with suspended := s.suspended, stack := s.stack } := by
    rcases hc with rfl | rfl <;> simp only [step, h1]
  rw [show run g t [closing] = step g t closing from rfl, hstep]
  exact ⟨(updateIntermediate_fields g _).2.2, (updateIntermediate_fields g _).2.1⟩

theorem frame_simple (g : Graph V) (o : Simple V) : Frame g (compileSimple o) := by
  cases o with
  | setParam k v => exact frame_assign g k v
  | setMotifProbs ms =>
    show Frame g (ms.map _)
    induction ms with
    | nil => exact frame_nil g
    | cons p ms ih => exact frame_append g (a := [Op.assign p.1 p.2]) (frame_assign g _ _) ih
  | setAlignment loci =>
    apply frame_block g _ Op.exit (Or.inl rfl)
    apply frame_flatMap
    intro p _
    obtain ⟨a, aln, m⟩ := p
    cases m with
    | none => exact frame_assign g a aln
    | some q => exact frame_append g (a := [Op.assign a aln]) (frame_assign g _ _) (frame_assign g q.1 q.2)

theorem frame_lf (g : Graph V) (o : LfOp V) : Frame g (compileLf o) := by
  cases o with
  | simple s => exact frame_simple g s
  | postponed body =>
    exact frame_block g (frame_flatMap g _ body (fun a _ => frame_simple g a)) Op.exit (Or.inl rfl)
  | postponedRaises body =>
    exact frame_block g (frame_flatMap g _ body (fun a _ => frame_simple g a)) Op.xexit (Or.inr rfl)

end CogentModel.Ctl
