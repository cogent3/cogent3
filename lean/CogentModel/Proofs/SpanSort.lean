import CogentModel.Model.AnnotDb
import CogentModel.Proofs.InsertionSort
/-! `sortSpans`, the insertion sort of `add_feature` / `add_records`, is an instance of the generic insertion sort; its order is
also antisymmetric, so the sort is canonical: two sorted permutations of each other are equal (`sorted_perm_eq`).  Hence
sorting is idempotent over concatenation, and `_merge_spans` on duplicate-free input is a sort (`mergeSpans_eq`). -/
namespace CogentModel.AnnotDb

theorem insertSorted_nil (p : Int × Int) : insertSorted p [] = [p] := rfl

theorem insertSorted_cons (p q : Int × Int) (qs : List (Int × Int)) :
    insertSorted p (q :: qs) = if pairLe p q = true then p :: q :: qs else q :: insertSorted p qs := rfl

theorem insertSorted_perm (p : Int × Int) (l : List (Int × Int)) : (insertSorted p l).Perm (p :: l) :=
  InsertionSort.ins_perm insertSorted_nil insertSorted_cons p l

theorem sortSpans_eq_foldr (l : List (Int × Int)) : sortSpans l = l.foldr insertSorted [] := by
  induction l with
  | nil => rfl
  | cons p ps ih => rw [sortSpans, ih, List.foldr_cons]

theorem sortSpans_perm (l : List (Int × Int)) : (sortSpans l).Perm l :=
  sortSpans_eq_foldr l ▸ InsertionSort.sort_perm insertSorted_nil insertSorted_cons l

def PLe (p q : Int × Int) : Prop := p.1 < q.1 ∨ (p.1 = q.1 ∧ p.2 ≤ q.2)

theorem pairLe_iff (p q : Int × Int) : pairLe p q = true ↔ PLe p q := by
  unfold pairLe PLe; simp

theorem pairLe_total (p q : Int × Int) (h : ¬pairLe p q = true) : pairLe q p = true := by
  simp only [pairLe_iff, PLe] at *; omega
theorem pairLe_trans (p q r : Int × Int) (h1 : pairLe p q = true) (h2 : pairLe q r = true) : pairLe p r = true := by
  simp only [pairLe_iff, PLe] at *; omega
theorem PLe_antisymm {p q : Int × Int} (h1 : PLe p q) (h2 : PLe q p) : p = q := by
  unfold PLe at *
  obtain ⟨a, b⟩ := p; obtain ⟨c, d⟩ := q
  simp only [Prod.mk.injEq] at *; omega

def Sorted (l : List (Int × Int)) : Prop := l.Pairwise PLe

theorem sortSpans_sorted (l : List (Int × Int)) : Sorted (sortSpans l) :=
  sortSpans_eq_foldr l ▸
    (InsertionSort.sort_sorted insertSorted_nil insertSorted_cons pairLe_total pairLe_trans l).imp (pairLe_iff _ _).mp

/-- the order is antisymmetric, so a sorted list is determined by its elements -/
theorem sorted_perm_eq (l₁ l₂ : List (Int × Int)) (h1 : Sorted l₁) (h2 : Sorted l₂) (hp : l₁.Perm l₂) : l₁ = l₂ :=
  hp.eq_of_pairwise (fun _ _ _ _ => PLe_antisymm) h1 h2

theorem sortSpans_congr {l₁ l₂ : List (Int × Int)} (h : l₁.Perm l₂) : sortSpans l₁ = sortSpans l₂ :=
  sorted_perm_eq _ _ (sortSpans_sorted _) (sortSpans_sorted _)
    ((sortSpans_perm l₁).trans (h.trans (sortSpans_perm l₂).symm))

theorem dedupSorted_nodup : ∀ (l : List (Int × Int)), l.Nodup → dedupSorted l = l
  | [], _ => rfl
  | [p], _ => rfl
  | p :: q :: rest, h => by
    have h' := List.nodup_cons.mp h
    have hne : p ≠ q := by intro e; exact h'.1 (e ▸ List.mem_cons_self)
    unfold dedupSorted
    simp only [hne, if_false]
    rw [dedupSorted_nodup (q :: rest) h'.2]

theorem map_sortPair_id (l : List (Int × Int)) (h : ∀ p ∈ l, p.1 ≤ p.2) : l.map sortPair = l := by
  induction l with
  | nil => rfl
  | cons p ps ih =>
    simp only [List.map_cons]
    rw [ih (fun q hq => h q (List.mem_cons_of_mem _ hq))]
    have := h p List.mem_cons_self
    simp [sortPair, this]

/-- `_merge_spans` on disjoint, duplicate-free span lists is the sort of the concatenation -/
theorem mergeSpans_eq (xs new : List (Int × Int)) (hne : new ≠ []) (hnd : (xs ++ new).Nodup) :
    mergeSpans (sortSpans xs) new = sortSpans (xs ++ new) := by
  unfold mergeSpans
  have hneq : sortSpans xs ≠ new := by
    intro e
    obtain ⟨x, hx⟩ := List.exists_mem_of_ne_nil new hne
    have hx' : x ∈ xs := (sortSpans_perm xs).mem_iff.mp (e ▸ hx)
    exact (List.nodup_append.mp hnd).2.2 x hx' x hx rfl
  simp only [hneq, if_false]
  rw [sortSpans_congr ((sortSpans_perm xs).append (sortSpans_perm new))]
  exact dedupSorted_nodup _ ((sortSpans_perm _).nodup_iff.mpr hnd)
end CogentModel.AnnotDb
