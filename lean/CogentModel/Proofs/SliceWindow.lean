import CogentModel.Proofs.SliceList
/-! Python slicing of a plain list in the forms the sequence layers need: a step-1 slice is a `drop` followed by a
`take` (`slice_step1`), hence a window `xs[p:q]`, its length, the whole list; a strided slice read off a window;
`xs[::-k]` through the reversed list; slices of the empty list. -/
namespace CogentModel.PySlice
open CogentModel CogentModel.View

theorem map_range_getElem! {α} [Inhabited α] (xs : List α) (a n : Nat) (h : a + n ≤ xs.length) :
    (List.range n).map (fun i => xs[a + i]!) = (xs.drop a).take n := by
  apply List.ext_getElem
  · simp only [List.length_map, List.length_range, List.length_take, List.length_drop]; omega
  · intro i h1 h2
    simp only [List.length_map, List.length_range] at h1
    simp only [List.getElem_map, List.getElem_range, List.getElem_take, List.getElem_drop]
    rw [getElem!_def, List.getElem?_eq_getElem (by omega)]

/-- `xs[a:b]` is a `drop` followed by a `take`, at the bounds `slice.indices` gives -/
theorem slice_step1 {α} [Inhabited α] (xs : List α) (a b : Option Int) :
    slice xs a b 1 =
      (xs.drop (clampP (a.getD 0) xs.length).toNat).take
        (clampP (b.getD xs.length) xs.length - clampP (a.getD 0) xs.length).toNat := by
  obtain ⟨hs0, hs1⟩ := clampP_mem (a.getD 0) xs.length (by omega)
  obtain ⟨_, he1⟩ := clampP_mem (b.getD xs.length) xs.length (by omega)
  unfold slice sliceIdx
  rw [indices_pos' (xs.length : Int) (by omega) a b 1 (by omega)]
  generalize clampP (a.getD 0) xs.length = s at *
  generalize clampP (b.getD xs.length) xs.length = e at *
  simp only []
  unfold rangeList
  rw [rangeLen_one, List.map_map,
    ← map_range_getElem! xs s.toNat (e - s).toNat (by omega)]
  exact List.map_congr_left fun i _ => by
    simp only [Function.comp]; rw [show (s + (i : Int) * 1).toNat = s.toNat + i by omega]

theorem drop_take_min {α} (xs : List α) (S E : Nat) :
    (xs.drop (min S xs.length)).take (min E xs.length - min S xs.length) = (xs.drop S).take (E - S) := by
  by_cases hS : xs.length ≤ S
  · rw [Nat.min_eq_right hS, List.drop_length, List.drop_eq_nil_of_le hS, List.take_nil, List.take_nil]
  · rw [Nat.min_eq_left (show S ≤ xs.length by omega)]
    by_cases hE : xs.length ≤ E
    · rw [Nat.min_eq_right hE, List.take_of_length_le (Nat.le_of_eq List.length_drop),
        List.take_of_length_le (by rw [List.length_drop]; omega)]
    · rw [Nat.min_eq_left (show E ≤ xs.length by omega)]

theorem natCast_min (a b : Nat) : ((min a b : Nat) : Int) = min (a : Int) b := by
  rcases Nat.le_total a b with h | h
  · rw [Nat.min_eq_left h, Int.min_eq_left (Int.ofNat_le.mpr h)]
  · rw [Nat.min_eq_right h, Int.min_eq_right (Int.ofNat_le.mpr h)]

/-- bounds that are not negative: one beyond the end needs no clamping, a stop before the start gives nothing -/
theorem slice_natCast {α} [Inhabited α] (xs : List α) (S E : Nat) :
    slice xs (some (S : Int)) (some (E : Int)) 1 = (xs.drop S).take (E - S) := by
  rw [slice_step1, Option.getD_some, Option.getD_some, clampP, clampP,
    if_neg (Int.not_lt.mpr (Int.natCast_nonneg S)), if_neg (Int.not_lt.mpr (Int.natCast_nonneg E)),
    ← natCast_min, ← natCast_min, Int.toNat_natCast, Int.toNat_sub, drop_take_min]

theorem slice_nonneg {α} [Inhabited α] (xs : List α) (s e : Int) (hs : 0 ≤ s) (he : 0 ≤ e) :
    slice xs (some s) (some e) 1 = (xs.drop s.toNat).take (e.toNat - s.toNat) := by
  obtain ⟨S, rfl⟩ := Int.eq_ofNat_of_zero_le hs
  obtain ⟨E, rfl⟩ := Int.eq_ofNat_of_zero_le he
  exact slice_natCast xs S E

theorem slice_window {α} [Inhabited α] (xs : List α) (ps pe : Int) (h0 : 0 ≤ ps) (h1 : ps ≤ pe) :
    slice xs (some ps) (some pe) 1 = (xs.take pe.toNat).drop ps.toNat := by
  rw [slice_nonneg xs ps pe h0 (Int.le_trans h0 h1), List.drop_take]

theorem window_length {α} [Inhabited α] (xs : List α) (lo hi : Int) (h0 : 0 ≤ lo) (hle : lo ≤ hi) (hhi : hi ≤ xs.length) :
    ((slice xs (some lo) (some hi) 1).length : Int) = hi - lo := by
  obtain ⟨p, rfl⟩ := Int.eq_ofNat_of_zero_le h0
  obtain ⟨q, rfl⟩ := Int.eq_ofNat_of_zero_le (Int.le_trans h0 hle)
  rw [slice_natCast, List.length_take, List.length_drop]
  omega

/-- `xs[a:b:c]`, read off the window `xs[lo:hi]`, when its positions are those of `[::c]` shifted by `lo` -/
theorem slice_eq_stride_window {α} [Inhabited α] (xs : List α) (lo hi : Int) (h0 : 0 ≤ lo) (hle : lo ≤ hi)
    (hhi : hi ≤ xs.length) (a b : Option Int) (c : Int) (hc : c ≠ 0)
    (h : sliceIdx xs.length a b c = (sliceIdx (hi - lo).toNat none none c).map (· + lo)) :
    slice xs a b c = slice (slice xs (some lo) (some hi) 1) none none c := by
  rw [slice_window xs lo hi h0 hle]
  obtain ⟨p, rfl⟩ := Int.eq_ofNat_of_zero_le h0
  obtain ⟨q, rfl⟩ := Int.eq_ofNat_of_zero_le (Int.le_trans h0 hle)
  have hl : ((xs.take q).drop p).length = ((q : Int) - p).toNat := by
    rw [List.length_drop, List.length_take, Nat.min_eq_left (Int.ofNat_le.1 hhi), Int.toNat_sub]
  unfold slice
  rw [h, Int.toNat_natCast, Int.toNat_natCast, hl, List.map_map]
  apply List.map_congr_left
  intro j hj
  obtain ⟨j0, j1⟩ := sliceIdx_mem_range_nat _ none none c hc j hj
  obtain ⟨i, rfl⟩ := Int.eq_ofNat_of_zero_le j0
  rw [Function.comp, ← Int.natCast_add, Int.toNat_natCast, Int.toNat_natCast, getElem!_def, getElem!_def,
    List.getElem?_drop, List.getElem?_take_of_lt (by omega), Nat.add_comm]

theorem slice_all {α} [Inhabited α] (xs : List α) :
    slice xs (some 0) (some (xs.length : Int)) 1 = xs := by
  rw [← Int.natCast_zero, slice_natCast, List.drop_zero, Nat.sub_zero, List.take_length]

theorem slice_full {α} [Inhabited α] (xs : List α) : slice xs none none 1 = xs := by
  rw [slice_step1, Option.getD_none, Option.getD_none, clampP, clampP, if_neg (Int.lt_irrefl 0),
    if_neg (Int.not_lt.mpr (Int.natCast_nonneg _)), Int.min_self, Int.min_eq_left (Int.natCast_nonneg _),
    Int.sub_zero, Int.toNat_zero, Int.toNat_natCast, List.drop_zero, List.take_length]

/-- the positions of `[::-k]` are those of `[::k]` counted from the other end -/
theorem sliceIdx_neg_rev (n : Nat) (k : Int) (hk : 0 < k) :
    sliceIdx n none none (-k) = (sliceIdx n none none k).map fun j => (n : Int) - 1 - j := by
  unfold sliceIdx
  rw [indices_neg _ _ _ _ (by omega), indices_pos _ _ _ _ hk]
  simp only []
  rw [show ((n : Int) - 1) = -(0 + (1 - (n : Int))) by omega, show (-1 : Int) = -((n : Int) + (1 - n)) by omega,
    rangeList_neg, rangeList_shift, List.map_map]
  exact List.map_congr_left fun j _ => by simp only [Function.comp]; omega

theorem slice_neg_rev {α} [Inhabited α] (xs : List α) (k : Int) (hk : 0 < k) :
    slice xs none none (-k) = slice xs.reverse none none k := by
  unfold slice
  rw [List.length_reverse, sliceIdx_neg_rev _ k hk, List.map_map]
  apply List.map_congr_left
  intro j hj
  obtain ⟨j0, j1⟩ := sliceIdx_mem_range_nat _ none none k (by omega) j hj
  have e : ((xs.length : Int) - 1 - j).toNat = xs.length - 1 - j.toNat := by omega
  simp only [Function.comp]
  rw [getElem!_def, getElem!_def, e, List.getElem?_reverse (by omega)]

theorem slice_rev {α} [Inhabited α] (xs : List α) : slice xs none none (-1) = xs.reverse := by
  rw [slice_neg_rev xs 1 Int.one_pos, slice_full]

theorem slice_nil {α} [Inhabited α] (a b : Option Int) (c : Int) (hc : c ≠ 0) :
    slice ([] : List α) a b c = [] := by
  unfold slice
  have : sliceIdx ([] : List α).length a b c = [] := by
    apply List.eq_nil_iff_forall_not_mem.2
    intro j hj
    have := sliceIdx_mem_range_nat 0 a b c hc j hj
    omega
  rw [this]; rfl

end CogentModel.PySlice
