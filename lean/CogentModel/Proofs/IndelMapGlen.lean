import CogentModel.Proofs.IndelMapMerge
import CogentModel.Proofs.IndelMapAlignSpec
/-! The gap length a map holds at position `k` is the distance between the columns of residues `k - 1` and `k`: on the
arrays (`colFrom_pred`, `glen_eq`) and in any gapped string (`gapsBefore_zero`, `gapsBefore_succ`).  With `col_abs`
this reads the stored lengths off the string. -/
namespace CogentModel.IndelMap
open CogentModel.Gapped List CogentModel

/-- the leading gap run ends where residue 0 stands -/
theorem gapsBefore_zero (g : Gapped) : gapsBefore g 0 = alignIndex g 0 := by
  induction g with
  | nil => rfl
  | cons x r ih => cases x <;> simp only [gapsBefore, alignIndex, ih]

/-- the gap run before residue `k + 1` fills the columns between residue `k` and residue `k + 1` -/
theorem gapsBefore_succ (g : Gapped) : ∀ k, k < seqLen g →
    alignIndex g k + 1 + gapsBefore g (k + 1) = alignIndex g (k + 1) := by
  induction g with
  | nil => intro k hk; cases hk
  | cons x r ih =>
    intro k hk
    cases x with
    | none => have := ih k (by simpa [seqLen] using hk); simp only [gapsBefore, alignIndex]; omega
    | some a =>
      cases k with
      | zero => simp only [gapsBefore, alignIndex, gapsBefore_zero]; omega
      | succ j => have := ih j (by simpa [seqLen] using hk); simp only [gapsBefore, alignIndex]; omega

/-- the same on the arrays: the gap held at position `k` separates the columns of residues `k - 1` and `k` -/
theorem colFrom_pred (gp : List Int) : ∀ (cum : List Int) (pc k : Int), gp.length = cum.length →
    gp.Pairwise (· < ·) →
    colFrom pc gp cum (k - 1) + 1 + lenAt k gp (diffsFrom pc cum) = colFrom pc gp cum k := by
  induction gp with
  | nil => intro cum pc k _ _; simp only [colFrom, ssRight, getN_cons_zero, lenAt]; omega
  | cons p ps ih =>
    intro cum pc k hl hs
    cases cum with
    | nil => cases hl
    | cons c cs =>
      have hs' := pairwise_cons.mp hs
      simp only [colFrom_cons, diffsFrom, lenAt]
      rcases Int.lt_trichotomy k p with hk | rfl | hk
      · have hn : k ∉ ps := fun hm => by have := hs'.1 k hm; omega
        rw [if_pos (by omega), if_pos hk, if_neg (by omega), lenAt_not_mem k ps _ hn]; omega
      · have hn : k ∉ ps := fun hm => by have := hs'.1 k hm; omega
        rw [if_pos (by omega), if_neg (Int.lt_irrefl _), if_pos rfl, lenAt_not_mem k ps _ hn,
          colFrom_of_lt c ps cs k hs'.1]; omega
      · rw [if_neg (by omega), if_neg (by omega), if_neg (by omega), Int.zero_add]
        exact ih cs c k (by simpa using hl) hs'.2

theorem glen_eq (m : IMap) (h : WF m) (k : Int) : col m (k - 1) + 1 + glen m k = col m k :=
  colFrom_pred m.gapPos m.cumLens 0 k h.len_eq h.pos_sorted

end CogentModel.IndelMap
