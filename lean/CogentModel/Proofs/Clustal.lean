import CogentModel.Proofs.ClustalDecor
/-! The Clustal writer (`clustal_from_alignment`): what it writes is a decorated file with `'\n'` as its only line
boundary, so `ClustalParser` reads the records back. -/
namespace CogentModel.Clustal
open CogentModel.Splitlines CogentModel.SeqFormats CogentModel.SeqSpec CogentModel.ClustalSpec

theorem length_le_labelMax {recs : List Rec} {r : Rec} (h : r ∈ recs) : r.1.length ≤ labelMax recs := by
  have hm : r.1.length ∈ recs.map (fun r => r.1.length) := List.mem_map_of_mem h
  rw [labelMax, List.foldl_max_eq_max (List.ne_nil_of_mem hm)]
  exact Nat.le_trans (List.le_max_of_mem hm) (Nat.le_max_right _ _)

/-- a written line is `label <at least four blanks> residues` -/
theorem padTo_seqLineOf {recs : List Rec} {r : Rec} (h : r ∈ recs) (c : Str) :
    SeqLineOf r.1 c (padTo (labelMax recs + 4) r.1 ++ c) := by
  have hlen := length_le_labelMax h
  have := SeqLineOf.plain (n := r.1) (c := c) (List.replicate (labelMax recs + 4 - r.1.length) ' ') []
    (by rw [Ne, List.replicate_eq_nil_iff]; exact Nat.sub_ne_zero_of_lt (Nat.lt_of_le_of_lt hlen (Nat.lt_add_of_pos_right (by decide)))) (fun x hx => by rw [List.eq_of_mem_replicate hx]; decide)
    (fun x hx => absurd hx List.not_mem_nil)
  rwa [List.append_nil] at this

theorem decorated_map_append {α : Type} (f : α → Str × Str) (line : α → Str) {ps : List (Str × Str)} {ls : List Str}
    (h : Decorated ps ls) : ∀ xs : List α, (∀ x ∈ xs, SeqLineOf (f x).1 (f x).2 (line x)) →
    Decorated (xs.map f ++ ps) (xs.map line ++ ls)
  | [], _ => h
  | x :: xs, hx =>
    .seq _ _ (hx x List.mem_cons_self) (decorated_map_append f line h xs fun y hy => hx y (List.mem_cons_of_mem _ hy))

/-- the lines of one block as the parser meets them: the empty line that closes the block (or the header) before it,
then a line per record -/
def ledBlock (ms : Nat) (recs : List Rec) (c : Rec → Str) : List Str := [] :: recs.map (fun r => padTo ms r.1 ++ c r)

/-- the written blocks, each led by an empty line, are a decorated file -/
theorem decorated_blocks (recs : List Rec) : ∀ cs : List (Rec → Str),
    Decorated (cs.flatMap (fun c => recs.map (fun r => (r.1, c r)))) (cs.flatMap (ledBlock (labelMax recs + 4) recs))
  | [] => .nil
  | c :: cs => by
    rw [List.flatMap_cons, List.flatMap_cons, ledBlock, List.cons_append]
    exact .deco [] rfl (decorated_map_append _ _ (decorated_blocks recs cs) recs fun r hr => padTo_seqLineOf hr (c r))

theorem body_noBreak {recs : List Rec} (hl : ∀ r ∈ recs, clustalName r.1 = true) (cs : List (Rec → Str))
    (h : ∀ c ∈ cs, ∀ r ∈ recs, clustalSeq (c r) = true) :
    NoBreak (cs.flatMap (ledBlock (labelMax recs + 4) recs)) := by
  intro l hl' x hx
  obtain ⟨c, hc, hl'⟩ := List.mem_flatMap.mp hl'
  simp only [ledBlock, List.mem_cons, List.mem_map] at hl'
  rcases hl' with rfl | ⟨r, hr, rfl⟩
  · simp at hx
  · -- a written line: label, blanks, residues
    obtain ⟨_, hp, _⟩ := clustalName_facts (hl r hr)
    obtain ⟨_, hq, _⟩ := clustalSeq_facts (h c hc r hr)
    simp only [padTo, List.mem_append, List.mem_replicate] at hx
    rcases hx with (hx | ⟨_, rfl⟩) | hx
    · exact printable_not_break (hp x hx)
    · decide
    · exact printable_not_break (hq x hx)

/-- the newline that `"\n".join` puts in front of every block moves behind it: blocks closed by an empty line,
read after a newline, are blocks led by an empty line, followed by a newline -/
theorem unlines_rotate (ms : Nat) (recs : List Rec) : ∀ fs : List (Rec → Str),
    '\n' :: unlines (fs.flatMap (block ms recs)) = unlines (fs.flatMap (ledBlock ms recs)) ++ ['\n']
  | [] => rfl
  | c :: fs => by
    rw [List.flatMap_cons, List.flatMap_cons, unlines_append, unlines_append, List.append_assoc, ← unlines_rotate ms recs fs,
      block, unlines_append, ledBlock, unlines_cons, List.append_assoc]
    rfl

/-- the text written for any list of blocks, as terminated lines -/
theorem text_eq (ms : Nat) (recs : List Rec) (fs : List (Rec → Str)) :
    joinNl ("CLUSTAL\n".toList :: fs.flatMap (block ms recs)) = unlines ("CLUSTAL".toList :: fs.flatMap (ledBlock ms recs)) := by
  apply List.append_cancel_right (bs := ['\n'])
  rw [joinNl_unlines _ (List.cons_ne_nil _ _), unlines_cons, unlines_cons, List.append_assoc, List.cons_append, ← unlines_rotate]
  repeat rw [String.toList_ofList]
  rfl

theorem header_facts : (∀ x ∈ "CLUSTAL".toList, isBreak x = false) ∧ isSeqLine "CLUSTAL".toList = false := by
  rw [String.toList_ofList]
  decide +kernel

/-- the parser on the text of any non-empty list of blocks of well-formed chunks: the text is `CLUSTAL` and the
blocks, each led by an empty line; all decorations but the blocks' sequence lines -/
theorem parse_blocks {recs : List Rec} (hn : (recs.map Prod.fst).Nodup) (hl : ∀ r ∈ recs, clustalName r.1 = true)
    (fs : List (Rec → Str)) (hfs : fs ≠ []) (h : ∀ d ∈ fs, ∀ r ∈ recs, clustalSeq (d r) = true) :
    let text := joinNl ("CLUSTAL\n".toList :: fs.flatMap (block (labelMax recs + 4) recs))
    NlOnly text ∧
    clustalParse text = .ok (recs.map (fun r => (r.1, (fs.map (fun d => d r)).flatten))) := by
  intro text
  obtain ⟨c, cs, rfl⟩ := List.exists_cons_of_ne_nil hfs
  have ht : text = _ := text_eq (labelMax recs + 4) recs (c :: cs)
  have hnb := noBreak_cons header_facts.1 (body_noBreak hl (c :: cs) h)
  refine ⟨ht ▸ unlines_nlOnly hnb, ?_⟩
  rw [clustalParse, ht, pySplitlines_unlines hnb]
  exact clustalParser_decorated true hn hl c cs h (.deco _ header_facts.2 (decorated_blocks recs (c :: cs)))

/-- the slices `y[curr_ix:curr_ix + wrap]` of the `while` loop -/
def chunkFns (w L : Nat) : Nat → Nat → List (Rec → Str)
  | 0, _ => []
  | fuel + 1, i => if i < L ∧ 0 < w then (fun r => (r.2.drop i).take w) :: chunkFns w L fuel (i + w) else []

/-- the pieces written per block: the whole sequence, or its slices of width `w` -/
def wrapFns (wrap : Option Nat) (L : Nat) : List (Rec → Str) :=
  match wrap with
  | none => [fun r => r.2]
  | some w => chunkFns w L (L + 1) 0

theorem blocks_eq (ms w L : Nat) (recs : List Rec) (fuel i : Nat) :
    blocks ms w L recs fuel i = (chunkFns w L fuel i).flatMap (block ms recs) := by
  fun_induction chunkFns w L fuel i with
  | case1 => rfl
  | case2 fuel i h ih => rw [blocks, if_pos h, List.flatMap_cons, ih]
  | case3 fuel i h => rw [blocks, if_neg h, List.flatMap_nil]

theorem clustalFormat_eq (wrap : Option Nat) {recs : List Rec} (hne : recs ≠ []) {L : Nat}
    (hL : ∀ r ∈ recs, r.2.length = L) :
    clustalFormat wrap recs
      = .ok (joinNl ("CLUSTAL\n".toList :: (wrapFns wrap L).flatMap (block (labelMax recs + 4) recs))) := by
  cases recs with
  | nil => exact absurd rfl hne
  | cons r0 rest =>
    have h0 := hL r0 List.mem_cons_self
    subst h0
    have hany : (r0 :: rest).any (fun r => r.2.length != r0.2.length) = false :=
      List.any_eq_false.mpr fun r hr => by simp [hL r hr]
    rw [clustalFormat, if_neg (Bool.eq_false_iff.mp hany)]
    cases wrap with
    | none => rw [wrapFns, List.flatMap_cons, List.flatMap_nil, List.append_nil]
    | some w => rw [wrapFns, ← blocks_eq]

/-- the slices of the `while` loop, taken of one record, are those of `wrap_string_to_block_size` -/
theorem chunkFns_map {w L : Nat} (hw : 0 < w) (r : Rec) (hL : r.2.length = L) : ∀ (fuel i : Nat),
    (chunkFns w L fuel i).map (fun d => d r) = chunkGo w fuel (r.2.drop i)
  | 0, _ => rfl
  | fuel + 1, i => by
    rw [chunkFns]
    by_cases h : i < L
    · rw [if_pos ⟨h, hw⟩, chunkGo_cons hw _ fun e => Nat.not_le_of_lt h (hL ▸ List.drop_eq_nil_iff.mp e),
        List.map_cons, chunkFns_map hw r hL fuel (i + w), List.drop_drop]
    · rw [if_neg fun h' => h h'.1, List.drop_eq_nil_of_le (hL ▸ Nat.le_of_not_lt h), chunkGo_nil]
      rfl

/-- the pieces written of one record: the sequence itself, or `chunkWrap` of it -/
theorem wrapFns_map (wrap : Option Nat) (hw : ∀ w, wrap = some w → 0 < w) {L : Nat} (r : Rec) (hL : r.2.length = L) :
    (wrapFns wrap L).map (fun d => d r) = match wrap with | none => [r.2] | some w => chunkWrap w r.2 := by
  cases wrap with
  | none => rfl
  | some w =>
    rw [wrapFns, chunkFns_map (hw w rfl) r hL, List.drop_zero]
    exact chunkGo_eq_wrap (hw w rfl) _ _ (hL ▸ Nat.le_succ L)

theorem clustalSeq_mono {s t : Str} (hs : clustalSeq s = true) (hne : t ≠ []) (hsub : ∀ c ∈ t, c ∈ s) :
    clustalSeq t = true := by
  simp only [clustalSeq, Bool.and_eq_true, Bool.not_eq_true', List.all_eq_true, List.isEmpty_eq_false_iff] at hs ⊢
  exact ⟨hne, fun c hc => hs.2 c (hsub c hc)⟩

theorem wrapFns_ne_nil (wrap : Option Nat) (hw : ∀ w, wrap = some w → 0 < w) {L : Nat} (hL : 0 < L) :
    wrapFns wrap L ≠ [] := by
  cases wrap with
  | none => exact List.cons_ne_nil _ _
  | some w =>
    rw [wrapFns, chunkFns, if_pos ⟨hL, hw w rfl⟩]
    exact List.cons_ne_nil _ _

theorem wrapFns_good (wrap : Option Nat) (hw : ∀ w, wrap = some w → 0 < w) {L : Nat} {recs : List Rec}
    (hs : ∀ r ∈ recs, clustalSeq r.2 = true ∧ r.2.length = L) :
    ∀ d ∈ wrapFns wrap L, ∀ r ∈ recs, clustalSeq (d r) = true := by
  intro d hd r hr
  have hm : d r ∈ (wrapFns wrap L).map (fun d => d r) := List.mem_map_of_mem hd
  rw [wrapFns_map wrap hw r (hs r hr).2] at hm
  cases wrap with
  | none =>
    rw [List.mem_singleton.mp hm]
    exact (hs r hr).1
  | some w =>
    obtain ⟨hne, hsub⟩ := (chunkWrap_spec (hw w rfl) r.2).2 _ hm
    exact clustalSeq_mono (hs r hr).1 hne hsub

theorem wrapFns_flatten (wrap : Option Nat) (hw : ∀ w, wrap = some w → 0 < w) {L : Nat} (r : Rec) (hL : r.2.length = L) :
    ((wrapFns wrap L).map (fun d => d r)).flatten = r.2 := by
  rw [wrapFns_map wrap hw r hL]
  cases wrap with
  | none => exact List.append_nil _
  | some w => exact chunkWrap_flatten (hw w rfl) _

end CogentModel.Clustal
