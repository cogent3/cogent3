import CogentModel.Proofs.ExpmBridge
import Mathlib.LinearAlgebra.Matrix.NonsingularInverse
/-! C05: the eigen back-ends as `V·diag(f(tλ))·V⁻¹` for an exact decomposition and an abstract exponential `f`. -/

namespace CogentModel.Expm
open CogentModel.RateMatrix Finset Matrix

variable {K : Type*} [Field K] {n : Nat}

theorem conj_diagonal_transpose (V W : Matrix (Fin n) (Fin n) K) (d : Fin n → K) :
    (V * diagonal d * W)ᵀ = Wᵀ * diagonal d * Vᵀ := by
  rw [Matrix.transpose_mul, Matrix.transpose_mul, Matrix.diagonal_transpose, Matrix.mul_assoc]

/-! matrices `V·diag(d)·W` with `W·V = 1` multiply like their diagonals -/
section conj
variable {V W : Matrix (Fin n) (Fin n) K} (hWV : W * V = 1)
include hWV

theorem conj_diagonal_mul (d e : Fin n → K) :
    V * diagonal d * W * (V * diagonal e * W) = V * diagonal (fun k => d k * e k) * W := by
  rw [Matrix.mul_assoc (V * diagonal d) W, ← Matrix.mul_assoc W, ← Matrix.mul_assoc W V, hWV, Matrix.one_mul,
    ← Matrix.mul_assoc, Matrix.mul_assoc V, Matrix.diagonal_mul_diagonal]

/-- left null vectors of `V·diag(d)·W` are fixed by `V·diag(e)·W` if `x·d_k = 0` implies `x·e_k = x`: the rows of `S·V`
vanish where `d` does not -/
theorem conj_diagonal_left_fixed {d e : Fin n → K} (hde : ∀ k x, x * d k = 0 → x * e k = x)
    {S : Matrix (Fin n) (Fin n) K} (hS : S * (V * diagonal d * W) = 0) : S * (V * diagonal e * W) = S := by
  have h1 : S * V * diagonal d = 0 := by
    rw [← Matrix.mul_one (S * V * diagonal d), ← hWV, ← Matrix.mul_assoc, Matrix.mul_assoc S V, Matrix.mul_assoc S, hS,
      Matrix.zero_mul]
  have h2 : S * V * diagonal e = S * V := by
    ext i k
    have := congrFun (congrFun h1 i) k
    rw [Matrix.mul_diagonal] at this ⊢
    exact hde k _ this
  rw [← Matrix.mul_assoc, ← Matrix.mul_assoc, h2, Matrix.mul_assoc, mul_eq_one_comm.mp hWV, Matrix.mul_one]

/-- the same for right null vectors, by transposition -/
theorem conj_diagonal_right_fixed {d e : Fin n → K} (hde : ∀ k x, x * d k = 0 → x * e k = x)
    {S : Matrix (Fin n) (Fin n) K} (hS : V * diagonal d * W * S = 0) : V * diagonal e * W * S = S := by
  have hS' : Sᵀ * (Wᵀ * diagonal d * Vᵀ) = 0 := by
    rw [← conj_diagonal_transpose, ← Matrix.transpose_mul, hS, Matrix.transpose_zero]
  have := conj_diagonal_left_fixed (V := Wᵀ) (W := Vᵀ)
    (by rw [← Matrix.transpose_mul, hWV, Matrix.transpose_one]) hde hS'
  rw [← conj_diagonal_transpose, ← Matrix.transpose_mul] at this
  exact Matrix.transpose_injective this
end conj

theorem toM_eigenCall (evT evI : Mat K) (e : Vec K) :
    toM n (eigenCall n evT evI e) = toM n evT * Matrix.diagonal (fun k : Fin n => vget e k.val) * (toM n evI)ᵀ := by
  ext i j
  unfold eigenCall
  rw [toM_apply, mget_tab _ i.isLt j.isLt, sumTo_eq_sum, Matrix.mul_apply,
    ← Fin.sum_univ_eq_sum_range (fun k => mget evT i k * vget e k * mget evI j k) n]
  exact Finset.sum_congr rfl fun k _ => by rw [Matrix.mul_diagonal, Matrix.transpose_apply, toM_apply, toM_apply]

/-- an exact eigendecomposition in the shape the code stores it: `W = evIᵀ` is a left inverse of `V = evT`,
and `Q = V·diag(λ)·W` -/
structure IsEigenDecomp (n : Nat) (Q evT evI : Mat K) (roots : Vec K) : Prop where
  inv : (toM n evI)ᵀ * toM n evT = 1
  dec : toM n Q = toM n evT * Matrix.diagonal (fun k : Fin n => vget roots k.val) * (toM n evI)ᵀ

variable {Q evT evI : Mat K} {roots : Vec K}

/-- the value of the eigen back-end at `t` for an abstract scalar "exponential" `f` -/
def eigenP (n : Nat) (evT evI : Mat K) (roots : Vec K) (f : K → K) (t : K) : Mat K :=
  eigenCall n evT evI (vtab n fun k => f (t * vget roots k))

theorem toM_eigenP (evT evI : Mat K) (roots : Vec K) (f : K → K) (t : K) :
    toM n (eigenP n evT evI roots f t) =
      toM n evT * Matrix.diagonal (fun k : Fin n => f (t * vget roots k.val)) * (toM n evI)ᵀ := by
  unfold eigenP
  rw [toM_eigenCall]
  congr 3
  funext k
  rw [vget_vtab _ k.isLt]

theorem eigenP_zero (h : IsEigenDecomp n Q evT evI roots) (f : K → K) (hf0 : f 0 = 1) :
    toM n (eigenP n evT evI roots f 0) = 1 := by
  rw [toM_eigenP]
  simp only [zero_mul, hf0]
  rw [Matrix.diagonal_one, Matrix.mul_one, mul_eq_one_comm.mp h.inv]

theorem eigenP_add (h : IsEigenDecomp n Q evT evI roots) (f : K → K) (hf : ∀ x y, f (x + y) = f x * f y) (s t : K) :
    toM n (eigenP n evT evI roots f (s + t)) = toM n (eigenP n evT evI roots f s) * toM n (eigenP n evT evI roots f t) := by
  rw [toM_eigenP, toM_eigenP, toM_eigenP, conj_diagonal_mul h.inv]
  simp only [add_mul, hf]

theorem eigenReQ_eq (h : IsEigenDecomp n Q evT evI roots) : toM n (eigenReQ n evT evI roots) = toM n Q := by
  unfold eigenReQ; rw [toM_eigenCall, h.dec]

/-- any function of the eigenvalues commutes with `Q` -/
theorem eigenP_commute (h : IsEigenDecomp n Q evT evI roots) (f : K → K) (t : K) :
    Commute (toM n Q) (toM n (eigenP n evT evI roots f t)) := by
  rw [toM_eigenP, h.dec, Commute, SemiconjBy, conj_diagonal_mul h.inv, conj_diagonal_mul h.inv]
  simp only [mul_comm]

theorem mul_f_of_mul_root {f : K → K} (hf0 : f 0 = 1) (t l x : K) (h : x * l = 0) : x * f (t * l) = x := by
  rcases mul_eq_zero.mp h with h0 | h0
  · rw [h0, zero_mul]
  · rw [h0, mul_zero, hf0, mul_one]

/-- left null vectors: `π·Q = 0 ⇒ π·P = π` when `f 0 = 1` -/
theorem eigenP_left_fixed (h : IsEigenDecomp n Q evT evI roots) (f : K → K) (hf0 : f 0 = 1) (t : K)
    (S : Matrix (Fin n) (Fin n) K) (hS : S * toM n Q = 0) : S * toM n (eigenP n evT evI roots f t) = S := by
  rw [h.dec] at hS
  rw [toM_eigenP]
  exact conj_diagonal_left_fixed h.inv (fun k x => mul_f_of_mul_root hf0 t _ x) hS

/-- right null vectors: `Q·v = 0 ⇒ P·v = v` (with `v = 1`: unit row sums) -/
theorem eigenP_right_fixed (h : IsEigenDecomp n Q evT evI roots) (f : K → K) (hf0 : f 0 = 1) (t : K)
    (S : Matrix (Fin n) (Fin n) K) (hS : toM n Q * S = 0) : toM n (eigenP n evT evI roots f t) * S = S := by
  rw [h.dec] at hS
  rw [toM_eigenP]
  exact conj_diagonal_right_fixed h.inv (fun k x => mul_f_of_mul_root hf0 t _ x) hS

/-- the decomposition hypotheses stated on the model's own entries: `evIᵀ·evT = I` and the reconstruction
`reQ` of `CheckedExponentiator` equals `Q` exactly -/
theorem isEigenDecomp_of (Q evT evI : Mat K) (roots : Vec K)
    (hinv : ∀ i j, i < n → j < n → sumTo n (fun k => mget evI k i * mget evT k j) = if i = j then 1 else 0)
    (hdec : ∀ i j, i < n → j < n → mget (eigenReQ n evT evI roots) i j = mget Q i j) :
    IsEigenDecomp n Q evT evI roots := by
  constructor
  · ext i j
    rw [Matrix.mul_apply, Matrix.one_apply, if_congr (Fin.ext_iff (a := i) (b := j)) rfl rfl, ← hinv i.val j.val i.isLt j.isLt, sumTo_eq_sum,
      ← Fin.sum_univ_eq_sum_range (fun k => mget evI k i * mget evT k j) n]
    exact Finset.sum_congr rfl fun k _ => by rw [Matrix.transpose_apply, toM_apply, toM_apply]
  · rw [← (entryEq_iff n _ _).mp hdec, eigenReQ, toM_eigenCall]

end CogentModel.Expm
