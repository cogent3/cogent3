import CogentModel.Proofs.IndelMapTrips
/-! `from_aligned_segments` undoes `nongap()`.  The function is its sentinel handling (`fasAugment`) followed by its array part
(`fasArrays`); `nongap()` lists the segments around the gaps, the first and the last only when non-empty (`nongap_cons`); the
sentinels put those two back (`fas_nongap`), and from the complete list the array part rebuilds the map (`fasArrays_mids`). -/
namespace CogentModel.IndelMap
open CogentModel.Gapped List CogentModel

/-- the sentinel handling of `from_aligned_segments`: a `(0, 0)` segment in front unless the first one starts at 0 -/
def fasStep1 (locs : List (Int × Int)) : List (Int × Int) :=
  match locs with
  | [] => [(0, 0)]
  | first :: _ => if first.1 ≠ 0 then (0, 0) :: locs else locs

/-- … and an `(L, L)` segment behind unless the last one ends at `L` -/
def fasStep2 (locs : List (Int × Int)) (L : Int) : List (Int × Int) :=
  if (match locs.getLast? with | some l => l.2 | none => 0) < L then locs ++ [(L, L)] else locs

def fasAugment (locs : List (Int × Int)) (L : Int) : List (Int × Int) := fasStep2 (fasStep1 locs) L

/-- the array part of `from_aligned_segments` -/
def fasArrays (A : List (Int × Int)) (L : Int) : Except Err IMap :=
  let flat := (A.flatMap fun l => [l.1, l.2]).drop 1 |>.dropLast
  let gc := gapPairs flat
  let cum := cumsum (gc.map fun g => g.2 - g.1)
  if cum = [] then .error .indexError else
  mk (shiftPos 0 (gc.map (·.1)) cum) cum (L - lastD cum)

theorem fas_eq (locs : List (Int × Int)) (L : Int) :
    fromAlignedSegments locs L =
      if (locs = [] ∧ L = 0) ∨ (match locs with | [first] => decide (first.1 = 0 ∧ first.2 = L) | _ => false) = true
      then .ok (emptyMap L) else fasArrays (fasAugment locs L) L := rfl

/-- gaps between consecutive segments, starting after a segment that ended at `b0` -/
def gapsBetween (b0 : Int) : List (Int × Int) → List (Int × Int)
  | (c, d) :: r => (b0, c) :: gapsBetween d r
  | [] => []

theorem gapPairs_flat (S : List (Int × Int)) : ∀ (b0 : Int),
    gapPairs ((b0 :: S.flatMap fun l => [l.1, l.2]).dropLast) = gapsBetween b0 S := by
  induction S with
  | nil => intro b0; rfl
  | cons x r ih =>
    intro b0
    obtain ⟨c, d⟩ := x
    simp only [flatMap_cons, cons_append, nil_append]
    rw [dropLast_cons_cons, dropLast_cons_cons]
    simp only [gapPairs, gapsBetween]
    rw [← ih d]

/-- segments between consecutive gaps, after a gap that ended at column `e` -/
def midsFrom (e : Int) : List Trip → List (Int × Int)
  | (_, s, e') :: r => (e, s) :: midsFrom e' r
  | [] => []

def lastE (e : Int) : List Trip → Int
  | (_, _, e') :: r => lastE e' r
  | [] => e

/-- the gaps between the segments `(·, s), mids …, (last gap end, L)` are the gaps themselves -/
theorem gapsBetween_mids (r : List Trip) : ∀ (s e L : Int),
    gapsBetween s (midsFrom e r ++ [(lastE e r, L)]) = (s, e) :: r.map (fun t => (t.2.1, t.2.2)) := by
  induction r with
  | nil => intro s e L; rfl
  | cons t r ih =>
    intro s e L
    obtain ⟨p, s', e'⟩ := t
    simp only [midsFrom, lastE, cons_append, gapsBetween, ih, map_cons]

theorem shiftPos_rel (T : List Trip) : ∀ (col next pc : Int), TRel col next T → col = next + pc →
    shiftPos pc (T.map (·.2.1)) (cumsumFrom pc (T.map tlen)) = T.map (·.1) := by
  induction T with
  | nil => intro _ _ _ _ _; rfl
  | cons t r ih =>
    intro col next pc hr hc
    obtain ⟨p, s, e⟩ := t
    obtain ⟨r1, r2⟩ := hr
    simp only [map_cons, cumsumFrom, shiftPos, tlen]
    rw [ih e p (pc + (e - s)) r2 (by omega)]
    congr 1; omega

/-- from the sentinel-complete segment list of a well-formed map with gaps (leading segment `(0, p)`, the segments
between the gaps, trailing segment up to the aligned length) the array part rebuilds the map -/
theorem fasArrays_mids (m : IMap) (h : WF m) (p c : Int) (ps cs : List Int) (hg : m.gapPos = p :: ps)
    (hc : m.cumLens = c :: cs) :
    fasArrays ((0, p) :: (midsFrom (p + c) (trips c ps cs) ++ [(lastE (p + c) (trips c ps cs), len m)])) (len m) =
      .ok m := by
  have hne : m.gapPos ≠ [] := by rw [hg]; exact cons_ne_nil _ _
  have hTr : TRel 0 0 (trips 0 m.gapPos m.cumLens) := by
    have := trips_rel m.gapPos m.cumLens 0 0; simpa using this
  have hl := h.len_eq
  unfold fasArrays
  have hgc : gapPairs ((((0, p) :: (midsFrom (p + c) (trips c ps cs) ++ [(lastE (p + c) (trips c ps cs), len m)])).flatMap
      fun l => [l.1, l.2]).drop 1 |>.dropLast) = (trips 0 m.gapPos m.cumLens).map (fun t => (t.2.1, t.2.2)) := by
    simp only [flatMap_cons, cons_append, nil_append, drop_succ_cons, drop_zero]
    rw [gapPairs_flat, gapsBetween_mids, hg, hc]
    simp only [trips, map_cons, Int.add_zero]
  simp only [hgc, map_map]
  have e1 : (map ((fun g : Int × Int => g.2 - g.1) ∘ fun t : Trip => (t.2.1, t.2.2)) (trips 0 m.gapPos m.cumLens))
      = (trips 0 m.gapPos m.cumLens).map tlen := rfl
  have e2 : (map ((fun x : Int × Int => x.1) ∘ fun t : Trip => (t.2.1, t.2.2)) (trips 0 m.gapPos m.cumLens))
      = (trips 0 m.gapPos m.cumLens).map (·.2.1) := rfl
  rw [e1, e2]
  have hlen := trips_map_len m.gapPos m.cumLens 0 hl
  have hcum : cumsum ((trips 0 m.gapPos m.cumLens).map tlen) = m.cumLens := by
    rw [hlen]; exact cumsumFrom_diffsFrom m.cumLens 0
  have hpos : shiftPos 0 ((trips 0 m.gapPos m.cumLens).map (·.2.1)) (cumsum ((trips 0 m.gapPos m.cumLens).map tlen)) = m.gapPos := by
    unfold cumsum
    rw [shiftPos_rel _ 0 0 0 hTr (by omega), trips_map_pos _ _ _ hl]
  rw [hpos, hcum]
  have hcne : m.cumLens ≠ [] := by rw [hc]; exact cons_ne_nil _ _
  rw [if_neg hcne]
  have hpl : len m - lastD m.cumLens = m.parentLength := by
    unfold len; rw [if_neg hne]; omega
  rw [hpl]
  exact wf_mk_ok m h

theorem nongapFrom_mids (ps : List Int) : ∀ (cs : List Int) (p c : Int), (∀ q ∈ ps, q ≠ 0) →
    nongapFrom false p c ps cs = midsFrom (p + c) (trips c ps cs) := by
  intro cs p c
  fun_induction trips c ps cs generalizing p with
  | case1 c q qs d ds ih =>
    intro h
    simp only [nongapFrom, (forall_mem_cons.mp h).1, if_false, Bool.false_eq_true, midsFrom, singleton_append,
      ih q (forall_mem_cons.mp h).2]
  | case2 _ _ _ hne => exact fun _ => nongapFrom.eq_2 _ _ _ _ _ hne

theorem lastE_trips (ps : List Int) : ∀ (cs : List Int) (p c : Int), ps.length = cs.length →
    lastE (p + c) (trips c ps cs) = lastD (p :: ps) + lastD (c :: cs) := by
  intro cs p c
  fun_induction trips c ps cs generalizing p with
  | case1 c q qs d ds ih =>
    intro hl
    simp only [lastE, lastD_cons_cons]
    exact ih q (by simpa using hl)
  | case2 _ _ _ hne =>
    intro hl
    obtain ⟨rfl, rfl⟩ := nil_of_not_cons hne hl
    rfl

/-- the segments `nongap()` yields for a map with gaps: the leading and the trailing one only when non-empty -/
theorem nongap_cons (p c pl : Int) (ps cs : List Int) (hl : ps.length = cs.length) (h0 : 0 ≤ p) (hps : ∀ q ∈ ps, q ≠ 0) :
    nongap ⟨p :: ps, c :: cs, pl⟩ =
      (if 0 < p then [(0, p)] else []) ++ midsFrom (p + c) (trips c ps cs) ++
      (if lastE (p + c) (trips c ps cs) < len ⟨p :: ps, c :: cs, pl⟩ then
        [(lastE (p + c) (trips c ps cs), len ⟨p :: ps, c :: cs, pl⟩)] else []) := by
  unfold nongap
  rw [if_neg (cons_ne_nil _ _), lastE_trips ps cs p c hl]
  simp only [ne_eq, reduceCtorEq, not_false_eq_true, true_and, nongapFrom, if_true, Int.add_zero]
  rw [nongapFrom_mids ps cs p c hps]
  by_cases hp0 : p = 0
  · subst hp0; simp
  · have : 0 < p := by omega
    simp [hp0, this]

theorem mids_facts (r : List Trip) : ∀ (e : Int), TSorted (e + 1) r →
    (∀ x ∈ midsFrom e r, e ≤ x.1 ∧ x.1 < x.2) ∧
    (∀ x, (midsFrom e r).getLast? = some x → x.2 < lastE e r) ∧ e ≤ lastE e r := by
  induction r with
  | nil => intro e _; simp [midsFrom, lastE]
  | cons t r' ih =>
    intro e hs
    obtain ⟨p, s, e'⟩ := t
    obtain ⟨h1, h2, h3⟩ := hs
    obtain ⟨i1, i2, i3⟩ := ih e' h3
    refine ⟨forall_mem_cons.mpr ⟨⟨Int.le_refl e, by omega⟩, fun x hx => by have := i1 x hx; omega⟩, fun x hx => ?_,
      Int.le_trans (by omega) i3⟩
    simp only [midsFrom, lastE] at hx ⊢
    cases hm : midsFrom e' r' with
    | nil => rw [hm] at hx; simp only [getLast?_singleton, Option.some.injEq] at hx; subst hx; simp only; omega
    | cons y ys =>
      rw [hm, getLast?_cons_cons] at hx
      exact i2 x (hm ▸ hx)

theorem eq_of_mem_ite_singleton {α} {c : Prop} [Decidable c] {a x : α} (h : x ∈ if c then [a] else []) : x = a := by
  split at h
  · exact mem_singleton.mp h
  · cases h

theorem fasStep1_pos (l : List (Int × Int)) (h : ∀ x ∈ l, 0 < x.1) : fasStep1 l = (0, 0) :: l := by
  cases l with
  | nil => rfl
  | cons x xs => simp only [fasStep1]; rw [if_pos (Int.ne_of_gt (h x mem_cons_self))]

theorem fasStep2_snoc (l : List (Int × Int)) (e L : Int) : fasStep2 (l ++ [(e, L)]) L = l ++ [(e, L)] := by
  simp [fasStep2]

theorem fasStep2_lt (l : List (Int × Int)) (x : Int × Int) (L : Int) (h : l.getLast? = some x) (hx : x.2 < L) :
    fasStep2 l L = l ++ [(L, L)] := by
  simp [fasStep2, h, hx]

/-- no early return when no segment spans the whole row -/
theorem fas_eq_arrays (locs : List (Int × Int)) (L : Int) (hL : L ≠ 0) (h : ∀ x ∈ locs, x.1 ≠ 0 ∨ x.2 ≠ L) :
    fromAlignedSegments locs L = fasArrays (fasAugment locs L) L := by
  rw [fas_eq, if_neg]
  rintro (⟨_, h0⟩ | hfull)
  · exact hL h0
  · match locs, h, hfull with
    | [first], h, hfull =>
      have := h first mem_cons_self
      simp only [decide_eq_true_eq] at hfull
      omega

/-- `from_aligned_segments` on the non-empty segments around the gaps: the leading segment `(0, s1)` and the
trailing one `(eN, L)` are listed only when non-empty, the sentinels put them back -/
theorem fas_nongap (s1 eN L : Int) (M : List (Int × Int)) (h0 : 0 ≤ s1) (hs1 : s1 < L)
    (hM : ∀ x ∈ M, 0 < x.1) (hML : ∀ x, M.getLast? = some x → x.2 < L) (heN : 0 < eN) (heL : eN ≤ L) :
    fromAlignedSegments ((if 0 < s1 then [(0, s1)] else []) ++ M ++ (if eN < L then [(eN, L)] else [])) L =
      fasArrays ((0, s1) :: (M ++ [(eN, L)])) L := by
  rw [fas_eq_arrays _ L (by omega), fasAugment]
  · -- `(0, 0)` goes in front exactly when the leading segment was left out, `(L, L)` behind when the trailing one was
    have step1 : fasStep1 ((if 0 < s1 then [((0 : Int), s1)] else []) ++ M ++ (if eN < L then [(eN, L)] else []))
        = (0, s1) :: (M ++ (if eN < L then [(eN, L)] else [])) := by
      by_cases hp : 0 < s1
      · simp [hp, fasStep1]
      · obtain rfl : s1 = 0 := by omega
        simp only [hp, if_false, nil_append]
        refine fasStep1_pos _ fun x hx => ?_
        rcases mem_append.mp hx with hx | hx
        · exact hM x hx
        · obtain rfl := eq_of_mem_ite_singleton hx; exact heN
    rw [step1]
    congr 1
    by_cases hz : eN < L
    · rw [if_pos hz, ← cons_append]; exact fasStep2_snoc _ _ _
    · obtain rfl : eN = L := by omega
      rw [if_neg hz, append_nil]
      cases hM' : M.getLast? with
      | none => rw [getLast?_eq_none_iff.mp hM']; exact fasStep2_lt _ (0, s1) _ rfl hs1
      | some x => exact fasStep2_lt _ x _ (by rw [getLast?_cons, hM']; rfl) (hML x hM')
  · -- no listed segment is the whole row
    intro x hx
    rcases mem_append.mp hx with hx | hx
    · rcases mem_append.mp hx with hx | hx
      · obtain rfl := eq_of_mem_ite_singleton hx; exact Or.inr (by simp only; omega)
      · exact Or.inl (by have := hM x hx; omega)
    · obtain rfl := eq_of_mem_ite_singleton hx; exact Or.inl (by simp only; omega)

end CogentModel.IndelMap
