import CogentModel.Model.ScopedRules
/-! `update_scoped_rules` rule by rule: the well-formedness `WF` / `WFr` under which every rule of the result carries
the nested value, and the executable test `wfrB` that implies `WFr`. -/
namespace CogentModel.ScopedRules

variable {S V : Type} [DecidableEq S]

/-- well-formedness of the two keyed rule lists under which the nested values are preserved -/
structure WF (chars : S → List S) (kr kn : List (Rule S V)) : Prop where
  /-- dict keys are faithful: equal keys mean the same parameter and the same scope (holds when
  parameter names are not edge names and no rule has an empty `edges` list) -/
  key : ∀ r ∈ kr, ∀ n ∈ kn, keyEq r n = true → r.par = n.par ∧ ∀ e, covers r e = covers n e
  /-- scopes of one parameter are disjoint in the rich rules … -/
  richDisj : ∀ r1 ∈ kr, ∀ r2 ∈ kr, r1.par = r2.par → ∀ e, covers r1 e = true → covers r2 e = true → r1 = r2
  /-- … and in the null rules -/
  nullDisj : ∀ n1 ∈ kn, ∀ n2 ∈ kn, n1.par = n2.par → ∀ e, covers n1 e = true → covers n2 e = true → n1 = n2
  /-- the singular `"edge": name` form of a null rule is not mangled into characters
  (single-character names, or the list form) -/
  quirk : ∀ n ∈ kn, nullEnames chars n = n.edges

theorem updateAll_ok (chars : S → List S) (kr kn : List (Rule S V)) :
    ∀ (l out : List (Rule S V)), updateAll chars kr kn l = .ok out →
      (∀ r ∈ l, ∃ a, updateOne chars kr kn r = .ok a ∧ ∀ o ∈ a, o ∈ out) ∧
      (∀ o ∈ out, ∃ r ∈ l, ∃ a, updateOne chars kr kn r = .ok a ∧ o ∈ a) := by
  intro l
  induction l with
  | nil =>
    intro out h
    cases h
    exact ⟨nofun, nofun⟩
  | cons x xs ih =>
    intro out h
    unfold updateAll at h
    split at h
    · cases h
    · rename_i a ha
      split at h
      · cases h
      · rename_i b hb
        cases h
        obtain ⟨ih1, ih2⟩ := ih b hb
        refine ⟨?_, ?_⟩
        · intro r hr
          rcases List.mem_cons.mp hr with rfl | hr'
          · exact ⟨a, ha, fun o ho => List.mem_append_left _ ho⟩
          · obtain ⟨a', h1, h2⟩ := ih1 r hr'
            exact ⟨a', h1, fun o ho => List.mem_append_right _ (h2 o ho)⟩
        · intro o ho
          rcases List.mem_append.mp ho with h1 | h2
          · exact ⟨x, List.mem_cons_self, a, ha, h1⟩
          · obtain ⟨r', hr', a', h3, h4⟩ := ih2 o h2
            exact ⟨r', List.mem_cons_of_mem _ hr', a', h3, h4⟩

theorem keyed_sublist : ∀ l : List (Rule S V), (keyed l).Sublist l
  | [] => .slnil
  | r :: rs => by
    unfold keyed
    split
    · exact (keyed_sublist rs).cons r
    · exact (keyed_sublist rs).cons_cons r

theorem covers_some {r : Rule S V} {es : List S} (h : r.edges = some es) (e : S) :
    covers r e = es.contains e := by
  unfold covers; rw [h]

/-! `WF.quirk` demands `nullEnames chars n = n.edges` for EVERY null rule.  With the real `chars`
(characters of the name) this is false for every null rule written `"edge": "Human"` — and every rule
list produced by `get_param_rules()` contains such rules (the per-edge `length` rules), so `WF` never
holds on the rule lists `initialise_from_nested` really passes.  Only null rules that are NOT key-matched
by a rich rule reach the name-matching loop; `WFr` asks the clause of exactly those. -/

structure WFr (chars : S → List S) (kr kn : List (Rule S V)) : Prop where
  key : ∀ r ∈ kr, ∀ n ∈ kn, keyEq r n = true → r.par = n.par ∧ ∀ e, covers r e = covers n e
  richDisj : ∀ r1 ∈ kr, ∀ r2 ∈ kr, r1.par = r2.par → ∀ e, covers r1 e = true → covers r2 e = true → r1 = r2
  nullDisj : ∀ n1 ∈ kn, ∀ n2 ∈ kn, n1.par = n2.par → ∀ e, covers n1 e = true → covers n2 e = true → n1 = n2
  /-- only for the null remainder (`set(nulld) - set(richd)`) -/
  quirk : ∀ n ∈ kn, (∀ r ∈ kr, keyEq r n = false) → nullEnames chars n = n.edges

theorem WF.toWFr {chars : S → List S} {kr kn : List (Rule S V)} (h : WF chars kr kn) : WFr chars kr kn :=
  ⟨h.key, h.richDisj, h.nullDisj, fun n hn _ => h.quirk n hn⟩

theorem updateOne_keeps_scope (chars : S → List S) (kr kn : List (Rule S V)) (r : Rule S V)
    (es : List S) (hes : r.edges = some es) (a : List (Rule S V))
    (ha : updateOne chars kr kn r = .ok a) : ∃ v, a = [{ r with val := v }] := by
  unfold updateOne at ha
  split at ha
  · cases ha
    exact ⟨_, rfl⟩
  · split at ha
    · rename_i hnone
      rw [hes] at hnone
      cases hnone
    · dsimp only at ha
      split at ha
      · cases ha
        exact ⟨_, rfl⟩
      · cases ha
        exact ⟨_, rfl⟩
      · cases ha

theorem updateOne_sound_r (chars : S → List S) (kr kn : List (Rule S V)) (wf : WFr chars kr kn)
    (r : Rule S V) (hr : r ∈ kr) (a : List (Rule S V)) (ha : updateOne chars kr kn r = .ok a)
    (o : Rule S V) (ho : o ∈ a) (e : S) (hoe : covers o e = true)
    (n : Rule S V) (hn : n ∈ kn) (hpar : n.par = o.par) (hne : covers n e = true) : o.val = n.val := by
  have ha0 := ha
  unfold updateOne at ha
  split at ha
  · rename_i n0 hfind
    have hn0 : n0 ∈ kn := List.mem_of_find?_eq_some hfind
    cases ha
    cases List.mem_singleton.mp ho
    obtain ⟨hp, hc⟩ := wf.key r hr n0 hn0 (List.find?_some hfind)
    rw [wf.nullDisj n hn n0 hn0 (hpar.trans hp) e hne ((hc e).symm.trans hoe)]
  · rename_i hfind
    split at ha
    · -- a free rich rule: `o` is its copy on one edge `e` of a matching null rule `m`, which is `n`
      cases ha
      obtain ⟨m, hm, ho⟩ := List.mem_flatMap.mp ho
      obtain ⟨e', he', rfl⟩ := List.mem_map.mp ho
      cases List.mem_singleton.mp (List.contains_iff_mem.mp hoe)
      obtain ⟨hm1, hm2⟩ := List.mem_filter.mp hm
      have hmc : covers m e = true := by
        unfold covers
        cases hme : m.edges with
        | none => rfl
        | some es' => rw [hme] at he'; exact List.contains_iff_mem.mpr he'
      rw [wf.nullDisj n hn m (List.mem_filter.mp hm1).1 (hpar.trans (beq_iff_eq.mp (Bool.and_eq_true_iff.mp hm2).1).symm) e hne hmc]
    · -- a scoped rich rule keeps its scope, so it covers `e` and `n` is among its matches
      rename_i es hes
      obtain ⟨v, rfl⟩ := updateOne_keeps_scope chars kr kn r es hes a ha0
      cases List.mem_singleton.mp ho
      -- a rich rule with `n`'s key would have `r`'s parameter and cover `e`, so be `r`, whose key no null rule has
      have hrem : ∀ r' ∈ kr, keyEq r' n = false := by
        intro r' hr'
        refine Bool.eq_false_iff.mpr fun hk' => ?_
        obtain ⟨hp', hc'⟩ := wf.key r' hr' n hn hk'
        cases wf.richDisj r' hr' r hr (hp'.trans hpar) e ((hc' e).trans hne) hoe
        exact List.find?_eq_none.mp hfind n hn hk'
      have hmem : n ∈ matchesFor chars (kn.filter (fun n => !(kr.any (fun r' => keyEq r' n)))) r := by
        refine List.mem_filter.mpr ⟨List.mem_filter.mpr ⟨hn, ?_⟩, ?_⟩
        · rw [Bool.not_eq_true', List.any_eq_false]
          exact fun r' hr' => Bool.eq_false_iff.mp (hrem r' hr')
        · rw [hes, Bool.and_eq_true, beq_iff_eq]
          refine ⟨hpar, ?_⟩
          unfold overlaps
          rw [wf.quirk n hn hrem]
          cases hne' : n.edges with
          | none => rfl
          | some ns =>
            rw [covers_some hne'] at hne
            exact List.any_eq_true.mpr ⟨e, List.contains_iff_mem.mp hne, (covers_some hes e).symm.trans hoe⟩
      dsimp only at ha
      split at ha
      · rename_i hms
        rw [hms] at hmem
        cases hmem
      · rename_i m hms
        cases ha
        rw [hms] at hmem
        rw [List.mem_singleton.mp hmem]
      · cases ha

/-! ### soundness of the executable check `wfrB` -/

theorem sameSet_contains {x y : List S} (h : sameSet x y = true) (e : S) : x.contains e = y.contains e := by
  obtain ⟨h1, h2⟩ := Bool.and_eq_true_iff.mp h
  rw [List.all_eq_true] at h1 h2
  exact Bool.eq_iff_iff.mpr ⟨fun he => h1 e (List.contains_iff_mem.mp he), fun he => h2 e (List.contains_iff_mem.mp he)⟩

theorem scopeEq_covers {a b : Rule S V} (h : scopeEq a b = true) (e : S) : covers a e = covers b e := by
  unfold scopeEq at h
  unfold covers
  split at h
  · rename_i ha hb
    rw [ha, hb]
  · rename_i x y ha hb
    rw [ha, hb]
    exact sameSet_contains h e
  · cases h

theorem disjointScopes_false {a b : Rule S V} {e : S} (ha : covers a e = true) (hb : covers b e = true) :
    disjointScopes a b = false := by
  unfold disjointScopes
  split
  · rename_i x y hae hbe
    rw [covers_some hae] at ha
    rw [covers_some hbe] at hb
    exact List.all_eq_false.mpr ⟨e, List.contains_iff_mem.mp ha, by rw [hb]; decide⟩
  · rfl

theorem pairwiseDisj_spec [DecidableEq V] {l : List (Rule S V)} (h : pairwiseDisj l = true) :
    ∀ r1 ∈ l, ∀ r2 ∈ l, r1.par = r2.par → ∀ e, covers r1 e = true → covers r2 e = true → r1 = r2 := by
  intro r1 h1 r2 h2 hp e c1 c2
  have := List.all_eq_true.mp (List.all_eq_true.mp h r1 h1) r2 h2
  rw [disjointScopes_false c1 c2] at this
  simpa [hp] using this

theorem wfrB_sound [DecidableEq V] {chars : S → List S} {kr kn : List (Rule S V)}
    (h : wfrB chars kr kn = true) : WFr chars kr kn := by
  unfold wfrB at h
  simp only [Bool.and_eq_true] at h
  obtain ⟨⟨⟨hk, hr⟩, hn⟩, hq⟩ := h
  refine ⟨?_, pairwiseDisj_spec hr, pairwiseDisj_spec hn, ?_⟩
  · intro r hr' n hn' hke
    have := List.all_eq_true.mp (List.all_eq_true.mp hk r hr') n hn'
    rw [hke] at this
    simp only [Bool.not_true, Bool.false_or, Bool.and_eq_true, beq_iff_eq] at this
    exact ⟨this.1, scopeEq_covers this.2⟩
  · intro n hn' hrem
    rcases Bool.or_eq_true_iff.mp (List.all_eq_true.mp hq n hn') with h1 | h2
    · obtain ⟨r, hr', hke⟩ := List.any_eq_true.mp h1
      rw [hrem r hr'] at hke
      cases hke
    · exact of_decide_eq_true h2

end CogentModel.ScopedRules
