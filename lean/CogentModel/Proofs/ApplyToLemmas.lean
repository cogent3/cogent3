import CogentModel.Model.Composable
/-! `_apply_to` on the plain model `Model/Composable.lean`, for C14 and the resume theorems of C19: results with distinct
identifiers and no completed record yet end up as one record each, in any order (`entries_writeAll_mem`); the selection loop
in closed form (`selectBy_eq_some_iff`) and what a successful selection holds (`selectBy_exact`); resume for any membership
test that looks only at the records under the identifier (`resume_by`; `resume_same_store'` is the directory store's). -/
namespace CogentModel.Composable

theorem entries_append (s t : Store) (i : Id) : entries (s ++ t) i = entries s i ++ entries t i := by
  simp [entries]

theorem entries_put_ne (s : Store) (i j : Id) (r : Val) (h : i ≠ j) : entries (put s j r) i = entries s i := by
  unfold put
  split
  · rfl
  · have hb : (j == i) = false := by simp [Ne.symm h]
    rw [entries_append]
    simp only [entries, List.filter_filter, List.filter_cons, hb, List.filter_nil, List.append_nil,
      Bool.false_eq_true, if_false]
    apply List.filter_congr
    intro e _
    by_cases he : e.1 = i
    · simp [he, h]
    · simp [he]

theorem entries_put_self (s : Store) (i : Id) (r : Val) (h : hasDone s i = false) :
    entries (put s i r) i = [(i, r)] := by
  unfold put
  rw [if_neg (by simp [h])]
  rw [entries_append]
  simp only [entries, List.filter_filter, List.filter_cons, BEq.rfl, if_true, List.filter_nil]
  simp

theorem hasDone_put_ne (s : Store) (i j : Id) (r : Val) (h : i ≠ j) : hasDone (put s j r) i = hasDone s i := by
  simp [hasDone, entries_put_ne s i j r h]

theorem entries_put_done (s : Store) (i : Id) (r : Val) (h : hasDone s i = true) : put s i r = s := by
  simp [put, h]

theorem writeAll_cons (idOf : Nat → Id) (s : Store) (r : Nat × Val) (rs : List (Nat × Val)) :
    writeAll idOf s (r :: rs) = writeAll idOf (put s (idOf r.1) r.2) rs := rfl

theorem writeAll_append (idOf : Nat → Id) (s : Store) (a b : List (Nat × Val)) :
    writeAll idOf s (a ++ b) = writeAll idOf (writeAll idOf s a) b := by
  simp [writeAll, List.foldl_append]

theorem entries_writeAll_other (idOf : Nat → Id) (rs : List (Nat × Val)) (s : Store) (i : Id)
    (h : ∀ r ∈ rs, idOf r.1 ≠ i) : entries (writeAll idOf s rs) i = entries s i := by
  induction rs generalizing s with
  | nil => rfl
  | cons r rs ih =>
    rw [writeAll_cons, ih _ (fun r' hr' => h r' (List.mem_cons_of_mem _ hr'))]
    exact entries_put_ne s i _ _ (Ne.symm (h r List.mem_cons_self))

/-- `hnew` asks only that no COMPLETED record is stored: `put` drops a stale not-completed record of the identifier, so
each result still ends up as the one record under it -/
theorem entries_writeAll_mem (idOf : Nat → Id) (rs : List (Nat × Val)) (s : Store)
    (hnd : (rs.map (fun r => idOf r.1)).Nodup)
    (hnew : ∀ r ∈ rs, hasDone s (idOf r.1) = false) :
    ∀ r ∈ rs, entries (writeAll idOf s rs) (idOf r.1) = [(idOf r.1, r.2)] := by
  induction rs generalizing s with
  | nil => intro r hr; cases hr
  | cons r0 rs ih =>
    intro r hr
    rw [List.map_cons, List.nodup_cons] at hnd
    rw [writeAll_cons]
    have hother : ∀ r' ∈ rs, idOf r'.1 ≠ idOf r0.1 := by
      intro r' hr' e; exact hnd.1 (e ▸ List.mem_map_of_mem (f := fun r => idOf r.1) hr')
    rcases List.mem_cons.mp hr with rfl | hr
    · rw [entries_writeAll_other idOf rs _ _ hother]
      exact entries_put_self s _ _ (hnew _ List.mem_cons_self)
    · apply ih _ hnd.2 _ r hr
      intro r' hr'
      rw [hasDone_put_ne _ _ _ _ (hother r' hr')]
      exact hnew r' (List.mem_cons_of_mem _ hr')

/-! ### `select` / `selectBy` (identifier selection in `_apply_to`) -/

protected theorem select_eq_selectBy (idOf : Nat → Id) (s : Store) (ms : List Nat) (acc : List (Id × Nat)) :
    select idOf s ms acc = selectBy (hasDone s) idOf ms acc := by
  induction ms generalizing acc with
  | nil => rfl
  | cons m ms ih => simp only [select, selectBy, ih]

/-- **The selection loop in closed form.**  It fails exactly when an input's identifier is already in `acc`, or the
identifier of an input it keeps recurs later; otherwise it returns `acc` followed by the kept inputs, in input order. -/
theorem selectBy_eq_some_iff (done : Id → Bool) (idOf : Nat → Id) (ms : List Nat) (acc sel : List (Id × Nat)) :
    selectBy done idOf ms acc = some sel ↔
      (∀ m ∈ ms, ∀ p ∈ acc, p.1 ≠ idOf m) ∧ ms.Pairwise (fun a b => done (idOf a) = false → idOf a ≠ idOf b) ∧
      sel = acc ++ (ms.filter (fun m => !done (idOf m))).map (fun m => (idOf m, m)) := by
  induction ms generalizing acc with
  | nil => simpa [selectBy] using eq_comm
  | cons m ms ih =>
    unfold selectBy
    by_cases hany : acc.any (fun p => p.1 == idOf m) = true
    · rw [if_pos hany]
      obtain ⟨p, hp, e⟩ := List.any_eq_true.mp hany
      exact ⟨nofun, fun h => absurd (by simpa using e) (h.1 m List.mem_cons_self p hp)⟩
    · rw [if_neg hany]
      have hacc : ∀ p ∈ acc, p.1 ≠ idOf m := fun p hp e => hany (List.any_eq_true.mpr ⟨p, hp, by simp [e]⟩)
      by_cases hd : done (idOf m) = true
      · rw [if_pos hd, ih, List.filter_cons_of_neg (by simp [hd])]
        simp only [List.forall_mem_cons, List.pairwise_cons, and_iff_right hacc, hd, Bool.true_eq_false, false_imp_iff,
          implies_true, true_and]
      · rw [if_neg hd, ih, List.filter_cons_of_pos (by simp [hd])]
        simp only [List.forall_mem_cons, List.pairwise_cons, List.mem_append, List.mem_singleton, or_imp, forall_and,
          forall_eq, and_iff_right hacc, Bool.not_eq_true _ ▸ hd, true_imp_iff, List.map_cons, List.append_assoc,
          List.singleton_append, and_assoc]

theorem selectBy_eq (done : Id → Bool) (idOf : Nat → Id) (ms : List Nat) (acc sel : List (Id × Nat))
    (h : selectBy done idOf ms acc = some sel) :
    sel = acc ++ (ms.filter (fun m => !done (idOf m))).map (fun m => (idOf m, m)) :=
  ((selectBy_eq_some_iff done idOf ms acc sel).mp h).2.2

protected theorem selectBy_nodup (done : Id → Bool) (idOf : Nat → Id) (ms : List Nat) (acc sel : List (Id × Nat))
    (h : selectBy done idOf ms acc = some sel) (hn : (acc.map (·.1)).Nodup) : (sel.map (·.1)).Nodup := by
  obtain ⟨hacc, hpw, rfl⟩ := (selectBy_eq_some_iff done idOf ms acc sel).mp h
  rw [List.map_append, List.map_map, List.nodup_append]
  refine ⟨hn, ?_, fun a ha b hb e => ?_⟩
  · exact List.pairwise_map.mpr ((hpw.filter _).imp_of_mem fun ha _ r => r (by simpa using (List.mem_filter.mp ha).2))
  · obtain ⟨p, hp, rfl⟩ := List.mem_map.mp ha
    obtain ⟨m, hm, rfl⟩ := List.mem_map.mp hb
    exact hacc m (List.mem_filter.mp hm).1 p hp e

/-- A selection that succeeds still succeeds when more identifiers are in the store: the criterion of the closed form
gets weaker. -/
theorem select_mono (idOf : Nat → Id) (s s' : Store) (inputs : List Nat) (sel : List (Id × Nat))
    (hsel : select idOf s inputs [] = some sel) (hmono : ∀ i, hasDone s i = true → hasDone s' i = true) :
    ∃ sel', select idOf s' inputs [] = some sel' := by
  simp only [Composable.select_eq_selectBy] at hsel ⊢
  exact ⟨_, (selectBy_eq_some_iff _ idOf inputs [] _).mpr ⟨fun _ _ _ hp => (nomatch hp),
    ((selectBy_eq_some_iff _ idOf inputs [] sel).mp hsel).2.1.imp fun r hd' =>
      r (Bool.eq_false_iff.mpr fun hd => Bool.eq_false_iff.mp hd' (hmono _ hd)), rfl⟩⟩

theorem selectBy_exact (done : Id → Bool) (idOf : Nat → Id) (inputs : List Nat) (sel : List (Id × Nat))
    (h : selectBy done idOf inputs [] = some sel) :
    (sel.map (·.1)).Nodup ∧ (∀ p ∈ sel, idOf p.2 = p.1 ∧ p.2 ∈ inputs ∧ done p.1 = false) ∧
    (∀ m ∈ inputs, done (idOf m) = false → (idOf m, m) ∈ sel) := by
  refine ⟨Composable.selectBy_nodup done idOf inputs [] sel h (by simp), ?_⟩
  rw [selectBy_eq done idOf inputs [] sel h, List.nil_append]
  constructor
  · intro p hp
    obtain ⟨m, hm, rfl⟩ := List.mem_map.mp hp
    have := List.mem_filter.mp hm
    exact ⟨rfl, this.1, by simpa using this.2⟩
  · exact fun m hm hd => List.mem_map.mpr ⟨m, List.mem_filter.mpr ⟨hm, by simp [hd]⟩, rfl⟩

structure SelSpec (idOf : Nat → Id) (s : Store) (inputs : List Nat) (sel : List (Id × Nat)) : Prop where
  nodup : (sel.map (·.1)).Nodup
  idOk : ∀ p ∈ sel, idOf p.2 = p.1
  mem : ∀ p ∈ sel, p.2 ∈ inputs
  fresh : ∀ p ∈ sel, hasDone s p.1 = false
  complete : ∀ m ∈ inputs, hasDone s (idOf m) = false → (idOf m, m) ∈ sel

theorem select_spec (idOf : Nat → Id) (s : Store) (inputs : List Nat) (sel : List (Id × Nat))
    (h : select idOf s inputs [] = some sel) : SelSpec idOf s inputs sel := by
  rw [Composable.select_eq_selectBy] at h
  obtain ⟨hnd, hin, hcomp⟩ := selectBy_exact _ idOf inputs sel h
  exact ⟨hnd, fun p hp => (hin p hp).1, fun p hp => (hin p hp).2.1, fun p hp => (hin p hp).2.2, hcomp⟩

structure SelSpecBy (idOf : Nat → Id) (s : Store) (inputs : List Nat) (sel : List (Id × Nat)) : Prop where
  nodup : (sel.map (·.1)).Nodup
  idOk : ∀ p ∈ sel, idOf p.2 = p.1
  mem : ∀ p ∈ sel, p.2 ∈ inputs
  fresh : ∀ p ∈ sel, hasAny s p.1 = false
  complete : ∀ m ∈ inputs, hasAny s (idOf m) = false → (idOf m, m) ∈ sel

theorem selectBy_spec (idOf : Nat → Id) (s : Store) (inputs : List Nat) (sel : List (Id × Nat))
    (h : selectBy (hasAny s) idOf inputs [] = some sel) : SelSpecBy idOf s inputs sel := by
  obtain ⟨hnd, hin, hcomp⟩ := selectBy_exact _ idOf inputs sel h
  exact ⟨hnd, fun p hp => (hin p hp).1, fun p hp => (hin p hp).2.1, fun p hp => (hin p hp).2.2, hcomp⟩

theorem fst_inj_of_nodup {α β} (l : List (α × β)) (h : (l.map (·.1)).Nodup) (p q : α × β)
    (hp : p ∈ l) (hq : q ∈ l) (e : p.1 = q.1) : p = q := by
  have hne : l.Pairwise (fun a b => a.1 ≠ b.1) := List.pairwise_map.mp h
  exact List.Pairwise.forall_of_forall_of_flip (R := fun a b => a.1 = b.1 → a = b) (fun _ _ _ => rfl)
    (hne.imp fun n e => absurd e n) (hne.imp fun n e => absurd e.symm n) hp hq e

/-! ### the results of one run: any permutation of `app` on the selected inputs

`sel` is any list of (identifier, input) pairs with distinct identifiers, each the identifier of its input and none
completed in the store yet — what either membership test selects. -/
section results
variable (idOf : Nat → Id) (app : Nat → Val) (s : Store) (sel : List (Id × Nat))
  (results : List (Nat × Val)) (hperm : results.Perm (sel.map (wrapped app)))
include hperm

theorem results_mem (r : Nat × Val) (hr : r ∈ results) : ∃ p ∈ sel, r = (p.2, app p.2) := by
  obtain ⟨p, hp, e⟩ := List.mem_map.mp (hperm.mem_iff.mp hr)
  exact ⟨p, hp, e.symm⟩

variable (hid : ∀ p ∈ sel, idOf p.2 = p.1)
include hid

theorem results_ids_nodup (hnd : (sel.map (·.1)).Nodup) : (results.map (fun r => idOf r.1)).Nodup := by
  rw [(hperm.map _).nodup_iff, List.map_map]
  have : sel.map ((fun r => idOf r.1) ∘ wrapped app) = sel.map (·.1) :=
    List.map_congr_left (fun p hp => by simpa [wrapped] using hid p hp)
  rw [this]; exact hnd

theorem results_fresh (hfresh : ∀ p ∈ sel, hasDone s p.1 = false) (r : Nat × Val) (hr : r ∈ results) :
    hasDone s (idOf r.1) = false := by
  obtain ⟨p, hp, rfl⟩ := results_mem app sel results hperm r hr
  rw [hid p hp]; exact hfresh p hp

/-- an uninterrupted run, any completion order -/
theorem apply_any_schedule' (hnd : (sel.map (·.1)).Nodup) (hfresh : ∀ p ∈ sel, hasDone s p.1 = false) :
    (∀ p ∈ sel, entries (writeAll idOf s results) p.1 = [(p.1, app p.2)]) ∧
    (∀ i, (∀ p ∈ sel, p.1 ≠ i) → entries (writeAll idOf s results) i = entries s i) := by
  constructor
  · intro p hp
    have := entries_writeAll_mem idOf results s (results_ids_nodup idOf app sel results hperm hid hnd)
      (results_fresh idOf app s sel results hperm hid hfresh) _ (hperm.mem_iff.mpr (List.mem_map_of_mem hp))
    simpa [wrapped, hid p hp] using this
  · intro i hi
    apply entries_writeAll_other
    intro r hr e
    obtain ⟨p, hp, rfl⟩ := results_mem app sel results hperm r hr
    exact hi p hp ((hid p hp).symm.trans e)

end results

/-- **Resume**, for any membership test that looks only at the records stored under the identifier (`test`) and
always skips an identifier that has a completed record (`htest`): after any `j` results of a first run, a complete second run leaves
every input selected at first with exactly the record of an uninterrupted run, and an input whose record written before the
interruption passes the test is not selected again. -/
theorem resume_by (test : Store → Bool) (htest : ∀ l, test l = false → l.any (fun e => e.2.isOk) = false)
    (idOf : Nat → Id) (app : Nat → Val) (s : Store) (inputs : List Nat)
    (sel : List (Id × Nat)) (hsel : selectBy (fun i => test (entries s i)) idOf inputs [] = some sel)
    (results : List (Nat × Val)) (hperm : results.Perm (sel.map (wrapped app))) (j : Nat) (sel' : List (Id × Nat))
    (hsel' : selectBy (fun i => test (entries (writeAll idOf s (results.take j)) i)) idOf inputs [] = some sel')
    (results' : List (Nat × Val)) (hperm' : results'.Perm (sel'.map (wrapped app))) :
    (∀ p ∈ sel, entries (writeAll idOf (writeAll idOf s (results.take j)) results') p.1 = [(p.1, app p.2)]) ∧
    (∀ p ∈ sel, (p.2, app p.2) ∈ results.take j → test [(p.1, app p.2)] = true → ∀ q ∈ sel', q.1 ≠ p.1) := by
  obtain ⟨hnd, hin, -⟩ := selectBy_exact _ idOf inputs sel hsel
  obtain ⟨hnd', hin', hcomp'⟩ := selectBy_exact _ idOf inputs sel' hsel'
  have hid : ∀ p ∈ sel, idOf p.2 = p.1 := fun p hp => (hin p hp).1
  have hsub : (results.take j).Sublist results := List.take_sublist _ _
  -- the first run, up to the interruption, wrote each of its results as the one record of its identifier
  have key1 := entries_writeAll_mem idOf (results.take j) s
    ((hsub.map _).nodup (results_ids_nodup idOf app sel results hperm hid hnd))
    (fun r hr => results_fresh idOf app s sel results hperm hid (fun p hp => htest _ (hin p hp).2.2) r (hsub.subset hr))
  have key2 := apply_any_schedule' idOf app _ sel' results' hperm' (fun q hq => (hin' q hq).1) hnd'
    (fun q hq => htest _ (hin' q hq).2.2)
  constructor
  · intro p hp
    by_cases hd : test (entries (writeAll idOf s (results.take j)) p.1) = true
    · -- in the store at the interruption: not selected again, untouched by the second run
      rw [key2.2 p.1 (fun q hq e => by have := (hin' q hq).2.2; rw [e, hd] at this; cases this)]
      by_cases hex : ∃ r ∈ results.take j, idOf r.1 = p.1
      · obtain ⟨r, hr, e⟩ := hex
        obtain ⟨p', hp', rfl⟩ := results_mem app sel results hperm r (hsub.subset hr)
        have : p' = p := fst_inj_of_nodup sel hnd p' p hp' hp ((hid p' hp').symm.trans e)
        subst this
        simpa [hid p' hp'] using key1 _ hr
      · rw [entries_writeAll_other idOf _ s p.1 (fun r hr e => hex ⟨r, hr, e⟩), (hin p hp).2.2] at hd
        cases hd
    · -- still missing: selected again and written by the second run
      have := key2.1 _ (hcomp' p.2 (hin p hp).2.1 (by rw [hid p hp]; simpa using hd))
      simpa [hid p hp] using this
  · intro p hp hr hok q hq e
    have := key1 _ hr
    simp only [hid p hp] at this
    have hd := (hin' q hq).2.2
    rw [e, this, hok] at hd
    cases hd

theorem resume_same_store' (idOf : Nat → Id) (app : Nat → Val) (s : Store) (inputs : List Nat)
    (sel : List (Id × Nat)) (hsel : select idOf s inputs [] = some sel)
    (results : List (Nat × Val)) (hperm : results.Perm (sel.map (wrapped app))) (j : Nat)
    (sel' : List (Id × Nat)) (hsel' : select idOf (writeAll idOf s (results.take j)) inputs [] = some sel')
    (results' : List (Nat × Val)) (hperm' : results'.Perm (sel'.map (wrapped app))) :
    (∀ p ∈ sel, entries (writeAll idOf (writeAll idOf s (results.take j)) results') p.1 = [(p.1, app p.2)]) ∧
    (∀ p ∈ sel, (p.2, app p.2) ∈ results.take j → (app p.2).isOk = true → ∀ q ∈ sel', q.1 ≠ p.1) := by
  rw [Composable.select_eq_selectBy] at hsel hsel'
  have a := resume_by (fun l => l.any (fun e => e.2.isOk)) (fun _ h => h) idOf app s inputs sel hsel results hperm j
    sel' hsel' results' hperm'
  exact ⟨a.1, fun p hp hr hok => a.2 p hp hr (by simpa using hok)⟩

end CogentModel.Composable
