import CogentModel.Proofs.FMapLocations
import CogentModel.Proofs.InsertionSort
/-! `inverse()` is the converse relation.  Both the map and the loop's output are read through the sorted tuples
`(start, end, cum_start, cum_end)`: the span the loop builds from a tuple (`mkQ`) is the converse of the span the tuple
was made from (`mkQ_converse`); `cover_tup` reads the map so, `invLoop_cover` the output; between two spans the loop
puts a `gap`.  Sorted forward maps (`Chain`, `SortedFwd`) are a special
case; `shadow()` = `inverse().gaps()` is the complement. -/
namespace CogentModel.FMap

/-! ### sorted forward maps: `Chain` -/

/-- forward real spans, sorted and non-overlapping in parent coordinates starting at `lb`;
    lost spans have non-negative length -/
def Chain (lb : Int) : List FSp → Prop
  | [] => True
  | .lost n :: r => 0 ≤ n ∧ Chain lb r
  | .span s e rv :: r => lb ≤ s ∧ s ≤ e ∧ rv = false ∧ Chain e r

instance : ∀ (lb : Int) (l : List FSp), Decidable (Chain lb l)
  | _, [] => isTrue trivial
  | lb, .lost n :: r => by unfold Chain; exact @instDecidableAnd _ _ _ (instDecidableChain lb r)
  | lb, .span s e rv :: r => by
    unfold Chain
    exact @instDecidableAnd _ _ _ (@instDecidableAnd _ _ _ (@instDecidableAnd _ _ _ (instDecidableChain e r)))

/-- end of the last real span (or `last` if there is none) -/
def lastEnd (last : Int) : List FSp → Int
  | [] => last
  | .lost _ :: r => lastEnd last r
  | .span _ e _ :: r => lastEnd e r

theorem lastEnd_ge : ∀ (l : List FSp) (last : Int), Chain last l → last ≤ lastEnd last l
  | [], _, _ => Int.le_refl _
  | .lost _ :: r, last, h => lastEnd_ge r last h.2
  | .span _ e _ :: r, _, h => Int.le_trans (Int.le_trans h.1 h.2.1) (lastEnd_ge r e h.2.2.2)

theorem chain_mem : ∀ (l : List FSp) (lb : Int), Chain lb l → ∀ s e rv, .span s e rv ∈ l →
    lb ≤ s ∧ s ≤ e ∧ e ≤ lastEnd lb l
  | [], _, _, _, _, _, h => by simp at h
  | .lost n :: r, lb, hc, s, e, rv, h => by
    simp only [List.mem_cons, reduceCtorEq, false_or] at h
    exact chain_mem r lb hc.2 s e rv h
  | .span s0 e0 rv0 :: r, lb, hc, s, e, rv, h => by
    obtain ⟨h1, h2, _, hr⟩ := hc
    have := lastEnd_ge r e0 hr
    simp only [List.mem_cons, FSp.span.injEq] at h
    simp only [lastEnd]
    rcases h with ⟨rfl, rfl, _⟩ | h
    · omega
    · have := chain_mem r e0 hr s e rv h; omega

theorem chain_nonNeg : ∀ (l : List FSp) (lb : Int), Chain lb l → NonNegL l
  | [], _, _ => .nil
  | .lost n :: r, lb, h => .cons h.1 (chain_nonNeg r lb h.2)
  | .span s e rv :: r, lb, h =>
    .cons (by have := h.2.1; simp only [FSp.length]; omega) (chain_nonNeg r e h.2.2.2)


/-- forward spans, sorted and non-overlapping in parent coordinates, inside `[0, parentLength]`,
    lost spans of non-negative length -/
def SortedFwd (m : FM) : Prop := Chain 0 m.spans ∧ lastEnd 0 m.spans ≤ m.parentLength
instance (m : FM) : Decidable (SortedFwd m) := by unfold SortedFwd; infer_instance


/-! ### inverse() in general: the loop over sorted tuples -/

/-- the span `inverse()` builds from the tuple `(start, end, cum_start, cum_end)` -/
def mkQ (q : Q) : FSp := mkSpan q.2.2.1 q.2.2.2 (decide (q.2.2.1 > q.2.2.2))

def wfQ (q : Q) : Prop :=
  q.1 ≤ q.2.1 ∧ (q.2.2.2 - q.2.2.1 = q.2.1 - q.1 ∨ q.2.2.1 - q.2.2.2 = q.2.1 - q.1)

/-- every tuple of `invTemp` comes from a real span of the list and lies in the list's block of map coordinates -/
theorem invTemp_mem : ∀ (l : List FSp) (cum : Int), NonNegL l → ∀ q ∈ invTemp cum l,
    (∃ rv, FSp.span q.1 q.2.1 rv ∈ l) ∧ wfQ q ∧
      cum ≤ q.2.2.1 ∧ cum ≤ q.2.2.2 ∧ q.2.2.1 ≤ cum + lenL l ∧ q.2.2.2 ≤ cum + lenL l
  | [], _, _, _, hq => nomatch hq
  | .lost n :: r, cum, hN, q, hq => by
    obtain ⟨⟨rv, hrv⟩, hw, hb⟩ := invTemp_mem r (cum + n) hN.tail q hq
    have hn : 0 ≤ n := hN.head
    rw [lenL_cons, FSp.length]
    exact ⟨⟨rv, List.mem_cons_of_mem _ hrv⟩, hw, by omega⟩
  | .span s e rv :: r, cum, hN, q, hq => by
    have hn : 0 ≤ e - s := hN.head
    have hr := lenL_nonneg hN.tail
    rw [lenL_cons, FSp.length]
    rcases List.mem_cons.1 hq with rfl | hq
    · refine ⟨⟨rv, ?_⟩, ?_⟩
      · cases rv <;> exact List.mem_cons_self
      · cases rv <;> simp only [wfQ, Bool.false_eq_true, if_false, if_true] <;> omega
    · obtain ⟨⟨rv', hrv⟩, hw, hb⟩ := invTemp_mem r (cum + (e - s)) hN.tail q hq
      exact ⟨⟨rv', List.mem_cons_of_mem _ hrv⟩, hw, by omega⟩

/-- tuples sorted and non-overlapping in parent coordinates, from `last` on -/
def QChain (last : Int) : List Q → Prop
  | [] => True
  | q :: r => last ≤ q.1 ∧ wfQ q ∧ QChain q.2.1 r


theorem mkSpan_length_of_wf (s e cs ce : Int) (hw : wfQ (s, e, cs, ce)) (rv : Bool) :
    (mkSpan cs ce rv).length = e - s := by
  simp only [wfQ] at hw
  unfold mkSpan; split <;> simp only [FSp.length] <;> omega

/-- the lost span `inverse()` puts in where the parent positions `last .. s - 1` are not covered, if there are any -/
def gap (last s : Int) : List FSp := if s > last then [.lost (s - last)] else []

theorem gap_self (a : Int) : gap a a = [] := if_neg (Int.lt_irrefl a)

theorem gap_cons (last s : Int) (x : FSp) :
    (if s > last then [FSp.lost (s - last), x] else [x]) = gap last s ++ [x] := by
  unfold gap; split <;> rfl

theorem coverL_gap (last s : Int) : coverL (gap last s) = List.replicate (s - last).toNat none := by
  unfold gap; split
  · exact List.append_nil _
  · rw [Int.toNat_of_nonpos (by omega)]; rfl

theorem lenL_gap {last s : Int} (h : last ≤ s) : lenL (gap last s) = s - last := by
  unfold gap; split
  · simp only [lenL_cons, lenL_nil, FSp.length]; omega
  · simp only [lenL_nil]; omega

theorem isLost_of_mem_gap {last s : Int} {x : FSp} (h : x ∈ gap last s) : x.isLost = true := by
  unfold gap at h; split at h
  · rw [List.mem_singleton.1 h]; rfl
  · cases h

theorem nonNegL_gap (last s : Int) : NonNegL (gap last s) := by
  intro y hy
  unfold gap at hy; split at hy
  · rw [List.mem_singleton.1 hy]; simp only [FSp.length]; omega
  · cases hy

/-- a gap is at most one span -/
theorem pairwise_gap (R : FSp → FSp → Prop) (last s : Int) : (gap last s).Pairwise R := by
  unfold gap; split
  · exact .cons (fun _ h => nomatch h) .nil
  · exact .nil

theorem within_of_isLost {a : FSp} (h : a.isLost = true) (pl : Int) : a.within pl := by
  cases a with
  | lost n => trivial
  | span _ _ _ => cases h

/-- the spans the loop of `inverse()` emits for the tuples `T`, the previous span ending at `last` -/
def invOut (last : Int) : List Q → List FSp
  | [] => []
  | q :: r => gap last q.1 ++ mkQ q :: invOut q.2.1 r

theorem invLoop_eq_ok : ∀ (T : List Q) (last : Int) (sp : List FSp) (ls : Int),
    invLoop last T = .ok (sp, ls) → sp = invOut last T
  | [], _, _, _, h => by cases h; rfl
  | (s, e, cs, ce) :: r, last, sp, ls, h => by
    simp only [invLoop] at h
    split at h
    · cases h
    · split at h
      · cases h
      · rename_i rest ls' hr
        cases h
        rw [invOut, invLoop_eq_ok r e rest ls hr, gap_cons, List.append_assoc]; rfl

/-- what holds of every lost span and of the span of every tuple holds of every emitted span -/
theorem invOut_elems (P : FSp → Prop) (hl : ∀ x, x.isLost = true → P x) : ∀ (T : List Q) (last : Int),
    (∀ q ∈ T, P (mkQ q)) → ∀ x ∈ invOut last T, P x
  | [], _, _, _, hx => nomatch hx
  | q :: r, last, hT, x, hx => by
    rw [invOut, List.mem_append, List.mem_cons] at hx
    rcases hx with hx | rfl | hx
    · exact hl x (isLost_of_mem_gap hx)
    · exact hT q List.mem_cons_self
    · exact invOut_elems P hl r q.2.1 (fun q' h => hT q' (List.mem_cons_of_mem _ h)) x hx

theorem inverse_eq_ok {m i : FM} (h : inverse m = .ok i) :
    ∃ ls, i = ⟨invOut 0 ((invTemp 0 m.spans).foldr insertQ []) ++ gap ls m.parentLength, len m⟩ := by
  unfold inverse at h
  simp only [] at h
  split at h
  · cases h
  · rename_i sp ls hl
    cases h
    exact ⟨ls, by rw [invLoop_eq_ok _ _ _ _ hl]; rfl⟩

theorem invLoop_cover : ∀ (T : List Q) (last : Int), QChain last T →
    ∃ sp ls, invLoop last T = .ok (sp, ls) ∧ NonNegL sp ∧ last ≤ ls ∧ lenL sp = ls - last ∧
      (ls = last ∨ ∃ q ∈ T, ls = q.2.1) ∧
      ∀ (k j : Int), lookup (coverL sp) (k - last) = some j ↔ ∃ q ∈ T, lookup (coverSp (mkQ q)) (k - q.1) = some j
  | [], last, _ => ⟨[], last, rfl, by simp [NonNegL], by omega, by simp, .inl rfl, by simp [lookup]⟩
  | (s, e, cs, ce) :: r, last, h => by
    obtain ⟨hlb, hw, hc⟩ := h
    obtain ⟨sp', ls, hl, hN, hle, hlen, hls, hcov⟩ := invLoop_cover r e hc
    have hse : s ≤ e := hw.1
    have hmk := mkSpan_length_of_wf s e cs ce hw (decide (cs > ce))
    simp only [invLoop]
    rw [if_neg (by omega), hl]
    rw [gap_cons]
    refine ⟨_, ls, rfl, NonNegL.append (NonNegL.append (nonNegL_gap last s) (NonNegL.cons (by omega) .nil)) hN, by omega, ?_, ?_, ?_⟩
    · rw [lenL_append, lenL_append, lenL_gap hlb, lenL_cons, hmk, hlen, lenL_nil]; omega
    · right
      rcases hls with rfl | ⟨q, hq, rfl⟩
      · exact ⟨_, List.mem_cons_self, rfl⟩
      · exact ⟨q, List.mem_cons_of_mem _ hq, rfl⟩
    · intro k j
      rw [coverL_append, coverL_append, coverL_gap, coverL_cons, coverL_nil, List.append_nil, List.append_assoc,
        lookup_append_eq_some, lookup_replicate_none, lookup_append_eq_some,
        List.length_replicate, coverSp_length, hmk, Int.toNat_of_nonneg (by omega), Int.toNat_of_nonneg (by omega),
        show k - last - (s - last) = k - s by omega, show k - s - (e - s) = k - e by omega, hcov]
      simp only [reduceCtorEq, false_or, List.mem_cons, exists_eq_or_imp, mkQ]

/-! ### inverse() in general: the tuples describe the map -/

/-- a span read from the parent side: map position `t` points to `p` iff `p` lies in the span and `t` is its place there -/
theorem lookup_coverSp_span_eq_some (s e : Int) (rv : Bool) (t p : Int) :
    lookup (coverSp (.span s e rv)) t = some p ↔ s ≤ p ∧ p < e ∧ t = if rv then e - 1 - p else p - s := by
  rw [lookup_coverSp_span]
  cases rv <;> simp only [Bool.false_eq_true, if_false, if_true] <;> split <;>
    simp only [Option.some.injEq, reduceCtorEq, false_iff] <;> omega

/-- the span built from the tuple of a span is its converse: it sends parent position `k` (counted from the span's
    start `s`) to map position `j` iff the span sends `j` (counted from its offset `cum`) to `k` -/
theorem mkQ_converse (s e cum : Int) (rv : Bool) (hse : s ≤ e) (k j : Int) :
    lookup (coverSp (mkQ (if rv then (s, e, cum + (e - s), cum) else (s, e, cum, cum + (e - s))))) (k - s) = some j ↔
      lookup (coverSp (.span s e rv)) (j - cum) = some k := by
  rw [lookup_coverSp_span_eq_some]
  cases rv
  · simp only [mkQ, Bool.false_eq_true, if_false]
    rw [mkSpan_of_le (by omega), decide_eq_false (by omega), lookup_coverSp_span_eq_some]
    simp only [Bool.false_eq_true, if_false]; omega
  · simp only [mkQ, if_true]
    by_cases h : s = e
    · rw [mkSpan_of_le (by omega), lookup_coverSp_span_eq_some]; omega
    · rw [mkSpan_of_gt (by omega), decide_eq_true (by omega), lookup_coverSp_span_eq_some]
      simp only [if_true]; omega

theorem cover_tup : ∀ (l : List FSp) (cum : Int), NonNegL l → ∀ (k j : Int),
    (lookup (coverL l) (j - cum) = some k ↔ ∃ q ∈ invTemp cum l, lookup (coverSp (mkQ q)) (k - q.1) = some j)
  | [], cum, _, k, j => by simp [invTemp, lookup]
  | .lost n :: r, cum, hN, k, j => by
    rw [lookup_coverL_cons_eq_some hN.head, lookup_coverSp_lost, Int.sub_sub]
    simp only [reduceCtorEq, false_or, invTemp, FSp.length]
    exact cover_tup r (cum + n) hN.tail k j
  | .span s e rv :: r, cum, hN, k, j => by
    have hse : s ≤ e := by have := hN.head; simp only [FSp.length] at this; omega
    rw [lookup_coverL_cons_eq_some hN.head, Int.sub_sub, ← mkQ_converse s e cum rv hse]
    simp only [invTemp, List.mem_cons, exists_eq_or_imp, FSp.length]
    rw [cover_tup r (cum + (e - s)) hN.tail]
    cases rv <;> rfl


/-! ### inverse() in general: sorting and the full specification -/

/-- two spans do not overlap in parent coordinates (touching allowed; lost spans never overlap) -/
def disjSp : FSp → FSp → Prop
  | .span s1 e1 _, .span s2 e2 _ => e1 ≤ s2 ∨ e2 ≤ s1
  | _, _ => True

theorem disjSp_lost_left (n : Int) (x : FSp) : disjSp (.lost n) x := by
  cases x <;> simp [disjSp]
theorem disjSp_lost_right (n : Int) (x : FSp) : disjSp x (.lost n) := by
  cases x <;> simp [disjSp]

/-- a lost span overlaps nothing -/
theorem disjSp_of_isLost {a : FSp} (h : a.isLost = true) (b : FSp) : disjSp a b ∧ disjSp b a := by
  cases a with
  | lost n => exact ⟨disjSp_lost_left n b, disjSp_lost_right n b⟩
  | span _ _ _ => cases h

instance : DecidableRel disjSp := fun a b => by
  cases a <;> cases b <;> unfold disjSp <;> infer_instance

/-- the real spans are pairwise non-overlapping in parent coordinates (any order, any direction) -/
def NoOverlap (m : FM) : Prop := m.spans.Pairwise disjSp
instance (m : FM) : Decidable (NoOverlap m) := by unfold NoOverlap; infer_instance

def disjQ (a b : Q) : Prop := a.2.1 ≤ b.1 ∨ b.2.1 ≤ a.1

theorem invTemp_disj : ∀ (l : List FSp) (cum : Int), NonNegL l → l.Pairwise disjSp → (invTemp cum l).Pairwise disjQ
  | [], _, _, _ => .nil
  | .lost n :: r, cum, hN, h => invTemp_disj r _ hN.tail h.of_cons
  | .span s e rv :: r, cum, hN, h => by
    refine .cons (fun q hq => ?_) (invTemp_disj r _ hN.tail h.of_cons)
    obtain ⟨⟨rv', hrv⟩, _⟩ := invTemp_mem r _ hN.tail q hq
    have : disjSp (.span s e rv) (.span q.1 q.2.1 rv') := List.rel_of_pairwise_cons h hrv
    cases rv <;> exact this

/-- `temp.sort()` gives a permutation of the tuples -/
theorem sortQ_perm (T : List Q) : (T.foldr insertQ []).Perm T :=
  InsertionSort.sort_perm (ins := insertQ) (le := fun a b => qle a b = true) (fun _ => rfl) (fun _ _ _ => rfl) T

theorem mem_sortedQ (T : List Q) (x : Q) : x ∈ T.foldr insertQ [] ↔ x ∈ T := (sortQ_perm T).mem_iff

theorem qle_total (a b : Q) (h : ¬ qle a b = true) : qle b a = true := by
  obtain ⟨a1, a2, a3, a4⟩ := a
  obtain ⟨b1, b2, b3, b4⟩ := b
  simp only [qle, decide_eq_true_eq] at h ⊢
  omega

theorem qle_trans (a b c : Q) (h1 : qle a b = true) (h2 : qle b c = true) : qle a c = true := by
  obtain ⟨a1, a2, a3, a4⟩ := a
  obtain ⟨b1, b2, b3, b4⟩ := b
  obtain ⟨c1, c2, c3, c4⟩ := c
  simp only [qle, decide_eq_true_eq] at h1 h2 ⊢
  omega

theorem sort_sorted (T : List Q) : (T.foldr insertQ []).Pairwise (fun a b => qle a b = true) :=
  InsertionSort.sort_sorted (ins := insertQ) (fun _ => rfl) (fun _ _ _ => rfl) qle_total qle_trans T

/-- a symmetric relation that holds between all tuples still does after sorting -/
theorem sort_pairwise (R : Q → Q → Prop) (hsym : ∀ a b, R a b → R b a) (T : List Q) (h : T.Pairwise R) :
    (T.foldr insertQ []).Pairwise R :=
  ((sortQ_perm T).pairwise_iff (hsym _ _)).2 h

theorem qchain_of_sorted : ∀ (T : List Q) (last : Int), (∀ q ∈ T, last ≤ q.1 ∧ wfQ q) →
    T.Pairwise (fun a b => qle a b = true) → T.Pairwise disjQ → QChain last T
  | [], _, _, _, _ => trivial
  | q :: r, last, hall, hs, hd => by
    simp only [List.pairwise_cons] at hs hd
    have hq := hall q List.mem_cons_self
    simp only [QChain]
    refine ⟨hq.1, hq.2, ?_⟩
    apply qchain_of_sorted r q.2.1 _ hs.2 hd.2
    intro q' hq'
    have hw' := (hall q' (List.mem_cons_of_mem _ hq')).2
    refine ⟨?_, hw'⟩
    have h1 := hs.1 q' hq'
    have h2 := hd.1 q' hq'
    have hw := hq.2
    obtain ⟨a1, a2, a3, a4⟩ := q
    obtain ⟨b1, b2, b3, b4⟩ := q'
    simp only [qle, decide_eq_true_eq, disjQ, wfQ] at h1 h2 hw hw' ⊢
    omega

theorem inverse_general_spec (m : FM) (hN : NonNeg m) (hw : Within m) (hd : NoOverlap m)
    (hpl : 0 ≤ m.parentLength) :
    ∃ i, inverse m = .ok i ∧ i.parentLength = len m ∧ len i = m.parentLength ∧ NonNeg i ∧
      ∀ (k j : Int), lookup (cover i) k = some j ↔ lookup (cover m) j = some k := by
  have hall : ∀ q ∈ (invTemp 0 m.spans).foldr insertQ [], (0 : Int) ≤ q.1 ∧ q.2.1 ≤ m.parentLength ∧ wfQ q := by
    intro q hq
    have hq' := (mem_sortedQ _ q).1 hq
    obtain ⟨⟨rv, hrv⟩, hwf, _⟩ := invTemp_mem _ _ hN q hq'
    have := hw _ hrv
    exact ⟨this.1, this.2.2, hwf⟩
  have hdq : ((invTemp 0 m.spans).foldr insertQ []).Pairwise disjQ :=
    sort_pairwise disjQ (fun a b h => by simp only [disjQ] at h ⊢; omega) _ (invTemp_disj _ _ hN hd)
  have hch := qchain_of_sorted _ 0 (fun q hq => ⟨(hall q hq).1, (hall q hq).2.2⟩) (sort_sorted _) hdq
  obtain ⟨sp, ls, hl, hNs, hle, hlen, hls, hcov⟩ := invLoop_cover _ 0 hch
  have hls : ls ≤ m.parentLength := by
    rcases hls with rfl | ⟨q, hq, rfl⟩
    · exact hpl
    · exact (hall q hq).2.1
  refine ⟨⟨sp ++ gap ls m.parentLength, len m⟩, ?_, rfl, ?_,
    NonNegL.append hNs (nonNegL_gap _ _), ?_⟩
  · unfold inverse
    simp only []
    rw [hl]; rfl
  · rw [len_eq_lenL, lenL_append, lenL_gap hls, hlen]; omega
  · intro k j
    have hB := cover_tup m.spans 0 hN k j
    have hA := hcov k j
    rw [Int.sub_zero] at hA hB
    rw [cover_eq_coverL, cover_eq_coverL, coverL_append, coverL_gap, lookup_append_eq_some, lookup_replicate_none,
      hA, hB]
    simp only [reduceCtorEq, or_false, mem_sortedQ]


/-! ### sorted forward maps are a special case -/

theorem chain_noOverlap : ∀ (l : List FSp) (lb : Int), Chain lb l → l.Pairwise disjSp
  | [], _, _ => .nil
  | .lost n :: r, lb, hc => .cons (fun x _ => disjSp_lost_left n x) (chain_noOverlap r lb hc.2)
  | .span s e rv :: r, lb, hc => by
    refine .cons ?_ (chain_noOverlap r e hc.2.2.2)
    intro x hx
    cases x with
    | lost n => trivial
    | span s' e' rv' => exact .inl (chain_mem r e hc.2.2.2 s' e' rv' hx).1

/-- a sorted forward map satisfies all that `inverse()` asks for -/
theorem SortedFwd.invertible {m : FM} (h : SortedFwd m) :
    NonNeg m ∧ Within m ∧ NoOverlap m ∧ 0 ≤ m.parentLength := by
  refine ⟨chain_nonNeg _ _ h.1, fun x hx => ?_, chain_noOverlap _ _ h.1, Int.le_trans (lastEnd_ge _ _ h.1) h.2⟩
  cases x with
  | lost n => trivial
  | span s e rv => have := chain_mem _ _ h.1 s e rv hx; exact ⟨this.1, this.2.1, Int.le_trans this.2.2 h.2⟩


/-! ### shadow() in general -/

/-- `shadow()` for any non-overlapping map (any order, any direction) -/
theorem shadow_general_spec (m s : FM) (hN : NonNeg m) (hw : Within m) (hd : NoOverlap m)
    (hpl0 : 0 ≤ m.parentLength) (h : shadow m = .ok s) :
    s.parentLength = m.parentLength ∧
      ∀ p, some p ∈ cover s ↔ (0 ≤ p ∧ p < m.parentLength ∧ some p ∉ cover m) := by
  obtain ⟨i, hi, hpl, hlen, hN, hcov⟩ := inverse_general_spec m hN hw hd hpl0
  unfold shadow at h
  rw [hi] at h
  refine ⟨by rw [(gaps_within i s h).2, hlen], fun p => ?_⟩
  rw [fromLocations_mem _ _ p s h, locsOf_lost _ _ _ hN, hlen, ← cover_eq_coverL, ← len_eq_lenL, hlen, Int.sub_zero,
    mem_iff_lookup, Int.zero_add, Option.eq_none_iff_forall_ne_some]
  simp only [ne_eq, hcov, not_exists]
  exact ⟨fun ⟨⟨a, b, c⟩, _⟩ => ⟨a, b, c⟩, fun ⟨a, b, c⟩ => ⟨⟨a, b, c⟩, b⟩⟩


/-! ### the inverse of a map lies inside its parent and is itself invertible -/

/-- `inverse()` stays inside its parent, which is the map's own coordinate system `[0, len m]` -/
theorem inverse_within (m i : FM) (hN : NonNeg m) (h : inverse m = .ok i) :
    Within i ∧ i.parentLength = len m := by
  obtain ⟨ls, rfl⟩ := inverse_eq_ok h
  refine ⟨fun x hx => ?_, rfl⟩
  rcases List.mem_append.1 hx with hx | hx
  · refine invOut_elems (·.within (len m)) (fun x h => within_of_isLost h _) _ 0 (fun q hq => ?_) x hx
    have := (invTemp_mem m.spans 0 hN q ((mem_sortedQ _ q).1 hq)).2.2
    rw [← len_eq_lenL] at this
    exact mkSpan_within (pl := len m) _ (by omega) (by omega)
  · exact within_of_isLost (isLost_of_mem_gap hx) _

/-- the map-coordinate blocks of two tuples do not overlap -/
def cdisj (a b : Q) : Prop :=
  max a.2.2.1 a.2.2.2 ≤ min b.2.2.1 b.2.2.2 ∨ max b.2.2.1 b.2.2.2 ≤ min a.2.2.1 a.2.2.2

theorem invTemp_cdisj : ∀ (l : List FSp) (cum : Int), NonNegL l → (invTemp cum l).Pairwise cdisj
  | [], _, _ => .nil
  | .lost n :: r, cum, hN => invTemp_cdisj r _ hN.tail
  | .span s e rv :: r, cum, hN => by
    have hn : 0 ≤ e - s := hN.head
    refine .cons (fun q hq => ?_) (invTemp_cdisj r _ hN.tail)
    have := (invTemp_mem r (cum + (e - s)) hN.tail q hq).2.2
    cases rv <;> simp only [cdisj, Bool.false_eq_true, if_false, if_true] <;> omega

theorem disjSp_mk (a b : Q) (h : cdisj a b) : disjSp (mkQ a) (mkQ b) := by
  simp only [cdisj] at h
  unfold mkQ mkSpan
  split <;> split <;> simp only [disjSp] <;> omega

theorem invOut_noOverlap : ∀ (T : List Q) (last : Int), T.Pairwise cdisj → (invOut last T).Pairwise disjSp
  | [], _, _ => .nil
  | q :: r, last, hT => by
    rw [List.pairwise_cons] at hT
    rw [invOut, List.pairwise_append]
    refine ⟨pairwise_gap _ _ _, .cons ?_ (invOut_noOverlap r _ hT.2),
      fun a ha b _ => (disjSp_of_isLost (isLost_of_mem_gap ha) b).1⟩
    exact invOut_elems _ (fun x h => (disjSp_of_isLost h _).2) r _ fun q' hq' => disjSp_mk q q' (hT.1 q' hq')

/-- the inverse of an invertible map is itself invertible (its spans do not overlap) -/
theorem inverse_nooverlap (m i : FM) (hN : NonNeg m) (h : inverse m = .ok i) : NoOverlap i := by
  obtain ⟨ls, rfl⟩ := inverse_eq_ok h
  have hc : ((invTemp 0 m.spans).foldr insertQ []).Pairwise cdisj :=
    sort_pairwise cdisj (fun a b h => by simp only [cdisj] at h ⊢; omega) _ (invTemp_cdisj _ _ hN)
  rw [NoOverlap, List.pairwise_append]
  exact ⟨invOut_noOverlap _ 0 hc, pairwise_gap _ _ _, fun a _ b hb => (disjSp_of_isLost (isLost_of_mem_gap hb) a).2⟩


end CogentModel.FMap
