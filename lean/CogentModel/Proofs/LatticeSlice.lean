import CogentModel.Proofs.PyRange
/-! What the four slicing methods compute, without views: a slice `[ss:se:c]` of the `n` positions
`F, F + k, …`.  The code wraps a negative bound (`wrapIdx`) and clips it on one side only; the other
clip of `slice.indices` is left to a `min` with the view's stop, to the constructor or to an early
return, and where nobody does it the range is empty anyway.  One lemma per sign of `c`, and the
mirror image of each for a descending lattice (a reversed view), all four by `rangeList_lattice`. -/
namespace CogentModel.View
open CogentModel CogentModel.PySlice

/-- Python's reading of a negative index, before any clipping -/
def wrapIdx (x n : Int) : Int := if x ≥ 0 then x else n + x

/-- `slice.indices` wraps a negative bound, then clips it -/
theorem clampP_eq (x n : Int) (hn : 0 ≤ n) : clampP x n = min (max (wrapIdx x n) 0) n := by
  unfold clampP wrapIdx
  by_cases h : x < 0
  · rw [if_pos h, if_neg (by omega)]; omega
  · rw [if_neg h, if_pos (by omega)]; omega

theorem clampN_eq (x n : Int) (hn : 0 ≤ n) : clampN x n = min (max (wrapIdx x n) (-1)) (n - 1) := by
  unfold clampN wrapIdx
  by_cases h : x < 0
  · rw [if_pos h, if_neg (by omega)]; omega
  · rw [if_neg h, if_pos (by omega)]; omega

/-- A positive-step slice `[ss:se:c]` of the `n` positions `F, F + k, …` that end before `x`.
The code wraps both bounds, clips the start below and the stop by `x`; the indices this leaves
out of `slice.indices` are those of an empty range. -/
theorem lattice_sliceP (F k n x c ss se : Int) (hk : 0 < k) (hc : 0 < c) (hn : 0 ≤ n)
    (hx : IsCeil (x - F) k n) :
    rangeList (F + max (wrapIdx ss n) 0 * k) (min x (F + wrapIdx se n * k)) (k * c)
      = (rangeList (clampP ss n) (clampP se n) c).map fun j => F + j * k := by
  have hT : IsCeil (min x (F + wrapIdx se n * k) - F) k (min n (wrapIdx se n)) := by
    have := hx.min (isCeil_mul (wrapIdx se n) k hk) hk
    rwa [show min (x - F) (wrapIdx se n * k) = min x (F + wrapIdx se n * k) - F by omega] at this
  rw [rangeList_lattice F k c _ _ _ hk hc hT]
  congr 1
  rw [clampP_eq ss n hn, clampP_eq se n hn]
  apply rangeList_congr_pos _ _ _ _ c hc
  omega

/-- A negative-step slice of the `n` positions `F, F + k, …`: the code wraps both bounds, clips
the start at the last index and the stop at the position before `F`.  Negated, this is the
positive-step case. -/
theorem lattice_sliceN (F k n c ss se : Int) (hk : 0 < k) (hc : c < 0) (hn : 0 ≤ n) :
    rangeList (F + min (wrapIdx ss n) (n - 1) * k) (max (F + wrapIdx se n * k) (F - 1)) (k * c)
      = (rangeList (clampN ss n) (clampN se n) c).map fun j => F + j * k := by
  have hT : IsCeil (-(max (F + wrapIdx se n * k) (F - 1)) - -F) k (-(max (wrapIdx se n) (-1))) := by
    have := (isCeil_mul (-wrapIdx se n) k hk).min (L' := 1) (d' := 1) ⟨by omega, by omega⟩ hk
    rw [Int.neg_mul] at this
    rwa [show -(max (F + wrapIdx se n * k) (F - 1)) - -F = min (-(wrapIdx se n * k)) 1 by omega,
      show -(max (wrapIdx se n) (-1)) = min (-wrapIdx se n) 1 by omega]
  rw [rangeList_neg', Int.neg_add, ← Int.neg_mul, ← Int.mul_neg,
    rangeList_lattice (-F) k (-c) _ _ _ hk (by omega) hT, rangeList_neg, List.map_map, List.map_map,
    clampN_eq ss n hn, clampN_eq se n hn,
    rangeList_congr_neg _ _ (min (max (wrapIdx ss n) (-1)) (n - 1)) (min (max (wrapIdx se n) (-1)) (n - 1)) c hc (by omega)]
  apply List.map_congr_left
  intro j _
  simp only [Function.comp, Int.neg_neg, Int.neg_add, Int.neg_mul]

/-- the two lemmas along a descending lattice (`k < 0`, a reversed view), by negation -/
theorem lattice_sliceP_desc (F k n x c ss se : Int) (hk : k < 0) (hc : 0 < c) (hn : 0 ≤ n)
    (hx : IsCeil (F - x) (-k) n) :
    rangeList (F + max (wrapIdx ss n) 0 * k) (max x (F + wrapIdx se n * k)) (k * c)
      = (rangeList (clampP ss n) (clampP se n) c).map fun j => F + j * k := by
  have key := lattice_sliceP (-F) (-k) n (-x) c ss se (by omega) hc hn (by rwa [show -x - -F = F - x by omega])
  rw [rangeList_neg', Int.neg_add, ← Int.mul_neg, ← Int.neg_mul,
    show -(max x (F + wrapIdx se n * k)) = min (-x) (-F + wrapIdx se n * -k) by rw [Int.mul_neg]; omega,
    key, List.map_map]
  apply List.map_congr_left
  intro j _
  simp only [Function.comp, Int.neg_add, Int.neg_neg, Int.mul_neg]

theorem lattice_sliceN_desc (F k n c ss se : Int) (hk : k < 0) (hc : c < 0) (hn : 0 ≤ n) :
    rangeList (F + min (wrapIdx ss n) (n - 1) * k) (min (F + wrapIdx se n * k) (F + 1)) (k * c)
      = (rangeList (clampN ss n) (clampN se n) c).map fun j => F + j * k := by
  have key := lattice_sliceN (-F) (-k) n c ss se (by omega) hc hn
  rw [rangeList_neg', Int.neg_add, ← Int.mul_neg, ← Int.neg_mul,
    show -(min (F + wrapIdx se n * k) (F + 1)) = max (-F + wrapIdx se n * -k) (-F - 1) by rw [Int.mul_neg]; omega,
    key, List.map_map]
  apply List.map_congr_left
  intro j _
  simp only [Function.comp, Int.neg_add, Int.neg_neg, Int.mul_neg]

/-- a slice index beyond a position is itself at a position beyond it (`k ≥ 1`) -/
theorem le_mul_pos (x k : Int) (hx : 0 ≤ x) (hk : 0 < k) : x ≤ x * k := by
  have := Int.mul_le_mul_of_nonneg_left (show 1 ≤ k by omega) hx
  rwa [Int.mul_one] at this

theorem max_pos (F k a : Int) (hk : 0 < k) : max (F + a * k) F = F + max a 0 * k := by
  rcases Int.le_total a 0 with h | h
  · have := Int.mul_nonpos_of_nonpos_of_nonneg h (Int.le_of_lt hk)
    rw [Int.max_eq_right h, Int.zero_mul]; omega
  · have := Int.mul_nonneg h (Int.le_of_lt hk)
    rw [Int.max_eq_left h]; omega

/-- the start a negative-step method computes: the wrapped index clipped at the last one -/
theorem pos_startN (F k n ss : Int) (hn : 0 ≤ n) :
    F + min (wrapIdx ss n) (n - 1) * k =
      if ss ≥ n then F + n * k - k else if ss ≥ 0 then F + ss * k else F + n * k + ss * k := by
  unfold wrapIdx
  by_cases h1 : ss ≥ n
  · rw [if_pos (show ss ≥ 0 by omega), if_pos h1, Int.min_eq_right (by omega), Int.sub_mul, Int.one_mul,
      Int.add_sub_assoc]
  · rw [if_neg h1]
    by_cases h2 : ss ≥ 0
    · rw [if_pos h2, if_pos h2, Int.min_eq_left (by omega)]
    · rw [if_neg h2, if_neg h2, Int.min_eq_left (by omega), Int.add_mul, Int.add_assoc]

theorem pos_wrapIdx (F k n x : Int) :
    (if x ≥ 0 then F + x * k else F + n * k + x * k) = F + wrapIdx x n * k := by
  unfold wrapIdx
  split
  · rfl
  · rw [Int.add_assoc, ← Int.add_mul]

end CogentModel.View
