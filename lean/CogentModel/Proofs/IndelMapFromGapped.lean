import CogentModel.Proofs.IndelMapPattern
/-! The map of a gapped string (`parse_out_gaps`) is well formed and denotes that string: an invariant of the scan
for gap runs (`runs_patG`), read on the pattern. -/
namespace CogentModel.IndelMap
open CogentModel.Gapped

def posOf (prevCum : Int) (R : List (Int × Int)) : List Int :=
  shiftPos prevCum (R.map (·.1)) (cumsumFrom prevCum (R.map (·.2)))

def cumOf (prevCum : Int) (R : List (Int × Int)) : List Int := cumsumFrom prevCum (R.map (·.2))

@[simp] theorem posOf_nil (c : Int) : posOf c [] = [] := rfl
@[simp] theorem cumOf_nil (c : Int) : cumOf c [] = [] := rfl
@[simp] theorem posOf_cons (c st l : Int) (R) : posOf c ((st, l) :: R) = (st - c) :: posOf (c + l) R := rfl
@[simp] theorem cumOf_cons (c st l : Int) (R) : cumOf c ((st, l) :: R) = (c + l) :: cumOf (c + l) R := rfl

open List

/-- one residue is shown before anything else when every gap lies strictly ahead -/
theorem patG_step (next pl : Int) (G : List (Int × Int)) (hG : ∀ g ∈ G, next + 1 ≤ g.1) (hpl : next + 1 ≤ pl) :
    patG next G pl = false :: patG (next + 1) G pl := by
  have key : ∀ b : Int, next + 1 ≤ b → replicate (b - next).toNat false = false :: replicate (b - (next + 1)).toNat false := by
    intro b hb
    rw [show (b - next).toNat = (b - (next + 1)).toNat + 1 by omega, replicate_succ]
  cases G with
  | nil => exact key pl hpl
  | cons g r => simp only [patG, key g.1 (hG g mem_cons_self), cons_append]

/-- state of the scan of `gapRunsAux`: `k` residues and `c` gap columns lie before the run being
extended, or before column `pos` when no run is open -/
def RunsAt (pos k c : Int) : Option (Int × Int) → Prop
  | none => pos = k + c
  | some (st, l) => st = k + c ∧ pos = st + l ∧ 0 < l

theorem runs_patG (s : List Bool) : ∀ (pos k c : Int) (cur : Option (Int × Int)), RunsAt pos k c cur →
    (posOf c (gapRunsAux pos cur s)).Pairwise (· < ·) ∧ (∀ l ∈ (gapRunsAux pos cur s).map (·.2), 0 < l) ∧
    (∀ p ∈ posOf c (gapRunsAux pos cur s), k ≤ p ∧ p ≤ k + ((s.filter (! ·)).length : Int)) ∧
    patG k (zip (posOf c (gapRunsAux pos cur s)) ((gapRunsAux pos cur s).map (·.2)))
        (k + ((s.filter (! ·)).length : Int))
      = (match cur with | none => [] | some (_, l) => replicate l.toNat true) ++ s := by
  induction s with
  | nil =>
    intro pos k c cur h
    cases cur with
    | none => simp [gapRunsAux, patG]
    | some x =>
      obtain ⟨st, l⟩ := x
      obtain ⟨rfl, e2, e3⟩ := h
      simp [gapRunsAux, patG, e3]
  | cons b r ih =>
    intro pos k c cur h
    cases b with
    | true =>
      have hfil : filter (fun x => !x) (true :: r) = filter (fun x => !x) r := rfl
      rw [hfil]
      cases cur with
      | none =>
        obtain ⟨a1, a2, a3, ha⟩ := ih (pos + 1) k c (some (pos, 1)) ⟨h, rfl, by omega⟩
        exact ⟨a1, a2, a3, by rw [show gapRunsAux pos none (true :: r) = gapRunsAux (pos + 1) (some (pos, 1)) r from rfl, ha]; rfl⟩
      | some x =>
        obtain ⟨st, l⟩ := x
        obtain ⟨e1, e2, e3⟩ := h
        obtain ⟨a1, a2, a3, ha⟩ := ih (pos + 1) k c (some (st, l + 1)) ⟨e1, by omega, by omega⟩
        refine ⟨a1, a2, a3, ?_⟩
        rw [show gapRunsAux pos (some (st, l)) (true :: r) = gapRunsAux (pos + 1) (some (st, l + 1)) r from rfl, ha]
        simp only [Int.toNat_add (Int.le_of_lt e3) (Int.le_of_lt Int.zero_lt_one), ← replicate_append_replicate, append_assoc]
        rfl
    | false =>
      have hfil : ((filter (fun x => !x) (false :: r)).length : Int) = ((filter (fun x => !x) r).length : Int) + 1 := by
        simp
      rw [hfil]
      cases cur with
      | none =>
        obtain ⟨a1, a2, a3, ha⟩ := ih (pos + 1) (k + 1) c none (show pos + 1 = k + 1 + c by have : pos = k + c := h; omega)
        simp only [gapRunsAux, Option.toList, nil_append]
        refine ⟨a1, a2, fun p hp => by have := a3 p hp; omega, ?_⟩
        rw [patG_step k _ _ (fun g hg => (a3 g.1 (of_mem_zip hg).1).1) (by omega),
          show k + (((filter (fun x => !x) r).length : Int) + 1) = k + 1 + ((filter (fun x => !x) r).length : Int) by omega, ha]
        rfl
      | some x =>
        obtain ⟨st, l⟩ := x
        obtain ⟨rfl, e2, e3⟩ := h
        obtain ⟨a1, a2, a3, ha⟩ := ih (pos + 1) (k + 1) (c + l) none (show pos + 1 = k + 1 + (c + l) by omega)
        simp only [gapRunsAux, Option.toList, singleton_append, posOf_cons, map_cons, zip_cons_cons, patG]
        rw [show k + c - c = k by omega]
        refine ⟨pairwise_cons.mpr ⟨fun p hp => by have := a3 p hp; omega, a1⟩, ?_, ?_, ?_⟩
        · exact forall_mem_cons.mpr ⟨e3, a2⟩
        · exact forall_mem_cons.mpr ⟨by omega, fun p hp => by have := a3 p hp; omega⟩
        · rw [patG_step k _ _ (fun g hg => (a3 g.1 (of_mem_zip hg).1).1) (by omega),
            show k + (((filter (fun x => !x) r).length : Int) + 1) = k + 1 + ((filter (fun x => !x) r).length : Int) by omega,
            ha, Int.sub_self]
          rfl

theorem posOf_length (R : List (Int × Int)) : ∀ c, (posOf c R).length = R.length := by
  induction R with
  | nil => intro _; rfl
  | cons x R ih => intro c; obtain ⟨st, l⟩ := x; simp only [posOf_cons, length_cons, ih]

theorem fromGapped_spec (s : List Bool) : WF (fromGapped s) ∧ pattern (abs (fromGapped s)) = s := by
  obtain ⟨a1, a2, a3, ha⟩ := runs_patG s 0 0 0 none rfl
  rw [Int.zero_add] at a3 ha
  have := ofLengths_spec (posOf 0 (gapRuns s)) ((gapRuns s).map (·.2)) ((s.filter (! ·)).length : Int)
    (by rw [posOf_length, length_map]) a1 a2 a3 (Int.natCast_nonneg _)
  exact ⟨this.1, this.2.trans ha⟩

theorem abs_fromGapped' (s : List Bool) : abs (fromGapped s) = ofPattern s := by
  rw [abs_eq_ofPattern _ (fromGapped_spec s).1, (fromGapped_spec s).2]

theorem fromGapped_wf' (s : List Bool) : WF (fromGapped s) := (fromGapped_spec s).1

theorem fromGapped_len' (s : List Bool) : len (fromGapped s) = s.length := by
  rw [← len_eq' _ (fromGapped_wf' s), abs_fromGapped', ofPattern, ofPatternFrom_length]

end CogentModel.IndelMap
