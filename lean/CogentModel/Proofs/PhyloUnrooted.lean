import CogentModel.Proofs.PhyloBasic
import CogentModel.Proofs.PhyloPhi
/-! C09: `unrooted` preserves tips and every distance. -/
namespace CogentModel.Phylo
open PTree
variable {K : Type}

theorem splitFirstInternal_spec (cs pre : List (PTree K)) (x : PTree K) (post : List (PTree K))
    (h : splitFirstInternal cs = some (pre, x, post)) :
    cs = pre ++ x :: post ∧ x.children ≠ [] ∧ ∀ c ∈ pre, c.children = [] := by
  fun_induction splitFirstInternal cs generalizing pre with
  | case1 => cases h
  | case2 c cs hc hrec => cases h
  | case3 c cs hc pre' x' post' hrec ih =>
    cases h
    obtain ⟨rfl, h2, h3⟩ := ih pre' hrec
    exact ⟨rfl, h2, fun c' hc' => (List.mem_cons.1 hc').elim (fun e => e ▸ List.isEmpty_iff.1 hc) (h3 c')⟩
  | case4 c cs hc =>
    cases h
    exact ⟨rfl, fun e => hc (List.isEmpty_iff.2 e), fun _ h => nomatch h⟩

theorem tips_bumpLen [Add K] (e : Option K) (s : PTree K) : tips (bumpLen e s) = tips s := tips_rename s _

/-- `unrooted` either leaves the tree as it is or collapses the first internal child `x` of a root
`pre ++ x :: post` with fewer than 3 children -/
theorem unrooted_cases [Add K] (n : String) (l : Option K) (cs : List (PTree K)) :
    unrooted (PTree.node n l cs) = PTree.node n l cs ∨
      ∃ pre x post, cs.length < 3 ∧ cs = pre ++ x :: post ∧ x.children ≠ [] ∧
        unrooted (PTree.node n l cs) =
          PTree.node n l (pre.map (bumpLen x.len) ++ x.children ++ post.map (bumpLen x.len)) := by
  rw [unrooted]
  by_cases hlt : cs.length < 3
  · rw [if_pos hlt]
    cases hs : splitFirstInternal cs with
    | none => exact .inl rfl
    | some v =>
      obtain ⟨hcs, hxc, -⟩ := splitFirstInternal_spec cs v.1 v.2.1 v.2.2 hs
      exact .inr ⟨v.1, v.2.1, v.2.2, hlt, hcs, hxc, rfl⟩
  · rw [if_neg hlt]; exact .inl rfl

/-- the two sides of the root of a two-child tree are the same bipartition -/
theorem phi_sister (x s : PTree K) (T : List String) (hT : (tips x ++ tips s).Perm T) (hnd : T.Nodup)
    (φ : List String → Bool) (hφ : BipPred T φ) : φ (tips s) = φ (tips x) :=
  hφ.compl _ _ fun c hc => iff_not_comm.1 (mem_left_iff_not_mem_right hT hnd c hc)

/-- the two sides of the root of a two-child tree separate the same pairs -/
theorem sep_sister (x s : PTree K) (T : List String) (hT : (tips x ++ tips s).Perm T) (hnd : T.Nodup)
    (a b : String) (ha : a ∈ T) (hb : b ∈ T) : sep a b (tips s) = sep a b (tips x) :=
  phi_sister x s T hT hnd (sep a b) (bipPred_sep T a b ha hb)

theorem sep_both_mem (a b : String) (A : List String) (ha : a ∈ A) (hb : b ∈ A) : sep a b A = false := by
  simp [sep, ha, hb]

section dist
variable [AddCommMonoid K]

theorem phiW_edge_some (d : K) (φ : List String → Bool) (x : PTree K) (xl : K) (hx : x.len = some xl) :
    phiW d φ (edgeSplit x) = if φ (tips x) then xl else 0 := by
  simp only [phiW, edgeSplit, hx, lenOr]

theorem phiW_bump (d : K) (φ : List String → Bool) (s : PTree K) (sl xl : K) (hs : s.len = some sl) :
    phiW d φ (edgeSplit (bumpLen (some xl) s)) =
      phiW d φ (edgeSplit s) + (if φ (tips s) then xl else 0) := by
  rw [phiW_edge_some d φ s sl hs,
    phiW_edge_some d φ _ (sl + xl) (show (bumpLen (some xl) s).len = _ by simp only [bumpLen, len_node, hs, addLen]),
    tips_bumpLen]
  split <;> simp

/-- `unrooted` preserves every bipartition functional (all lengths at the root present): the edge
above the collapsed node and the sister edge carry the same bipartition, their weights merge. -/
theorem unrooted_phi (d : K) (t : PTree K) (hnd : (tips t).Nodup)
    (hlen : ∀ c ∈ t.children, ∃ l, c.len = some l) (φ : List String → Bool) (hφ : BipPred (tips t) φ) :
    topoWeight d φ (unrooted t) = topoWeight d φ t := by
  cases t with
  | node n l cs =>
    rcases unrooted_cases n l cs with h | ⟨pre, x, post, hlt, rfl, hxc, h⟩ <;> rw [h]
    simp only [children_node] at hlen
    obtain ⟨xl, hxl⟩ := hlen x (by simp)
    have hT : (tips x ++ tipsL (pre ++ post)).Perm (tips (PTree.node n l (pre ++ x :: post))) := by
      rw [tips_node_ne_nil _ _ _ (by simp)]
      simp only [tipsL_append, tipsL]
      exact List.perm_append_comm_assoc _ _ _
    have h1 : (pre ++ post).length + 1 < 3 := by
      simpa only [List.length_append, List.length_cons, Nat.add_assoc, Nat.add_comm 1] using hlt
    -- the siblings of the collapsed node: none, or one sister carrying the same bipartition
    have hb : sumBy (phiW d φ) (splitsL ((pre ++ post).map (bumpLen x.len))) =
        sumBy (phiW d φ) (splitsL (pre ++ post)) + phiW d φ (edgeSplit x) := by
      rw [phiW_edge_some d φ x xl hxl, hxl]
      match hss : pre ++ post with
      | [] =>
        rw [hss, tipsL, List.append_nil] at hT
        rw [hφ.all_in (tips x) fun c hc => (hT.mem_iff).2 hc]
        simp [splitsL, sumBy]
      | [s] =>
        rw [hss, tipsL, tipsL, List.append_nil] at hT
        have hs : s ∈ pre ++ post := hss ▸ List.mem_singleton_self s
        obtain ⟨sl, hsl⟩ := hlen s (List.mem_append.2
          ((List.mem_append.1 hs).imp_right (List.mem_cons_of_mem x)))
        simp only [List.map_cons, List.map_nil, splitsL, List.append_nil, sumBy,
          phiW_bump d φ s sl xl hsl, phi_sister x s _ hT hnd φ hφ]
        rw [show splits (bumpLen (some xl) s) = splits s from splits_rename s _]
        exact add_right_comm _ _ _
      | _ :: _ :: _ => rw [hss] at h1; simp only [List.length_cons] at h1; omega
    simp only [topoWeight, splits]
    rw [List.map_append, splitsL_append, sumBy_append] at hb
    simp only [splitsL_append, splitsL_cons, sumBy_append, sumBy, splits_eq_children x] at hb ⊢
    rw [add_right_comm, hb, add_assoc, add_assoc, add_comm (sumBy (phiW d φ) (splitsL post))]

end dist

theorem tipsL_map_bump [Add K] (e : Option K) (cs : List (PTree K)) : tipsL (cs.map (bumpLen e)) = tipsL cs := by
  simp only [tipsL_eq_flatMap, List.flatMap_map, tips_bumpLen]

theorem tips_unrooted [Add K] (t : PTree K) : tips (unrooted t) = tips t := by
  cases t with
  | node n l cs =>
    rcases unrooted_cases n l cs with h | ⟨pre, x, post, -, rfl, hxc, h⟩ <;> rw [h]
    have hne : pre.map (bumpLen x.len) ++ x.children ++ post.map (bumpLen x.len) ≠ [] :=
      List.append_ne_nil_of_left_ne_nil (List.append_ne_nil_of_right_ne_nil _ hxc) _
    rw [tips_node_ne_nil _ _ _ hne, tips_node_ne_nil _ _ _ (by simp)]
    simp only [tipsL_append, tipsL, tipsL_map_bump, tips_of_children x hxc, List.append_assoc]

end CogentModel.Phylo
