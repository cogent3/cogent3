import CogentModel.Proofs.IndelMapInv
import CogentModel.Proofs.ListFacts
/-! `numpy.searchsorted` (`ssLeft`, `ssRight`) and `numpy.where(xs == k)` (`indexOf?`) on a strictly increasing array. -/
namespace CogentModel.IndelMap
open List

/-- `searchsorted` counts the leading elements below the key: the index of the first that is not -/
theorem ssLeft_eq_findIdx (v : Int) (xs : List Int) : ssLeft xs v = xs.findIdx fun x => !decide (x < v) :=
  scan_eq_findIdx (f := (ssLeft · v)) rfl (fun _ _ => rfl) xs

theorem ssRight_eq_findIdx (v : Int) (xs : List Int) : ssRight xs v = xs.findIdx fun x => !decide (x ≤ v) :=
  scan_eq_findIdx (f := (ssRight · v)) rfl (fun _ _ => rfl) xs

theorem ssLeft_lt_length (xs : List Int) (v : Int) (hne : xs ≠ []) (h : v ≤ lastD xs) :
    ssLeft xs v < xs.length := by
  rw [ssLeft_eq_findIdx]
  exact findIdx_lt_length_of_exists ⟨_, lastD_mem xs hne, by simpa using h⟩

theorem ssLeft_lt_spec (xs : List Int) (v : Int) (h : ssLeft xs v < xs.length) : v ≤ getN xs (ssLeft xs v) := by
  rw [getN, ← getElem_eq_getD (h := h)]
  simp only [ssLeft_eq_findIdx] at h ⊢
  simpa using findIdx_getElem (w := h)

theorem ssRight_pred (xs : List Int) (k : Int) : ssRight xs (k - 1) = ssLeft xs k := by
  induction xs with
  | nil => rfl
  | cons x r ih => simp only [ssRight, ssLeft, ih, Int.le_sub_one_iff]

theorem ssRight_eq_zero (xs : List Int) (k : Int) (h : ∀ x ∈ xs, k < x) : ssRight xs k = 0 := by
  cases xs with
  | nil => rfl
  | cons x r => rw [ssRight, if_neg (Int.not_le.mpr (h x mem_cons_self))]

/-- left and right insertion points differ exactly at a member -/
theorem ssRight_eq (xs : List Int) (k : Int) (hs : xs.Pairwise (· < ·)) :
    ssRight xs k = ssLeft xs k + (if k ∈ xs then 1 else 0) := by
  induction xs with
  | nil => rfl
  | cons x r ih =>
    have hs' := pairwise_cons.mp hs
    simp only [ssRight, ssLeft, mem_cons]
    rcases Int.lt_trichotomy x k with h | rfl | h
    · rw [if_pos (Int.le_of_lt h), if_pos h, ih hs'.2]
      simp only [show ¬ k = x by omega, false_or]; omega
    · simp [ssRight_eq_zero r x hs'.1]
    · have hn : k ∉ r := fun hm => by have := hs'.1 k hm; omega
      rw [if_neg (by omega), if_neg (by omega)]
      simp [hn, show ¬ k = x by omega]

theorem ssRight_all (xs : List Int) (k : Int) (h : ∀ x ∈ xs, x ≤ k) : ssRight xs k = xs.length := by
  rw [ssRight_eq_findIdx]
  exact findIdx_eq_length_of_false fun x hx => by simpa using h x hx

theorem getN_ssLeft_of_mem (xs : List Int) (k : Int) (hs : xs.Pairwise (· < ·)) (hk : k ∈ xs) :
    getN xs (ssLeft xs k) = k := by
  induction xs with
  | nil => cases hk
  | cons x r ih =>
    have hs' := pairwise_cons.mp hs
    rw [ssLeft]
    rcases mem_cons.mp hk with rfl | hr
    · rw [if_neg (Int.lt_irrefl _), getN_cons_zero]
    · rw [if_pos (hs'.1 k hr), getN_cons_succ, ih hs'.2 hr]

/-- `numpy.where(gap_pos == k)` on a strictly increasing array finds the left insertion point -/
theorem indexOf_eq (xs : List Int) (k : Int) (hs : xs.Pairwise (· < ·)) :
    indexOf? k xs = if k ∈ xs then some (ssLeft xs k) else none := by
  induction xs with
  | nil => rfl
  | cons x r ih =>
    have hs' := pairwise_cons.mp hs
    rw [indexOf?, ssLeft, ih hs'.2]
    by_cases hx : x = k
    · rw [if_pos hx, if_pos (mem_cons.mpr (Or.inl hx.symm)), if_neg (by omega)]
    · rw [if_neg hx]
      by_cases hr : k ∈ r
      · rw [if_pos hr, if_pos (mem_cons_of_mem _ hr), if_pos (hs'.1 k hr)]; rfl
      · rw [if_neg hr, if_neg fun hm => (mem_cons.mp hm).elim (fun e => hx e.symm) hr]; rfl

theorem ssLeft_all (xs : List Int) (k : Int) (h : ∀ x ∈ xs, x < k) : ssLeft xs k = xs.length := by
  rw [ssLeft_eq_findIdx]
  exact findIdx_eq_length_of_false fun x hx => by simpa using h x hx

end CogentModel.IndelMap
