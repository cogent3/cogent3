/-
  Paths of the spec on their own, before any table: where a path ends (`consumedFrom`), its annotation and its scores
  under append, shift, reversal and a change of HMM that keeps the directions; and what "a path to state `s` in cell
  `(i, j)`" is (`TraceSpec`).
-/
import CogentModel.Model.PairHMM
import CogentModel.Spec.PairHMM
namespace CogentModel.PairHMM
set_option linter.unusedSectionVars false

variable {S : Type} [Add S] [LT S] [DecidableLT S]

/-- `s` is an emitting state that moves: what `statesOK` asks of every state of a path -/
def IsState (h : HMM S) (s : Nat) : Prop := 1 ≤ s ∧ s ≤ h.k ∧ ((h.dir s).1 || (h.dir s).2) = true

/-- every emitting state moves (`adapt_pair_tm` removes / rejects silent states) -/
def NoSilent (h : HMM S) : Prop := ∀ s, 1 ≤ s → s ≤ h.k → ((h.dir s).1 || (h.dir s).2) = true

theorem statesOK_append_list (h : HMM S) (p q : List Nat) (h1 : statesOK h p) (h2 : statesOK h q) :
    statesOK h (p ++ q) :=
  fun x hx => (List.mem_append.mp hx).elim (h1 x) (h2 x)

theorem lastState_cons_cons (a b : Nat) (p : List Nat) : lastState (a :: b :: p) = lastState (b :: p) := rfl

theorem lastState_append_cons (p : List Nat) (s : Nat) (q : List Nat) :
    lastState (p ++ s :: q) = lastState (s :: q) := by
  induction p with
  | nil => rfl
  | cons a p ih =>
    cases p with
    | nil => rfl
    | cons b p => simpa [lastState] using ih

theorem lastState_mem {p : List Nat} (hne : p ≠ []) : lastState p ∈ p := by
  induction p with
  | nil => exact absurd rfl hne
  | cons s p ih =>
    cases p with
    | nil => exact List.mem_cons_self
    | cons a p => exact List.mem_cons_of_mem _ (ih (List.cons_ne_nil a p))

theorem consumed_mono (h : HMM S) (i j : Nat) (p : List Nat) :
    i ≤ (consumedFrom h i j p).1 ∧ j ≤ (consumedFrom h i j p).2 := by
  induction p generalizing i j with
  | nil => exact ⟨Nat.le_refl _, Nat.le_refl _⟩
  | cons s p ih =>
    have := ih (i + (h.dir s).1.toNat) (j + (h.dir s).2.toNat)
    exact ⟨Nat.le_trans (Nat.le_add_right _ _) this.1, Nat.le_trans (Nat.le_add_right _ _) this.2⟩

theorem ne_nil_of_consumed {h : HMM S} {i j : Nat} (h1 : 1 ≤ i) {p : List Nat} (hc : consumedFrom h 0 0 p = (i, j)) :
    p ≠ [] := by
  rintro rfl
  cases hc
  exact absurd h1 (Nat.not_succ_le_zero 0)

theorem consumedFrom_append_list (h : HMM S) (p q : List Nat) : ∀ i j,
    consumedFrom h i j (p ++ q) = consumedFrom h (consumedFrom h i j p).1 (consumedFrom h i j p).2 q := by
  induction p with
  | nil => intros; rfl
  | cons s p ih => intro i j; simp only [List.cons_append, consumedFrom, ih]

theorem consumedFrom_congr (h1 h2 : HMM S) (hd : ∀ s, h1.dir s = h2.dir s) (q : List Nat) :
    ∀ i j, consumedFrom h1 i j q = consumedFrom h2 i j q := by
  induction q with
  | nil => intros; rfl
  | cons s q ih => intro i j; simp only [consumedFrom, hd, ih]

theorem consumedFrom_shift (h : HMM S) (a b : Nat) (q : List Nat) :
    ∀ i j, consumedFrom h (i + a) (j + b) q = ((consumedFrom h i j q).1 + a, (consumedFrom h i j q).2 + b) := by
  induction q with
  | nil => intros; rfl
  | cons s q ih =>
    intro i j
    simp only [consumedFrom]
    rw [Nat.add_right_comm i, Nat.add_right_comm j]
    exact ih _ _

/-- the same path started at `(i0, j0)` instead of `(0, 0)` -/
theorem consumedFrom_sub (h : HMM S) {i0 j0 n m : Nat} (hi : i0 ≤ n) (hj : j0 ≤ m) (q : List Nat) :
    consumedFrom h 0 0 q = (n - i0, m - j0) ↔ consumedFrom h i0 j0 q = (n, m) := by
  have e {i n a : Nat} (hi : i ≤ n) : a = n - i ↔ a + i = n := by
    rw [eq_comm, Nat.sub_eq_iff_eq_add hi, eq_comm]
  have hs := consumedFrom_shift h i0 j0 q 0 0
  rw [Nat.zero_add, Nat.zero_add] at hs
  rw [hs, Prod.ext_iff, Prod.ext_iff, e hi, e hj]

theorem consumedFrom_reverse (h : HMM S) (q : List Nat) : ∀ i j,
    consumedFrom h i j q.reverse = consumedFrom h i j q := by
  induction q with
  | nil => intros; rfl
  | cons s q ih =>
    intro i j
    rw [List.reverse_cons, consumedFrom_append_list, ih]
    simp only [consumedFrom]
    rw [consumedFrom_shift]

/-- the `(state, i, j)` triples of a state path started at `(i, j)` -/
def annotate (h : HMM S) : Nat → Nat → List Nat → List (Nat × Nat × Nat)
  | _, _, [] => []
  | i, j, s :: p =>
    (s, i + (h.dir s).1.toNat, j + (h.dir s).2.toNat) :: annotate h (i + (h.dir s).1.toNat) (j + (h.dir s).2.toNat) p

theorem annotate_map_fst (h : HMM S) (i j : Nat) (p : List Nat) : (annotate h i j p).map (·.1) = p := by
  induction p generalizing i j with
  | nil => rfl
  | cons s p ih => simp [annotate, ih]

theorem annotate_append_list (h : HMM S) (p q : List Nat) : ∀ i j,
    annotate h i j (p ++ q) = annotate h i j p ++ annotate h (consumedFrom h i j p).1 (consumedFrom h i j p).2 q := by
  induction p with
  | nil => intros; rfl
  | cons s p ih => intro i j; simp only [List.cons_append, annotate, consumedFrom, ih]

theorem annotate_congr (h1 h2 : HMM S) (hd : ∀ s, h1.dir s = h2.dir s) (q : List Nat) :
    ∀ i j, annotate h1 i j q = annotate h2 i j q := by
  induction q with
  | nil => intros; rfl
  | cons s q ih => intro i j; simp only [annotate, hd, ih]

theorem eadd_eq_some {a b : Option S} {v : S} (hv : eadd a b = some v) : ∃ x y, a = some x ∧ b = some y := by
  cases a with
  | none => cases hv
  | some x => cases b with
    | none => cases hv
    | some y => exact ⟨x, y, rfl, rfl⟩

theorem scoreFrom_append_list (h : HMM S) (p q : List Nat) : ∀ (prev i j : Nat) (acc : Option S),
    scoreFrom h prev i j acc (p ++ q) =
      scoreFrom h (lastState (prev :: p)) (consumedFrom h i j p).1 (consumedFrom h i j p).2 (scoreFrom h prev i j acc p) q := by
  induction p with
  | nil => intro prev i j acc; rfl
  | cons s p ih =>
    intro prev i j acc
    simp only [List.cons_append, scoreFrom, consumedFrom, lastState_cons_cons]
    exact ih _ _ _ _

theorem prefixScore_snoc (h : HMM S) (i j : Nat) (p : List Nat) (hne : p ≠ []) (s : Nat) :
    prefixScore h i j (p ++ [s]) =
      eadd (eadd (prefixScore h i j p) (h.T (lastState p) s))
        (h.em s ((consumedFrom h i j p).1 + (h.dir s).1.toNat) ((consumedFrom h i j p).2 + (h.dir s).2.toNat)) := by
  obtain ⟨a, p, rfl⟩ := List.exists_cons_of_ne_nil hne
  rw [List.cons_append, prefixScore, prefixScore, scoreFrom_append_list]; rfl

/-- score of a path from BEGIN followed by a transition into `dest` (`globalScore` is the case `dest = END`) -/
def scoreTo (h : HMM S) (dest : Nat) : List Nat → Option S
  | [] => h.T 0 dest
  | s :: p => eadd (prefixScore h 0 0 (s :: p)) (h.T (lastState (s :: p)) dest)

theorem scoreTo_snoc (h : HMM S) (a : Nat) (p : List Nat) (s : Nat) :
    scoreTo h a (p ++ [s]) =
      eadd (eadd (scoreTo h s p)
        (h.em s ((consumedFrom h 0 0 p).1 + (h.dir s).1.toNat) ((consumedFrom h 0 0 p).2 + (h.dir s).2.toNat))) (h.T s a) := by
  cases p with
  | nil => rfl
  | cons b p =>
    rw [List.cons_append, scoreTo, ← List.cons_append, prefixScore_snoc _ _ _ _ (List.cons_ne_nil b p),
      lastState_append_cons]; rfl

/-- every cell a path enters is one the kernel computes (always true for global alignment) -/
def cellsOK (h : HMM S) (loc : Bool) : Nat → Nat → List Nat → Prop
  | _, _, [] => True
  | i, j, s :: p =>
    cellOK loc (i + (h.dir s).1.toNat) (j + (h.dir s).2.toNat) = true ∧
      cellsOK h loc (i + (h.dir s).1.toNat) (j + (h.dir s).2.toNat) p

theorem cellsOK_global (h : HMM S) (i j : Nat) (p : List Nat) : cellsOK h false i j p := by
  induction p generalizing i j with
  | nil => trivial
  | cons s p ih => exact ⟨rfl, ih _ _⟩

theorem cellsOK_append (h : HMM S) (loc : Bool) (i j : Nat) (p : List Nat) (s : Nat)
    (h1 : cellsOK h loc i j p)
    (h2 : cellOK loc ((consumedFrom h i j p).1 + (h.dir s).1.toNat) ((consumedFrom h i j p).2 + (h.dir s).2.toNat) = true) :
    cellsOK h loc i j (p ++ [s]) := by
  induction p generalizing i j with
  | nil => exact ⟨h2, trivial⟩
  | cons a p ih => exact ⟨h1.1, ih _ _ h1.2 h2⟩

theorem cellOK_pos : ∀ {i j : Nat}, 1 ≤ i → 1 ≤ j → cellOK true i j = true
  | _ + 1, _ + 1, _, _ => rfl

/-- a local path never leaves the computed cells: it stays in rows and columns `≥ 1` -/
theorem cellsOK_pos (h : HMM S) : ∀ (p : List Nat) (i j : Nat), 1 ≤ i → 1 ≤ j → cellsOK h true i j p
  | [], _, _, _, _ => trivial
  | s :: p, _, _, hi, hj =>
    have hi' := Nat.le_trans hi (Nat.le_add_right _ (h.dir s).1.toNat)
    have hj' := Nat.le_trans hj (Nat.le_add_right _ (h.dir s).2.toNat)
    ⟨cellOK_pos hi' hj', cellsOK_pos h p _ _ hi' hj'⟩

/-- what a successful traceback from `(i, j, s)` delivers -/
structure TraceSpec (h : HMM S) (loc : Bool) (i j s : Nat) (v : S) (p : List Nat) (i0 j0 : Nat) : Prop where
  nonempty : p ≠ []
  states : statesOK h p
  last : lastState p = s
  consumed : consumedFrom h i0 j0 p = (i, j)
  start : canStart loc i0 j0 (h.dir (p.headD 0)) = true
  cells : cellsOK h loc i0 j0 p
  score : prefixScore h i0 j0 p = some v

namespace TraceSpec

theorem single {h : HMM S} {loc : Bool} {i0 j0 s : Nat} {v : S}
    (hs : IsState h s) (hst : canStart loc i0 j0 (h.dir s) = true)
    (hok : cellOK loc (i0 + (h.dir s).1.toNat) (j0 + (h.dir s).2.toNat) = true)
    (hv : eadd (h.T 0 s) (h.em s (i0 + (h.dir s).1.toNat) (j0 + (h.dir s).2.toNat)) = some v) :
    TraceSpec h loc (i0 + (h.dir s).1.toNat) (j0 + (h.dir s).2.toNat) s v [s] i0 j0 where
  nonempty := List.cons_ne_nil _ _
  states := fun _ hx => List.mem_singleton.mp hx ▸ hs
  last := rfl
  consumed := rfl
  start := hst
  cells := ⟨hok, trivial⟩
  score := hv

theorem snoc {h : HMM S} {loc : Bool} {i j q i0 j0 s : Nat} {w v : S} {p : List Nat}
    (sp : TraceSpec h loc i j q w p i0 j0) (hs : IsState h s)
    (hok : cellOK loc (i + (h.dir s).1.toNat) (j + (h.dir s).2.toNat) = true)
    (hv : eadd (eadd (some w) (h.T q s)) (h.em s (i + (h.dir s).1.toNat) (j + (h.dir s).2.toNat)) = some v) :
    TraceSpec h loc (i + (h.dir s).1.toNat) (j + (h.dir s).2.toNat) s v (p ++ [s]) i0 j0 := by
  exact {
    nonempty := List.append_ne_nil_of_right_ne_nil _ (List.cons_ne_nil _ _)
    states := statesOK_append_list h _ _ sp.states fun x hx => List.mem_singleton.mp hx ▸ hs
    last := lastState_append_cons p s []
    consumed := by rw [consumedFrom_append_list, sp.consumed]; rfl
    start := by
      obtain ⟨a, p', rfl⟩ := List.exists_cons_of_ne_nil sp.nonempty
      exact sp.start
    cells := cellsOK_append h loc i0 j0 _ s sp.cells (by rw [sp.consumed]; exact hok)
    score := by rw [prefixScore_snoc _ _ _ _ sp.nonempty, sp.score, sp.last, sp.consumed]; exact hv }

end TraceSpec

end CogentModel.PairHMM
