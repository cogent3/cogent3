import CogentModel.Gen.C15Tree
import CogentModel.Proofs.NJSelect
import CogentModel.Proofs.UPGMALive
import Mathlib.Tactic.SplitIfs
/-! For `Props/C15TreeGen.lean` (the TRANSLATED nj.py / UPGMA.py code equals the hand models):
the translated `argmin(ravel(·))` reads only the entries inside the box, the array and list surgery of `join` and `condense_matrix` entry by entry, the abstraction `toU` from the
PhyloNode records of the translated code to the trees of the hand model and the simulation relation `Rel`/`RelL`, the
translated loop bodies iterated (`genIter`, `genNjLoop`). -/
namespace CogentModel.C15
open CogentModel.NJ CogentModel.UPGMA CogentModel.TreeNp CogentModel.Gen CogentModel.FirstMin CogentModel.ListGetD

theorem tab_congr (n : Nat) (f g : Nat → Nat → Rat) (h : ∀ a b, a < n → b < n → f a b = g a b) : tab n f = tab n g := by
  unfold tab
  apply List.map_congr_left
  intro a ha
  apply List.map_congr_left
  intro b hb
  exact h a b (List.mem_range.mp ha) (List.mem_range.mp hb)

theorem joinNodes_length (nodes : List T) (L i j : Nat) (new : T) : (joinNodes nodes L i j new).length = L - 1 := by
  simp [joinNodes]

theorem list_join_eq (nodes : List T) (L i j : Nat) (new : T) (hn : nodes.length = L) (hi : i < L) (hj : j < L) :
    lpop (lset (lset nodes i new) j ((lset nodes i new).getD (L - 1) default)) = joinNodes nodes L i j new := by
  unfold lset lpop
  have hlen : ((nodes.set i new).set j ((nodes.set i new).getD (L - 1) default)).length = L := by
    rw [List.length_set, List.length_set, hn]
  refine ext_getD default _ _ (by rw [List.length_dropLast, hlen, joinNodes_length]) fun a ha => ?_
  rw [List.length_dropLast, hlen] at ha
  rw [getD_dropLast _ a _ (by rwa [hlen]), joinNodes_getD ha, getD_set, getD_set, getD_set,
    List.length_set, hn]
  unfold src
  by_cases haj : a = j
  · rw [if_pos ⟨haj, hj⟩, if_pos haj]
    by_cases hLi : L - 1 = i
    · rw [if_pos ⟨hLi, hi⟩, if_pos hLi]
    · rw [if_neg fun c => hLi c.1, if_neg hLi]
  · rw [if_neg fun c => haj c.1, if_neg haj]
    by_cases hai : a = i
    · rw [if_pos ⟨hai, hi⟩, if_pos hai]
    · rw [if_neg fun c => hai c.1, if_neg hai]

/-- the tree a PhyloNode stands for (child lengths are stored on the children) -/
def toU : PN → U
  | .mk _ [c1, c2] _ _ => .node (toU c1) c1.length (toU c2) c2.length
  | .mk name _ _ _ => .tip name

/-- what the hand model keeps of a PhyloNode -/
def Rel (p : PN) (e : Entry) : Prop :=
  e.tree = toU p ∧ ∀ d, branch e d = (if p.children ≠ [] then d - (p.children.getD 0 default).tipLength else d)

theorem toU_with (p : PN) (l t : Rat) : toU ((p.withLength l).withTipLength t) = toU p := by
  cases p with
  | mk n cs l0 t0 =>
    simp only [PN.withLength, PN.withTipLength]
    match cs with
    | [] => simp [toU]
    | [_] => simp [toU]
    | [_, _] => simp [toU]
    | _ :: _ :: _ :: _ => simp [toU]

theorem length_with (p : PN) (l t : Rat) : ((p.withLength l).withTipLength t).length = l := by
  cases p; rfl

/-- the `length` that `condense_node_order` gives to a node joined at height `d` -/
def genLen (d : Rat) (p : PN) : Rat := if p.children ≠ [] then d - (p.children.getD 0 default).tipLength else d

theorem tipLength_with (p : PN) (l t : Rat) : ((p.withLength l).withTipLength t).tipLength = t := by
  cases p; rfl

theorem rel_default : Rel default default := by
  refine ⟨rfl, fun d => ?_⟩
  have h1 : (default : Entry).isTip = false := rfl
  have h2 : (default : Entry).height = 0 := rfl
  have h3 : (default : PN).children = [] := rfl
  simp [branch, h1, h2, h3]

def RelO : Option PN → Option Entry → Prop
  | none, none => True
  | some p, some e => Rel p e
  | _, _ => False

def RelL (order : List (Option PN)) (eo : List (Option Entry)) : Prop :=
  order.length = eo.length ∧ ∀ a, RelO (order.getD a none) (eo.getD a none)

theorem relO_getD (x : Option PN) (y : Option Entry) (h : RelO x y) : Rel (x.getD default) (y.getD default) := by
  cases x <;> cases y
  · exact rel_default
  · exact h.elim
  · exact h.elim
  · exact h

theorem relO_tree (x : Option PN) (y : Option Entry) (h : RelO x y) : y.map (·.tree) = x.map toU := by
  cases x <;> cases y
  · rfl
  · exact h.elim
  · exact h.elim
  · exact congrArg some h.1

theorem argminRavel_congr (n : Nat) (f g : Arr) (h : ∀ a b, a < n → b < n → f a b = g a b) :
    argminRavel n f = argminRavel n g := by
  by_cases hn : n = 0
  · subst hn; rfl
  have hin : ∀ idx, idx < n * n → f (idx / n) (idx % n) = g (idx / n) (idx % n) :=
    fun idx hi => h _ _ (unflat_lt hi).1 (unflat_lt hi).2
  apply Option.some.inj
  unfold argminRavel
  rw [foldl_ite_eq fun idx => f (idx / n) (idx % n), foldl_ite_eq fun idx => g (idx / n) (idx % n)]
  exact foldl_minStep_congr _ _ _ _ (fun x hx => hin x (List.mem_range.1 hx))
    fun q hq => by cases hq; exact hin 0 (Nat.mul_pos (Nat.pos_of_ne_zero hn) (Nat.pos_of_ne_zero hn))

/-- the array the translated code works on agrees with the model's matrix inside the n×n box -/
def Agree (n : Nat) (arr : Arr) (m : Mat) : Prop := ∀ a b, a < n → b < n → arr a b = get m a b

theorem find_smallest_agree (n : Nat) (arr : Arr) (m : Mat) (h : Agree n arr m) :
    C15Tree.find_smallest_index n arr = findSmallest m n := by
  show C15Tree.find_smallest_index n arr = C15Tree.find_smallest_index n (get m)
  simp only [C15Tree.find_smallest_index]
  rw [argminRavel_congr n arr (get m) h]

theorem setDiag_agree (n : Nat) (big : Rat) (arr : Arr) (m : Mat) (h : Agree n arr m) :
    Agree n (setDiag arr big) (resetDiag m n big) := by
  intro a b ha hb
  unfold resetDiag
  rw [get_tab ha hb]
  simp only [setDiag]
  rw [h a b ha hb]

/-- the four stores of the translated `condense_matrix`, entry by entry, in the order of cases of `condenseMatrix` -/
theorem condense_matrix_apply (arr : Arr) (i j : Nat) (big : Rat) (a b : Nat) :
    C15Tree.condense_matrix arr (i, j) big a b =
      if a = j ∨ b = j then big
      else if a = i then (arr i b + arr j b) / 2
      else if b = i then (arr i a + arr j a) / 2
      else arr a b := by
  show (if b = j then big else if a = j then big else
    if b = i then (arr i a + arr j a) / 2 else if a = i then (arr i b + arr j b) / 2 else arr a b) = _
  by_cases hb : b = j
  · rw [if_pos hb, if_pos (Or.inr hb)]
  by_cases ha : a = j
  · rw [if_neg hb, if_pos ha, if_pos (Or.inl ha)]
  rw [if_neg hb, if_neg ha, if_neg (not_or.2 ⟨ha, hb⟩)]
  by_cases hai : a = i
  · rw [if_pos hai, if_pos hai]
    by_cases hbi : b = i
    · rw [if_pos hbi, hai, hbi]
    · rw [if_neg hbi]
  · rw [if_neg hai, if_neg hai]

theorem condense_matrix_agree (n : Nat) (big : Rat) (arr : Arr) (m : Mat) (i j : Nat) (hi : i < n) (hj : j < n)
    (h : Agree n arr m) : Agree n (C15Tree.condense_matrix arr (i, j) big) (condenseMatrix m n i j big) := by
  intro a b ha hb
  unfold condenseMatrix newVec
  rw [get_tab ha hb, condense_matrix_apply, h a b ha hb, h i b hi hb, h j b hj hb, h i a hi ha, h j a hj ha]

/-- `m[j] = m[k]; m[:, j] = m[:, k]`: every index is read through "`j` now holds what was at `k`" -/
theorem move_apply (m : Arr) (j k a b : Nat) :
    setCol (setRow m j (row m k)) j (col (setRow m j (row m k)) k) a b
      = m (if a = j then k else a) (if b = j then k else b) := by
  simp only [setCol, setRow, row, col]
  split_ifs <;> rfl

/-- `UPGMA_cluster`: the translated loop body iterated -/
def genIter (n : Nat) (big : Rat) : Nat → Arr × List (Option PN) × Option PN → Arr × List (Option PN) × Option PN
  | 0, s => s
  | k + 1, s => genIter n big k (C15Tree.UPGMA_cluster_step n big s.1 s.2.1)

/-- the arguments `upgma` passes to `UPGMA_cluster` (`inputs_from_dict_array`: `array += eye * BIG_NUM`, one PhyloNode per name) -/
def genInit (n : Nat) (d : Mat) (big : Rat) : Arr × List (Option PN) × Option PN :=
  (fun a b => if a = b then get d a b + big else get d a b, (List.range n).map fun a => some (PN.mk a [] 0 0), none)

theorem genInit_rel (n : Nat) (d : Mat) (big : Rat) :
    Agree n (genInit n d big).1 (init n d big).m ∧ RelL (genInit n d big).2.1 (init n d big).order ∧
      RelO (genInit n d big).2.2 (init n d big).tree := by
  refine ⟨?_, ⟨by simp [genInit, init], ?_⟩, trivial⟩
  · intro a b ha hb
    simp only [genInit, init]
    rw [get_tab ha hb]
  · intro a
    simp only [genInit, init, List.getD_eq_getElem?_getD, List.getElem?_map]
    by_cases ha : a < n
    · simp only [List.getElem?_range ha, Option.map_some, Option.getD_some]
      exact ⟨by simp [toU], fun d' => by simp [branch, PN.children]⟩
    · have : (List.range n)[a]? = none := by simp; omega
      simp only [this, Option.map_none, Option.getD_none]
      trivial

/-- one pass of `for L in range(len(names), 3, -1)` of `gnj(keep=1)` in terms of the TRANSLATED functions: the first off-diagonal
minimum of the translated score matrix is joined by the translated `join`; the returned array is materialised with the side
`len(nodes)` it has after the slice -/
def genNjStep (pt : PT) : PT :=
  let s := argminOff pt.L (C15Tree.score_matrix pt.L (get pt.d) pt.score)
  let r := C15Tree.join pt.L (get pt.d) pt.nodes pt.score s.1 s.2
  { L := r.2.1.length, d := tab r.2.1.length r.1, nodes := r.2.1, score := r.2.2 }

def genNjLoop : Nat → PT → PT
  | 0, pt => pt
  | fuel + 1, pt => if pt.L ≤ 3 then pt else genNjLoop fuel (genNjStep pt)

/-- the root `asScoreTreeTuple` builds, with the TRANSLATED `lengths` (the zip with the nodes and `convert`'s `max(0.0, ·)` as in the model) -/
def genFinish (pt : PT) : Root :=
  (List.range 3).map fun a => (clamp0 (C15Tree.final_lengths 3 (get pt.d) a), pt.nodes.getD a default)

end CogentModel.C15
