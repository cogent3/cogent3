import CogentModel.Proofs.AlnSeqIndex
import CogentModel.Proofs.AlnPySlice
import CogentModel.Proofs.IndelMapGetitem
import CogentModel.Model.AlnView
/-! The row invariant; one block of columns of a row; `Aligned.__getitem__` with a slice or an integer refines the
string operation and raises only for a bound below `-len`. -/
namespace CogentModel.Aln
open CogentModel.IndelMap CogentModel.Gapped List CogentModel

/-- the row invariant: a well-formed map over exactly as many residues as the data has -/
def RowWF (r : Row) : Prop := WF r.map ∧ r.map.parentLength = r.data.length

/-- what a row displays: its gap pattern filled with its data -/
theorem gapped_eq_fill (r : Row) (hw : WF r.map) : gapped r = fill (pattern (IndelMap.abs r.map)) r.data := by
  unfold gapped
  rw [absSpans_eq_abs _ hw]
  conv => lhs; rw [abs_eq_ofPattern _ hw, ofPattern]
  exact display_eq_fill r.data _ 0

/-- a row over a well-formed map that denotes the gap pattern `P` (every map operation is specified that way): the
map is over as many residues as `P` has, the row displays `P` filled with its data, and it is well formed when the
data has that many characters -/
theorem row_of_pattern {im : IMap} (hw : WF im) {P : List Bool} (habs : IndelMap.abs im = ofPattern P) :
    im.parentLength = (cntF P : Int) ∧
      ∀ D, gapped ⟨im, D⟩ = fill P D ∧ (D.length = cntF P → RowWF ⟨im, D⟩) := by
  have hp : pattern (IndelMap.abs im) = P := by
    rw [habs]
    exact pattern_ofPatternFrom P 0
  have hpl : im.parentLength = (cntF P : Int) := hp ▸ (cntF_pattern_abs im hw).symm
  exact ⟨hpl, fun D => ⟨(gapped_eq_fill _ hw).trans (hp ▸ rfl), fun hD => ⟨hw, hpl.trans (congrArg Nat.cast hD.symm)⟩⟩⟩

/-- a row built from a gapped string (`parse_out_gaps`) displays that string -/
theorem gapped_rowOfString (s : List Char) : gapped (rowOfString s) = s :=
  ((row_of_pattern (fromGapped_wf' _) (abs_fromGapped' _)).2 _).1.trans (fill_parse s)

theorem rowWF_ofString (s : List Char) : RowWF (rowOfString s) :=
  ((row_of_pattern (fromGapped_wf' _) (abs_fromGapped' _)).2 _).2 (by
    rw [cntF, filter_map, length_map]
    rfl)

theorem cntF_abs (r : Row) (h : RowWF r) : cntF (pattern (IndelMap.abs r.map)) = r.data.length :=
  Int.ofNat.inj ((cntF_pattern_abs r.map h.1).trans h.2)

theorem length_gapped (r : Row) (h : RowWF r) : ((gapped r).length : Int) = len r.map := by
  rw [gapped_eq_fill r h.1, length_fill _ _ (Nat.le_of_eq (cntF_abs r h)), pattern, length_map]
  exact len_eq' r.map h.1

theorem getSeqIndex_eq (m : IMap) (x : Int) :
    getSeqIndex m x = if View.wrapIdx x (len m) < 0 then .error .indexError else .ok (seqIndexNN m (View.wrapIdx x (len m))) := by
  rw [View.wrapIdx_eq_ite]; rfl

theorem getSeqIndex_ok (m : IMap) (x s : Int) (h : getSeqIndex m x = .ok s) :
    0 ≤ View.wrapIdx x (len m) ∧ s = seqIndexNN m (View.wrapIdx x (len m)) := by
  rw [getSeqIndex_eq] at h
  split at h
  · cases h
  · cases h; exact ⟨by omega, rfl⟩

/-- `rowSlice` with the `or` defaults written as functions of `a`, `b` -/
def rowSliceN (r : Row) (a b : Option Int) : Except Err Row :=
  match getitem r.map a b none with
  | .error e => .error e
  | .ok nm =>
    match getSeqIndex r.map (a.getD 0), getSeqIndex r.map (stopOr b (len r.map)) with
    | .error e, _ => .error e
    | _, .error e => .error e
    | .ok s, .ok e =>
      if nm.parentLength ≠ 0 ∧ s > e then .error .runtimeError
      else .ok ⟨nm, if nm.parentLength ≠ 0 then PySlice.slice r.data (some s) (some e) 1 else []⟩

theorem rowSlice_eq (r : Row) (a b : Option Int) : rowSlice r a b = rowSliceN r a b := by
  cases a <;> cases b <;> rfl

theorem stopOr_eq (b : Option Int) (n : Int) (h : b ≠ some 0) : stopOr b n = b.getD n := by
  cases b with
  | none => rfl
  | some x => exact if_neg fun hx => h (congrArg some hx)

/-- **one block of columns** `[a:b]`, for bounds that convert to the non-negative columns `A`, `B`: the data between
the sequence indices of `A` and `B`, filled into the pattern of the block, is that block of the displayed row -/
theorem rowSeg_spec (r : Row) (h : RowWF r) (a b : Option Int) (A B : Int) (hA : 0 ≤ A) (hB : 0 ≤ B)
    (eA : View.wrapIdx (a.getD 0) (len r.map) = A) (eB : View.wrapIdx (b.getD (len r.map)) (len r.map) = B) :
    (PySlice.slice r.data (some (seqIndexNN r.map A)) (some (seqIndexNN r.map B)) 1).length =
        cntF (pattern (PySlice.slice (IndelMap.abs r.map) a b 1)) ∧
    fill (pattern (PySlice.slice (IndelMap.abs r.map) a b 1))
        (PySlice.slice r.data (some (seqIndexNN r.map A)) (some (seqIndexNN r.map B)) 1)
      = PySlice.slice (gapped r) a b 1 := by
  have hall := cntF_abs r h
  have hB' := cntF_take_le_all (pattern (IndelMap.abs r.map)) B.toNat
  have hAd := cntF_take_add_drop (pattern (IndelMap.abs r.map)) A.toNat
  have hpat : pattern (((IndelMap.abs r.map).drop A.toNat).take (B.toNat - A.toNat)) =
      ((pattern (IndelMap.abs r.map)).drop A.toNat).take (B.toNat - A.toNat) := by
    simp only [pattern, map_take, map_drop]
  -- the data slice is clamped at the residue counts of the two columns
  obtain ⟨hs, cA⟩ := seqIndexNN_clamp r.map h.1 _ h.2 A hA
  obtain ⟨he, cB⟩ := seqIndexNN_clamp r.map h.1 _ h.2 B hB
  rw [slice_wrapIdx _ _ (len_eq' r.map h.1) a b (eA.symm ▸ hA) (eB.symm ▸ hB),
    slice_wrapIdx _ _ (length_gapped r h) a b (eA.symm ▸ hA) (eB.symm ▸ hB), eA, eB,
    PySlice.slice_nonneg r.data _ _ hs he, ← PySlice.drop_take_min r.data, cA, cB, gapped_eq_fill r h.1, hpat, fill_drop _ _ _ (Nat.le_of_eq hall),
    fill_take _ _ _ (Nat.le_of_eq (by rw [length_drop, ← hall, ← hAd, Nat.add_sub_cancel_left])),
    ← cntF_take_drop]
  refine ⟨?_, fill_take_data _ _⟩
  rw [cntF_take_drop, length_take, length_drop]
  exact Nat.min_eq_left (Nat.sub_le_sub_right (hall ▸ hB') _)

/-- **row slicing refines string slicing** and keeps the row invariant -/
theorem rowSlice_spec (r r' : Row) (h : RowWF r) (a b : Option Int) (hr : rowSlice r a b = .ok r') :
    RowWF r' ∧ gapped r' = PySlice.slice (gapped r) a b 1 := by
  rw [rowSlice_eq] at hr
  unfold rowSliceN at hr
  cases hg : getitem r.map a b none with
  | error e => rw [hg] at hr; cases hr
  | ok nm =>
    cases hsI : getSeqIndex r.map (a.getD 0) with
    | error e => rw [hg, hsI] at hr; cases hr
    | ok s =>
      cases heI : getSeqIndex r.map (stopOr b (len r.map)) with
      | error e => rw [hg, hsI, heI] at hr; cases hr
      | ok e =>
        rw [hg, hsI, heI] at hr
        simp only [] at hr
        obtain ⟨hA, rfl⟩ := getSeqIndex_ok _ _ _ hsI
        obtain ⟨hB, rfl⟩ := getSeqIndex_ok _ _ _ heI
        obtain ⟨hwn, habs⟩ := getitem_spec' r.map h.1 a b nm hg
        obtain ⟨hpl, hrow⟩ := row_of_pattern hwn habs
        split at hr
        · cases hr
        cases hr
        by_cases hb0 : b = some 0
        · -- a literal stop 0: nothing is kept, the data is not consulted
          subst hb0
          rw [slice_to_zero] at hpl hrow
          rw [if_neg (fun hh => hh hpl), slice_to_zero]
          exact ⟨(hrow []).2 rfl, (hrow []).1⟩
        · -- otherwise the data is sliced at the bounds of the map
          rw [stopOr_eq b _ hb0] at hB ⊢
          obtain ⟨k1, k2⟩ := rowSeg_spec r h a b _ _ hA hB rfl rfl
          by_cases hz : nm.parentLength = 0
          · rw [eq_nil_of_length_eq_zero (k1.trans (Int.ofNat.inj (hpl.symm.trans hz)))] at k2
            rw [if_neg (fun hh => hh hz)]
            exact ⟨(hrow []).2 (Int.ofNat.inj (hz.symm.trans hpl)), (hrow []).1.trans k2⟩
          · rw [if_pos hz]
            exact ⟨(hrow _).2 k1, (hrow _).1.trans k2⟩

theorem getSeqIndex_of_ge (m : IMap) (x : Int) (h : -len m ≤ x) :
    getSeqIndex m x = .ok (seqIndexNN m (View.wrapIdx x (len m))) ∧ 0 ≤ View.wrapIdx x (len m) := by
  have hc : 0 ≤ View.wrapIdx x (len m) := by unfold View.wrapIdx; split <;> omega
  rw [getSeqIndex_eq, if_neg (by omega)]
  exact ⟨rfl, hc⟩

/-- **slicing a well-formed row never raises** unless a bound lies below `-len` -/
theorem rowSlice_total (r : Row) (h : RowWF r) (a b : Option Int)
    (ha : ∀ x, a = some x → -len r.map ≤ x) (hb : ∀ y, b = some y → -len r.map ≤ y) :
    ∃ r', rowSlice r a b = .ok r' := by
  have hlen := len_eq' r.map h.1
  have hn0 : 0 ≤ len r.map := by omega
  obtain ⟨nm, hnm, hwn, habs⟩ := getitem_total' r.map h.1 a b ha hb
  obtain ⟨hsI, hA⟩ := getSeqIndex_of_ge r.map (a.getD 0) (by
    cases a with
    | none => exact Int.neg_nonpos_of_nonneg hn0
    | some x => exact ha x rfl)
  obtain ⟨heI, hB⟩ := getSeqIndex_of_ge r.map (stopOr b (len r.map)) (by
    cases b with
    | none => show -len r.map ≤ len r.map; omega
    | some y => have := hb y rfl; simp only [stopOr]; split <;> omega)
  rw [rowSlice_eq]
  unfold rowSliceN
  rw [hnm]
  simp only []
  rw [hsI, heI]
  simp only []
  by_cases hc : nm.parentLength ≠ 0 ∧
      seqIndexNN r.map (View.wrapIdx (a.getD 0) (len r.map)) > seqIndexNN r.map (View.wrapIdx (stopOr b (len r.map)) (len r.map))
  · -- impossible: a slice with a residue has start < stop, and the sequence index is monotone
    exfalso
    have hne : cntF (pattern (PySlice.slice (IndelMap.abs r.map) a b 1)) ≠ 0 :=
      fun h0 => hc.1 ((row_of_pattern hwn habs).1.trans (congrArg Nat.cast h0))
    have hnil : cntF (pattern ([] : Gapped)) = 0 := rfl
    have hb0 : b ≠ some 0 := by
      rintro rfl
      rw [slice_to_zero] at hne
      exact hne hnil
    rw [stopOr_eq b _ hb0] at hB hc
    rw [slice_wrapIdx _ _ hlen a b hA hB] at hne
    have hAB : View.wrapIdx (a.getD 0) (len r.map) ≤ View.wrapIdx (b.getD (len r.map)) (len r.map) := by
      refine Int.not_lt.mp fun hh => ?_
      rw [Nat.sub_eq_zero_of_le (Int.toNat_le_toNat (Int.le_of_lt hh)), take_zero] at hne
      exact hne hnil
    exact Int.not_lt.mpr (seqIndexNN_mono r.map h.1 _ _ hA hAB) hc.2
  · rw [if_neg hc]; exact ⟨_, rfl⟩

theorem rowInt_eq (r : Row) (i : Int) :
    rowInt r i = if 0 ≤ View.wrapIdx i (len r.map) ∧ View.wrapIdx i (len r.map) < len r.map
      then rowSlice r (some (View.wrapIdx i (len r.map))) (some (View.wrapIdx i (len r.map) + 1)) else .error .indexError := by
  rw [View.wrapIdx_eq_ite, Int.add_comm]; rfl

/-- integer indexing of a row shows the character in that column (Python index semantics) -/
theorem rowInt_spec (r r' : Row) (h : RowWF r) (i : Int) (hr : rowInt r i = .ok r') :
    RowWF r' ∧ ∃ c, PySlice.index (gapped r) i = some c ∧ gapped r' = [c] := by
  have hgl := length_gapped r h
  rw [rowInt_eq] at hr
  by_cases hin : 0 ≤ View.wrapIdx i (len r.map) ∧ View.wrapIdx i (len r.map) < len r.map
  · rw [if_pos hin] at hr
    obtain ⟨hw, hsl⟩ := rowSlice_spec r r' h _ _ hr
    obtain ⟨c, hc⟩ : ∃ c, (gapped r)[(View.wrapIdx i (len r.map)).toNat]? = some c := ⟨_, getElem?_eq_getElem (by omega)⟩
    exact ⟨hw, c, by rw [index_wrapIdx _ _ _ hgl hin, hc], by rw [hsl, slice_single _ _ hin.1, hc]; rfl⟩
  · rw [if_neg hin] at hr; cases hr

end CogentModel.Aln
