import CogentModel.Proofs.SplitMetric
import CogentModel.Proofs.NJRealise
import Mathlib.Data.Finset.Card
import Mathlib.Data.Finset.Range
/-! The Studier–Keppler lemma on split systems.  `(L-2)·Q(i,j) = -2·F(i,j)` where `F` sums, split by split, the size of the far
side (or 1 if the split separates the pair); a pair separated by a positive internal branch is beaten in `F`, so a minimiser of
`Q` is a pair of neighbours, and neighbours form a cherry of the metric. -/
namespace CogentModel.NJ

/-- the leaves `< L` on side `b` of the split -/
def sideSet (L : Nat) (s : Side) (b : Bool) : Finset Nat := (Finset.range L).filter (fun x => s x = b)

/-- number of leaves on the side NOT containing `x` -/
def other (L : Nat) (s : Side) (x : Nat) : Nat := (sideSet L s (!s x)).card

/-- contribution of one split to `-(L-2)/2 · Q(x,y)`: the size of the far side if `x,y` are together, else 1 -/
def fS (L : Nat) (s : Side) (x y : Nat) : Rat := if s x = s y then (other L s x : Rat) else 1

def FS (L : Nat) (Sg : WSplits) (x y : Nat) : Rat := wsum Sg (fun s => fS L s x y)

theorem mem_sideSet {L : Nat} {s : Side} {b : Bool} {x : Nat} : x ∈ sideSet L s b ↔ x < L ∧ s x = b := by
  simp [sideSet]

theorem card_side_not (L : Nat) (s : Side) (b : Bool) : (sideSet L s b).card + (sideSet L s (!b)).card = L := by
  have := Finset.card_filter_add_card_filter_not (s := Finset.range L) (fun x => s x = b)
  rwa [Finset.card_range, Finset.filter_congr fun x _ => Bool.eq_not.symm] at this

theorem sumTo_ind (L : Nat) (p : Nat → Prop) [DecidablePred p] :
    sumTo L (fun k => if p k then (1 : Rat) else 0) = (((Finset.range L).filter p).card : Rat) := by
  induction L with
  | zero => simp [sumTo]
  | succ L ih =>
    simp only [sumTo]
    rw [ih, Finset.range_add_one, Finset.filter_insert]
    by_cases h : p L
    · rw [if_pos h, if_pos h, Finset.card_insert_of_notMem (by simp)]; push_cast; ring
    · rw [if_neg h, if_neg h]; ring

theorem sumTo_sep (L : Nat) (s : Side) (x : Nat) : sumTo L (fun k => sep s k x) = (other L s x : Rat) := by
  have : (fun k => sep s k x) = fun k => if s k = !s x then (1 : Rat) else 0 := by
    funext k; unfold sep
    cases hk : s k <;> cases hx : s x <;> simp
  rw [this, sumTo_ind]; rfl

theorem sumTo_smul (L : Nat) (c : Rat) (g : Nat → Rat) : sumTo L (fun k => c * g k) = c * sumTo L g := by
  induction L with
  | zero => simp [sumTo]
  | succ L ih => simp only [sumTo]; rw [ih]; ring

theorem sumTo_wsum (L : Nat) (Sg : WSplits) (g : Side → Nat → Rat) :
    sumTo L (fun k => wsum Sg (fun s => g s k)) = wsum Sg (fun s => sumTo L (fun k => g s k)) := by
  induction Sg with
  | nil =>
    simp only [wsum]
    have := sumTo_const L 0; simpa using this
  | cons S r ih =>
    simp only [wsum]
    rw [sumTo_add, ih]
    rw [sumTo_smul]

theorem colSum_split (L : Nat) (Sg : WSplits) (d : Mat) (hd : ∀ a b, a < L → b < L → get d a b = splitDist Sg a b)
    (i : Nat) (hi : i < L) : colSum d L i = wsum Sg (fun s => (other L s i : Rat)) := by
  unfold colSum
  rw [sumTo_congr L _ (fun k => wsum Sg (fun s => sep s k i)) (fun k hk => hd k i hk hi), sumTo_wsum]
  congr 1; funext s; exact sumTo_sep L s i

theorem other_eq_of_same (L : Nat) (s : Side) (x y : Nat) (h : s x = s y) : other L s x = other L s y := by
  unfold other; rw [h]

theorem other_add_of_sep (L : Nat) (s : Side) (x y : Nat) (h : s x ≠ s y) : other L s x + other L s y = L := by
  unfold other
  rw [Bool.eq_not.2 (Ne.symm h), Bool.not_not, add_comm]; exact card_side_not L s (s x)

/-- `(L-2)·d(i,j) − r_i − r_j = −2·F(i,j)` -/
theorem qn_eq (L : Nat) (Sg : WSplits) (d : Mat) (hd : ∀ a b, a < L → b < L → get d a b = splitDist Sg a b)
    (i j : Nat) (hi : i < L) (hj : j < L) :
    ((L : Rat) - 2) * get d i j - colSum d L i - colSum d L j = -2 * FS L Sg i j := by
  rw [hd i j hi hj, colSum_split L Sg d hd i hi, colSum_split L Sg d hd j hj]
  unfold splitDist FS
  rw [← wsum_smul, ← wsum_smul, ← wsum_sub, ← wsum_sub]
  congr 1; funext s
  unfold sep fS
  by_cases h : s i = s j
  · rw [if_pos h, if_pos h, other_eq_of_same L s i j h]; ring
  · rw [if_neg h, if_neg h]
    have hc : ((other L s i : Rat) + (other L s j : Rat)) = (L : Rat) := by
      exact_mod_cast other_add_of_sep L s i j h
    rw [← hc]; ring

theorem compat_pick (a b ti ui : Bool) (h1 : ¬(ti = a ∧ ui = b)) (h2 : ¬((!ti) = a ∧ (!ui) = b))
    (h3 : ¬(ti = a ∧ (!ui) = b)) : a = !ti ∧ b = ui := by
  revert a b ti ui; decide

theorem other_pos (L : Nat) (t : Side) (m x : Nat) (hx : x < L) (h : t x ≠ t m) : 1 ≤ other L t m := by
  unfold other
  apply Finset.card_pos.2
  exact ⟨x, mem_sideSet.2 ⟨hx, Bool.eq_not.2 h⟩⟩

/-- one split's contribution does not decrease when `(i,j)` is replaced by `(m,n)` -/
theorem fS_le (L i j m n : Nat) (s0 t : Side) (hi : i < L) (hj : j < L) (hm : m < L) (hn : n < L)
    (hsep : s0 i ≠ s0 j) (hmA : s0 m = s0 i) (hnA : s0 n = s0 i)
    (hhalf : 2 * (sideSet L s0 (s0 i)).card ≤ L) (hc : Compat L t s0)
    (hstar : t i = t j → (∀ x, x < L → t x = !t i → s0 x = s0 i) → 2 ≤ other L t i → t m = t n) :
    fS L t i j ≤ fS L t m n := by
  unfold fS
  by_cases htij : t i = t j
  · rw [if_pos htij]
    obtain ⟨a, b, hab⟩ := hc
    have hai := hab i hi
    have haj := hab j hj
    rw [← htij] at haj
    -- `i, j` lie on both sides of `s0`, so the empty quadrant is not on their side of `t`
    have ha : a = !t i := Bool.eq_not.2 fun e =>
      hsep (bool_eq_of_ne_ne (fun h => hai ⟨e.symm, h⟩) fun h => haj ⟨e.symm, h⟩)
    subst ha
    by_cases hb : b = s0 i
    · -- the far side of t avoids A: m, n are on i's side of t
      subst hb
      have hside : ∀ x, x < L → s0 x = s0 i → t x = t i := fun x hx hxA =>
        not_not.1 fun hne => hab x hx ⟨Bool.eq_not.2 hne, hxA⟩
      have hmt := hside m hm hmA
      have hnt := hside n hn hnA
      rw [if_pos (hmt.trans hnt.symm), other_eq_of_same L t m i hmt]
    · -- the far side U of t lies inside A
      have hUA : ∀ x, x < L → t x = !t i → s0 x = s0 i := fun x hx hxt =>
        bool_eq_of_ne_ne (fun e => hab x hx ⟨hxt, e⟩) fun e => hb e.symm
      have hUle : other L t i ≤ (sideSet L s0 (s0 i)).card := by
        unfold other
        apply Finset.card_le_card
        intro x hx
        rw [mem_sideSet] at hx ⊢
        exact ⟨hx.1, hUA x hx.1 hx.2⟩
      by_cases hmn' : t m = t n
      · rw [if_pos hmn']
        by_cases hmt : t m = t i
        · rw [other_eq_of_same L t m i hmt]
        · have hsum := other_add_of_sep L t m i hmt
          -- `m` is in `U ⊆ A`, at most half of the leaves: the side of `t` away from `m` is no smaller than `U`
          exact_mod_cast (by omega : other L t i ≤ other L t m)
      · rw [if_neg hmn']
        have hsmall : ¬ 2 ≤ other L t i := fun hbig => hmn' (hstar htij hUA hbig)
        exact_mod_cast (by omega : other L t i ≤ 1)
  · rw [if_neg htij]
    by_cases hmn' : t m = t n
    · rw [if_pos hmn']
      have : 1 ≤ other L t m := by
        by_cases hmi : t i = t m
        · exact other_pos L t m j hj (fun e => htij (hmi.trans e.symm))
        · exact other_pos L t m i hi hmi
      exact_mod_cast this
    · rw [if_neg hmn']

theorem fS_symm (L : Nat) (s : Side) (x y : Nat) : fS L s x y = fS L s y x := by
  unfold fS
  by_cases h : s x = s y
  · rw [if_pos h, if_pos h.symm, other_eq_of_same L s x y h]
  · rw [if_neg h, if_neg (fun e => h e.symm)]

theorem FS_symm (L : Nat) (Sg : WSplits) (x y : Nat) : FS L Sg x y = FS L Sg y x := by
  unfold FS; congr 1; funext s; exact fS_symm L s x y

/-- core: a positive split separating `i, j` whose `i`-side is the smaller one, both sides with ≥ 2 leaves:
some other pair has a strictly larger `F` (i.e. a strictly smaller `Q`) -/
theorem better_pair_core (L : Nat) (Sg : WSplits) (hS : SplitSystem L Sg) (i j : Nat) (hi : i < L) (hj : j < L)
    (S0 : Rat × Side) (h0 : S0 ∈ Sg) (hw : 0 < S0.1) (hsep : S0.2 i ≠ S0.2 j)
    (hA2 : 2 ≤ (sideSet L S0.2 (S0.2 i)).card) (hB2 : 2 ≤ (sideSet L S0.2 (S0.2 j)).card)
    (hhalf : 2 * (sideSet L S0.2 (S0.2 i)).card ≤ L) :
    ∃ m n, m < L ∧ n < L ∧ m ≠ n ∧ FS L Sg i j < FS L Sg m n := by
  -- the positive splits with i, j together whose far side is a set of >= 2 leaves inside A
  let Bad : Rat × Side → Prop := fun T => T ∈ Sg ∧ 0 < T.1 ∧ T.2 i = T.2 j ∧
    (∀ x, x < L → T.2 x = !T.2 i → S0.2 x = S0.2 i) ∧ 2 ≤ other L T.2 i
  -- it suffices to find m ≠ n in A not separated by any Bad split
  have hsuff : ∀ m n, m < L → n < L → S0.2 m = S0.2 i → S0.2 n = S0.2 i →
      (∀ T, Bad T → T.2 m = T.2 n) → FS L Sg i j < FS L Sg m n := by
    intro m n hm hn hmA hnA hstar
    have hpos := wsum_pos Sg (fun s => fS L s m n - fS L s i j) hS.nonneg
      (fun T hT hTw => sub_nonneg.2
        (fS_le L i j m n S0.2 T.2 hi hj hm hn hsep hmA hnA hhalf (hS.compat T hT S0 h0)
          fun h1 h2 h3 => hstar T ⟨hT, hTw, h1, h2, h3⟩))
      S0 h0 hw
      (by
        show 0 < fS L S0.2 m n - fS L S0.2 i j
        unfold fS
        rw [if_pos (hmA.trans hnA.symm), if_neg hsep]
        have h1 : other L S0.2 m = (sideSet L S0.2 (S0.2 j)).card := by
          unfold other
          rw [hmA, ← Bool.eq_not.2 (fun e => hsep e.symm)]
        have : (2 : Rat) ≤ (other L S0.2 m : Rat) := by rw [h1]; exact_mod_cast hB2
        exact sub_pos.2 (lt_of_lt_of_le one_lt_two this))
    rw [wsum_sub] at hpos
    exact sub_pos.1 hpos
  by_cases hbad : ∃ T, Bad T
  · obtain ⟨T, hT, hTmin⟩ := (measure fun T : Rat × Side => other L T.2 i).wf.has_min {T | Bad T} hbad
    obtain ⟨hTS, hTw, hTij, hTA, hT2⟩ := hT
    obtain ⟨m, hm, n, hn, hmn⟩ := Finset.one_lt_card.1 (show 1 < (sideSet L T.2 (!T.2 i)).card from hT2)
    rw [mem_sideSet] at hm hn
    refine ⟨m, n, hm.1, hn.1, hmn, hsuff m n hm.1 hn.1 (hTA m hm.1 hm.2) (hTA n hn.1 hn.2) ?_⟩
    intro T' hT'
    by_contra hne
    -- T' separates m and n, both in the far side of T: then far(T') is a proper subset of far(T)
    obtain ⟨a, b, hab⟩ := hS.compat T' hT'.1 T hTS
    have key : ∀ p q, p < L → q < L → T.2 p = !T.2 i → T.2 q = !T.2 i → T'.2 p = !T'.2 i → T'.2 q = T'.2 i →
        False := by
      intro p q hp hq hpT hqT hpT' hqT'
      have e1 := hab i hi
      have e2 := hab p hp
      have e3 := hab q hq
      rw [hpT, hpT'] at e2
      rw [hqT, hqT'] at e3
      obtain ⟨ha, hb⟩ := compat_pick a b (T'.2 i) (T.2 i) e1 e2 e3
      subst ha; subst hb
      have hsub : sideSet L T'.2 (!T'.2 i) ⊂ sideSet L T.2 (!T.2 i) := by
        rw [Finset.ssubset_iff_of_subset]
        · refine ⟨q, mem_sideSet.2 ⟨hq, hqT⟩, ?_⟩
          rw [mem_sideSet]; intro h; rw [hqT'] at h
          exact Bool.eq_not.1 h.2 rfl
        · intro x hx
          rw [mem_sideSet] at hx ⊢
          refine ⟨hx.1, ?_⟩
          have := hab x hx.1
          rw [hx.2] at this
          exact Bool.eq_not.2 fun e => this ⟨rfl, e⟩
      exact hTmin T' hT' (Finset.card_lt_card hsub)
    rcases bool_ne_cases (T'.2 i) hne with ⟨h1, h2⟩ | ⟨h1, h2⟩
    · exact key m n hm.1 hn.1 hm.2 hn.2 h1 h2
    · exact key n m hn.1 hm.1 hn.2 hm.2 h1 h2
  · obtain ⟨x, hx, hxi⟩ := Finset.exists_mem_ne (show 1 < (sideSet L S0.2 (S0.2 i)).card from hA2) i
    rw [mem_sideSet] at hx
    exact ⟨i, x, hi, hx.1, fun e => hxi e.symm, hsuff i x hi hx.1 rfl hx.2
      (fun T hT => absurd ⟨T, hT⟩ hbad)⟩

/-- a positive split separates `i, j` and has at least two leaves on both sides -/
def SepNontrivial (L : Nat) (S : Rat × Side) (i j : Nat) : Prop :=
  0 < S.1 ∧ S.2 i ≠ S.2 j ∧ 2 ≤ (sideSet L S.2 (S.2 i)).card ∧ 2 ≤ (sideSet L S.2 (S.2 j)).card

/-- if some positive internal branch separates `i` and `j`, another pair has strictly larger `F` -/
theorem better_pair (L : Nat) (Sg : WSplits) (hS : SplitSystem L Sg) (i j : Nat) (hi : i < L) (hj : j < L)
    (S0 : Rat × Side) (h0 : S0 ∈ Sg) (hs : SepNontrivial L S0 i j) :
    ∃ m n, m < L ∧ n < L ∧ m ≠ n ∧ FS L Sg i j < FS L Sg m n := by
  obtain ⟨hw, hsep, hA2, hB2⟩ := hs
  have hsum : (sideSet L S0.2 (S0.2 i)).card + (sideSet L S0.2 (S0.2 j)).card = L := by
    have := card_side_not L S0.2 (S0.2 i)
    rwa [← Bool.eq_not.2 (fun e => hsep e.symm)] at this
  by_cases hle : (sideSet L S0.2 (S0.2 i)).card ≤ (sideSet L S0.2 (S0.2 j)).card
  · exact better_pair_core L Sg hS i j hi hj S0 h0 hw hsep hA2 hB2 (by omega)
  · obtain ⟨m, n, hm, hn, hmn, hlt⟩ :=
      better_pair_core L Sg hS j i hj hi S0 h0 hw (fun e => hsep e.symm) hB2 hA2 (by omega)
    exact ⟨m, n, hm, hn, hmn, by rw [FS_symm L Sg i j]; exact hlt⟩

/-- no positive internal branch separates `i` and `j` (they hang off the same node) -/
def NotSep (L : Nat) (Sg : WSplits) (i j : Nat) : Prop := ∀ S ∈ Sg, ¬ SepNontrivial L S i j

/-- **Studier–Keppler, combinatorial form**: a pair maximising `F` is not separated by a positive internal branch -/
theorem argmax_notSep (L : Nat) (Sg : WSplits) (hS : SplitSystem L Sg) (i j : Nat) (hi : i < L) (hj : j < L)
    (hmax : ∀ m n, m < L → n < L → m ≠ n → FS L Sg m n ≤ FS L Sg i j) : NotSep L Sg i j := by
  intro S hS0 hs
  obtain ⟨m, n, hm, hn, hmn, hlt⟩ := better_pair L Sg hS i j hi hj S hS0 hs
  exact absurd hlt (not_lt.2 (hmax m n hm hn hmn))

theorem alone_of_card_le_one (L : Nat) (s : Side) (x : Nat) (hx : x < L)
    (h : (sideSet L s (s x)).card ≤ 1) (y : Nat) (hy : y < L) (hyx : y ≠ x) : s y ≠ s x :=
  fun hs => hyx (Finset.card_le_one.1 h y (mem_sideSet.2 ⟨hy, hs⟩) x (mem_sideSet.2 ⟨hx, rfl⟩))

/-- a positive split separating two neighbours `i, j` cuts one of them off alone, so all other leaves are together -/
theorem notSep_others (L : Nat) (Sg : WSplits) (i j : Nat) (hi : i < L) (hj : j < L) (hns : NotSep L Sg i j)
    (S : Rat × Side) (hS : S ∈ Sg) (hw : 0 < S.1) (hsep : S.2 i ≠ S.2 j) (x y : Nat) (hx : x < L) (hy : y < L)
    (hxi : x ≠ i) (hxj : x ≠ j) (hyi : y ≠ i) (hyj : y ≠ j) : S.2 x = S.2 y := by
  by_contra hne
  refine hns S hS ⟨hw, hsep, ?_, ?_⟩
  · by_contra h
    have ha := alone_of_card_le_one L S.2 i hi (by omega)
    exact hne (bool_eq_of_ne_ne (ha x hx hxi) (ha y hy hyi))
  · by_contra h
    have ha := alone_of_card_le_one L S.2 j hj (by omega)
    exact hne (bool_eq_of_ne_ne (ha x hx hxj) (ha y hy hyj))

/-- **Studier–Keppler, metric form**: if no positive internal branch separates `i, j`, the difference
`d i k − d j k` is the same for every third leaf `k` (a positive split separating `i, j` has all other leaves on
one side), so `(i, j)` is a cherry; the triangle inequality makes the two pendant lengths non-negative -/
theorem cherry_of_notSep (L : Nat) (Sg : WSplits) (hS : SplitSystem L Sg) (d : Mat)
    (hd : ∀ a b, a < L → b < L → get d a b = splitDist Sg a b)
    (i j : Nat) (hi : i < L) (hj : j < L) (hij : i ≠ j) (hL : 3 ≤ L) (hns : NotSep L Sg i j) :
    ∃ ai aj e, Cherry d L i j ai aj e := by
  obtain ⟨z, hz, hzi, hzj⟩ : ∃ z, z < L ∧ z ≠ i ∧ z ≠ j :=
    if h0 : 0 ≠ i ∧ 0 ≠ j then ⟨0, by omega, h0⟩
    else if h1 : 1 ≠ i ∧ 1 ≠ j then ⟨1, by omega, h1⟩
    else ⟨2, by omega, by omega⟩
  have hdiff : ∀ k, k < L → k ≠ i → k ≠ j →
      splitDist Sg i k - splitDist Sg j k = splitDist Sg i z - splitDist Sg j z := by
    intro k hk hki hkj
    unfold splitDist
    rw [← wsum_sub, ← wsum_sub]
    apply wsum_congr_pos Sg _ _ hS.nonneg
    intro S hSm hw
    show sep S.2 i k - sep S.2 j k = sep S.2 i z - sep S.2 j z
    unfold sep
    by_cases hsep : S.2 i = S.2 j
    · rw [hsep, sub_self, sub_self]
    · rw [notSep_others L Sg i j hi hj hns S hSm hw hsep k z hk hz hki hkj hzi hzj]
  have t := splitDist_triangle Sg hS.nonneg
  refine ⟨(splitDist Sg i j + (splitDist Sg i z - splitDist Sg j z)) / 2,
    (splitDist Sg i j - (splitDist Sg i z - splitDist Sg j z)) / 2,
    fun k => splitDist Sg i k - (splitDist Sg i j + (splitDist Sg i z - splitDist Sg j z)) / 2,
    hij, hi, hj, ?_, ?_, ?_, ?_, ?_⟩
  · have := sub_nonneg.2 (t j i z)
    rw [splitDist_symm Sg j i, add_sub_assoc] at this
    exact div_nonneg this zero_le_two
  · exact div_nonneg (sub_nonneg.2 (sub_le_iff_le_add.2 (t i j z))) zero_le_two
  · rw [hd i j hi hj]; ring
  · intro k hk _ _
    rw [hd i k hi hk]; ring
  · intro k hk hki hkj
    rw [hd j k hj hk, ← hdiff k hk hki hkj]; ring

/-- the Q-criterion as the code computes it (up to the pair-independent terms of the score matrix):
`d[a,b] − (r[a] + r[b]) / (L − 2)` -/
def qCrit (d : Mat) (L a b : Nat) : Rat := get d a b - (colSum d L a + colSum d L b) / ((L : Rat) - 2)

/-- **`nj_selects_cherry` (Studier–Keppler)**: on the path metric of a tree with non-negative branch lengths on
`L ≥ 4` leaves, EVERY off-diagonal minimiser of the Q-criterion is a pair of neighbours: it is not separated by
any positive internal branch (with `cherry_of_notSep`: a cherry of the metric) -/
theorem minQ_notSep (L : Nat) (hL : 3 < L) (Sg : WSplits) (hS : SplitSystem L Sg) (d : Mat)
    (hd : ∀ a b, a < L → b < L → get d a b = splitDist Sg a b) (i j : Nat) (hi : i < L) (hj : j < L)
    (hmin : ∀ x y, x < L → y < L → x ≠ y → qCrit d L i j ≤ qCrit d L x y) : NotSep L Sg i j := by
  have hpos : (0 : Rat) < (L : Rat) - 2 := sub_pos.2 (by exact_mod_cast (by omega : 2 < L))
  -- `(L - 2) · Q = -2 · F`, so a minimiser of `Q` maximises `F`
  have hq : ∀ a b, a < L → b < L → ((L : Rat) - 2) * qCrit d L a b = -2 * FS L Sg a b := by
    intro a b ha hb
    unfold qCrit
    rw [mul_sub, mul_div_cancel₀ _ (ne_of_gt hpos), ← qn_eq L Sg d hd a b ha hb]; ring
  apply argmax_notSep L Sg hS i j hi hj
  intro m n hm hn hmn
  have h := mul_le_mul_of_nonneg_left (hmin m n hm hn hmn) hpos.le
  rw [hq i j hi hj, hq m n hm hn] at h
  exact (mul_le_mul_left_of_neg (by norm_num : (-2 : Rat) < 0)).1 h

end CogentModel.NJ
