import CogentModel.Model.AnnotDb
/-! A db is its tables under the names of its class (`Db.WF`).  Appending rows to a named table adds exactly these rows
(`tables_add_perm`), so `update` and `union`, which append table by table, keep the records as a multiset. -/
namespace CogentModel.AnnotDb

/-- representation invariant: table names are those of the class, in order -/
def Db.WF (db : Db) : Prop := db.tables.map (·.1) = tableNames db.kind

theorem wf_basic {db : Db} (h : db.WF) (hk : db.kind = .basic) : ∃ u, db.tables = [("user", u)] :=
  match hT : db.tables, h.trans (congrArg tableNames hk) with
  | [(_, u)], h => ⟨u, by cases h; rfl⟩

theorem tables_of_pair {ts : List (String × List Rec)} {a b : String} (h : ts.map (·.1) = [a, b]) :
    ∃ g u, ts = [(a, g), (b, u)] :=
  match ts, h with
  | [(_, g), (_, u)], h => ⟨g, u, by cases h; rfl⟩

theorem wf_gff {db : Db} (h : db.WF) (hk : db.kind = .gff) : ∃ g u, db.tables = [("gff", g), ("user", u)] :=
  tables_of_pair (h.trans (congrArg tableNames hk))

theorem wf_gb {db : Db} (h : db.WF) (hk : db.kind = .genbank) : ∃ g u, db.tables = [("gb", g), ("user", u)] :=
  tables_of_pair (h.trans (congrArg tableNames hk))

theorem Db.WF.mem_names {db : Db} (h : db.WF) {x : String × List Rec} (hx : x ∈ db.tables) :
    x.1 ∈ tableNames db.kind :=
  h ▸ List.mem_map_of_mem hx

theorem records_nil_of_len {db : Db} (h : db.len = 0) : db.records = [] :=
  List.eq_nil_of_length_eq_zero h

theorem empty_wf (k : Kind) : (Db.empty k).WF := by
  simp [Db.WF, Db.empty, Function.comp_def]

theorem empty_records (k : Kind) : (Db.empty k).records = [] := by
  simp [Db.records, Db.empty, List.flatMap_map]

theorem tableNames_nodup (k : Kind) : (tableNames k).Nodup := by
  cases k <;> decide

/-- Appending rows to the table called `t`, among tables with distinct names one of which is `t`, adds
exactly these rows. -/
theorem tables_add_perm (ts : List (String × List Rec)) (t : String) (rs : List Rec)
    (hnd : (ts.map (·.1)).Nodup) (ht : t ∈ ts.map (·.1)) :
    ((ts.map fun x => if x.1 = t then (x.1, x.2 ++ rs) else x).flatMap (·.2)).Perm (ts.flatMap (·.2) ++ rs) := by
  induction ts with
  | nil => cases ht
  | cons x xs ih =>
    simp only [List.map_cons, List.nodup_cons, List.mem_cons] at hnd ht
    simp only [List.map_cons, List.flatMap_cons, List.append_assoc]
    by_cases hx : x.1 = t
    · -- no later table is called `t`
      have hxs : (xs.map fun y => if y.1 = t then (y.1, y.2 ++ rs) else y) = xs :=
        (List.map_congr_left fun y hy => if_neg fun (e : y.1 = t) => hnd.1 (by rw [hx, ← e]; exact List.mem_map_of_mem hy)).trans
          (List.map_id' xs)
      rw [if_pos hx, hxs, List.append_assoc]
      exact List.perm_append_comm.append_left x.2
    · rw [if_neg hx]
      exact (ih hnd.2 (ht.resolve_left (Ne.symm hx))).append_left x.2

theorem addToTable_wf (d : Db) (t : String) (rs : List Rec) (h : d.WF) : (addToTable d t rs).WF := by
  unfold Db.WF addToTable at *
  rw [← h, List.map_map]
  exact List.map_congr_left fun x _ => by simp only [Function.comp]; split <;> rfl

theorem addToTable_records (d : Db) (t : String) (rs : List Rec) (h : d.WF) (ht : t ∈ tableNames d.kind) :
    (addToTable d t rs).records.Perm (d.records ++ rs) :=
  tables_add_perm d.tables t rs (h.symm ▸ tableNames_nodup d.kind) (h.symm ▸ ht)

/-- `_update_db_from_other_db` and `_update_db_from_rich_dict`: tables that the class has are appended one by
one (`f`: the selection made from each). -/
theorem foldl_addToTable (f : List Rec → List Rec) (ts : List (String × List Rec)) (d : Db) (h : d.WF)
    (hts : ∀ x ∈ ts, x.1 ∈ tableNames d.kind) :
    let r := ts.foldl (fun acc x => addToTable acc x.1 (f x.2)) d
    r.WF ∧ r.kind = d.kind ∧ r.records.Perm (d.records ++ ts.flatMap fun x => f x.2) := by
  induction ts generalizing d with
  | nil => exact ⟨h, rfl, by simp⟩
  | cons x xs ih =>
    obtain ⟨w, k, p⟩ := ih (addToTable d x.1 (f x.2)) (addToTable_wf d _ _ h)
      fun y hy => hts y (List.mem_cons_of_mem _ hy)
    refine ⟨w, k, ?_⟩
    simp only [List.foldl_cons, List.flatMap_cons, ← List.append_assoc]
    exact p.trans ((addToTable_records d _ _ h (hts x List.mem_cons_self)).append_right _)

theorem perm_of_count {l₁ l₂ : List Rec} (h : ∀ a, l₁.count a = l₂.count a) : l₁.Perm l₂ :=
  List.perm_iff_count.mpr h

theorem update_perm (self other : Db) (seqids : Option CondVal) (d : Db)
    (hs : self.WF) (ho : other.WF) (h : update self other seqids = .ok d) :
    d.WF ∧ d.kind = self.kind ∧ d.records.Perm (self.records ++ other.records.filter (seqidCond seqids)) := by
  unfold update at h
  split at h
  · cases h
  · rename_i hc
    split at h
    · rename_i hl
      cases h
      refine ⟨hs, rfl, ?_⟩
      rw [records_nil_of_len hl]; simp
    · cases h
      -- `compatible`: every table of `other` is one of `self`
      have hsub : subsetOf (tableNames other.kind) (tableNames self.kind) = true := by simpa [compatible] using hc
      have := foldl_addToTable (List.filter (seqidCond seqids)) other.tables self hs fun x hx =>
        List.contains_iff_mem.mp (List.all_eq_true.mp hsub _ (ho.mem_names hx))
      rwa [← List.filter_flatMap] at this

theorem filter_seqidCond_none (l : List Rec) : l.filter (seqidCond none) = l := by
  simp [seqidCond]

theorem update_none_perm (self other d : Db) (hs : self.WF) (ho : other.WF)
    (h : update self other none = .ok d) :
    d.WF ∧ d.kind = self.kind ∧ d.records.Perm (self.records ++ other.records) := by
  have := update_perm self other none d hs ho h
  rwa [filter_seqidCond_none] at this

/-- both branches of `union`: into an empty db of either class go the tables of `self`, then those of `other` -/
theorem union_via (k : Kind) (self other d : Db) (hs : self.WF) (ho : other.WF)
    (h : (do let d ← update (Db.empty k) self none; update d other none) = Except.ok d) :
    d.WF ∧ d.records.Perm (self.records ++ other.records) := by
  cases h1 : update (Db.empty k) self none with
  | error e => rw [h1] at h; cases h
  | ok d1 =>
    rw [h1] at h
    obtain ⟨w1, _, p1⟩ := update_none_perm _ _ _ (empty_wf k) hs h1
    obtain ⟨w2, _, p2⟩ := update_none_perm _ _ _ w1 ho h
    rw [empty_records, List.nil_append] at p1
    exact ⟨w2, p2.trans (p1.append_right _)⟩

theorem union_perm_aux (self other d : Db) (hs : self.WF) (ho : other.WF) (h : union self other = .ok d) :
    d.WF ∧ d.records.Perm (self.records ++ other.records) := by
  unfold union at h
  split at h
  · rename_i hl
    cases h
    exact ⟨hs, by rw [records_nil_of_len hl, List.append_nil]⟩
  · simp only [] at h
    split at h
    · exact union_via _ _ _ _ hs ho h
    · split at h
      · exact union_via _ _ _ _ hs ho h
      · cases h

instance (db : Db) : Decidable db.WF := by unfold Db.WF; infer_instance
end CogentModel.AnnotDb
