import CogentModel.Proofs.IndelMapTrips
/-! The arrays of `_gap_spans` (gap starts and ends in alignment coordinates) of a well-formed map: what they hold at
an index, that the ends increase strictly, where the last gap ends; `shared_gaps` on the zipped arrays
(`get_gap_align_coordinates`) is `coords_intersect` wherever its assertions hold (`sharedGaps_eq`). -/
namespace CogentModel.IndelMap
open CogentModel.Gapped List

/-- gap `k` in alignment coordinates: it starts at its position plus the cumulative length before it, ends at its
position plus its own cumulative length, and is not empty -/
theorem gapSpans_at (gp cum : List Int) (pp pc : Int) (h : Inc pp pc gp cum) (k : Nat) (hk : k < gp.length) :
    getN (startsFrom pc gp cum) k = getN gp k + getN (pc :: cum) k ∧
    getN (gapEnds gp cum) k = getN gp k + getN cum k ∧ getN (pc :: cum) k < getN cum k := by
  fun_induction Inc pp pc gp cum generalizing k with
  | case1 pp pc p ps c cs ih =>
    cases k with
    | zero => exact ⟨rfl, rfl, h.2.1⟩
    | succ k => exact ih h.2.2 k (Nat.lt_of_succ_lt_succ hk)
  | case2 => cases hk
  | case3 => exact h.elim

theorem lastOr_gapEnds (gp cum : List Int) (dp dc : Int) (hl : gp.length = cum.length) :
    lastOr (dp + dc) (gapEnds gp cum) = lastOr dp gp + lastOr dc cum := by
  fun_induction gapEnds gp cum generalizing dp dc with
  | case1 p ps c cs ih => exact ih p c (by simpa using hl)
  | case2 gp cum h => obtain ⟨rfl, rfl⟩ := nil_of_not_cons h hl; rfl

theorem lastD_gapEnds (gp cum : List Int) (hl : gp.length = cum.length) (hne : gp ≠ []) :
    lastD (gapEnds gp cum) = lastD gp + lastD cum := by
  match gp, cum, hl, hne with
  | [], _, _, hne => exact absurd rfl hne
  | _ :: _, [], hl, _ => simp at hl
  | p :: ps, c :: cs, hl, _ =>
    show lastD ((p + c) :: gapEnds ps cs) = _
    rw [lastD_cons, lastD_cons, lastD_cons]
    exact lastOr_gapEnds ps cs p c (by simpa using hl)

theorem gapEnds_length (gp cum : List Int) (hl : gp.length = cum.length) :
    (gapEnds gp cum).length = gp.length := by
  fun_induction gapEnds gp cum with
  | case1 p ps c cs ih => simp only [length_cons, ih (by simpa using hl)]
  | case2 gp cum h => rw [(nil_of_not_cons h hl).1]

theorem inc_ends_gt (gp cum : List Int) (pp pc : Int) (h : Inc pp pc gp cum) :
    ∀ x ∈ gapEnds gp cum, pp + pc < x := by
  fun_induction Inc pp pc gp cum with
  | case1 pp pc p ps c cs ih =>
    obtain ⟨h1, h2, h3⟩ := h
    intro x hx
    simp only [gapEnds, List.mem_cons] at hx
    rcases hx with rfl | hx
    · omega
    · have := ih h3 x hx; omega
  | case2 => intro x hx; cases hx
  | case3 => exact h.elim

theorem inc_ends_pairwise (gp cum : List Int) (pp pc : Int) (h : Inc pp pc gp cum) :
    (gapEnds gp cum).Pairwise (· < ·) := by
  fun_induction Inc pp pc gp cum with
  | case1 pp pc p ps c cs ih =>
    obtain ⟨_, h2, h3⟩ := h
    exact pairwise_cons.mpr ⟨fun x hx => by have := inc_ends_gt _ _ _ _ h3 x hx; omega, ih h3⟩
  | case2 => exact Pairwise.nil
  | case3 => exact h.elim

theorem coordsIntersect_nil (c : List (Int × Int)) : coordsIntersect c [] = .ok [] := by
  induction c with
  | nil => rfl
  | cons a r ih => simp only [coordsIntersect, intersectInner, ih, append_nil]

/-- where neither assertion of `shared_gaps` fires it is `coords_intersect` of the two lists of gap runs: the early returns
give `[]` where one of the lists is empty, and so does `coords_intersect` -/
theorem sharedGaps_eq (a b : IMap) (hl : len a = len b) (hle : ∀ q ∈ getGapAlignCoordinates b, q.2 ≤ len a) :
    sharedGaps a b = coordsIntersect (getGapAlignCoordinates a) (getGapAlignCoordinates b) := by
  have hnil : ∀ m : IMap, m.gapPos = [] → getGapAlignCoordinates m = [] := fun m hm => by
    simp [getGapAlignCoordinates, gapStarts, hm, startsFrom]
  simp only [sharedGaps, hl, ne_eq, not_true_eq_false, if_false]
  by_cases he : a.gapPos = [] ∨ b.gapPos = []
  · rw [if_pos he]
    rcases he with he | he
    · rw [hnil a he]; rfl
    · rw [hnil b he, coordsIntersect_nil]
  · rw [if_neg he]
    cases hlast : (getGapAlignCoordinates b).getLast? with
    | none => rw [getLast?_eq_none_iff.mp hlast, coordsIntersect_nil]
    | some l =>
      have := hle l (mem_of_getLast? hlast)
      simp only []
      rw [if_neg (by omega)]

end CogentModel.IndelMap
