import CogentModel.Proofs.IndelMapPattern
/-! `nucleic_reversed`: the mirrored gap list reads as the reversed pattern. -/
namespace CogentModel.IndelMap
open CogentModel.Gapped List CogentModel

/-- mirror image of the gaps of a sequence of `pl` residues -/
def mirrorG (pl : Int) (G : List (Int × Int)) : List (Int × Int) := (G.map fun g => (pl - g.1, g.2)).reverse

theorem patG_reverse (G : List (Int × Int)) : ∀ (next pl : Int),
    (patG next G pl).reverse = patG 0 (mirrorG pl G) (pl - next) := by
  induction G with
  | nil => intro next pl; simp [patG, mirrorG]
  | cons t r ih =>
    intro next pl
    obtain ⟨p, l⟩ := t
    simp only [patG, reverse_append, reverse_replicate, mirrorG, map_cons, reverse_cons]
    have := ih p pl
    simp only [mirrorG] at this
    rw [this, patG_snoc]
    have a1 : pl - next - (pl - p) = p - next := by omega
    have a2 : pl - p - 0 = pl - p := by omega
    rw [a1, append_assoc]

theorem zip_reverse_eq {α β} : ∀ (xs : List α) (ys : List β), xs.length = ys.length →
    zip xs.reverse ys.reverse = (zip xs ys).reverse := by
  intro xs
  induction xs with
  | nil => intro ys h; cases ys <;> simp at h ⊢
  | cons x r ih =>
    intro ys h
    cases ys with
    | nil => simp at h
    | cons y s =>
      simp only [length_cons, Nat.add_right_cancel_iff] at h
      simp only [reverse_cons, zip_cons_cons]
      rw [zip_append (by simp [h]), ih s h]
      simp

/-- the arrays `nucleic_reversed` builds are well formed and show the mirrored gaps -/
theorem reversed_wf (m : IMap) (h : WF m) :
    WF ⟨(m.gapPos.map (m.parentLength - ·)).reverse, cumsum (gapLengths m.cumLens).reverse, m.parentLength⟩ ∧
    pattern (abs ⟨(m.gapPos.map (m.parentLength - ·)).reverse, cumsum (gapLengths m.cumLens).reverse, m.parentLength⟩) =
      patG 0 (zip (m.gapPos.map (m.parentLength - ·)).reverse (gapLengths m.cumLens).reverse) m.parentLength :=
  ofLengths_spec (m.gapPos.map (m.parentLength - ·)).reverse (gapLengths m.cumLens).reverse
    m.parentLength (by simp [gapLengths, diffsFrom_length, h.len_eq])
    (pairwise_reverse.mpr (h.pos_sorted.map _ (fun a b hab => by omega)))
    (fun l hl => diffsFrom_pos m.cumLens 0 h.cum_sorted l (mem_reverse.mp hl))
    (fun q hq => by
      obtain ⟨p, hp, rfl⟩ := mem_map.mp (mem_reverse.mp hq)
      have := h.pos_range p hp
      exact ⟨by omega, by omega⟩) h.pl_nonneg

theorem nucleicReversed_ok (m : IMap) (h : WF m) :
    nucleicReversed m = .ok ⟨(m.gapPos.map (m.parentLength - ·)).reverse,
      cumsum (gapLengths m.cumLens).reverse, m.parentLength⟩ :=
  wf_mk_ok _ (reversed_wf m h).1

/-- **`nucleic_reversed` is the map of the reversed string**, and is well formed -/
theorem reversed_spec' (m : IMap) (h : WF m) (r : IMap) (hr : nucleicReversed m = .ok r) :
    WF r ∧ abs r = Gapped.reversed (abs m) := by
  rw [nucleicReversed_ok m h] at hr
  cases hr
  obtain ⟨hwf, hp⟩ := reversed_wf m h
  refine ⟨hwf, ?_⟩
  rw [abs_eq_ofPattern _ hwf, hp, Gapped.reversed, pattern_abs_G, patG_reverse, Int.sub_zero, mirrorG,
    zip_reverse_eq _ _ (by simp [gapLengths, diffsFrom_length, h.len_eq]), zip_map_left]
  rfl

end CogentModel.IndelMap
