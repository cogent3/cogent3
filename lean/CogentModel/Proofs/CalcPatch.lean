import CogentModel.Model.Calculator
/-! # C07 — optimiser vectors and change lists

`patch x l` applies a change list to a vector.  `ValidCh`: the change lists `testoptparvector` produces (`diffVec_valid`);
for those, patching is determined entry by entry (`patch_val`), the undo list restores the vector (`patch_changed`), the
undo block of `change` does not alter where a call ends (`afterUndo_patch`), and `diffVec` leads to the requested vector
(`patch_diffVec`).  Nothing here mentions the cell graph beyond `nOpt`. -/
namespace CogentModel.Calc
variable {V : Type} [Inhabited V]

theorem patch_cons (x : Nat → V) (p : Nat × V) (l : List (Nat × V)) :
    patch x (p :: l) = patch (upd x p.1 p.2) l := rfl

theorem patch_not_mem (i : Nat) : ∀ (l : List (Nat × V)) (x : Nat → V),
    i ∉ l.map Prod.fst → patch x l i = x i := by
  intro l
  induction l with
  | nil => intro x _; rfl
  | cons p l ih =>
    intro x h
    simp only [List.map_cons, List.mem_cons, not_or] at h
    rw [patch_cons, ih _ h.2]
    simp [upd, h.1]

theorem patch_val (j : Nat) (v : V) : ∀ (l : List (Nat × V)) (x : Nat → V),
    (∀ v', (j, v') ∈ l → v' = v) → (x j = v ∨ ∃ v', (j, v') ∈ l) → patch x l j = v := by
  intro l
  induction l with
  | nil =>
    intro x _ h
    rcases h with h | ⟨v', h⟩
    · exact h
    · simp at h
  | cons p l ih =>
    intro x hu h
    rw [patch_cons]
    apply ih
    · intro v' hv'; exact hu v' (by simp [hv'])
    · by_cases hp : p.1 = j
      · left
        have : p.2 = v := hu p.2 (by rw [← hp]; simp)
        simp [upd, hp, this]
      · rcases h with h | ⟨v', h⟩
        · left; simp [upd, Ne.symm hp, h]
        · right
          refine ⟨v', ?_⟩
          rcases List.mem_cons.1 h with h | h
          · exfalso; apply hp; rw [← h]
          · exact h

/-- patching with the old values of the changed positions undoes the change -/
theorem patch_changed (x : Nat → V) (ch : List (Nat × V)) :
    patch (patch x ch) (ch.map (fun p => (p.1, x p.1))) = x := by
  funext j
  by_cases h : j ∈ ch.map Prod.fst
  · obtain ⟨p, hp, rfl⟩ := List.mem_map.1 h
    refine patch_val _ _ _ _ (fun v' hv' => ?_) (Or.inr ⟨x p.1, List.mem_map.2 ⟨p, hp, rfl⟩⟩)
    obtain ⟨q, _, hq⟩ := List.mem_map.1 hv'
    rw [← (Prod.mk.inj hq).2, (Prod.mk.inj hq).1]
  · rw [patch_not_mem j _ _ (by rwa [List.map_map]), patch_not_mem j ch x h]

theorem nodup_unique : ∀ (l : List (Nat × V)), (l.map Prod.fst).Nodup →
    ∀ j v v', (j, v) ∈ l → (j, v') ∈ l → v = v' := by
  intro l
  induction l with
  | nil => intro _ j v v' h; simp at h
  | cons p l ih =>
    intro hnd j v v' h1 h2
    simp only [List.map_cons, List.nodup_cons] at hnd
    rcases List.mem_cons.1 h1 with h1 | h1 <;> rcases List.mem_cons.1 h2 with h2 | h2
    · rw [← h2] at h1; exact (Prod.mk.inj h1).2
    · exfalso; apply hnd.1; rw [← h1]; exact List.mem_map.2 ⟨(j, v'), h2, rfl⟩
    · exfalso; apply hnd.1; rw [← h2]; exact List.mem_map.2 ⟨(j, v), h1, rfl⟩
    · exact ih hnd.2 j v v' h1 h2

/-- change lists as `testoptparvector` produces them: optimiser-parameter indices, each at most once -/
def ValidCh (g : Graph V) (ch : List (Nat × V)) : Prop :=
  (∀ p, p ∈ ch → p.1 < g.nOpt) ∧ (ch.map Prod.fst).Nodup

theorem afterUndo_patch [DecidableEq V] (s : St V) (ch : List (Nat × V)) (hnd : (ch.map Prod.fst).Nodup) (j : Nat) :
    patch (afterUndo s ch).1.lastValues (afterUndo s ch).2 j = patch s.lastValues ch j := by
  unfold afterUndo
  split
  · rename_i hu
    simp only []
    have hsub : ∀ p, p ∈ s.lastUndo → p ∈ ch := by
      intro p hp
      simp only [undoApplies, Bool.and_eq_true, List.all_eq_true] at hu
      simpa using hu.2 p hp
    by_cases hex : ∃ v, (j, v) ∈ ch
    · obtain ⟨v, hv⟩ := hex
      have huniq : ∀ v', (j, v') ∈ ch → v' = v := fun v' h => nodup_unique ch hnd j v' v h hv
      rw [patch_val j v ch s.lastValues huniq (Or.inr ⟨v, hv⟩)]
      apply patch_val
      · intro v' h; exact huniq v' (List.mem_filter.1 h).1
      · by_cases hU : (j, v) ∈ s.lastUndo
        · left
          apply patch_val
          · intro v' h; exact huniq v' (hsub _ h)
          · exact Or.inr ⟨v, hU⟩
        · right
          refine ⟨v, List.mem_filter.2 ⟨hv, ?_⟩⟩
          simpa using hU
    · -- no list made of entries of `ch` assigns `j`
      have key : ∀ l : List (Nat × V), (∀ p, p ∈ l → p ∈ ch) → j ∉ l.map Prod.fst := by
        intro l hl h
        obtain ⟨p, hp, hpj⟩ := List.mem_map.1 h
        exact hex ⟨p.2, hpj ▸ hl p hp⟩
      rw [patch_not_mem j _ _ (key _ fun p hp => (List.mem_filter.1 hp).1), patch_not_mem j _ _ (key _ hsub),
        patch_not_mem j _ _ (key ch fun _ hp => hp)]
  · rfl

/-- the indices `testoptparvector` changes are a sublist of the optimiser-parameter ranks -/
theorem diffVec_fst_sublist [DecidableEq V] (g : Graph V) (s : St V) (values : List V) :
    ((diffVec g s values).map Prod.fst).Sublist (List.range g.nOpt) := by
  unfold diffVec
  generalize List.range g.nOpt = l
  induction l with
  | nil => exact .slnil
  | cons a l ih =>
    by_cases h : s.lastValues a = values.getD a default
    · simp only [List.filterMap_cons, h, if_true]; exact ih.cons a
    · simp only [List.filterMap_cons, h, if_false, List.map_cons]; exact ih.cons_cons a

theorem diffVec_valid [DecidableEq V] (g : Graph V) (s : St V) (values : List V) : ValidCh g (diffVec g s values) :=
  ⟨fun _ hp => List.mem_range.1 ((diffVec_fst_sublist g s values).subset (List.mem_map_of_mem hp)),
   List.nodup_range.sublist (diffVec_fst_sublist g s values)⟩

theorem patch_diffVec [DecidableEq V] (g : Graph V) (s : St V) (values : List V) (j : Nat) (hj : j < g.nOpt) :
    patch s.lastValues (diffVec g s values) j = values.getD j default := by
  by_cases he : s.lastValues j = values.getD j default
  · rw [patch_not_mem, he]
    intro h
    obtain ⟨p, hp, hpj⟩ := List.mem_map.1 h
    obtain ⟨i, _, hi⟩ := List.mem_filterMap.1 hp
    split at hi
    · cases hi
    · rename_i hne
      cases hi
      simp only [] at hpj
      subst hpj
      exact hne he
  · apply patch_val
    · intro v' h
      obtain ⟨i, _, hi⟩ := List.mem_filterMap.1 h
      split at hi
      · cases hi
      · cases hi; rfl
    · right
      refine ⟨values.getD j default, List.mem_filterMap.2 ⟨j, by simpa using hj, ?_⟩⟩
      exact if_neg he

end CogentModel.Calc
