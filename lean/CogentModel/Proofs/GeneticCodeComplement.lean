import CogentModel.Proofs.GeneticCodeTable
import CogentModel.Proofs.SeqWrap
/-!
The complement tables of the four molecular types on every character, reverse complement as an involution, and
`rc()` of sequence objects (C01's wrapper model).
-/
namespace CogentModel.GC
open CogentModel.C12Tables

/-- a table applied with "not a key: unchanged" (`str.translate`, `bytes.translate`) that is an involution on its keys
is one on EVERYTHING: the keys are closed under it, and every other value is left alone -/
theorem dictGet_invol_all {α} [DecidableEq α] {kvs : List (α × α)}
    (hk : ∀ k ∈ kvs.map Prod.fst, dictGet kvs (dictGet kvs k k) (dictGet kvs k k) = k) (x : α) :
    dictGet kvs (dictGet kvs x x) (dictGet kvs x x) = x := by
  by_cases hx : x ∈ kvs.map Prod.fst
  · exact hk x hx
  · rw [dictGet_not_mem _ _ _ hx, dictGet_not_mem _ _ _ hx]

theorem old_compl_invol_all (mt : MT)
    (hk : ∀ k ∈ mt.compl.map Prod.fst, oldComplChar mt (oldComplChar mt k) = k) (x : Char) :
    oldComplChar mt (oldComplChar mt x) = x :=
  dictGet_invol_all hk x

theorem new_compl_invol_all (mt : MT)
    (hk : ∀ k ∈ newDegenGapped mt, newComplChar mt (newComplChar mt k) = k) (x : Char) :
    newComplChar mt (newComplChar mt x) = x :=
  dictGet_invol_all (fun k hkm => hk k (by simpa [List.map_map, Function.comp_def] using hkm)) x

/-- complementing, reversing, and doing both again gives the text back when complementing twice does -/
theorem rc_rc_of_invol {f : Char → Char} {s : List Char} (h : ∀ c ∈ s, f (f c) = c) :
    ((s.map f).reverse.map f).reverse = s := by
  rw [List.map_reverse, List.reverse_reverse, List.map_map]
  conv => rhs; rw [← List.map_id s]
  exact List.map_congr_left h

theorem compl_keys_invol :
    (∀ k ∈ oldDna.compl.map Prod.fst, oldComplChar oldDna (oldComplChar oldDna k) = k) ∧
    (∀ k ∈ oldRna.compl.map Prod.fst, oldComplChar oldRna (oldComplChar oldRna k) = k) ∧
    (∀ k ∈ newDegenGapped newDna, newComplChar newDna (newComplChar newDna k) = k) ∧
    (∀ k ∈ newDegenGapped newRna, newComplChar newRna (newComplChar newRna k) = k) := by decide +kernel

/-- the complement tables of all four molecular types are involutions on EVERY character (`compl_keys_invol` on the
keys, unchanged elsewhere) -/
theorem compl_invol_all :
    (∀ x, oldComplChar oldDna (oldComplChar oldDna x) = x) ∧ (∀ x, oldComplChar oldRna (oldComplChar oldRna x) = x) ∧
    (∀ x, newComplChar newDna (newComplChar newDna x) = x) ∧ (∀ x, newComplChar newRna (newComplChar newRna x) = x) :=
  ⟨old_compl_invol_all _ compl_keys_invol.1, old_compl_invol_all _ compl_keys_invol.2.1,
    new_compl_invol_all _ compl_keys_invol.2.2.1, new_compl_invol_all _ compl_keys_invol.2.2.2⟩

/-- for a complement that is an involution on every character, `rc()` of a sequence object displays the reversed
complemented display, and `rc().rc()` the original display -/
theorem seq_rc_of_invol (f : Char → Char) (hf : ∀ x, f (f x) = x) (s : SeqWrap.Seq) (h : SeqWrap.WF s)
    (hn : s.nucleic = true) :
    SeqWrap.str f (SeqWrap.rc s) = ((SeqWrap.str f s).map f).reverse ∧
    SeqWrap.str f (SeqWrap.rc (SeqWrap.rc s)) = SeqWrap.str f s :=
  ⟨by rw [SeqWrap.str_rc' _ hf s h hn, SeqWrap.specRc, List.map_reverse], SeqWrap.rc_rc' _ hf s h hn⟩

/-- sequence OBJECT level: the string displayed by `seq.rc()` is the moltype-level reverse complement of the string
displayed by `seq`, for any view (sliced, strided, already reversed), and `rc().rc()` displays the original -/
theorem seq_rc_old (mt : MT) (hk : ∀ k ∈ mt.compl.map Prod.fst, oldComplChar mt (oldComplChar mt k) = k)
    (s : SeqWrap.Seq) (h : SeqWrap.WF s) (hn : s.nucleic = true) :
    SeqWrap.str (oldComplChar mt) (SeqWrap.rc s) = oldRc mt (SeqWrap.str (oldComplChar mt) s) ∧
    SeqWrap.str (oldComplChar mt) (SeqWrap.rc (SeqWrap.rc s)) = SeqWrap.str (oldComplChar mt) s :=
  seq_rc_of_invol _ (old_compl_invol_all mt hk) s h hn

end CogentModel.GC
