import CogentModel.Model.Calculator
import CogentModel.Proofs.ListGetD
/-! # C07 — a coherent assignment of cell values is the fresh evaluation

`Coh g c x`: every cell of `c` holds what its definition gives from the cells below it, at optimiser vector `x`.  Such an
assignment is unique (`coh_agree`), it is what `evalFresh g x` returns (`coh_evalFresh`, `evalFresh_coh`), and it reads
only the optimiser-parameter entries of `x` (`evalFresh_congr_opt`).  Nothing here mentions the two buffers. -/
namespace CogentModel.Calc
open CogentModel.ListGetD (getD_map_range_of_lt)
variable {V : Type} [Inhabited V]

/-- cell `k` of the value assignment `c` is what its definition says, at optimiser vector `x` -/
def CohAt (g : Graph V) (c : Nat → V) (x : Nat → V) (k : Nat) : Prop :=
  match g.cell k with
  | .opt t => c k = t (x k)
  | .const v => c k = v
  | .eval _ args f => f (args.map c) = some (c k)

/-- `c` is a complete, consistent evaluation of the graph at `x` -/
def Coh (g : Graph V) (c : Nat → V) (x : Nat → V) : Prop := ∀ k, k < g.n → CohAt g c x k

theorem cohAt_eval {g : Graph V} {k : Nat} {r : Bool} {args : List Nat} {f : List V → Option V}
    (hc : g.cell k = .eval r args f) (c x : Nat → V) : CohAt g c x k ↔ f (args.map c) = some (c k) := by
  simp only [CohAt, hc]

theorem map_args_congr {g : Graph V} {k : Nat} {r : Bool} {args : List Nat} {f : List V → Option V}
    (hc : g.cell k = .eval r args f) {c c' : Nat → V} (h : ∀ a, a ∈ (g.cell k).args → c' a = c a) :
    args.map c' = args.map c :=
  List.map_congr_left fun a ha => h a (by simp [hc, Cell.args, ha])

theorem CohAt.congr {g : Graph V} {c c' x x' : Nat → V} {k : Nat}
    (h : CohAt g c x k) (hk : c' k = c k) (ha : ∀ a, a ∈ (g.cell k).args → c' a = c a)
    (hx : (g.cell k).isOpt = true → x' k = x k) : CohAt g c' x' k := by
  unfold CohAt at *
  cases hc : g.cell k with
  | opt t => simp [hc] at h hx ⊢; simp [Cell.isOpt] at hx; rw [hk, hx, h]
  | const v => simp [hc] at h ⊢; rw [hk, h]
  | eval r args f =>
    simp [hc] at h ⊢
    rw [map_args_congr hc ha, hk, h]

theorem CohAt.unique {g : Graph V} {c1 c2 x : Nat → V} {k : Nat} (h1 : CohAt g c1 x k) (h2 : CohAt g c2 x k)
    (ha : ∀ a, a ∈ (g.cell k).args → c1 a = c2 a) : c1 k = c2 k := by
  unfold CohAt at h1 h2
  cases hc : g.cell k with
  | opt t => rw [hc] at h1 h2; exact h1.trans h2.symm
  | const v => rw [hc] at h1 h2; exact h1.trans h2.symm
  | eval r args f =>
    rw [hc] at h1 h2
    simp only [] at h1 h2
    rw [map_args_congr hc ha] at h1
    exact Option.some.inj (h1.symm.trans h2)

theorem cohAt_opt {g : Graph V} {k : Nat} (h : (g.cell k).isOpt = true) (c x : Nat → V) :
    CohAt g c x k ↔ c k = g.tr k (x k) := by
  unfold CohAt Graph.tr
  cases hc : g.cell k <;> simp_all [Cell.isOpt]

/-- no cell outside `rest` reads a cell of `rest` -/
def ArgsDone (g : Graph V) (rest : List Nat) : Prop :=
  ∀ k, k < g.n → k ∉ rest → ∀ a, a ∈ (g.cell k).args → a ∉ rest

/-- two assignments that are coherent outside `L` (one of them everywhere) agree outside `L` -/
theorem coh_agree (g : Graph V) (hwf : g.WF) (x : Nat → V) (c1 c2 : Nat → V) (L : List Nat)
    (hAD : ArgsDone g L) (hP : ∀ k, k < g.n → k ∉ L → CohAt g c1 x k) (hc : Coh g c2 x) :
    ∀ k, k < g.n → k ∉ L → c1 k = c2 k := by
  intro k
  induction k using Nat.strongRecOn with
  | _ k ih =>
    intro hk hkL
    exact (hP k hk hkL).unique (hc k hk) fun a ha =>
      ih a (hwf.1 k hk a ha) (Nat.lt_trans (hwf.1 k hk a ha) hk) (hAD k hk hkL a ha)

theorem drop_cons {g : Graph V} {m : Nat} {cell : Cell V} {cs : List (Cell V)} (h : g.cells.drop m = cell :: cs) :
    m < g.n ∧ g.cell m = cell ∧ g.cells.drop (m + 1) = cs := by
  have hlen : m < g.cells.length := by
    rcases Nat.lt_or_ge m g.cells.length with h' | h'
    · exact h'
    · rw [List.drop_eq_nil_iff.2 h'] at h; cases h
  rw [List.drop_eq_getElem_cons hlen] at h
  refine ⟨hlen, ?_, (List.cons.inj h).2⟩
  rw [← (List.cons.inj h).1]
  simp [Graph.cell, List.getD, hlen]

/-- the value `evalFrom` appends for `cell`, given the values `acc` of the lower ranks -/
def cellVal (x : Nat → V) (cell : Cell V) (acc : List V) : Option V :=
  match cell with
  | .opt t => some (t (x acc.length))
  | .const v => some v
  | .eval _ args f => f (args.map fun a => acc.getD a default)

theorem evalFrom_cons (x : Nat → V) (cell : Cell V) (cs : List (Cell V)) (acc : List V) :
    evalFrom x (cell :: cs) acc = (cellVal x cell acc).bind fun v => evalFrom x cs (acc ++ [v]) := by
  cases cell with
  | opt t => rfl
  | const v => rfl
  | eval r args f =>
    simp only [evalFrom, cellVal]
    cases f (args.map fun a => acc.getD a default) <;> rfl

/-- a cell is coherent iff it holds the value `evalFrom` computes for it from the lower ranks -/
theorem cohAt_iff_cellVal {g : Graph V} (hwf : g.WF) {k : Nat} (hk : k < g.n) {c x : Nat → V} {acc : List V}
    (hlen : acc.length = k) (hacc : ∀ a, a < k → acc.getD a default = c a) :
    CohAt g c x k ↔ cellVal x (g.cell k) acc = some (c k) := by
  unfold CohAt cellVal
  cases hc : g.cell k with
  | opt t => simp only [hlen, Option.some.injEq, eq_comm]
  | const v => simp only [Option.some.injEq, eq_comm]
  | eval r args f =>
    simp only []
    rw [map_args_congr hc fun a ha => hacc a (hwf.1 k hk a ha)]

theorem evalFrom_complete (g : Graph V) (hwf : g.WF) (c x : Nat → V) (hc : Coh g c x) :
    ∀ (cs : List (Cell V)) (m : Nat), g.cells.drop m = cs → m ≤ g.n →
      evalFrom x cs ((List.range m).map c) = some ((List.range g.n).map c) := by
  intro cs
  induction cs with
  | nil =>
    intro m hd hm
    have : g.n ≤ m := List.drop_eq_nil_iff.1 hd
    have : m = g.n := by omega
    subst this
    rfl
  | cons cell cs ih =>
    intro m hd _
    obtain ⟨hmn, hcell, hrest⟩ := drop_cons hd
    rw [evalFrom_cons, ← hcell,
      (cohAt_iff_cellVal hwf hmn (by simp) fun a ha => getD_map_range_of_lt ha).1 (hc m hmn)]
    show evalFrom x cs ((List.range m).map c ++ [c m]) = _
    rw [← List.map_singleton, ← List.map_append, ← List.range_succ]
    exact ih (m + 1) hrest hmn

/-- a consistent buffer *is* the fresh evaluation -/
theorem coh_evalFresh (g : Graph V) (hwf : g.WF) (c x : Nat → V) (hc : Coh g c x) :
    evalFresh g x = some ((List.range g.n).map c) :=
  evalFrom_complete g hwf c x hc g.cells 0 rfl (Nat.zero_le _)

theorem evalFrom_sound (g : Graph V) (hwf : g.WF) (x : Nat → V) :
    ∀ (cs : List (Cell V)) (acc vs : List V), g.cells.drop acc.length = cs →
      evalFrom x cs acc = some vs →
      (∃ suf, vs = acc ++ suf) ∧
      ∀ k, acc.length ≤ k → k < g.n → CohAt g (fun k => vs.getD k default) x k := by
  intro cs
  induction cs with
  | nil =>
    intro acc vs hd he
    simp only [evalFrom, Option.some.injEq] at he
    subst he
    refine ⟨⟨[], by simp⟩, ?_⟩
    intro k hk hkn
    have := List.drop_eq_nil_iff.1 hd
    exact absurd hkn (by unfold Graph.n; omega)
  | cons cell cs ih =>
    intro acc vs hd he
    obtain ⟨hmn, hcell, hrest⟩ := drop_cons hd
    rw [evalFrom_cons] at he
    cases hv : cellVal x cell acc with
    | none => rw [hv] at he; cases he
    | some v =>
      rw [hv] at he
      have hl : (acc ++ [v]).length = acc.length + 1 := by simp
      obtain ⟨⟨suf, hsuf⟩, hrestc⟩ := ih (acc ++ [v]) vs (by rw [hl]; exact hrest) he
      refine ⟨⟨[v] ++ suf, by rw [hsuf]; simp⟩, fun k hk hkn => ?_⟩
      rcases Nat.eq_or_lt_of_le hk with h | h
      · -- the cell just evaluated: `vs` extends `acc ++ [v]`
        subst h
        rw [cohAt_iff_cellVal hwf hkn rfl (acc := acc), hcell, hv, hsuf]
        · simp [List.getD]
        · intro a ha
          rw [hsuf]
          simp [List.getD, List.getElem?_append_left, ha]
      · exact hrestc k (by rw [hl]; omega) hkn

theorem evalFresh_coh (g : Graph V) (hwf : g.WF) (x : Nat → V) (vs : List V) (h : evalFresh g x = some vs) :
    Coh g (fun k => vs.getD k default) x :=
  fun k hk => (evalFrom_sound g hwf x g.cells [] vs rfl h).2 k (Nat.zero_le _) hk

theorem coh_congr_opt (g : Graph V) (hwf : g.WF) (c x x' : Nat → V) (hx : ∀ j, j < g.nOpt → x j = x' j)
    (h : Coh g c x) : Coh g c x' := by
  intro k hk
  apply (h k hk).congr rfl (fun _ _ => rfl)
  intro hopt
  exact (hx k ((hwf.2.1 k hk).1 hopt)).symm

/-- a fresh evaluation only reads the optimiser-parameter entries of the vector -/
theorem evalFresh_congr_opt (g : Graph V) (hwf : g.WF) (x x' : Nat → V) (hx : ∀ j, j < g.nOpt → x j = x' j) :
    evalFresh g x = evalFresh g x' := by
  cases h : evalFresh g x with
  | some vs =>
    have := coh_congr_opt g hwf _ x x' hx (evalFresh_coh g hwf x vs h)
    rw [coh_evalFresh g hwf _ x' this, ← coh_evalFresh g hwf _ x (evalFresh_coh g hwf x vs h), h]
  | none =>
    cases h' : evalFresh g x' with
    | none => rfl
    | some vs =>
      have := coh_congr_opt g hwf _ x' x (fun j hj => (hx j hj).symm) (evalFresh_coh g hwf x' vs h')
      rw [coh_evalFresh g hwf _ x this] at h
      cases h

end CogentModel.Calc
