import CogentModel.Proofs.IndelMapAlignScan
namespace CogentModel.IndelMap
open CogentModel.Gapped List CogentModel

theorem add_sub_self (a : Int) (d : Nat) : a + d - a = d := by omega

theorem seg_add (a : Int) (d : Nat) : seg a (a + d) = (range' a.toNat d).map some := by
  simp only [seg, add_sub_self, Int.toNat_natCast]

theorem absFrom_nil (next prevCum pl : Int) (cum : List Int) : absFrom next prevCum [] cum pl = seg next pl := by
  cases cum <;> rfl

theorem alignIndex_residues_lt (n : Nat) : ∀ (s : Nat) (rest : Gapped) (j : Nat), j < n →
    alignIndex ((range' s n).map some ++ rest) j = j := by
  induction n with
  | zero => intro s rest j h; omega
  | succ n ih =>
    intro s rest j h
    cases j with
    | zero => rfl
    | succ j => simp only [range'_succ, map_cons, cons_append, alignIndex, ih (s + 1) rest j (by omega)]

theorem alignIndex_residues_add (n : Nat) : ∀ (s : Nat) (rest : Gapped) (j : Nat),
    alignIndex ((range' s n).map some ++ rest) (n + j) = n + alignIndex rest j := by
  induction n with
  | zero => intro s rest j; simp
  | succ n ih =>
    intro s rest j
    simp only [range'_succ, map_cons, cons_append, Nat.succ_add, alignIndex, ih (s + 1) rest j]

theorem alignIndex_gaps (n : Nat) (rest : Gapped) (j : Nat) :
    alignIndex (replicate n none ++ rest) j = n + alignIndex rest j := by
  induction n with
  | zero => simp
  | succ n ih => simp only [replicate_succ, cons_append, alignIndex, ih]; omega

/-- `colFrom` is the column at which residue `next + k` is displayed; for `next + k = pl`, the residue after the last, that
is the number of columns -/
theorem colFrom_spec (gp cum : List Int) (pp next prevCum pl : Int) (k : Nat) (h : Inc pp prevCum gp cum)
    (hn : next ≤ pp + 1) (hk : next + k ≤ pl) :
    colFrom prevCum gp cum (next + k) = next + prevCum + alignIndex (absFrom next prevCum gp cum pl) k := by
  fun_induction Inc pp prevCum gp cum generalizing next k with
  | case1 pp pc p ps c cs ih =>
    obtain ⟨h1, h2, h3⟩ := h
    obtain ⟨d, rfl⟩ := Int.le.dest (show next ≤ p by omega)
    obtain ⟨g, rfl⟩ := Int.le.dest (Int.le_of_lt h2)
    -- with the distances to the gap as naturals: `d` residues, `g` gap columns, the rest
    simp only [absFrom, seg_add, gapCols, add_sub_self, Int.toNat_natCast, append_assoc, colFrom_cons]
    by_cases c1 : k < d
    · rw [if_pos (by omega), alignIndex_residues_lt d _ _ k c1]; omega
    · obtain ⟨j, rfl⟩ := Nat.exists_eq_add_of_le (show d ≤ k by omega)
      have e : next + ((d + j : Nat) : Int) = next + d + j := by omega
      rw [if_neg (by omega), alignIndex_residues_add, alignIndex_gaps, e, ih (next + d) j h3 (by omega) (by omega)]
      omega
  | case2 =>
    -- past the last gap: `k` of the remaining `d` residues, or (`k = d`) the length of the string
    obtain ⟨d, rfl⟩ := Int.le.dest (show next ≤ pl by omega)
    simp only [absFrom, seg_add, colFrom, ssRight, getN_cons_zero]
    rw [← append_nil (map some _)]
    by_cases c1 : k < d
    · rw [alignIndex_residues_lt d _ _ k c1]; omega
    · obtain rfl : d = k := by omega
      have := alignIndex_residues_add d next.toNat [] 0
      simp only [alignIndex, Nat.add_zero] at this
      rw [this]; omega
  | case3 => exact h.elim

theorem col_abs (m : IMap) (h : WF m) (k : Nat) (hk : (k : Int) ≤ m.parentLength) : col m k = alignIndex (abs m) k := by
  simpa only [Int.zero_add, abs, col] using colFrom_spec m.gapPos m.cumLens (-1) 0 0 m.parentLength k h.inc
    (by omega) (by omega)

/-- residue `-1` lies before every gap position -/
theorem col_neg_one (m : IMap) (h : WF m) : col m (0 - 1) = -1 :=
  colFrom_of_lt 0 _ _ _ fun q hq => Int.lt_of_lt_of_le (by decide) (h.pos_range q hq).1

end CogentModel.IndelMap
