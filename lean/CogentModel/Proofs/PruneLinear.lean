import Mathlib.Algebra.BigOperators.Ring.Finset
import Mathlib.Logic.Function.Basic
import Mathlib.Algebra.BigOperators.Group.Finset.Sigma
import CogentModel.Proofs.Prune
/-!
C02: the likelihood depends only on the profiles of the tree's own
leaves, is linear in the profile of each leaf, and sums to one over all columns.
-/
namespace CogentModel.Prune
open Finset

section semiring
variable {R : Type} [CommSemiring R] {α : Type}

/-! ### the likelihood only looks at the leaves of the tree -/
mutual
theorem plh_congr (m : Nat) (prof prof' : α → Nat → R) :
    ∀ (t : PTree R α), (∀ a ∈ t.leaves, prof a = prof' a) → plh m prof t = plh m prof' t
  | .leaf _ a, h => congrArg Vec.mk (h a List.mem_cons_self)
  | .node _ cs, h => prodUp_congr m prof prof' cs h
theorem prodUp_congr (m : Nat) (prof prof' : α → Nat → R) :
    ∀ (cs : List (PTree R α)), (∀ a ∈ PTree.leavesL cs, prof a = prof' a) →
      prodUp m prof cs = prodUp m prof' cs
  | [], _ => rfl
  | c :: cs, h => by
    obtain ⟨h1, h2⟩ := List.forall_mem_append.mp h
    rw [prodUp, prodUp, plh_congr m prof prof' c h1, prodUp_congr m prof prof' cs h2]
end

theorem lh_congr (m : Nat) (π : Nat → R) (prof prof' : α → Nat → R) (t : PTree R α)
    (h : ∀ a ∈ t.leaves, prof a = prof' a) : lh m π prof t = lh m π prof' t := by
  rw [lh_eq, lh_eq, plh_congr m prof prof' t h]

/-! ### linearity in the profile of a leaf that occurs exactly once -/

/-- profiles that differ only at `a` cannot be told apart where `a` does not occur -/
theorem agree_off_of_count [DecidableEq α] {β : Type} {prof prof' : α → β} {a : α} (hoff : ∀ b, b ≠ a → prof b = prof' b)
    {l : List α} (h : l.count a = 0) : ∀ b ∈ l, prof b = prof' b :=
  fun b hb => hoff b fun e => List.count_eq_zero.mp h (e ▸ hb)

/- Stated for a profile `prof'` and a family `profs k` of profiles that all agree away from `a` and satisfy
`prof' a = Σ_k profs k a`; the `Function.update` form `prodUp_linear` below is the instance. -/
mutual
theorem plh_linear_of [DecidableEq α] {ι : Type} (m : Nat) (a : α) (K : Finset ι) (prof' : α → Nat → R)
    (profs : ι → α → Nat → R) (hoff : ∀ k b, b ≠ a → profs k b = prof' b)
    (ha : ∀ s, prof' a s = ∑ k ∈ K, profs k a s) :
    ∀ (t : PTree R α), t.leaves.count a = 1 → ∀ s,
      (plh m prof' t).get s = ∑ k ∈ K, (plh m (profs k) t).get s
  | .leaf P b, h, s => by
    have hb : b = a := by
      by_contra hne
      rw [PTree.leaves, List.count_cons_of_ne hne] at h
      cases h
    subst hb
    exact ha s
  | .node P cs, h, s => prodUp_linear_of m a K prof' profs hoff ha cs h s
theorem prodUp_linear_of [DecidableEq α] {ι : Type} (m : Nat) (a : α) (K : Finset ι) (prof' : α → Nat → R)
    (profs : ι → α → Nat → R) (hoff : ∀ k b, b ≠ a → profs k b = prof' b)
    (ha : ∀ s, prof' a s = ∑ k ∈ K, profs k a s) :
    ∀ (cs : List (PTree R α)), (PTree.leavesL cs).count a = 1 → ∀ s,
      (prodUp m prof' cs).get s = ∑ k ∈ K, (prodUp m (profs k) cs).get s
  | [], h, s => by cases h
  | c :: cs, h, s => by
    rw [PTree.leavesL, List.count_append] at h
    simp only [prodUp_cons, up_get]
    rcases Nat.add_eq_one_iff.mp h with ⟨hc0, hcs⟩ | ⟨hc, hcs⟩
    · have first : ∀ k, plh m (profs k) c = plh m prof' c := fun k =>
        plh_congr m _ _ c (agree_off_of_count (hoff k) hc0)
      simp only [first, prodUp_linear_of m a K prof' profs hoff ha cs hcs s, Finset.mul_sum]
    · -- `a` sits in the first child: the other children see the same profile under every `k`
      have rest : ∀ k, prodUp m (profs k) cs = prodUp m prof' cs := fun k =>
        prodUp_congr m _ _ cs (agree_off_of_count (hoff k) hcs)
      simp only [rest, ← Finset.sum_mul, plh_linear_of m a K prof' profs hoff ha c hc, Finset.mul_sum]
      rw [Finset.sum_comm]
end

theorem prodUp_linear [DecidableEq α] {ι : Type} (m : Nat) (prof : α → Nat → R) (a : α) (K : Finset ι) (f : ι → Nat → R) :
    ∀ (cs : List (PTree R α)), (PTree.leavesL cs).count a = 1 → ∀ s,
      (prodUp m (Function.update prof a (fun s => ∑ k ∈ K, f k s)) cs).get s
        = ∑ k ∈ K, (prodUp m (Function.update prof a (f k)) cs).get s :=
  prodUp_linear_of m a K _ (fun k => Function.update prof a (f k))
    (fun k b hb => by rw [Function.update_of_ne hb, Function.update_of_ne hb])
    (fun s => by simp only [Function.update_self])

theorem lh_linear_of [DecidableEq α] {ι : Type} (m : Nat) (π : Nat → R) (a : α) (K : Finset ι) (prof' : α → Nat → R)
    (profs : ι → α → Nat → R) (hoff : ∀ k b, b ≠ a → profs k b = prof' b)
    (ha : ∀ s, prof' a s = ∑ k ∈ K, profs k a s) (t : PTree R α) (h : t.leaves.count a = 1) :
    lh m π prof' t = ∑ k ∈ K, lh m π (profs k) t := by
  simp only [lh_eq]
  rw [Finset.sum_comm]
  exact Finset.sum_congr rfl fun s _ => by
    rw [← Finset.sum_mul, plh_linear_of m a K prof' profs hoff ha t h s]

/-- the unambiguous profile of state `k` -/
def indicator (k : Nat) : Nat → R := fun s => if s = k then 1 else 0
/-- the profile of a fully ambiguous symbol (`?`, `N`, a recoded gap) on `m` states -/
def ones (m : Nat) : Nat → R := fun s => if s < m then 1 else 0

theorem sum_indicator (m : Nat) (s : Nat) : ∑ k ∈ range m, (indicator k s : R) = ones m s := by
  simp only [indicator, ones, Finset.sum_ite_eq, Finset.mem_range]

def RowStochastic (m : Nat) (P : Mat R) : Prop := ∀ i, i < m → ∑ j ∈ range m, P i j = 1

/-- below a row-stochastic edge a vector of ones is seen as a vector of ones -/
theorem upWith_ones (m : Nat) {P : Mat R} (hP : RowStochastic m P) {v : Vec R} (hv : ∀ s, s < m → v.get s = 1)
    (s : Nat) (hs : s < m) : (upWith m P v).get s = 1 := by
  rw [upWith_get, ← hP s hs]
  exact sum_range_congr fun s' hs' => by rw [hv s' hs', mul_one]

mutual
theorem plh_ones (m : Nat) (prof : α → Nat → R) :
    ∀ (t : PTree R α), (∀ P ∈ t.edgeMats, RowStochastic m P) → (∀ a ∈ t.leaves, prof a = ones m) →
      ∀ s, s < m → (plh m prof t).get s = 1
  | .leaf P a, _, hl, s, hs => by
    rw [plh_leaf, hl a List.mem_cons_self, ones, if_pos hs]
  | .node P cs, hP, hl, s, hs => prodUp_ones m prof cs hP hl s hs
theorem prodUp_ones (m : Nat) (prof : α → Nat → R) :
    ∀ (cs : List (PTree R α)), (∀ P ∈ PTree.edgeMatsL cs, RowStochastic m P) →
      (∀ a ∈ PTree.leavesL cs, prof a = ones m) → ∀ s, s < m → (prodUp m prof cs).get s = 1
  | [], _, _, s, _ => prodUp_nil m prof s
  | c :: cs, hP, hl, s, hs => by
    obtain ⟨hPc, hP'⟩ := List.forall_mem_cons.mp hP
    obtain ⟨hP1, hP2⟩ := List.forall_mem_append.mp hP'
    obtain ⟨hl1, hl2⟩ := List.forall_mem_append.mp hl
    rw [prodUp_cons, prodUp_ones m prof cs hP2 hl2 s hs, mul_one]
    exact upWith_ones m hPc (plh_ones m prof c hP1 hl1) s hs
end

theorem lh_ones (m : Nat) (π : Nat → R) (prof : α → Nat → R) (t : PTree R α)
    (hP : ∀ P ∈ t.edgeMats, RowStochastic m P) (hl : ∀ a ∈ t.leaves, prof a = ones m)
    (hπ : ∑ s ∈ range m, π s = 1) : lh m π prof t = 1 := by
  rw [lh_eq, ← hπ]
  refine sum_range_congr fun s hs => ?_
  rw [plh_ones m prof t hP hl s hs, one_mul]

/-- `∑` over every assignment of a state `< m` to the listed leaves (nested sums), of `F` applied
to the alignment column in which those leaves are unambiguous -/
def sumAllColumns [DecidableEq α] (m : Nat) (F : (α → Nat → R) → R) : List α → (α → Nat → R) → R
  | [], prof => F prof
  | a :: as, prof => ∑ k ∈ range m, sumAllColumns m F as (Function.update prof a (indicator k))

theorem sumAllColumns_lh [DecidableEq α] (m : Nat) (π : Nat → R) (t : PTree R α) :
    ∀ (as : List α), as.Nodup → (∀ a ∈ as, t.leaves.count a = 1) → ∀ prof : α → Nat → R,
      sumAllColumns m (fun p => lh m π p t) as prof
        = lh m π (fun b => if b ∈ as then ones m else prof b) t
  | [], _, _, prof => by simp only [sumAllColumns, List.not_mem_nil, if_false]
  | a :: as, hnd, hc, prof => by
    obtain ⟨ha, hnd'⟩ := List.nodup_cons.mp hnd
    simp only [sumAllColumns, sumAllColumns_lh m π t as hnd' (fun b hb => hc b (List.mem_cons_of_mem _ hb))]
    -- the summands are the columns that differ only in the state shown at `a`
    refine (lh_linear_of m π a (range m) _ _ (fun k b hb => ?_) (fun s => ?_) t (hc a List.mem_cons_self)).symm
    · simp only [List.mem_cons, hb, false_or, Function.update_of_ne hb]
    · simp only [List.mem_cons, true_or, if_true, ha, if_false, Function.update_self, sum_indicator]

end semiring
end CogentModel.Prune
