import CogentModel.Proofs.RateMatrixLemmas
import CogentModel.Proofs.AlphabetLemmas
/-! C05: the weight identity `π_i W_ij = π_j W_ji` at a pair of mask cells, for the conditional and for the monomer weight
matrices; `balanced_of_symm` turns it into balance of the un-normalised rates `π_i R_ij W_ij`. -/

namespace CogentModel.RateMatrix
open Finset

variable {K : Type*} [Field K]

/-- conditional motif-prob weights: `π_i W_ij = π_j W_ji` at a pair of mask cells whose words share their context -/
theorem weightConditional_balanced [DecidableEq K] (words : Array (Array Nat)) (L : Nat) (inst : Mat Bool) (pi : Vec K)
    (i j : Nat) (hi : i < words.size) (hj : j < words.size) (hij : bget inst i j = true) (hji : bget inst j i = true)
    (hctx : sameContext (firstDiff (wordAt words i) (wordAt words j)) 0 (wordAt words i) (wordAt words j) = true) :
    vget pi i * mget (weightConditional words L inst pi) i j = vget pi j * mget (weightConditional words L inst pi) j i := by
  -- both cells divide by the probability of the same context
  have hc : contextProb words pi (wordAt words i) (firstDiff (wordAt words j) (wordAt words i)) =
      contextProb words pi (wordAt words j) (firstDiff (wordAt words i) (wordAt words j)) := by
    unfold contextProb
    rw [firstDiff_comm (wordAt words j)]
    exact sumTo_congr fun k _ => by rw [sameContext_congr _ _ _ 0 hctx (wordAt words k)]
  dsimp only [weightConditional]
  rw [mget_tab _ hi hj, mget_tab _ hj hi, if_pos hij, if_pos hji, hc]
  by_cases h0 : contextProb words pi (wordAt words j) (firstDiff (wordAt words i) (wordAt words j)) = 0
  · rw [if_pos h0, if_pos h0, mul_zero, mul_zero]
  · rw [if_neg h0, if_neg h0, ← mul_div_assoc, ← mul_div_assoc, mul_comm]

/-- (position-specific) monomer weights: `π_i W_ij = π_j W_ji` at a pair of mask cells whose words differ at one position
only, `π` being the model's own word probabilities -/
theorem weightMonomer_balanced (words : Array (Array Nat)) (L : Nat) (inst : Mat Bool) (mp : Nat → Vec K)
    (i j : Nat) (hi : i < words.size) (hj : j < words.size) (hij : bget inst i j = true) (hji : bget inst j i = true)
    (hd : firstDiff (wordAt words i) (wordAt words j) < L)
    (hk : ∀ k, k < L → k ≠ firstDiff (wordAt words i) (wordAt words j) →
      (words.getD i #[]).getD k 0 = (words.getD j #[]).getD k 0) :
    vget (wordProbsMonomer words L mp) i * mget (weightMonomer words inst mp) i j =
      vget (wordProbsMonomer words L mp) j * mget (weightMonomer words inst mp) j i := by
  dsimp only [weightMonomer, wordProbsMonomer]
  rw [mget_tab _ hi hj, mget_tab _ hj hi, vget_vtab _ hi, vget_vtab _ hj, if_pos hij, if_pos hji, firstDiff_comm (wordAt words j)]
  generalize firstDiff (wordAt words i) (wordAt words j) = d at hd hk
  -- the two word probabilities differ only in the factor of position `d`
  have hmem : d ∈ range L := Finset.mem_range.mpr hd
  have key : wordProbsRaw words L mp i * vget (mp d) ((words.getD j #[]).getD d 0) =
      wordProbsRaw words L mp j * vget (mp d) ((words.getD i #[]).getD d 0) := by
    unfold wordProbsRaw
    rw [prodTo_eq_prod, prodTo_eq_prod, ← Finset.mul_prod_erase _ _ hmem, ← Finset.mul_prod_erase (range L) _ hmem,
      Finset.prod_congr rfl fun k hkm => by
        rw [hk k (Finset.mem_range.mp (Finset.mem_of_mem_erase hkm)) (Finset.ne_of_mem_erase hkm)],
      mul_right_comm, mul_comm (vget (mp d) _), mul_right_comm]
  rw [div_mul_eq_mul_div, key, ← div_mul_eq_mul_div]
end CogentModel.RateMatrix
