/-
  Cutting a global path at a row: the score is prefix + tail (`globalScore_cut`; needs associativity and commutativity
  of `+`, which the Viterbi theorems did not), every path that reaches the row has a prefix ending in it (`crossing`), and
  so the best sum over the row of best prefix + best continuation is the optimum of the whole (`split_isOpt`).
-/
import CogentModel.Proofs.PairHMMOrder
import CogentModel.Proofs.PairHMMPath
namespace CogentModel.PairHMM
set_option linter.unusedSectionVars false

/-- `ScoreLaws` + `+` associative and commutative (the divide-and-conquer adds two half scores) -/
class ScoreLawsAC (S : Type) [Add S] [LT S] : Prop extends ScoreLaws S where
  add_assoc : ∀ a b c : S, a + b + c = a + (b + c)
  add_comm : ∀ a b : S, a + b = b + a

instance : ScoreLawsAC Int where
  add_assoc := Int.add_assoc
  add_comm := Int.add_comm

instance : ScoreLawsAC Rat where
  add_assoc := Rat.add_assoc
  add_comm := Rat.add_comm

variable {S : Type} [Add S] [LT S] [DecidableLT S] [ScoreLawsAC S]

theorem eadd_assoc (a b c : Option S) : eadd (eadd a b) c = eadd a (eadd b c) := by
  cases a <;> cases b <;> cases c <;> simp [eadd, ScoreLawsAC.add_assoc]

theorem eadd_comm (a b : Option S) : eadd a b = eadd b a := by
  cases a <;> cases b <;> simp [eadd, ScoreLawsAC.add_comm]

theorem eadd_mono2 {a b c d : Option S} (h1 : ele a b) (h2 : ele c d) : ele (eadd a c) (eadd b d) := by
  refine ele_trans (eadd_mono c h1) ?_
  rw [eadd_comm b c, eadd_comm b d]
  exact eadd_mono b h2

/-- score of continuing with the states `q` after state `a`, standing at `(i, j)`, incl. the END transition -/
def tailScore (h : HMM S) : Nat → Nat → Nat → List Nat → Option S
  | a, _, _, [] => h.T a h.endId
  | a, i, j, s :: q =>
    eadd (h.T a s) (eadd (h.em s (i + (h.dir s).1.toNat) (j + (h.dir s).2.toNat))
      (tailScore h s (i + (h.dir s).1.toNat) (j + (h.dir s).2.toNat) q))

theorem scoreFrom_tail (h : HMM S) (q : List Nat) : ∀ (prev i j : Nat) (acc : Option S),
    eadd (scoreFrom h prev i j acc q) (h.T (lastState (prev :: q)) h.endId) = eadd acc (tailScore h prev i j q) := by
  induction q with
  | nil => intro prev i j acc; rfl
  | cons s q ih =>
    intro prev i j acc
    simp only [scoreFrom, tailScore, lastState_cons_cons]
    rw [ih, eadd_assoc, eadd_assoc]

/-- **cutting a global path**: score = prefix score + tail score from the cut -/
theorem globalScore_cut (h : HMM S) {p : List Nat} (hne : p ≠ []) (q : List Nat) :
    globalScore h (p ++ q) =
      eadd (prefixScore h 0 0 p) (tailScore h (lastState p) (consumedFrom h 0 0 p).1 (consumedFrom h 0 0 p).2 q) := by
  obtain ⟨a, p, rfl⟩ := List.exists_cons_of_ne_nil hne
  have hl : lastState (a :: (p ++ q)) = lastState (lastState (a :: p) :: q) := by
    cases q with
    | nil => rw [List.append_nil]; rfl
    | cons s q => exact lastState_append_cons (a :: p) s q
  simp only [List.cons_append, globalScore, prefixScore, consumedFrom]
  rw [scoreFrom_append_list, ← scoreFrom_tail, hl]

/-- a path from row `i < r` that ends in row `≥ r` has a non-empty prefix ending exactly in row `r` -/
theorem crossing (h : HMM S) (r : Nat) (p : List Nat) : ∀ (i j : Nat), i < r → r ≤ (consumedFrom h i j p).1 →
    ∃ p1 p2 c, p = p1 ++ p2 ∧ p1 ≠ [] ∧ consumedFrom h i j p1 = (r, c) := by
  induction p with
  | nil => intro i j hi hr; exact absurd hr (Nat.not_le.mpr hi)
  | cons s p ih =>
    intro i j hi hr
    by_cases he : i + (h.dir s).1.toNat = r
    · exact ⟨[s], p, _, rfl, List.cons_ne_nil _ _, by subst he; rfl⟩
    · have hlt : i + (h.dir s).1.toNat < r := by
        have : (h.dir s).1.toNat ≤ 1 := Bool.toNat_le _
        omega
      obtain ⟨p1, p2, c, rfl, _, hc⟩ := ih _ _ hlt hr
      exact ⟨s :: p1, p2, c, rfl, List.cons_ne_nil _ _, hc⟩

/-- **the split**: when `vF j a` is the optimum of the prefixes to cell `(half, j)` that end in state `a` and `vB j a`
that of the continuations from there, the best sum over the row is the optimum over the global paths, and a maximiser is a
maximiser of the one glued to a maximiser of the other.  Every global path crosses the row in some cell and state, where
it is a prefix followed by a continuation. -/
theorem split_isOpt (h : HMM S) (n m half : Nat) (h1 : 1 ≤ half) (hn : half ≤ n) {vF vB : Nat → Nat → Option S}
    {WF WB : Nat → Nat → List Nat → Prop}
    (hF : ∀ j a, j ≤ m → 1 ≤ a → a ≤ h.k →
      IsOpt (prefixScore h 0 0) (fun p => p ≠ [] ∧ IsGlobalPath h half j p ∧ lastState p = a) (vF j a) (WF j a))
    (hB : ∀ j a, j ≤ m →
      IsOpt (tailScore h a half j) (fun q => statesOK h q ∧ consumedFrom h half j q = (n, m)) (vB j a) (WB j a))
    {r : Option S × Nat × Nat}
    (hr : IsMax (·.1) (fun c => ∃ j a, j ≤ m ∧ 1 ≤ a ∧ a ≤ h.k ∧ c = (eadd (vF j a) (vB j a), j, a))
      (none, 0, 0) r) :
    IsOpt (globalScore h) (IsGlobalPath h n m) r.1 fun p => ∃ pa pb, p = pa ++ pb ∧
      consumedFrom h 0 0 pa = (half, r.2.1) ∧ WF r.2.1 r.2.2 pa ∧ WB r.2.1 r.2.2 pb where
  ge p hp := by
    obtain ⟨hst, hc⟩ := hp
    obtain ⟨p1, p2, j, rfl, hne, hc1⟩ := crossing h half p 0 0 h1 (by rw [hc]; exact hn)
    rw [consumedFrom_append_list, hc1] at hc
    have hst1 : statesOK h p1 := fun x hx => hst x (List.mem_append_left _ hx)
    have hjm : j ≤ m := by
      have := consumed_mono h half j p2
      rw [hc] at this; exact this.2
    have hl := hst1 _ (lastState_mem hne)
    rw [globalScore_cut h hne, hc1]
    -- the prefix scores no more than the best prefix, the continuation no more than the best continuation
    exact ele_trans
      (eadd_mono2 ((hF j _ hjm hl.1 hl.2.1).ge p1 ⟨hne, ⟨hst1, hc1⟩, rfl⟩)
        ((hB j _ hjm).ge p2 ⟨fun x hx => hst x (List.mem_append_right _ hx), hc⟩))
      (hr.ge_cand _ ⟨j, _, hjm, hl.1, hl.2.1, rfl⟩)
  attained v hv := by
    rcases hr.mem with hc | ⟨j, a, hj, ha1, hak, hc⟩
    · rw [hc] at hv; cases hv
    · rw [hc] at hv ⊢
      obtain ⟨f0, b0, hf, hb⟩ := eadd_eq_some hv
      obtain ⟨pF, hwF, ⟨hne, ⟨hstF, hcF⟩, hlF⟩, hsF⟩ := (hF j a hj ha1 hak).attained f0 hf
      obtain ⟨q, hwB, ⟨hstq, hcq⟩, hsq⟩ := (hB j a hj).attained b0 hb
      refine ⟨pF ++ q, ⟨pF, q, rfl, hcF, hwF, hwB⟩,
        ⟨statesOK_append_list h _ _ hstF hstq, by rw [consumedFrom_append_list, hcF]; exact hcq⟩, ?_⟩
      rw [globalScore_cut h hne, hsF, hlF, hcF, hsq, ← hf, ← hb]; exact hv

end CogentModel.PairHMM
