/-  C20 — the order `Table.sorted` sorts by: the merge sort of row numbers sorts under any total preorder; the
    comparison of key records (`lexLe` over `SKey.le`) is one; the reversal transforms (`x * -1`, negated dense rank) turn
    the order of a column round exactly; hence the comparison of transformed records (`keyT`) is the comparison the
    caller asked for, key by key with mixed directions (`mixedLe`, `lexLe_keyT`). -/
import CogentModel.Model.TableOps
namespace CogentModel.TableOps

/-! ### the sorting permutation -/

theorem optLe_trans {κ : Type} (le : κ → κ → Bool) (ht : ∀ a b c, le a b = true → le b c = true → le a c = true)
    (a b c : Option κ) : optLe le a b = true → optLe le b c = true → optLe le a c = true := by
  cases a <;> cases b <;> cases c <;> simp [optLe]
  exact ht _ _ _

theorem optLe_total {κ : Type} (le : κ → κ → Bool) (htot : ∀ a b, (le a b || le b a) = true)
    (a b : Option κ) : (optLe le a b || optLe le b a) = true := by
  cases a <;> cases b <;> simp [optLe]
  simpa using htot _ _

theorem sortIdx_perm {κ : Type} (le : κ → κ → Bool) (keys : List κ) :
    (sortIdx le keys).Perm (List.range keys.length) := List.mergeSort_perm _ _

theorem sortIdx_sorted {κ : Type} (le : κ → κ → Bool)
    (ht : ∀ a b c, le a b = true → le b c = true → le a c = true)
    (htot : ∀ a b, (le a b || le b a) = true) (keys : List κ) :
    (sortIdx le keys).Pairwise (fun i j => optLe le keys[i]? keys[j]? = true) := by
  unfold sortIdx
  exact List.pairwise_mergeSort (le := fun i j => optLe le keys[i]? keys[j]?)
    (fun a b c => optLe_trans le ht keys[a]? keys[b]? keys[c]?)
    (fun a b => optLe_total le htot keys[a]? keys[b]?) _

/-! ### the order on records of key fields -/

theorem natLexLe_iff (a b : List Nat) : natLexLe a b = true ↔ a ≤ b := by
  induction a generalizing b with
  | nil => simp [natLexLe]
  | cons x xs ih =>
    cases b with
    | nil => simp [natLexLe]
    | cons y ys =>
      rw [natLexLe, List.cons_le_cons_iff, ← ih]
      by_cases h1 : x < y
      · simp [h1]
      · by_cases h2 : y < x
        · have : x ≠ y := by omega
          simp [h1, h2, this]
        · have : x = y := by omega
          simp [this]

theorem natLexLe_refl (a : List Nat) : natLexLe a a = true := (natLexLe_iff a a).2 (List.le_refl a)

theorem natLexLe_total (a b : List Nat) : (natLexLe a b || natLexLe b a) = true := by
  simpa [natLexLe_iff] using List.le_total a b

theorem natLexLe_antisymm (a b : List Nat) : natLexLe a b = true → natLexLe b a = true → a = b := by
  simpa [natLexLe_iff] using List.le_antisymm (as := a) (bs := b)

theorem natLexLe_trans (a b c : List Nat) : natLexLe a b = true → natLexLe b c = true → natLexLe a c = true := by
  simpa [natLexLe_iff] using List.le_trans (l₁ := a) (l₂ := b) (l₃ := c)

namespace SKey

theorem le_total (a b : SKey) : (SKey.le a b || SKey.le b a) = true := by
  cases a <;> cases b <;> simp [SKey.le, SKey.rank]
  · rename_i x y; cases x <;> cases y <;> simp
  · exact Rat.le_total
  · simpa using natLexLe_total _ _

theorem le_trans (a b c : SKey) : SKey.le a b = true → SKey.le b c = true → SKey.le a c = true := by
  cases a <;> cases b <;> cases c <;> simp [SKey.le, SKey.rank]
  · rename_i x y z; cases x <;> cases y <;> cases z <;> simp
  · exact fun h1 h2 => Rat.le_trans h1 h2
  · exact natLexLe_trans _ _ _

theorem le_antisymm (a b : SKey) : SKey.le a b = true → SKey.le b a = true → a = b := by
  cases a <;> cases b <;> simp [SKey.le, SKey.rank]
  · rename_i x y; cases x <;> cases y <;> simp
  · exact fun h1 h2 => Rat.le_antisymm h1 h2
  · exact natLexLe_antisymm _ _

end SKey

theorem lexLe_total (a b : List SKey) : (lexLe a b || lexLe b a) = true := by
  induction a generalizing b with
  | nil => simp [lexLe]
  | cons x xs ih =>
    cases b with
    | nil => simp [lexLe]
    | cons y ys =>
      simp only [lexLe]
      by_cases h : x = y
      · subst h; simpa using ih ys
      · have h' : ¬ y = x := fun e => h e.symm
        simpa [h, h'] using SKey.le_total x y

theorem lexLe_trans (a b c : List SKey) : lexLe a b = true → lexLe b c = true → lexLe a c = true := by
  induction a generalizing b c with
  | nil => simp [lexLe]
  | cons x xs ih =>
    cases b with
    | nil => simp [lexLe]
    | cons y ys =>
      cases c with
      | nil => simp [lexLe]
      | cons z zs =>
        simp only [lexLe]
        by_cases h1 : x = y
        · subst h1
          by_cases h2 : x = z
          · subst h2; simpa using ih ys zs
          · simp only [if_true, h2, if_false]
            intro _ h; exact h
        · by_cases h2 : y = z
          · subst h2
            simp only [h1, if_false, if_true]
            intro h _; exact h
          · simp only [h1, h2, if_false]
            intro p q
            by_cases h3 : x = z
            · subst h3
              exact absurd (SKey.le_antisymm _ _ p q) h1
            · simp only [h3, if_false]
              exact SKey.le_trans _ _ _ p q

/-! ### the reversal transforms -/

theorem reverseNum_le_iff (a b : Rat) : a ≤ b ↔ reverseNum b ≤ reverseNum a := by
  unfold reverseNum
  rw [Rat.mul_neg, Rat.mul_neg, Rat.mul_one, Rat.mul_one]
  exact Rat.neg_le_neg_iff.symm

section Rank

theorem filter_filter_of_imp {β : Type} (p q : β → Bool) (D : List β) (h : ∀ z ∈ D, p z = true → q z = true) :
    D.filter p = (D.filter q).filter p := by
  rw [List.filter_filter]
  exact List.filter_congr fun z hz => by cases hp : p z <;> simp [h z hz, hp]

variable {κ : Type} [DecidableEq κ] (le : κ → κ → Bool)

/-- what lies strictly below `x` lies strictly below every `y` above `x` -/
theorem below_of_le (ht : ∀ a b c, le a b = true → le b c = true → le a c = true)
    (ha : ∀ a b, le a b = true → le b a = true → a = b) {x y : κ} (h : le x y = true) (z : κ)
    (hz : (le z x && !decide (z = x)) = true) : (le z y && !decide (z = y)) = true := by
  simp only [Bool.and_eq_true, Bool.not_eq_true', decide_eq_false_iff_not] at hz ⊢
  exact ⟨ht _ _ _ hz.1 h, fun e => hz.2 (ha _ _ hz.1 (e ▸ h))⟩

theorem denseRank_mono (ht : ∀ a b c, le a b = true → le b c = true → le a c = true)
    (ha : ∀ a b, le a b = true → le b a = true → a = b) (D : List κ) (x y : κ) (h : le x y = true) :
    denseRank le D x ≤ denseRank le D y := by
  unfold denseRank
  rw [filter_filter_of_imp _ _ D fun z _ => below_of_le le ht ha h z]
  exact List.length_filter_le _ _

/-- … and `x` itself, when it occurs in the column, is counted for `y` only -/
theorem denseRank_strict (ht : ∀ a b c, le a b = true → le b c = true → le a c = true)
    (ha : ∀ a b, le a b = true → le b a = true → a = b) (D : List κ) (x y : κ) (hx : x ∈ D)
    (h : le x y = true) (hne : x ≠ y) : denseRank le D x < denseRank le D y := by
  unfold denseRank
  rw [filter_filter_of_imp _ _ D fun z _ => below_of_le le ht ha h z]
  exact List.length_filter_lt_length_iff_exists.2 ⟨x, List.mem_filter.2 ⟨hx, by simp [h, hne]⟩, by simp⟩

/-- the dense rank is an order embedding on the values that occur in the column -/
theorem denseRank_le_iff (ht : ∀ a b c, le a b = true → le b c = true → le a c = true)
    (ha : ∀ a b, le a b = true → le b a = true → a = b) (htot : ∀ a b, (le a b || le b a) = true)
    (D : List κ) (x y : κ) (hy : y ∈ D) :
    denseRank le D x ≤ denseRank le D y ↔ le x y = true := by
  constructor
  · intro hr
    cases hxy : le x y with
    | true => rfl
    | false =>
      have hyx : le y x = true := by have := htot x y; simpa [hxy] using this
      have hne : y ≠ x := by intro e; subst e; simp [hyx] at hxy
      have := denseRank_strict le ht ha D y x hy hyx hne
      omega
  · exact denseRank_mono le ht ha D x y

end Rank

theorem negRank_le_iff (D : List SKey) (x y : SKey) (hx : x ∈ D) :
    SKey.le (.num (-((denseRank SKey.le D x : Nat) : Rat))) (.num (-((denseRank SKey.le D y : Nat) : Rat)))
      = SKey.le y x := by
  have h := denseRank_le_iff SKey.le SKey.le_trans SKey.le_antisymm SKey.le_total D y x hx
  simp only [SKey.le]
  rw [Bool.eq_iff_iff]
  simp only [decide_eq_true_eq, Rat.neg_le_neg_iff, Rat.natCast_le_natCast]
  exact h

/-! ### multi-key sorting with mixed directions -/

/-- the key record `Table.sorted` hands to `argsort`: field `i` of the row's key fields through transform `i` -/
def keyT : List (Bool × (SKey → SKey)) → List SKey → List SKey
  | e :: sp, x :: xs => e.2 x :: keyT sp xs
  | _, _ => []

/-- the order the caller asks for: the first differing key field decides, ascending (`false`) or descending (`true`) -/
def mixedLe : List Bool → List SKey → List SKey → Bool
  | rev :: rs, a :: as, b :: bs =>
    if a = b then mixedLe rs as bs else (if rev then SKey.le b a else SKey.le a b)
  | _, _, _ => true

/-- a transform is faithful for direction `rev` on a pair of fields -/
def FieldOK (rev : Bool) (T : SKey → SKey) (x y : SKey) : Prop :=
  (T x = T y → x = y) ∧ SKey.le (T x) (T y) = (if rev then SKey.le y x else SKey.le x y)

def AllOK : List (Bool × (SKey → SKey)) → List SKey → List SKey → Prop
  | e :: sp, x :: xs, y :: ys => FieldOK e.1 e.2 x y ∧ AllOK sp xs ys
  | [], [], [] => True
  | _, _, _ => False

theorem lexLe_keyT : ∀ (sp : List (Bool × (SKey → SKey))) (a b : List SKey), AllOK sp a b →
    lexLe (keyT sp a) (keyT sp b) = mixedLe (sp.map (·.1)) a b
  | [], [], [], _ => rfl
  | [], [], _ :: _, h => by simp [AllOK] at h
  | [], _ :: _, _, h => by simp [AllOK] at h
  | _ :: _, [], _, h => by simp [AllOK] at h
  | _ :: _, _ :: _, [], h => by simp [AllOK] at h
  | e :: sp, x :: xs, y :: ys, h => by
    obtain ⟨⟨hinj, hle⟩, hrest⟩ := h
    simp only [keyT, lexLe, List.map_cons, mixedLe]
    by_cases hxy : x = y
    · subst hxy; simp [lexLe_keyT sp xs ys hrest]
    · have : e.2 x ≠ e.2 y := fun h => hxy (hinj h)
      simp [this, hxy, hle]

theorem fieldOK_asc (x y : SKey) : FieldOK false id x y := ⟨fun h => h, by simp⟩

/-- a transform that turns the order of two fields into the requested one, both ways round, cannot identify them -/
theorem fieldOK_of_le (rev : Bool) (T : SKey → SKey) (x y : SKey)
    (h1 : SKey.le (T x) (T y) = (if rev then SKey.le y x else SKey.le x y))
    (h2 : SKey.le (T y) (T x) = (if rev then SKey.le x y else SKey.le y x)) : FieldOK rev T x y := by
  refine ⟨fun e => ?_, h1⟩
  have hr : SKey.le (T y) (T y) = true := by simpa using SKey.le_total (T y) (T y)
  rw [e, hr] at h1
  rw [← e, e, hr] at h2
  cases rev
  · exact SKey.le_antisymm x y h1.symm h2.symm
  · exact SKey.le_antisymm x y h2.symm h1.symm

theorem fieldOK_descRank (D : List SKey) (x y : SKey) (hx : x ∈ D) (hy : y ∈ D) :
    FieldOK true (fun k => .num (-((denseRank SKey.le D k : Nat) : Rat))) x y :=
  fieldOK_of_le _ _ x y (negRank_le_iff D x y hx) (negRank_le_iff D y x hy)

/-- `_reverse_num` on a numeric key column -/
def revNumField : SKey → SKey
  | .num q => .num (reverseNum q)
  | k => k

theorem fieldOK_descNum (p q : Rat) : FieldOK true revNumField (.num p) (.num q) := by
  have h : ∀ a b : Rat, SKey.le (revNumField (.num a)) (revNumField (.num b)) = SKey.le (.num b) (.num a) :=
    fun a b => by simp only [revNumField, SKey.le, ← reverseNum_le_iff b a]
  exact fieldOK_of_le _ _ _ _ (h p q) (h q p)

end CogentModel.TableOps
