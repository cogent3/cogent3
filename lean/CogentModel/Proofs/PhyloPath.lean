import CogentModel.Proofs.PhyloBasic
/-! C09: a node addressed by a path (`nodeAt`), what `findPath` finds (`get_node_matching_name`), paths that
end in a tip (`TipPath`), and that different positions of a child list hold disjoint tips. -/
namespace CogentModel.Phylo
open PTree
variable {K : Type}

theorem tips_nodeAt_subset (pth : List Nat) (t u : PTree K) (h : nodeAt t pth = some u) :
    ∀ z ∈ tips u, z ∈ tips t := by
  fun_induction nodeAt t pth with
  | case1 t => cases h; exact fun _ h => h
  | case2 n l cs i p hp => cases h
  | case3 n l cs i p pre x post hp ih =>
    obtain ⟨rfl, -⟩ := pick_spec hp
    intro z hz
    rw [tips_node_ne_nil _ _ _ (by simp)]
    exact tips_subset_tipsL (by simp) z (ih h z hz)

theorem nodeAt_append (p1 p2 : List Nat) (t u : PTree K) (h : nodeAt t p1 = some u) :
    nodeAt t (p1 ++ p2) = nodeAt u p2 := by
  fun_induction nodeAt t p1 with
  | case1 t => cases h; rfl
  | case2 n l cs i p hp => cases h
  | case3 n l cs i p pre x post hp ih => simp only [List.cons_append, nodeAt, hp, ih h]

mutual
theorem findPath_sound (nm : String) : ∀ (t : PTree K) (p : List Nat), findPath nm t = some p →
    ∃ u, nodeAt t p = some u ∧ u.name = nm
  | .node n l cs, p, h => by
    simp only [findPath] at h
    split at h
    · rename_i hn
      cases h
      exact ⟨_, rfl, hn⟩
    · obtain ⟨j, p', pre, x, post, rfl, hpk, u, hu, hname⟩ := findPathL_offset nm cs 0 p h
      exact ⟨u, by simp only [nodeAt, Nat.zero_add, hpk, hu], hname⟩
/-- a hit in a list of siblings scanned from position `i`: the path starts with `i + j`, `j` the
position in the list -/
theorem findPathL_offset (nm : String) : ∀ (cs : List (PTree K)) (i : Nat) (p : List Nat), findPathL nm cs i = some p →
    ∃ j p' pre x post, p = (i + j) :: p' ∧ pick cs j = some (pre, x, post) ∧
      ∃ u, nodeAt x p' = some u ∧ u.name = nm
  | [], i, p, h => by cases h
  | c :: cs, i, p, h => by
    simp only [findPathL] at h
    split at h
    · rename_i q hc
      cases h
      exact ⟨0, q, [], c, cs, rfl, rfl, findPath_sound nm c q hc⟩
    · obtain ⟨j, p', pre, x, post, rfl, hpk, hrest⟩ := findPathL_offset nm cs (i + 1) p h
      exact ⟨j + 1, p', c :: pre, x, post, by rw [Nat.add_right_comm, Nat.add_assoc], by simp only [pick, hpk], hrest⟩
end

mutual
def internalNames {K : Type} : PTree K → List String
  | .node _ _ [] => []
  | .node n _ (c :: cs) => n :: internalNamesL (c :: cs)
def internalNamesL {K : Type} : List (PTree K) → List String
  | [] => []
  | c :: cs => internalNames c ++ internalNamesL cs
end

theorem internalNamesL_mem (pre post : List (PTree K)) (x : PTree K) (z : String)
    (h : z ∈ internalNames x) : z ∈ internalNamesL (pre ++ x :: post) := by
  induction pre with
  | nil => simp [internalNamesL, h]
  | cons c cs ih => simp [internalNamesL, ih]

theorem internal_name_mem (p : List Nat) (t u : PTree K) (h : nodeAt t p = some u)
    (hc : u.children ≠ []) : u.name ∈ internalNames t := by
  fun_induction nodeAt t p with
  | case1 t =>
    cases h
    cases u with
    | node n l cs =>
      cases cs with
      | nil => exact absurd rfl hc
      | cons c cs => exact List.mem_cons_self
  | case2 n l cs i p hp => cases h
  | case3 n l cs i p pre x post hp ih =>
    obtain ⟨rfl, -⟩ := pick_spec hp
    have := internalNamesL_mem pre post x _ (ih h)
    cases pre <;> exact List.mem_cons_of_mem _ this

/-- a child at another position stands before or after -/
theorem mem_of_pick_ne {α : Type} {l : List α} {i j : Nat} {pre post pre' post' : List α} {x x' : α}
    (h1 : pick l i = some (pre, x, post)) (h2 : pick l j = some (pre', x', post')) (hij : i ≠ j) :
    x' ∈ pre ∨ x' ∈ post := by
  obtain ⟨rfl, rfl⟩ := pick_spec h1
  obtain ⟨h, rfl⟩ := pick_spec h2
  rcases List.append_eq_append_iff.1 h with ⟨a', rfl, h'⟩ | ⟨c', rfl, h'⟩
  · cases a' with
    | nil => simp at hij
    | cons z a'' => cases h'; exact .inr (by simp)
  · cases c' with
    | nil => simp at hij
    | cons z c'' => cases h'; exact .inl (by simp)

/-- two different positions of a list of subtrees with distinct tips have disjoint tips -/
theorem pick_disjoint {cs : List (PTree K)} {i j : Nat} {pre post pre' post' : List (PTree K)}
    {x x' : PTree K} (h1 : pick cs i = some (pre, x, post)) (h2 : pick cs j = some (pre', x', post'))
    (hij : i ≠ j) (hnd : (tipsL cs).Nodup) {z : String} (hz : z ∈ tips x) : z ∉ tips x' := by
  have hm := mem_of_pick_ne h1 h2 hij
  obtain ⟨rfl, -⟩ := pick_spec h1
  obtain ⟨n1, n2⟩ := not_mem_siblings hnd hz
  exact fun hz' => hm.elim (fun h => n1 (tips_subset_tipsL h z hz')) fun h => n2 (tips_subset_tipsL h z hz')

/-- `p` leads from `u` to the tip named `a` -/
def TipPath (u : PTree K) (p : List Nat) (a : String) : Prop :=
  ∃ tp, nodeAt u p = some tp ∧ tp.children = [] ∧ tp.name = a

namespace TipPath

theorem mem {u : PTree K} {p : List Nat} {a : String} (h : TipPath u p a) : a ∈ tips u := by
  obtain ⟨tp, h1, h2, h3⟩ := h
  apply tips_nodeAt_subset p u tp h1
  cases tp with
  | node n l cs => simp only [children_node] at h2; subst h2; simp [tips, ← h3]

/-- the empty path: the node is the tip itself -/
theorem tips_nil {u : PTree K} {a : String} (h : TipPath u [] a) : tips u = [a] := by
  obtain ⟨tp, h1, h2, rfl⟩ := h
  cases h1
  cases u with
  | node n l cs => cases h2; rfl

theorem step {n : String} {l : Option K} {cs : List (PTree K)} {i : Nat} {p : List Nat} {a : String}
    (h : TipPath (PTree.node n l cs) (i :: p) a) :
    ∃ pre x post, pick cs i = some (pre, x, post) ∧ TipPath x p a := by
  obtain ⟨tp, h1, h2, h3⟩ := h
  simp only [nodeAt] at h1
  split at h1
  · cases h1
  · rename_i pre x post hp
    exact ⟨pre, x, post, hp, tp, h1, h2, h3⟩

end TipPath

theorem tipPath_of_findPath (t : PTree K) (a : String) (p : List Nat) (ha : a ∈ tips t)
    (hint : ∀ n ∈ tips t, n ∉ internalNames t) (h : findPath a t = some p) : TipPath t p a := by
  obtain ⟨u, hu, hn⟩ := findPath_sound a t p h
  refine ⟨u, hu, ?_, hn⟩
  by_contra hc
  have := internal_name_mem p t u hu hc
  rw [hn] at this
  exact hint a ha this

end CogentModel.Phylo
