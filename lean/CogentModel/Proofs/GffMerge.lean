import CogentModel.Proofs.AnnotDbSpans
/-! `merged_gff_records` absorbs single-span records one at a time (`absorb`, `combine`, `mergeRows_eq`); absorbing
commutes with merging the later rows among themselves first (`combine_combine`), so the merge of a file is the merge
of a prefix combined with the merge of the rest (`merged_append`). -/
namespace CogentModel.AnnotDb

def names (l : List Merged) : List String := l.map (·.name)

theorem names_append (a b : List Merged) : names (a ++ b) = names a ++ names b := List.map_append

def extend (m x : Merged) : Merged := if x.name = m.name then { x with spans := x.spans ++ m.spans } else x

/-- one merged record enters the list: it extends the record of its name, or is appended -/
def absorb (acc : List Merged) (m : Merged) : List Merged :=
  if m.name ∈ names acc then acc.map (extend m) else acc ++ [m]

def combine (acc ms : List Merged) : List Merged := ms.foldl absorb acc

theorem absorb_of_mem {acc : List Merged} {m : Merged} (h : m.name ∈ names acc) : absorb acc m = acc.map (extend m) :=
  if_pos h

theorem absorb_of_not_mem {acc : List Merged} {m : Merged} (h : m.name ∉ names acc) : absorb acc m = acc ++ [m] :=
  if_neg h

theorem extend_name (m x : Merged) : (extend m x).name = x.name := by
  unfold extend; split <;> rfl

theorem names_map_extend (m : Merged) (l : List Merged) : names (l.map (extend m)) = names l := by
  simp [names, List.map_map, Function.comp, extend_name]

theorem extend_pos (m x : Merged) (h : x.name = m.name) : extend m x = { x with spans := x.spans ++ m.spans } := by
  unfold extend; simp [h]

theorem extend_neg (m x : Merged) (h : x.name ≠ m.name) : extend m x = x := by
  unfold extend; simp [h]

theorem map_extend_id (s : Merged) (xs : List Merged) (h : s.name ∉ names xs) : xs.map (extend s) = xs :=
  (List.map_congr_left fun z hz => extend_neg s z fun e => h (List.mem_map.mpr ⟨z, hz, e⟩)).trans (List.map_id' xs)

theorem any_name_iff (l : List Merged) (n : String) : l.any (fun x => x.name = n) = true ↔ n ∈ names l := by
  unfold names
  rw [List.any_eq_true, List.mem_map]
  constructor
  · rintro ⟨x, hx, hd⟩; exact ⟨x, hx, by simpa using hd⟩
  · rintro ⟨x, hx, rfl⟩; exact ⟨x, hx, by simp⟩

theorem mergedAppend_eq_absorb (acc : List Merged) (name : String) (row : GffRow) (sp : Int × Int) :
    mergedAppend acc name row sp = absorb acc { name := name, row := row, spans := [sp] } := by
  unfold mergedAppend
  by_cases h : name ∈ names acc
  · rw [absorb_of_mem h, if_pos ((any_name_iff acc name).mpr h)]
    exact List.map_congr_left fun x _ => by unfold extend; rfl
  · rw [absorb_of_not_mem h, if_neg fun e => h ((any_name_iff acc name).mp e)]

theorem names_absorb (acc : List Merged) (m : Merged) :
    names (absorb acc m) = if m.name ∈ names acc then names acc else names acc ++ [m.name] := by
  unfold absorb
  split
  · exact names_map_extend m acc
  · simp [names]

theorem nodup_names_absorb (acc : List Merged) (m : Merged) (h : (names acc).Nodup) : (names (absorb acc m)).Nodup := by
  rw [names_absorb]
  split
  · exact h
  · rename_i hm
    exact (List.perm_append_singleton _ _).nodup_iff.mpr (List.nodup_cons.mpr ⟨hm, h⟩)

theorem mem_names_absorb {acc : List Merged} {m : Merged} {n : String} :
    n ∈ names (absorb acc m) ↔ n ∈ names acc ∨ n = m.name := by
  rw [names_absorb]; split
  · rename_i hm
    exact ⟨.inl, fun h => h.elim id fun e => e ▸ hm⟩
  · rw [List.mem_append, List.mem_singleton]

theorem combine_cons (acc : List Merged) (m : Merged) (ms : List Merged) :
    combine acc (m :: ms) = combine (absorb acc m) ms := rfl

theorem combine_append (acc a b : List Merged) : combine acc (a ++ b) = combine (combine acc a) b := by
  unfold combine; exact List.foldl_append

/-- the names after a merge are those that went in -/
theorem mem_names_combine {ms acc : List Merged} {n : String} :
    n ∈ names (combine acc ms) ↔ n ∈ names acc ∨ n ∈ names ms := by
  induction ms generalizing acc with
  | nil => simp [combine, names]
  | cons m ms ih =>
    rw [combine_cons, ih, mem_names_absorb, or_assoc]
    exact or_congr_right List.mem_cons.symm

theorem nodup_names_combine (ms acc : List Merged) (h : (names acc).Nodup) : (names (combine acc ms)).Nodup := by
  induction ms generalizing acc with
  | nil => exact h
  | cons m ms ih => exact ih _ (nodup_names_absorb acc m h)

theorem absorb_map_extend (s y : Merged) (A : List Merged) (hne : y.name ≠ s.name) :
    absorb (A.map (extend s)) y = (absorb A y).map (extend s) := by
  unfold absorb
  rw [names_map_extend]
  split
  · simp only [List.map_map]
    apply List.map_congr_left
    intro z _
    simp only [Function.comp]
    by_cases h1 : z.name = s.name
    · have h2 : z.name ≠ y.name := fun e => hne (e.symm.trans h1)
      rw [extend_neg y z h2, extend_neg y (extend s z) (by rw [extend_name]; exact h2)]
    · rw [extend_neg s z h1, extend_neg s (extend y z) (by rw [extend_name]; exact h1)]
  · simp only [List.map_append, List.map_cons, List.map_nil]
    rw [extend_neg s y hne]

theorem combine_map_extend (s : Merged) (xs A : List Merged) (h : s.name ∉ names xs) :
    combine (A.map (extend s)) xs = (combine A xs).map (extend s) := by
  induction xs generalizing A with
  | nil => rfl
  | cons y ys ih =>
    have ⟨hy, h⟩ := not_or.mp (mt List.mem_cons.mpr h)
    rw [combine_cons, combine_cons, absorb_map_extend s y A (Ne.symm hy)]
    exact ih _ h

theorem absorb_extended (s x : Merged) (acc : List Merged) (hx : x.name = s.name) :
    absorb acc { x with spans := x.spans ++ s.spans } = (absorb acc x).map (extend s) := by
  unfold absorb
  simp only []
  split
  · rename_i hany
    simp only [List.map_map]
    apply List.map_congr_left
    intro z _
    simp only [Function.comp]
    by_cases h1 : z.name = x.name
    · rw [extend_pos _ z (by simpa using h1), extend_pos x z h1, extend_pos s _ (by simpa using h1.trans hx)]
      simp [List.append_assoc]
    · have h2 : z.name ≠ s.name := hx ▸ h1
      rw [extend_neg _ z (by simpa using h1), extend_neg x z h1, extend_neg s z h2]
  · rename_i hnot
    rw [List.map_append, map_extend_id s acc (hx ▸ hnot), List.map_cons, List.map_nil, extend_pos s x hx]

theorem combine_of_map_extend (s : Merged) (acc' acc : List Merged) (hnd : (names acc').Nodup)
    (hs : s.name ∈ names acc') :
    combine acc (acc'.map (extend s)) = (combine acc acc').map (extend s) := by
  induction acc' generalizing acc with
  | nil => cases hs
  | cons x xs ih =>
    have ⟨hxs, hnd⟩ := List.nodup_cons.mp hnd
    simp only [List.map_cons, combine_cons]
    by_cases hx : x.name = s.name
    · have hnot : s.name ∉ names xs := hx ▸ hxs
      rw [map_extend_id s xs hnot, extend_pos s x hx, absorb_extended s x acc hx]
      exact combine_map_extend s xs _ hnot
    · rw [extend_neg s x hx]
      exact ih (absorb acc x) hnd ((List.mem_cons.mp hs).resolve_left (Ne.symm hx))

theorem absorb_combine (s : Merged) (acc acc' : List Merged) (hnd : (names acc').Nodup) :
    absorb (combine acc acc') s = combine acc (absorb acc' s) := by
  by_cases hs : s.name ∈ names acc'
  · rw [absorb_of_mem hs, absorb_of_mem (mem_names_combine.mpr (.inr hs)),
      combine_of_map_extend s acc' acc hnd hs]
  · rw [absorb_of_not_mem hs, combine_append]; rfl

theorem combine_combine (S acc acc' : List Merged) (hnd : (names acc').Nodup) :
    combine (combine acc acc') S = combine acc (combine acc' S) := by
  induction S generalizing acc' with
  | nil => rfl
  | cons s S ih =>
    rw [combine_cons, combine_cons, absorb_combine s acc acc' hnd]
    exact ih (absorb acc' s) (nodup_names_absorb acc' s hnd)

/-- the single-span record `merged_gff_records` feeds in for one row; `n` counts the rows without an ID so far -/
def single (row : GffRow) (n : Nat) : Merged :=
  { name := row.id.getD ("unknown-" ++ toString n), row := row, spans := [gffCoords row.start row.stop] }

/-- the fake-id counter after one row -/
def bump (row : GffRow) (n : Nat) : Nat := if row.id.isSome then n else n + 1

def singles : List GffRow → Nat → List Merged
  | [], _ => []
  | row :: rows, n => single row n :: singles rows (bump row n)

/-- the fake-id counter after the rows -/
def fakeIds : List GffRow → Nat → Nat
  | [], n => n
  | row :: rows, n => fakeIds rows (bump row n)

theorem mergeRows_eq (rows : List GffRow) (n : Nat) (acc : List Merged) :
    mergeRows rows n acc = (combine acc (singles rows n), fakeIds rows n) := by
  induction rows generalizing n acc with
  | nil => rfl
  | cons row rows ih =>
    rw [mergeRows, singles, fakeIds, combine_cons, single, bump]
    -- with or without an ID the row enters as `single row n`
    cases row.id <;> exact (ih ..).trans (by rw [mergedAppend_eq_absorb]; rfl)

theorem singles_append (P b : List GffRow) (n : Nat) : singles (P ++ b) n = singles P n ++ singles b (fakeIds P n) := by
  induction P generalizing n with
  | nil => rfl
  | cons row rows ih => simp only [List.cons_append, singles, ih, fakeIds]

theorem fakeIds_append (P b : List GffRow) (n : Nat) : fakeIds (P ++ b) n = fakeIds b (fakeIds P n) := by
  induction P generalizing n with
  | nil => rfl
  | cons row rows ih => simp only [List.cons_append, fakeIds, ih]

theorem mem_names_singles {row : GffRow} {i : String} (hi : row.id = some i) {rows : List GffRow} (h : row ∈ rows)
    (n : Nat) : i ∈ names (singles rows n) := by
  induction rows generalizing n with
  | nil => cases h
  | cons r rs ih =>
    rcases List.mem_cons.mp h with rfl | h
    · exact List.mem_cons.mpr (.inl (by rw [single, hi]; rfl))
    · exact List.mem_cons_of_mem _ (ih h _)

def Wf (m : Merged) : Prop := m.spans ≠ [] ∧ ∀ p ∈ m.spans, p.1 ≤ p.2

theorem wf_extend (m x : Merged) (hm : Wf m) (hx : Wf x) : Wf (extend m x) := by
  unfold extend; split
  · exact ⟨List.append_ne_nil_of_left_ne_nil hx.1 _, List.forall_mem_append.mpr ⟨hx.2, hm.2⟩⟩
  · exact hx

theorem wf_absorb (acc : List Merged) (m : Merged) (hm : Wf m) (h : ∀ x ∈ acc, Wf x) : ∀ x ∈ absorb acc m, Wf x := by
  unfold absorb; split
  · exact List.forall_mem_map.mpr fun y hy => wf_extend m y hm (h y hy)
  · exact List.forall_mem_append.mpr ⟨h, List.forall_mem_singleton.mpr hm⟩

theorem wf_combine (ms acc : List Merged) (hms : ∀ m ∈ ms, Wf m) (h : ∀ x ∈ acc, Wf x) : ∀ x ∈ combine acc ms, Wf x := by
  induction ms generalizing acc with
  | nil => exact h
  | cons m ms ih =>
    rw [combine_cons]
    exact ih _ (fun z hz => hms z (List.mem_cons_of_mem _ hz)) (wf_absorb acc m (hms m List.mem_cons_self) h)

theorem wf_singles (rows : List GffRow) (n : Nat) : ∀ m ∈ singles rows n, Wf m := by
  induction rows generalizing n with
  | nil => intro m hm; cases hm
  | cons row rows ih =>
    refine List.forall_mem_cons.mpr ⟨⟨List.cons_ne_nil _ _, fun p hp => ?_⟩, ih _⟩
    rw [List.mem_singleton.mp hp]
    exact gffCoords_le _ _

/-- the merge of the rows `P` read as one block, rows without ID numbered from `n` -/
def merged (n : Nat) (P : List GffRow) : List Merged := combine [] (singles P n)

theorem mergeRows_nil (n : Nat) (P : List GffRow) : mergeRows P n [] = (merged n P, fakeIds P n) :=
  mergeRows_eq P n []

theorem names_nil_nodup : (names ([] : List Merged)).Nodup := by simp [names]

theorem names_merged_nodup (n : Nat) (P : List GffRow) : (names (merged n P)).Nodup :=
  nodup_names_combine _ _ names_nil_nodup

theorem wf_merged (n : Nat) (P : List GffRow) : ∀ x ∈ merged n P, Wf x :=
  wf_combine _ _ (wf_singles _ _) (by intro x hx; cases hx)

theorem merged_append (n : Nat) (P b : List GffRow) :
    merged n (P ++ b) = combine (merged n P) (merged (fakeIds P n) b) := by
  unfold merged
  rw [singles_append, combine_append]
  exact combine_combine _ _ [] names_nil_nodup
end CogentModel.AnnotDb
