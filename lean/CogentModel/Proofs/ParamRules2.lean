import CogentModel.Proofs.ParamRules
import CogentModel.Model.ParamRules2
/-! # C07 — exported parameter rules over TWO scope dimensions (edge × locus): re-import gives a cell the object of
the LAST rule whose rectangle contains it, so the round trip works exactly when that rule is the cell's own -/
namespace CogentModel.Rules2
open CogentModel.Rules (Setting clampVar orElse truthy upd)

theorem mem_pairs (as bs : List Nat) (c : Cell) :
    c ∈ as.flatMap (fun e => bs.map (fun l => (e, l))) ↔ c.1 ∈ as ∧ c.2 ∈ bs := by
  obtain ⟨e, l⟩ := c
  simp

theorem mem_cells (d : Defn) (c : Cell) : c ∈ cells d ↔ c.1 < d.nEdges ∧ c.2 < d.nLoci := by
  rw [cells, mem_pairs, List.mem_range, List.mem_range]

theorem mem_rect (d : Defn) (es ls : Option (List Nat)) (c : Cell) :
    c ∈ rect d es ls ↔ c.1 ∈ selDim d.nEdges es ∧ c.2 ∈ selDim d.nLoci ls :=
  mem_pairs _ _ c

theorem selDim_lt (n : Nat) (cs : Option (List Nat)) (x : Nat) (h : x ∈ selDim n cs) : x < n := by
  unfold selDim at h
  cases cs with
  | none => simpa using h
  | some l =>
    simp only [] at h
    split at h
    · simpa using h
    · exact List.mem_range.1 (List.mem_filter.1 h).1

theorem selDim_nodup (n : Nat) (cs : Option (List Nat)) : (selDim n cs).Nodup := by
  unfold selDim
  cases cs with
  | none => exact List.nodup_range
  | some es =>
    simp only []
    split
    · exact List.nodup_range
    · exact List.nodup_range.filter _

theorem selDim_singleton {n : Nat} {cs : Option (List Nat)} {P : List Nat} {x0 : Nat}
    (h : ∀ x, x ∈ selDim n cs ↔ x ∈ P) (h0 : x0 ∈ P) (hlen : ¬ 2 ≤ P.length) : selDim n cs = [x0] :=
  Rules.eq_singleton_of (selDim_nodup n cs) (fun x hx => Rules.short_eq hlen x x0 ((h x).1 hx) h0) ((h x0).2 h0)

theorem firsts_sub (s : St) : ∀ (L : List Cell) (f : Cell), f ∈ firsts s L → f ∈ L := by
  intro L
  induction L with
  | nil => intro f h; simp [firsts] at h
  | cons c cs ih =>
    intro f h
    simp only [firsts, List.mem_cons, List.mem_filter] at h
    rcases h with h | h
    · simp [h]
    · exact List.mem_cons_of_mem _ (ih f h.1)

theorem firsts_rep (s : St) : ∀ (L : List Cell) (x : Cell), x ∈ L → ∃ f, f ∈ firsts s L ∧ s.cid f = s.cid x := by
  intro L
  induction L with
  | nil => intro x h; simp at h
  | cons c cs ih =>
    intro x hx
    by_cases hc : s.cid x = s.cid c
    · exact ⟨c, by simp [firsts], hc.symm⟩
    · rcases List.mem_cons.1 hx with h | h
      · exact absurd (by rw [h]) hc
      · obtain ⟨f, hf, hfx⟩ := ih x h
        refine ⟨f, ?_, hfx⟩
        simp only [firsts, List.mem_cons, List.mem_filter]
        right
        refine ⟨hf, ?_⟩
        simp [hfx, hc]

theorem firsts_inj (s : St) : ∀ (L : List Cell) (a b : Cell), a ∈ firsts s L → b ∈ firsts s L →
    s.cid a = s.cid b → a = b := by
  intro L
  induction L with
  | nil => intro a b h; simp [firsts] at h
  | cons c cs ih =>
    intro a b ha hb hab
    simp only [firsts, List.mem_cons, List.mem_filter, bne_iff_ne, ne_eq] at ha hb
    rcases ha with ha | ha <;> rcases hb with hb | hb
    · rw [ha, hb]
    · exact absurd (by rw [← hab, ha]) hb.2
    · exact absurd (by rw [hab, hb]) ha.2
    · exact ih a b ha.1 hb.1 hab

theorem firsts_nodup (s : St) : ∀ (L : List Cell), (firsts s L).Nodup := by
  intro L
  induction L with
  | nil => simp [firsts]
  | cons c cs ih =>
    simp only [firsts, List.nodup_cons, List.mem_filter, bne_iff_ne, ne_eq]
    exact ⟨fun h => by simp at h, ih.filter _⟩

theorem mem_group (d : Defn) (s : St) (f x : Cell) : x ∈ group d s f ↔ x ∈ cells d ∧ s.cid x = s.cid f := by
  simp [group]

theorem mem_projE (d : Defn) (s : St) (f : Cell) (e : Nat) :
    e ∈ projE d s f ↔ e < d.nEdges ∧ ∃ l, l < d.nLoci ∧ s.cid (e, l) = s.cid f := by
  simp only [projE, List.mem_filter, List.mem_range, List.any_eq_true, mem_group, mem_cells, beq_iff_eq]
  constructor
  · rintro ⟨he, ⟨a, b⟩, ⟨⟨_, hb⟩, hc⟩, h⟩
    simp only at h hb
    subst h
    exact ⟨he, b, hb, hc⟩
  · rintro ⟨he, l, hl, hc⟩
    exact ⟨he, (e, l), ⟨⟨he, hl⟩, hc⟩, rfl⟩

theorem mem_projL (d : Defn) (s : St) (f : Cell) (l : Nat) :
    l ∈ projL d s f ↔ l < d.nLoci ∧ ∃ e, e < d.nEdges ∧ s.cid (e, l) = s.cid f := by
  simp only [projL, List.mem_filter, List.mem_range, List.any_eq_true, mem_group, mem_cells, beq_iff_eq]
  constructor
  · rintro ⟨he, ⟨a, b⟩, ⟨⟨ha, _⟩, hc⟩, h⟩
    simp only at h ha
    subst h
    exact ⟨he, a, ha, hc⟩
  · rintro ⟨hl, e, he, hc⟩
    exact ⟨hl, (e, l), ⟨⟨he, hl⟩, hc⟩, rfl⟩

/-- a Var holds a value inside its bounds (what `assign_all` establishes by clamping) -/
def Good : Setting → Prop
  | .var lo v hi => lo ≤ v ∧ v ≤ hi
  | .const _ => True

def WFSt (d : Defn) (s : St) : Prop := ∀ c, c ∈ cells d → Good (s.setting c)

/-- one `assign_all` scope: all cells of `G` get one new setting object -/
def assignGroup (t : St) (G : List Cell) (σ : Setting) : St :=
  { asg := fun e l => if G.contains (e, l) then t.next else t.asg e l, store := upd t.store t.next σ,
    next := t.next + 1 }

theorem nGroups_one (d : Defn) (s : St) (h : nGroups d s = 1) (x y : Cell) (hx : x ∈ cells d) (hy : y ∈ cells d) :
    s.cid x = s.cid y := by
  obtain ⟨f1, hf1, h1⟩ := firsts_rep s (cells d) x hx
  obtain ⟨f2, hf2, h2⟩ := firsts_rep s (cells d) y hy
  rw [← h1, ← h2, Rules.len_one_eq h f1 f2 hf1 hf2]

theorem self_projE (d : Defn) (s : St) (f x : Cell) (hx : x ∈ cells d) (h : s.cid x = s.cid f) : x.1 ∈ projE d s f :=
  (mem_projE d s f x.1).2 ⟨((mem_cells d x).1 hx).1, x.2, ((mem_cells d x).1 hx).2, h⟩

theorem self_projL (d : Defn) (s : St) (f x : Cell) (hx : x ∈ cells d) (h : s.cid x = s.cid f) : x.2 ∈ projL d s f :=
  (mem_projL d s f x.2).2 ⟨((mem_cells d x).1 hx).2, x.1, ((mem_cells d x).1 hx).1, h⟩

/-- a dimension exported without names when the projection is all of it, by name otherwise: either way the rule
selects the projection -/
theorem selDim_export (n : Nat) (all : Bool) (P : List Nat) {x0 : Nat} (h0 : x0 ∈ P) (hsub : ∀ x, x ∈ P → x < n)
    (hall : all = true → ∀ x, x < n → x ∈ P) (x : Nat) :
    x ∈ selDim n (if all then none else some P) ↔ x ∈ P := by
  cases all with
  | true => simp only [if_true, selDim, List.mem_range]; exact ⟨hall rfl x, hsub x⟩
  | false =>
    simp only [selDim, List.isEmpty_eq_false_iff_exists_mem.2 ⟨x0, h0⟩, Bool.false_eq_true, if_false, List.mem_filter,
      List.mem_range, List.contains_iff_mem]
    exact ⟨fun h => h.2, fun h => ⟨hsub x h, h⟩⟩

theorem selE_rule (d : Defn) (s : St) (f : Cell) (hf : f ∈ cells d) (e : Nat) :
    e ∈ selDim d.nEdges (ruleOf d s f).edges ↔ e ∈ projE d s f := by
  have hfc := (mem_cells d f).1 hf
  refine selDim_export _ _ _ (self_projE d s f f hf rfl) (fun x hx => ((mem_projE d s f x).1 hx).1) ?_ e
  intro hcond e he
  simp only [Bool.or_eq_true, decide_eq_true_eq] at hcond
  rcases hcond with h1 | h1
  · have hc : (e, f.2) ∈ cells d := (mem_cells d _).2 ⟨he, hfc.2⟩
    exact self_projE d s f (e, f.2) hc (nGroups_one d s h1 _ _ hc hf)
  · have : e = f.1 := by omega
    rw [this]
    exact self_projE d s f f hf rfl

theorem selL_rule (d : Defn) (s : St) (f : Cell) (hf : f ∈ cells d) (l : Nat) :
    l ∈ selDim d.nLoci (ruleOf d s f).loci ↔ l ∈ projL d s f := by
  have hfc := (mem_cells d f).1 hf
  refine selDim_export _ _ _ (self_projL d s f f hf rfl) (fun x hx => ((mem_projL d s f x).1 hx).1) ?_ l
  intro hcond l hl
  simp only [Bool.or_eq_true, decide_eq_true_eq] at hcond
  rcases hcond with h1 | h1
  · have hc : (f.1, l) ∈ cells d := (mem_cells d _).2 ⟨hfc.1, hl⟩
    exact self_projL d s f (f.1, l) hc (nGroups_one d s h1 _ _ hc hf)
  · have : l = f.2 := by omega
    rw [this]
    exact self_projL d s f f hf rfl

/-- the rectangle an exported rule names is the product of the projections of its scope -/
theorem mem_ruleRect (d : Defn) (s : St) (f : Cell) (hf : f ∈ cells d) (c : Cell) :
    c ∈ rect d (ruleOf d s f).edges (ruleOf d s f).loci ↔ c.1 ∈ projE d s f ∧ c.2 ∈ projL d s f := by
  rw [mem_rect, selE_rule d s f hf, selL_rule d s f hf]

theorem covers_iff (d : Defn) (s : St) (f : Cell) (hf : f ∈ cells d) (c : Cell) :
    covers d (ruleOf d s f) c = true ↔ c.1 ∈ projE d s f ∧ c.2 ∈ projL d s f := by
  unfold covers
  rw [List.contains_iff_mem, mem_ruleRect d s f hf]

/-- the rectangle of a rule contains the scope of its setting object -/
theorem covers_own (d : Defn) (s : St) (f x : Cell) (hf : f ∈ cells d) (hx : x ∈ cells d) (h : s.cid x = s.cid f) :
    covers d (ruleOf d s f) x = true :=
  (covers_iff d s f hf x).2 ⟨self_projE d s f x hx h, self_projL d s f x hx h⟩

theorem covers_cell (d : Defn) (s : St) (f : Cell) (hf : f ∈ cells d) (c : Cell) (h : covers d (ruleOf d s f) c = true) :
    c ∈ cells d := by
  have := (covers_iff d s f hf c).1 h
  exact (mem_cells d c).2 ⟨((mem_projE d s f _).1 this.1).1, ((mem_projL d s f _).1 this.2).1⟩

/-! ### one exported rule applied to any state -/

theorem badDim_rule (n other : Nat) (all : Bool) (l : List Nat) (hnd : l.Nodup) (hsub : ∀ x, x ∈ l → x < n)
    (ho : 1 ≤ other) : badDim n (if all then none else some l) other = false := by
  cases all with
  | true => rfl
  | false =>
    simp only [badDim, Bool.false_eq_true, if_false, Bool.and_eq_false_imp, Bool.not_eq_true', List.any_eq_false,
      Bool.or_eq_true, decide_eq_true_eq, not_or, Nat.not_le, Nat.not_lt]
    intro _ x hx
    refine ⟨hsub x hx, ?_⟩
    rw [hnd.count]
    simp [hx]; exact ho

theorem badScope_rule (d : Defn) (s : St) (f : Cell) (hf : f ∈ cells d) :
    badScope d (ruleOf d s f).edges (ruleOf d s f).loci = false := by
  have hE : 1 ≤ (selDim d.nEdges (ruleOf d s f).edges).length :=
    List.length_pos_of_mem ((selE_rule d s f hf f.1).2 (self_projE d s f f hf rfl))
  have hL : 1 ≤ (selDim d.nLoci (ruleOf d s f).loci).length :=
    List.length_pos_of_mem ((selL_rule d s f hf f.2).2 (self_projL d s f f hf rfl))
  have h1 := badDim_rule d.nEdges _ (nGroups d s = 1 || decide (d.nEdges ≤ 1)) (projE d s f)
    (List.nodup_range.filter _) (fun x hx => ((mem_projE d s f x).1 hx).1) hL
  have h2 := badDim_rule d.nLoci _ (nGroups d s = 1 || decide (d.nLoci ≤ 1)) (projL d s f)
    (List.nodup_range.filter _) (fun x hx => ((mem_projL d s f x).1 hx).1) hE
  exact (Bool.or_eq_false_iff.2 ⟨h1, h2⟩ :)

theorem scopes_rule (d : Defn) (s : St) (f : Cell) (hf : f ∈ cells d) :
    scopes d (ruleOf d s f).edges (ruleOf d s f).loci (indepOf d (ruleOf d s f).isIndependent)
      = [rect d (ruleOf d s f).edges (ruleOf d s f).loci] := by
  have hfR : f ∈ rect d (ruleOf d s f).edges (ruleOf d s f).loci :=
    (mem_ruleRect d s f hf f).2 ⟨self_projE d s f f hf rfl, self_projL d s f f hf rfl⟩
  have hne := List.isEmpty_eq_false_iff_exists_mem.2 ⟨f, hfR⟩
  have hind : (ruleOf d s f).isIndependent =
      if d.indepDefault && (decide (2 ≤ (projE d s f).length) || decide (2 ≤ (projL d s f).length)) then some false
      else none := rfl
  unfold scopes indepOf
  rw [hind]
  cases d.indepDefault with
  | false => simp only [Bool.false_and, Bool.false_eq_true, if_false, hne]
  | true =>
    by_cases hg : (decide (2 ≤ (projE d s f).length) || decide (2 ≤ (projL d s f).length)) = true
    · simp only [hg, Bool.and_self, if_true, Bool.false_eq_true, if_false, hne]
    · simp only [hg, Bool.true_and, Bool.false_eq_true, if_false, if_true]
      simp only [Bool.or_eq_true, decide_eq_true_eq, not_or] at hg
      -- both projections are single categories, so the rectangle is the cell `f`
      simp [rect, selDim_singleton (selE_rule d s f hf) (self_projE d s f f hf rfl) hg.1,
        selDim_singleton (selL_rule d s f hf) (self_projL d s f f hf rfl) hg.2]

/-- an exported rule applied to ANY state assigns its rectangle to one new object holding the
exported setting: all assertions pass, one scope, and the clamps are no-ops -/
theorem setRule_ruleOf (d : Defn) (s : St) (hwf : WFSt d s) (f : Cell) (hf : f ∈ cells d) (t : St) :
    setRule d t (ruleOf d s f)
      = .ok (assignGroup t (rect d (ruleOf d s f).edges (ruleOf d s f).loci) (s.setting f)) := by
  have hsc := scopes_rule d s f hf
  have hcheck := badScope_rule d s f hf
  have hw := hwf f hf
  unfold setRule assignAll valueArg
  rw [hcheck, hsc]
  generalize rect d (ruleOf d s f).edges (ruleOf d s f).loci = R
  cases hs : s.setting f with
  | const v =>
    simp [ruleOf, hs, Setting.isVar, settingInit, settingLower, settingUpper, settingValue, truthy, mkSettings, mkSetting,
      orElse, assignScopes, assignGroup]
  | var lo v hi =>
    rw [hs] at hw
    have c1 : ¬ hi < lo := Rat.not_lt.2 (Rat.le_trans hw.1 hw.2)
    have c2 : ¬ v < lo := Rat.not_lt.2 hw.1
    have c3 : ¬ hi < v := Rat.not_lt.2 hw.2
    simp [ruleOf, hs, Setting.isVar, settingInit, settingLower, settingUpper, settingValue, truthy, mkSettings, mkSetting,
      orElse, clampVar, assignScopes, assignGroup, c1, c2, c3]

/-! ### all exported rules applied in order -/

/-- position of `x` in `l` -/
def pos : List Cell → Cell → Nat
  | [], _ => 0
  | a :: l, x => if x = a then 0 else pos l x + 1

theorem pos_eq_idxOf : ∀ (l : List Cell) (x : Cell), pos l x = l.idxOf x
  | [], _ => rfl
  | a :: l, x => by
    rw [pos, List.idxOf_cons, pos_eq_idxOf l x]
    by_cases h : x = a
    · simp [h]
    · simp [h, beq_eq_false_iff_ne.2 (Ne.symm h)]

theorem pos_inj (l : List Cell) (a b : Cell) (ha : a ∈ l) (hb : b ∈ l) (h : pos l a = pos l b) : a = b :=
  Rules.idxOf_inj ha hb (by rwa [pos_eq_idxOf, pos_eq_idxOf] at h)

theorem pos_lt (l : List Cell) (a : Cell) (ha : a ∈ l) : pos l a < l.length :=
  pos_eq_idxOf l a ▸ List.idxOf_lt_length_of_mem ha

theorem lastCover_cons_some (d : Defn) (s : St) (c f g : Cell) (fs : List Cell) :
    lastCover d s c (f :: fs) = some g ↔
      lastCover d s c fs = some g ∨ (lastCover d s c fs = none ∧ covers d (ruleOf d s f) c = true ∧ g = f) := by
  show pick (lastCover d s c fs) (covers d (ruleOf d s f) c) f = some g ↔ _
  cases lastCover d s c fs <;> cases covers d (ruleOf d s f) c <;> simp [pick, eq_comm]

theorem lastCover_cons_none (d : Defn) (s : St) (c f : Cell) (fs : List Cell) :
    lastCover d s c (f :: fs) = none ↔ lastCover d s c fs = none ∧ covers d (ruleOf d s f) c = false := by
  show pick (lastCover d s c fs) (covers d (ruleOf d s f) c) f = none ↔ _
  cases lastCover d s c fs <;> cases covers d (ruleOf d s f) c <;> simp [pick]

theorem lastCover_mem (d : Defn) (s : St) (c : Cell) : ∀ (fs : List Cell) (g : Cell),
    lastCover d s c fs = some g → g ∈ fs ∧ covers d (ruleOf d s g) c = true := by
  intro fs
  induction fs with
  | nil => intro g h; cases h
  | cons f fs ih =>
    intro g h
    rcases (lastCover_cons_some d s c f g fs).1 h with h | ⟨_, hc, rfl⟩
    · exact ⟨List.mem_cons_of_mem _ (ih g h).1, (ih g h).2⟩
    · exact ⟨List.mem_cons_self, hc⟩

theorem lastCover_none (d : Defn) (s : St) (c : Cell) : ∀ (fs : List Cell),
    lastCover d s c fs = none → ∀ f, f ∈ fs → covers d (ruleOf d s f) c = false := by
  intro fs
  induction fs with
  | nil => intro _ f hf; cases hf
  | cons f fs ih =>
    intro h g hg
    obtain ⟨hl, hc⟩ := (lastCover_cons_none d s c f fs).1 h
    rcases List.mem_cons.1 hg with rfl | hg
    · exact hc
    · exact ih hl g hg

theorem lastCover_exists (d : Defn) (s : St) (c : Cell) (fs : List Cell) (f : Cell) (hf : f ∈ fs)
    (hc : covers d (ruleOf d s f) c = true) : ∃ g, lastCover d s c fs = some g := by
  cases hl : lastCover d s c fs with
  | some g => exact ⟨g, rfl⟩
  | none => rw [lastCover_none d s c fs hl f hf] at hc; cases hc

/-- the rule found is the LAST one covering the cell -/
theorem lastCover_last (d : Defn) (s : St) (c : Cell) : ∀ (fs : List Cell), fs.Nodup → ∀ (g : Cell),
    lastCover d s c fs = some g → ∀ f, f ∈ fs → covers d (ruleOf d s f) c = true → pos fs f ≤ pos fs g := by
  intro fs
  induction fs with
  | nil => intro _ g h; cases h
  | cons a fs ih =>
    intro hnd g h f hf hc
    have hnd' := List.nodup_cons.1 hnd
    by_cases hfa : f = a
    · simp [pos, hfa]
    · have hf' : f ∈ fs := by simpa [hfa] using hf
      rcases (lastCover_cons_some d s c a g fs).1 h with hl | ⟨hl, _, _⟩
      · have hga : g ≠ a := fun h => hnd'.1 (h ▸ (lastCover_mem d s c fs g hl).1)
        have := ih hnd'.2 g hl f hf' hc
        simp only [pos, hfa, hga, if_false]
        omega
      · rw [lastCover_none d s c fs hl f hf'] at hc; cases hc

theorem cid_assignGroup (t : St) (G : List Cell) (σ : Setting) (x : Cell) :
    (assignGroup t G σ).cid x = if G.contains x then t.next else t.cid x := rfl

/-- folding the exported rules from the left: a cell ends with the object made by the LAST rule whose
rectangle contains it -/
theorem applyRules_fold (d : Defn) (s : St) (hwf : WFSt d s) :
    ∀ (fs : List Cell) (t0 : St), fs.Nodup → (∀ f, f ∈ fs → f ∈ cells d) →
      ∃ t, applyRules d t0 (fs.map (ruleOf d s)) = .ok t ∧ t.next = t0.next + fs.length ∧
        (∀ x g, lastCover d s x fs = some g → t.cid x = t0.next + pos fs g) ∧
        (∀ x, lastCover d s x fs = none → t.cid x = t0.cid x) ∧
        (∀ g, g ∈ fs → t.store (t0.next + pos fs g) = s.setting g) ∧
        (∀ i, i < t0.next → t.store i = t0.store i) := by
  intro fs
  induction fs with
  | nil =>
    intro t0 _ _
    refine ⟨t0, rfl, rfl, ?_, fun _ _ => rfl, ?_, fun _ _ => rfl⟩
    · intro x g h; cases h
    · intro g hg; cases hg
  | cons f fs ih =>
    intro t0 hnd hsub
    have hfc : f ∈ cells d := hsub f (by simp)
    have hnd' := List.nodup_cons.1 hnd
    simp only [List.map_cons, applyRules, setRule_ruleOf d s hwf f hfc t0]
    generalize hR : rect d (ruleOf d s f).edges (ruleOf d s f).loci = R
    have hcov : ∀ x, covers d (ruleOf d s f) x = R.contains x := by intro x; rw [← hR]; rfl
    obtain ⟨t, h1, h2, h3, h4, h5, h6⟩ := ih (assignGroup t0 R (s.setting f)) hnd'.2
      (fun g hg => hsub g (by simp [hg]))
    have hnext : (assignGroup t0 R (s.setting f)).next = t0.next + 1 := rfl
    have hstore : ∀ i, (assignGroup t0 R (s.setting f)).store i = if i = t0.next then s.setting f else t0.store i := by
      intro i; simp [assignGroup, upd]
    refine ⟨t, h1, ?_, ?_, ?_, ?_, ?_⟩
    · rw [h2, hnext]; exact Nat.add_right_comm _ _ _
    · intro x g hg
      rcases (lastCover_cons_some d s x f g fs).1 hg with hl | ⟨hl, hc, rfl⟩
      · have hga : g ≠ f := fun h => hnd'.1 (h ▸ (lastCover_mem d s x fs g hl).1)
        rw [h3 x g hl, hnext]
        simp only [pos, hga, if_false]
        omega
      · rw [h4 x hl, cid_assignGroup, ← hcov, hc]
        simp [pos]
    · intro x hx
      obtain ⟨hl, hc⟩ := (lastCover_cons_none d s x f fs).1 hx
      rw [h4 x hl, cid_assignGroup, ← hcov, hc]
      rfl
    · intro g hg
      rcases List.mem_cons.1 hg with hgf | hgfs
      · subst hgf
        simp only [pos, if_true, Nat.add_zero]
        rw [h6 t0.next (Nat.lt_succ_self _), hstore, if_pos rfl]
      · have hgne : g ≠ f := by intro h; subst h; exact hnd'.1 hgfs
        have := h5 g hgfs
        rw [hnext] at this
        simp only [pos, hgne, if_false]
        rw [← this]; congr 1; omega
    · intro i hi
      rw [h6 i (Nat.lt_succ_of_lt hi), hstore, if_neg (Nat.ne_of_lt hi)]

/-! ### the round trip, and exactly when it works -/

theorem orderSound_iff (d : Defn) (s : St) : orderSound d s = true ↔
    ∀ x, x ∈ cells d → ∃ g, lastCover d s x (firsts s (cells d)) = some g ∧ s.cid g = s.cid x := by
  unfold orderSound
  rw [List.all_eq_true]
  constructor
  · intro h x hx
    have := h x hx
    cases hl : lastCover d s x (firsts s (cells d)) with
    | none => rw [hl] at this; simp [ownsLast] at this
    | some g =>
      rw [hl] at this
      exact ⟨g, rfl, by simpa [ownsLast] using this⟩
  · intro h x hx
    obtain ⟨g, hg, hc⟩ := h x hx
    rw [hg]
    simp [ownsLast, hc]

/-- every cell is covered by some exported rule (its own) -/
theorem lastCover_total (d : Defn) (s : St) (x : Cell) (hx : x ∈ cells d) :
    ∃ g, lastCover d s x (firsts s (cells d)) = some g := by
  obtain ⟨f, hf, hfx⟩ := firsts_rep s (cells d) x hx
  exact lastCover_exists d s x _ f hf (covers_own d s f x (firsts_sub s _ f hf) hx hfx.symm)

theorem firsts_congr (s t : St) : ∀ (L : List Cell),
    (∀ a b, a ∈ L → b ∈ L → (t.cid a = t.cid b ↔ s.cid a = s.cid b)) → firsts t L = firsts s L := by
  intro L
  induction L with
  | nil => intro _; rfl
  | cons c cs ih =>
    intro h
    simp only [firsts]
    rw [ih (fun a b ha hb => h a b (List.mem_cons_of_mem _ ha) (List.mem_cons_of_mem _ hb))]
    congr 1
    apply List.filter_congr
    intro x hx
    have hx' : x ∈ c :: cs := List.mem_cons_of_mem _ (firsts_sub s cs x hx)
    have := h x c hx' (by simp)
    show (t.cid x != t.cid c) = (s.cid x != s.cid c)
    rw [Bool.eq_iff_iff, bne_iff_ne, bne_iff_ne]
    exact ⟨fun h1 h2 => h1 (this.2 h2), fun h1 h2 => h1 (this.1 h2)⟩

/-- **round trip** under `orderSound` -/
theorem roundtrip (d : Defn) (s : St) (hwf : WFSt d s) (hos : orderSound d s = true) :
    ∃ s', applyRules d (fresh d) (exportRules d s) = .ok s' ∧
      (∀ c, c ∈ cells d → s'.setting c = s.setting c) ∧
      (∀ c1 c2, c1 ∈ cells d → c2 ∈ cells d → (s'.cid c1 = s'.cid c2 ↔ s.cid c1 = s.cid c2)) ∧
      nfp d s' = nfp d s := by
  obtain ⟨t, h1, _, h3, _, h5, _⟩ := applyRules_fold d s hwf (firsts s (cells d)) (fresh d) (firsts_nodup s _)
    (firsts_sub s _)
  have hos' := (orderSound_iff d s).1 hos
  have hset : ∀ c, c ∈ cells d → t.setting c = s.setting c := by
    intro c hc
    obtain ⟨g, hg, hgc⟩ := hos' c hc
    have hgm := (lastCover_mem d s c _ g hg).1
    show t.store (t.cid c) = s.store (s.cid c)
    rw [h3 c g hg, h5 g hgm, ← hgc]; rfl
  have hpart : ∀ c1 c2, c1 ∈ cells d → c2 ∈ cells d → (t.cid c1 = t.cid c2 ↔ s.cid c1 = s.cid c2) := by
    intro c1 c2 hc1 hc2
    obtain ⟨g1, hg1, hgc1⟩ := hos' c1 hc1
    obtain ⟨g2, hg2, hgc2⟩ := hos' c2 hc2
    have hm1 := (lastCover_mem d s c1 _ g1 hg1).1
    have hm2 := (lastCover_mem d s c2 _ g2 hg2).1
    rw [h3 c1 g1 hg1, h3 c2 g2 hg2, ← hgc1, ← hgc2]
    constructor
    · intro h
      rw [pos_inj _ g1 g2 hm1 hm2 (by omega)]
    · intro h
      rw [firsts_inj s _ g1 g2 hm1 hm2 h]
  refine ⟨t, h1, hset, hpart, ?_⟩
  unfold nfp
  rw [firsts_congr s t (cells d) hpart]
  congr 1
  apply List.filter_congr
  intro f hf
  rw [hset f (firsts_sub s _ f hf)]

/-- the rules always import without an exception, whatever the order does -/
theorem applyRules_ok (d : Defn) (s : St) (hwf : WFSt d s) :
    ∃ s', applyRules d (fresh d) (exportRules d s) = .ok s' := by
  obtain ⟨t, h1, _⟩ := applyRules_fold d s hwf (firsts s (cells d)) (fresh d) (firsts_nodup s _) (firsts_sub s _)
  exact ⟨t, h1⟩

/-- **necessity**: if the re-imported state shares setting objects exactly as the original did, the export
order was sound -/
theorem sharing_orderSound (d : Defn) (s : St) (hwf : WFSt d s) (t : St)
    (ht : applyRules d (fresh d) (exportRules d s) = .ok t)
    (hshare : ∀ c1 c2, c1 ∈ cells d → c2 ∈ cells d → (t.cid c1 = t.cid c2 ↔ s.cid c1 = s.cid c2)) :
    orderSound d s = true := by
  obtain ⟨t', h1, _, h3, _, _, _⟩ := applyRules_fold d s hwf (firsts s (cells d)) (fresh d) (firsts_nodup s _)
    (firsts_sub s _)
  cases Except.ok.inj (h1.symm.trans ht)
  have hFsub := firsts_sub s (cells d)
  generalize hF : firsts s (cells d) = F at h3 hFsub
  have hFnd : F.Nodup := hF ▸ firsts_nodup s _
  have hFinj : ∀ a b, a ∈ F → b ∈ F → s.cid a = s.cid b → a = b := hF ▸ firsts_inj s (cells d)
  -- every first cell is last covered by its own rule
  have key : ∀ k f, f ∈ F → F.length - pos F f ≤ k → lastCover d s f F = some f := by
    intro k
    induction k with
    | zero =>
      intro f hf hk
      have := pos_lt F f hf
      omega
    | succ k ih =>
      intro f hf hk
      have hfc := hFsub f hf
      obtain ⟨g, hg⟩ := lastCover_exists d s f F f hf (covers_own d s f f hfc hfc rfl)
      have hgm := (lastCover_mem d s f F g hg).1
      have hle := lastCover_last d s f F hFnd g hg f hf (covers_own d s f f hfc hfc rfl)
      by_cases hpe : pos F g = pos F f
      · rw [hg, pos_inj F g f hgm hf hpe]
      · exfalso
        have hlt := pos_lt F g hgm
        -- `g` is exported later, so it is last covered by itself: `f` and `g` end up sharing an object
        have := (hshare f g hfc (hFsub g hgm)).1 (by rw [h3 f g hg, h3 g g (ih g hgm (by omega))])
        exact hpe (congrArg (pos F) (hFinj f g hf hgm this).symm)
  rw [orderSound_iff, hF]
  intro x hx
  obtain ⟨f, hf, hfx⟩ := firsts_rep s (cells d) x hx
  rw [hF] at hf
  obtain ⟨g, hg⟩ := lastCover_exists d s x F f hf (covers_own d s f x (hFsub f hf) hx hfx.symm)
  have hgm := (lastCover_mem d s x F g hg).1
  have := (hshare x f hx (hFsub f hf)).2 hfx.symm
  rw [h3 x g hg, h3 f f (key F.length f hf (by omega))] at this
  have hgf : g = f := pos_inj F g f hgm hf (by omega)
  exact ⟨g, hg, by rw [hgf, hfx]⟩

/-- if every cell a rule covers belongs to the rule's own setting object, no order can go wrong -/
theorem orderSound_of_exact (d : Defn) (s : St)
    (h : ∀ f, f ∈ firsts s (cells d) → ∀ c, c ∈ cells d → covers d (ruleOf d s f) c = true → s.cid c = s.cid f) :
    orderSound d s = true := by
  rw [orderSound_iff]
  intro x hx
  obtain ⟨g, hg⟩ := lastCover_total d s x hx
  obtain ⟨hgm, hgc⟩ := lastCover_mem d s x _ g hg
  exact ⟨g, hg, (h g hgm x hx hgc).symm⟩

theorem allRect_orderSound (d : Defn) (s : St) (h : allRect d s = true) : orderSound d s = true := by
  refine orderSound_of_exact d s fun f hf c hc hcov => ?_
  have := List.all_eq_true.1 (List.all_eq_true.1 h f hf) c hc
  simpa [hcov] using this

/-- `orderSound` spelled out without `lastCover`: no rule exported AFTER a cell's own rule covers the cell -/
theorem orderSound_spec (d : Defn) (s : St) : orderSound d s = true ↔
    ∀ x f g, x ∈ cells d → f ∈ firsts s (cells d) → g ∈ firsts s (cells d) → s.cid f = s.cid x →
      covers d (ruleOf d s g) x = true → pos (firsts s (cells d)) g ≤ pos (firsts s (cells d)) f := by
  rw [orderSound_iff]
  constructor
  · intro h x f g hx hf hg hfx hcov
    obtain ⟨g0, hg0, hgc⟩ := h x hx
    have hm := (lastCover_mem d s x _ g0 hg0).1
    have : g0 = f := firsts_inj s _ g0 f hm hf (hgc.trans hfx.symm)
    subst this
    exact lastCover_last d s x _ (firsts_nodup s _) g0 hg0 g hg hcov
  · intro h x hx
    obtain ⟨f, hf, hfx⟩ := firsts_rep s (cells d) x hx
    obtain ⟨g0, hg0⟩ := lastCover_total d s x hx
    obtain ⟨hm, hcov⟩ := lastCover_mem d s x _ g0 hg0
    have h1 := h x f g0 hx hf hm hfx hcov
    have h2 := lastCover_last d s x _ (firsts_nodup s _) g0 hg0 f hf
      (covers_own d s f x (firsts_sub s _ f hf) hx hfx.symm)
    have : g0 = f := pos_inj _ g0 f hm hf (by omega)
    exact ⟨g0, hg0, by rw [this, hfx]⟩

/-! ### every state reached by `set_param_rule` calls is well formed -/

/-- ids in use are below the fresh-id counter, and every Var in use is within its bounds -/
def Inv2 (d : Defn) (s : St) : Prop := (∀ c, c ∈ cells d → s.cid c < s.next) ∧ WFSt d s

theorem mkSetting_good (d : Defn) (s : St) (sc : List Cell) (value lower upper : Option Rat) (c : Bool)
    (σ : Setting) (h : mkSetting d s sc value lower upper c = .ok σ) : Good σ := by
  unfold mkSetting at h
  cases c with
  | true => simp only [if_true, Except.ok.injEq] at h; subst h; trivial
  | false =>
    simp only [Bool.false_eq_true, if_false] at h
    exact Rules.clampVar_good _ _ _ σ h

theorem mkSettings_good (d : Defn) (s : St) (value lower upper : Option Rat) (c : Bool) :
    ∀ (scs : List (List Cell)) (l : List (List Cell × Setting)),
      mkSettings d s value lower upper c scs = .ok l → ∀ p, p ∈ l → Good p.2 := by
  intro scs
  induction scs with
  | nil => intro l h p hp; cases h; cases hp
  | cons sc scs ih =>
    intro l h p hp
    simp only [mkSettings] at h
    split at h
    · cases h
    · rename_i σ h1
      split at h
      · cases h
      · rename_i l' h2
        cases h
        rcases List.mem_cons.1 hp with rfl | hp
        · exact mkSetting_good d s sc value lower upper c σ h1
        · exact ih l' h2 p hp

theorem assignScopes_inv (d : Defn) : ∀ (l : List (List Cell × Setting)) (s : St),
    Inv2 d s → (∀ p, p ∈ l → Good p.2) → Inv2 d (assignScopes s l) := by
  intro l
  induction l with
  | nil => intro s h _; exact h
  | cons p l ih =>
    intro s h hg
    obtain ⟨sc, σ⟩ := p
    simp only [assignScopes]
    apply ih _ _ (fun p hp => hg p (by simp [hp]))
    refine ⟨?_, ?_⟩
    · intro c hc
      show (if sc.contains (c.1, c.2) then s.next else s.asg c.1 c.2) < s.next + 1
      have : s.asg c.1 c.2 < s.next := h.1 c hc
      split <;> omega
    · intro c hc
      show Good (upd s.store s.next σ (if sc.contains (c.1, c.2) then s.next else s.asg c.1 c.2))
      by_cases hcc : sc.contains (c.1, c.2) = true
      · simp only [hcc, if_true, upd]
        exact hg (sc, σ) (by simp)
      · have hlt : s.asg c.1 c.2 < s.next := h.1 c hc
        have hne : s.asg c.1 c.2 ≠ s.next := by omega
        simp only [hcc, Bool.false_eq_true, if_false, upd, hne]
        exact h.2 c hc

theorem setRule_inv (d : Defn) (s s' : St) (r : RuleArgs) (h : setRule d s r = .ok s') (hI : Inv2 d s) :
    Inv2 d s' := by
  unfold setRule at h
  split at h
  · cases h
  · split at h
    · cases h
    · unfold assignAll at h
      split at h
      · cases h
      · split at h
        · cases h
        · rename_i l hl
          cases h
          exact assignScopes_inv d l s hI (mkSettings_good d s _ _ _ _ _ l hl)

theorem fresh_inv (d : Defn) (hd : d.dLo ≤ d.dVal ∧ d.dVal ≤ d.dHi) : Inv2 d (fresh d) := by
  unfold fresh
  split
  · refine ⟨fun c hc => ?_, fun c _ => hd⟩
    obtain ⟨h1, h2⟩ := (mem_cells d c).1 hc
    show c.1 * d.nLoci + c.2 < d.nEdges * d.nLoci
    have : (c.1 + 1) * d.nLoci ≤ d.nEdges * d.nLoci := Nat.mul_le_mul_right _ h1
    rw [Nat.add_mul] at this
    omega
  · exact ⟨fun c _ => Nat.zero_lt_one, fun c _ => hd⟩

end CogentModel.Rules2
