import CogentModel.Model.PathProcess
import CogentModel.Proofs.ExpmBridge
import CogentModel.Proofs.RateMatrixLemmas
import Mathlib.Algebra.BigOperators.Fin
import Mathlib.Algebra.Notation.Lemmas
/-! C05: paths of transition matrices.  What a fold along the path preserves comes from `List.foldlRecOn` and one
step lemma per property; Chapman–Kolmogorov and concatenation go through Mathlib matrices (`toM`, `toV`). -/

namespace CogentModel.PathProcess
open CogentModel.RateMatrix CogentModel.Expm Finset Matrix

section
variable {K : Type*} [Field K] {n : Nat}

def toV (n : Nat) (v : Vec K) : Fin n → K := fun i => vget v i.val

theorem toV_vecMat (v : Vec K) (P : Mat K) : toV n (vecMat n v P) = (toV n v) ᵥ* (toM n P) := by
  ext j
  simp only [toV, vecMat, vget_vtab _ j.isLt, Matrix.vecMul, dotProduct, toM_apply]
  rw [sumTo_eq_sum, ← Fin.sum_univ_eq_sum_range (fun i => vget v i * mget P i j.val) n]

theorem toM_foldl (Ps : List (Mat K)) : ∀ A : Mat K,
    toM n (Ps.foldl (matMul n) A) = toM n A * (Ps.map (toM n)).prod := by
  induction Ps with
  | nil => intro A; simp only [List.foldl_nil, List.map_nil, List.prod_nil, mul_one]
  | cons P Ps ih => intro A; simp only [List.foldl_cons, ih, toM_matMul, List.map_cons, List.prod_cons, mul_assoc]

theorem toM_pathProduct (Ps : List (Mat K)) : toM n (pathProduct n Ps) = (Ps.map (toM n)).prod := by
  simp only [pathProduct, toM_foldl, toM_ident, one_mul]

theorem toV_pathDist (mp : Vec K) (Ps : List (Mat K)) : toV n (pathDist n mp Ps) = toV n mp ᵥ* (Ps.map (toM n)).prod := by
  unfold pathDist
  induction Ps generalizing mp with
  | nil => simp only [List.foldl_nil, List.map_nil, List.prod_nil, Matrix.vecMul_one]
  | cons P Ps ih => simp only [List.foldl_cons, ih, toV_vecMat, List.map_cons, List.prod_cons, Matrix.vecMul_vecMul]

/-- the distributions met on the way are the distributions at the end of the prefixes of the path -/
theorem pathDists_eq_inits (Ps : List (Mat K)) : ∀ mp : Vec K, pathDists n mp Ps = Ps.inits.map (pathDist n mp) := by
  induction Ps with
  | nil => exact fun _ => rfl
  | cons P Ps ih =>
    intro mp
    rw [pathDists, ih, List.inits_cons, List.map_cons, List.map_map]
    rfl

theorem vget_vecMat (v : Vec K) (P : Mat K) {j : Nat} (hj : j < n) :
    vget (vecMat n v P) j = ∑ i ∈ range n, vget v i * mget P i j := by
  unfold vecMat
  rw [vget_vtab _ hj, sumTo_eq_sum]

/-- `(v P) 1 = v (P 1)`: a matrix with unit row sums preserves the total -/
theorem total_vecMat (v : Vec K) (P : Mat K) (hP : ∀ i, i < n → sumTo n (fun j => mget P i j) = 1) :
    sumTo n (vget (vecMat n v P)) = sumTo n (vget v) := by
  rw [sumTo_eq_sum, sumTo_eq_sum, sum_range_congr fun j hj => vget_vecMat v P hj, Finset.sum_comm]
  exact sum_range_congr fun i hi => by rw [← Finset.mul_sum, ← sumTo_eq_sum, hP i hi, mul_one]

/-- `vecMat` reads only the first `n` entries of the vector -/
theorem vecMat_congr {v w : Vec K} (h : ∀ i, i < n → vget v i = vget w i) (P : Mat K) {j : Nat} (hj : j < n) :
    vget (vecMat n v P) j = vget (vecMat n w P) j := by
  rw [vget_vecMat v P hj, vget_vecMat w P hj]
  exact sum_range_congr fun i hi => by rw [h i hi]

end

section ordered
variable {K : Type*} [Field K] [LinearOrder K] [IsStrictOrderedRing K] {n : Nat}

theorem matMul_entries_nonneg (A B : Mat K) (hA : ∀ i j, i < n → j < n → 0 ≤ mget A i j) (hB : ∀ i j, i < n → j < n → 0 ≤ mget B i j)
    (i j : Nat) (hi : i < n) (hj : j < n) : 0 ≤ mget (matMul n A B) i j := by
  rw [mget_matMul n A B hi hj]
  exact sum_range_nonneg fun k hk => mul_nonneg (hA i k hi hk) (hB k j hk hj)

theorem vecMat_entries_nonneg (v : Vec K) (P : Mat K) (hv : ∀ i, i < n → 0 ≤ vget v i) (hP : ∀ i j, i < n → j < n → 0 ≤ mget P i j)
    (j : Nat) (hj : j < n) : 0 ≤ vget (vecMat n v P) j := by
  rw [vget_vecMat v P hj]
  exact sum_range_nonneg fun k hk => mul_nonneg (hv k hk) (hP k j hk hj)

end ordered
end CogentModel.PathProcess
