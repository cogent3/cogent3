import CogentModel.Proofs.GffMerge
/-! One iteration of the block loop of `_db_from_gff`: combining a block into the stored records extends the seen names in
place (`extendBy`) and appends the rest (`combine_decomp`), and extending in place is `update_record_spans` on the table
(`fold_update_eq`).  Spans only grow (`extendBy_mono`), so what is asked of the final records holds of every earlier
state.  So after any blocking the loader holds the one-block merge of the rows read so far (`loadBlock_stateOf`,
`loadGffBlocks_eq_merged`). -/
namespace CogentModel.AnnotDb

theorem foldl_const {α β} (l : List β) (a : α) : l.foldl (fun t _ => t) a = a := by
  induction l with
  | nil => rfl
  | cons x xs ih => simpa using ih

/-- the update loop on merged records: every record of the block extends the record of its name, if there is one -/
def extendBy (ms a : List Merged) : List Merged := ms.foldl (fun a m => a.map (extend m)) a

theorem extendBy_cons (m : Merged) (ms a : List Merged) : extendBy (m :: ms) a = extendBy ms (a.map (extend m)) := rfl

theorem names_extendBy (ms a : List Merged) : names (extendBy ms a) = names a := by
  induction ms generalizing a with
  | nil => rfl
  | cons m ms ih => rw [extendBy_cons, ih, names_map_extend]

theorem combine_decomp (ms a F : List Merged) (hnd : (names ms).Nodup) (hF : ∀ n ∈ names ms, n ∉ names F) :
    combine (a ++ F) ms = extendBy ms a ++ F ++ ms.filter (fun m => !(names a).contains m.name) := by
  induction ms generalizing a F with
  | nil => simp [combine, extendBy]
  | cons m ms ih =>
    have ⟨hm, hnd⟩ := List.nodup_cons.mp hnd
    have ⟨hmF, hF⟩ := List.forall_mem_cons.mp hF
    rw [combine_cons, extendBy_cons, List.filter_cons]
    by_cases hma : m.name ∈ names a
    · -- a seen name: its record in `a` is extended, `F` is untouched
      rw [absorb_of_mem (names_append a F ▸ List.mem_append_left _ hma), List.map_append, map_extend_id m F hmF,
        ih _ F hnd hF, names_map_extend, if_neg (by simpa using hma)]
    · -- a new name: the record joins the fresh ones
      have hF2 : ∀ n ∈ names ms, n ∉ names (F ++ [m]) := fun n hn hmem => by
        rcases List.mem_append.mp (names_append F [m] ▸ hmem) with h | h
        · exact hF n hn h
        · exact hm (List.mem_singleton.mp h ▸ hn)
      rw [absorb_of_not_mem (names_append a F ▸ fun h => (List.mem_append.mp h).elim hma hmF), List.append_assoc,
        ih a _ hnd hF2, map_extend_id m a hma, if_pos (by simpa using hma)]
      simp only [List.append_assoc, List.cons_append, List.nil_append]

theorem gffRec_spans (x : Merged) (hw : Wf x) : (gffRec x).spans = sortSpans x.spans := by
  unfold gffRec; simp only []; rw [map_sortPair_id _ hw.2]

theorem gffRec_name (x : Merged) : (gffRec x).name = some x.name := rfl

/-- a stored record is called as its merged record is -/
theorem names_map_gffRec (l : List Merged) : (l.map gffRec).map (·.name) = (names l).map some := by
  rw [names, List.map_map, List.map_map]
  rfl

theorem gffRec_extended (m x : Merged) (hwm : Wf m) (hwx : Wf x) :
    gffRec { x with spans := x.spans ++ m.spans } =
      { gffRec x with spans := sortSpans (x.spans ++ m.spans), start := spanStart (sortSpans (x.spans ++ m.spans)),
                      stop := spanStop (sortSpans (x.spans ++ m.spans)) } := by
  unfold gffRec
  simp only []
  rw [map_sortPair_id _ (List.forall_mem_append.mpr ⟨hwx.2, hwm.2⟩)]

theorem find?_name {a : List Merged} (hnd : (names a).Nodup) {x : Merged} (hx : x ∈ a) {n : String} (hn : x.name = n) :
    (a.map gffRec).find? (fun r => decide (r.name = some n)) = some (gffRec x) := by
  induction a with
  | nil => cases hx
  | cons z zs ih =>
    have ⟨hz, hzs⟩ := List.nodup_cons.mp hnd
    rw [List.map_cons]
    rcases List.mem_cons.mp hx with rfl | hx
    · exact List.find?_cons_of_pos (by rw [gffRec_name, hn]; exact decide_eq_true rfl)
    · rw [List.find?_cons_of_neg, ih hzs hx]
      rw [gffRec_name, ← hn]
      exact fun e => hz (List.mem_map.mpr ⟨x, hx, (Option.some.inj (of_decide_eq_true e)).symm⟩)

/-- extending the stored record = `update_record_spans` on the table -/
theorem update_eq (a : List Merged) (m : Merged) (hnd : (names a).Nodup) (hm : m.name ∈ names a) (hwm : Wf m)
    (hwa : ∀ x ∈ a, Wf x) (hcompat : ∀ x ∈ a, x.name = m.name → (x.spans ++ m.spans).Nodup) :
    (a.map (extend m)).map gffRec = updateRecordSpans (a.map gffRec) m.name m.spans := by
  unfold updateRecordSpans
  have hne : m.spans.isEmpty = false := by simpa using hwm.1
  obtain ⟨x0, hx0, hx0n⟩ := List.mem_map.mp hm
  simp only [hne, Bool.false_eq_true, if_false, find?_name hnd hx0 hx0n, List.map_map]
  refine List.map_congr_left fun x hx => ?_
  simp only [Function.comp, gffRec_name]
  by_cases hxn : x.name = m.name
  · -- the record found is the one being mapped
    rw [← Option.some.inj ((find?_name hnd hx hxn).symm.trans (find?_name hnd hx0 hx0n))]
    rw [extend_pos m x hxn, gffRec_extended m x hwm (hwa x hx), gffRec_spans x (hwa x hx),
      mergeSpans_eq x.spans m.spans hwm.1 (hcompat x hx hxn)]
    simp [hxn, gffRec_name]
  · rw [extend_neg m x hxn]
    simp [hxn]

theorem prefix_extend (m x : Merged) : x.spans <+: (extend m x).spans := by
  unfold extend; split
  · exact List.prefix_append _ _
  · exact List.prefix_refl _

/-- spans only grow by appending, so what the final records are free of, every earlier state is free of -/
theorem extendBy_mono (ms a : List Merged) (x : Merged) (hx : x ∈ a) : ∃ y ∈ extendBy ms a, x.spans <+: y.spans := by
  induction ms generalizing a x with
  | nil => exact ⟨x, hx, List.prefix_refl _⟩
  | cons m ms ih =>
    obtain ⟨y, hy, hp⟩ := ih _ (extend m x) (List.mem_map.mpr ⟨x, hx, rfl⟩)
    exact ⟨y, hy, (prefix_extend m x).trans hp⟩

theorem fold_update_eq (ms a : List Merged) (hnda : (names a).Nodup)
    (hwm : ∀ m ∈ ms, Wf m) (hwa : ∀ x ∈ a, Wf x) (hfin : ∀ y ∈ extendBy ms a, y.spans.Nodup) :
    (extendBy ms a).map gffRec =
      ms.foldl (fun t m => if (names a).contains m.name then updateRecordSpans t m.name m.spans else t) (a.map gffRec) := by
  induction ms generalizing a with
  | nil => rfl
  | cons m ms ih =>
    have ⟨hwmm, hwm⟩ := List.forall_mem_cons.mp hwm
    rw [extendBy_cons] at hfin ⊢
    rw [List.foldl_cons]
    by_cases hma : m.name ∈ names a
    · rw [if_pos (List.contains_iff_mem.mpr hma)]
      -- the spans `m` adds to its record stay to the end, so they repeat none of its spans
      have hcompat : ∀ x ∈ a, x.name = m.name → (x.spans ++ m.spans).Nodup := by
        intro x hx hxn
        obtain ⟨y, hy, hp⟩ := extendBy_mono ms _ (extend m x) (List.mem_map.mpr ⟨x, hx, rfl⟩)
        rw [extend_pos m x hxn] at hp
        exact (hfin y hy).sublist hp.sublist
      have := ih (a.map (extend m)) (by rwa [names_map_extend]) hwm
        (List.forall_mem_map.mpr fun y hy => wf_extend m y hwmm (hwa y hy)) hfin
      rwa [names_map_extend, update_eq a m hnda hma hwmm hwa hcompat] at this
    · rw [if_neg (mt List.contains_iff_mem.mp hma)]
      rw [map_extend_id m a hma] at hfin ⊢
      exact ih a hnda hwm hwa hfin

/-- the loader state after reading the rows `P` (in any blocking): the one-block merge of `P` -/
def stateOf (P : List GffRow) : List Rec × List String × Nat :=
  ((merged 0 P).map gffRec, names (merged 0 P), fakeIds P 0)

/-- the merge of `P ++ b`: the records of `P` extended in place, then the records of `b` under new names -/
theorem merged_append_decomp (P b : List GffRow) :
    merged 0 (P ++ b) = extendBy (merged (fakeIds P 0) b) (merged 0 P) ++
      (merged (fakeIds P 0) b).filter (fun m => !(names (merged 0 P)).contains m.name) := by
  have := combine_decomp (merged (fakeIds P 0) b) (merged 0 P) [] (names_merged_nodup _ _)
    (by intro n _ h; simp [names] at h)
  rwa [List.append_nil, List.append_nil, ← merged_append] at this

theorem loadBlock_stateOf (P b : List GffRow) (hnd : ∀ x ∈ merged 0 (P ++ b), x.spans.Nodup) :
    loadBlock (stateOf P) b = stateOf (P ++ b) := by
  have hM := merged_append_decomp P b
  have hV := fold_update_eq (merged (fakeIds P 0) b) (merged 0 P) (names_merged_nodup _ _)
    (wf_merged _ _) (wf_merged _ _)
    fun y hy => hnd y (hM ▸ List.mem_append_left _ hy)
  unfold loadBlock stateOf
  simp only [mergeRows_nil, hM, fakeIds_append, hV, List.map_append, names]
  rw [show List.map (fun x => x.name) (extendBy _ (merged 0 P)) = _ from names_extendBy _ _]
  rfl

theorem nodup_prefix_state (X Y : List GffRow) (hnd : ∀ x ∈ merged 0 (X ++ Y), x.spans.Nodup) :
    ∀ x ∈ merged 0 X, x.spans.Nodup := by
  intro x hx
  rw [merged_append_decomp] at hnd
  obtain ⟨y, hy, hp⟩ := extendBy_mono _ _ x hx
  exact (hnd y (List.mem_append_left _ hy)).sublist hp.sublist

theorem foldl_loadBlock (blocks : List (List GffRow)) (P : List GffRow)
    (hnd : ∀ x ∈ merged 0 (P ++ blocks.flatten), x.spans.Nodup) :
    blocks.foldl loadBlock (stateOf P) = stateOf (P ++ blocks.flatten) := by
  induction blocks generalizing P with
  | nil => simp
  | cons b rest ih =>
    simp only [List.flatten_cons, List.foldl_cons] at hnd ⊢
    rw [← List.append_assoc] at hnd ⊢
    rw [loadBlock_stateOf P b (nodup_prefix_state (P ++ b) rest.flatten hnd)]
    exact ih (P ++ b) hnd

theorem loadGffBlocks_eq_merged (blocks : List (List GffRow))
    (hnd : ∀ x ∈ (mergeRows blocks.flatten 0 []).1, x.spans.Nodup) :
    loadGffBlocks blocks = (mergeRows blocks.flatten 0 []).1.map gffRec := by
  rw [mergeRows_nil] at hnd ⊢
  unfold loadGffBlocks
  rw [show (([], [], 0) : List Rec × List String × Nat) = stateOf [] from rfl, foldl_loadBlock blocks [] hnd]
  rfl

end CogentModel.AnnotDb
