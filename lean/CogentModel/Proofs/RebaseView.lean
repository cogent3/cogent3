import CogentModel.Model.RichDict
import CogentModel.Proofs.ViewParent
import CogentModel.Proofs.SliceWindow
/-! An `Inv` view displays `parent[lo:hi][::step]`, with `(lo, hi) = richDictBounds v` the window that `to_rich_dict`
exports, and reports the coordinates `offset + lo`, `offset + hi` (`View.window_spec`).  The view rebuilt over the exported
window: normal forms of the constructor and of `[::step]` on a whole string; the constructor's view has the whole string as
its window, and a view with the same window string, step and window coordinates as the original is observationally the
original; every import route rebuilds that view (`rebuilt`). -/
namespace CogentModel.RichDict
open CogentModel.View CogentModel.PySlice

/-- the truncated parent exported by `to_rich_dict` -/
def trunc {α} [Inhabited α] (parent : List α) (v : View) : List α :=
  PySlice.slice parent (some (richDictBounds v).1) (some (richDictBounds v).2) 1

theorem trunc_len {α} [Inhabited α] (parent : List α) (v : View) (h : Inv v) (hlen : v.seqLen = parent.length) :
    ((trunc parent v).length : Int) = (richDictBounds v).2 - (richDictBounds v).1 := by
  obtain ⟨h0, h1, h2, -⟩ := window_spec v h
  exact window_length parent _ _ h0 h1 (hlen ▸ h2)

/-- the displayed string is the exported window, strided -/
theorem realise_eq_stride_trunc {α} [Inhabited α] (parent : List α) (v : View) (h : Inv v)
    (hlen : v.seqLen = parent.length) : realise parent v = slice (trunc parent v) none none v.step := by
  obtain ⟨h0, h1, h2, -, -, hw⟩ := window_spec v h
  rw [hlen, Int.toNat_natCast] at hw
  exact slice_eq_stride_window parent _ _ h0 h1 (by omega) _ _ _ h.step_ne_zero hw

theorem mk_fwd_full (m c off : Int) (hm : 0 < m) (hc : 0 < c) :
    mk m none none (some c) off = .ok { start := 0, stop := m, step := c, offset := off, seqLen := m } := by
  have hm0 : 0 ≤ m := by omega
  unfold mk
  rw [if_neg (fun e => absurd (Option.some.inj e) (by omega))]
  simp only [Option.getD_some, if_pos hc, inputValsPos_eq m hm0, Option.getD_none,
    clampP_of_mem (Int.le_refl 0) hm0, clampP_of_mem hm0 (Int.le_refl m), if_pos hm]

theorem mk_fwd_empty (c off : Int) (hc : 0 < c) :
    mk 0 none none (some c) off = .ok { start := 0, stop := 0, step := 1, offset := off, seqLen := 0 } := by
  have h0 : c ≠ 0 := by omega
  simp [mk, inputValsPos, pyabs, hc, h0]

theorem mk_rev_full (m c off : Int) (hm : 0 ≤ m) (hc : c < 0) :
    mk m none none (some c) off = .ok { start := -1, stop := -m - 1, step := c, offset := off, seqLen := m } := by
  have h1 : ¬ 0 < c := by omega
  have h2 : ¬ (-1 : Int) < -m - 1 := by omega
  have h0 : c ≠ 0 := by omega
  simp [mk, inputValsNeg, inputValsNegTail, h0, h1, h2]

/-- `step is None` means 1 -/
theorem mk_step_none (n : Int) (a b : Option Int) (off : Int) : mk n a b none off = mk n a b (some 1) off := rfl

/-- the constructor only passes the offset through -/
theorem mk_offset {n : Int} {a b c : Option Int} {off : Int} {w : View} (h : mk n a b c off = .ok w) (off' : Int) :
    mk n a b c off' = .ok { w with offset := off' } ∧ { w with offset := off } = w := by
  unfold mk at h ⊢
  split at h
  · cases h
  · rename_i hc; rw [if_neg hc]; cases h; exact ⟨rfl, rfl⟩

/-- `SeqView(seq=T, step=c, offset=off)` with `|T| = m`: the view whose window is the whole of `T` -/
theorem mk_whole (m c off : Int) (hm : 0 ≤ m) (hc : c ≠ 0) :
    ∃ w, mk m none none (some c) off = .ok w ∧ Inv w ∧ w.seqLen = m ∧ w.offset = off ∧ richDictBounds w = (0, m) ∧
      (w.step = c ∨ m = 0) ∧ isReversed w = decide (c < 0) := by
  have inv {w} (h : mk m none none (some c) off = .ok w) := mk_inv' m hm _ _ _ _ w h
  rcases Int.lt_or_gt_of_ne hc with hc | hc
  · have h := mk_rev_full m c off hm hc
    refine ⟨_, h, inv h, rfl, rfl, ?_, .inl rfl, by simp [isReversed, hc]⟩
    simp only [richDictBounds, if_pos hc, Prod.mk.injEq]; omega
  · have hn : ¬ c < 0 := by omega
    rcases Int.lt_or_eq_of_le hm with hm | rfl
    · have h := mk_fwd_full m c off hm hc
      exact ⟨_, h, inv h, rfl, rfl, by simp [richDictBounds, hn], .inl rfl, by simp [isReversed, hn]⟩
    · have h := mk_fwd_empty c off hc
      exact ⟨_, h, inv h, rfl, rfl, by simp [richDictBounds], .inr rfl, by simp [isReversed, hn]⟩

theorem len_full (m off : Int) (hm : 0 ≤ m) :
    len { start := 0, stop := m, step := 1, offset := off, seqLen := m } = m := by
  simp only [len, pyabs]
  have : Int.fdiv (0 - m) 1 = -m := by
    rw [Int.fdiv_eq_ediv_of_nonneg _ (by omega)]; simp
  rw [this]; split <;> omega

theorem getitem_full (m c off : Int) (hm : 0 < m) (h0 : c ≠ 0) :
    getitemSlice .seqView { start := 0, stop := m, step := 1, offset := off, seqLen := m } none none (some c)
      = mk m none none (some c) off := by
  have hl := len_full m off (by omega)
  have hm0 : m ≠ 0 := by omega
  rcases Int.lt_or_gt_of_ne h0 with hc | hc
  · have h1 : ¬ 0 < c := by omega
    have h2 : ¬ (-1 : Int) ≥ m := by omega
    have h3 : ¬ -m - 1 ≥ m := by omega
    have h4 : ¬ (1 : Int) ≤ -m := by omega
    have h5 : m + -1 - m = -1 := by omega
    have h6 : m + (-m - 1) - m = -m - 1 := by omega
    have h7 : ¬ (-1 : Int) < -m := by omega
    simp [getitemSlice, revFromFwd, remk, mk, inputValsNeg, inputValsNegTail, hl, hm0, h0, hc, h1, h2, h3, h4, h5, h6, h7]
  · have h1 : 0 ≤ m := by omega
    have h2 : ¬ m < 0 := by omega
    have h3 : ¬ m ≤ 0 := by omega
    simp [getitemSlice, fwdFromFwd, remk, mk, inputValsPos, pyabs, hl, hm0, h0, hc, hm, h1, h2, h3]

theorem getitem_empty (c off : Int) :
    getitemSlice .seqView { start := 0, stop := 0, step := 1, offset := off, seqLen := 0 } none none (some c)
      = .ok { start := 0, stop := 0, step := 1, offset := off, seqLen := 0 } := by
  have := len_full 0 off (by omega)
  simp [getitemSlice, this]

/-- observation of a view inside a sequence: the rebuilt view `r.2` over the rebuilt parent `r.1` displays the same string
(`realise`, Python slicing semantics of `Spec/PySlice`), has the same plus-strand `parent_start` / `parent_stop` (so
annotations still line up), satisfies the representation invariant and `seq_len = len(parent)` (the strand is stated
separately: the new-style path loses it on an empty view) -/
def RebaseObs {α} [Inhabited α] (parent : List α) (v : View) (r : List α × View) : Prop :=
  realise r.1 r.2 = realise parent v ∧
  parentStart r.2 = parentStart v ∧ parentStop r.2 = parentStop v ∧
  Inv r.2 ∧ r.2.seqLen = r.1.length

/-- … and the same strand (`is_reversed`) -/
def RebaseOK {α} [Inhabited α] (parent : List α) (v : View) (r : List α × View) : Prop :=
  RebaseObs parent v r ∧ isReversed r.2 = isReversed v

theorem coerce_zero (v : View) (ps : Int) (h : v.offset = 0) :
    coerceOffset v ps = .ok { v with offset := ps } := by
  unfold coerceOffset
  by_cases hp : ps = 0
  · subst hp; simp [← h]
  · simp [hp, h]

/-- a view over the exported window whose own window is all of it, with the step and the window's coordinates, is
observationally the original: the window theorem, read once for `v` over the parent and once for `w` over the window -/
theorem obs_of_whole {α} [Inhabited α] (parent : List α) (v : View) (h : Inv v) (hlen : v.seqLen = parent.length)
    (w : View) (hw : Inv w) (hsl : w.seqLen = (trunc parent v).length)
    (hb : richDictBounds w = (0, ((trunc parent v).length : Int))) (hoff : w.offset = v.offset + (richDictBounds v).1)
    (hstep : w.step = v.step ∨ ((trunc parent v).length : Int) = 0) : RebaseObs parent v (trunc parent v, w) := by
  obtain ⟨-, -, -, hps, hpe, -⟩ := window_spec v h
  obtain ⟨-, -, -, hps', hpe', -⟩ := window_spec w hw
  have htl := trunc_len parent v h hlen
  have hr := realise_eq_stride_trunc parent v h hlen
  have hv := h.step_ne_zero
  have hws := hw.step_ne_zero
  generalize trunc parent v = T at *
  refine ⟨?_, ?_, ?_, hw, hsl⟩
  · have := realise_eq_stride_trunc T w hw hsl
    rw [trunc, hb, slice_all] at this
    rw [this, hr]
    rcases hstep with e | e
    · rw [e]
    · rw [List.eq_nil_of_length_eq_zero (by omega : T.length = 0), slice_nil _ _ _ hv, slice_nil _ _ _ hws]
  · simp only [hps', hps, hb, hoff, Int.add_zero]
  · simp only [hpe', hpe, hb, hoff, htl]; congr 1; omega

theorem toRich_seq {α} [Inhabited α] (parent : List α) (v : View) :
    (toRich parent v).seq = trunc parent v := by simp only [toRich, trunc]
theorem toRich_step {α} [Inhabited α] (parent : List α) (v : View) :
    (toRich parent v).step = v.step := rfl
theorem toRich_offset {α} [Inhabited α] (parent : List α) (v : View) :
    (toRich parent v).offset = none := rfl

/-- every route rebuilds the view as `SeqView(seq=trunc, step=v.step, offset=parent_start)` -/
theorem rebuilt {α} [Inhabited α] (parent : List α) (v : View) (h : Inv v) (hlen : v.seqLen = parent.length) :
    ∃ ps w, parentStart v = .ok ps ∧ mk (trunc parent v).length none none (some v.step) ps = .ok w ∧
      RebaseOK parent v (trunc parent v, w) := by
  obtain ⟨w, hmk, hw, hsl, hoff, hb, hstep, hrev⟩ :=
    mk_whole (trunc parent v).length v.step (v.offset + (richDictBounds v).1) (by omega) h.step_ne_zero
  exact ⟨_, w, (window_spec v h).2.2.2.1, hmk, obs_of_whole parent v h hlen w hw hsl hb hoff hstep, hrev⟩

end CogentModel.RichDict
