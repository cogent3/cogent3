import CogentModel.Proofs.RateMatrixLemmas
/-! C05: entries of the array-matrix operations of `Model/Expm.lean`, and correctness and completeness of the
Gauss–Jordan model of `numpy.linalg.solve`. -/

namespace CogentModel.Expm
open CogentModel.RateMatrix Finset

variable {K : Type*} [Field K]

theorem mget_matMul_sumTo (n : Nat) (A B : Mat K) {i j : Nat} (hi : i < n) (hj : j < n) :
    mget (matMul n A B) i j = sumTo n fun k => mget A i k * mget B k j := by
  unfold matMul; rw [mget_tab _ hi hj]

theorem mget_matMul (n : Nat) (A B : Mat K) {i j : Nat} (hi : i < n) (hj : j < n) :
    mget (matMul n A B) i j = ∑ k ∈ range n, mget A i k * mget B k j := by
  rw [mget_matMul_sumTo n A B hi hj, sumTo_eq_sum]

theorem mget_matAdd (n : Nat) (A B : Mat K) {i j : Nat} (hi : i < n) (hj : j < n) :
    mget (matAdd n A B) i j = mget A i j + mget B i j := by unfold matAdd; rw [mget_tab _ hi hj]
theorem mget_matSub (n : Nat) (A B : Mat K) {i j : Nat} (hi : i < n) (hj : j < n) :
    mget (matSub n A B) i j = mget A i j - mget B i j := by unfold matSub; rw [mget_tab _ hi hj]
theorem mget_matScale (n : Nat) (c : K) (A : Mat K) {i j : Nat} (hi : i < n) (hj : j < n) :
    mget (matScale n c A) i j = c * mget A i j := by unfold matScale; rw [mget_tab _ hi hj]
theorem mget_matDivS (n : Nat) (c : K) (A : Mat K) {i j : Nat} (hi : i < n) (hj : j < n) :
    mget (matDivS n A c) i j = mget A i j / c := by unfold matDivS; rw [mget_tab _ hi hj]
theorem mget_ident (n : Nat) {i j : Nat} (hi : i < n) (hj : j < n) :
    mget (ident n : Mat K) i j = if i = j then 1 else 0 := by unfold ident; rw [mget_tab _ hi hj]

def EntryEq (n : Nat) (A B : Mat K) : Prop := ∀ i j, i < n → j < n → mget A i j = mget B i j
def EntryZero (n : Nat) (A : Mat K) : Prop := ∀ i j, i < n → j < n → mget A i j = 0

theorem EntryEq.refl (n : Nat) (A : Mat K) : EntryEq n A A := fun _ _ _ _ => rfl
theorem EntryEq.symm {n : Nat} {A B : Mat K} (h : EntryEq n A B) : EntryEq n B A := fun i j hi hj => (h i j hi hj).symm
theorem EntryEq.trans {n : Nat} {A B C : Mat K} (h1 : EntryEq n A B) (h2 : EntryEq n B C) : EntryEq n A C :=
  fun i j hi hj => (h1 i j hi hj).trans (h2 i j hi hj)

theorem EntryZero.congr {n : Nat} {A B : Mat K} (h : EntryEq n A B) : EntryZero n A ↔ EntryZero n B :=
  ⟨fun hA i j hi hj => (h i j hi hj).symm.trans (hA i j hi hj), fun hB i j hi hj => (h i j hi hj).trans (hB i j hi hj)⟩

theorem EntryZero.iff_entryEq {n : Nat} {A Z : Mat K} (hZ : EntryZero n Z) : EntryZero n A ↔ EntryEq n A Z :=
  ⟨fun h i j hi hj => (h i j hi hj).trans (hZ i j hi hj).symm, fun h i j hi hj => (h i j hi hj).trans (hZ i j hi hj)⟩

theorem matMul_congr_left (n : Nat) {A A' : Mat K} (X : Mat K) (h : EntryEq n A A') : EntryEq n (matMul n A X) (matMul n A' X) := by
  intro i j hi hj
  rw [mget_matMul n A X hi hj, mget_matMul n A' X hi hj]
  exact sum_range_congr fun k hk => by rw [h i k hi hk]

theorem matMul_congr_right (n : Nat) (A : Mat K) {X X' : Mat K} (h : EntryEq n X X') : EntryEq n (matMul n A X) (matMul n A X') := by
  intro i j hi hj
  rw [mget_matMul n A X hi hj, mget_matMul n A X' hi hj]
  exact sum_range_congr fun k hk => by rw [h k j hk hj]

theorem matMul_ident_left (n : Nat) (I X : Mat K) (hI : EntryEq n I (ident n)) : EntryEq n (matMul n I X) X := by
  intro i j hi hj
  rw [mget_matMul n I X hi hj,
    sum_range_congr fun k hk => by rw [hI i k hi hk, mget_ident n hi hk, ite_mul, one_mul, zero_mul],
    Finset.sum_ite_eq, if_pos (Finset.mem_range.mpr hi)]

/-- the row of the original matrix that stands in row `i` after rows `c` and `p` have been swapped -/
def swapIdx (c p i : Nat) : Nat := if i = c then p else if i = p then c else i

theorem swapIdx_lt {n c p i : Nat} (hc : c < n) (hp : p < n) (hi : i < n) : swapIdx c p i < n := by
  unfold swapIdx; grind

theorem swapIdx_swapIdx (c p i : Nat) : swapIdx c p (swapIdx c p i) = i := by
  unfold swapIdx; grind

theorem swapIdx_eq_left {c p i : Nat} : swapIdx c p i = c ↔ i = p := by
  unfold swapIdx; grind

/-- the row operation of one elimination step (swap rows `c`,`p`, scale row `c`, clear column `c`), with the
multipliers taken from `D`, applied to an arbitrary matrix `M` -/
def rowOp (n c p : Nat) (D M : Mat K) : Mat K :=
  let sw := fun (M : Mat K) => tab n fun i j =>
    if i = c then mget M p j else if i = p then mget M c j else mget M i j
  let D1 := sw D
  let piv := mget D1 c c
  tab n fun i j => if i = c then mget (sw M) c j / piv else mget (sw M) i j - mget D1 i c * (mget (sw M) c j / piv)

theorem mget_rowOp (n c p : Nat) (hc : c < n) (D M : Mat K) {i j : Nat} (hi : i < n) (hj : j < n) :
    mget (rowOp n c p D M) i j =
      if i = c then mget M p j / mget D p c
      else mget M (swapIdx c p i) j - mget D (swapIdx c p i) c * (mget M p j / mget D p c) := by
  unfold rowOp swapIdx
  simp only []
  rw [mget_tab _ hi hj, mget_tab _ hc hj, mget_tab _ hc hc, mget_tab _ hi hj, mget_tab _ hi hc]
  simp only [if_true]
  by_cases h1 : i = c
  · simp only [h1, if_true]
  · simp only [h1, if_false]
    split <;> rfl

theorem rowOp_matMul (n c p : Nat) (hc : c < n) (hp : p < n) (D M X : Mat K) :
    EntryEq n (matMul n (rowOp n c p D M) X) (rowOp n c p D (matMul n M X)) := by
  intro i j hi hj
  rw [mget_matMul n _ X hi hj, mget_rowOp n c p hc D _ hi hj,
    sum_range_congr fun k hk => by rw [mget_rowOp n c p hc D M hi hk], mget_matMul n M X hp hj]
  by_cases h1 : i = c
  · simp only [h1, if_true]
    rw [Finset.sum_div]
    exact Finset.sum_congr rfl fun k _ => div_mul_eq_mul_div _ _ _
  · simp only [h1, if_false]
    rw [mget_matMul n M X (swapIdx_lt hc hp hi) hj]
    simp only [sub_mul, Finset.sum_sub_distrib]
    congr 1
    rw [Finset.sum_div, Finset.mul_sum]
    exact Finset.sum_congr rfl fun k _ => by rw [mul_assoc, div_mul_eq_mul_div]

theorem rowOp_congr (n c p : Nat) (hc : c < n) (hp : p < n) (D : Mat K) {Z Z' : Mat K} (h : EntryEq n Z Z') :
    EntryEq n (rowOp n c p D Z) (rowOp n c p D Z') := by
  intro i j hi hj
  rw [mget_rowOp n c p hc D Z hi hj, mget_rowOp n c p hc D Z' hi hj, h p j hp hj, h _ j (swapIdx_lt hc hp hi) hj]

/-- a row operation with a non-zero pivot can be undone: row `p` is read off row `c` of the result, and then every
other row `r` off row `swapIdx c p r` -/
theorem rowOp_inj (n c p : Nat) (hc : c < n) (hp : p < n) (D : Mat K) (ha : mget D p c ≠ 0) {Z Z' : Mat K}
    (h : EntryEq n (rowOp n c p D Z) (rowOp n c p D Z')) : EntryEq n Z Z' := by
  have hrowp : ∀ j, j < n → mget Z p j = mget Z' p j := by
    intro j hj
    have := h c j hc hj
    rw [mget_rowOp n c p hc D Z hc hj, mget_rowOp n c p hc D Z' hc hj, if_pos rfl, if_pos rfl] at this
    exact (div_left_inj' ha).mp this
  intro r j hr hj
  by_cases hrp : r = p
  · rw [hrp]; exact hrowp j hj
  · have hi := swapIdx_lt hc hp hr
    have h1 : swapIdx c p r ≠ c := fun e => hrp (swapIdx_eq_left.mp e)
    have := h _ j hi hj
    rw [mget_rowOp n c p hc D Z hi hj, mget_rowOp n c p hc D Z' hi hj, if_neg h1, if_neg h1, swapIdx_swapIdx,
      hrowp j hj] at this
    exact sub_left_injective this

/-- one step preserves the solution set of `D·X = Z` exactly -/
theorem rowOp_solution_iff (n c p : Nat) (hc : c < n) (hp : p < n) (D : Mat K) (ha : mget D p c ≠ 0) (Z X : Mat K) :
    EntryEq n (matMul n (rowOp n c p D D) X) (rowOp n c p D Z) ↔ EntryEq n (matMul n D X) Z :=
  ⟨fun h => rowOp_inj n c p hc hp D ha ((rowOp_matMul n c p hc hp D D X).symm.trans h),
   fun h => (rowOp_matMul n c p hc hp D D X).trans (rowOp_congr n c p hc hp D h)⟩

/-- … and in particular its kernel -/
theorem rowOp_kernel_iff (n c p : Nat) (hc : c < n) (hp : p < n) (D : Mat K) (ha : mget D p c ≠ 0) (X : Mat K) :
    EntryZero n (matMul n (rowOp n c p D D) X) ↔ EntryZero n (matMul n D X) := by
  have hz : EntryZero n (tab n fun _ _ => (0 : K)) := fun i j hi hj => mget_tab _ hi hj
  have hz' : EntryZero n (rowOp n c p D (tab n fun _ _ => (0 : K))) := fun i j hi hj => by
    rw [mget_rowOp n c p hc D _ hi hj, hz p j hp hj, hz _ j (swapIdx_lt hc hp hi) hj]
    split <;> simp
  exact (EntryZero.iff_entryEq hz').trans
    ((rowOp_solution_iff n c p hc hp D ha _ X).trans (EntryZero.iff_entryEq hz).symm)

/-- columns `< c` of `D` are unit vectors -/
def ColInv (n c : Nat) (D : Mat K) : Prop := ∀ i j, i < n → j < c → j < n → mget D i j = if i = j then 1 else 0

theorem rowOp_colInv (n c p : Nat) (hc : c < n) (hcp : c ≤ p) (hp : p < n) (D : Mat K) (ha : mget D p c ≠ 0)
    (h : ColInv n c D) : ColInv n (c + 1) (rowOp n c p D D) := by
  intro i j hi hj hjn
  rw [mget_rowOp n c p hc D D hi hjn]
  by_cases hjc : j = c
  · subst hjc
    rw [div_self ha, mul_one, sub_self]
  · have hj' : j < c := by omega
    rw [h p j hp hj' hjn, if_neg (show ¬ p = j by omega), zero_div, mul_zero, sub_zero]
    by_cases h1 : i = c
    · rw [if_pos h1, if_neg (show ¬ i = j by omega)]
    · rw [if_neg h1]
      by_cases h2 : i = p
      · rw [swapIdx_eq_left.mpr h2, h c j hc hj' hjn, if_neg (show ¬ c = j by omega), if_neg (show ¬ i = j by omega)]
      · rw [show swapIdx c p i = i by unfold swapIdx; rw [if_neg h1, if_neg h2], h i j hi hj' hjn]

/-- a matrix whose first `c` columns are unit vectors and whose column `c` vanishes from row `c` on has a kernel vector -/
theorem kernel_of_no_pivot (n c : Nat) (hc : c < n) (D : Mat K) (hcol : ColInv n c D)
    (hz : ∀ i, c ≤ i → i < n → mget D i c = 0) :
    ∃ X : Mat K, ¬ EntryZero n X ∧ EntryZero n (matMul n D X) := by
  refine ⟨tab n fun k _ => if k = c then 1 else if k < c then - mget D k c else 0, fun h => ?_, fun i j hi hj => ?_⟩
  · have := h c c hc hc
    rw [mget_tab _ hc hc, if_pos rfl] at this
    exact one_ne_zero this
  · rw [mget_matMul n D _ hi hj, sum_range_congr (g := fun k => (if k = c then mget D i c else 0) +
        (if i = k then (if k < c then - mget D k c else 0) else 0)) fun k hk => by
      rw [mget_tab _ hk hj]
      by_cases h1 : k = c
      · rw [if_pos h1, if_pos h1, mul_one, if_neg (show ¬ k < c by omega), ite_self, add_zero, h1]
      · rw [if_neg h1, if_neg h1, zero_add]
        by_cases h2 : k < c
        · rw [if_pos h2, hcol i k hi h2 hk, ite_mul, one_mul, zero_mul]
        · rw [if_neg h2, mul_zero, ite_self]]
    rw [Finset.sum_add_distrib, Finset.sum_ite_eq', if_pos (Finset.mem_range.mpr hc), Finset.sum_ite_eq,
      if_pos (Finset.mem_range.mpr hi)]
    by_cases h3 : i < c
    · rw [if_pos h3]; exact add_neg_cancel _
    · rw [if_neg h3, add_zero]; exact hz i (by omega) hi

section
variable [DecidableEq K]

theorem findPivot_cases (D : Mat K) (c : Nat) : ∀ m r : Nat,
    (∃ p, findPivot D c m r = some p ∧ r ≤ p ∧ p < r + m ∧ mget D p c ≠ 0) ∨
    (findPivot D c m r = none ∧ ∀ i, r ≤ i → i < r + m → mget D i c = 0) := by
  intro m
  induction m with
  | zero => exact fun r => .inr ⟨rfl, fun i h1 h2 => by omega⟩
  | succ m ih =>
    intro r
    rw [findPivot]
    by_cases h0 : mget D r c = 0
    · rw [if_pos h0]
      rcases ih (r + 1) with ⟨p, hp, h1, h2, h3⟩ | ⟨hn, hz⟩
      · exact .inl ⟨p, hp, by omega, by omega, h3⟩
      · refine .inr ⟨hn, fun i h1 h2 => ?_⟩
        by_cases hir : i = r
        · rw [hir]; exact h0
        · exact hz i (by omega) (by omega)
    · rw [if_neg h0]
      exact .inl ⟨r, rfl, le_refl r, by omega, h0⟩

/-- a step either applies `rowOp` with a non-zero pivot from row `p ≥ c`, or fails on a column that is zero from row `c` on -/
theorem elimStep_cases (n c : Nat) (hc : c < n) (D N : Mat K) :
    (∃ p, c ≤ p ∧ p < n ∧ mget D p c ≠ 0 ∧ elimStep n c D N = some (rowOp n c p D D, rowOp n c p D N)) ∨
    (elimStep n c D N = none ∧ ∀ i, c ≤ i → i < n → mget D i c = 0) := by
  unfold elimStep
  rcases findPivot_cases D c (n - c) c with ⟨p, hp, h1, h2, h3⟩ | ⟨hn, hz⟩
  · rw [hp]
    exact .inl ⟨p, h1, by omega, h3, rfl⟩
  · rw [hn]
    exact .inr ⟨rfl, fun i h1 h2 => hz i h1 (by omega)⟩

/-- the elimination loop either runs through, and an invariant preserved by row operations with admissible pivots
holds at the end, or it stops at a column without pivot, where the invariant still holds -/
theorem elimLoop_cases (n : Nat) (Inv : Nat → Mat K → Mat K → Prop)
    (hstep : ∀ c p D N, c < n → c ≤ p → p < n → mget D p c ≠ 0 → Inv c D N →
      Inv (c + 1) (rowOp n c p D D) (rowOp n c p D N)) :
    ∀ (m c : Nat) (D N : Mat K), c + m = n → Inv c D N →
      (∃ Dn F, elimLoop n m c D N = some F ∧ Inv n Dn F) ∨
      (elimLoop n m c D N = none ∧ ∃ c' D' N', c' < n ∧ Inv c' D' N' ∧ ∀ i, c' ≤ i → i < n → mget D' i c' = 0) := by
  intro m
  induction m with
  | zero =>
    intro c D N hcm hinv
    have : c = n := by omega
    subst this
    exact .inl ⟨D, N, rfl, hinv⟩
  | succ m ih =>
    intro c D N hcm hinv
    rw [elimLoop]
    rcases elimStep_cases n c (by omega) D N with ⟨p, hp1, hp2, hp3, hs⟩ | ⟨hs, hz⟩
    · rw [hs]
      exact ih (c + 1) _ _ (by omega) (hstep c p D N (by omega) hp1 hp2 hp3 hinv)
    · rw [hs]
      exact .inr ⟨rfl, c, D, N, by omega, hinv, hz⟩

/-- **`solve` decides invertibility and solves**: either it returns the unique `F` with `D·F = N` and `D` has a trivial
kernel, or it fails and exhibits a non-zero `X` with `D·X = 0`.  The invariant of the loop: the eliminated columns are unit
vectors, and the solution set of `D·X = N` and the kernel of `D` have not changed. -/
theorem solve_cases (n : Nat) (D N : Mat K) :
    (∃ F, solve n D N = some F ∧ (∀ X, EntryEq n X F ↔ EntryEq n (matMul n D X) N) ∧
      ∀ X, EntryZero n (matMul n D X) → EntryZero n X) ∨
    (solve n D N = none ∧ ∃ X : Mat K, ¬ EntryZero n X ∧ EntryZero n (matMul n D X)) := by
  rcases elimLoop_cases n
    (fun c Dc Nc => ColInv n c Dc ∧ (∀ X, EntryEq n (matMul n Dc X) Nc ↔ EntryEq n (matMul n D X) N) ∧
      ∀ X, EntryZero n (matMul n Dc X) ↔ EntryZero n (matMul n D X))
    (fun c p Dc Nc hc hcp hp ha ⟨hcol, hsol, hker⟩ => ⟨rowOp_colInv n c p hc hcp hp Dc ha hcol,
      fun X => (rowOp_solution_iff n c p hc hp Dc ha Nc X).trans (hsol X),
      fun X => (rowOp_kernel_iff n c p hc hp Dc ha X).trans (hker X)⟩)
    n 0 D N (by omega) ⟨fun i j _ hj => absurd hj (by omega), fun X => Iff.rfl, fun X => Iff.rfl⟩
    with ⟨Dn, F, hF, hcol, hsol, hker⟩ | ⟨hnone, c, Dc, Nc, hc, ⟨hcol, -, hker⟩, hz⟩
  · have hI : ∀ X, EntryEq n (matMul n Dn X) X := fun X =>
      matMul_ident_left n Dn X fun i j hi hj => by rw [hcol i j hi hj hj, mget_ident n hi hj]
    exact .inl ⟨F, hF, fun X => ⟨fun hx => (hsol X).mp ((hI X).trans hx), fun hx => (hI X).symm.trans ((hsol X).mpr hx)⟩,
      fun X hX => (EntryZero.congr (hI X)).mp ((hker X).mpr hX)⟩
  · obtain ⟨X, hX0, hX⟩ := kernel_of_no_pivot n c hc Dc hcol hz
    exact .inr ⟨hnone, X, hX0, (hker X).mp hX⟩

/-- **`solve` is correct**: whenever the Gauss–Jordan model returns `F`, `D·F = N`, and `F` is the only solution -/
theorem solve_correct (n : Nat) (D N F : Mat K) (h : solve n D N = some F) :
    EntryEq n (matMul n D F) N ∧ ∀ X, EntryEq n (matMul n D X) N → EntryEq n X F := by
  rcases solve_cases n D N with ⟨F', hF', hsol, -⟩ | ⟨hnone, -⟩
  · obtain rfl : F' = F := Option.some.inj (hF'.symm.trans h)
    exact ⟨(hsol F').mp (EntryEq.refl n F'), fun X => (hsol X).mpr⟩
  · exact absurd (hnone.symm.trans h) (by simp)

/-- **`solve` succeeds exactly when `D` has a trivial kernel** (is invertible) -/
theorem solve_isSome_iff (n : Nat) (D N : Mat K) :
    (solve n D N).isSome = true ↔ ∀ X, EntryZero n (matMul n D X) → EntryZero n X := by
  rcases solve_cases n D N with ⟨F, hF, -, hker⟩ | ⟨hnone, X, hX0, hX⟩
  · rw [hF]; exact ⟨fun _ => hker, fun _ => rfl⟩
  · rw [hnone]; exact ⟨fun h => absurd h (by simp), fun h => absurd (h X hX) hX0⟩

/-- on the identity `solve` returns the right-hand side -/
theorem solve_ident (n : Nat) (D N : Mat K) (hD : EntryEq n D (ident n)) : ∃ F, solve n D N = some F ∧ EntryEq n F N := by
  rcases solve_cases n D N with ⟨F, hF, hsol, -⟩ | ⟨-, X, hX0, hX⟩
  · exact ⟨F, hF, (matMul_ident_left n D F hD).symm.trans ((hsol F).mp (EntryEq.refl n F))⟩
  · exact absurd ((EntryZero.congr (matMul_ident_left n D X hD)).mp hX) hX0
end

end CogentModel.Expm
