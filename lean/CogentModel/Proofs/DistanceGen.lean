import CogentModel.Gen.C15Dist
import CogentModel.Proofs.ListFacts
import Mathlib.Tactic.Ring
/-! The numpy primitives of Model/DistanceNumpy.lean, applied the way the
translated source (Gen/C15Dist.lean) applies them, are the hand model's helper functions. -/
namespace CogentModel.Distance
open CogentModel.DistNp CogentModel.Gen CogentModel.AssocFold

theorem msum_eq (m : M4) : msum m = total m := by
  unfold msum vsum total rowSum; ring
theorem vsum_mdiag (m : M4) : vsum (mdiag m) = diagSum m := rfl
theorem axis0_eq (m : M4) (j : Nat) : axis0 m j = colSum m j := rfl
theorem axis1_eq (m : M4) (i : Nat) : axis1 m i = rowSum m i := rfl

/-- the `freqs` vector of `_tn93_from_matrix` is the model's `tnFreq` -/
theorem tn_freqs (m : M4) : vdivS (vadd (axis0 m) (axis1 m)) (2 * total m) = tnFreq m := rfl

theorem lsum_mtake_append (m : M4) (a b : List Nat) :
    lsum (mtake m (a ++ b)) = lsum (mtake m a) + lsum (mtake m b) := by
  simp only [lsum, mtake, List.map_append, ← List.sum_eq_foldl, List.sum_append]

theorem take_pur (m : M4) : lsum (mtake m [11, 14]) = purTs m := by
  simp [lsum, mtake, purTs]
theorem take_pyr (m : M4) : lsum (mtake m [1, 4]) = pyrTs m := by
  simp [lsum, mtake, pyrTs]; ring
theorem take_pyr' (m : M4) : lsum (mtake m [4, 1]) = pyrTs m := by
  simp [lsum, mtake, pyrTs]
theorem take_tv (m : M4) : lsum (mtake m [2, 3, 6, 7, 8, 9, 12, 13]) = tvSum m := by
  simp [lsum, mtake, tvSum]
theorem vt_sum (f : V4) (a b : Nat) : lsum (vtake f [a, b]) = f a + f b := by simp [lsum, vtake]
theorem vt_prod (f : V4) (a b : Nat) : lprod (vtake f [a, b]) = f a * f b := by simp [lprod, vtake]

/-- the translated function and the model fail on the same test; what is left is to compare them where the test is passed -/
theorem _root_.CogentModel.DistNp.Res.Same.guard {c : Prop} [Decidable c] {r : Res} {s : Stat}
    (h : ¬c → Res.Same r (ofStat s)) : Res.Same (if c then none else r) (ofStat (if c then .invalid else s)) := by
  split_ifs with hc
  · exact trivial
  · exact h hc

/-- `_tn93_from_matrix` with the constants of `TN93Pair`, for any listing `pyr` of the pyrimidine transition
coordinates (`__init__` produces [4, 1]); stated away from the zero denominators -/
theorem tn93_from_matrix_eq (m : M4) (fr : V4) (pyr : List Nat) (hpyr : lsum (mtake m pyr) = pyrTs m)
    (h1 : tnFreq m 2 * tnFreq m 3 ≠ 0) (h2 : tnFreq m 1 * tnFreq m 0 ≠ 0)
    (h3 : tnFreq m 2 + tnFreq m 3 ≠ 0) (h4 : tnFreq m 1 + tnFreq m 0 ≠ 0) :
    Res.Same (C15Dist.tn93_from_matrix m fr [2, 3] [1, 0] [11, 14] pyr [2, 3, 6, 7, 8, 9, 12, 13])
      (ofStat (tn93Stat m)) := by
  unfold C15Dist.tn93_from_matrix tn93Stat
  simp only [msum_eq, tn_freqs, lsum_mtake_append, take_pur, hpyr, take_tv, vt_sum, vt_prod]
  simp only [h1, h2, h3, h4, ne_eq, not_false_eq_true, true_and, and_self, or_self, if_false]
  exact .guard fun _ => .guard fun _ => ⟨rfl, rfl, fun _ => rfl⟩

theorem mask_eq (m : M4) : maskDiagEq m 0 (1 / 2) = halfDiag m := by
  funext i j; unfold maskDiagEq halfDiag
  by_cases h : i = j ∧ m i j = 0
  · rw [if_pos h, if_pos ⟨h.2, h.1⟩]
  · rw [if_neg h, if_neg (fun h' => h ⟨h'.2, h'.1⟩)]

theorem prod_eq (f : M4) : vprod (vmul (axis0 f) (axis1 f)) = freqProd f := by
  unfold vprod vmul freqProd; simp only [axis0_eq, axis1_eq]

theorem sq_eq (f : M4) :
    vsum (vmul (vlsum [axis0 f, axis1 f]) (vlsum [axis0 f, axis1 f])) = freqSqSum f := by
  unfold vsum vmul vlsum freqSqSum
  simp only [List.foldl, vadd, vzero, axis0_eq, axis1_eq]; ring

/-- `_logdetcommon` in the model's terms: its three guards, then (total, p, frequency, [column sums, row sums]) -/
theorem logdetcommon_eq (m : M4) :
    C15Dist.logdetcommon m =
      if total m = 0 ∨ total m - diagSum m = 0 ∨ det4 (freqMatrix m) ≤ 0 then none
      else some (total m, (total m - diagSum m) / total m, freqMatrix m, [axis0 (freqMatrix m), axis1 (freqMatrix m)]) := by
  unfold C15Dist.logdetcommon
  simp only [msum_eq, vsum_mdiag, mask_eq, det, ite_or]
  rfl

/-! ### `_expand`: the `redundants` dict built from `self.duplicated` is the flat list of (alias, duplicate) pairs, swapped -/

/-- `d[k] = v` for a key not yet in the dict appends the entry -/
theorem pyDictSet_fresh (d : List (Nat × Nat)) (k v : Nat) (h : k ∉ d.map Prod.fst) : pyDictSet d k v = d ++ [(k, v)] := by
  unfold pyDictSet
  exact if_neg fun hh => let ⟨e, he, hk⟩ := List.any_eq_true.1 hh; h (beq_iff_eq.1 hk ▸ List.mem_map_of_mem he)

def flatPairs (dup : List (Nat × List Nat)) : List (Nat × Nat) := dup.flatMap fun kv => kv.2.map fun r => (kv.1, r)

/-- the two nested loops that build `redundants` are one loop over the flat list of (duplicate, alias) entries -/
theorem redundants_fold (dup : List (Nat × List Nat)) (hn : (dup.flatMap (·.2)).Nodup) :
    dup.foldl (fun red kv => (kv.2).foldl (fun red r => pyDictSet red r kv.1) red) [] =
      (flatPairs dup).map fun p => (p.2, p.1) := by
  have hk : ((flatPairs dup).map fun p => (p.2, p.1)).map (·.1) = dup.flatMap (·.2) := by
    simp only [flatPairs, List.map_flatMap, List.map_map, Function.comp_def, List.map_id']
  rw [← List.nil_append (List.map _ _), ← foldl_set_fresh pyDictSet pyDictSet_fresh _ [] (hk ▸ hn) (fun _ _ he => nomatch he), List.foldl_map, flatPairs,
    List.foldl_flatMap]
  simp only [List.foldl_map]

end CogentModel.Distance
