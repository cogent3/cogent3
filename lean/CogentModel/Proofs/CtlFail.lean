import CogentModel.Model.ControllerFail
/-! # C07 — dirty marks survive an `update()` that raises part way through the walk -/
namespace CogentModel.Ctl

/-- the `old` flags on the stack: the outermost frame saved `False`, inner ones `True` -/
def StackOK : Bool → List Bool → Prop
  | susp, [] => susp = false
  | susp, old :: rest => susp = true ∧ StackOK old rest

end CogentModel.Ctl

namespace CogentModel.CtlF
open CogentModel.Ctl (St Op upd StackOK)
variable {V : Type} [Inhabited V]

def WF (g : Graph V) : Prop := ∀ k, k < g.length → ∀ a, a ∈ (defn g k).args → a < k

def LocalOK (g : Graph V) (s : St V) (k : Nat) : Prop :=
  match defn g k with
  | .leaf => s.values k = s.setting k
  | .derived args f => f (args.map s.values) = some (s.values k)

theorem LocalOK.congr {g : Graph V} {s s' : St V} {k : Nat} (h : LocalOK g s k)
    (hk : s'.values k = s.values k) (ha : ∀ a, a ∈ (defn g k).args → s'.values a = s.values a)
    (hs : s'.setting k = s.setting k) : LocalOK g s' k := by
  unfold LocalOK at *
  cases hd : defn g k with
  | leaf => simp [hd] at h ⊢; rw [hk, hs, h]
  | derived args f =>
    simp [hd] at h ⊢
    rw [List.map_congr_left fun a ha' => ha a (by simp [hd, Defn.args, ha']), hk, h]

theorem mem_clients {g : Graph V} {k j : Nat} (hj : j < g.length) (h : k ∈ (defn g j).args) :
    j ∈ clients g k := by
  simp [clients, hj, h]

/-- an `update()` that returns has stored one value, the one the rule of `k` gives -/
theorem updateOne_some {g : Graph V} {s s1 : St V} {k : Nat} (h : updateOne g s k = some s1) :
    ∃ v, s1 = { s with values := upd s.values k v } ∧
      match defn g k with
      | .leaf => v = s.setting k
      | .derived args f => f (args.map s.values) = some v := by
  unfold updateOne at h
  cases hd : defn g k with
  | leaf => rw [hd] at h; exact ⟨_, (Option.some.inj h).symm, rfl⟩
  | derived args f =>
    rw [hd] at h
    simp only [] at h ⊢
    cases hf : f (args.map s.values) with
    | none => rw [hf] at h; cases h
    | some v => rw [hf] at h; exact ⟨v, (Option.some.inj h).symm, rfl⟩

theorem updateOne_fields (g : Graph V) (s s1 : St V) (k : Nat) (h : updateOne g s k = some s1) :
    s1.setting = s.setting ∧ s1.changed = s.changed ∧ s1.suspended = s.suspended ∧ s1.stack = s.stack ∧
    ∀ j, j ≠ k → s1.values j = s.values j := by
  obtain ⟨v, rfl, _⟩ := updateOne_some h
  exact ⟨rfl, rfl, rfl, rfl, fun j hj => if_neg hj⟩

theorem updateOne_ok (g : Graph V) (hwf : WF g) (s s1 : St V) (k : Nat) (hk : k < g.length)
    (h : updateOne g s k = some s1) : LocalOK g s1 k := by
  obtain ⟨v, rfl, hv⟩ := updateOne_some h
  unfold LocalOK
  cases hd : defn g k with
  | leaf => rw [hd] at hv; simp [upd, hv]
  | derived args f =>
    rw [hd] at hv
    simp only [] at hv ⊢
    -- the arguments have lower rank, so the stored value does not change them
    have : args.map (upd s.values k v) = args.map s.values :=
      List.map_congr_left fun a ha => if_neg (Nat.ne_of_lt (hwf k hk a (by simp [hd, Defn.args, ha])))
    rw [this, hv]
    simp [upd]

/-- every definition that is not marked dirty is locally consistent -/
def J (g : Graph V) (s : St V) : Prop := ∀ k, k < g.length → k ∉ s.changed → LocalOK g s k

/-- the walk has reached definition `m`: every definition below `m`, and every one not marked dirty, is consistent -/
def Upto (g : Graph V) (m : Nat) (s : St V) : Prop :=
  ∀ k, k < g.length → (k < m ∨ k ∉ s.changed) → LocalOK g s k

theorem Upto.j {g : Graph V} {m : Nat} {s : St V} (h : Upto g m s) : J g s := fun k hk hc => h k hk (Or.inr hc)

theorem J.upto {g : Graph V} {s : St V} (h : J g s) : Upto g 0 s :=
  fun k hk hc => h k hk (hc.resolve_left (Nat.not_lt_zero k))

/-- a clean definition is passed over -/
theorem Upto.skip {g : Graph V} {m : Nat} {s : St V} (h : Upto g m s) (hc : m ∉ s.changed) : Upto g (m + 1) s := by
  intro k hk hkm
  by_cases hkeq : k = m
  · exact h k hk (Or.inr (hkeq ▸ hc))
  · exact h k hk (hkm.imp_left fun hlt => Nat.lt_of_le_of_ne (Nat.le_of_lt_succ hlt) hkeq)

/-- a dirty definition is recomputed and its clients are marked: no consistent definition reads it, because its
readers are above `m` and now dirty -/
theorem Upto.update {g : Graph V} (hwf : WF g) {m : Nat} {s s1 : St V} (h : Upto g m s) (hm : m < g.length)
    (hu : updateOne g s m = some s1) : Upto g (m + 1) { s1 with changed := s1.changed ++ clients g m } := by
  obtain ⟨f1, f2, _, _, f5⟩ := updateOne_fields g s s1 m hu
  intro k hk hkm
  by_cases hkeq : k = m
  · subst hkeq
    exact (updateOne_ok g hwf s s1 k hk hu).congr rfl (fun _ _ => rfl) rfl
  · have hkm' : k < m ∨ (k ∉ s.changed ∧ k ∉ clients g m) := by
      refine hkm.imp (fun hlt => Nat.lt_of_le_of_ne (Nat.le_of_lt_succ hlt) hkeq) fun hc => ?_
      simpa only [List.mem_append, not_or, f2] using hc
    refine (h k hk (hkm'.imp_right And.left)).congr (f5 k hkeq) (fun a ha => f5 a ?_) (congrFun f1 k)
    rintro rfl
    rcases hkm' with hlt | ⟨_, hcl⟩
    · exact Nat.lt_asymm hlt (hwf k hk a ha)
    · exact hcl (mem_clients hk ha)

/-- marking definitions dirty keeps `J`, also when the settings of the marked ones change -/
theorem J.mark {g : Graph V} {s : St V} (hJ : J g s) (ks : List Nat) (σ : Nat → V)
    (hσ : ∀ j, j ∉ ks → σ j = s.setting j) : J g { s with setting := σ, changed := s.changed ++ ks } := by
  intro j hj hjc
  simp only [List.mem_append, not_or] at hjc
  exact (hJ j hj hjc.1).congr rfl (fun _ _ => rfl) (hσ j hjc.2)

/-- the walk only writes `values` and `changed` -/
theorem updateLoop_fields (g : Graph V) : ∀ (ks : List Nat) (s : St V),
    (updateLoop g ks s).1.setting = s.setting ∧ (updateLoop g ks s).1.suspended = s.suspended ∧
    (updateLoop g ks s).1.stack = s.stack := by
  intro ks
  induction ks with
  | nil => intro s; exact ⟨rfl, rfl, rfl⟩
  | cons k ks ih =>
    intro s
    unfold updateLoop
    split
    · cases hu : updateOne g s k with
      | none => exact ⟨rfl, rfl, rfl⟩
      | some s1 =>
        obtain ⟨f1, _, f3, f4, _⟩ := updateOne_fields g s s1 k hu
        obtain ⟨a, b, c⟩ := ih { s1 with changed := s1.changed ++ clients g k }
        exact ⟨a.trans f1, b.trans f3, c.trans f4⟩
    · exact ih s

/-- the walk over the definitions from `m` on keeps `J` **however it ends** (completed or left by an exception), and
if it completes every definition is consistent -/
theorem updateLoop_upto (g : Graph V) (hwf : WF g) :
    ∀ (len m : Nat) (s : St V), m + len = g.length → Upto g m s →
      J g (updateLoop g (List.range' m len) s).1 ∧
      ((updateLoop g (List.range' m len) s).2 = true →
        ∀ j, j < g.length → LocalOK g (updateLoop g (List.range' m len) s).1 j) := by
  intro len
  induction len with
  | zero => intro m s hm h; exact ⟨h.j, fun _ j hj => h j hj (Or.inl (Nat.lt_of_lt_of_eq hj hm.symm))⟩
  | succ len ih =>
    intro m s hm h
    have hmn : m < g.length := hm ▸ Nat.lt_add_of_pos_right (Nat.succ_pos len)
    have hm' : m + 1 + len = g.length := (Nat.add_right_comm m 1 len).trans hm
    rw [List.range'_succ]
    unfold updateLoop
    by_cases hc : s.changed.contains m = true
    · simp only [hc, if_true]
      cases hu : updateOne g s m with
      | none => exact ⟨h.j, nofun⟩
      | some s1 => exact ih (m + 1) _ hm' (h.update hwf hmn hu)
    · simp only [hc]
      exact ih (m + 1) s hm' (h.skip (by simpa using hc))

/-- the invariant that survives failing recalculations -/
structure Inv (g : Graph V) (s : St V) : Prop where
  j : J g s
  stack : StackOK s.suspended s.stack

/-- a propagation from a `J` state gives `Inv` however the walk ends, and leaves nothing dirty if the walk ran and completed -/
theorem Inv.propagate (g : Graph V) (hwf : WF g) (s : St V) (hJ : J g s) (hst : StackOK s.suspended s.stack) :
    Inv g (updateIntermediate g s).1 ∧
    ((updateIntermediate g s).2 = true → (updateIntermediate g s).1.suspended = false →
      (updateIntermediate g s).1.changed = []) := by
  unfold updateIntermediate
  by_cases hs : s.suspended = true
  · rw [if_pos hs]
    exact ⟨⟨hJ, hst⟩, fun _ h => absurd (hs.symm.trans h) (by decide)⟩
  · rw [if_neg hs]
    have hall := updateLoop_upto g hwf g.length 0 s (Nat.zero_add _) hJ.upto
    rw [← List.range_eq_range'] at hall
    obtain ⟨_, c, d⟩ := updateLoop_fields g (List.range g.length) s
    cases hr : updateLoop g (List.range g.length) s with
    | mk s' ok =>
      rw [hr] at hall c d
      have hst' : StackOK s'.suspended s'.stack := by rw [c, d]; exact hst
      cases ok with
      | false => exact ⟨⟨hall.1, hst'⟩, nofun⟩
      | true => exact ⟨⟨fun k hk _ => (hall.2 rfl k hk).congr rfl (fun _ _ => rfl) rfl, hst'⟩, fun _ _ => rfl⟩

theorem step_inv (g : Graph V) (hwf : WF g) (s : St V) (o : Op V) (hI : Inv g s) :
    Inv g (step g s o).1 ∧
    ((step g s o).2 = true → (step g s o).1.suspended = false →
      (s.stack ≠ [] ∧ o ≠ Op.enter ∨ ∃ k v, o = Op.assign k v) → (step g s o).1.changed = []) := by
  cases o with
  | enter =>
    refine ⟨⟨hI.j, ⟨rfl, hI.stack⟩⟩, fun _ _ h => ?_⟩
    rcases h with ⟨_, h⟩ | ⟨k, v, h⟩
    · exact absurd rfl h
    · cases h
  | assign k v =>
    have h := Inv.propagate g hwf { s with setting := upd s.setting k v, changed := s.changed ++ [k] }
      (hI.j.mark [k] _ fun j hj => if_neg (by simpa using hj)) hI.stack
    exact ⟨h.1, fun h1 h2 _ => h.2 h1 h2⟩
  | exit | xexit =>
    unfold step
    cases hst : s.stack with
    | nil =>
      refine ⟨hI, fun _ _ h => ?_⟩
      rcases h with ⟨h, _⟩ | ⟨k, v, h⟩
      · exact absurd rfl h
      · cases h
    | cons old rest =>
      have h := Inv.propagate g hwf { s with suspended := old, stack := rest } hI.j (hst ▸ hI.stack).2
      exact ⟨h.1, fun h1 h2 _ => h.2 h1 h2⟩

end CogentModel.CtlF
