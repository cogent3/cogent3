import Mathlib.Algebra.BigOperators.Ring.Finset
import Mathlib.Algebra.BigOperators.Ring.List
import Mathlib.Algebra.BigOperators.Group.List.Basic
import CogentModel.Model.Prune
import CogentModel.Proofs.RangeSum
/-!
C02 / C11: the memo table is the identity, the model's loops are finite sums, pruning equals the sum over all
labelings.
-/
namespace CogentModel.Prune
open Finset

theorem tabulate_eq {R : Type} (m : Nat) (f : Nat → R) : tabulate m f = ⟨f⟩ := by
  simp only [tabulate, Vec.mk.injEq]
  funext i
  by_cases h : i < m <;> simp [h]

@[simp] theorem tabulate_get {R : Type} (m : Nat) (f : Nat → R) (i : Nat) : (tabulate m f).get i = f i := by
  rw [tabulate_eq]

theorem sumOver_eq {R : Type} [AddCommMonoid R] (m : Nat) (f : Nat → R) :
    sumOver m f = ∑ i ∈ range m, f i := by
  induction m with
  | zero => simp [sumOver]
  | succ n ih => rw [sumOver, ih, Finset.sum_range_succ]

/-- `Finset.range m` is the list `List.range m` underneath, and the sum over it the list sum -/
theorem list_range_sum {R : Type} [AddCommMonoid R] (m : Nat) (f : Nat → R) :
    ((List.range m).map f).sum = ∑ i ∈ range m, f i := rfl

theorem sum_map_flatMap {R ι κ : Type} [AddCommMonoid R] (xs : List ι) (f : ι → List κ) (g : κ → R) :
    ((xs.flatMap f).map g).sum = (xs.map fun x => ((f x).map g).sum).sum := by
  induction xs with
  | nil => simp
  | cons x xs ih => simp [List.flatMap_cons, List.map_append, List.sum_append, ih]

theorem vec_ext {R : Type} : ∀ {u v : Vec R}, (∀ s, u.get s = v.get s) → u = v
  | ⟨_⟩, ⟨_⟩, h => congrArg Vec.mk (funext h)

theorem labelingsAt_mat_state {R α : Type} (keep : α → Nat → Bool) (m : Nat) (t : PTree R α) (s : Nat)
    (l : LTree R α) (h : l ∈ labelingsAt keep m t s) : l.mat = t.mat ∧ l.state = s := by
  cases t with
  | leaf P a =>
    rw [labelingsAt] at h
    split at h
    · cases List.mem_singleton.mp h
      exact ⟨rfl, rfl⟩
    · cases h
  | node P cs =>
    obtain ⟨ls, -, rfl⟩ := List.mem_map.mp h
    exact ⟨rfl, rfl⟩

section semiring
variable {R : Type} [CommSemiring R] {α : Type}

/-! ### the three vector primitives of the recursion -/

theorem mulVec_get (m : Nat) (u r : Vec R) (s : Nat) : (mulVec m u r).get s = u.get s * r.get s := by
  simp [mulVec]

theorem upWith_get (m : Nat) (P : Mat R) (v : Vec R) (s : Nat) :
    (upWith m P v).get s = ∑ s' ∈ range m, P s s' * v.get s' := by
  simp [upWith, sumOver_eq]

theorem dot_eq (m : Nat) (v : Vec R) (π : Nat → R) : dot m v π = ∑ s ∈ range m, v.get s * π s := by
  simp only [dot, sumOver_eq]

/-- an edge reads the vector below it only on the states `< m` -/
theorem upWith_congr (m : Nat) (P : Mat R) {u v : Vec R} (h : ∀ s, s < m → u.get s = v.get s) :
    upWith m P u = upWith m P v :=
  vec_ext fun s => by
    rw [upWith_get, upWith_get]
    exact sum_range_congr fun s' hs' => by rw [h s' hs']

/-- … and so does the likelihood at the root -/
theorem dot_congr (m : Nat) {u v : Vec R} (π : Nat → R) (h : ∀ s, s < m → u.get s = v.get s) : dot m u π = dot m v π := by
  rw [dot_eq, dot_eq]
  exact sum_range_congr fun s hs => by rw [h s hs]

@[simp] theorem plh_leaf (m : Nat) (prof : α → Nat → R) (P : Mat R) (a : α) (s : Nat) :
    (plh m prof (.leaf P a)).get s = prof a s := by
  simp [plh]

theorem plh_node (m : Nat) (prof : α → Nat → R) (P : Mat R) (cs : List (PTree R α)) :
    plh m prof (.node P cs) = prodUp m prof cs := by
  simp [plh]

@[simp] theorem prodUp_nil (m : Nat) (prof : α → Nat → R) (s : Nat) :
    (prodUp m prof ([] : List (PTree R α))).get s = 1 := by
  simp [prodUp]

theorem up_get (m : Nat) (prof : α → Nat → R) (c : PTree R α) (s : Nat) :
    (up m prof c).get s = ∑ s' ∈ range m, c.mat s s' * (plh m prof c).get s' :=
  upWith_get m c.mat _ s

theorem up_leaf_get (m : Nat) (prof : α → Nat → R) (P : Mat R) (a : α) (s : Nat) :
    (up m prof (.leaf P a)).get s = ∑ s' ∈ range m, P s s' * prof a s' :=
  up_get m prof (.leaf P a) s

theorem prodUp_cons (m : Nat) (prof : α → Nat → R) (c : PTree R α) (cs : List (PTree R α)) (s : Nat) :
    (prodUp m prof (c :: cs)).get s = (up m prof c).get s * (prodUp m prof cs).get s :=
  mulVec_get m _ _ s

theorem prodUp_eq_prod (m : Nat) (prof : α → Nat → R) (cs : List (PTree R α)) (s : Nat) :
    (prodUp m prof cs).get s = (cs.map fun c => (up m prof c).get s).prod := by
  induction cs with
  | nil => exact prodUp_nil m prof s
  | cons c cs ih => rw [prodUp_cons, ih, List.map_cons, List.prod_cons]

theorem lh_eq (m : Nat) (π : Nat → R) (prof : α → Nat → R) (t : PTree R α) :
    lh m π prof t = ∑ s ∈ range m, (plh m prof t).get s * π s :=
  dot_eq m _ π

mutual
theorem plh_eq_sum_labelings (keep : α → Nat → Bool) (m : Nat) (prof : α → Nat → R)
    (hk : ∀ a s, keep a s = false → prof a s = 0) :
    ∀ (t : PTree R α) (s : Nat),
      (plh m prof t).get s = ((labelingsAt keep m t s).map (weight prof)).sum
  | .leaf P a, s => by
    simp only [plh_leaf, labelingsAt]
    cases hks : keep a s
    · simp [hk a s hks]
    · simp [weight]
  | .node P cs, s => by
    rw [plh_node, prodUp_eq_sum_labelings keep m prof hk cs s]
    simp only [labelingsAt, List.map_map]
    congr 1
theorem prodUp_eq_sum_labelings (keep : α → Nat → Bool) (m : Nat) (prof : α → Nat → R)
    (hk : ∀ a s, keep a s = false → prof a s = 0) :
    ∀ (cs : List (PTree R α)) (s : Nat),
      (prodUp m prof cs).get s = ((labelingsL keep m cs).map (weightL prof s)).sum
  | [], s => by simp [labelingsL, weightL]
  | c :: cs, s => by
    rw [prodUp_cons, up_get, prodUp_eq_sum_labelings keep m prof hk cs s]
    simp only [labelingsL]
    rw [sum_map_flatMap, list_range_sum, Finset.sum_mul]
    refine Finset.sum_congr rfl fun s' _ => ?_
    rw [sum_map_flatMap, plh_eq_sum_labelings keep m prof hk c s']
    have inner : ∀ l ∈ labelingsAt keep m c s',
        ((List.map (fun ls => l :: ls) (labelingsL keep m cs)).map (weightL prof s)).sum
          = (c.mat s s' * weight prof l) * ((labelingsL keep m cs).map (weightL prof s)).sum := by
      intro l hl
      obtain ⟨hm, hs⟩ := labelingsAt_mat_state keep m c s' l hl
      rw [List.map_map, ← List.sum_map_mul_left]
      congr 1
      refine List.map_congr_left fun ls _ => ?_
      simp [weightL, hm, hs]
    rw [List.map_congr_left inner, List.sum_map_mul_right, List.sum_map_mul_left]
end

end semiring

end CogentModel.Prune
