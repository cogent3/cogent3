import CogentModel.Model.Aln
import CogentModel.Proofs.AlnPySlice
namespace CogentModel.Aln
open CogentModel.IndelMap List CogentModel

/-- the block being extended, closed at `pos` -/
theorem maskRuns_nil_eq (pos : Int) (start : Option Int) :
    maskRuns pos start [] = (start.map (·, pos)).toList := by cases start <;> rfl

theorem maskRuns_false (pos : Int) (start : Option Int) (r : List Bool) :
    maskRuns pos start (false :: r) = (start.map (·, pos)).toList ++ maskRuns (pos + 1) none r := by
  cases start <;> rfl

/-- the blocks start at strictly increasing columns, none before the block being extended -/
theorem maskRuns_keys (mask : List Bool) : ∀ (pos : Int) (start : Option Int),
    (∀ st, start = some st → st ≤ pos) →
    ((maskRuns pos start mask).map (·.1)).Pairwise (· < ·) ∧
    ∀ x ∈ maskRuns pos start mask, start.getD pos ≤ x.1 := by
  induction mask with
  | nil => intro pos start _; rw [maskRuns_nil_eq]; cases start <;> simp
  | cons b r ih =>
    intro pos start hst
    have hle : start.getD pos ≤ pos := by
      cases start with
      | none => exact Int.le_refl _
      | some st => exact hst st rfl
    cases b with
    | true =>
      obtain ⟨i1, i2⟩ := ih (pos + 1) (some (start.getD pos)) (fun st h => by cases h; omega)
      exact ⟨i1, i2⟩
    | false =>
      obtain ⟨i1, i2⟩ := ih (pos + 1) none (fun st h => nomatch h)
      rw [maskRuns_false]
      cases start with
      | none => exact ⟨i1, fun x hx => Int.le_trans (Int.le_add_one (Int.le_refl pos)) (i2 x hx)⟩
      | some st =>
        have := hst st rfl
        refine ⟨pairwise_cons.mpr ⟨fun q hq => ?_, i1⟩, fun x hx => ?_⟩
        · obtain ⟨x, hx, rfl⟩ := mem_map.mp hq
          have := i2 x hx
          show st < x.1
          simp only [Option.getD_none] at this; omega
        · rcases mem_cons.mp hx with rfl | hx'
          · exact Int.le_refl _
          · have := i2 x hx'; simp only [Option.getD_none, Option.getD_some] at this ⊢; omega

/-- no block at all: nothing was being extended and no column is kept -/
theorem maskRuns_eq_nil_iff (mask : List Bool) : ∀ (pos : Int) (start : Option Int),
    maskRuns pos start mask = [] ↔ start = none ∧ mask.all (! ·) = true := by
  induction mask with
  | nil => intro pos start; cases start <;> simp [maskRuns]
  | cons b r ih =>
    intro pos start
    cases b with
    | true => simpa [maskRuns] using (ih (pos + 1) (some (start.getD pos))).mp
    | false => rw [maskRuns_false]; cases start <;> simp [ih]

theorem maskRuns_nil (mask : List Bool) : ∀ (pos : Int) (start : Option Int),
    maskRuns pos start mask = [] → start = none ∧ mask.all (! ·) = true :=
  fun pos start => (maskRuns_eq_nil_iff mask pos start).mp

theorem denseFilter_cons_true (c : Char) (t : List Char) (r : List Bool) :
    denseFilter (c :: t) (true :: r) = c :: denseFilter t r := by simp [denseFilter]
theorem denseFilter_cons_false (c : Char) (t : List Char) (r : List Bool) :
    denseFilter (c :: t) (false :: r) = denseFilter t r := by simp [denseFilter]
theorem denseFilter_nil (m : List Bool) : denseFilter [] m = [] := by simp [denseFilter]

theorem denseFilter_cons (t : List Char) (b : Bool) (r : List Bool) :
    denseFilter t (b :: r) = (if b then t.take 1 else []) ++ denseFilter (t.drop 1) r := by
  cases t with
  | nil => simp only [denseFilter_nil, take_nil, drop_nil, ite_self, append_nil]
  | cons c t => cases b <;> simp [denseFilter_cons_true, denseFilter_cons_false]

/-- what the block being extended, closed at `pos`, keeps of a string -/
theorem denseKeep_open (s : List Char) (pos : Nat) (start : Option Int) (hst : ∀ st, start = some st → 0 ≤ st) :
    denseKeep s (start.map (·, (pos : Int))).toList =
      (s.drop (start.getD pos).toNat).take (pos - (start.getD pos).toNat) := by
  cases start with
  | none => simp [denseKeep]
  | some st =>
    simp only [denseKeep, Option.map_some, Option.toList_some, flatMap_cons, flatMap_nil, append_nil, Option.getD_some]
    rw [PySlice.slice_nonneg s st pos (hst st rfl) (by omega), Int.toNat_natCast]

/-- joining the run-length blocks of the kept columns = taking the kept columns -/
theorem keep_runs_eq_filter (s : List Char) (mask : List Bool) : ∀ (pos : Nat) (start : Option Int),
    (∀ st, start = some st → 0 ≤ st ∧ st ≤ pos) →
    denseKeep s (maskRuns pos start mask) =
      denseKeep s (start.map (·, (pos : Int))).toList ++ denseFilter (s.drop pos) mask := by
  induction mask with
  | nil => intro pos start _; rw [maskRuns_nil_eq, denseFilter, zip_nil_right]; simp
  | cons b r ih =>
    intro pos start hst
    have hcast : ((pos : Int) + 1) = ((pos + 1 : Nat) : Int) := by push_cast; rfl
    rw [denseFilter_cons, drop_drop]
    cases b with
    | false =>
      rw [maskRuns_false, hcast, denseKeep, flatMap_append, ← denseKeep, ← denseKeep, ih (pos + 1) none (fun st h => nomatch h)]
      rfl
    | true =>
      -- the block being extended grows by column `pos`
      obtain ⟨k, hk, hkp⟩ : ∃ k : Nat, start.getD pos = k ∧ k ≤ pos := by
        cases start with
        | none => exact ⟨pos, rfl, Nat.le_refl _⟩
        | some st =>
          obtain ⟨h0, h1⟩ := hst st rfl
          obtain ⟨k, rfl⟩ := Int.eq_ofNat_of_zero_le h0
          exact ⟨k, rfl, by omega⟩
      have h1 := denseKeep_open s (pos + 1) (some (start.getD pos)) (fun st h => by cases h; omega)
      have h2 := denseKeep_open s pos start (fun st h => (hst st h).1)
      rw [Option.getD_some, hk, Int.toNat_natCast] at h1
      rw [hk, Int.toNat_natCast] at h2
      show denseKeep s (maskRuns ((pos : Int) + 1) (some (start.getD pos)) r) = _
      rw [hcast, ih (pos + 1) (some (start.getD pos)) (fun st h => by cases h; omega), hk, h1, h2,
        show pos + 1 - k = (pos - k) + 1 by omega, take_add, drop_drop, show k + (pos - k) = pos by omega,
        if_pos rfl, append_assoc]

theorem denseKeep_maskRuns (s : List Char) (mask : List Bool) :
    denseKeep s (maskRuns 0 none mask) = denseFilter s mask :=
  keep_runs_eq_filter s mask 0 none (fun _ h => nomatch h)

end CogentModel.Aln
