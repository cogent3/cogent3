/-  C20 — the NAMED layer of the table model (what the driver runs): name resolution and the positions it finds, the
    index-column-first order of sub-tables (`IndexOK`, `resolved`), the index_name rule of results, alignment by name
    for `appended`. -/
import CogentModel.Proofs.TableRowsOf
import CogentModel.Proofs.ExceptDecEq
namespace CogentModel.TableOps

/-! ### name resolution (`Columns._get_keys_`) -/

theorem idxOf_ok (t : Table) (n : String) (i : Nat) (h : t.idxOf n = .ok i) :
    i < t.header.length ∧ t.name i = n := by
  unfold Table.idxOf at h
  cases e : t.header.idxOf? n with
  | none => simp [e] at h
  | some j =>
    simp only [e, Except.ok.injEq] at h
    subst h
    obtain ⟨hj, hv, _⟩ := List.idxOf?_eq_some_iff.1 e
    exact ⟨hj, by simp [Table.name, List.getD_eq_getElem?_getD, hj, hv]⟩

theorem idxsOf_ok (t : Table) (names : List String) (sel : List Nat) (h : t.idxsOf names = .ok sel) :
    sel.map t.name = names ∧ (∀ j ∈ sel, j < t.header.length) ∧ sel.length = names.length := by
  unfold Table.idxsOf at h
  induction names generalizing sel with
  | nil => cases h; simp
  | cons n ns ih =>
    rw [List.mapM_cons] at h
    obtain ⟨i, e1, h⟩ := bind_eq_ok h
    obtain ⟨is, e2, h⟩ := bind_eq_ok h
    cases h
    obtain ⟨a, b, c⟩ := ih is e2
    obtain ⟨hi, hn⟩ := idxOf_ok t n i e1
    exact ⟨by rw [List.map_cons, hn, a], List.forall_mem_cons.2 ⟨hi, b⟩, by rw [List.length_cons, c, List.length_cons]⟩

theorem idxsOf_ne_nil (t : Table) (names : List String) (sel : List Nat) (h : t.idxsOf names = .ok sel)
    (hne : names ≠ []) : sel ≠ [] := by
  rintro rfl
  exact hne (List.eq_nil_of_length_eq_zero (idxsOf_ok t names [] h).2.2.symm)

theorem name_mem_header (t : Table) (j : Nat) (hj : j < t.header.length) : t.name j ∈ t.header :=
  getD_mem t.header j "" hj

theorem filter_range_getD {β : Type} (l : List β) (d : β) (p : β → Bool) :
    ((List.range l.length).filter (fun j => p (l.getD j d))).map (fun j => l.getD j d) = l.filter p := by
  conv => rhs; rw [← ListGetD.map_getD_range_self d l, List.filter_map]
  rfl

/-! ### sub-tables: the index column comes first -/

/-- the index column is absent from the request, or it is asked for first (and only once) -/
def IndexOK (t : Table) (names : List String) : Prop :=
  match t.index with
  | none => True
  | some k => k ∉ names ∨ ∃ rest, names = k :: rest ∧ k ∉ rest

/-- under `IndexOK` the sub-table `table[:, columns]` has its columns in the requested order -/
theorem subNames_of_indexOK (t : Table) (names : List String) (h : IndexOK t names) : t.subNames names = names := by
  unfold Table.subNames
  unfold IndexOK at h
  cases hk : t.index with
  | none => rfl
  | some k =>
    simp only [hk] at h ⊢
    rcases h with h | ⟨rest, rfl, hr⟩
    · simp [h]
    · have : rest.filter (· ≠ k) = rest :=
        List.filter_eq_self.2 fun a ha => decide_eq_true fun e => hr (e ▸ ha)
      simp only [List.contains_cons, beq_self_eq_true, Bool.true_or, if_true, List.filter_cons, ne_eq,
        not_true_eq_false, decide_false, Bool.false_eq_true, if_false]
      exact congrArg (k :: ·) this

theorem subNames_ne_nil (t : Table) (names : List String) (h : names ≠ []) : t.subNames names ≠ [] := by
  unfold Table.subNames
  cases t.index with
  | none => exact h
  | some k => simp only; split <;> simp [h]

/-- every named operation starts by resolving `self[:, columns]`; under `IndexOK` these are the names asked for, in
the order asked -/
theorem resolved {γ : Type} {t : Table} {names : List String} (hi : IndexOK t names)
    {k : List Nat → Except String γ} {c : γ} (h : t.idxsOf (t.subNames names) >>= k = .ok c) :
    ∃ sel, t.idxsOf names = .ok sel ∧ k sel = .ok c :=
  bind_eq_ok (subNames_of_indexOK t names hi ▸ h)

/-! ### well-formed named tables -/

/-- a named table is well formed: one column per header name, all columns equally long, the index_name (if any)
names a column -/
structure Table.WFT (t : Table) : Prop where
  ncols : t.cols.length = t.header.length
  wf : WF t.cols
  idx : ∀ k, t.index = some k → k ∈ t.header

theorem idxsOf_lt_cols {t : Table} (hw : t.WFT) {names : List String} {sel : List Nat} (h : t.idxsOf names = .ok sel) :
    ∀ j ∈ sel, j < t.cols.length :=
  fun j hj => hw.ncols ▸ (idxsOf_ok t names sel h).2.1 j hj

theorem rows_selectCols {t : Table} (hw : t.WFT) {names : List String} {sel : List Nat} (h : t.idxsOf names = .ok sel)
    (hne : names ≠ []) : rowsOf dfl (selectCols sel t.cols) = TableRows.select dfl sel t.rows :=
  rowsOf_selectCols dfl sel t.cols hw.wf (idxsOf_ne_nil t names sel h hne) (idxsOf_lt_cols hw h)

/-- aligning a table to `self`'s column order (`appended` matches columns BY NAME) -/
theorem alignTo_rows (t u : Table) (a : List (List Cell)) (hu : u.WFT) (hh : t.header ≠ [])
    (h : t.alignTo u = .ok a) :
    ∃ sel, u.idxsOf t.header = .ok sel ∧
      rowsOf dfl a = TableRows.select dfl sel u.rows ∧ WF a ∧ a.length = t.header.length := by
  unfold Table.alignTo at h
  split at h
  · cases h
  · cases e : u.idxsOf t.header with
    | error x => simp [e] at h
    | ok sel =>
      simp only [e, Except.ok.injEq] at h
      subst h
      have hs := idxsOf_ne_nil u t.header sel e hh
      have hb := idxsOf_lt_cols hu e
      refine ⟨sel, rfl, rows_selectCols hu e hh, ?_, by
        simp [selectCols, (idxsOf_ok u t.header sel e).2.2]⟩
      intro c hc
      rw [nrows_selectCols sel u.cols hu.wf hs hb]
      simp only [selectCols, List.mem_map] at hc
      obtain ⟨j, hj, rfl⟩ := hc
      exact length_getD hu.wf (hb j hj)

/-! ### the index_name of a result -/

/-- the index_name is handed on only as it was, for a column that exists and holds unique values -/
theorem keepIndexIfUnique_eq_some {idx : Option String} {header : List String} {cols : List (List Cell)} {k : String}
    (h : keepIndexIfUnique idx header cols = some k) :
    idx = some k ∧ ∃ i, header.idxOf? k = some i ∧
      (setOfList [] ((cols.getD i []).map Cell.key)).length = nrows cols := by
  unfold keepIndexIfUnique at h
  split at h
  · cases h
  · split at h
    · cases h
    · dsimp only at h
      split at h
      · cases h
        exact ⟨rfl, _, ‹_›, ‹_›⟩
      · cases h

theorem keepIndexIfUnique_cases (idx : Option String) (header : List String) (cols : List (List Cell)) :
    keepIndexIfUnique idx header cols = none ∨ keepIndexIfUnique idx header cols = idx := by
  cases e : keepIndexIfUnique idx header cols with
  | none => exact Or.inl rfl
  | some k => exact Or.inr (keepIndexIfUnique_eq_some e).1.symm

/-! ### the open finding C20-index-column-moved-first-in-subtables, as a witness on the model -/

def cexT : Table := { header := ["k", "a"], cols := [[.str "p", .str "q"], [.str "x", .str "y"]], index := some "k" }

def cexP (r : List Cell) : Bool := r.getD 0 .missing == .str "y"

end CogentModel.TableOps
