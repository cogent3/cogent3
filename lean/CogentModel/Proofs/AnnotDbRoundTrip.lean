import CogentModel.Model.AnnotDbX
import CogentModel.Proofs.AnnotDbTables
namespace CogentModel.AnnotDb

/-- The keys of a row dict are distinct, so a lookup skips the columns filed under other keys; a NULL
column is absent from the dict and the lookup falls through to the rest, where its key does not occur. -/
theorem lookup_optField_append (k k' : String) (v : Option String) (d : Rich) :
    (optField k' v ++ d).lookup k = if k = k' then (v.map .str).or (d.lookup k) else d.lookup k := by
  cases v with
  | none => simp [optField]
  | some s =>
    by_cases h : k = k'
    · simp [optField, h]
    · simp [optField, List.lookup, h, beq_eq_false_iff_ne.mpr h]

theorem getStr_optField_append (k k' : String) (v : Option String) (d : Rich) :
    getStr (optField k' v ++ d) k = if k = k' then v.or (getStr d k) else getStr d k := by
  unfold getStr
  rw [lookup_optField_append]
  by_cases h : k = k' <;> cases v <;> simp [h]

theorem richToXRec_xrecToRich (r : XRec) (hn : r.normal = true) : richToXRec (xrecToRich r) = r := by
  obtain ⟨⟨a, b, c, d, e, sp, s, t⟩, loc, oa⟩ := r
  unfold richToXRec richToRec xrecToRich
  -- every column is read back through the text columns in front of it
  simp only [List.append_assoc, getStr_optField_append, lookup_optField_append, String.reduceEq, if_false, if_true]
  -- what is left are lookups in the location and `on_alignment` entries
  cases loc
  · simp only [XRec.normal, Bool.false_or, Bool.and_eq_true, beq_iff_eq] at hn
    obtain ⟨⟨rfl, rfl⟩, rfl⟩ := hn
    rcases oa with _ | _ | _ <;> simp [getStr, List.lookup]
  · rcases oa with _ | _ | _ <;> simp [getStr, List.lookup]

/-- a `Rec` is a located row without an `on_alignment` entry -/
theorem richToRec_recToRich (r : Rec) : richToRec (recToRich r) = r := by
  have h := congrArg XRec.row (richToXRec_xrecToRich ⟨r, true, none⟩ rfl)
  rwa [show xrecToRich ⟨r, true, none⟩ = recToRich r from List.append_nil _] at h

theorem fromRichInto_toRich (opened db : Db) :
    fromRichInto opened (toRich db) = db.tables.foldl (fun acc t => addToTable acc t.1 t.2) opened := by
  unfold fromRichInto toRich
  rw [List.foldl_map]
  simp only [List.map_map, Function.comp_def, richToRec_recToRich, List.map_id']

theorem jsonRoundTrip_memory_perm (db : Db) (h : db.WF) :
    (jsonRoundTrip db false).WF ∧ (jsonRoundTrip db false).kind = db.kind ∧
      (jsonRoundTrip db false).records.Perm db.records := by
  unfold jsonRoundTrip
  rw [if_neg Bool.false_ne_true, fromRichInto_toRich]
  obtain ⟨w, k, p⟩ := foldl_addToTable id db.tables (Db.empty db.kind) (empty_wf _) fun _ hx => h.mem_names hx
  exact ⟨w, k, by rwa [empty_records, List.nil_append] at p⟩

end CogentModel.AnnotDb
