import CogentModel.Proofs.GeneticCodeTranslate
/-!
Stop codons: `has_terminal_stop`, `trim_stop_codon`, `get_translation` of sequences (generic in `__getitem__`:
`ReadsTable`), then the same row by row for collections and alignments.
-/
namespace CogentModel.GC
open CogentModel.C12Tables

def outcomeToExcept : GCSpec.Outcome → Except Err (List Char)
  | .pep p => .ok p
  | .rejected => .error .alphabetError

def endsWithStop (seq : List Char) (r : List Char) : Bool := (GCSpec.translate seq r).getLast? == some '*'

def specTrimRow (seq : List Char) (r : List Char) : List Char :=
  if endsWithStop seq r then r.take (r.length - 3) else r

/-- `AlignmentI.trim_stop_codons` row by row: a terminal stop becomes three gap characters, rows keep their length -/
def specAlnTrimRow (seq : List Char) (r : List Char) : List Char :=
  if endsWithStop seq r then r.take (r.length - 3) ++ ['-', '-', '-'] else r

/-- rows of a codon alignment / collection: canonical, non-empty, length a multiple of three -/
def CodonRows (rows : List (List Char)) : Prop := ∀ r ∈ rows, Canon r ∧ r ≠ [] ∧ r.length % 3 = 0

instance (rows : List (List Char)) : Decidable (CodonRows rows) :=
  inferInstanceAs (Decidable (∀ r ∈ rows, Canon r ∧ r ≠ [] ∧ r.length % 3 = 0))

def specCollTranslation (seq : List Char) (rows : List (List Char)) (io is_ ts : Bool) : Except Err (List (List Char)) :=
  rows.mapM fun r => outcomeToExcept (GCSpec.getTranslation seq r io is_ ts)

/-- `getItem` answers with the table entry on every canonical codon (`__getitem__` of either implementation) -/
def ReadsTable (seq : List Char) (getItem : List Char → Char) : Prop :=
  ∀ a ∈ GCSpec.bases, ∀ b ∈ GCSpec.bases, ∀ c ∈ GCSpec.bases, getItem [a, b, c] = GCSpec.aa seq [a, b, c]

/-- what both `get_translation`s do with the (possibly trimmed) text: translate, reject a stop unless `include_stop` -/
def stopCheck (seq : List Char) (is_ : Bool) (d : List Char) : Except Err (List Char) :=
  if !is_ && (GCSpec.translate seq d).contains '*' then .error .alphabetError else .ok (GCSpec.translate seq d)

theorem mapM_congr_mem {α β ε} {f g : α → Except ε β} : ∀ {l : List α}, (∀ x ∈ l, f x = g x) → l.mapM f = l.mapM g
  | [], _ => rfl
  | x :: xs, h => by
    simp only [List.mapM_cons]
    rw [h x (by simp), mapM_congr_mem fun y hy => h y (by simp [hy])]

theorem bind_congr_ok {α β} {m : Except Err α} {f g : α → Except Err β} (h : ∀ a, m = .ok a → f a = g a) :
    m >>= f = m >>= g := by
  cases m with
  | error e => rfl
  | ok a => exact h a rfl

theorem canon_of_trim {getItem : List Char → Char} {s s1 : List Char} {strict : Bool} (hs : Canon s)
    (h : trimStopCodon getItem s strict = .ok s1) : Canon s1 := by
  unfold trimStopCodon at h
  cases hh : hasTerminalStop getItem s strict with
  | error e => simp [hh, bind, Except.bind] at h
  | ok b =>
    cases b <;> simp [hh, bind, Except.bind, pure, Except.pure] at h <;> subst h
    · exact hs
    · exact canon_take hs _

theorem canon_specTrimRow {seq r : List Char} (h : Canon r) : Canon (specTrimRow seq r) := by
  unfold specTrimRow; split
  · exact canon_take h _
  · exact h

/-- the specification does not look at `incomplete_ok` when the length is a multiple of three -/
theorem spec_io_irrelevant (seq : List Char) (r : List Char) (h3 : r.length % 3 = 0) (io io' is_ ts : Bool) :
    GCSpec.getTranslation seq r io is_ ts = GCSpec.getTranslation seq r io' is_ ts := by
  unfold GCSpec.getTranslation
  simp [h3]

theorem not_endsWithStop_of_any {seq : List Char} {rows : List (List Char)} (hany : rows.any (endsWithStop seq) = false)
    {r : List Char} (hr : r ∈ rows) : endsWithStop seq r = false := by
  rw [List.any_eq_false] at hany
  simpa using hany r hr

/-- on a row of whole codons, the specification with `trim_stop` is the stop check on the trimmed row -/
theorem spec_codon_row (seq : List Char) {r : List Char} (hc : Canon r) (hne : r ≠ []) (h3 : r.length % 3 = 0)
    (io is_ : Bool) :
    outcomeToExcept (GCSpec.getTranslation seq r io is_ true) = stopCheck seq is_ (specTrimRow seq r) := by
  unfold GCSpec.getTranslation stopCheck specTrimRow endsWithStop
  by_cases hstop : (GCSpec.translate seq r).getLast? = some '*' <;>
    simp [h3, hstop, translate_dropLast3 seq hc h3 hne] <;> split <;> rfl

section
variable {seq : List Char} {getItem : List Char → Char} (hget : ReadsTable seq getItem)
include hget

theorem has_terminal_stop_spec {s : List Char} (hs : Canon s) (hne : s ≠ []) (strict : Bool) :
    hasTerminalStop getItem s strict =
      if s.length % 3 = 0 then .ok (endsWithStop seq s) else if strict then .error .alphabetError else .ok false := by
  unfold hasTerminalStop
  split
  · rename_i h3
    obtain ⟨a, ha, b, hb, c, hc, habc, htr⟩ := translate_last seq hs h3 hne
    simp [endsWithStop, isStopEnd, habc, hget a ha b hb c hc, htr, Bool.beq_eq_decide_eq]
  · rfl

theorem trim_stop_spec {s : List Char} (hs : Canon s) (hne : s ≠ []) (strict : Bool) :
    trimStopCodon getItem s strict =
      if s.length % 3 = 0 then .ok (specTrimRow seq s) else if strict then .error .alphabetError else .ok s := by
  unfold trimStopCodon specTrimRow
  rw [has_terminal_stop_spec hget hs hne]
  by_cases h3 : s.length % 3 = 0
  · cases endsWithStop seq s <;> simp [h3, bind, Except.bind, pure, Except.pure]
  · cases strict <;> simp [h3, bind, Except.bind, pure, Except.pure]

theorem trim_stopCheck {s : List Char} (hs : Canon s) (hne : s ≠ []) (io is_ ts : Bool) :
    ((if ts then trimStopCodon getItem s (!io) else pure s) >>= stopCheck seq is_) =
      outcomeToExcept (GCSpec.getTranslation seq s io is_ ts) := by
  cases ts
  · unfold GCSpec.getTranslation stopCheck
    simp only [Bool.false_eq_true, if_false, Bool.false_and, pure, Except.pure, bind, Except.bind]
    split <;> rfl
  · rw [if_pos rfl, trim_stop_spec hget hs hne]
    by_cases h3 : s.length % 3 = 0
    · rw [if_pos h3, spec_codon_row seq hs hne h3]
      rfl
    · unfold GCSpec.getTranslation stopCheck
      cases io <;> simp [h3, outcomeToExcept, bind, Except.bind] <;> split <;> rfl

theorem coll_has_terminal_stop (strict : Bool) : ∀ rows : List (List Char), CodonRows rows →
    collHasTerminalStop getItem rows strict = .ok (rows.any (endsWithStop seq))
  | [], _ => rfl
  | r :: rs, h => by
    obtain ⟨hc, hne, h3⟩ := h r (by simp)
    have ih := coll_has_terminal_stop strict rs (fun x hx => h x (by simp [hx]))
    simp only [collHasTerminalStop, has_terminal_stop_spec hget hc hne, if_pos h3, List.any_cons]
    cases hE : endsWithStop seq r <;> simp [ih]

theorem coll_trim (strict : Bool) (rows : List (List Char)) (h : CodonRows rows) :
    collTrimStopCodons getItem rows strict = .ok (rows.map (specTrimRow seq)) := by
  unfold collTrimStopCodons
  rw [coll_has_terminal_stop hget strict rows h]
  cases hany : rows.any (endsWithStop seq)
  · -- no row has a terminal stop: the collection is returned as it is, which is the row-wise result too
    refine congrArg Except.ok ?_
    conv => lhs; rw [← List.map_id rows]
    exact List.map_congr_left fun r hr => by simp [specTrimRow, not_endsWithStop_of_any hany hr]
  · simp only
    rw [mapM_congr_mem (g := fun r => .ok (specTrimRow seq r)) fun r hr =>
      (trim_stop_spec hget (h r hr).1 (h r hr).2.1 strict).trans (if_pos (h r hr).2.2)]
    exact List.mapM_pure

theorem aln_trim_row (r : List Char) (hc : Canon r) (hne : r ≠ []) (h3 : r.length % 3 = 0) :
    alnTrimRow getItem r = specAlnTrimRow seq r := by
  obtain ⟨a, ha, b, hb, c, hcc, habc, htr⟩ := translate_last seq hc h3 hne
  have hlast : (GCSpec.translate seq r).getLast? = some (GCSpec.aa seq [a, b, c]) := by
    rw [htr, List.getLast?_concat]
  have hlen : 3 ≤ r.length := by have := List.length_pos_iff.2 hne; omega
  unfold alnTrimRow specAlnTrimRow endsWithStop
  simp only [hlen, true_and, habc, hget a ha b hb c hcc, hlast]
  by_cases hstop : GCSpec.aa seq [a, b, c] = '*' <;> simp [hstop]

theorem aln_trim (strict : Bool) (rows : List (List Char)) (h : CodonRows rows) :
    alnTrimStopCodons getItem rows strict = .ok (rows.map (specAlnTrimRow seq)) := by
  unfold alnTrimStopCodons
  rw [coll_has_terminal_stop hget strict rows h]
  cases hany : rows.any (endsWithStop seq)
  · refine congrArg Except.ok ?_
    conv => lhs; rw [← List.map_id rows]
    exact List.map_congr_left fun r hr => by simp [specAlnTrimRow, not_endsWithStop_of_any hany hr]
  · simp only
    congr 1
    exact List.map_congr_left fun r hr => aln_trim_row hget r (h r hr).1 (h r hr).2.1 (h r hr).2.2

end

/-- the loop of old `get_translation` without its monad: the look-ups of `oldCodons`, rejected as a whole when a stop is
among them and `include_stop` is off (the first stop aborts the loop) -/
theorem oldSeqCodons_eq (seq : List Char) (is_ : Bool) : ∀ d : List Char,
    oldSeqCodons seq is_ d =
      if !is_ && (oldCodons seq d).contains '*' then .error .alphabetError else .ok (oldCodons seq d)
  | [] => by simp [oldSeqCodons, oldCodons, pure, Except.pure]
  | [_] => by simp [oldSeqCodons, oldCodons, pure, Except.pure]
  | [_, _] => by simp [oldSeqCodons, oldCodons, pure, Except.pure]
  | a :: b :: c :: r => by
    simp only [oldSeqCodons, oldCodons, oldSeqCodons_eq seq is_ r, bind, Except.bind]
    cases is_ <;> by_cases h1 : oldGetItem seq [a, b, c] = '*' <;> by_cases h2 : '*' ∈ oldCodons seq r <;>
      (simp [h1, h2, throw, throwThe, MonadExceptOf.throw, pure, Except.pure]) <;>
      (try (intro hh; exact h1 hh.symm))

section
variable {seq : List Char} (hlen : seq.length = 64)
include hlen

theorem new_stop_rules (hg : '-' ∉ seq) (hx : 'X' ∉ seq) (s : List Char) (hs : Canon s) (hne : s ≠ [])
    (io is_ ts : Bool) :
    newSeqGetTranslation newDna seq s io is_ ts = outcomeToExcept (GCSpec.getTranslation seq s io is_ ts) := by
  have tail : ∀ s1, Canon s1 → (do
      let pep := (mkNewGC newDna seq).translateWith (newDegenGapped newDna) s1 0 false
      if !is_ && pep.contains '*' then throw Err.alphabetError
      if !io && (pep.contains '-' || pep.contains 'X') then throw Err.alphabetError
      pure pep) = stopCheck seq is_ s1 := by
    intro s1 hs1
    have hg' : (GCSpec.translate seq s1).contains '-' = false := by
      simpa using fun h => hg (translate_subset hlen s1 hs1 _ h)
    have hx' : (GCSpec.translate seq s1).contains 'X' = false := by
      simpa using fun h => hx (translate_subset hlen s1 hs1 _ h)
    simp only [translateWith_plus hlen monoIdx_degen_canon s1 0 hs1, List.drop_zero, hg', hx', stopCheck, Bool.or_false, Bool.and_false, Bool.false_eq_true,
      if_false, bind, Except.bind, pure, Except.pure]
    split <;> rfl
  rw [← trim_stopCheck (new_getitem_codon hlen) hs hne]
  unfold newSeqGetTranslation
  cases ts
  · exact tail s hs
  · exact bind_congr_ok fun s1 h1 => tail s1 (canon_of_trim hs h1)

theorem old_seq_codons_spec (is_ : Bool) (d : List Char) (hd : Canon d) :
    oldSeqCodons seq is_ d = stopCheck seq is_ d := by
  rw [oldSeqCodons_eq, old_chunks hlen d hd]
  rfl

theorem old_stop_rules (s : List Char) (hs : Canon s) (hne : s ≠ []) (io is_ ts : Bool) (hopt : ¬ (is_ = true ∧ ts = true)) :
    oldSeqGetTranslation seq s io is_ ts = outcomeToExcept (GCSpec.getTranslation seq s io is_ ts) := by
  rw [← trim_stopCheck (old_codon hlen) hs hne]
  have hc : (is_ || !ts) = !ts := by cases is_ <;> cases ts <;> simp_all
  unfold oldSeqGetTranslation
  rw [hc]
  cases ts
  · exact old_seq_codons_spec hlen is_ s hs
  · exact bind_congr_ok fun s1 h1 => old_seq_codons_spec hlen is_ s1 (canon_of_trim hs h1)

theorem new_coll_rowwise (hg : '-' ∉ seq) (hx : 'X' ∉ seq) (rows : List (List Char))
    (h : ∀ r ∈ rows, Canon r ∧ r ≠ []) (io is_ ts : Bool) :
    newCollGetTranslation newDna seq rows io is_ ts = specCollTranslation seq rows io is_ ts :=
  mapM_congr_mem fun r hr => new_stop_rules hlen hg hx r (h r hr).1 (h r hr).2 io is_ ts

/-- old `SequenceCollection.get_translation` is row-wise the specification (not for `include_stop = trim_stop = True`) -/
theorem old_coll_rowwise (rows : List (List Char)) (h : CodonRows rows) (io is_ ts : Bool)
    (hopt : ¬ (is_ = true ∧ ts = true)) :
    oldCollGetTranslation seq rows io is_ ts = specCollTranslation seq rows io is_ ts := by
  unfold oldCollGetTranslation specCollTranslation
  by_cases hpre : (ts && !is_) = true
  · -- pre-pass runs: is_ = false, ts = true
    have hts : ts = true := by cases ts <;> simp_all
    have his : is_ = false := by cases is_ <;> simp_all
    subst hts; subst his
    simp only [Bool.not_false, Bool.and_self, if_true, coll_trim (old_codon hlen) (!io) rows h,
      coll_has_terminal_stop (old_codon hlen) (!io) rows h, Bool.true_and]
    rw [List.mapM_map]
    refine mapM_congr_mem fun r hr => ?_
    obtain ⟨hc, hne, h3⟩ := h r hr
    cases hany : rows.any (endsWithStop seq)
    · -- no row has a terminal stop: `seqs is self`, every row is translated with trim_stop=True
      have : specTrimRow seq r = r := by simp [specTrimRow, not_endsWithStop_of_any hany hr]
      show oldSeqGetTranslation seq (specTrimRow seq r) true false true = _
      rw [this, old_stop_rules hlen r hc hne true false true (by simp), spec_io_irrelevant seq r h3 true io]
    · -- some row was trimmed: the per-row call does not trim, it checks the trimmed row for stops
      rw [spec_codon_row seq hc hne h3]
      exact old_seq_codons_spec hlen false _ (canon_specTrimRow hc)
  · have hpre' : (ts && !is_) = false := by simpa using hpre
    simp only [hpre', Bool.false_eq_true, if_false]
    refine mapM_congr_mem fun r hr => ?_
    obtain ⟨hc, hne, h3⟩ := h r hr
    show oldSeqGetTranslation seq r true is_ ts = _
    rw [old_stop_rules hlen r hc hne true is_ ts hopt, spec_io_irrelevant seq r h3 true io]

end

end CogentModel.GC
