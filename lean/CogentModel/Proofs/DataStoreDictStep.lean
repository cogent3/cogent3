/-
  Facts about the dictionary specification alone, for either kind of store: only `write_log` changes the log records, and
  what append mode demands of an accepted write.
-/
import CogentModel.Proofs.KVLemmas
import CogentModel.Spec.DataStoreDict

namespace CogentModel.DataStoreDict
open CogentModel.KV CogentModel.DataStore

variable {D : Type}

theorem specStep_logs (k : Kind) (sfx : Str) (d : Dict D) {op : Op D} (h : ∀ i data, op ≠ .writeLog i data) :
    (specStep k sfx d op).logs = d.logs := by
  unfold specStep
  split
  · rfl
  · cases op with
    | writeLog i data => exact absurd rfl (h i data)
    | drop i => simp only [DataStoreDict.apply]; split <;> rfl
    | _ => rfl

/-- append mode accepts a completed write only for an identifier without a completed record (SQLite: without any record) -/
theorem fresh_of_append_write {k : Kind} {sfx : Str} {d : Dict D} (hm : d.mode = .a) {j : Str} {data : D}
    (h : rejects k sfx d (.write j data) = false) :
    has d.completed (cName k sfx j) = false ∧ (k = .sqlite → has d.notCompleted (ncName k j) = false) := by
  simp only [rejects, hm, decide_true, Bool.true_and, Bool.or_eq_false_iff, Bool.and_eq_false_iff,
    decide_eq_false_iff_not] at h
  exact ⟨h.2.1, fun e => h.2.2.resolve_left (fun ne => ne e)⟩

/-- append mode accepts a not-completed write only for an identifier without any record -/
theorem fresh_of_append_writeNc {k : Kind} {sfx : Str} {d : Dict D} (hm : d.mode = .a) {j : Str} {data : D}
    (h : rejects k sfx d (.writeNc j data) = false) :
    has d.completed (cName k sfx j) = false ∧ has d.notCompleted (ncName k j) = false := by
  simp only [rejects, hm, decide_true, Bool.true_and, Bool.or_eq_false_iff] at h
  exact h.2

theorem dict_eta_nc (d : Dict D) (h : d.notCompleted = []) : ({ d with notCompleted := [] } : Dict D) = d := by
  cases d; simp_all

end CogentModel.DataStoreDict
