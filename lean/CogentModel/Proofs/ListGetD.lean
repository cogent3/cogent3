/-! Reading a list by index with a default (`List.getD`) after the list operations the models are written with:
`map` over `range` (how the models tabulate arrays), `set`, `dropLast`; extensionality through `getD`; and a list
read back through its positions `List.range l.length`. -/
namespace CogentModel.ListGetD

theorem getD_map_range {α} (f : Nat → α) (n i : Nat) (d : α) :
    ((List.range n).map f).getD i d = if i < n then f i else d := by
  rw [List.getD_eq_getElem?_getD, List.getElem?_map]
  split
  · rw [List.getElem?_range ‹_›]; rfl
  · rw [List.getElem?_eq_none (by simpa using ‹¬ i < n›)]; rfl

theorem getD_map_range_of_lt {α} {f : Nat → α} {n i : Nat} {d : α} (h : i < n) :
    ((List.range n).map f).getD i d = f i :=
  (getD_map_range f n i d).trans (if_pos h)

theorem getD_set {α : Type} (l : List α) (i a : Nat) (v d : α) :
    (l.set i v).getD a d = if a = i ∧ i < l.length then v else l.getD a d := by
  rw [List.getD_eq_getElem?_getD, List.getD_eq_getElem?_getD, List.getElem?_set]
  by_cases hai : i = a
  · subst hai
    rw [if_pos rfl]
    by_cases h : i < l.length
    · rw [if_pos h, if_pos ⟨rfl, h⟩]; rfl
    · rw [if_neg h, if_neg fun c => h c.2, List.getElem?_eq_none (by omega)]
  · rw [if_neg hai, if_neg fun c => hai c.1.symm]

/-- `l[i] = v; l[j] = None` on a list of optional values -/
theorem getD_set_set {α : Type} (l : List (Option α)) (i j a : Nat) (v : Option α) :
    ((l.set i v).set j none).getD a none =
      if a = j then none else if a = i ∧ i < l.length then v else l.getD a none := by
  rw [getD_set, getD_set, List.length_set]
  by_cases haj : a = j
  · rw [if_pos haj]
    subst haj
    by_cases hj : a < l.length
    · rw [if_pos ⟨rfl, hj⟩]
    · rw [if_neg fun c => hj c.2, if_neg fun c : a = i ∧ i < l.length => hj (c.1 ▸ c.2),
        List.getD_eq_getElem?_getD, List.getElem?_eq_none (by omega)]
      rfl
  · rw [if_neg fun c => haj c.1, if_neg haj]

theorem getD_dropLast {α : Type} (l : List α) (a : Nat) (d : α) (ha : a < l.length - 1) :
    l.dropLast.getD a d = l.getD a d := by
  rw [List.getD_eq_getElem?_getD, List.getD_eq_getElem?_getD, List.getElem?_dropLast, if_pos ha]

theorem ext_getD {α : Type} (d : α) (l1 l2 : List α) (hl : l1.length = l2.length)
    (h : ∀ a, a < l1.length → l1.getD a d = l2.getD a d) : l1 = l2 :=
  List.ext_getElem hl fun a h1 h2 => by
    have := h a h1
    rwa [List.getD_eq_getElem?_getD, List.getD_eq_getElem?_getD, List.getElem?_eq_getElem h1,
      List.getElem?_eq_getElem h2, Option.getD_some, Option.getD_some] at this

/-- a list is its positions read back -/
theorem map_getD_range_self {α} (dflt : α) (c : List α) : (List.range c.length).map (fun i => c.getD i dflt) = c := by
  apply List.ext_getElem
  · simp
  · intro i h1 h2
    simp at h1
    simp [List.getD_eq_getElem?_getD, h1]

theorem flatMap_range_getD {β γ} (l : List β) (d : β) (g : β → List γ) :
    (List.range l.length).flatMap (fun i => g (l.getD i d)) = l.flatMap g := by
  rw [← List.flatMap_map, map_getD_range_self]

theorem filterMap_range_getD {β γ} (l : List β) (d : β) (g : β → Option γ) :
    (List.range l.length).filterMap (fun i => g (l.getD i d)) = l.filterMap g := by
  show List.filterMap (g ∘ fun i => l.getD i d) _ = _
  rw [← List.filterMap_map, map_getD_range_self]

end CogentModel.ListGetD
