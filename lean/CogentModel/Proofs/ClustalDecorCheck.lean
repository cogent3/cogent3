import CogentModel.Proofs.ClustalDecor
import CogentModel.Spec.ClustalDecoratedCheck
/-! soundness of the executable recogniser of one sequence line of a decorated Clustal file (`isSeqLineOf`); the recogniser
of whole files, `checkDecorated`, rests on it in Props/C06Decor.lean -/
namespace CogentModel.Clustal
open CogentModel.SeqFormats CogentModel.ClustalSpec

theorem dropPrefix?_sound (p l r : Str) (h : dropPrefix? p l = some r) : l = p ++ r := by
  fun_induction dropPrefix? p l with
  | case1 l => exact (Option.some.inj h).symm ▸ rfl
  | case2 => cases h
  | case3 p a l ih => exact congrArg (a :: ·) (ih h)
  | case4 => cases h

/-- a string is its leading run of `p` and the rest -/
theorem span_eq (p : Char → Bool) (r : Str) :
    ∃ a b, r = a ++ b ∧ (∀ x ∈ a, p x = true) ∧ a = r.takeWhile p ∧ b = r.dropWhile p :=
  ⟨_, _, List.takeWhile_append_dropWhile.symm, List.all_eq_true.mp List.all_takeWhile, rfl, rfl⟩

theorem isSeqLineOf_sound {n c l : Str} (h : isSeqLineOf n c l = true) : SeqLineOf n c l := by
  unfold isSeqLineOf at h
  cases h1 : dropPrefix? n l with
  | none => simp [h1] at h
  | some r1 =>
    -- the three runs the recogniser cuts off become variables; what is left of `h` are the constructors' arguments
    obtain ⟨ws1, d1, er1, a1, e1, e1'⟩ := span_eq isSpaceStr r1
    simp only [h1] at h
    rw [← e1, ← e1'] at h
    cases h3 : dropPrefix? c d1 with
    | none => simp [h3] at h
    | some r3 =>
      obtain ⟨ws2, d2, er3, a2, e2, e2'⟩ := span_eq isSpaceStr r3
      obtain ⟨num, ws3, ed2, hnum, e3, e3'⟩ := span_eq (fun x => !isSpaceStr x) d2
      simp only [h3] at h
      rw [← e2, ← e2', ← e3, ← e3'] at h
      simp only [Bool.and_eq_true, Bool.or_eq_true, Bool.not_eq_true', List.isEmpty_eq_false_iff, List.all_eq_true] at h
      rw [dropPrefix?_sound _ _ _ h1, er1, dropPrefix?_sound _ _ _ h3]
      rcases h.2 with h' | ⟨⟨hne2, hint⟩, a3⟩
      · have := SeqLineOf.plain (n := n) (c := c) ws1 _ h.1 a1 h'
        rwa [List.append_assoc, List.append_assoc] at this
      · have := SeqLineOf.counted (n := n) (c := c) ws1 ws2 num ws3 h.1 a1 hne2 a2 (by simpa using hnum) hint a3
        rw [er3, ed2]
        simpa only [List.append_assoc] using this

end CogentModel.Clustal
