import CogentModel.Proofs.IndelMapAdd
import CogentModel.Proofs.IndelMapGetitem
import CogentModel.Proofs.IndelMapSortPairs
/-! `joined_segments`: the dictionary update per slice is `__add__` of the map so far and the slice
(`joinGaps_eq_add`), so the result is the map of the slices joined together. -/
namespace CogentModel.IndelMap
open CogentModel.Gapped List CogentModel

theorem dictAdd_append (pos d v : Int) : ∀ (g : List (Int × Int)), (∀ x ∈ g, x.1 ≠ pos) →
    dictAdd pos d v g = g ++ [(pos, d + v)] := by
  intro g
  induction g with
  | nil => intro _; rfl
  | cons x r ih =>
    intro h
    obtain ⟨k, y⟩ := x
    have hk : k ≠ pos := h (k, y) (by simp)
    simp only [dictAdd, hk, if_false, cons_append]
    rw [ih (fun z hz => h z (by simp [hz]))]

theorem dictAdd_last (pos d v x : Int) : ∀ (g : List (Int × Int)), (∀ z ∈ g, z.1 ≠ pos) →
    dictAdd pos d v (g ++ [(pos, x)]) = g ++ [(pos, x + v)] := by
  intro g
  induction g with
  | nil => intro _; simp [dictAdd]
  | cons z r ih =>
    intro h
    obtain ⟨k, y⟩ := z
    have hk : k ≠ pos := h (k, y) (by simp)
    simp only [cons_append, dictAdd, hk, if_false]
    rw [ih (fun w hw => h w (by simp [hw]))]

/-- gaps of a slice whose keys exceed every key seen so far are appended -/
theorem joinGaps_append (cp cl : Int) : ∀ (ps cs : List Int) (g : List (Int × Int)),
    ps.length = cs.length → ps.Pairwise (· < ·) → (∀ x ∈ g, ∀ p ∈ ps, x.1 < cp + p) →
    joinGaps cp cl ps cs g = g ++ zip (ps.map (cp + ·)) (cs.map (cl + ·)) := by
  intro ps
  induction ps with
  | nil => intro cs g hl _ _; cases cs <;> simp [joinGaps]
  | cons p r ih =>
    intro cs g hl hs hg
    cases cs with
    | nil => simp at hl
    | cons c cs' =>
      have hs' := pairwise_cons.mp hs
      simp only [joinGaps]
      rw [dictAdd_append _ _ _ g (fun x hx => by have := hg x hx p mem_cons_self; omega),
        ih cs' _ (by simpa using hl) hs'.2 (fun x hx q hq => by
          rcases mem_append.mp hx with h1 | h1
          · exact hg x h1 q (mem_cons_of_mem _ hq)
          · rw [mem_singleton] at h1; subst h1; have := hs'.1 q hq; show p + cp < cp + q; omega)]
      simp only [map_cons, zip_cons_cons, append_assoc, singleton_append, Int.add_comm p cp]

theorem lastOr_append (d : Int) (xs ys : List Int) : lastOr d (xs ++ ys) = lastOr (lastOr d xs) ys := by
  induction xs generalizing d with
  | nil => rfl
  | cons x r ih => simp only [cons_append, lastOr, ih]

theorem lastOr_map_add (cl : Int) : ∀ (d : Int) (ys : List Int), ys ≠ [] →
    lastOr d (ys.map (cl + ·)) = cl + lastOr 0 ys := by
  intro d ys
  induction ys generalizing d with
  | nil => intro h; exact absurd rfl h
  | cons y r ih =>
    intro _
    cases r with
    | nil => simp [lastOr]
    | cons z r' =>
      simp only [map_cons, lastOr] at ih ⊢
      exact ih (cl + y) (by simp)

/-- one slice appended to the dictionary of `joined_segments` is `__add__` of the two maps -/
theorem joinGaps_eq_add (M im : IMap) (hM : WF M) (hi : WF im) :
    ∃ R, add M im = .ok R ∧ WF R ∧ abs R = Gapped.concat (abs M) (abs im) ∧
      joinGaps M.parentLength (lastOr 0 M.cumLens) im.gapPos im.cumLens (zip M.gapPos M.cumLens) = zip R.gapPos R.cumLens ∧
      R.parentLength = M.parentLength + im.parentLength ∧
      lastOr 0 R.cumLens = lastOr 0 M.cumLens + (if im.gapPos = [] then 0 else lastD im.cumLens) := by
  obtain ⟨R, hR, hwf, habs⟩ := add_spec' M im hM hi
  refine ⟨R, hR, hwf, habs, ?_⟩
  have hlM := hM.len_eq
  have hli := hi.len_eq
  unfold add at hR
  simp only [lastCum_eq M hM] at hR
  rw [lastCum_eq im hi]
  generalize hcl : lastOr 0 M.cumLens = cl at *
  by_cases hm : M.gapPos ≠ [] ∧ im.gapPos ≠ [] ∧ lastD M.gapPos = M.parentLength ∧ im.gapPos.headD 0 = 0
  · obtain ⟨A', C', B', cb0, D', hA, hC, hA', hC', hlen', hB, hD⟩ := merge_shape M im hM hi hm
    simp only [hm, ne_eq, not_false_eq_true, and_self, decide_true, if_true, hA', hC'] at hR
    rw [hcl] at hC
    obtain ⟨rfl, _⟩ := mk_ok _ _ _ R hR
    have hPa : ∀ z ∈ zip A' C', z.1 < M.parentLength := by
      have := hM.pos_sorted; rw [hA] at this
      exact fun z hz => (pairwise_append.mp this).2.2 z.1 (of_mem_zip hz).1 _ (mem_singleton_self _)
    have hPb := hi.pos_sorted; rw [hB] at hPb
    have hPb' := pairwise_cons.mp hPb
    refine ⟨?_, rfl, ?_⟩
    · -- the leading gap of the slice lands on the key of the trailing gap, the others are new
      show joinGaps _ _ _ _ _ = zip (A' ++ _) (C' ++ _)
      rw [hA, hC, hB, hD, zip_append hlen']
      simp only [zip_cons_cons, zip_nil_right, joinGaps, Int.zero_add, map_cons]
      rw [dictAdd_last _ _ _ _ _ (fun z hz => Int.ne_of_lt (hPa z hz)),
        joinGaps_append _ _ B' D' _ (by rw [hB, hD] at hli; simpa using hli) hPb'.2
          (fun x hx q hq => by
            have := hPb'.1 q hq
            rcases mem_append.mp hx with h1 | h1
            · have := hPa x h1; omega
            · rw [mem_singleton] at h1; subst h1; show M.parentLength < _; omega),
        zip_append hlen']
      simp
    · show lastOr 0 (C' ++ _) = _
      rw [lastOr_append, hD, lastOr_map_add cl _ _ (cons_ne_nil _ _)]
  · simp only [hm, decide_false, Bool.false_eq_true, if_false] at hR
    obtain ⟨rfl, _⟩ := mk_ok _ _ _ R hR
    refine ⟨?_, rfl, ?_⟩
    · show joinGaps _ _ _ _ _ = zip (M.gapPos ++ _) (M.cumLens ++ _)
      rw [joinGaps_append _ _ _ _ _ hli hi.pos_sorted
        (fun x hx p hp => cross_lt M im hM hi hm x.1 (of_mem_zip hx).1 p hp), zip_append hlM]
    · show lastOr 0 (M.cumLens ++ _) = _
      rw [lastOr_append, hcl]
      by_cases hc : im.cumLens = []
      · rw [hc]; simp [lastOr]
      · rw [lastOr_map_add cl _ _ hc]

/-- gap patterns of the slices `s[a:b]` of a gapped string, one after the other -/
def joinedPattern (g : Gapped) (coords : List (Int × Int)) : List Bool :=
  coords.flatMap fun c => pattern (PySlice.slice g (some c.1) (some c.2) 1)

theorem joinedAux_spec (m : IMap) (h : WF m) : ∀ (coords : List (Int × Int)) (M : IMap) (res : List (Int × Int) × Int),
    WF M →
    joinedAux m coords M.parentLength (lastOr 0 M.cumLens) (zip M.gapPos M.cumLens) = .ok res →
    ∃ R, WF R ∧ res = (zip R.gapPos R.cumLens, R.parentLength) ∧
      pattern (abs R) = pattern (abs M) ++ joinedPattern (abs m) coords := by
  intro coords
  induction coords with
  | nil =>
    intro M res hM hr
    simp only [joinedAux] at hr
    cases hr
    exact ⟨M, hM, rfl, by simp [joinedPattern]⟩
  | cons c rest ih =>
    intro M res hM hr
    obtain ⟨s, e⟩ := c
    simp only [joinedAux] at hr
    cases hg : getitem m (some s) (some e) none with
    | error er => rw [hg] at hr; cases hr
    | ok im =>
      rw [hg] at hr
      simp only [] at hr
      obtain ⟨hwi, habsi⟩ := getitem_spec' m h (some s) (some e) im hg
      obtain ⟨R, _, hwR, habsR, hjoin, hplR, hclR⟩ := joinGaps_eq_add M im hM hwi
      rw [hjoin, ← hplR, ← hclR] at hr
      obtain ⟨R2, hw2, hres2, hpat2⟩ := ih R res hwR hr
      refine ⟨R2, hw2, hres2, ?_⟩
      rw [hpat2, habsR]
      unfold Gapped.concat
      rw [pattern_ofPattern, habsi]
      unfold Gapped.slice rebase
      rw [pattern_ofPattern]
      simp [joinedPattern]

/-- **`joined_segments`**: for segments sorted by start (the code sorts them), the result is the
map of the slices `s[a₁:b₁] + s[a₂:b₂] + …` of the gapped string joined together (adjacent gap runs
at a junction are merged); it is well formed -/
theorem joined_spec' (m : IMap) (h : WF m) (coords : List (Int × Int)) (r : IMap)
    (hr : joinedSegments m coords = .ok r) :
    WF r ∧ abs r = ofPattern (joinedPattern (abs m) (sortPairs coords)) := by
  unfold joinedSegments at hr
  cases ha : joinedAux m (sortPairs coords) 0 0 [] with
  | error e => rw [ha] at hr; cases hr
  | ok res =>
    rw [ha] at hr
    have hM0 : WF (emptyMap 0) := wf_emptyMap 0 (by omega)
    obtain ⟨R, hwR, hres, hpat⟩ := joinedAux_spec m h (sortPairs coords) (emptyMap 0) res hM0 (by simpa [emptyMap, lastOr] using ha)
    subst hres
    simp only [] at hr
    have hkeys : ((zip R.gapPos R.cumLens).map (·.1)).Pairwise (· < ·) := by
      rw [map_fst_zip (by have := hwR.len_eq; omega)]; exact hwR.pos_sorted
    rw [sortPairs_sorted _ hkeys, map_fst_zip (by have := hwR.len_eq; omega),
      map_snd_zip (by have := hwR.len_eq; omega), wf_mk_ok R hwR] at hr
    cases hr
    refine ⟨hwR, ?_⟩
    rw [abs_eq_ofPattern _ hwR, hpat]
    simp [abs, emptyMap, absFrom, seg, pattern]

end CogentModel.IndelMap
