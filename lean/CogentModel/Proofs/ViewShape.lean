import CogentModel.Proofs.ViewLen
/-! The shape of the slicing code.  Every branch of `__getitem__` returns the view itself, the empty
slice, or goes back through the constructor with step `v.step * sliceStep` (`getitemSlice_leaves`);
the constructor keeps the step it is given or returns the empty `(0, 0, 1)` (`KeepsStep`).  What
depends only on this shape is proved here: invariant, step, `seq_len`, no error. -/
namespace CogentModel.View
open CogentModel

/-- chained early returns with the same result are one test -/
theorem ite_ite_same {α} (p q : Prop) [Decidable p] [Decidable q] (x y : α) :
    (if p then x else if q then x else y) = if p ∨ q then x else y := by
  by_cases hp : p
  · rw [if_pos hp, if_pos (Or.inl hp)]
  · by_cases hq : q
    · rw [if_neg hp, if_pos hq, if_pos (Or.inr hq)]
    · rw [if_neg hp, if_neg hq, if_neg (fun h => h.elim hp hq)]

theorem remk_inv (v : View) (h : Inv v) (a b c : Int) (w : View) (hw : remk v a b c = .ok w) : Inv w :=
  mk_inv' v.seqLen h.1 _ _ _ _ w hw

theorem remk_seqLen (v : View) (a b c : Int) (w : View) (hw : remk v a b c = .ok w) :
    w.seqLen = v.seqLen ∧ w.offset = v.offset := by
  unfold remk mk at hw
  split at hw
  · cases hw
  · have h := Except.ok.inj hw
    rw [← h]
    exact ⟨rfl, rfl⟩

theorem remk_isOk (v : View) (a b K : Int) (hK : K ≠ 0) : ∃ w, remk v a b K = .ok w := by
  unfold remk mk
  rw [if_neg (fun e => hK (Option.some.inj e))]
  exact ⟨_, rfl⟩

/-- the normalised triple carries the step it was given or is `(0, 0, 1)` -/
def KeepsStep (K : Int) (r : Int × Int × Int) : Prop := r.2.2 = K ∨ r = (0, 0, 1)

theorem inputValsPos_step (n : Int) (a b : Option Int) (K : Int) : KeepsStep K (inputValsPos n a b K) :=
  iteInduction (fun _ => Or.inr rfl) fun _ => iteInduction (fun _ => Or.inr rfl) fun _ =>
    iteInduction (fun _ => Or.inr rfl) fun _ => Or.inl rfl

theorem inputValsNegTail_step (n s : Int) (b : Option Int) (K : Int) :
    KeepsStep K (inputValsNegTail n s b K) :=
  iteInduction (fun _ => Or.inr rfl) fun _ => Or.inl rfl

theorem inputValsNeg_step (n : Int) (a b : Option Int) (K : Int) : KeepsStep K (inputValsNeg n a b K) := by
  cases a
  · exact inputValsNegTail_step _ _ _ _
  · exact iteInduction (fun _ => inputValsNegTail_step _ _ _ _) fun _ =>
      iteInduction (fun _ => inputValsNegTail_step _ _ _ _) fun _ =>
        iteInduction (fun _ => Or.inr rfl) fun _ => inputValsNegTail_step _ _ _ _

/-- the record the constructor returns carries the step it was given, or is the empty `(0, 0, 1)` -/
theorem remk_keepsStep (v w : View) (a b K : Int) (hw : remk v a b K = .ok w) :
    KeepsStep K (w.start, w.stop, w.step) := by
  unfold remk mk at hw
  split at hw
  · cases hw
  · rw [← Except.ok.inj hw]
    exact iteInduction (fun _ => inputValsPos_step _ _ _ _) fun _ => inputValsNeg_step _ _ _ _

theorem remk_step (v w : View) (a b K : Int) (hw : remk v a b K = .ok w) : w.step = K ∨ len w = 0 :=
  (remk_keepsStep v w a b K hw).imp_right fun h =>
    len_eq_zero_of_eq w ((congrArg (·.1) h).trans (congrArg (·.2.1) h).symm)

theorem fwdFromFwd_leaves {P : Except Err View → Prop} {fl : Flavour} {v : View} (a b c : Int)
    (hz : P (.ok (zero fl v))) (hr : ∀ s e, P (remk v s e (v.step * c))) : P (fwdFromFwd fl v a b c) :=
  iteInduction (fun _ => hz) fun _ => iteInduction (fun _ => hz) fun _ => iteInduction (fun _ => hz) fun _ => hr _ _

theorem fwdFromRev_leaves {P : Except Err View → Prop} {fl : Flavour} {v : View} (a b c : Int)
    (hz : P (.ok (zero fl v))) (hr : ∀ s e, P (remk v s e (v.step * c))) : P (fwdFromRev fl v a b c) :=
  iteInduction (fun _ => hz) fun _ => hr _ _

theorem revFromFwd_leaves {P : Except Err View → Prop} {fl : Flavour} {v : View} (a b c : Int)
    (hz : P (.ok (zero fl v))) (hr : ∀ s e, P (remk v s e (v.step * c))) : P (revFromFwd fl v a b c) :=
  iteInduction (fun _ => hz) fun _ => iteInduction (fun _ => hz) fun _ => hr _ _

theorem revFromRev_leaves {P : Except Err View → Prop} {fl : Flavour} {v : View} (a b c : Int)
    (hz : P (.ok (zero fl v))) (hr : ∀ s e, P (remk v s e (v.step * c))) : P (revFromRev fl v a b c) :=
  have tail : ∀ s e, P (revFromRevTail fl v s e c) := fun _ _ => iteInduction (fun _ => hz) fun _ => hr _ _
  iteInduction (fun _ => iteInduction (fun _ => hz) fun _ => tail _ _) fun _ => tail _ _

/-- case analysis along the dispatch of `__getitem__` on a slice -/
theorem getitemSlice_cases {P : Except Err View → Prop} (fl : Flavour) (v : View) (a b c : Option Int)
    (hcopy : a = none → b = none → c = none →
      P (match fl with | .seqView => remk v v.start v.stop v.step | .seqDataView => .ok v))
    (hempty : len v = 0 → P (.ok v))
    (hsame : a ≠ none → a = b → P (.ok (zero fl v)))
    (hff : c.getD 1 > 0 → v.step > 0 →
      P (fwdFromFwd fl v (a.getD 0) (b.getD (len v)) (c.getD 1)))
    (hfr : c.getD 1 > 0 → ¬ v.step > 0 →
      P (fwdFromRev fl v (a.getD 0) (b.getD (len v)) (c.getD 1)))
    (hrr : c.getD 1 < 0 → v.step < 0 →
      P (revFromRev fl v (a.getD (-1)) (b.getD (-(len v) - 1)) (c.getD 1)))
    (hrf : c.getD 1 < 0 → ¬ v.step < 0 →
      P (revFromFwd fl v (a.getD (-1)) (b.getD (-(len v) - 1)) (c.getD 1)))
    (herr : c.getD 1 = 0 → P (.error .valueError)) :
    P (getitemSlice fl v a b c) :=
  iteInduction (fun h => hcopy h.1 h.2.1 h.2.2) fun _ => iteInduction hempty fun _ =>
    iteInduction (fun h => hsame h.1 h.2) fun _ =>
      iteInduction (fun hp => iteInduction (hff hp) (hfr hp)) fun hp =>
        iteInduction (fun hn => iteInduction (hrr hn) (hrf hn)) fun hn => herr (by omega)

theorem getitemSlice_leaves {P : Except Err View → Prop} (fl : Flavour) (v : View) (a b c : Option Int)
    (hself : c = none ∨ len v = 0 → P (.ok v))
    (hcopy : c = none → P (remk v v.start v.stop v.step))
    (hz : P (.ok (zero fl v)))
    (hr : ∀ s e, P (remk v s e (v.step * c.getD 1)))
    (herr : c.getD 1 = 0 → P (.error .valueError)) :
    P (getitemSlice fl v a b c) := by
  apply getitemSlice_cases fl v a b c
  · intro _ _ hc
    cases fl
    · exact hcopy hc
    · exact hself (Or.inl hc)
  · exact fun h => hself (Or.inr h)
  · exact fun _ _ => hz
  · exact fun _ _ => fwdFromFwd_leaves _ _ _ hz hr
  · exact fun _ _ => fwdFromRev_leaves _ _ _ hz hr
  · exact fun _ _ => revFromRev_leaves _ _ _ hz hr
  · exact fun _ _ => revFromFwd_leaves _ _ _ hz hr
  · exact herr

/-- every successful result satisfies `P` -/
def OkAll {α} (P : α → Prop) (r : Except Err α) : Prop := ∀ w, r = .ok w → P w

theorem okAll_ok {α} {P : α → Prop} {a : α} (h : P a) : OkAll P (.ok a) :=
  fun _ hw => Except.ok.inj hw ▸ h

theorem okAll_err {α} {P : α → Prop} {e : Err} : OkAll P (.error e) :=
  fun _ hw => nomatch hw

theorem okAll_bind {α β} {P : α → Prop} {Q : β → Prop} {x : Except Err β} {f : β → Except Err α}
    (hx : OkAll Q x) (hf : ∀ b, Q b → OkAll P (f b)) : OkAll P (x >>= f) := by
  cases x with
  | error e => exact okAll_err
  | ok b => exact hf b (hx b rfl)

theorem getitemSlice_inv (fl : Flavour) (v : View) (h : Inv v) (a b c : Option Int) (w : View)
    (hw : getitemSlice fl v a b c = .ok w) : Inv w :=
  getitemSlice_leaves (P := OkAll Inv) fl v a b c (fun _ => okAll_ok h) (fun _ => remk_inv v h _ _ _)
    (okAll_ok (zero_inv fl v h)) (fun s e => remk_inv v h s e _) (fun _ => okAll_err) w hw

theorem getitemSlice_step (fl : Flavour) (v w : View) (a b c : Option Int)
    (hw : getitemSlice fl v a b c = .ok w) : w.step = v.step * c.getD 1 ∨ len w = 0 :=
  getitemSlice_leaves (P := OkAll fun w => w.step = v.step * c.getD 1 ∨ len w = 0) fl v a b c
    (fun h => okAll_ok (h.imp (fun hc => by rw [hc, Option.getD_none, Int.mul_one]) id))
    (fun hc w hw => by rw [hc, Option.getD_none, Int.mul_one]; exact remk_step v w _ _ _ hw)
    (okAll_ok (.inr (len_zero fl v))) (fun s e w => remk_step v w s e _) (fun _ => okAll_err) w hw

/-- a slice keeps `seq_len` and `offset`, or is the `_zero_slice` -/
theorem getitemSlice_keep (v w : View) (a b c : Option Int) (hw : getitemSlice .seqView v a b c = .ok w) :
    (w.seqLen = v.seqLen ∧ w.offset = v.offset) ∨ w = zeroSlice :=
  getitemSlice_leaves (P := OkAll fun w => (w.seqLen = v.seqLen ∧ w.offset = v.offset) ∨ w = zeroSlice) .seqView v a b c
    (fun _ => okAll_ok (.inl ⟨rfl, rfl⟩)) (fun _ w hw => .inl (remk_seqLen v _ _ _ w hw))
    (okAll_ok (.inr rfl)) (fun _ _ w hw => .inl (remk_seqLen v _ _ _ w hw)) (fun _ => okAll_err) w hw

theorem getitemSlice_isOk (fl : Flavour) (v : View) (a b c : Option Int) (h : Inv v) (hc : c ≠ some 0) :
    ∃ w, getitemSlice fl v a b c = .ok w := by
  have hk := h.step_ne_zero
  have hc0 := sliceStep_ne_zero hc
  apply getitemSlice_leaves (P := fun r => ∃ w, r = .ok w) fl v a b c
  · exact fun _ => ⟨v, rfl⟩
  · exact fun _ => remk_isOk v _ _ _ hk
  · exact ⟨_, rfl⟩
  · exact fun s e => remk_isOk v _ _ _ (Int.mul_ne_zero hk hc0)
  · exact fun e => absurd e hc0

/-- `v[i]` is the index computation followed by the constructor: what every rebuilt record satisfies, it does -/
theorem getitemInt_okAll {P : View → Prop} (v : View) (i : Int) (hr : ∀ a b c, OkAll P (remk v a b c)) :
    OkAll P (getitemInt v i) :=
  okAll_bind (Q := fun _ => True) (fun _ _ => trivial) fun r _ => hr r.1 r.2.1 r.2.2

theorem getitemInt_inv (v : View) (h : Inv v) (i : Int) (w : View)
    (hw : getitemInt v i = .ok w) : Inv w :=
  getitemInt_okAll v i (remk_inv v h) w hw

theorem getitemInt_keep (v w : View) (i : Int) (hw : getitemInt v i = .ok w) :
    w.seqLen = v.seqLen ∧ w.offset = v.offset :=
  getitemInt_okAll v i (remk_seqLen v) w hw

end CogentModel.View
