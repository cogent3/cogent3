import CogentModel.Model.AnnotDb
/-! sqlite `LIKE` as modelled by `likeMatch`: `%text%` is case-insensitive substring containment. -/
namespace CogentModel.AnnotDb

theorem like_nil_nil : likeMatch [] [] = true := by simp [likeMatch]
theorem like_nil_cons (t ts) : likeMatch [] (t :: ts) = false := by simp [likeMatch]
theorem like_cons_nil (p ps) : likeMatch (p :: ps) [] = (decide (p = '%') && likeMatch ps []) := by
  rw [likeMatch]
theorem like_cons_cons (p ps t ts) : likeMatch (p :: ps) (t :: ts) =
    (if p = '%' then likeMatch ps (t :: ts) || likeMatch (p :: ps) ts
    else if p = '_' then likeMatch ps ts
    else decide (lowerAscii p = lowerAscii t) && likeMatch ps ts) := by
  rw [likeMatch]

theorem like_percent (ps t : List Char) :
    likeMatch ('%' :: ps) t = true ↔ ∃ post, post <:+ t ∧ likeMatch ps post = true := by
  induction t with
  | nil => simp only [like_cons_nil, decide_true, Bool.true_and, List.suffix_nil, exists_eq_left]
  | cons c ts ih =>
    rw [like_cons_cons, if_pos rfl, Bool.or_eq_true, ih]
    simp only [List.suffix_cons_iff, or_and_right, exists_or, exists_eq_left]

theorem like_plain_cons (c : Char) (hc : c ≠ '%' ∧ c ≠ '_') (ps t : List Char) :
    likeMatch (c :: ps) t = true ↔ ∃ d ts, t = d :: ts ∧ lowerAscii c = lowerAscii d ∧ likeMatch ps ts = true := by
  cases t with
  | nil => simp [like_cons_nil, hc.1]
  | cons d ts =>
    rw [like_cons_cons, if_neg hc.1, if_neg hc.2, Bool.and_eq_true, decide_eq_true_eq]
    exact ⟨fun h => ⟨d, ts, rfl, h⟩, by rintro ⟨_, _, e, h⟩; cases e; exact h⟩

theorem like_plain (n : List Char) (hn : ∀ c ∈ n, c ≠ '%' ∧ c ≠ '_') (ps t : List Char) :
    likeMatch (n ++ ps) t = true ↔ ∃ a b, t = a ++ b ∧ a.map lowerAscii = n.map lowerAscii ∧ likeMatch ps b = true := by
  induction n generalizing t with
  | nil =>
    simp only [List.nil_append, List.map_nil, List.map_eq_nil_iff]
    exact ⟨fun h => ⟨[], t, rfl, rfl, h⟩, by rintro ⟨_, b, rfl, rfl, h⟩; exact h⟩
  | cons c n ih =>
    have ⟨hc, hn⟩ := List.forall_mem_cons.mp hn
    rw [List.cons_append, like_plain_cons c hc]
    simp only [ih hn]
    constructor
    · rintro ⟨d, ts, rfl, hd, a, b, rfl, ha, hm⟩
      exact ⟨d :: a, b, rfl, by rw [List.map_cons, List.map_cons, ← hd, ha], hm⟩
    · rintro ⟨a, b, rfl, ha, hm⟩
      cases a with
      | nil => cases ha
      | cons d a =>
        have ⟨hd, ha⟩ := List.cons.inj ha
        exact ⟨d, a ++ b, rfl, hd.symm, a, b, rfl, ha, hm⟩

/-- `LIKE '%text%'` is case-insensitive substring containment, for a text without `%` / `_` -/
theorem like_substring (n : List Char) (hn : ∀ c ∈ n, c ≠ '%' ∧ c ≠ '_') (t : List Char) :
    likeMatch ('%' :: (n ++ ['%'])) t = true ↔ ∃ pre a post, t = pre ++ a ++ post ∧ a.map lowerAscii = n.map lowerAscii := by
  -- the closing `%` matches whatever is left
  have hall : ∀ b, likeMatch ['%'] b = true := fun b => (like_percent [] b).mpr ⟨[], List.nil_suffix, like_nil_nil⟩
  simp only [like_percent, like_plain n hn, hall, and_true]
  constructor
  · rintro ⟨_, ⟨pre, rfl⟩, a, post, rfl, ha⟩
    exact ⟨pre, a, post, (List.append_assoc ..).symm, ha⟩
  · rintro ⟨pre, a, post, rfl, ha⟩
    exact ⟨a ++ post, ⟨pre, (List.append_assoc ..).symm⟩, a, post, rfl, ha⟩
end CogentModel.AnnotDb
