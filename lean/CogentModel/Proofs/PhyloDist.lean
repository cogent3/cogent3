import CogentModel.Proofs.PhyloBasic
/-! C09: the mirror of `PhyloNode._get_distances` (post-order accumulation of root-ward tip
distances, cross products between children, dict with last-write-wins) computes the
split-based specification distance. -/
namespace CogentModel.Phylo
open PTree
variable {K : Type}

theorem mem_of_lookupLast {α β : Type} [DecidableEq α] (k : α) (w : β) :
    ∀ (l : List (α × β)), lookupLast k l = some w → (k, w) ∈ l
  | [], h => by cases h
  | (k', v') :: rest, h => by
    simp only [lookupLast] at h
    split at h
    · rename_i u hu
      cases h
      exact List.mem_cons_of_mem _ (mem_of_lookupLast k w rest hu)
    · split at h
      · rename_i he
        cases h; cases he
        exact List.mem_cons_self
      · cases h

theorem lookupLast_ne_none {α β : Type} [DecidableEq α] (k : α) (v : β) :
    ∀ (l : List (α × β)), (k, v) ∈ l → lookupLast k l ≠ none
  | (k', v') :: rest, h => by
    simp only [lookupLast]
    split
    · exact Option.some_ne_none _
    · rename_i hn
      rcases List.mem_cons.1 h with he | hr
      · cases he; rw [if_pos rfl]; exact Option.some_ne_none _
      · exact absurd hn (lookupLast_ne_none k v rest hr)

/-- a key all of whose entries carry the same value looks up to that value -/
theorem lookupLast_of_all {α β : Type} [DecidableEq α] (k : α) (w : β) (l : List (α × β))
    (hex : ∃ v, (k, v) ∈ l) (hall : ∀ v, (k, v) ∈ l → v = w) : lookupLast k l = some w := by
  obtain ⟨v, hv⟩ := hex
  cases hl : lookupLast k l with
  | none => exact absurd hl (lookupLast_ne_none k v l hv)
  | some u => rw [hall u (mem_of_lookupLast k u l hl)]

section
variable [AddCommMonoid K]

/-- weight of a split on the root-ward path of tip `p` -/
def memF (d : K) (p : String) (s : Split K) : K := if p ∈ s.side then lenOr d s.len else 0

/-- distance from the root of `t` down to tip `p` (sum over the edges above `p`) -/
def depthSpec (d : K) (p : String) (t : PTree K) : K := sumBy (memF d p) (splits t)

theorem memF_sum_zero (d : K) (p : String) (S : List (Split K)) (h : ∀ s ∈ S, p ∉ s.side) :
    sumBy (memF d p) S = 0 :=
  sumBy_zero _ _ fun s hs => if_neg (h s hs)

/-- where no side holds both tips, separating them is holding one of them -/
theorem splitW_sum_add (d : K) (p q : String) (S : List (Split K))
    (h : ∀ s ∈ S, ¬(p ∈ s.side ∧ q ∈ s.side)) :
    sumBy (splitW d p q) S = sumBy (memF d p) S + sumBy (memF d q) S := by
  induction S with
  | nil => exact (add_zero _).symm
  | cons s S ih =>
    have hs := h s List.mem_cons_self
    have e : splitW d p q s = memF d p s + memF d q s := by
      by_cases hp : p ∈ s.side
      · have hq : q ∉ s.side := fun hq => hs ⟨hp, hq⟩
        simp [splitW, memF, sep, hp, hq]
      · by_cases hq : q ∈ s.side <;> simp [splitW, memF, sep, hp, hq]
    simp only [sumBy, e, ih fun s' hs' => h s' (List.mem_cons_of_mem _ hs')]
    exact add_add_add_comm _ _ _ _

theorem splitW_sum_zero (d : K) (p q : String) (S : List (Split K)) (hp : ∀ s ∈ S, p ∉ s.side)
    (hq : ∀ s ∈ S, q ∉ s.side) : sumBy (splitW d p q) S = 0 := by
  rw [splitW_sum_add d p q S fun s hs hpq => hp s hs hpq.1, memF_sum_zero d p S hp, memF_sum_zero d q S hq,
    add_zero]

theorem splitW_swap (d : K) (p q : String) (S : List (Split K)) :
    sumBy (splitW d p q) S = sumBy (splitW d q p) S :=
  sumBy_congr _ _ _ fun s _ => by simp only [splitW, sep_comm p q]

/-- depth of a tip below the tree `c` of the forest -/
theorem depth_at_node (d : K) (pre post : List (PTree K)) (c : PTree K)
    (hnd : (tipsL (pre ++ c :: post)).Nodup) (p : String) (hp : p ∈ tips c) :
    sumBy (memF d p) (splitsL (pre ++ c :: post)) = lenOr d c.len + sumBy (memF d p) (splits c) := by
  obtain ⟨h1, h2⟩ := not_mem_siblings hnd hp
  rw [splitsL_append, splitsL_cons, sumBy_append, sumBy_append, memF_sum_zero d p _ (not_mem_sidesL h1),
    memF_sum_zero d p _ (not_mem_sidesL h2), zero_add, add_zero]
  simp only [sumBy, memF, edgeSplit, hp, if_true]

/-- two tips in different trees of the forest: no side holds both -/
theorem dist_across (d : K) (pre post : List (PTree K)) (c : PTree K)
    (hnd : (tipsL (pre ++ c :: post)).Nodup) (p q : String) (hp : p ∈ tips c) (hq : q ∉ tips c) :
    sumBy (splitW d p q) (splitsL (pre ++ c :: post)) =
      sumBy (memF d p) (splitsL (pre ++ c :: post)) + sumBy (memF d q) (splitsL (pre ++ c :: post)) := by
  obtain ⟨h1, h2⟩ := not_mem_siblings hnd hp
  refine splitW_sum_add d p q _ fun s hs hpq => ?_
  rw [splitsL_append, splitsL_cons, List.mem_append, List.mem_append] at hs
  rcases hs with hs | hs | hs
  · exact not_mem_sidesL h1 s hs hpq.1
  · exact not_mem_child_sides hq s hs hpq.2
  · exact not_mem_sidesL h2 s hs hpq.1

/-- two tips in the same tree of the forest: the distance is the distance inside it -/
theorem dist_same_child (d : K) (pre post : List (PTree K)) (c : PTree K)
    (hnd : (tipsL (pre ++ c :: post)).Nodup) (p q : String) (hp : p ∈ tips c) (hq : q ∈ tips c) :
    sumBy (splitW d p q) (splitsL (pre ++ c :: post)) = sumBy (splitW d p q) (splits c) := by
  obtain ⟨hp1, hp2⟩ := not_mem_siblings hnd hp
  obtain ⟨hq1, hq2⟩ := not_mem_siblings hnd hq
  rw [splitsL_append, splitsL_cons, sumBy_append, sumBy_append,
    splitW_sum_zero d p q _ (not_mem_sidesL hp1) (not_mem_sidesL hq1),
    splitW_sum_zero d p q _ (not_mem_sidesL hp2) (not_mem_sidesL hq2), zero_add, add_zero]
  simp [sumBy, splitW, edgeSplit, sep, hp, hq]
/-- what one subtree / one list of sibling subtrees contributes -/
structure DistOK (d : K) (T : List String) (S : List (Split K)) (tds : List (String × K))
    (res : List ((String × String) × K)) : Prop where
  depths : tds = T.map fun a => (a, sumBy (memF d a) S)
  vals : ∀ e ∈ res, e.1.1 ∈ T ∧ e.1.2 ∈ T ∧ e.2 = sumBy (splitW d e.1.1 e.1.2) S
  ex : ∀ a ∈ T, ∀ b ∈ T, a ≠ b → ∃ v, ((a, b), v) ∈ res

/-- the entries written for the pairs between one child (depth list `T₁.map …`) and the later
siblings (depth lists `L`, together `T₂.map …`) -/
theorem mem_flatMap_crossOne (D : String → K) (T₁ T₂ : List String) (L : List (List (String × K)))
    (hL : L.flatten = T₂.map fun a => (a, D a)) (e : (String × String) × K) :
    e ∈ L.flatMap (crossOne (T₁.map fun a => (a, D a))) ↔
      ∃ p ∈ T₁, ∃ q ∈ T₂, e = ((p, q), D p + D q) ∨ e = ((q, p), D p + D q) := by
  have hmem : ∀ y : String × K, (∃ ys ∈ L, y ∈ ys) ↔ ∃ q ∈ T₂, (q, D q) = y := fun y => by
    rw [← List.mem_flatten, hL, List.mem_map]
  simp only [crossOne, List.mem_flatMap, List.mem_cons, List.mem_nil_iff, or_false, List.mem_map]
  constructor
  · rintro ⟨ys, hys, _, ⟨p, hp, rfl⟩, y, hy, he⟩
    obtain ⟨q, hq, rfl⟩ := (hmem y).1 ⟨ys, hys, hy⟩
    exact ⟨p, hp, q, hq, he⟩
  · rintro ⟨p, hp, q, hq, he⟩
    obtain ⟨ys, hys, hy⟩ := (hmem (q, D q)).2 ⟨q, hq, rfl⟩
    exact ⟨ys, hys, _, ⟨p, hp, rfl⟩, _, hy, he⟩

/-- One step of the accumulation over siblings, for any lists in place of the recursive results:
a head child (tips `Tc`, splits `Sc`, edge length `len`) put before later siblings (tips `Tcs`,
splits `Scs`, depth lists `L`), given how depths and distances in the joint split list `S`
relate to those in the parts. -/
theorem distOK_cons {d : K} {Tc Tcs : List String} {Sc Scs S : List (Split K)} {tdc : List (String × K)}
    {L : List (List (String × K))} {resc resL : List ((String × String) × K)} {len : K}
    (hc : DistOK d Tc Sc tdc resc) (hcs : DistOK d Tcs Scs L.flatten (resL ++ crossPairs L))
    (depth_c : ∀ x ∈ Tc, sumBy (memF d x) S = sumBy (memF d x) Sc + len)
    (depth_cs : ∀ x ∈ Tcs, sumBy (memF d x) S = sumBy (memF d x) Scs)
    (val_c : ∀ p ∈ Tc, ∀ q ∈ Tc, sumBy (splitW d p q) S = sumBy (splitW d p q) Sc)
    (val_cs : ∀ p ∈ Tcs, ∀ q ∈ Tcs, sumBy (splitW d p q) S = sumBy (splitW d p q) Scs)
    (val_x : ∀ p ∈ Tc, ∀ q ∈ Tcs, sumBy (splitW d p q) S = sumBy (memF d p) S + sumBy (memF d q) S) :
    DistOK d (Tc ++ Tcs) S ((tdc.map fun x => (x.1, x.2 + len)) :: L).flatten
      ((resc ++ resL) ++ crossPairs ((tdc.map fun x => (x.1, x.2 + len)) :: L)) := by
  have htd_c : (tdc.map fun x => (x.1, x.2 + len)) = Tc.map fun a => (a, sumBy (memF d a) S) := by
    rw [hc.depths, List.map_map]
    exact List.map_congr_left fun a ha => by rw [depth_c a ha]; rfl
  have htd_cs : L.flatten = Tcs.map fun a => (a, sumBy (memF d a) S) := by
    rw [hcs.depths]
    exact List.map_congr_left fun a ha => by rw [depth_cs a ha]
  have hx := mem_flatMap_crossOne (fun a => sumBy (memF d a) S) Tc Tcs L htd_cs
  simp only [List.flatten_cons, crossPairs, htd_c]
  refine ⟨by rw [htd_cs, List.map_append], fun e he => ?_, fun a ha b hb hab => ?_⟩
  · simp only [List.mem_append, hx] at he
    rcases he with (he | he) | (⟨p, hp, q, hq, rfl | rfl⟩ | he)
    · obtain ⟨h1, h2, h3⟩ := hc.vals e he
      exact ⟨List.mem_append_left _ h1, List.mem_append_left _ h2, by rw [h3, val_c _ h1 _ h2]⟩
    · obtain ⟨h1, h2, h3⟩ := hcs.vals e (List.mem_append_left _ he)
      exact ⟨List.mem_append_right _ h1, List.mem_append_right _ h2, by rw [h3, val_cs _ h1 _ h2]⟩
    · exact ⟨List.mem_append_left _ hp, List.mem_append_right _ hq, (val_x p hp q hq).symm⟩
    · exact ⟨List.mem_append_right _ hq, List.mem_append_left _ hp, ((splitW_swap d q p _).trans (val_x p hp q hq)).symm⟩
    · obtain ⟨h1, h2, h3⟩ := hcs.vals e (List.mem_append_right _ he)
      exact ⟨List.mem_append_right _ h1, List.mem_append_right _ h2, by rw [h3, val_cs _ h1 _ h2]⟩
  · simp only [List.mem_append, hx]
    rcases List.mem_append.1 ha with ha | ha <;> rcases List.mem_append.1 hb with hb | hb
    · obtain ⟨v, hv⟩ := hc.ex a ha b hb hab
      exact ⟨v, Or.inl (Or.inl hv)⟩
    · exact ⟨_, Or.inr (Or.inl ⟨a, ha, b, hb, Or.inl rfl⟩)⟩
    · exact ⟨_, Or.inr (Or.inl ⟨b, hb, a, ha, Or.inr rfl⟩)⟩
    · obtain ⟨v, hv⟩ := hcs.ex a ha b hb hab
      exact ⟨v, (List.mem_append.1 hv).elim (fun h => Or.inl (Or.inr h)) fun h => Or.inr (Or.inr h)⟩

mutual
theorem distGo_ok (d : K) : ∀ (t : PTree K), (tips t).Nodup →
    DistOK d (tips t) (splits t) (distGo d t).1 (distGo d t).2
  | .node n l [], _ =>
    ⟨rfl, fun _ h => (nomatch h), fun a ha b hb hab =>
      absurd ((List.mem_singleton.1 ha).trans (List.mem_singleton.1 hb).symm) hab⟩
  | .node n l (c :: cs), hnd => by
    rw [tips_node_ne_nil _ _ _ (by simp)] at hnd ⊢
    exact distL_ok d (c :: cs) hnd
/-- for siblings: flattened depth lists, and the children's results followed by the cross pairs -/
theorem distL_ok (d : K) : ∀ (cs : List (PTree K)), (tipsL cs).Nodup →
    DistOK d (tipsL cs) (splitsL cs) (distL d cs).1.flatten ((distL d cs).2 ++ crossPairs (distL d cs).1)
  | [], _ => ⟨rfl, fun _ h => (nomatch h), fun _ h => (nomatch h)⟩
  | c :: cs, hnd => by
    have hnd0 : (tipsL ([] ++ c :: cs)).Nodup := hnd
    obtain ⟨hndc, hndcs, hdisj⟩ := List.nodup_append.1 hnd
    have dis2 : ∀ x ∈ tipsL cs, x ∉ tips c := fun x hx h => hdisj x h x hx rfl
    refine distOK_cons (distGo_ok d c hndc) (distL_ok d cs hndcs)
      (fun x hx => (depth_at_node d [] cs c hnd0 x hx).trans (add_comm _ _)) (fun x hx => ?_)
      (fun p hp q hq => dist_same_child d [] cs c hnd0 p q hp hq) (fun p hp q hq => ?_)
      (fun p hp q hq => dist_across d [] cs c hnd0 p q hp (dis2 q hq))
    · rw [splitsL_cons, sumBy_append, memF_sum_zero d x _ (not_mem_child_sides (dis2 x hx)), zero_add]
    · rw [splitsL_cons, sumBy_append, splitW_sum_zero d p q _ (not_mem_child_sides (dis2 p hp))
        (not_mem_child_sides (dis2 q hq)), zero_add]
end

theorem memF_sum_perm (d : K) (p : String) {S S' : List (Split K)} (h : S.Perm S') :
    sumBy (memF d p) S = sumBy (memF d p) S' := sumBy_perm _ h

/-- `tree.get_distances()[(a, b)]` (model: last write into the dict) is the specification distance -/
theorem getDistances_lookup (d : K) (t : PTree K) (hnd : (tips t).Nodup) (a b : String)
    (ha : a ∈ tips t) (hb : b ∈ tips t) (hab : a ≠ b) :
    lookupLast (a, b) (getDistances d t) = some (distSpec d a b t) := by
  have h := distGo_ok d t hnd
  apply lookupLast_of_all
  · exact h.ex a ha b hb hab
  · intro v hv
    exact (h.vals _ hv).2.2

/-- two trees with the same specification distance between two of their tips report the same -/
theorem getDistances_lookup_congr (d : K) (t r : PTree K) (hndt : (tips t).Nodup) (hndr : (tips r).Nodup)
    (a b : String) (hat : a ∈ tips t) (hbt : b ∈ tips t) (har : a ∈ tips r) (hbr : b ∈ tips r) (hab : a ≠ b)
    (hd : distSpec d a b r = distSpec d a b t) :
    lookupLast (a, b) (getDistances d r) = lookupLast (a, b) (getDistances d t) := by
  rw [getDistances_lookup d r hndr a b har hbr hab, getDistances_lookup d t hndt a b hat hbt hab, hd]

end
end CogentModel.Phylo
