import CogentModel.Proofs.ViewSem
import CogentModel.Proofs.LatticeSlice
/-! Direction lemma: negative slice step on a reversed view (`revFromRev`). -/
namespace CogentModel.View
open CogentModel CogentModel.PySlice

theorem revFromRev_eq (fl : Flavour) (v : View) (ss se c S E : Int)
    (hS : S = if ss ≥ len v then v.seqLen + v.start + len v * v.step + pyabs v.step
               else if ss ≥ 0 then v.seqLen + (v.start + ss * v.step)
               else v.seqLen + (v.start + len v * v.step + ss * v.step))
    (hE : E = if se ≥ 0 then v.seqLen + (v.start + se * v.step)
              else (if v.seqLen + (v.start + len v * v.step + se * v.step) > v.seqLen + v.start
                    then v.seqLen + v.start + 1
                    else v.seqLen + (v.start + len v * v.step + se * v.step))) :
    revFromRev fl v ss se c =
      if se ≥ 0 ∧ E ≤ v.seqLen + v.stop then .ok (zero fl v)
      else if E < S ∨ S > v.seqLen ∨ min S E < 0 then .ok (zero fl v)
      else remk v S E (v.step * c) := by
  subst hS hE
  unfold revFromRev revFromRevTail
  by_cases h : se ≥ 0 <;> simp only [h, if_true, if_false, true_and, false_and]

theorem revFromRev_elems (fl : Flavour) (v w : View) (ss se c : Int) (h : Inv v) (hk : v.step < 0)
    (hc : c < 0) (hw : revFromRev fl v ss se c = .ok w) :
    elems w = (rangeList (clampN ss (len v)) (clampN se (len v)) c).map fun j => first v + j * v.step := by
  have hN := h.1
  obtain ⟨_, i0, i1, i2⟩ := h.2.resolve_left fun hl => absurd hl.1 (by omega)
  have hn := len_nonneg v
  have hK : 0 < v.step * c := Int.mul_pos_of_neg_of_neg hk hc
  rw [first, if_neg (show ¬ v.step > 0 by omega),
    ← lattice_sliceN_desc (v.start + v.seqLen) v.step (len v) c ss se hk hc hn]
  have hS : v.start + v.seqLen + min (wrapIdx ss (len v)) (len v - 1) * v.step =
      if ss ≥ len v then v.seqLen + v.start + len v * v.step + pyabs v.step
      else if ss ≥ 0 then v.seqLen + (v.start + ss * v.step)
      else v.seqLen + (v.start + len v * v.step + ss * v.step) := by
    rw [pos_startN _ _ _ _ hn, pyabs, if_pos hk]
    split
    · omega
    · split <;> omega
  -- for a stop `se ≥ 0` the position is at or before the first one, so the clip at `+ 1` is idle
  have hE : min (v.start + v.seqLen + wrapIdx se (len v) * v.step) (v.start + v.seqLen + 1) =
      if se ≥ 0 then v.seqLen + (v.start + se * v.step)
      else (if v.seqLen + (v.start + len v * v.step + se * v.step) > v.seqLen + v.start
            then v.seqLen + v.start + 1
            else v.seqLen + (v.start + len v * v.step + se * v.step)) := by
    unfold wrapIdx
    by_cases h1 : se ≥ 0
    · have := Int.mul_nonpos_of_nonneg_of_nonpos h1 (Int.le_of_lt hk)
      rw [if_pos h1, if_pos h1]; omega
    · rw [if_neg h1, if_neg h1, Int.add_mul]
      split <;> omega
  -- the first position taken lies inside the view
  have hin : v.stop < v.start + min (wrapIdx ss (len v)) (len v - 1) * v.step := by
    have := ((len_isCeil_rev v hk i1).lt_iff (by omega) (min (wrapIdx ss (len v)) (len v - 1))).mpr (by omega)
    rw [Int.mul_neg] at this
    omega
  rw [revFromRev_eq fl v ss se c _ _ hS hE] at hw
  generalize min (wrapIdx ss (len v)) (len v - 1) * v.step = Q at *
  generalize wrapIdx se (len v) * v.step = P at *
  clear hS hE
  simp only [ite_ite_same] at hw
  split at hw
  · rw [← Except.ok.inj hw, rangeList_nil_pos _ _ _ hK (by omega)]
    exact elems_nil_of_len _ (len_zero fl v)
  · exact remk_pos_elems v w _ _ _ h hK (by omega) (by omega) (by omega) hw

end CogentModel.View
