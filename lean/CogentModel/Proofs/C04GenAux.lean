/-
  The shapes the translator emits, brought to the hand model's form for Props/C04Gen.lean: loops written as
  `mapExcept body xs` + `flatten`, elementwise maps (`mapCoords`), first/last element tests.  Nothing here mentions
  generated text.
-/
import CogentModel.Model.FeatureGenPrelude
import CogentModel.Model.FeatureAdd
import Mathlib.Tactic.SplitIfs
namespace CogentModel.C04Gen
open CogentModel.View CogentModel.FeatureView

theorem mapExcept_congr {α β ε} {f g : α → Except ε β} (h : ∀ x, f x = g x) (xs : List α) :
    mapExcept f xs = mapExcept g xs := by
  rw [funext h]

theorem pyabs_of_nonneg {x : Int} (h : 0 ≤ x) : pyabs x = x := if_neg (Int.not_lt.mpr h)

theorem pyabs_of_neg {x : Int} (h : x < 0) : pyabs x = -x := if_pos h

/-- `strand == -1` after `strand = -1 if rced else 1` -/
theorem strand_eq_neg_one (c : Prop) [Decidable c] : ((if c then (-1 : Int) else 1) = -1) ↔ c := by
  split <;> simp [*]

/-- `"+" if revd == seq_rced else "-"` -/
theorem strandFlag_eq (minus r : Bool) : (if decide (minus = true) = r then false else true) = (minus != r) := by
  cases minus <;> cases r <;> rfl

theorem FMapG.ite_mk (c : Prop) [Decidable c] (s t : List MSpan) (L : Int) :
    (if c then FMapG.mk s L else FMapG.mk t L) = FMapG.mk (if c then s else t) L := by
  split <;> rfl

/-- `insert(0, LostSpan(pre))` then `append(LostSpan(post))`, each under its own test, is one concatenation -/
theorem padLost_eq (pre post : Int) (m : List MSpan) :
    (if post ≠ 0 then (if pre ≠ 0 then MSpan.lost pre :: m else m) ++ [MSpan.lost post]
      else if pre ≠ 0 then MSpan.lost pre :: m else m) =
    (if pre ≠ 0 then [MSpan.lost pre] else []) ++ m ++ if post ≠ 0 then [MSpan.lost post] else [] := by
  split <;> split <;> simp

theorem length_cons_ne_zero {α} (p : α) (ps : List α) : ((p :: ps).length : Int) ≠ 0 := by
  simp only [List.length_cons, Int.natCast_add, Int.cast_ofNat_Int]; omega

theorem firstLast_cons (p : Int × Int) (ps : List (Int × Int)) :
    (((p :: ps).headD (0, 0)).1 > ((p :: ps).getLastD (0, 0)).2) ↔ (!firstLastOk (p :: ps)) = true := by
  simp only [firstLastOk, List.head?_cons, List.headD_cons]
  rw [List.getLast?_eq_some_getLast (List.cons_ne_nil p ps)]
  simp [List.getLastD_eq_getLast?, List.getLast?_eq_some_getLast (List.cons_ne_nil p ps)]

def okSingle {β ε} : Except ε β → Except ε (List β)
  | .error e => .error e
  | .ok y => .ok [y]

theorem mapExcept_single {α β ε} (f : α → Except ε β) (xs : List α) :
    mapExcept (fun x => okSingle (f x)) xs =
      (match mapExcept f xs with
       | .error e => (.error e : Except ε (List (List β)))
       | .ok ys => .ok (ys.map fun y => [y])) := by
  induction xs with
  | nil => simp [mapExcept]
  | cons x xs ih =>
    simp only [mapExcept, ih]
    cases hx : f x <;> cases hxs : mapExcept f xs <;> simp [okSingle]

theorem flatten_map_single {β} (ys : List β) : (ys.map fun y => [y]).flatten = ys := by
  induction ys with
  | nil => rfl
  | cons y ys ih => simp [ih]

theorem flatten_map_toList {α β} (g : α → Option β) (xs : List α) :
    (xs.map fun x => (g x).toList).flatten = xs.filterMap g := by
  induction xs with
  | nil => rfl
  | cons x xs ih => cases h : g x <;> simp [h, ih]

theorem relSpans_mapCoords_eq (v : View) (xs : List (Int × Int)) :
    mapExcept (relSpan v) xs =
      (match mapCoords (fun c => liftErr (relativePosition v c false)) xs with
       | .error e => .error e
       | .ok ys => .ok (if v.step < 0 then ys.map (fun p => (len v - p.1, len v - p.2)) else ys)) := by
  induction xs with
  | nil => simp [mapExcept, mapCoords]
  | cons x xs ih =>
    simp only [mapCoords] at ih ⊢
    simp only [mapExcept, ih, relSpan, relCoord]
    cases h1 : liftErr (relativePosition v x.1 false) <;> cases h2 : liftErr (relativePosition v x.2 false) <;>
      cases h3 : mapExcept _ xs <;> simp <;> split_ifs <;> simp

theorem mapCoords_congr {f g : Int → Except FErr Int} (h : ∀ x, f x = g x) (xs : List (Int × Int)) :
    mapCoords f xs = mapCoords g xs := by
  rw [funext h]

/-- the prelude's `sorted(rows)` is C17's `sortSpans` (same insertion sort on the same order) -/
theorem sortRows_eq (l : List (Int × Int)) : sortRows l = AnnotDb.sortSpans l := by
  induction l with
  | nil => rfl
  | cons p ps ih =>
    simp only [sortRows, AnnotDb.sortSpans, ih]
    generalize AnnotDb.sortSpans ps = m
    induction m with
    | nil => rfl
    | cons q qs ih2 => simp only [insertRow, AnnotDb.insertSorted, rowLe, AnnotDb.pairLe, ih2]; rfl

end CogentModel.C04Gen
