import CogentModel.Model.Optimiser
import Mathlib.Algebra.Group.Defs
/-! The rule list emitted by the same-class projection describes the same exchangeability matrix, cell by cell, once
every nested parameter's targets cover a cell exactly as often as the parameter does (`CellNested`). -/
namespace CogentModel.Optimiser

variable {N V : Type} [DecidableEq N] [Monoid V]

abbrev rate (cs : Coords N) (rules : List (N × V)) (cell : Cell) : V :=
  cellRate (· * ·) (1 : V) cs rules cell

theorem foldr_mul_append (a b : List V) :
    (a ++ b).foldr (· * ·) 1 = a.foldr (· * ·) 1 * b.foldr (· * ·) 1 := by
  induction a with
  | nil => simp
  | cons x xs ih => simp [List.foldr_cons, ih, mul_assoc]

theorem rate_append (cs : Coords N) (l1 l2 : List (N × V)) (cell : Cell) :
    rate cs (l1 ++ l2) cell = rate cs l1 cell * rate cs l2 cell := by
  simp only [cellRate, List.filter_append, List.map_append, foldr_mul_append]

/-- the rules emitted for one simple rule `(sp, v)` contribute `v` to the cell if exactly one target covers it, and
nothing if none does (the two cases of `CellNested`) -/
theorem rate_targets (rich : Coords N) (ts : List N) (v : V) (cell : Cell) (b : Bool)
    (hk : (ts.filter (fun rp => (coordsOf rich rp).contains cell)).length = if b then 1 else 0) :
    rate rich (ts.map (fun rp => (rp, v))) cell = if b then v else 1 := by
  have e : ((ts.map (fun rp => (rp, v))).filter (fun r => (coordsOf rich r.1).contains cell)).map (·.2)
      = (ts.filter (fun rp => (coordsOf rich rp).contains cell)).map (fun _ => v) := by
    rw [List.filter_map, List.map_map]
    rfl
  simp only [cellRate, e]
  cases b
  · rw [List.length_eq_zero_iff.mp hk]
    rfl
  · obtain ⟨a, ha⟩ := List.length_eq_one_iff.mp hk
    rw [ha]
    exact mul_one v

/-- the per-cell nesting condition for one simple parameter `sp`: the rich parameters that take
their value from `sp` cover the cell exactly once if `sp` covers it, and not at all otherwise -/
def CellNested (ref : N) (rich simple : Coords N) (ch : List (N × Option N)) (cell : Cell) (sp : N) : Prop :=
  ((targets ref rich ch sp).filter (fun rp => (coordsOf rich rp).contains cell)).length
    = if (coordsOf simple sp).contains cell then 1 else 0

theorem rate_cons (cs : Coords N) (r : N × V) (rs : List (N × V)) (cell : Cell) :
    rate cs (r :: rs) cell = (if (coordsOf cs r.1).contains cell then r.2 else 1) * rate cs rs cell := by
  simp only [cellRate, List.filter_cons]
  split <;> simp

theorem rate_projectSame (ref : N) (pass : N → Bool) (rich simple : Coords N)
    (ch : List (N × Option N)) (cell : Cell) (rules : List (N × V))
    (hn : ∀ r ∈ rules, pass r.1 = false → CellNested ref rich simple ch cell r.1)
    (hp : ∀ r ∈ rules, pass r.1 = true →
      (coordsOf rich r.1).contains cell = false ∧ (coordsOf simple r.1).contains cell = false) :
    rate rich (projectSame ref pass rich ch rules) cell = rate simple rules cell := by
  induction rules with
  | nil => rfl
  | cons r rs ih =>
    have ih' := ih (fun x hx => hn x (List.mem_cons_of_mem _ hx)) (fun x hx => hp x (List.mem_cons_of_mem _ hx))
    unfold projectSame at ih' ⊢
    rw [List.flatMap_cons, rate_append, ih', rate_cons]
    congr 1
    by_cases hpass : pass r.1 = true
    · obtain ⟨h1, h2⟩ := hp r List.mem_cons_self hpass
      rw [if_pos hpass, rate_cons, h1, h2]
      exact mul_one _
    · rw [if_neg hpass]
      exact rate_targets rich _ r.2 cell _ (hn r List.mem_cons_self (Bool.eq_false_iff.mpr hpass))

theorem nestedSame_spec {ref : N} {rich simple : Coords N} (h : nestedSame ref rich simple = true) :
    ∃ ch, chosenAll rich simple = .ok ch ∧
      ∀ sp ∈ simple, sp.1 ≠ ref → ∀ cell ∈ cellsOf rich ++ cellsOf simple,
        CellNested ref rich simple ch cell sp.1 := by
  unfold nestedSame at h
  split at h
  · cases h
  · split at h
    · cases h
    · rename_i ch hch
      refine ⟨ch, hch, fun sp hsp hne cell hcell => ?_⟩
      rcases Bool.or_eq_true_iff.mp (List.all_eq_true.mp h sp hsp) with h1 | h1
      · exact absurd (beq_iff_eq.mp h1) hne
      · exact beq_iff_eq.mp (List.all_eq_true.mp h1 cell hcell)

end CogentModel.Optimiser
