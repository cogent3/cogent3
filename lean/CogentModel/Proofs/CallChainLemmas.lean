import CogentModel.Model.Composable
/-! `_call` on a composed app (`Composable.callChain`): one layer as an equation (`callChain_cons`), what the rest of a
layer can return (`afterInput_cases`), and from these where a not-completed result comes from (`call_nc_origin'`) and what a
completed one is (`call_ok_from_main'`). -/
namespace CogentModel.Composable

/-- one layer of `_call` on a composed app -/
theorem callChain_cons (s : Step) (rest : List Step) (v : Option Val) :
    callChain (s :: rest) v =
      (let v1 := v.getD (.nc ⟨.error, s.name, .noneIn, none⟩)
       if v1.isNC && s.skipNC then v1
       else afterInput s (if s.kind != .loader && !rest.isEmpty then callChain rest (some v1) else v1)) := by
  cases v <;> rfl

theorem afterInput_nc (s : Step) (n : NC) (h : s.skipNC = true) : afterInput s (.nc n) = .nc n := by
  simp [afterInput, Val.isNC, h]

theorem validate_some (s : Step) (v : Val) (n : NC) (h : validate s v = some n) :
    n = ⟨.error, s.name, .badType v.ty, v.source⟩ := by
  unfold validate at h
  split at h
  · cases h
  · split at h
    · cases h
    · exact (Option.some.inj h).symm

/-- what the rest of a layer returns is its argument (a not-completed value it skips), a record it makes itself, or
what `main` returned -/
theorem afterInput_cases (s : Step) (v2 out : Val) (h : afterInput s v2 = out) :
    (out = v2 ∧ v2.isNC = true) ∨ (∃ n, out = .nc n ∧ n.origin = s.name) ∨
    (∃ n w, out = .nc n ∧ s.main w = .retNC n) ∨ (∃ r w, out = .ok r ∧ s.main w = .ret r) := by
  subst h
  unfold afterInput
  split
  · next h => exact Or.inl ⟨rfl, (Bool.and_eq_true _ _ ▸ h).1⟩
  · split
    · next n hv => exact Or.inr (Or.inl ⟨n, rfl, validate_some s v2 n hv ▸ rfl⟩)
    · unfold runMain
      cases hm : s.main v2 with
      | ret r => exact Or.inr (Or.inr (Or.inr ⟨r, v2, rfl, hm⟩))
      | raise t => exact Or.inr (Or.inl ⟨_, rfl, rfl⟩)
      | retNone => exact Or.inr (Or.inl ⟨_, rfl, rfl⟩)
      | retNC n => exact Or.inr (Or.inr (Or.inl ⟨n, v2, rfl, hm⟩))

theorem call_nc_origin' (steps : List Step) (hne : steps ≠ []) (v : Option Val) (n : NC)
    (h : callChain steps v = .nc n) :
    v = some (.nc n) ∨ ∃ s ∈ steps, n.origin = s.name ∨ ∃ w, s.main w = .retNC n := by
  induction steps generalizing v n with
  | nil => exact absurd rfl hne
  | cons s rest ih =>
    -- if the value the step starts from is `n`, then `n` is the input or the record this step makes for a `None` input
    have hv1 : v.getD (.nc ⟨.error, s.name, .noneIn, none⟩) = .nc n →
        v = some (.nc n) ∨ ∃ t ∈ s :: rest, n.origin = t.name ∨ ∃ w, t.main w = .retNC n := by
      intro e
      cases v with
      | none => cases e; exact Or.inr ⟨s, List.mem_cons_self, Or.inl rfl⟩
      | some x => exact Or.inl (congrArg some e)
    rw [callChain_cons] at h
    generalize v.getD _ = v1 at h hv1
    simp only at h
    split at h
    · exact hv1 h
    · rcases afterInput_cases s _ _ h with ⟨e, _⟩ | ⟨m, e, ho⟩ | ⟨m, w, e, hm⟩ | ⟨r, w, e, _⟩
      · -- the step handed on what it was given: by the inner composition, or its own start value
        split at e
        · next hc =>
          rcases ih (by intro e; simp [e] at hc) _ _ e.symm with e' | ⟨t, ht, hh⟩
          · exact hv1 (Option.some.inj e')
          · exact Or.inr ⟨t, List.mem_cons_of_mem _ ht, hh⟩
        · exact hv1 e.symm
      · cases e; exact Or.inr ⟨s, List.mem_cons_self, Or.inl ho⟩
      · cases e; exact Or.inr ⟨s, List.mem_cons_self, Or.inr ⟨w, hm⟩⟩
      · cases e

theorem call_ok_from_main' (s : Step) (rest : List Step) (v : Option Val) (r : V)
    (h : callChain (s :: rest) v = .ok r) : ∃ w, s.main w = .ret r := by
  rw [callChain_cons] at h
  simp only at h
  split at h
  · next hc => rw [h] at hc; simp [Val.isNC] at hc
  · rcases afterInput_cases s _ _ h with ⟨e, hn⟩ | ⟨m, e, _⟩ | ⟨m, w, e, _⟩ | ⟨r', w, e, hm⟩
    · rw [← e] at hn; cases hn
    · cases e
    · cases e
    · cases e; exact ⟨w, hm⟩

end CogentModel.Composable
