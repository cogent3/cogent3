import CogentModel.Proofs.PhyloBasic
import CogentModel.Model.PhyloTreeDist
import CogentModel.Proofs.ListFacts
/-! C09: Robinson–Foulds — the reference-tip normalisation of `_compute_splits` computes the
symmetric difference of the bipartition sets. -/
namespace CogentModel.Phylo
open PTree
variable {K : Type}

section generic
variable {α : Type} (r : α → α → Bool)

def dedupBy : List α → List α
  | [] => []
  | x :: xs => if xs.any (r x) then dedupBy xs else x :: dedupBy xs

theorem dedupBy_sublist (l : List α) : ∀ x ∈ dedupBy r l, x ∈ l := by
  induction l with
  | nil => simp [dedupBy]
  | cons y ys ih =>
    intro x hx
    simp only [dedupBy] at hx
    split at hx
    · exact List.mem_cons_of_mem _ (ih x hx)
    · rcases List.mem_cons.1 hx with rfl | h
      · simp
      · exact List.mem_cons_of_mem _ (ih x h)

theorem any_dedupBy (htrans : ∀ a b c, r a b = true → r b c = true → r a c = true) (x : α) (l : List α) :
    (dedupBy r l).any (r x) = l.any (r x) := by
  induction l with
  | nil => rfl
  | cons y ys ih =>
    simp only [dedupBy]
    split
    · rename_i hy
      rw [ih, List.any_cons]
      cases hxy : r x y with
      | false => simp
      | true =>
        simp only [Bool.true_or]
        obtain ⟨z, hz, hyz⟩ := List.any_eq_true.1 hy
        exact List.any_eq_true.2 ⟨z, hz, htrans x y z hxy hyz⟩
    · simp [List.any_cons, ih]

/-- no representative of `S` is without a partner in `S'` iff no member of `S` is -/
theorem filter_dedupBy_length_eq_zero (hrefl : ∀ a, r a a = true)
    (htrans : ∀ a b c, r a b = true → r b c = true → r a c = true) (S S' : List α) :
    ((dedupBy r S).filter fun A => !S'.any (r A)).length = 0 ↔ ∀ A ∈ S, ∃ B ∈ S', r A B = true := by
  simp only [List.length_eq_zero_iff, List.filter_eq_nil_iff, Bool.not_eq_true', Bool.not_eq_false,
    List.any_eq_true]
  refine ⟨fun h A hA => ?_, fun h A hA => h A (dedupBy_sublist r S A hA)⟩
  have hrep : (dedupBy r S).any (r A) = true := by
    rw [any_dedupBy r htrans]; exact List.any_eq_true.2 ⟨A, hA, hrefl A⟩
  obtain ⟨A', hA', hAA'⟩ := List.any_eq_true.1 hrep
  obtain ⟨B, hB, hA'B⟩ := h A' hA'
  exact ⟨B, hB, htrans A A' B hAA' hA'B⟩

/-- `dedupBy` commutes with a map that reflects the equivalence -/
theorem dedupBy_map {β : Type} (r' : β → β → Bool) (f : α → β) (l : List α)
    (h : ∀ a ∈ l, ∀ b ∈ l, r' (f a) (f b) = r a b) :
    dedupBy r' (l.map f) = (dedupBy r l).map f := by
  induction l with
  | nil => rfl
  | cons y ys ih =>
    have ih' := ih (fun a ha b hb => h a (List.mem_cons_of_mem _ ha) b (List.mem_cons_of_mem _ hb))
    have hany : (ys.map f).any (r' (f y)) = ys.any (r y) := by
      rw [List.any_map]
      exact any_congr_mem fun b hb => h y (by simp) b (List.mem_cons_of_mem _ hb)
    simp only [List.map_cons, dedupBy, hany]
    split <;> simp [ih']

/-- the representatives of `S` without a partner in `S'` are as many after a map that reflects the
equivalence (on the members of both lists, singled out by `P`) -/
theorem filter_dedupBy_map_length {β : Type} (r' : β → β → Bool)
    (htrans : ∀ a b c, r' a b = true → r' b c = true → r' a c = true) (f : α → β) (P : α → Prop)
    (hf : ∀ a b, P a → P b → r' (f a) (f b) = r a b) (S S' : List α) (hS : ∀ a ∈ S, P a) (hS' : ∀ a ∈ S', P a) :
    ((dedupBy r' (S.map f)).filter fun A => !(dedupBy r' (S'.map f)).any (r' A)).length =
      ((dedupBy r S).filter fun A => !S'.any (r A)).length := by
  rw [dedupBy_map r r' f S fun a ha b hb => hf a b (hS a ha) (hS b hb), List.filter_map, List.length_map]
  refine congrArg _ (List.filter_congr fun A hA => ?_)
  rw [Function.comp_apply, any_dedupBy r' htrans, List.any_map]
  exact congrArg _ (any_congr_mem fun B hB => hf A B (hS A (dedupBy_sublist r S A hA)) (hS' B hB))

end generic

theorem subsetB_iff (a b : List String) : subsetB a b = true ↔ ∀ x ∈ a, x ∈ b := by
  simp only [subsetB, List.all_eq_true, List.contains_iff_mem]

theorem seteq_iff (a b : List String) : seteq a b = true ↔ ∀ x, x ∈ a ↔ x ∈ b := by
  simp only [seteq, Bool.and_eq_true, subsetB_iff]
  exact ⟨fun h x => ⟨h.1 x, h.2 x⟩, fun h => ⟨fun x => (h x).1, fun x => (h x).2⟩⟩

theorem seteq_symm (a b : List String) : seteq a b = seteq b a := by
  simp [seteq, Bool.and_comm]

theorem seteq_trans (a b c : List String) (h1 : seteq a b = true) (h2 : seteq b c = true) :
    seteq a c = true := by
  rw [seteq_iff] at *
  intro x; exact (h1 x).trans (h2 x)

theorem sepAll_symm (T A B : List String) : sepAll T A B = sepAll T B A := by
  rw [Bool.eq_iff_iff, sepAll_iff, sepAll_iff]
  exact ⟨bipEquiv_symm, bipEquiv_symm⟩

theorem sepAll_trans (T A B C : List String) (h1 : sepAll T A B = true) (h2 : sepAll T B C = true) :
    sepAll T A C = true := by
  rw [sepAll_iff] at *
  exact bipEquiv_trans h1 h2

theorem dedupSets_eq (S : List (List String)) : dedupSets S = dedupBy seteq S := by
  induction S with
  | nil => rfl
  | cons x xs ih => simp [dedupSets, dedupBy, memSet, ih]

theorem dedupBip_eq (T : List String) (S : List (List String)) : dedupBip T S = dedupBy (sepAll T) S := by
  induction S with
  | nil => rfl
  | cons x xs ih => simp [dedupBip, dedupBy, anyBip, ih]

/-- for a clade `A` of `T`: the normalised side holds the tips on the same side as `ref` -/
theorem mem_normSplit (ref : String) {T A : List String} (hA : ∀ x ∈ A, x ∈ T) (x : String) :
    x ∈ normSplit ref T A ↔ x ∈ T ∧ (x ∈ A ↔ ref ∈ A) := by
  unfold normSplit
  by_cases h : ref ∈ A
  · simpa [h] using hA x
  · simp [h]

/-- Two clades normalised to the side containing the reference tip are equal as sets exactly
when they are the same bipartition of `T`: both say that every tip lies on the reference tip's
side in the one clade iff it does in the other. -/
theorem norm_seteq_iff (ref : String) (T A B : List String) (href : ref ∈ T)
    (hA : ∀ x ∈ A, x ∈ T) (hB : ∀ x ∈ B, x ∈ T) :
    seteq (normSplit ref T A) (normSplit ref T B) = sepAll T A B := by
  rw [Bool.eq_iff_iff, seteq_iff, sepAll_iff, bipEquiv_iff_ref href]
  simp only [mem_normSplit ref hA, mem_normSplit ref hB, and_congr_right_iff]
  exact forall₂_congr fun x _ => by grind

/-- The implemented computation (normalise every clade to the side holding the reference
tip, build Python sets, take the symmetric difference) equals the independent one
(compare bipartitions by their separation relation; no reference tip). -/
theorem symDiff_norm_eq_bip (ref : String) (T : List String) (S₁ S₂ : List (List String))
    (href : ref ∈ T) (h₁ : ∀ A ∈ S₁, ∀ x ∈ A, x ∈ T) (h₂ : ∀ A ∈ S₂, ∀ x ∈ A, x ∈ T) :
    symDiffCount (dedupSets (S₁.map (normSplit ref T))) (dedupSets (S₂.map (normSplit ref T)))
      = symDiffBip T S₁ S₂ := by
  unfold symDiffCount symDiffBip anyBip memSet
  rw [dedupSets_eq, dedupSets_eq, dedupBip_eq, dedupBip_eq,
    filter_dedupBy_map_length (sepAll T) seteq seteq_trans _ _ (norm_seteq_iff ref T · · href) S₁ S₂ h₁ h₂,
    filter_dedupBy_map_length (sepAll T) seteq seteq_trans _ _ (norm_seteq_iff ref T · · href) S₂ S₁ h₂ h₁]

theorem symDiffBip_comm (T : List String) (S₁ S₂ : List (List String)) :
    symDiffBip T S₁ S₂ = symDiffBip T S₂ S₁ := by
  unfold symDiffBip; omega

/-- zero exactly when the two trees have the same set of bipartitions -/
theorem symDiffBip_zero_iff (T : List String) (S₁ S₂ : List (List String)) :
    symDiffBip T S₁ S₂ = 0 ↔
      (∀ A ∈ S₁, ∃ B ∈ S₂, bipEquiv T A B) ∧ (∀ B ∈ S₂, ∃ A ∈ S₁, bipEquiv T B A) := by
  have hrefl : ∀ A, sepAll T A A = true := fun A => (sepAll_iff T A A).2 (bipEquiv_refl T A)
  unfold symDiffBip anyBip
  rw [Nat.add_eq_zero_iff, dedupBip_eq, dedupBip_eq,
    filter_dedupBy_length_eq_zero _ hrefl (sepAll_trans T), filter_dedupBy_length_eq_zero _ hrefl (sepAll_trans T)]
  simp only [sepAll_iff]

mutual
theorem clusters_subset : ∀ (t : PTree K), ∀ A ∈ clusters t, ∀ x ∈ A, x ∈ tips t
  | .node n l cs => by
    intro A hA x hx
    simp only [clusters] at hA
    cases cs with
    | nil => simp [clustersL] at hA
    | cons c cs =>
      rw [tips_node_ne_nil _ _ _ (List.cons_ne_nil c cs)]
      exact clustersL_subset (c :: cs) A hA x hx
theorem clustersL_subset : ∀ (cs : List (PTree K)), ∀ A ∈ clustersL cs, ∀ x ∈ A, x ∈ tipsL cs
  | [] => by intro A hA; simp [clustersL] at hA
  | c :: cs => by
    intro A hA x hx
    simp only [clustersL, List.mem_append] at hA
    simp only [tipsL, List.mem_append]
    rcases hA with (hA | hA) | hA
    · exact Or.inl (clusters_subset c A hA x hx)
    · split at hA
      · simp at hA
      · split at hA
        · simp at hA; subst hA; exact Or.inl hx
        · simp at hA
    · exact Or.inr (clustersL_subset cs A hA x hx)
end

theorem symDiffCount_comm (S₁ S₂ : List (List String)) : symDiffCount S₁ S₂ = symDiffCount S₂ S₁ := by
  unfold symDiffCount; omega

theorem rootedRF_comm (t₁ t₂ : PTree K) : rootedRF t₁ t₂ = rootedRF t₂ t₁ := by
  unfold rootedRF
  rw [seteq_symm (tips t₁) (tips t₂), Bool.or_comm, symDiffCount_comm]

theorem sepAll_congr (T T' : List String) (h : ∀ x, x ∈ T ↔ x ∈ T') : sepAll T = sepAll T' := by
  funext A B
  rw [Bool.eq_iff_iff, sepAll_iff, sepAll_iff]
  constructor
  · intro hh a ha b hb; exact hh a ((h a).2 ha) b ((h b).2 hb)
  · intro hh a ha b hb; exact hh a ((h a).1 ha) b ((h b).1 hb)

theorem symDiffBip_congr (T T' : List String) (h : ∀ x, x ∈ T ↔ x ∈ T') (S₁ S₂ : List (List String)) :
    symDiffBip T S₁ S₂ = symDiffBip T' S₁ S₂ := by
  unfold symDiffBip anyBip
  rw [dedupBip_eq, dedupBip_eq, dedupBip_eq, dedupBip_eq, sepAll_congr T T' h]

theorem ne_nil_of_seteq {a b : List String} (h : seteq a b = true) (ha : a ≠ []) : b ≠ [] := by
  obtain ⟨x, hx⟩ := List.exists_mem_of_ne_nil a ha
  exact List.ne_nil_of_mem (((seteq_iff a b).1 h x).1 hx)

/-- `unrooted_robinson_foulds` behind its three guards (one error value in the model), in
terms of the independent computation -/
theorem unrootedRF_eq_ite (t₁ t₂ : PTree K) :
    unrootedRF t₁ t₂ =
      if seteq (tips t₁) (tips t₂) = true ∧ t₁.children.length ≠ 2 ∧ t₂.children.length ≠ 2 ∧ tips t₁ ≠ []
      then .ok (symDiffBip (tips t₁) (clusters t₁) (clusters t₂)) else .error .valueError := by
  unfold unrootedRF
  by_cases hse : seteq (tips t₁) (tips t₂) = true
  case neg => simp [hse]
  case pos =>
    by_cases h1 : t₁.children.length = 2
    · simp [h1]
    by_cases h2 : t₂.children.length = 2
    · simp [h2]
    have hsub : ∀ A ∈ clusters t₂, ∀ x ∈ A, x ∈ tips t₁ :=
      fun A hA x hx => ((seteq_iff _ _).1 hse x).2 (clusters_subset t₂ A hA x hx)
    have hnorm := fun ref href =>
      symDiff_norm_eq_bip ref (tips t₁) (clusters t₁) (clusters t₂) href (clusters_subset t₁) hsub
    cases hn : tips t₁ with
    | nil => simp [h1, h2]
    | cons ref rest =>
      rw [hn] at hnorm hse
      simp [h1, h2, hse, hnorm ref]

theorem unrootedRF_comm (t₁ t₂ : PTree K) : unrootedRF t₁ t₂ = unrootedRF t₂ t₁ := by
  rw [unrootedRF_eq_ite, unrootedRF_eq_ite, seteq_symm (tips t₂)]
  by_cases hse : seteq (tips t₁) (tips t₂) = true
  · have hne : tips t₁ ≠ [] ↔ tips t₂ ≠ [] :=
      ⟨ne_nil_of_seteq hse, ne_nil_of_seteq (seteq_symm _ _ ▸ hse)⟩
    rw [symDiffBip_comm, symDiffBip_congr _ _ ((seteq_iff _ _).1 hse)]
    exact if_congr (by rw [hne, and_congr_right_iff]; exact fun _ => and_left_comm) rfl rfl
  · rw [if_neg (fun h => hse h.1), if_neg (fun h => hse h.1)]

end CogentModel.Phylo
