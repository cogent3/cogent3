import CogentModel.Proofs.CalcInv
/-! # C07 — a `calculator(x)` call raises exactly when a fresh evaluation at `x` raises, so the
calculator is a pure function of `x` whatever its history -/
namespace CogentModel.Calc
open CogentModel.ListGetD (getD_map_range_of_lt)
variable {V : Type} [Inhabited V]

/-- the function the calculator computes: last cell of a from-scratch evaluation at `values`
(`none`: some calc raises) -/
def objective (g : Graph V) (values : List V) : Option V :=
  (evalFresh g (fun j => values.getD j default)).map (fun l => l.getD (g.n - 1) default)

/-- **the calculator is a pure function**: from any state satisfying the invariant,
`calculator(values)` returns `objective g values` — the same value, or the same raise, as a
calculation from scratch -/
theorem call_eq_objective [DecidableEq V] (g : Graph V) (hwf : g.WF) (hpos : 0 < g.n) (s : St V) (hI : Inv g s)
    (values : List V) : (call g s values).2 = objective g values := by
  have hv := diffVec_valid g s values
  unfold objective
  rw [← evalFresh_congr_opt g hwf _ _ (patch_diffVec g s values)]
  cases hr : (call g s values).2 with
  | none => rw [change_fails_fresh_fails g hwf s _ hI hv hr]; rfl
  | some v =>
    obtain ⟨hI', hret, _⟩ := change_spec g hwf s _ hI hv
    rw [← (hret v hr).1, coh_evalFresh g hwf _ _ hI'.cur, (hret v hr).2]
    simp only [Option.map_some, Option.some.injEq]
    exact (getD_map_range_of_lt (by omega)).symm

end CogentModel.Calc
