import CogentModel.Model.AlnPred
import CogentModel.Proofs.AlnFilter
/-! The predicate side of `filtered` (C03): the `kept` toggle over motif positions is the
run-length encoding of the expanded column mask, and taking the columns of the expanded mask is the natural
"kept motifs joined" operation on a string. -/
namespace CogentModel.Aln
open CogentModel.IndelMap List CogentModel

/-- every row holds at least `numMotifs` whole motifs -/
theorem numMotifs_le (ml : Nat) (rows : List (List Char)) (s : List Char) (hs : s ∈ rows) :
    ml * numMotifs ml rows ≤ s.length := by
  unfold numMotifs
  cases rows with
  | nil => cases hs
  | cons r0 rest =>
    -- the fold is the list's `min?`, hence below every quotient
    have hb := (min?_eq_some_iff.1 (min?_cons' (x := r0.length / ml) (xs := rest.map fun s => s.length / ml))).2
      _ (mem_map_of_mem (f := fun s => s.length / ml) hs)
    calc ml * _ ≤ ml * (s.length / ml) := Nat.mul_le_mul_left _ hb
      _ ≤ s.length := Nat.mul_div_le _ _

theorem verdicts_length (pred : List (List Char) → Bool) (ml : Nat) : ∀ (k : Nat) (rows : List (List Char)),
    (verdicts pred ml k rows).length = k := by
  intro k
  induction k with
  | zero => intro rows; rfl
  | succ k ih => intro rows; simp [verdicts, ih]

/-- the column mask of a list of motif verdicts -/
def expandMask (ml : Nat) (vs : List Bool) : List Bool := vs.flatMap fun v => replicate ml v

theorem maskRuns_replicate_true (r : List Bool) : ∀ (k : Nat) (pos : Int) (start : Option Int),
    maskRuns pos start (replicate (k + 1) true ++ r) = maskRuns (pos + (k + 1 : Nat)) (some (start.getD pos)) r
  | 0, _, _ => rfl
  | k + 1, pos, start => by
    rw [replicate_succ, cons_append, maskRuns, maskRuns_replicate_true r k, Option.getD_some]
    congr 1; push_cast; omega

theorem maskRuns_replicate_false (r : List Bool) : ∀ (k : Nat) (pos : Int) (start : Option Int),
    maskRuns pos start (replicate (k + 1) false ++ r)
      = (start.map (·, pos)).toList ++ maskRuns (pos + (k + 1 : Nat)) none r
  | 0, pos, start => maskRuns_false pos start r
  | k + 1, pos, start => by
    rw [replicate_succ, cons_append, maskRuns_false, maskRuns_replicate_false r k, Option.map_none, Option.toList_none,
      nil_append]
    congr 2; push_cast; omega

/-- the `kept` toggle of `Alignment.filtered` over motif positions = run-length blocks of the column mask -/
theorem motifRuns_eq (ml : Nat) (hml : 0 < ml) (vs : List Bool) : ∀ (pos : Nat) (start : Option Int),
    motifRuns ml pos start vs = maskRuns ((pos * ml : Nat) : Int) start (expandMask ml vs) := by
  obtain ⟨k, rfl⟩ := Nat.exists_eq_add_one_of_ne_zero (Nat.ne_of_gt hml)
  induction vs with
  | nil => intro pos start; cases start <;> rfl
  | cons v r ih =>
    intro pos start
    have e : (((pos + 1) * (k + 1) : Nat) : Int) = ((pos * (k + 1) : Nat) : Int) + ((k + 1 : Nat) : Int) := by
      push_cast; rw [Int.add_mul]; omega
    cases v with
    | true =>
      simp only [motifRuns, expandMask, flatMap_cons]
      rw [maskRuns_replicate_true, ih, e]; rfl
    | false =>
      simp only [motifRuns, expandMask, flatMap_cons]
      rw [maskRuns_replicate_false, ih, e]; cases start <;> rfl

theorem denseFilter_append (xs ys : List Char) (m1 m2 : List Bool) (h : xs.length = m1.length) :
    denseFilter (xs ++ ys) (m1 ++ m2) = denseFilter xs m1 ++ denseFilter ys m2 := by
  unfold denseFilter
  rw [zip_append h, filter_append, map_append]

theorem denseFilter_replicate (xs : List Char) (v : Bool) :
    denseFilter xs (replicate xs.length v) = if v then xs else [] := by
  induction xs with
  | nil => cases v <;> simp [denseFilter]
  | cons c t ih =>
    cases v with
    | true => rw [length_cons, replicate_succ, denseFilter_cons_true, ih]; rfl
    | false => rw [length_cons, replicate_succ, denseFilter_cons_false, ih]; rfl

/-- taking the columns of the expanded mask = joining the kept motifs -/
theorem denseFilter_expand (ml : Nat) (vs : List Bool) : ∀ (s : List Char), ml * vs.length ≤ s.length →
    denseFilter s (expandMask ml vs) = keepMotifs ml vs s := by
  induction vs with
  | nil => intro s _; simp [expandMask, keepMotifs, denseFilter]
  | cons v r ih =>
    intro s hs
    simp only [length_cons, Nat.mul_succ] at hs
    have hl : (s.take ml).length = ml := by rw [length_take]; omega
    have hsplit : s = s.take ml ++ s.drop ml := (take_append_drop ml s).symm
    simp only [expandMask, flatMap_cons, keepMotifs]
    rw [← ih (s.drop ml) (by rw [length_drop]; omega)]
    conv => lhs; rw [hsplit]
    rw [denseFilter_append _ _ _ _ (by rw [hl, length_replicate])]
    congr 1
    have := denseFilter_replicate (s.take ml) v
    rw [hl] at this
    exact this

theorem expandMask_all (ml : Nat) (hml : 0 < ml) (vs : List Bool) :
    (expandMask ml vs).all (! ·) = vs.all (! ·) := by
  induction vs with
  | nil => rfl
  | cons v r ih =>
    simp only [expandMask, flatMap_cons, all_append, all_cons] at ih ⊢
    rw [ih]
    congr 1
    cases v <;> simp [all_replicate]; omega

/-- what `keepMotifs` keeps of a row are its motifs in columns with a positive verdict, whatever the predicate -/
theorem keepMotifs_verdicts (pred : List (List Char) → Bool) (ml : Nat) : ∀ (k : Nat) (rows : List (List Char))
    (s : List Char), s ∈ rows → ∀ c ∈ keepMotifs ml (verdicts pred ml k rows) s,
      ∃ col, pred col = true ∧ ∃ m ∈ col, c ∈ m := by
  intro k
  induction k with
  | zero => intro rows s _ c hc; cases hc
  | succ k ih =>
    intro rows s hs c hc
    simp only [verdicts, keepMotifs, mem_append] at hc
    rcases hc with hc | hc
    · by_cases hv : pred (rows.map (·.take ml)) = true
      · rw [if_pos hv] at hc
        exact ⟨_, hv, _, mem_map.mpr ⟨s, hs, rfl⟩, hc⟩
      · rw [if_neg hv] at hc
        cases hc
    · exact ih (rows.map (·.drop ml)) (s.drop ml) (mem_map.mpr ⟨s, hs, rfl⟩) c hc

end CogentModel.Aln
