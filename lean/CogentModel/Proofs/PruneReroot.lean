import Mathlib.Algebra.BigOperators.Ring.Finset
import Mathlib.Algebra.BigOperators.Group.Finset.Sigma
import Mathlib.Data.List.Perm.Basic
import Mathlib.Tactic.Ring
import CogentModel.Proofs.PruneCongruence
import CogentModel.Proofs.PruneDetailedBalance
import CogentModel.Model.PruneInvariance
/-!
C11: moving the root.  `Reroot` (the root placements reachable by moves across edges) keeps the set of edge matrices;
`plug`/`descend`, from which cogent3's `rooted_at` is seen to yield a `Reroot`-related tree; and the identity of one
edge in detailed balance behind the pulley principle.
-/
namespace CogentModel.Prune
open Finset

section trees
variable {R α : Type}

/-- root placements reachable by moving the root across edges and reordering its children -/
inductive Reroot : PTree R α → PTree R α → Prop
  | refl (t : PTree R α) : Reroot t t
  | move (P0 P0' P : Mat R) (cs ds : List (PTree R α)) :
      Reroot (.node P0 (.node P cs :: ds)) (.node P0' (.node P ds :: cs))
  | perm (P0 : Mat R) (cs cs' : List (PTree R α)) : cs.Perm cs' → Reroot (.node P0 cs) (.node P0 cs')
  | trans (t u v : PTree R α) : Reroot t u → Reroot u v → Reroot t v


/-- the edges below a list of siblings: each sibling's own edge and the edges below it -/
theorem mem_edgeMatsL {Q : Mat R} {cs : List (PTree R α)} :
    Q ∈ PTree.edgeMatsL cs ↔ ∃ c ∈ cs, Q = c.mat ∨ Q ∈ c.edgeMats := by
  induction cs with
  | nil => simp [PTree.edgeMatsL]
  | cons c cs ih =>
    simp only [PTree.edgeMatsL, List.mem_cons, List.mem_append, ih, exists_eq_or_imp, or_assoc]

/-- moving the root keeps the set of edge matrices -/
theorem mem_edgeMats_reroot {t t' : PTree R α} (h : Reroot t t') (Q : Mat R) :
    Q ∈ t.edgeMats ↔ Q ∈ t'.edgeMats := by
  induction h with
  | refl t => exact Iff.rfl
  | move P0 P0' P cs ds =>
    simp only [PTree.edgeMats, PTree.edgeMatsL, PTree.mat_node, List.mem_cons, List.mem_append]
    rw [or_comm (a := Q ∈ PTree.edgeMatsL cs)]
  | perm P0 cs cs' hp => simp only [PTree.edgeMats, mem_edgeMatsL, hp.mem_iff]
  | trans t u v _ _ ih1 ih2 => exact ih1.trans ih2

/-! ### `rooted_at` produces a tree related by `Reroot` -/

theorem pick_eq {β : Type} : ∀ (i : Nat) (xs b : List β) (x : β) (a : List β),
    pick i xs = some (b, x, a) → xs = b ++ x :: a
  | _, [], _, _, _, h => by simp [pick] at h
  | 0, y :: ys, b, x, a, h => by
    simp only [pick, Option.some.injEq, Prod.mk.injEq] at h
    obtain ⟨rfl, rfl, rfl⟩ := h; rfl
  | i + 1, y :: ys, b, x, a, h => by
    simp only [pick, Option.map_eq_some_iff] at h
    obtain ⟨⟨b', x', a'⟩, hp, he⟩ := h
    simp only [Prod.mk.injEq] at he
    obtain ⟨rfl, rfl, rfl⟩ := he
    simp [pick_eq i ys b' x' a' hp]

theorem plug_descend : ∀ (p : List Nat) (t : PTree R α) (fs : List (Frame R α)) (x : PTree R α)
    (fs' : List (Frame R α)), descend p t fs = some (x, fs') → plug x fs' = plug t fs
  | [], t, fs, x, fs', h => by
    simp only [descend, Option.some.injEq, Prod.mk.injEq] at h
    obtain ⟨rfl, rfl⟩ := h; rfl
  | _ :: _, .leaf _ _, fs, x, fs', h => by simp [descend] at h
  | i :: p, .node P cs, fs, x, fs', h => by
    simp only [descend] at h
    split at h
    · simp at h
    · rename_i b y a hp
      rw [plug_descend p y _ x fs' h, plug, ← pick_eq i cs b y a hp]

theorem reroot_plug : ∀ (fs : List (Frame R α)) (P : Mat R) (cs : List (PTree R α)),
    Reroot (plug (.node P cs) fs) (.node P (cs ++ upTail P fs))
  | [], P, cs => by
    simp only [plug, upTail, List.append_nil]
    exact .refl _
  | f :: rest, P, cs => by
    have ih := reroot_plug rest f.mat (f.before ++ .node P cs :: f.after)
    simp only [plug, upTail]
    refine .trans _ _ _ ih ?_
    refine .trans _ (.node f.mat (.node P cs :: (f.before ++ f.after ++ upTail f.mat rest))) _
      (.perm _ _ _ ?_) ?_
    · simp only [List.append_assoc, List.cons_append]
      exact List.perm_middle
    · refine .trans _ _ _ (.move f.mat P P cs (f.before ++ f.after ++ upTail f.mat rest)) (.perm _ _ _ ?_)
      exact List.perm_append_comm (l₁ := [_])

end trees

section semiring
variable {R : Type} [CommSemiring R] {α : Type}

/-- an edge in detailed balance can be read from either end: `⟨P u, w⟩ = ⟨u, P w⟩` for `⟨u, w⟩ = Σ_s π s · u s · w s` -/
theorem dot_upWith_comm (m : Nat) (π : Nat → R) (P : Mat R) (hdb : DetailedBalance m π P) (u w : Vec R) :
    dot m (mulVec m (upWith m P u) w) π = dot m (mulVec m (upWith m P w) u) π := by
  simp only [dot_eq, mulVec_get, upWith_get, Finset.sum_mul]
  rw [Finset.sum_comm]
  refine sum_range_congr fun j hj => sum_range_congr fun i hi => ?_
  have := hdb i j hi hj
  calc P i j * u.get j * w.get i * π i = (π i * P i j) * (u.get j * w.get i) := by ring
    _ = (π j * P j i) * (u.get j * w.get i) := by rw [this]
    _ = P j i * w.get i * u.get j * π j := by ring

end semiring
end CogentModel.Prune
