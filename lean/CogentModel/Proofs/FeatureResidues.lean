import CogentModel.Proofs.FeatureOnView
import CogentModel.Proofs.SeqWrap
/-! From positions to residues on C01's `Sequence` wrapper: the character `str s` shows at a view index is the parent's
residue at the position shown there, complemented on a reversed nucleic view (`str_getElem`, `residues_of_positions`). -/
namespace CogentModel.FeatureView
open CogentModel.View CogentModel.FeatureSpec CogentModel.SeqWrap

instance (s : Seq) : Decidable (WF s) := by unfold WF; infer_instance

/-- the character `str s` shows at view index `i`, any stride: the parent's residue at the position shown there,
complemented on a reversed nucleic view -/
theorem str_getElem (comp : Char → Char) (s : Seq) (hw : WF s) (i : Int) (h0 : 0 ≤ i) (h1 : i < len s.v) :
    (str comp s)[i.toNat]! =
      (if s.v.step < 0 ∧ s.nucleic then comp else id) (s.parent[(viewPosAny s.v i - s.v.offset).toNat]!) := by
  rw [str_eq_elems comp s hw, List.getElem!_eq_getElem?_getD, List.getElem?_map, elems_getElem? s.v i h0 h1]
  simp only [Option.map_some, Option.getD_some]
  rw [show viewPosAny s.v i - s.v.offset = first s.v + i * s.v.step by unfold viewPosAny first; omega]

/-- residues from positions, on a view of any stride: if the view indices `I` (all inside the view) show the absolute
positions `D` when read in the direction `rev`, then the characters of `str s` at `I`, reverse complemented iff `rev`, are
the parent's residues at `D`, complemented iff exactly one of view and feature is reversed -/
theorem residues_of_positions (comp : Char → Char) (hcomp : ∀ x, comp (comp x) = x) (s : Seq) (hw : WF s)
    (hn : s.v.step < 0 → s.nucleic = true) (I : List Int) (hI : ∀ i ∈ I, 0 ≤ i ∧ i < len s.v) (rev : Bool)
    (D : List Int × Bool)
    (hpos : (if rev then (I.map (viewPosAny s.v)).reverse else I.map (viewPosAny s.v),
      (decide (s.v.step < 0)) != rev) = D) :
    (if rev then ((I.map fun i => (str comp s)[i.toNat]!).reverse).map comp else I.map fun i => (str comp s)[i.toNat]!) =
      D.1.map (fun p => (if D.2 then comp else id) (s.parent[(p - s.v.offset).toNat]!)) := by
  have hjoin : I.map (fun i => (str comp s)[i.toNat]!) =
      (I.map (viewPosAny s.v)).map
        (fun p => (if s.v.step < 0 ∧ s.nucleic then comp else id) (s.parent[(p - s.v.offset).toNat]!)) := by
    rw [List.map_map]
    exact List.map_congr_left fun i hi => str_getElem comp s hw i (hI i hi).1 (hI i hi).2
  -- one residue: the view's complement, then the feature's, is a complement iff exactly one of them applies
  have key : ∀ (r : Bool) (x : Char), (if r then comp else id) ((if s.v.step < 0 ∧ s.nucleic then comp else id) x) =
      (if (decide (s.v.step < 0) != r) then comp else id) x := by
    intro r x
    by_cases hstep : s.v.step < 0 <;> cases r <;> simp [hstep, hn, hcomp]
  subst hpos
  rw [hjoin]
  cases rev
  · exact List.map_congr_left fun p _ => key false _
  · rw [← List.map_reverse, List.map_map]
    exact List.map_congr_left fun p _ => key true _

end CogentModel.FeatureView
