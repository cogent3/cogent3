import CogentModel.Proofs.KVLemmas
import CogentModel.Model.DataStoreSqlite
import CogentModel.Spec.DataStoreSqlSafe
/-! C13 — simulation between the SQLite store model and the dictionary spec -/
namespace CogentModel.DataStoreSqlite
open CogentModel.KV CogentModel.DataStore CogentModel.DataStoreDict

variable {D : Type} {H : D → D} {s : Sql D} {d : Dict D}

theorem stripTable_eq (i : Str) : stripTable sResults i = sN i := rfl

/-- the row the dictionary state prescribes for record id `n` -/
def rowOf (H : D → D) (d : Dict D) (n : Str) : Option (Row D) :=
  match get d.completed n with
  | some v => some ⟨v, H v, true⟩
  | none => (get d.notCompleted n).map fun v => ⟨v, H v, false⟩

structure SimS (H : D → D) (s : Sql D) (d : Dict D) : Prop where
  hmode : s.mode = d.mode
  rowsNd : (keys s.rows).Nodup
  rows : ∀ n, get s.rows n = rowOf H d n
  disj : ∀ n, n ∈ keys d.completed → n ∉ keys d.notCompleted
  ndC : (keys d.completed).Nodup
  ndN : (keys d.notCompleted).Nodup
  cacheC : s.cCache = [] ∨ (s.cCache.Nodup ∧ ∀ n, n ∈ s.cCache ↔ n ∈ keys d.completed)
  cacheN : s.ncCache = [] ∨ (s.ncCache.Nodup ∧ ∀ n, n ∈ s.ncCache ↔ n ∈ keys d.notCompleted)

/-- the relation only looks at the mode, the `results` table and the member lists -/
theorem simS_congr {s' : Sql D} (h : SimS H s d) (e1 : s'.mode = s.mode) (e2 : s'.rows = s.rows)
    (cC : s'.cCache = [] ∨ Listed s'.cCache (keys d.completed))
    (cN : s'.ncCache = [] ∨ Listed s'.ncCache (keys d.notCompleted)) :
    SimS H s' d :=
  ⟨e1 ▸ h.hmode, e2 ▸ h.rowsNd, e2 ▸ h.rows, h.disj, h.ndC, h.ndN, cC, cN⟩

theorem rowOf_of_completed {n : Str} {v : D} (hv : get d.completed n = some v) : rowOf H d n = some ⟨v, H v, true⟩ := by
  simp only [rowOf, hv]

theorem rowOf_of_nc (h : SimS H s d) {n : Str} {v : D} (hv : get d.notCompleted n = some v) :
    rowOf H d n = some ⟨v, H v, false⟩ := by
  have hc : get d.completed n = none := get_none_of_not_mem fun hc => h.disj n hc (mem_of_get_some hv)
  simp only [rowOf, hc, hv, Option.map_some]

theorem rowOf_of_not_mem {n : Str} (hc : n ∉ keys d.completed) (hn : n ∉ keys d.notCompleted) : rowOf H d n = none := by
  simp only [rowOf, get_none_of_not_mem hc, get_none_of_not_mem hn, Option.map_none]

/-- the `is_completed` flag tells the two dictionaries apart -/
theorem rowOf_flag_iff (h : SimS H s d) (n : Str) (b : Bool) :
    (∃ r, rowOf H d n = some r ∧ r.completed = b) ↔ n ∈ keys (if b then d.completed else d.notCompleted) := by
  by_cases hc : n ∈ keys d.completed
  · obtain ⟨v, hv⟩ := exists_get_of_mem hc
    rw [rowOf_of_completed hv]
    cases b
    · simpa using h.disj n hc
    · simpa using hc
  · by_cases hn : n ∈ keys d.notCompleted
    · obtain ⟨v, hv⟩ := exists_get_of_mem hn
      rw [rowOf_of_nc h hv]
      cases b
      · simpa using hn
      · simpa using hc
    · rw [rowOf_of_not_mem hc hn]
      cases b <;> simp [hc, hn]

/-- a record written to one of the dictionaries (`b`: the completed one) changes one prescribed row -/
theorem rowOf_put (d : Dict D) (id : Str) (data : D) (b : Bool) (hc : b = false → get d.completed id = none) (n : Str) :
    rowOf H (if b then { d with completed := put d.completed id data }
             else { d with notCompleted := put d.notCompleted id data }) n =
      if n = id then some ⟨data, H data, b⟩ else rowOf H d n := by
  cases b
  · simp only [Bool.false_eq_true, if_false, rowOf, get_put]
    by_cases h : n = id
    · subst h; simp [hc rfl]
    · simp [h]
  · simp only [if_true, rowOf, get_put]
    by_cases h : n = id <;> simp [h]

theorem selectMembers_listed (h : SimS H s d) (b : Bool) :
    Listed (selectMembers s b) (keys (if b then d.completed else d.notCompleted)) := by
  refine ⟨nodup_filter _ _ h.rowsNd, fun n => ?_⟩
  rw [← rowOf_flag_iff h, ← h.rows n, selectMembers, List.mem_map]
  constructor
  · rintro ⟨⟨k, r⟩, hm, rfl⟩
    obtain ⟨hm1, hp⟩ := List.mem_filter.mp hm
    exact ⟨r, (mem_iff_get h.rowsNd _ _).mp hm1, by simpa using hp⟩
  · rintro ⟨r, hg, hb⟩
    exact ⟨(n, r), List.mem_filter.mpr ⟨(mem_iff_get h.rowsNd _ _).mpr hg, by simp [hb]⟩, rfl⟩

theorem populate_eq (s : Sql D) :
    populate s = { s with cCache := if s.cCache.isEmpty then selectMembers s true else s.cCache,
                          ncCache := if s.ncCache.isEmpty then selectMembers s false else s.ncCache } := by
  obtain ⟨_, _, _, _, _, _, _, cc, nc⟩ := s
  cases cc <;> cases nc <;> rfl

theorem populate_mode (s : Sql D) : (populate s).mode = s.mode := by rw [populate_eq]

theorem populate_rows (s : Sql D) : (populate s).rows = s.rows := by rw [populate_eq]

theorem simS_populate (h : SimS H s d) :
    SimS H (populate s) d ∧ Listed (populate s).cCache (keys d.completed) ∧
      Listed (populate s).ncCache (keys d.notCompleted) := by
  have hc := Listed.refill h.cacheC (selectMembers_listed h true)
  have hn := Listed.refill h.cacheN (selectMembers_listed h false)
  rw [populate_eq]
  exact ⟨simS_congr h rfl rfl (.inr hc) (.inr hn), hc, hn⟩

theorem contains_iff (hc : Listed s.cCache (keys d.completed)) (hn : Listed s.ncCache (keys d.notCompleted)) (id : Str) :
    contains s id = (has d.completed id || has d.notCompleted id) := by
  rw [Bool.eq_iff_iff]
  simp only [contains, Bool.or_eq_true, hc.contains_iff, hn.contains_iff, has_iff_mem]

/-- The `db` property touches only the connection (file, connection flag, lock); on a read-only store only the
    connection flag; and it succeeds on a writable store unless an OVERWRITE finds the database locked. -/
theorem connect_spec (s : Sql D) :
    ∃ f c l e, connect s = ({ s with fileExists := f, connected := c, locked := l }, e) ∧
      (s.mode = .r → f = s.fileExists ∧ l = s.locked) ∧ (connOk s = true → s.mode ≠ .r → e = none) := by
  unfold connect
  by_cases h1 : s.connected = true
  · rw [if_pos h1]; exact ⟨s.fileExists, s.connected, s.locked, none, rfl, fun _ => ⟨rfl, rfl⟩, fun _ _ => rfl⟩
  · rw [if_neg h1]
    by_cases h2 : s.mode = .r
    · rw [if_pos h2]
      by_cases h3 : s.fileExists = true
      · rw [if_pos h3]; exact ⟨s.fileExists, true, s.locked, none, rfl, fun _ => ⟨rfl, rfl⟩, fun _ hr => absurd h2 hr⟩
      · rw [if_neg h3]; exact ⟨s.fileExists, s.connected, s.locked, _, rfl, fun _ => ⟨rfl, rfl⟩, fun _ hr => absurd h2 hr⟩
    · rw [if_neg h2]
      dsimp only
      by_cases h4 : (s.locked && decide (s.mode = .w)) = true
      · rw [if_pos h4]
        refine ⟨true, true, s.locked, _, rfl, fun hr => absurd hr h2, fun hc _ => ?_⟩
        -- locked and OVERWRITE and not yet connected: `connOk` fails
        simp only [Bool.and_eq_true, decide_eq_true_eq] at h4
        simp [connOk, h1, h4.1, h4.2] at hc
      · rw [if_neg h4]; exact ⟨true, true, true, none, rfl, fun hr => absurd hr h2, fun _ _ => rfl⟩

theorem connect_mode (s : Sql D) : (connect s).1.mode = s.mode := by
  obtain ⟨f, c, l, e, he, -, -⟩ := connect_spec s
  rw [he]

theorem simS_connect (h : SimS H s d) : SimS H (connect s).1 d := by
  obtain ⟨f, c, l, e, he, -, -⟩ := connect_spec s
  rw [he]; exact simS_congr h rfl rfl h.cacheC h.cacheN

theorem connect_writable (h : SimS H s d) (hc : connOk s = true) (hr : s.mode ≠ .r) :
    ∃ s1, connect s = (s1, none) ∧ SimS H s1 d := by
  obtain ⟨f, c, l, e, he, -, hok⟩ := connect_spec s
  rw [he, hok hc hr]
  exact ⟨_, rfl, simS_congr h rfl rfl h.cacheC h.cacheN⟩

theorem initLog_state (s : Sql D) : ∃ l i, initLog s = { s with logRows := l, logId := i } := by
  unfold initLog; split <;> exact ⟨_, _, rfl⟩

theorem simS_initLog (h : SimS H s d) : SimS H (initLog s) d := by
  obtain ⟨l, i, e⟩ := initLog_state s
  rw [e]; exact simS_congr h rfl rfl h.cacheC h.cacheN

theorem initLog_mode (s : Sql D) : (initLog s).mode = s.mode := by
  obtain ⟨l, i, e⟩ := initLog_state s
  rw [e]

/-- the DELETE of `drop_not_completed`, in the two forms the dictionary's `drop` has -/
theorem dropRows_sim (h : SimS H s d) (id : Str) :
    SimS H (dropRows s id)
      (if id.isEmpty then { d with notCompleted := [] } else { d with notCompleted := del d.notCompleted id }) := by
  by_cases he : id.isEmpty = true
  · rw [if_pos he]
    refine ⟨h.hmode, nodup_filter _ _ h.rowsNd, fun n => ?_, fun n _ hn' => (by cases hn'), h.ndC, List.nodup_nil, h.cacheC,
      Or.inl rfl⟩
    show get (s.rows.filter _) n = _
    rw [get_filter _ _ h.rowsNd n, h.rows n, rowOf, rowOf]
    cases get d.completed n <;> cases get d.notCompleted n <;> simp [he, KV.get]
  · rw [if_neg he]
    refine ⟨h.hmode, nodup_filter _ _ h.rowsNd, fun n => ?_, fun n hn hn' => h.disj n hn ((mem_keys_del _ _ _).mp hn').2, h.ndC,
      nodup_del _ _ h.ndN, h.cacheC, Or.inl rfl⟩
    show get (s.rows.filter _) n = _
    rw [get_filter _ _ h.rowsNd n, h.rows n, rowOf, rowOf]
    simp only [get_del]
    -- a completed row passes the filter of the DELETE, a not-completed one unless it is the row of `id`
    by_cases hid : n = id <;> cases get d.completed n <;> cases get d.notCompleted n <;> simp [he, hid]

/-- A record for `id` is written (`b`: completed).  The identifier has no not-completed record; a completed one only if a
    completed record is written to a store not in append mode (then the row is UPDATEd, else a row is INSERTed): either
    way the row of `id` becomes `(data, H data, b)` and nothing else changes. -/
theorem writeRow_spec (h : SimS H s d) (id : Str) (data : D) (b : Bool) (hn : id ∉ keys d.notCompleted)
    (hc : id ∈ keys d.completed → b = true ∧ d.mode ≠ .a) :
    ∃ s', writeRow H s id data b = (s', .done (some id)) ∧ s'.mode = s.mode ∧ (keys s'.rows).Nodup ∧
      (∀ n, get s'.rows n = if n = id then some ⟨data, H data, b⟩ else rowOf H d n) ∧
      Listed s'.cCache (keys d.completed) ∧ Listed s'.ncCache (keys d.notCompleted) := by
  obtain ⟨hp, lc, ln⟩ := simS_populate (simS_initLog h)
  have hmode : (populate (initLog s)).mode = s.mode := by rw [populate_mode, initLog_mode]
  have hcont := contains_iff lc ln id
  rw [has_eq_false_iff.mpr hn, Bool.or_false] at hcont
  unfold writeRow
  dsimp only
  by_cases hin : id ∈ keys d.completed
  · obtain ⟨hb, hna⟩ := hc hin
    obtain ⟨v, hv⟩ := exists_get_of_mem hin
    have hupd : (contains (populate (initLog s)) id && (populate (initLog s)).mode != .a) = true := by
      rw [hcont, has_iff_mem.mpr hin, hmode, h.hmode]; simpa using hna
    rw [if_pos hupd]
    refine ⟨_, rfl, hmode, ?_, fun n => ?_, lc, ln⟩
    · show (keys ((populate (initLog s)).rows.map _)).Nodup
      rw [keys_mapval (fun r : Row D => ({ r with data := data, md5 := H data } : Row D)) id]
      exact hp.rowsNd
    · show get ((populate (initLog s)).rows.map _) n = _
      rw [get_mapval (fun r : Row D => ({ r with data := data, md5 := H data } : Row D)) id, hp.rows n]
      by_cases hid : n = id
      · rw [if_pos hid, if_pos hid, hid, rowOf_of_completed hv, hb]; rfl
      · rw [if_neg hid, if_neg hid]
  · have hrow : id ∉ keys (populate (initLog s)).rows := fun e => by
      obtain ⟨r, hr⟩ := exists_get_of_mem e
      rw [hp.rows id, rowOf_of_not_mem hin hn] at hr
      cases hr
    rw [hcont, has_eq_false_iff.mpr hin, Bool.false_and, if_neg Bool.false_ne_true, has_eq_false_iff.mpr hrow,
      if_neg Bool.false_ne_true]
    refine ⟨_, rfl, hmode, nodup_append_single hrow _ hp.rowsNd, fun n => ?_, lc, ln⟩
    show get ((populate (initLog s)).rows ++ [(id, _)]) n = _
    rw [get_append_single hrow, hp.rows n]

abbrev taken (d : Dict D) (id : Str) : Bool := has d.completed id || has d.notCompleted id

theorem rejects_write (sfx i : Str) (data : D) :
    rejects .sqlite sfx d (.write i data) = (decide (d.mode = .r) || (decide (d.mode = .a) && taken d (sN i))) := by
  simp [rejects, cName, ncName]

theorem rejects_writeNc (sfx i : Str) (data : D) :
    rejects .sqlite sfx d (.writeNc i data) = (decide (d.mode = .r) || (decide (d.mode = .a) && taken d (sN i))) := by
  simp [rejects, cName, ncName]

theorem checkWritable_ro {id : Str} (hr : s.mode = .r) : checkWritable s id = (s, some .ioError) := by
  unfold checkWritable; rw [if_pos hr]

/-- `_check_writable`: the relation is kept whatever happens.  Unless the connection is refused, it raises exactly when the
    dictionary rejects a write or a not-completed write of `id`; otherwise the member lists are filled and, in append mode,
    the identifier is free. -/
theorem checkWritable_spec (h : SimS H s d) (id : Str) :
    ∃ s2 e, checkWritable s id = (s2, e) ∧ SimS H s2 d ∧ (connOk s = true →
      e.isSome = (decide (d.mode = .r) || (decide (d.mode = .a) && taken d id)) ∧
      (e = none → Listed s2.cCache (keys d.completed) ∧ Listed s2.ncCache (keys d.notCompleted) ∧
        (d.mode = .a → id ∉ keys d.completed ∧ id ∉ keys d.notCompleted))) := by
  by_cases hr : s.mode = .r
  · exact ⟨_, _, checkWritable_ro hr, h, fun _ => ⟨by simp [← h.hmode, hr], fun e => by cases e⟩⟩
  · have hdm : d.mode ≠ .r := h.hmode ▸ hr
    obtain ⟨f, c, l, e, he, -, hok⟩ := connect_spec s
    have h1 : SimS H { s with fileExists := f, connected := c, locked := l } d := simS_congr h rfl rfl h.cacheC h.cacheN
    obtain ⟨h2, lc, ln⟩ := simS_populate h1
    unfold checkWritable
    rw [if_neg hr, he]
    cases e with
    | some e => exact ⟨_, _, rfl, h1, fun hc => by cases hok hc hr⟩
    | none =>
      simp only [contains_iff lc ln id, h2.hmode]
      by_cases ht : (taken d id && decide (d.mode = .a)) = true
      · rw [if_pos ht]
        exact ⟨_, _, rfl, h2, fun _ => ⟨by simp only [Bool.and_comm] at ht; simp [ht], fun e => by cases e⟩⟩
      · rw [if_neg ht]
        exact ⟨_, _, rfl, h2, fun _ => ⟨by simp only [Bool.and_comm] at ht; simp [ht, hdm],
          fun _ => ⟨lc, ln, fun ha => by simpa [taken, ha, has_eq_false_iff] using ht⟩⟩⟩

theorem write_simS (h : SimS H s d) (hc : connOk s = true) (i : Str) (data : D) (hne : sN i ≠ []) :
    SimS H (write H s i data).1 (specStep .sqlite [] d (.write i data)) := by
  unfold write specStep
  dsimp only
  rw [stripTable_eq, rejects_write]
  obtain ⟨s2, e, he, h2, hg⟩ := checkWritable_spec h (sN i)
  obtain ⟨hrej, hl⟩ := hg hc
  rw [he, ← hrej]
  cases e with
  | some e => exact h2
  | none =>
    obtain ⟨lc, ln, hfree⟩ := hl rfl
    rw [Option.isSome_none, if_neg Bool.false_ne_true]
    dsimp only
    -- the identifier is not empty, so the DELETE removes its not-completed record only
    have hd := dropRows_sim h2 (sN i)
    rw [if_neg (by simpa using hne)] at hd
    obtain ⟨s3, e3, hm3, hnd3, hrows3, lc3, ln3⟩ :=
      writeRow_spec hd (sN i) data true (not_mem_keys_del _ _)
        (fun hin => ⟨rfl, fun ha => (hfree ha).1 hin⟩)
    rw [e3]
    dsimp only
    have hst : (if s3.cCache.contains (sN i) then s3 else { s3 with cCache := s3.cCache ++ [sN i] }) =
        { s3 with cCache := if s3.cCache.contains (sN i) then s3.cCache else s3.cCache ++ [sN i] } := by
      split <;> rfl
    rw [hst]
    refine ⟨hm3.trans h2.hmode, hnd3, fun n => (hrows3 n).trans ?_, fun n hn hn' => ?_, nodup_put _ _ _ h.ndC,
      nodup_del _ _ h.ndN, .inr (lc3.insert_put (sN i) data), .inr ln3⟩
    · exact (rowOf_put (H := H) { d with notCompleted := del d.notCompleted (sN i) } (sN i) data true
        (fun e => by cases e) n).symm
    · obtain ⟨hne', hmem⟩ := (mem_keys_del _ _ _).mp hn'
      exact ((mem_keys_put _ _ _ _).mp hn).elim hne' fun e => h.disj n e hmem

theorem writeNc_simS (h : SimS H s d) (hc : connOk s = true) (i : Str) (data : D)
    (hw : d.mode = .w → sN i ∉ keys d.completed ∧ sN i ∉ keys d.notCompleted) :
    SimS H (writeNc H s i data).1 (specStep .sqlite [] d (.writeNc i data)) := by
  unfold writeNc specStep
  dsimp only
  rw [stripTable_eq, rejects_writeNc]
  obtain ⟨s2, e, he, h2, hg⟩ := checkWritable_spec h (sN i)
  obtain ⟨hrej, hl⟩ := hg hc
  rw [he, ← hrej]
  cases e with
  | some e => exact h2
  | none =>
    obtain ⟨lc, ln, hfree⟩ := hl rfl
    rw [Option.isSome_none, if_neg Bool.false_ne_true]
    dsimp only
    -- accepted: the identifier has no record of either kind
    have hfresh : sN i ∉ keys d.completed ∧ sN i ∉ keys d.notCompleted := by
      cases hmode : d.mode with
      | r => simp [hmode] at hrej
      | w => exact hw hmode
      | a => exact hfree hmode
    obtain ⟨s3, e3, hm3, hnd3, hrows3, lc3, ln3⟩ :=
      writeRow_spec h2 (sN i) data false hfresh.2 (fun hin => absurd hin hfresh.1)
    rw [e3]
    dsimp only
    refine ⟨hm3.trans h2.hmode, hnd3, fun n => (hrows3 n).trans ?_, fun n hn hn' => ?_, h.ndC, nodup_put _ _ _ h.ndN,
      .inr lc3, .inr (ln3.snoc_put hfresh.2 data)⟩
    · exact (rowOf_put (H := H) d (sN i) data false (fun _ => get_none_of_not_mem hfresh.1) n).symm
    · exact ((mem_keys_put _ _ _ _).mp hn').elim (fun e => hfresh.1 ((show n = sN i from e) ▸ hn)) (h.disj n hn)

theorem simS_dlogs (h : SimS H s d) (l : KV D) : SimS H s { d with logs := l } :=
  ⟨h.hmode, h.rowsNd, h.rows, h.disj, h.ndC, h.ndN, h.cacheC, h.cacheN⟩

theorem drop_simS (h : SimS H s d) (hc : connOk s = true) (i : Str) (hi : sN i = i) :
    SimS H (dropNc s i).1 (specStep .sqlite [] d (.drop i)) := by
  have hrejv : rejects .sqlite [] d (.drop i : Op D) = decide (d.mode = .r) := rfl
  unfold dropNc specStep
  rw [hrejv, ← h.hmode]
  by_cases hr : s.mode = .r
  · -- read-only: whatever the connection attempt gives, nothing is deleted
    have hm1 : (connect s).1.mode = .r := (connect_mode s).trans hr
    have hs1 := simS_connect h
    rw [if_pos (decide_eq_true hr)]
    generalize connect s = x at hs1 hm1
    obtain ⟨s1, _ | e⟩ := x
    · simp only at hm1 ⊢
      rw [if_pos hm1]; exact hs1
    · exact hs1
  · obtain ⟨s1, e, h1⟩ := connect_writable h hc hr
    have hm1 : s1.mode ≠ .r := by rw [h1.hmode, ← h.hmode]; exact hr
    rw [e, if_neg (by simpa using hr)]
    dsimp only
    rw [if_neg hm1]
    show SimS H _ (if i.isEmpty then _ else { d with notCompleted := del d.notCompleted (sN i) })
    rw [hi]
    exact dropRows_sim h1 i

theorem reopen_simS (h : SimS H s d) (m : Mode) :
    SimS H (reopen s m) (specStep .sqlite [] d (.reopen m)) := by
  have hs1 := simS_connect h
  exact ⟨rfl, hs1.rowsNd, hs1.rows, h.disj, h.ndC, h.ndN, Or.inl rfl, Or.inl rfl⟩

theorem observe_simS (h : SimS H s d) : SimS H (observe s).1 d := by
  unfold observe
  have hs1 := simS_connect h
  generalize connect s = x at hs1 ⊢
  obtain ⟨s1, _ | e⟩ := x
  · exact (simS_populate hs1).1
  · exact hs1

theorem unlock_simS (h : SimS H s d) : SimS H (unlock s).1 d := by
  unfold unlock
  split
  · exact h
  · have hs1 := simS_connect h
    generalize connect s = x at hs1 ⊢
    obtain ⟨s1, _ | e⟩ := x
    · exact simS_congr hs1 rfl rfl hs1.cacheC hs1.cacheN
    · exact hs1

theorem writeLog_simS (h : SimS H s d) (i : Str) (data : D) :
    SimS H (writeLog s i data).1 (specStep .sqlite [] d (.writeLog i data)) := by
  -- the `results` table is not touched, and the dictionary's records are not either
  have key : ∀ d', SimS H s d' → SimS H (writeLog s i data).1 d' := by
    intro d' h'
    unfold writeLog
    dsimp only
    obtain ⟨s1, e, he, hcw, -⟩ := checkWritable_spec h' (stripTable sLogs i)
    rw [he]
    cases e
    · have hl := simS_initLog hcw
      exact simS_congr hl rfl rfl hl.cacheC hl.cacheN
    · exact hcw
  unfold specStep
  split
  · exact key d h
  · exact key _ (simS_dlogs h _)

theorem step_simS (h : SimS H s d) (op : Op D) (hc : connOk s = true) (hs : safeS d op = true) :
    SimS H (step H s op).1 (specStep .sqlite [] d op) := by
  cases op with
  | write i data =>
    simp only [safeS, Bool.not_eq_true', List.isEmpty_eq_false_iff] at hs
    exact write_simS h hc i data hs
  | writeNc i data =>
    simp only [safeS, Bool.and_eq_true, Bool.or_eq_true, bne_iff_ne, ne_eq, Bool.not_eq_true',
      List.isEmpty_eq_false_iff, has_eq_false_iff] at hs
    exact writeNc_simS h hc i data fun hw => hs.2.resolve_left (fun e => e hw)
  | writeLog i data => exact writeLog_simS h i data
  | drop i =>
    simp only [safeS, decide_eq_true_eq] at hs
    exact drop_simS h hc i hs
  | reopen m => exact reopen_simS h m
  | observe => exact observe_simS h
  | unlock => exact unlock_simS h

theorem run_simS (ops : List (Op D)) : ∀ (s : Sql D) (d : Dict D), SimS H s d → safeHistS H s d ops = true →
    SimS H (run H s ops) (specRun .sqlite [] d ops) := by
  induction ops with
  | nil => intro s d h _; exact h
  | cons op ops ih =>
    intro s d h hs
    simp only [safeHistS, Bool.and_eq_true] at hs
    exact ih _ _ (step_simS h op hs.1.1 hs.1.2) hs.2

theorem simS_create (mode : Mode) : SimS H (Sql.create mode : Sql D) (Dict.empty mode) := by
  refine ⟨rfl, ?_, ?_, ?_, ?_, ?_, Or.inl rfl, Or.inl rfl⟩
  all_goals simp [Sql.create, Dict.empty, keys, KV.get, rowOf]

/-- no operation on a read-only store changes a persistent component of the database: the two tables, the
    `state.lock_pid` cell, the existence of the file -/
theorem step_readonly (H : D → D) (s : Sql D) (op : Op D) (hm : s.mode = .r) :
    (step H s op).1.rows = s.rows ∧ (step H s op).1.logRows = s.logRows ∧
    (step H s op).1.locked = s.locked ∧ (step H s op).1.fileExists = s.fileExists := by
  have hc : ((connect s).1.rows = s.rows ∧ (connect s).1.logRows = s.logRows ∧ (connect s).1.locked = s.locked ∧
      (connect s).1.fileExists = s.fileExists) ∧ (connect s).1.mode = .r := by
    obtain ⟨f, c, l, e, he, hro, -⟩ := connect_spec s
    obtain ⟨rfl, rfl⟩ := hro hm
    rw [he]; exact ⟨⟨rfl, rfl, rfl, rfl⟩, hm⟩
  cases op with
  | write i data => simp [step, write, checkWritable, hm]
  | writeNc i data => simp [step, writeNc, checkWritable, hm]
  | writeLog i data => simp [step, writeLog, checkWritable, hm]
  | unlock => simp [step, unlock, hm]
  | reopen m => exact hc.1
  | drop i =>
    simp only [step, dropNc]
    generalize connect s = x at hc
    obtain ⟨s1, _ | e⟩ := x
    · simp only at hc ⊢
      rw [if_pos hc.2]
      exact hc.1
    · exact hc.1
  | observe =>
    simp only [step, observe]
    generalize connect s = x at hc
    obtain ⟨s1, _ | e⟩ := x
    · simp only at hc ⊢
      rw [populate_eq]
      exact hc.1
    · exact hc.1

end CogentModel.DataStoreSqlite
