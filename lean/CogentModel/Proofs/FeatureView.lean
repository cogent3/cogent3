import CogentModel.Model.FeatureView
import CogentModel.Model.FeatureSeq
import CogentModel.Proofs.ExceptDecEq
/-! `make_feature` in closed form: `clipSpan` computes `clipped`, the intersection with the view (`clipSpan_eq_clipped`), the
clipped spans pass `_spans_from_locations` unchanged (`spansFromLocations_kept`), lost spans stand for the overhangs
(`cutMap`), an rc'd view mirrors the map (`makeFeature_eq`). -/
namespace CogentModel.FeatureView
open CogentModel.View

/-- clip then locate one span -/
def clipLocate (L : Int) (sp : Int × Int) : Except FErr (List MSpan) :=
  match clipSpan L sp with
  | none => .ok []
  | some c => locate L c

def realSpans (m : List MSpan) : List (Int × Int) :=
  m.filterMap fun | .span s e => some (s, e) | .lost _ => none

/-- what one view-relative span contributes: its intersection with `[0, L)`, if non-empty -/
def clipped (L : Int) (sp : Int × Int) : Option (Int × Int) :=
  if max sp.1 0 < min sp.2 L then some (max sp.1 0, min sp.2 L) else none

theorem clipped_eq_some {L : Int} {sp c : Int × Int} (h : clipped L sp = some c) :
    max sp.1 0 < min sp.2 L ∧ c = (max sp.1 0, min sp.2 L) := by
  unfold clipped at h
  split at h
  · exact ⟨‹_›, (Option.some.inj h).symm⟩
  · cases h

theorem clipped_bounds {L : Int} {sp c : Int × Int} (h : clipped L sp = some c) : 0 ≤ c.1 ∧ c.1 < c.2 ∧ c.2 ≤ L := by
  obtain ⟨h1, rfl⟩ := clipped_eq_some h
  simp only []; omega

/-- cutting to the view commutes with looking at it from the other end -/
theorem clipped_mirror (L a b : Int) :
    (clipped L (L - a, L - b)).map (fun p => (L - p.2, L - p.1)) = clipped L (b, a) := by
  have e1 : max (L - a) 0 = L - min a L := by omega
  have e2 : min (L - b) L = L - max b 0 := by omega
  simp only [clipped, e1, e2, Int.sub_lt_sub_left_iff, apply_ite (Option.map _), Option.map_some, Option.map_none,
    Int.sub_sub_self]
/-- on an ordered span the four-way case analysis of `make_feature` computes the intersection with `[0, L)`:
every branch that keeps the span clamps both ends into the view -/
theorem clipSpan_eq_clipped (L : Int) (hL : 0 < L) (sp : Int × Int) (hse : sp.1 ≤ sp.2) :
    clipSpan L sp = clipped L sp := by
  obtain ⟨s, e⟩ := sp
  simp only [clipSpan, clipped, Int.min_eq_left hse, Int.max_eq_right hse] at hse ⊢
  by_cases h1 : s < 0 ∧ 0 < e
  · rw [if_pos h1, if_pos (show max s 0 < min e L by omega)]; congr 2 <;> omega
  by_cases h2 : s < L ∧ L < e
  · rw [if_neg h1, if_pos h2, if_pos (show max s 0 < min e L by omega)]; congr 2 <;> omega
  by_cases h3 : s = e ∨ s ≥ L ∨ e ≤ 0
  · rw [if_neg h1, if_neg h2, if_pos h3, if_neg (show ¬ max s 0 < min e L by omega)]
  · rw [if_neg h1, if_neg h2, if_neg h3, if_pos (show max s 0 < min e L by omega)]; congr 2 <;> omega

theorem filterMap_clipSpan (L : Int) (hL : 0 < L) (rel : List (Int × Int)) (hrel : ∀ sp ∈ rel, sp.1 ≤ sp.2) :
    rel.filterMap (clipSpan L) = rel.filterMap (clipped L) := by
  induction rel with
  | nil => rfl
  | cons sp rest ih =>
    rw [List.filterMap_cons, List.filterMap_cons, clipSpan_eq_clipped L hL sp (hrel sp List.mem_cons_self),
      ih fun z hz => hrel z (List.mem_cons_of_mem _ hz)]

theorem locate_inView (L : Int) (c : Int × Int) (h : 0 ≤ c.1 ∧ c.1 < c.2 ∧ c.2 ≤ L) :
    locate L c = .ok [.span c.1 c.2] := by
  unfold locate
  rw [if_neg (by omega), if_neg (by omega), if_neg (by omega)]

theorem mapExcept_eq_map {α β ε} (f : α → Except ε β) (g : α → β) (l : List α)
    (h : ∀ x ∈ l, f x = .ok (g x)) : mapExcept f l = .ok (l.map g) := by
  induction l with
  | nil => rfl
  | cons x xs ih =>
    simp [mapExcept, h x List.mem_cons_self, ih (fun z hz => h z (List.mem_cons_of_mem _ hz))]

/-- all real spans of a map lie inside `[0, L]` -/
def InView (L : Int) (m : List MSpan) : Prop := ∀ a b, MSpan.span a b ∈ m → 0 ≤ a ∧ a ≤ b ∧ b ≤ L

theorem realOf_append (a b : List MSpan) : realOf (a ++ b) = realOf a ++ realOf b := by
  simp [realOf, List.filterMap_append]

theorem mem_realOf {m : List MSpan} {a b : Int} : (a, b) ∈ realOf m ↔ MSpan.span a b ∈ m := by
  unfold realOf
  rw [List.mem_filterMap]
  constructor
  · rintro ⟨x, hx, hx2⟩
    cases x with
    | lost n => simp at hx2
    | span s e => simp only [Option.some.injEq, Prod.mk.injEq] at hx2; rw [← hx2.1, ← hx2.2]; exact hx
  · intro h; exact ⟨_, h, rfl⟩

/-- `FeatureMap.nucleic_reversed` on one span known to lie in the view (total) -/
def revOk (L : Int) : MSpan → MSpan
  | .lost n => .lost n
  | .span s e => .span (L - e) (L - e + (e - s))

theorem revSpan_eq (L : Int) (m : List MSpan) (h : InView L m) :
    mapExcept (revSpan L) m = .ok (m.map (revOk L)) := by
  apply mapExcept_eq_map
  intro x hx
  cases x with
  | lost n => rfl
  | span a b =>
    have := h a b hx
    unfold revSpan revOk
    have : ¬ (L - b < 0) := by omega
    simp [this]

theorem realOf_map_revOk (L : Int) (m : List MSpan) :
    realOf (m.map (revOk L)) = (realOf m).map (fun p => (L - p.2, L - p.1)) := by
  induction m with
  | nil => rfl
  | cons x xs ih =>
    cases x with
    | lost n => simpa [realOf, revOk] using ih
    | span a b =>
      simp only [realOf, List.map_cons, revOk, List.filterMap_cons] at ih ⊢
      rw [ih]
      simp only [List.cons.injEq, Prod.mk.injEq, true_and, and_true]
      omega

theorem realOf_reverse (m : List MSpan) : realOf m.reverse = (realOf m).reverse := by
  simp [realOf, List.filterMap_reverse]

/-- the `pre or post` test of `make_feature` is redundant: with both zero the padding is empty -/
theorem lostPad_or (p q : Int) (m : List MSpan) :
    (if p ≠ 0 ∨ q ≠ 0 then
      (if p ≠ 0 then [MSpan.lost p] else []) ++ m ++ (if q ≠ 0 then [MSpan.lost q] else []) else m) =
    (if p ≠ 0 then [MSpan.lost p] else []) ++ m ++ (if q ≠ 0 then [MSpan.lost q] else []) := by
  by_cases h : p ≠ 0 ∨ q ≠ 0
  · rw [if_pos h]
  · rw [if_neg h, if_neg (fun hp => h (.inl hp)), if_neg (fun hq => h (.inr hq)), List.nil_append, List.append_nil]

/-- a lost span of length `x` under the test `c` that makes `x` non-zero: `pre` / `post` of `make_feature` -/
theorem lost_ite (c : Prop) [Decidable c] (x : Int) (hx : c → x ≠ 0) :
    (if (if c then x else 0) ≠ 0 then [MSpan.lost (if c then x else 0)] else []) = if c then [MSpan.lost x] else [] := by
  by_cases h : c
  · rw [if_pos h, if_pos h, if_pos (hx h)]
  · rw [if_neg h, if_neg h]; rfl

theorem head_getLast_pairwise {α} (R : α → α → Prop) (l : List α) (h : l.Pairwise R) (f x : α)
    (hf : l.head? = some f) (hx : l.getLast? = some x) : f = x ∨ R f x := by
  cases l with
  | nil => cases hf
  | cons a t =>
    simp only [List.head?_cons, Option.some.injEq] at hf
    subst hf
    cases t with
    | nil => simp at hx; exact Or.inl hx
    | cons b t' =>
      right
      have hmem : x ∈ b :: t' := by
        rw [List.getLast?_cons_cons] at hx
        exact List.mem_of_getLast? hx
      exact (List.pairwise_cons.mp h).1 x hmem

theorem firstLastOk_kept (L : Int) (hL : 0 < L) (rel : List (Int × Int)) (hrel : ∀ sp ∈ rel, sp.1 ≤ sp.2)
    (hsorted : rel.Pairwise (fun a b => a.1 ≤ b.1)) :
    firstLastOk (rel.filterMap (clipSpan L)) = true := by
  rw [filterMap_clipSpan L hL rel hrel]
  have hp : (rel.filterMap (clipped L)).Pairwise (fun a b => a.1 ≤ b.1) := by
    refine List.Pairwise.filterMap _ (fun a a' h c hc c' hc' => ?_) hsorted
    obtain ⟨-, rfl⟩ := clipped_eq_some hc
    obtain ⟨-, rfl⟩ := clipped_eq_some hc'
    simp only []; omega
  unfold firstLastOk
  cases hf : (rel.filterMap (clipped L)).head? with
  | none => rfl
  | some f =>
    cases hx : (rel.filterMap (clipped L)).getLast? with
    | none => rfl
    | some x =>
      obtain ⟨sp, -, h2⟩ := List.mem_filterMap.mp (List.mem_of_getLast? hx)
      have hx1 := (clipped_bounds h2).2.1
      simp only [Bool.not_eq_true', decide_eq_false_iff_not]
      rcases head_getLast_pairwise _ _ hp f x hf hx with rfl | h <;> omega

def spanOf (p : Int × Int) : MSpan := .span p.1 p.2

theorem realOf_map_spanOf (r : List (Int × Int)) : realOf (r.map spanOf) = r := by
  induction r with
  | nil => rfl
  | cons p ps ih => simp only [List.map_cons, realOf, spanOf, List.filterMap_cons] at ih ⊢; rw [ih]

/-- the spans cut to the view pass `_spans_from_locations` unchanged -/
theorem spansFromLocations_kept (L : Int) (hL : 0 < L) (rel : List (Int × Int)) (hrel : ∀ sp ∈ rel, sp.1 ≤ sp.2)
    (hsorted : rel.Pairwise (fun a b => a.1 ≤ b.1)) :
    spansFromLocations L (rel.filterMap (clipSpan L)) = .ok ((rel.filterMap (clipped L)).map spanOf) := by
  unfold spansFromLocations
  rw [firstLastOk_kept L hL rel hrel hsorted, filterMap_clipSpan L hL rel hrel,
    mapExcept_eq_map _ (fun c => [spanOf c]) _ fun c hc => ?_]
  · simp only [Bool.not_true, Bool.false_eq_true, if_false, Except.ok.injEq]
    induction rel.filterMap (clipped L) with
    | nil => rfl
    | cons c l ih => rw [List.map_cons, List.flatten_cons, ih]; rfl
  · obtain ⟨sp, -, h⟩ := List.mem_filterMap.mp hc
    exact locate_inView L c (clipped_bounds h)

/-- the map `make_feature` builds on a forward view: a lost span for what overhangs the view on the left, the spans cut
to the view, a lost span for what overhangs on the right -/
def cutMap (L : Int) (rel : List (Int × Int)) : List MSpan :=
  (if minOfSpans rel < 0 then [MSpan.lost (-minOfSpans rel)] else []) ++ (rel.filterMap (clipped L)).map spanOf ++
    (if maxOfSpans rel > L then [MSpan.lost (maxOfSpans rel - L)] else [])

theorem realOf_cutMap (L : Int) (rel : List (Int × Int)) : realOf (cutMap L rel) = rel.filterMap (clipped L) := by
  unfold cutMap
  rw [realOf_append, realOf_append, realOf_map_spanOf]
  split <;> split <;> simp [realOf]

/-- `make_feature` in closed form, for every record with ordered spans sorted by start: no exception, the map is `cutMap`,
on an rc'd view with every span mirrored and the order reversed -/
theorem makeFeature_eq (L : Int) (rced minus : Bool) (rel : List (Int × Int)) (hL : 0 < L)
    (hrel : ∀ sp ∈ rel, sp.1 ≤ sp.2) (hsorted : rel.Pairwise (fun a b => a.1 ≤ b.1)) :
    makeFeature L rced minus rel = .ok
      { spans := if rced then ((cutMap L rel).map (revOk L)).reverse else cutMap L rel, reversed := minus != rced } := by
  unfold makeFeature
  simp only [spansFromLocations_kept L hL rel hrel hsorted, lostPad_or]
  rw [lost_ite _ _ (by omega), lost_ite _ _ (by omega)]
  cases rced with
  | false => rfl
  | true =>
    have hin : InView L (cutMap L rel) := fun a b hm => by
      obtain ⟨sp, -, h2⟩ := List.mem_filterMap.mp (realOf_cutMap L rel ▸ mem_realOf.mpr hm)
      have := clipped_bounds h2
      omega
    simp only [if_true]
    rw [show _ ++ _ ++ _ = cutMap L rel from rfl, revSpan_eq L _ hin]

/-- ... so the real spans of the map are exactly the intersections of the spans with the view (mirrored and in reverse
order on an rc'd view) -/
theorem makeFeature_spec (L : Int) (rced minus : Bool) (rel : List (Int × Int)) (hL : 0 < L)
    (hrel : ∀ sp ∈ rel, sp.1 ≤ sp.2) (hsorted : rel.Pairwise (fun a b => a.1 ≤ b.1)) :
    ∃ f, makeFeature L rced minus rel = .ok f ∧ f.reversed = (minus != rced) ∧
      realOf f.spans =
        (if rced then ((rel.filterMap (clipped L)).map (fun p => (L - p.2, L - p.1))).reverse
         else rel.filterMap (clipped L)) := by
  refine ⟨_, makeFeature_eq L rced minus rel hL hrel hsorted, rfl, ?_⟩
  cases rced
  · exact realOf_cutMap L rel
  · simp only [if_true, realOf_reverse, realOf_map_revOk, realOf_cutMap]

end CogentModel.FeatureView
