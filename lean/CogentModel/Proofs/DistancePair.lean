import CogentModel.Model.Distance
import CogentModel.Proofs.ListGetD
import Mathlib.Tactic.Ring
/-! One pair of sequences.  The count matrix: `fill` computes the table `cnt`, swapping the two sequences transposes it.
Everything that reads the matrix (`stat c`, `hasOffDiag`, `total`) is invariant under transposition; equal arrays give a
diagonal matrix; hence what the code reports for a pair is symmetric and is zero for a pair of equal arrays. -/
namespace CogentModel.Distance
open CogentModel.ListGetD

theorem fillStep_apply (m : Int → Int → Nat) (c : Col) (x y : Int) :
    fillStep m c x y = m x y + (if 0 ≤ c.1 ∧ 0 ≤ c.2 ∧ c.1 = x ∧ c.2 = y then 1 else 0) := by
  unfold fillStep bump
  by_cases h : c.1 < 0 ∨ c.2 < 0
  · rw [if_pos h, if_neg (by omega)]; rfl
  · rw [if_neg h]
    by_cases h2 : x = c.1 ∧ y = c.2
    · rw [if_pos h2, if_pos (by omega)]
    · rw [if_neg h2, if_neg (by omega)]; rfl

theorem cnt_cons (c : Col) (cs : List Col) (x y : Int) :
    cnt (c :: cs) x y = cnt cs x y + if 0 ≤ c.1 ∧ 0 ≤ c.2 ∧ c.1 = x ∧ c.2 = y then 1 else 0 := by
  simp only [cnt, List.countP_cons, decide_eq_true_eq]

theorem foldl_fillStep (cols : List Col) (m : Int → Int → Nat) (x y : Int) :
    cols.foldl fillStep m x y = m x y + cnt cols x y := by
  induction cols generalizing m with
  | nil => rfl
  | cons c cs ih => rw [List.foldl_cons, ih, fillStep_apply, cnt_cons, Nat.add_right_comm, Nat.add_assoc]

/-- the loop of `fill_diversity_matrix` computes the table of column counts -/
theorem fill_eq_cnt (cols : List Col) (x y : Int) : fill cols x y = cnt cols x y := by
  rw [fill, foldl_fillStep, Nat.zero_add]

theorem cnt_swap' (cols : List Col) (x y : Int) : cnt (cols.map Prod.swap) x y = cnt cols y x := by
  induction cols with
  | nil => rfl
  | cons c cs ih =>
    simp only [List.map_cons, cnt_cons, ih, Prod.fst_swap, Prod.snd_swap, and_left_comm, and_comm, and_assoc]

theorem ofCounts_fill_swap (cols : List Col) :
    ofCounts (fill (cols.map Prod.swap)) = tr (ofCounts (fill cols)) := by
  funext i j
  simp only [ofCounts, tr, fill_eq_cnt, cnt_swap']

theorem memo_eq (m : M4) (i j : Nat) : memo m i j = if i < 4 ∧ j < 4 then m i j else 0 := by
  show (((List.range 4).map fun i => (List.range 4).map fun j => m i j).getD i []).getD j 0 = _
  rw [getD_map_range]
  by_cases hi : i < 4
  · rw [if_pos hi, getD_map_range]; simp only [hi, true_and]
  · rw [if_neg hi, if_neg (fun h => hi h.1)]; rfl

theorem memo_tr (m : M4) : memo (tr m) = tr (memo m) := by
  funext i j
  simp only [tr, memo_eq, and_comm]

theorem zip_swap (a b : List Int) : b.zip a = (a.zip b).map Prod.swap := by
  rw [List.zip_eq_zipWith, List.zipWith_comm, List.zip_eq_zipWith, List.map_zipWith]; rfl

theorem countsOf_swap (s₁ s₂ : List Int) : countsOf s₂ s₁ = tr (countsOf s₁ s₂) := by
  rw [countsOf, zip_swap, ofCounts_fill_swap, memo_tr]; rfl

theorem total_tr (m : M4) : total (tr m) = total m := by
  unfold total rowSum tr; ring

theorem diagSum_tr (m : M4) : diagSum (tr m) = diagSum m := rfl

theorem rowSum_tr (m : M4) (i : Nat) : rowSum (tr m) i = colSum m i := rfl
theorem colSum_tr (m : M4) (i : Nat) : colSum (tr m) i = rowSum m i := rfl

theorem tnFreq_tr (m : M4) (i : Nat) : tnFreq (tr m) i = tnFreq m i := by
  unfold tnFreq; rw [rowSum_tr, colSum_tr, total_tr, add_comm]

theorem purTs_tr (m : M4) : purTs (tr m) = purTs m := by unfold purTs tr; ring
theorem pyrTs_tr (m : M4) : pyrTs (tr m) = pyrTs m := by unfold pyrTs tr; ring
theorem tvSum_tr (m : M4) : tvSum (tr m) = tvSum m := by unfold tvSum tr; ring

theorem det4_tr (m : M4) : det4 (tr m) = det4 m := by
  unfold det4 det3 tr; ring

theorem halfDiag_tr (m : M4) : halfDiag (tr m) = tr (halfDiag m) := by
  funext i j
  simp only [halfDiag, tr, @eq_comm _ i j]

theorem freqMatrix_tr (m : M4) : freqMatrix (tr m) = tr (freqMatrix m) := by
  funext i j
  unfold freqMatrix
  rw [halfDiag_tr, total_tr]
  rfl

theorem freqProd_tr (f : M4) : freqProd (tr f) = freqProd f := by
  unfold freqProd; simp only [rowSum_tr, colSum_tr]; ring

theorem freqSqSum_tr (f : M4) : freqSqSum (tr f) = freqSqSum f := by
  unfold freqSqSum; simp only [rowSum_tr, colSum_tr]; ring

/-- every estimator reads the count matrix only through quantities that transposition preserves -/
theorem stat_tr (c : Calc) (m : M4) : stat c (tr m) = stat c m := by
  cases c <;>
    simp only [stat, hammingStat, jc69Stat, tn93Stat, paralinearStat, logdetStat, logdetCommon, total_tr,
      diagSum_tr, tnFreq_tr, purTs_tr, pyrTs_tr, tvSum_tr, freqMatrix_tr, det4_tr, freqProd_tr, freqSqSum_tr]

theorem hasOffDiag_tr (m : M4) : hasOffDiag (tr m) = hasOffDiag m := by
  unfold hasOffDiag tr
  ac_rfl

def Diagonal (m : M4) : Prop := ∀ i j, i ≠ j → m i j = 0

theorem hasOffDiag_of_diagonal (m : M4) (h : Diagonal m) : hasOffDiag m = false := by
  simp [hasOffDiag, h _ _]

theorem diag_total (m : M4) (h : Diagonal m) : total m = diagSum m := by
  simp [total, rowSum, diagSum, h _ _]

theorem cnt_eq_zero_of_same (cols : List Col) (hs : ∀ c ∈ cols, c.1 = c.2 ∨ c.1 < 0 ∨ c.2 < 0)
    (x y : Int) (hxy : x ≠ y) : cnt cols x y = 0 := by
  unfold cnt
  rw [List.countP_eq_zero]
  intro c hc
  have := hs c hc
  simp only [decide_eq_true_eq]
  omega

theorem zip_self_eq {α} (s : List α) : ∀ c ∈ s.zip s, c.1 = c.2 := by
  induction s with
  | nil => simp
  | cons a s ih =>
    intro c hc
    rw [List.zip_cons_cons, List.mem_cons] at hc
    rcases hc with rfl | hc
    · rfl
    · exact ih c hc

theorem countsOf_diagonal (cols : List Col) (hs : ∀ c ∈ cols, c.1 = c.2 ∨ c.1 < 0 ∨ c.2 < 0) :
    Diagonal (memo (ofCounts (fill cols))) := by
  intro i j hij
  rw [memo_eq, ofCounts, fill_eq_cnt, cnt_eq_zero_of_same cols hs _ _ (by omega), Nat.cast_zero, ite_self]

theorem hasOffDiag_self (s : List Int) : hasOffDiag (countsOf s s) = false :=
  hasOffDiag_of_diagonal _ (countsOf_diagonal _ fun c hc => Or.inl (zip_self_eq s c hc))

theorem pairReport_symm (c : Calc) (s₁ s₂ : List Int) : pairReport c s₂ s₁ = pairReport c s₁ s₂ := by
  unfold pairReport
  rw [countsOf_swap, hasOffDiag_tr, stat_tr, total_tr, BEq.comm (a := s₂)]

theorem pairReport_self (c : Calc) (s : List Int) : pairReport c s s = .zero := by
  rw [pairReport, hasOffDiag_self, if_neg Bool.false_ne_true, if_pos BEq.rfl]

/-- what is reported for a pair: the literal zero when `run` aliases it, otherwise what `run` stores -/
theorem pairReport_eq (c : Calc) (s₁ s₂ : List Int) :
    pairReport c s₁ s₂ = if (!hasOffDiag (countsOf s₁ s₂) && s₁ == s₂) = true then .zero else pairStat c s₁ s₂ := by
  unfold pairReport pairStat
  cases hasOffDiag (countsOf s₁ s₂) <;> cases s₁ == s₂ <;> rfl

end CogentModel.Distance
