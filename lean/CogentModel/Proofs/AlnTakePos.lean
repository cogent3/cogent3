import CogentModel.Proofs.AlnSlice
/-! `take_positions` (both polarities) on a row refines column selection on the string. -/
namespace CogentModel.Aln
open CogentModel.IndelMap CogentModel.Gapped List CogentModel

theorem denseTake_cons (s : List Char) (i : Int) (rest : List Int) :
    denseTake s (i :: rest) = (match PySlice.index s i, denseTake s rest with
      | some c, .ok tl => .ok (c :: tl)
      | none, _ => .error .indexError
      | _, .error e => .error e) := rfl

theorem takePositions_go_spec (r : Row) (h : RowWF r) : ∀ (cols : List Int) (s : List Char),
    rowTakePositions.go r cols = .ok s → denseTake (gapped r) cols = .ok s := by
  intro cols
  induction cols with
  | nil => intro s hs; simp only [rowTakePositions.go] at hs; cases hs; rfl
  | cons i rest ih =>
    intro s hs
    simp only [rowTakePositions.go] at hs
    cases hri : rowInt r i with
    | error e => rw [hri] at hs; cases hgo : rowTakePositions.go r rest <;> rw [hgo] at hs <;> cases hs
    | ok x =>
      cases hgo : rowTakePositions.go r rest with
      | error e => rw [hri, hgo] at hs; cases hs
      | ok tl =>
        rw [hri, hgo] at hs
        cases hs
        obtain ⟨_, c, hc1, hc2⟩ := rowInt_spec r x h i hri
        rw [denseTake_cons, hc1, ih tl hgo, hc2]
        rfl

theorem rowTakePositions_spec (r r' : Row) (h : RowWF r) (cols : List Int)
    (hr : rowTakePositions r cols = .ok r') :
    RowWF r' ∧ denseTake (gapped r) cols = .ok (gapped r') := by
  unfold rowTakePositions at hr
  cases hgo : rowTakePositions.go r cols with
  | error e => rw [hgo] at hr; cases hr
  | ok s =>
    rw [hgo] at hr
    cases hr
    exact ⟨rowWF_ofString s, by rw [gapped_rowOfString]; exact takePositions_go_spec r h cols s hgo⟩

theorem denseTake_range (s : List Char) (p : Int → Bool) : ∀ (t pre : List Char), s = pre ++ t →
    denseTake s (((range' pre.length t.length).map fun (i : Nat) => (i : Int)).filter p) =
      .ok (((t.zipIdx pre.length).filter fun q => p (q.2 : Int)).map (·.1)) := by
  intro t
  induction t with
  | nil => intro pre _; simp [denseTake]
  | cons c t' ih =>
    intro pre hs
    have ihh := ih (pre ++ [c]) (by rw [hs]; simp)
    simp only [length_append, length_singleton] at ihh
    simp only [length_cons, range'_succ, map_cons, zipIdx_cons, filter_cons]
    by_cases hp : p (pre.length : Int) = true
    · simp only [hp, if_true, map_cons]
      rw [denseTake_cons, ihh]
      have hidx : PySlice.index s (pre.length : Int) = some c := by
        unfold PySlice.index
        have h1 : (0 : Int) ≤ pre.length ∧ (pre.length : Int) < s.length := by
          rw [hs]; simp only [length_append, length_cons]; omega
        simp only [h1, and_self, if_true, Int.toNat_natCast]
        rw [hs]; simp
      rw [hidx]
    · simp only [hp, Bool.false_eq_true, if_false]
      exact ihh

theorem denseTakeNeg_eq (s : List Char) (cols : List Int) :
    denseTake s (((range s.length).map fun (i : Nat) => (i : Int)).filter fun i => !cols.contains i) =
      .ok (denseTakeNeg s cols) := by
  have := denseTake_range s (fun i => !cols.contains i) s [] rfl
  simpa [denseTakeNeg, range_eq_range'] using this

theorem rowTakePositionsNeg_spec (r r' : Row) (h : RowWF r) (cols : List Int)
    (hr : rowTakePositionsNeg r cols = .ok r') :
    RowWF r' ∧ gapped r' = denseTakeNeg (gapped r) cols := by
  unfold rowTakePositionsNeg at hr
  obtain ⟨w, hd⟩ := rowTakePositions_spec r r' h _ hr
  refine ⟨w, ?_⟩
  have hl : (len r.map).toNat = (gapped r).length := by rw [← length_gapped r h, Int.toNat_natCast]
  rw [hl, denseTakeNeg_eq] at hd
  exact (Except.ok.inj hd).symm


end CogentModel.Aln
