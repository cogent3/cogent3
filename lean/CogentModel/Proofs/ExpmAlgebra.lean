import CogentModel.Proofs.ExpmBridge
/-! C05: what the Taylor and the Padé loop compute — polynomials in `tQ` with scalar coefficients — and what both
exponentiators return: the value `(D(a)⁻¹·N(a))ᵏ` of a rational function with constant terms `1` at a multiple `a` of `Q`.
Of any such value the invariance properties hold: commutation with `Q`, fixed left and right null vectors, reversibility;
all are cases of one lemma (`RatVal.semiconj`, from `poly_semiconj`). -/

namespace CogentModel.Expm
open CogentModel.RateMatrix Finset Matrix

variable {K : Type*} [Field K] {n : Nat}

/-! ### polynomials in one matrix -/

/-- `∑_{k<m} c k • aᵏ` -/
def poly (c : Nat → K) (m : Nat) (a : Matrix (Fin n) (Fin n) K) : Matrix (Fin n) (Fin n) K := ∑ k ∈ range m, c k • a ^ k

theorem poly_succ (c : Nat → K) (m : Nat) (a : Matrix (Fin n) (Fin n) K) : poly c (m + 1) a = poly c m a + c m • a ^ m :=
  sum_range_succ _ _

/-- `S·a = b·S ⇒ S·p(a) = p(b)·S` -/
theorem poly_semiconj {S a b : Matrix (Fin n) (Fin n) K} (h : SemiconjBy S a b) (c : Nat → K) (m : Nat) :
    SemiconjBy S (poly c m a) (poly c m b) := by
  induction m with
  | zero => exact SemiconjBy.zero_right S
  | succ m ih => rw [poly_succ, poly_succ]; exact ih.add_right ((h.pow_right m).smul_right (c m))

theorem poly_commute (c c' : Nat → K) (m m' : Nat) (a : Matrix (Fin n) (Fin n) K) : Commute (poly c m a) (poly c' m' a) :=
  poly_semiconj (poly_semiconj (Commute.refl a) c m).symm c' m'

theorem poly_zero (c : Nat → K) (m : Nat) : poly c (m + 1) (0 : Matrix (Fin n) (Fin n) K) = c 0 • 1 := by
  simp only [poly, sum_range_succ', pow_succ, mul_zero, smul_zero, sum_const_zero, zero_add, pow_zero]

theorem poly_two (c : Nat → K) (a : Matrix (Fin n) (Fin n) K) : poly c 2 a = c 0 • 1 + c 1 • a := by
  simp only [poly, sum_range_succ, range_zero, sum_empty, zero_add, pow_zero, pow_one]

theorem poly_transpose (c : Nat → K) (m : Nat) (a : Matrix (Fin n) (Fin n) K) : poly c m (aᵀ) = (poly c m a)ᵀ := by
  unfold poly
  rw [Matrix.transpose_sum]
  exact Finset.sum_congr rfl fun k _ => by rw [Matrix.transpose_smul, Matrix.transpose_pow]

/-- the constant polynomial `1` -/
theorem poly_one (m : Nat) (a : Matrix (Fin n) (Fin n) K) : poly (fun k => if k = 0 then 1 else 0) (m + 1) a = 1 := by
  simp only [poly, ite_smul, one_smul, zero_smul, sum_ite_eq', mem_range, Nat.succ_pos, if_true, pow_zero]

/-! ### values of rational functions -/

/-- `x = (D(a)⁻¹·N(a))ᵏ` for polynomials `N`, `D` of degree `m` with constant term `1` -/
def RatVal (cN cD : Nat → K) (m k : Nat) (a x : Matrix (Fin n) (Fin n) K) : Prop :=
  cN 0 = 1 ∧ cD 0 = 1 ∧
    ∃ u : (Matrix (Fin n) (Fin n) K)ˣ, ↑u = poly cD (m + 1) a ∧ x = ((↑u⁻¹ : Matrix (Fin n) (Fin n) K) * poly cN (m + 1) a) ^ k

namespace RatVal
variable {cN cD : Nat → K} {m k : Nat} {S a b x y : Matrix (Fin n) (Fin n) K}

/-- semiconjugation passes from the arguments to the values, whatever the inverses of the denominators are -/
theorem semiconj (hx : RatVal cN cD m k a x) (hy : RatVal cN cD m k b y) (h : SemiconjBy S a b) :
    SemiconjBy S x y := by
  obtain ⟨-, -, u, hu, rfl⟩ := hx
  obtain ⟨-, -, v, hv, rfl⟩ := hy
  have hD : SemiconjBy S ↑u ↑v := by rw [hu, hv]; exact poly_semiconj h _ _
  exact (hD.units_inv_right.mul_right (poly_semiconj h _ _)).pow_right k

/-- the value at the zero matrix is `1` -/
theorem zero (hx : RatVal cN cD m k a x) : RatVal cN cD m k 0 (1 : Matrix (Fin n) (Fin n) K) :=
  ⟨hx.1, hx.2.1, 1, by rw [poly_zero, hx.2.1, one_smul, Units.val_one],
    by rw [inv_one, Units.val_one, one_mul, poly_zero, hx.1, one_smul, one_pow]⟩

/-- the value at the transposed argument is the transposed value: numerator and inverse denominator are polynomials in
the same matrix and commute -/
theorem transpose (hx : RatVal cN cD m k a x) : RatVal cN cD m k aᵀ xᵀ := by
  obtain ⟨hN, hD, u, hu, rfl⟩ := hx
  have hc : Commute (↑u⁻¹ : Matrix (Fin n) (Fin n) K) (poly cN (m + 1) a) :=
    Commute.units_inv_left (u := u) (by rw [hu]; exact poly_commute _ _ _ _ _)
  refine ⟨hN, hD, ⟨(↑u)ᵀ, (↑u⁻¹)ᵀ, ?_, ?_⟩, by rw [poly_transpose, ← hu], ?_⟩
  · rw [← transpose_mul, u.inv_mul, transpose_one]
  · rw [← transpose_mul, u.mul_inv, transpose_one]
  · rw [transpose_pow, hc.eq, transpose_mul, poly_transpose]; rfl

variable {s : K} {A : Matrix (Fin n) (Fin n) K} (hx : RatVal cN cD m k (s • A) x)
include hx

theorem commute (hS : Commute S A) : Commute S x := hx.semiconj hx (hS.smul_right s)

/-- left null vectors of `A` are fixed: `S` semiconjugates `sA` to the zero matrix -/
theorem left_fixed (hS : S * A = 0) : S * x = S := by
  have := hx.semiconj hx.zero (show SemiconjBy S (s • A) 0 by rw [SemiconjBy, mul_smul_comm, hS, smul_zero, zero_mul])
  rwa [SemiconjBy, one_mul] at this

/-- … and right null vectors likewise -/
theorem right_fixed (hS : A * S = 0) : x * S = S := by
  have := hx.zero.semiconj hx (show SemiconjBy S 0 (s • A) by rw [SemiconjBy, smul_mul_assoc, hS, smul_zero, mul_zero])
  rwa [SemiconjBy, mul_one, eq_comm] at this

/-- detailed balance: `S·A = Aᵀ·S ⇒ S·x = xᵀ·S` -/
theorem reversible (hS : SemiconjBy S A Aᵀ) : SemiconjBy S x xᵀ :=
  hx.semiconj hx.transpose (by rw [transpose_smul]; exact hS.smul_right s)
end RatVal

/-! ### Taylor -/

/-- `1/k!` -/
def invFact (k : Nat) : K := (k.factorial : K)⁻¹

theorem invFact_zero : (invFact 0 : K) = 1 := by rw [invFact, Nat.factorial_zero, Nat.cast_one, inv_one]

theorem invFact_succ (j : Nat) : (invFact (j + 1) : K) = invFact j * ((j + 1 : Nat) : K)⁻¹ := by
  rw [invFact, invFact, Nat.factorial_succ, Nat.cast_mul, mul_inv, mul_comm]

/-- the loop state after the term of order `j`: `trm = aʲ/j!` and `eA` the sum up to it -/
def TaylorState (n : Nat) (A : Mat K) (j : Nat) (eA trm : Mat K) : Prop :=
  toM n trm = (invFact j : K) • toM n A ^ j ∧ toM n eA = poly invFact (j + 1) (toM n A)

theorem taylorState_zero (A : Mat K) : TaylorState n A 0 (ident n) (ident n) :=
  ⟨by rw [toM_ident, invFact_zero, one_smul, pow_zero],
    by rw [toM_ident, poly_succ, poly, range_zero, sum_empty, zero_add, invFact_zero, one_smul, pow_zero]⟩

namespace TaylorState

/-- one pass of either loop body -/
theorem step {A eA trm : Mat K} {j : Nat} (h : TaylorState n A j eA trm) :
    TaylorState n A (j + 1) (matAdd n eA (matMul n trm (matDivS n A ((j + 1 : Nat) : K))))
      (matMul n trm (matDivS n A ((j + 1 : Nat) : K))) := by
  have ht : toM n (matMul n trm (matDivS n A ((j + 1 : Nat) : K))) = (invFact (j + 1) : K) • toM n A ^ (j + 1) := by
    rw [toM_matMul, toM_matDivS, h.1, smul_mul_smul_comm, ← pow_succ, ← invFact_succ]
  exact ⟨ht, by rw [toM_matAdd, h.2, ht, ← poly_succ]⟩

theorem loop {A : Mat K} (m : Nat) : ∀ {j : Nat} {eA trm : Mat K}, TaylorState n A j eA trm →
    TaylorState n A (m + j) (taylorLoop n A m (j + 1) eA trm).1 (taylorLoop n A m (j + 1) eA trm).2 := by
  induction m with
  | zero => exact fun h => by rw [Nat.zero_add]; exact h
  | succ m ih => exact fun {j _ _} h => by rw [Nat.add_right_comm m 1 j]; exact ih h.step

theorem extend [LT K] [DecidableLT K] [LE K] [DecidableLE K] (rtol atol : K) {A : Mat K} (fuel : Nat) : ∀ {j : Nat} {eA trm : Mat K}, TaylorState n A j eA trm →
    j ≤ (taylorExtend n rtol atol A fuel j eA trm).2 ∧
    toM n (taylorExtend n rtol atol A fuel j eA trm).1 = poly invFact ((taylorExtend n rtol atol A fuel j eA trm).2 + 1) (toM n A) := by
  induction fuel with
  | zero => exact fun {j _ _} h => ⟨le_refl j, h.2⟩
  | succ fuel ih =>
    intro j eA trm h
    rw [taylorExtend]
    split
    · exact ⟨le_refl j, h.2⟩
    · exact ⟨Nat.le_of_succ_le (ih h.step).1, (ih h.step).2⟩

end TaylorState

section taylor
variable [LT K] [DecidableLT K] [LE K] [DecidableLE K]

/-- **the value of the Taylor exponentiator**: the partial sum `∑_{k≤m} (tQ)ᵏ/k!` of the exponential series up to the
order `m` it returns, which is at least the starting order -/
theorem taylor_eq_poly (rtol atol : K) (Q : Mat K) (t : K) (q fuel : Nat) :
    q - 1 ≤ (taylor n rtol atol Q t q fuel).2 ∧
    toM n (taylor n rtol atol Q t q fuel).1 = poly invFact ((taylor n rtol atol Q t q fuel).2 + 1) (t • toM n Q) := by
  rw [← toM_matScale]
  exact ((taylorState_zero (matScale n t Q)).loop (q - 1)).extend rtol atol fuel

/-- … as the value of a rational function with denominator `1` -/
theorem taylor_ratVal (rtol atol : K) (Q : Mat K) (t : K) (q fuel : Nat) :
    RatVal invFact (fun k => if k = 0 then 1 else 0) (taylor n rtol atol Q t q fuel).2 1 (t • toM n Q)
      (toM n (taylor n rtol atol Q t q fuel).1) :=
  ⟨invFact_zero, if_pos rfl, 1, by rw [poly_one, Units.val_one],
    by rw [inv_one, Units.val_one, one_mul, pow_one, (taylor_eq_poly rtol atol Q t q fuel).2]⟩
end taylor

/-! ### Padé -/

/-- the coefficients `c_k = c_{k-1}·(q-k+1)/(k(2q-k+1))` of the order-`q` diagonal Padé numerator, as the loop computes them -/
def padeCoeff (q : Nat) : Nat → K
  | 0 => 1
  | 1 => 1 / ((2 : Nat) : K)
  | k + 2 => padeCoeff q (k + 1) * ((q - (k + 2) + 1 : Nat) : K) / (((k + 2) * (2 * q - (k + 2) + 1) : Nat) : K)

/-- … and of the denominator: the same with alternating signs -/
def padeCoeffD (q : Nat) (k : Nat) : K := if k % 2 = 0 then padeCoeff q k else - padeCoeff q k

theorem padeCoeff_zero (q : Nat) : (padeCoeff q 0 : K) = 1 := by rw [padeCoeff]

theorem padeCoeffD_zero (q : Nat) : (padeCoeffD q 0 : K) = 1 := by rw [padeCoeffD, if_pos rfl, padeCoeff]

/-- **numerator and denominator of the Padé approximant** are the polynomials `∑ c_k aᵏ` and `∑ (-1)ᵏ c_k aᵏ` of degree
`max q 1` -/
theorem padeND_eq_poly (A : Mat K) (q : Nat) :
    toM n (padeND n A q).1 = poly (padeCoeff q) (q - 1 + 2) (toM n A) ∧
    toM n (padeND n A q).2 = poly (padeCoeffD q) (q - 1 + 2) (toM n A) := by
  have loop : ∀ (m k : Nat) (c : K) (X N D : Mat K), c = padeCoeff q (k + 1) → toM n X = toM n A ^ (k + 1) →
      toM n N = poly (padeCoeff q) (k + 2) (toM n A) → toM n D = poly (padeCoeffD q) (k + 2) (toM n A) →
      toM n (padeLoop n A q m (k + 2) c X N D).1 = poly (padeCoeff q) (m + k + 2) (toM n A) ∧
      toM n (padeLoop n A q m (k + 2) c X N D).2 = poly (padeCoeffD q) (m + k + 2) (toM n A) := by
    intro m
    induction m with
    | zero => exact fun k c X N D _ _ hN hD => by rw [Nat.zero_add]; exact ⟨hN, hD⟩
    | succ m ih =>
      intro k c X N D hc hX hN hD
      have hc' : c * ((q - (k + 2) + 1 : Nat) : K) / (((k + 2) * (2 * q - (k + 2) + 1) : Nat) : K) = padeCoeff q (k + 2) := by
        rw [padeCoeff, hc]
      have hX' : toM n (matMul n A X) = toM n A ^ (k + 2) := by rw [toM_matMul, hX, ← pow_succ']
      rw [padeLoop, hc', Nat.add_right_comm m 1 k]
      refine ih (k + 1) _ _ _ _ rfl hX' (by rw [toM_matAdd, toM_matScale, hN, hX', ← poly_succ]) ?_
      by_cases hk : (k + 2) % 2 = 0
      · rw [if_pos hk, toM_matAdd, toM_matScale, hD, hX', poly_succ _ (k + 2), padeCoeffD, if_pos hk]
      · rw [if_neg hk, toM_matSub, toM_matScale, hD, hX', poly_succ _ (k + 2), padeCoeffD, if_neg hk, neg_smul, sub_eq_add_neg]
  exact loop (q - 1) 0 (1 / ((2 : Nat) : K)) A (matAdd n (ident n) (matScale n (1 / ((2 : Nat) : K)) A))
    (matSub n (ident n) (matScale n (1 / ((2 : Nat) : K)) A)) (by rw [padeCoeff]) (pow_one _).symm
    (by rw [toM_matAdd, toM_ident, toM_matScale, poly_two, padeCoeff_zero, one_smul]; rfl)
    (by rw [toM_matSub, toM_ident, toM_matScale, poly_two, padeCoeffD_zero, one_smul, padeCoeffD, if_neg (by decide), neg_smul,
      sub_eq_add_neg]; rfl)

/-- the scaled argument of the Padé approximant -/
def padeArg (n : Nat) (Q : Mat K) (t : K) (j : Nat) : Mat K := matDivS n (matScale n t Q) (pow2 j)

theorem toM_padeArg (Q : Mat K) (t : K) (j : Nat) : toM n (padeArg n Q t j) = ((pow2 j : K)⁻¹ * t) • toM n Q := by
  unfold padeArg; rw [toM_matDivS, toM_matScale, smul_smul]

section
variable [DecidableEq K]

theorem padeCore_eq (n : Nat) (Q : Mat K) (t : K) (q j : Nat) :
    padeCore n Q t q j = (solve n (padeND n (padeArg n Q t j) q).2 (padeND n (padeArg n Q t j) q).1).map (sqN n j) := by
  unfold padeCore padeArg
  simp only []
  cases solve n (padeND n (matDivS n (matScale n t Q) (pow2 j)) q).2
    (padeND n (matDivS n (matScale n t Q) (pow2 j)) q).1 <;> rfl

/-- `padeCore` in ring terms: the denominator at the scaled argument is a unit `u`, and the result is `(u⁻¹·N)^(2^j)` -/
theorem padeCore_unit (Q : Mat K) (t : K) (q j : Nat) (P : Mat K) (h : padeCore n Q t q j = some P) :
    ∃ u : (Matrix (Fin n) (Fin n) K)ˣ, ↑u = toM n (padeND n (padeArg n Q t j) q).2 ∧
      toM n P = ((↑u⁻¹ : Matrix (Fin n) (Fin n) K) * toM n (padeND n (padeArg n Q t j) q).1) ^ (2 ^ j) := by
  rw [padeCore_eq, Option.map_eq_some_iff] at h
  obtain ⟨F, hF, rfl⟩ := h
  obtain ⟨u, hu, hFm⟩ := toM_solve n _ _ F hF
  exact ⟨u, hu, by rw [toM_sqN, hFm]⟩

/-- … with numerator and denominator as polynomials: the value of a rational function at a multiple of `Q` -/
theorem padeCore_ratVal (Q : Mat K) (t : K) (q j : Nat) (P : Mat K) (h : padeCore n Q t q j = some P) :
    RatVal (padeCoeff q) (padeCoeffD q) (q - 1 + 1) (2 ^ j) (((pow2 j : K)⁻¹ * t) • toM n Q) (toM n P) := by
  obtain ⟨u, hu, hP⟩ := padeCore_unit Q t q j P h
  obtain ⟨hN, hD⟩ := padeND_eq_poly (n := n) (padeArg n Q t j) q
  rw [toM_padeArg] at hN hD
  exact ⟨padeCoeff_zero q, padeCoeffD_zero q, u, hu.trans hD, by rw [hP, hN]⟩

/-- at `t = 0` the approximant exists and is the identity: `N = D = 1`, and on the identity `solve` returns the
right-hand side -/
theorem padeCore_zero (n : Nat) (Q : Mat K) (q j : Nat) :
    ∃ P, padeCore n Q 0 q j = some P ∧ EntryEq n P (ident n) := by
  obtain ⟨hN, hD⟩ := padeND_eq_poly (n := n) (padeArg n Q 0 j) q
  rw [toM_padeArg, mul_zero, zero_smul, poly_zero] at hN hD
  obtain ⟨F, hF, hFN⟩ := solve_ident n _ (padeND n (padeArg n Q 0 j) q).1
    ((entryEq_iff n _ _).mpr (by rw [hD, toM_ident, padeCoeffD_zero, one_smul]))
  refine ⟨sqN n j F, by rw [padeCore_eq, hF]; rfl, (entryEq_iff n _ _).mpr ?_⟩
  rw [toM_sqN, (entryEq_iff n _ _).mp hFN, hN, padeCoeff_zero, one_smul, one_pow, toM_ident]
end

end CogentModel.Expm
