/-
  The gap-dict helpers of app/align.py as GENERATED from the Python source (Gen/C18Gaps.lean) equal the hand model
  (Model/GapMerge.lean), and the generated `pog_traceback` (Gen/C18Pog.lean) equals `Progressive.pogTraceback`.
  Core only.
-/
import CogentModel.Gen.C18Gaps
import CogentModel.Gen.C18Pog
import CogentModel.Proofs.GapDifference

namespace CogentModel.C18Gen
open CogentModel.GapMerge
open CogentModel.Gen

/-- the generated object read as the hand model's structure -/
def toModel (G : C18Gaps.GapOffsetG) : GapOffset :=
  { store := G.store, minPos := G.min_pos.getD 0, maxPos := G.max_pos, total := G.total, invert := G.invert }

theorem gen_gapOffsetInit_loop (invert : Bool) (s : Gaps) (res : Gaps) (cum gp : Int) :
    C18Gaps.gapOffsetInit_loop1 invert s (res, cum, gp) =
      ((goLoop invert s cum res gp).1, (goLoop invert s cum res gp).2.1, (goLoop invert s cum res gp).2.2) := by
  induction s generalizing res cum gp with
  | nil => simp [C18Gaps.gapOffsetInit_loop1, goLoop]
  | cons x r ih =>
    obtain ⟨p, l⟩ := x
    simp only [C18Gaps.gapOffsetInit_loop1, goLoop]
    rw [ih]

theorem sortGaps_eq_nil (g : Gaps) : sortGaps g = [] ↔ g = [] := by
  cases g with
  | nil => simp [sortGaps]
  | cons x r =>
    obtain ⟨k, v⟩ := x
    simp only [sortGaps, reduceCtorEq, iff_false]
    cases h : sortGaps r with
    | nil => simp [insertKey]
    | cons y t => obtain ⟨k', v'⟩ := y; simp only [insertKey]; split <;> simp

theorem gen_gapOffsetInit (g : Gaps) (invert : Bool) :
    toModel (C18Gaps.gapOffsetInit g invert) = GapOffset.mk' g invert := by
  unfold C18Gaps.gapOffsetInit GapOffset.mk' toModel
  simp only [gen_gapOffsetInit_loop]
  congr 1
  · cases g with
    | nil => simp [sortGaps]
    | cons x r => simp [C18Gaps.minKey]; rfl

theorem ite_isSome_getD (o : Option Int) (e : Int) :
    (if o.isSome then o.getD 0 else e) = match o with | some v => v | none => e := by
  cases o <;> rfl

-- The generated text tests with `Bool`s (`isEmpty`, `isSome`, `decide`), the model with propositions and a `match`;
-- once the tests are normalised the two sides differ in `Decidable` instances only.
theorem gen_gapOffsetGetitem (G : C18Gaps.GapOffsetG) (index : Int) :
    C18Gaps.gapOffsetGetitem G index = (toModel G).get index := by
  simp only [C18Gaps.gapOffsetGetitem, GapOffset.get, toModel, ite_isSome_getD, decide_eq_true_eq, Bool.or_eq_true,
    Bool.not_not, List.isEmpty_iff]
  congr

theorem gen_gapDifference_loop (seq u m o : Gaps) :
    C18Gaps.gapDifference_loop1 seq u (m, o) =
      (dsetAll m (gapDifference seq u).1, dsetAll o (gapDifference seq u).2) := by
  induction u generalizing m o with
  | nil => rfl
  | cons x r ih =>
    obtain ⟨p, l⟩ := x
    simp only [C18Gaps.gapDifference_loop1, gapDifference]
    cases hd : dget seq p with
    | none => simp only [Option.isSome_none, Bool.not_false, if_true, ih, dsetAll_cons]
    | some l' =>
      simp only [Option.isSome_some, Bool.not_true, Bool.false_eq_true, if_false, Option.getD_some, decide_eq_true_eq, ne_eq]
      by_cases hl : l' = l
      · simp only [hl, not_true_eq_false, if_false, ih]
      · simp only [hl, not_false_eq_true, if_true, ih, dsetAll_cons]

/-- `_gap_difference`, for every pair of dicts (unique keys in the iterated one) -/
theorem gen_gapDifference (seq u : Gaps) (hnd : (u.map (·.1)).Nodup) :
    C18Gaps.gapDifference seq u = gapDifference seq u := by
  unfold C18Gaps.gapDifference
  -- both parts are sub-dicts of `u`, so every assignment is to a new key
  simp only [gen_gapDifference_loop]
  rw [dsetAll_nil, dsetAll_nil]
  · rw [gapDifference_eq, keys_mapVal]; exact hnd.sublist (keys_filter_sublist _ u)
  · rw [gapDifference_eq]; exact hnd.sublist (keys_filter_sublist _ u)

theorem gen_subset_loop (G : C18Gaps.GapOffsetG) (sub orig l res : Gaps) :
    C18Gaps.subsetGapsToAlignCoords_loop1 G sub orig l res = subsetToAlign orig (toModel G) l res := by
  induction l generalizing res with
  | nil => rfl
  | cons x r ih =>
    obtain ⟨p, v⟩ := x
    simp only [C18Gaps.subsetGapsToAlignCoords_loop1, subsetToAlign, gen_gapOffsetGetitem, ih]

theorem gen_subsetGapsToAlignCoords (G : C18Gaps.GapOffsetG) (sub orig : Gaps) :
    C18Gaps.subsetGapsToAlignCoords sub orig G = subsetToAlign orig (toModel G) sub [] := by
  unfold C18Gaps.subsetGapsToAlignCoords
  simp only [gen_subset_loop]

theorem gen_combined_loop (G : C18Gaps.GapOffsetG) (d l res : Gaps) :
    C18Gaps.combinedRefseqGaps_loop1 d G l res = updateDiff (toModel G) l res := by
  induction l generalizing res with
  | nil => rfl
  | cons x r ih =>
    obtain ⟨p, v⟩ := x
    simp only [C18Gaps.combinedRefseqGaps_loop1, updateDiff, gen_gapOffsetGetitem, ih]

theorem gen_combinedRefseqGaps (seq u : Gaps) (hnd : (u.map (·.1)).Nodup) :
    C18Gaps.combinedRefseqGaps seq u = combinedRefseqGaps seq u := by
  unfold C18Gaps.combinedRefseqGaps combinedRefseqGaps
  simp only [gen_combined_loop, gen_subsetGapsToAlignCoords, gen_gapOffsetInit, gen_gapDifference seq u hnd]

/-! ### `_gaps_for_injection` (the code in /repo = the model's `fixed = false` variant) -/

theorem gen_inject_loop (G : C18Gaps.GapOffsetG) (so : Gaps) (seqlen : Int) (l all : Gaps) :
    C18Gaps.gapsForInjection_loop1 G seqlen l all = injectLoop false (toModel G) so seqlen l all := by
  induction l generalizing all with
  | nil => rfl
  | cons x r ih =>
    obtain ⟨gp, gl⟩ := x
    simp only [C18Gaps.gapsForInjection_loop1, injectLoop, injectPos, gen_gapOffsetGetitem, Bool.false_eq_true, if_false,
      decide_eq_true_eq]
    split
    · rfl
    · rw [ih]
      cases dget all (min seqlen (gp - (toModel G).get gp)) <;> simp

theorem gen_gapsForInjection (other ref : Gaps) (seqlen : Int) :
    C18Gaps.gapsForInjection other ref seqlen = gapsForInjection false other ref seqlen := by
  unfold C18Gaps.gapsForInjection gapsForInjection
  simp only [C18Gaps.dupdate, List.isEmpty_nil, if_true, gen_inject_loop _ (sortGaps other), gen_gapOffsetInit]
  cases injectLoop false (GapOffset.mk' other true) (sortGaps other) seqlen (sortGaps ref) other <;> rfl

theorem gen_mergedGaps (a b : Gaps) : C18Gaps.mergedGaps a b = mergedGaps a b := by
  unfold C18Gaps.mergedGaps mergedGaps
  cases a <;> cases b <;> simp


/-! ### `pog_traceback` (Gen/C18Pog.lean) = `Progressive.pogTraceback` -/
section pog
open CogentModel.Progressive

theorem foldl_append_map {α β : Type} (f : α → β) (l : List α) (out : List β) :
    l.foldl (fun out p => out ++ [f p]) out = out ++ l.map f := by
  induction l generalizing out with
  | nil => simp
  | cons x r ih => simp [ih]

/-- `add_skipped` in the two dimensions the generated text calls it with -/
theorem addSkipped_eq (s e : Nat) (out : List Pos) :
    C18Pog.addSkipped 0 s e out = out ++ skipped false s e ∧ C18Pog.addSkipped 1 s e out = out ++ skipped true s e := by
  unfold C18Pog.addSkipped skipped C18Pog.addAligned
  rw [foldl_append_map (fun p => C18Pog.setDim 0 (some p) (none, none)),
    foldl_append_map (fun p => C18Pog.setDim 1 (some p) (none, none))]
  exact ⟨rfl, rfl⟩

theorem gen_pog_loop (n1 n2 : Nat) (l : List Pos) (u0 u1 : Nat) (out : List Pos) :
    (C18Pog.pogTraceback_loop l (u0, u1, out)).2.2
        ++ skipped false (C18Pog.pogTraceback_loop l (u0, u1, out)).1 n1
        ++ skipped true (C18Pog.pogTraceback_loop l (u0, u1, out)).2.1 n2
      = out ++ pogLoop n1 n2 l u0 u1 := by
  induction l generalizing u0 u1 out with
  | nil => simp [C18Pog.pogTraceback_loop, pogLoop]
  | cons p r ih =>
    obtain ⟨a, b⟩ := p
    cases a <;> cases b <;>
      simp only [C18Pog.pogTraceback_loop, pogLoop, skipTo, nextUpto, C18Pog.addAligned, addSkipped_eq, ih] <;> simp

theorem gen_pogTraceback (n1 n2 : Nat) (ap : List Pos) :
    C18Pog.pogTraceback n1 n2 ap = pogTraceback n1 n2 ap := by
  unfold C18Pog.pogTraceback pogTraceback
  simp only [addSkipped_eq]
  simpa using gen_pog_loop n1 n2 ap 0 0 []


end pog

end CogentModel.C18Gen
