import CogentModel.Proofs.PyText
/-! A text written line by line is read back line by line: `"\n".join` and `unlines`, and `str.splitlines` on
`unlines ls` when no line holds a boundary character (`NoBreak`). -/
namespace CogentModel.SeqFormats
open CogentModel.Splitlines CogentModel.SeqSpec

theorem unlines_cons (l : Str) (ls : List Str) : unlines (l :: ls) = l ++ '\n' :: unlines ls := by
  simp [unlines]

theorem unlines_append (a b : List Str) : unlines (a ++ b) = unlines a ++ unlines b :=
  List.flatMap_append

/-- joining with newlines puts one after every line but the last -/
theorem joinNl_append : ∀ (ls : List Str) {t : List Str}, t ≠ [] → joinNl (ls ++ t) = unlines ls ++ joinNl t
  | [], _, _ => rfl
  | l :: ls, t, ht => by
    obtain ⟨x, xs, e⟩ := List.exists_cons_of_ne_nil (List.append_ne_nil_of_right_ne_nil ls ht)
    rw [List.cons_append, e, joinNl, ← e, joinNl_append ls ht, unlines_cons, List.append_assoc]
    rfl

theorem joinNl_snoc_nil (ls : List Str) : joinNl (ls ++ [[]]) = unlines ls := by
  rw [joinNl_append ls (List.cons_ne_nil _ _)]
  exact List.append_nil _

theorem joinNl_unlines (ls : List Str) (h : ls ≠ []) : joinNl ls ++ ['\n'] = unlines ls := by
  obtain ⟨init, last, rfl⟩ := (List.eq_nil_or_concat ls).resolve_left h
  rw [List.concat_eq_append, joinNl_append init (List.cons_ne_nil _ _), unlines_append, List.append_assoc, unlines_cons]
  rfl

theorem splitCore_line_brk {l : Str} (h : ∀ c ∈ l, isBreak c = false) {b : Char} (hb : isBreak b = true) (r : Str) :
    splitCore (l ++ b :: r) = l :: splitCore r := by
  induction l with
  | nil => simp [splitCore, hb]
  | cons c cs ih =>
    have hc := h c List.mem_cons_self
    have := ih (fun d hd => h d (List.mem_cons_of_mem _ hd))
    simp [splitCore, hc, this, consHead]

theorem crlfAux_lf (R : Str) : crlfAux false ('\n' :: R) = '\n' :: crlfAux false R := by
  simp [crlfAux]

theorem crlfAux_crlf (R : Str) : crlfAux false ('\r' :: '\n' :: R) = '\r' :: crlfAux false R := by
  simp [crlfAux]

theorem splitCore_single : ∀ {l : Str}, l ≠ [] → (∀ c ∈ l, isBreak c = false) → splitCore l = [l]
  | [], h, _ => absurd rfl h
  | [c], _, h => by simp [splitCore, h c List.mem_cons_self, consHead]
  | c :: c2 :: cs, _, h => by
    have ih := splitCore_single (l := c2 :: cs) (by simp) (fun d hd => h d (List.mem_cons_of_mem _ hd))
    have hc := h c List.mem_cons_self
    rw [splitCore]
    simp only [hc, Bool.false_eq_true, if_false, ih, consHead]

theorem noBreak_noCR {c : Str} (h : ∀ d ∈ c, isBreak d = false) : ∀ d ∈ c, d ≠ '\r' :=
  fun d hd e => absurd (e ▸ h d hd) (by decide)

def NoBreak (ls : List Str) : Prop := ∀ l ∈ ls, ∀ c ∈ l, isBreak c = false

theorem splitCore_unlines : ∀ (ls : List Str), NoBreak ls → splitCore (unlines ls) = ls
  | [], _ => by simp [unlines, splitCore]
  | l :: ls, h => by
    have ih := splitCore_unlines ls (fun l' hl' => h l' (List.mem_cons_of_mem _ hl'))
    simp only [unlines, List.flatMap_cons, List.append_assoc, List.singleton_append] at ih ⊢
    rw [splitCore_line_brk (h l List.mem_cons_self) isBreak_nl, ih]

theorem unlines_nlOnly {ls : List Str} (h : NoBreak ls) : NlOnly (unlines ls) := by
  intro c hc hb
  simp only [unlines, List.mem_flatMap, List.mem_append, List.mem_singleton] at hc
  obtain ⟨l, hl, hc | hc⟩ := hc
  · rw [h l hl c hc] at hb; exact absurd hb (by simp)
  · exact hc

theorem pySplitlines_unlines {ls : List Str} (h : NoBreak ls) : pySplitlines (unlines ls) = ls := by
  rw [pySplitlines_eq_core (unlines_nlOnly h), splitCore_unlines ls h]

theorem noBreak_of_printable {ls : List Str} (h : ∀ l ∈ ls, ∀ c ∈ l, printable c = true) : NoBreak ls :=
  fun l hl c hc => printable_not_break (h l hl c hc)

theorem noBreak_cons {l : Str} {ls : List Str} (h1 : ∀ c ∈ l, isBreak c = false) (h2 : NoBreak ls) : NoBreak (l :: ls) :=
  List.forall_mem_cons.mpr ⟨h1, h2⟩

theorem unlines_flatMap {α} (f : α → List Str) (xs : List α) :
    unlines (xs.flatMap f) = xs.flatMap (fun x => unlines (f x)) := by
  simp [unlines, List.flatMap_assoc]

end CogentModel.SeqFormats
