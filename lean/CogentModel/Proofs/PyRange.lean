import CogentModel.Proofs.ViewInv
import CogentModel.Spec.PySlice
/-! Python ranges and slice indices, without views.  `len(range(a, b, c))` is a ceiling, handled
through the relation `IsCeil`: two bounds that linear arithmetic can use.  The central fact is
`rangeList_lattice`: slicing a range gives a range. -/
namespace CogentModel.PySlice
open CogentModel.View

/-- `L = ⌈d / k⌉` for a positive `k`: `d` lies in the `k`-block that ends at `L * k` -/
def IsCeil (d k L : Int) : Prop := d ≤ L * k ∧ L * k < d + k

theorem isCeil_mul (j k : Int) (hk : 0 < k) : IsCeil (j * k) k j := ⟨Int.le_refl _, by omega⟩

/-- the block `d` lies in tells which multiples of `k` are below `d` -/
theorem IsCeil.lt_iff {d k L : Int} (h : IsCeil d k L) (hk : 0 < k) (j : Int) : j * k < d ↔ j < L := by
  constructor
  · intro hj
    exact Int.lt_of_mul_lt_mul_right (Int.lt_of_lt_of_le hj h.1) (Int.le_of_lt hk)
  · intro hj
    have := Int.mul_le_mul_of_nonneg_right (show j + 1 ≤ L by omega) (Int.le_of_lt hk)
    rw [Int.add_mul, Int.one_mul] at this
    have := h.2
    omega

theorem IsCeil.mono {d d' k L L' : Int} (h : IsCeil d k L) (h' : IsCeil d' k L') (hk : 0 < k) (hd : d ≤ d') :
    L ≤ L' := by
  have : (L - 1) * k < d' := by rw [Int.sub_mul, Int.one_mul]; have := h.2; omega
  have := (h'.lt_iff hk (L - 1)).mp this
  omega

theorem IsCeil.unique {d k L L' : Int} (h : IsCeil d k L) (h' : IsCeil d k L') (hk : 0 < k) : L = L' :=
  Int.le_antisymm (h.mono h' hk (Int.le_refl d)) (h'.mono h hk (Int.le_refl d))

theorem IsCeil.sub_mul {d k L : Int} (h : IsCeil d k L) (j : Int) : IsCeil (d - j * k) k (L - j) := by
  unfold IsCeil at *
  rw [Int.sub_mul]
  omega

theorem IsCeil.min {d d' k L L' : Int} (h : IsCeil d k L) (h' : IsCeil d' k L') (hk : 0 < k) :
    IsCeil (min d d') k (min L L') := by
  rcases Int.le_total d d' with hd | hd
  · rw [Int.min_eq_left hd, Int.min_eq_left (h.mono h' hk hd)]; exact h
  · rw [Int.min_eq_right hd, Int.min_eq_right (h'.mono h hk hd)]; exact h'

/-- every `c`-th of the `k`-blocks: `⌈d / (k * c)⌉ = ⌈⌈d / k⌉ / c⌉` -/
theorem IsCeil.scale {d k c m L : Int} (h1 : IsCeil d k m) (h2 : IsCeil m c L) (hk : 0 < k) :
    IsCeil d (k * c) L := by
  have a : m * k ≤ (L * c) * k := Int.mul_le_mul_of_nonneg_right h2.1 (Int.le_of_lt hk)
  have b : (L * c - c + 1) * k ≤ m * k :=
    Int.mul_le_mul_of_nonneg_right (by have := h2.2; omega) (Int.le_of_lt hk)
  rw [Int.add_mul, Int.sub_mul, Int.one_mul, Int.mul_comm c k] at b
  unfold IsCeil at *
  rw [Int.mul_comm k c, ← Int.mul_assoc]
  rw [Int.mul_comm k c] at b
  omega

theorem isCeil_neg_ediv (d k : Int) (hk : 0 < k) : IsCeil d k (-((-d) / k)) := by
  have h1 := Int.mul_ediv_add_emod (-d) k
  have h2 := Int.emod_nonneg (-d) (show k ≠ 0 by omega)
  have h3 := Int.emod_lt_of_pos (-d) hk
  unfold IsCeil
  rw [Int.neg_mul, Int.mul_comm]
  omega

theorem isCeil_ediv_succ (d k : Int) (hk : 0 < k) : IsCeil d k ((d - 1) / k + 1) := by
  have h1 := Int.mul_ediv_add_emod (d - 1) k
  have h2 := Int.emod_nonneg (d - 1) (show k ≠ 0 by omega)
  have h3 := Int.emod_lt_of_pos (d - 1) hk
  unfold IsCeil
  rw [Int.add_mul, Int.one_mul, Int.mul_comm]
  omega

/-- `len(range(a, b, c)) = max 0 ⌈(b - a) / c⌉` -/
theorem rangeLen_of_isCeil {a b c L : Int} (hc : 0 < c) (h : IsCeil (b - a) c L) :
    rangeLen a b c = L.toNat := by
  unfold rangeLen
  rw [if_pos hc]
  split
  · rw [(isCeil_ediv_succ (b - a) c hc).unique h hc]
  · have := h.mono (d' := 0) (L' := 0) ⟨by omega, by omega⟩ hc (by omega)
    omega

theorem mem_rangeList_pos {a b c j : Int} (hc : 0 < c) (hj : j ∈ rangeList a b c) : a ≤ j ∧ j < b := by
  unfold rangeList at hj
  rw [List.mem_map] at hj
  obtain ⟨i, hi, rfl⟩ := hj
  have hL := isCeil_ediv_succ (b - a) c hc
  rw [List.mem_range, rangeLen_of_isCeil hc hL] at hi
  have := (hL.lt_iff hc i).mpr (by omega)
  have := Int.mul_nonneg (Int.natCast_nonneg i) (Int.le_of_lt hc)
  omega

theorem rangeLen_neg_neg (a b c : Int) : rangeLen (-a) (-b) (-c) = rangeLen a b c := by
  unfold rangeLen
  rcases Int.lt_trichotomy c 0 with hc | hc | hc
  · rw [if_pos (show -c > 0 by omega), if_neg (show ¬ c > 0 by omega), if_pos hc,
      show (-b - -a - 1) = a - b - 1 by omega]
    simp only [Int.neg_lt_neg_iff]
  · subst hc; rfl
  · rw [if_neg (show ¬ -c > 0 by omega), if_pos (show -c < 0 by omega), if_pos (show c > 0 by omega),
      show (-a - -b - 1) = b - a - 1 by omega, Int.neg_neg]
    simp only [Int.neg_lt_neg_iff]

theorem rangeList_neg (a b c : Int) : rangeList (-a) (-b) (-c) = (rangeList a b c).map Neg.neg := by
  unfold rangeList
  rw [rangeLen_neg_neg, List.map_map]
  apply List.map_congr_left
  intro i _
  simp only [Function.comp, Int.mul_neg, Int.neg_add]

theorem rangeList_neg' (a b c : Int) : rangeList a b c = (rangeList (-a) (-b) (-c)).map Neg.neg := by
  have := rangeList_neg (-a) (-b) (-c)
  rwa [Int.neg_neg, Int.neg_neg, Int.neg_neg] at this

theorem mem_rangeList_neg {a b c j : Int} (hc : c < 0) (hj : j ∈ rangeList a b c) : b < j ∧ j ≤ a := by
  rw [rangeList_neg', List.mem_map] at hj
  obtain ⟨x, hx, rfl⟩ := hj
  have := mem_rangeList_pos (show 0 < -c by omega) hx
  omega

theorem rangeLen_swap (a b c : Int) (hc : c < 0) : rangeLen a b c = rangeLen b a (-c) := by
  unfold rangeLen
  rw [if_neg (show ¬ c > 0 by omega), if_pos hc, if_pos (show -c > 0 by omega)]

theorem rangeLen_shift (a b c k : Int) : rangeLen (a + k) (b + k) c = rangeLen a b c := by
  simp only [rangeLen, Int.add_lt_add_iff_right, Int.add_sub_add_right]

theorem rangeList_shift (a b c d : Int) : rangeList (a + d) (b + d) c = (rangeList a b c).map (· + d) := by
  unfold rangeList
  rw [rangeLen_shift, List.map_map]
  exact List.map_congr_left fun i _ => Int.add_right_comm a d _

theorem rangeList_nil_pos (a b c : Int) (hc : 0 < c) (h : b ≤ a) : rangeList a b c = [] := by
  unfold rangeList rangeLen
  rw [if_pos hc, if_neg (by omega)]; rfl

theorem rangeList_nil_neg (a b c : Int) (hc : c < 0) (h : a ≤ b) : rangeList a b c = [] := by
  unfold rangeList rangeLen
  rw [if_neg (show ¬ c > 0 by omega), if_pos hc, if_neg (by omega)]; rfl

theorem rangeLen_one (s e : Int) : rangeLen s e 1 = (e - s).toNat :=
  rangeLen_of_isCeil Int.one_pos ⟨by omega, by omega⟩

theorem rangeList_single (a c : Int) (hc : c ≠ 0) : rangeList a (a + c) c = [a] := by
  have hL : rangeLen a (a + c) c = 1 := by
    rcases Int.lt_or_lt_of_ne hc with h | h
    · rw [rangeLen_swap _ _ _ h, rangeLen_of_isCeil (L := 1) (by omega) ⟨by omega, by omega⟩]; rfl
    · rw [rangeLen_of_isCeil (L := 1) h ⟨by omega, by omega⟩]; rfl
  unfold rangeList
  rw [hL]
  simp

/-- two ranges with the same step agree when their bounds do, or when both are empty -/
theorem rangeList_congr_pos (a b a' b' c : Int) (hc : 0 < c) (h : a < b ∨ a' < b' → a = a' ∧ b = b') :
    rangeList a b c = rangeList a' b' c := by
  by_cases h1 : a < b ∨ a' < b'
  · obtain ⟨rfl, rfl⟩ := h h1; rfl
  · rw [rangeList_nil_pos a b c hc (by omega), rangeList_nil_pos a' b' c hc (by omega)]

theorem rangeList_congr_neg (a b a' b' c : Int) (hc : c < 0) (h : b < a ∨ b' < a' → a = a' ∧ b = b') :
    rangeList a b c = rangeList a' b' c := by
  by_cases h1 : b < a ∨ b' < a'
  · obtain ⟨rfl, rfl⟩ := h h1; rfl
  · rw [rangeList_nil_neg a b c hc (by omega), rangeList_nil_neg a' b' c hc (by omega)]

/-- Slicing a range: every `c`-th of the positions `F + j * k` from index `σ` on, up to a bound
`T` that lies in the block of index `β`, are the positions of the indices `range(σ, β, c)`. -/
theorem rangeList_lattice (F k c σ β T : Int) (hk : 0 < k) (hc : 0 < c) (hT : IsCeil (T - F) k β) :
    rangeList (F + σ * k) T (k * c) = (rangeList σ β c).map fun j => F + j * k := by
  obtain ⟨L, hL⟩ : ∃ L, IsCeil (β - σ) c L := ⟨_, isCeil_ediv_succ (β - σ) c hc⟩
  have h1 : IsCeil (T - (F + σ * k)) (k * c) L := by
    rw [← Int.sub_sub]; exact (hT.sub_mul σ).scale hL hk
  unfold rangeList
  rw [rangeLen_of_isCeil (Int.mul_pos hk hc) h1, rangeLen_of_isCeil hc hL, List.map_map]
  apply List.map_congr_left
  intro i _
  simp only [Function.comp]
  rw [Int.add_mul, Int.add_assoc, Int.mul_assoc, Int.mul_comm c k]

end CogentModel.PySlice

namespace CogentModel.View
open CogentModel CogentModel.PySlice

theorem indices_pos (n : Int) (a b : Option Int) (c : Int) (hc : 0 < c) :
    PySlice.indices n a b c =
      ((match a with | none => 0 | some s => if s < 0 then max (s + n) 0 else min s n),
       (match b with | none => n | some e => if e < 0 then max (e + n) 0 else min e n), c) := by
  unfold PySlice.indices
  simp only [gt_iff_lt, hc, if_true]
  cases a <;> cases b <;> rfl

theorem indices_neg (n : Int) (a b : Option Int) (c : Int) (hc : c < 0) :
    PySlice.indices n a b c =
      ((match a with | none => n - 1 | some s => if s < 0 then max (s + n) (-1) else min s (n - 1)),
       (match b with | none => -1 | some e => if e < 0 then max (e + n) (-1) else min e (n - 1)), c) := by
  unfold PySlice.indices
  have : ¬ (c > 0) := by omega
  simp only [this, if_false]
  cases a <;> cases b <;> rfl

theorem indices_pos' (n : Int) (hn : 0 ≤ n) (a b : Option Int) (c : Int) (hc : 0 < c) :
    PySlice.indices n a b c = (clampP (a.getD 0) n, clampP (b.getD n) n, c) := by
  rw [indices_pos n a b c hc]
  unfold clampP
  cases a <;> cases b <;> simp only [Option.getD_none, Option.getD_some, Prod.mk.injEq, and_true, true_and] <;>
    omega

theorem indices_neg' (n : Int) (hn : 0 ≤ n) (a b : Option Int) (c : Int) (hc : c < 0) :
    PySlice.indices n a b c = (clampN (a.getD (-1)) n, clampN (b.getD (-n - 1)) n, c) := by
  rw [indices_neg n a b c hc]
  unfold clampN
  cases a <;> cases b <;> simp only [Option.getD_none, Option.getD_some, Prod.mk.injEq, and_true, true_and] <;>
    omega

theorem sliceIdx_pos (n : Int) (hn : 0 ≤ n) (a b : Option Int) (c : Int) (hc : 0 < c) :
    PySlice.sliceIdx n.toNat a b c = PySlice.rangeList (clampP (a.getD 0) n) (clampP (b.getD n) n) c := by
  unfold PySlice.sliceIdx
  rw [Int.toNat_of_nonneg hn, indices_pos' n hn a b c hc]

theorem sliceIdx_neg (n : Int) (hn : 0 ≤ n) (a b : Option Int) (c : Int) (hc : c < 0) :
    PySlice.sliceIdx n.toNat a b c =
      PySlice.rangeList (clampN (a.getD (-1)) n) (clampN (b.getD (-n - 1)) n) c := by
  unfold PySlice.sliceIdx
  rw [Int.toNat_of_nonneg hn, indices_neg' n hn a b c hc]

theorem sliceIdx_mem_range (n : Int) (hn : 0 ≤ n) (a b : Option Int) (c : Int) (hc : c ≠ 0) :
    ∀ j ∈ PySlice.sliceIdx n.toNat a b c, 0 ≤ j ∧ j < n := by
  intro j hj
  rcases Int.lt_or_lt_of_ne hc with hneg | hpos
  · rw [sliceIdx_neg n hn a b c hneg] at hj
    have := mem_rangeList_neg hneg hj
    have := clampN_mem (a.getD (-1)) n hn
    have := clampN_mem (b.getD (-n - 1)) n hn
    omega
  · rw [sliceIdx_pos n hn a b c hpos] at hj
    have := mem_rangeList_pos hpos hj
    have := clampP_mem (a.getD 0) n hn
    have := clampP_mem (b.getD n) n hn
    omega

end CogentModel.View
