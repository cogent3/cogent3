import CogentModel.Model.AnnotDbHist
import CogentModel.Proofs.AnnotDb
import CogentModel.Proofs.AnnotDbRoundTrip
/-! The register invariant of operation histories (`Model/AnnotDbHist.lean`): every db is well formed and holds a
permutation of the record list the specification keeps for it, all rows proper.  Every call preserves it. -/
namespace CogentModel.AnnotDb
open CogentModel.AnnotDbSpec

/-- what the spec's record list `m` must be for the model db `d` -/
def Holds (d : Db) (m : List Rec) : Prop := d.WF ∧ d.records.Perm m ∧ ∀ r ∈ m, r.start < r.stop

/-- register invariant: as many dbs as record lists, position by position `Holds` -/
def Inv (dbs : List Db) (ms : List (List Rec)) : Prop :=
  dbs.length = ms.length ∧ ∀ (j : Nat) (d : Db), dbs[j]? = some d → Holds d (ms[j]?.getD [])

theorem Inv.append {dbs ms} (h : Inv dbs ms) {d m} (hd : Holds d m) : Inv (dbs ++ [d]) (ms ++ [m]) := by
  refine ⟨by simp [h.1], fun j e he => ?_⟩
  rw [List.getElem?_append, List.getElem?_singleton] at he ⊢
  rw [← h.1]
  by_cases hj : j < dbs.length
  · rw [if_pos hj] at he ⊢
    exact h.2 j e he
  · rw [if_neg hj] at he ⊢
    by_cases h0 : j - dbs.length = 0
    · rw [if_pos h0] at he ⊢
      cases he
      exact hd
    · rw [if_neg h0] at he
      cases he

theorem Inv.set {dbs ms} (h : Inv dbs ms) (i : Nat) {d m} (hd : Holds d m) : Inv (dbs.set i d) (ms.set i m) := by
  refine ⟨by simp [h.1], fun j e he => ?_⟩
  rw [List.getElem?_set] at he ⊢
  by_cases hij : i = j
  · rw [if_pos hij] at he ⊢
    by_cases hl : i < dbs.length
    · rw [if_pos hl] at he
      rw [if_pos (h.1 ▸ hl)]
      cases he
      exact hd
    · rw [if_neg hl] at he
      cases he
  · rw [if_neg hij] at he ⊢
    exact h.2 j e he

/-- a call that adds to `d` a copy `rs'` of the proper rows `rs` -/
theorem Holds.extend {d d' : Db} {m rs rs' : List Rec} (h : Holds d m) (w : d'.WF)
    (p : d'.records.Perm (d.records ++ rs')) (p' : rs'.Perm rs) (hrs : ∀ r ∈ rs, r.start < r.stop) :
    Holds d' (m ++ rs) :=
  ⟨w, p.trans (h.2.1.append p'), List.forall_mem_append.mpr ⟨h.2.2, hrs⟩⟩

/-- side conditions on the calls of a history: an added row has `start < stop`; a `subset` query may be anything,
except that "both bounds + allow_partial" needs a proper window -/
def Op.ok : Op → Prop
  | .add _ r => r.start < r.stop
  | .addTable _ _ r => r.start < r.stop
  | .subset _ q => (q.allowPartial = false ∨ q.start = none ∨ q.stop = none) ∨ WindowOk q
  | _ => True

instance (op : Op) : Decidable op.ok := by
  cases op <;> unfold Op.ok <;> infer_instance

theorem step_inv (ok : ClausesOk) (dbs dbs' : List Db) (ms : List (List Rec)) (op : Op) (h : Inv dbs ms) (hop : op.ok)
    (hs : stepOp dbs op = .ok dbs') : Inv dbs' (specStep ms op) := by
  cases op with
  | new k =>
    cases hs
    exact h.append ⟨empty_wf k, by rw [empty_records], by simp⟩
  | add i r =>
    simp only [stepOp] at hs
    split at hs
    · rename_i d hd
      cases hs
      have hi := h.2 i d hd
      exact h.set i (hi.extend (addToTable_wf _ _ _ hi.1)
        (addToTable_records d "user" [r] hi.1 (by cases d.kind <;> decide)) (.refl _) (by simpa [Op.ok] using hop))
    · cases hs
  | addTable i t r =>
    simp only [stepOp] at hs
    split at hs
    · rename_i d hd
      split at hs
      · rename_i ht
        cases hs
        have hi := h.2 i d hd
        exact h.set i (hi.extend (addToTable_wf _ _ _ hi.1)
          (addToTable_records d t [r] hi.1 (List.contains_iff_mem.mp ht)) (.refl _) (by simpa [Op.ok] using hop))
      · cases hs
    · cases hs
  | update i k s =>
    simp only [stepOp] at hs
    split at hs
    · rename_i d o hd ho
      split at hs
      · rename_i hik
        cases hs
        simpa [specStep, hik] using h
      · rename_i hik
        split at hs
        · rename_i d' hu
          cases hs
          have hi := h.2 i d hd
          have hk := h.2 k o ho
          obtain ⟨w, _, p⟩ := update_perm d o s d' hi.1 hk.1 hu
          simp only [specStep, hik, if_false]
          exact h.set i (hi.extend w p (hk.2.1.filter _) fun r hr => hk.2.2 r (List.mem_filter.mp hr).1)
        · cases hs
    · cases hs
  | union i k =>
    simp only [stepOp] at hs
    split at hs
    · rename_i d o hd ho
      split at hs
      · rename_i d' hu
        cases hs
        have hi := h.2 i d hd
        have hk := h.2 k o ho
        obtain ⟨w, p⟩ := union_perm_aux d o d' hi.1 hk.1 hu
        exact h.append (hi.extend w p hk.2.1 hk.2.2)
      · cases hs
    · cases hs
  | subset i q =>
    simp only [stepOp] at hs
    split at hs
    · rename_i d hd
      split at hs
      · rename_i d' hu
        cases hs
        obtain ⟨h1, h2, h3⟩ := h.2 i d hd
        obtain ⟨d2, e1, _, e3⟩ := subset_select d q
        rw [selectTable_of_winHyp ok _ q fun r hr => hop.imp id fun hw => ⟨h3 r (h2.mem_iff.mp hr), hw⟩] at e3
        cases hu.symm.trans e1
        exact h.append ⟨subset_wf d _ q h1 hu, e3 ▸ h2.filter _, fun r hr => h3 r (List.mem_filter.mp hr).1⟩
      · cases hs
    · cases hs
  | copy i =>
    simp only [stepOp] at hs
    split at hs
    · rename_i d hd
      cases hs
      exact h.append (h.2 i d hd)
    · cases hs
  | copyJson i =>
    simp only [stepOp] at hs
    split at hs
    · rename_i d hd
      cases hs
      obtain ⟨h1, h2, h3⟩ := h.2 i d hd
      obtain ⟨w, _, p⟩ := jsonRoundTrip_memory_perm d h1
      exact h.append ⟨w, p.trans h2, h3⟩
    · cases hs

theorem history_inv (ok : ClausesOk) (ops : List Op) : ∀ (dbs dbs' : List Db) (ms : List (List Rec)), Inv dbs ms →
    (∀ op ∈ ops, op.ok) → runHistory dbs ops = .ok dbs' → Inv dbs' (specHistory ms ops) := by
  induction ops with
  | nil => intro dbs dbs' ms h _ hr; cases hr; exact h
  | cons op ops ih =>
    intro dbs dbs' ms h hok hr
    simp only [runHistory] at hr
    cases hs : stepOp dbs op with
    | error e => simp [hs] at hr
    | ok d1 =>
      simp only [hs] at hr
      exact ih d1 dbs' _ (step_inv ok dbs d1 ms op h (hok op (List.mem_cons_self ..)) hs)
        (fun o ho => hok o (List.mem_cons_of_mem _ ho)) hr

end CogentModel.AnnotDb
