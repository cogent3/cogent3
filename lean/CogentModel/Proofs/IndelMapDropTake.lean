import CogentModel.Proofs.IndelMapTrips
/-! Slicing on triples: `dropT start` then `takeT stop`, and what they do to the order, the bookkeeping, the scan
and the pattern. -/
namespace CogentModel.IndelMap
open CogentModel.Gapped List

def dropT (start : Int) : List Trip → List Trip
  | (p, s, e) :: r => if e ≤ start then dropT start r else if s ≤ start then (p, start, e) :: r else (p, s, e) :: r
  | [] => []

def takeT (stop : Int) : List Trip → List Trip
  | (p, s, e) :: r => if e ≤ stop then (p, s, e) :: takeT stop r else if s < stop then [(p, s, stop)] else []
  | [] => []

theorem toNat_sub_split {c b a : Int} (h1 : c ≤ b) (h2 : b ≤ a) :
    (a - c).toNat = (b - c).toNat + (a - b).toNat := by
  rw [← Int.toNat_add (by omega) (by omega)]; congr 1; omega

theorem dropT_of_lt (T : List Trip) (start : Int) (h : TSorted (start + 1) T) : dropT start T = T := by
  cases T with
  | nil => rfl
  | cons t r =>
    obtain ⟨p, s, e⟩ := t
    obtain ⟨h1, h2, _⟩ := h
    simp only [dropT]
    rw [if_neg (by omega), if_neg (by omega)]

theorem replicate_cut {α} (x : α) {c b a : Int} (h1 : c ≤ b) (h2 : b ≤ a) :
    replicate (a - c).toNat x = replicate (b - c).toNat x ++ replicate (a - b).toNat x := by
  rw [replicate_append_replicate, toNat_sub_split h1 h2]

/-- cutting the string at column `x` cuts the gaps into those `takeT` keeps and those `dropT` keeps (a gap that
straddles the cut is divided); the scan tells which residue the cut falls before -/
theorem patG_cut (T : List Trip) : ∀ (col next pl x : Int), TSorted col T → TRel col next T → col ≤ x →
    x ≤ endColT col next T pl →
    patG next (gapsT T) pl = patG next (gapsT (takeT x T)) (seqIdxT col next T x) ++
        patG (seqIdxT col next T x) (gapsT (dropT x T)) pl ∧
      (patG next (gapsT (takeT x T)) (seqIdxT col next T x)).length = (x - col).toNat ∧
      (patG next (gapsT (takeT x T)) (seqIdxT col next T x)).count false = (seqIdxT col next T x - next).toNat := by
  induction T with
  | nil =>
    intro col next pl x _ _ h he
    simp only [endColT] at he
    simp only [takeT, dropT, gapsT, map_nil, patG, seqIdxT, length_replicate, count_replicate_self]
    exact ⟨replicate_cut false (by omega) (by omega), by rw [show next + (x - col) - next = x - col by omega], trivial⟩
  | cons t r ih =>
    intro col next pl x hs hr h he
    obtain ⟨p, s, e⟩ := t
    have ⟨h1, h2, _⟩ := hs
    have hr1 := hr.1
    by_cases c1 : e ≤ x
    · obtain ⟨i1, i2, i3⟩ := ih e p pl x (tsorted_tail hs) hr.2 c1 he
      rw [seqIdxT_cons_of_ge hs c1]
      simp only [takeT, dropT, if_pos c1, gapsT, map_cons, patG, tlen, append_assoc, length_append,
        length_replicate, count_append, count_replicate_self, count_replicate, Bool.true_eq_false, if_false,
        beq_iff_eq] at i1 i2 i3 ⊢
      exact ⟨by rw [i1], by rw [i2, ← hr1, toNat_sub_split h1 (Int.le_trans (Int.le_of_lt h2) c1),
        toNat_sub_split (Int.le_of_lt h2) c1], by
        rw [i3, Nat.zero_add, ← toNat_sub_split (by omega) (seqIdxT_ge_next r e p x (tsorted_tail hs) hr.2 c1)]⟩
    · by_cases c2 : x < s
      · -- the cut falls among the residues before the first gap
        simp only [takeT, dropT, seqIdxT, if_neg c1, if_neg (show ¬ s < x by omega), if_neg (show ¬ s ≤ x by omega),
          if_pos c2, gapsT, map_cons, map_nil, patG, tlen, length_replicate, count_replicate_self]
        refine ⟨?_, by rw [show next + (x - col) - next = x - col by omega], trivial⟩
        rw [replicate_cut false (show next ≤ next + (x - col) by omega) (show next + (x - col) ≤ p by omega)]
        simp only [append_assoc]
      · -- the cut falls in the first gap (at its first column: nothing of it is taken)
        simp only [dropT, seqIdxT, if_neg c1, if_neg c2, if_pos (show s ≤ x by omega), if_pos (show x ≤ e by omega),
          gapsT, map_cons, patG, tlen, Int.sub_self, Int.toNat_zero, replicate_zero, nil_append]
        by_cases c3 : s < x
        · simp only [takeT, if_neg c1, if_pos c3, map_cons, map_nil, patG, Int.sub_self, Int.toNat_zero,
            replicate_zero, append_nil, append_assoc, length_append, length_replicate, count_append,
            count_replicate_self, count_replicate, Bool.true_eq_false, if_false, beq_iff_eq]
          refine ⟨?_, by rw [← hr1, ← toNat_sub_split h1 (Int.le_of_lt c3)], Nat.add_zero _⟩
          rw [← append_assoc (replicate _ true), ← replicate_cut true (by omega) (by omega)]
        · obtain rfl : x = s := by omega
          simp only [takeT, if_neg c1, if_neg c3, map_nil, patG, length_replicate, count_replicate_self]
          exact ⟨trivial, by rw [hr1], trivial⟩

theorem take_patG (T : List Trip) (col next pl stop : Int) (hs : TSorted col T) (hr : TRel col next T)
    (h : col ≤ stop) (he : stop ≤ endColT col next T pl) :
    take (stop - col).toNat (patG next (gapsT T) pl) =
      patG next (gapsT (takeT stop T)) (seqIdxT col next T stop) := by
  obtain ⟨h1, h2, _⟩ := patG_cut T col next pl stop hs hr h he
  rw [h1, take_left' h2]

theorem drop_patG (T : List Trip) (col next pl start : Int) (hs : TSorted col T) (hr : TRel col next T)
    (h : col ≤ start) (he : start ≤ endColT col next T pl) :
    drop (start - col).toNat (patG next (gapsT T) pl) =
      patG (seqIdxT col next T start) (gapsT (dropT start T)) pl := by
  obtain ⟨h1, h2, _⟩ := patG_cut T col next pl start hs hr h he
  rw [h1, drop_left' h2]

theorem seqIdxT_comp (T : List Trip) (col next start stop : Int) (hs : TSorted col T)
    (h : col ≤ start) (hle : start ≤ stop) :
    seqIdxT start (seqIdxT col next T start) (dropT start T) stop = seqIdxT col next T stop := by
  fun_induction dropT start T generalizing col next with
  | case1 p s e r c1 ih =>
    rw [seqIdxT_cons_of_ge hs c1, seqIdxT_cons_of_ge hs (by omega)]
    exact ih e p (tsorted_tail hs) c1
  | case2 p s e r c1 c2 =>
    simp only [seqIdxT]
    rw [if_neg (show ¬ start < s by omega), if_pos (show start ≤ e by omega),
      if_neg (show ¬ stop < start by omega), if_neg (show ¬ stop < s by omega)]
  | case3 p s e r c1 c2 =>
    simp only [seqIdxT]
    rw [if_pos (show start < s by omega)]
    by_cases c3 : stop < s
    · rw [if_pos c3, if_pos c3]; omega
    · rw [if_neg c3, if_neg c3]
  | case4 => simp only [seqIdxT]; omega

theorem dropT_sorted (T : List Trip) (col start : Int) (hs : TSorted col T) (h : col ≤ start) :
    TSorted start (dropT start T) := by
  fun_induction dropT start T generalizing col with
  | case1 p s e r c1 ih => exact ih e (tsorted_tail hs) c1
  | case2 p s e r c1 c2 => exact ⟨Int.le_refl _, by omega, hs.2.2⟩
  | case3 p s e r c1 c2 => exact ⟨by omega, hs.2.1, hs.2.2⟩
  | case4 => trivial

theorem dropT_rel (T : List Trip) (col next start : Int) (hs : TSorted col T) (hr : TRel col next T)
    (h : col ≤ start) : TRel start (seqIdxT col next T start) (dropT start T) := by
  fun_induction dropT start T generalizing col next with
  | case1 p s e r c1 ih =>
    rw [seqIdxT_cons_of_ge hs c1]
    exact ih e p (tsorted_tail hs) hr.2 c1
  | case2 p s e r c1 c2 =>
    simp only [seqIdxT]
    rw [if_neg (by omega), if_pos (by omega)]
    exact ⟨by omega, hr.2⟩
  | case3 p s e r c1 c2 =>
    have := hr.1
    simp only [seqIdxT]
    rw [if_pos (by omega)]
    exact ⟨by omega, hr.2⟩
  | case4 => trivial

theorem endColT_dropT (T : List Trip) (col next pl start : Int) (hs : TSorted col T) (h : col ≤ start) :
    endColT start (seqIdxT col next T start) (dropT start T) pl = endColT col next T pl := by
  fun_induction dropT start T generalizing col next with
  | case1 p s e r c1 ih =>
    rw [seqIdxT_cons_of_ge hs c1]
    exact ih e p (tsorted_tail hs) c1
  | case2 => rfl
  | case3 => rfl
  | case4 => simp only [endColT, seqIdxT]; omega

theorem dropT_all (T : List Trip) (start : Int) (h : ∀ t ∈ T, t.2.2 ≤ start) : dropT start T = [] := by
  induction T with
  | nil => rfl
  | cons t r ih =>
    obtain ⟨p, s, e⟩ := t
    have := h (p, s, e) (by simp)
    simp only [dropT]
    rw [if_pos this]
    exact ih (fun t ht => h t (by simp [ht]))

/-- the gap in which `start` falls, found by `searchsorted`, is the head of `dropT` -/
theorem dropT_of_mem (start : Int) (T : List Trip) : ∀ (lo : Int), TSorted lo T →
    getN (T.map (·.2.1)) (ssLeft (T.map (·.2.2)) start) ≤ start →
    start < getN (T.map (·.2.2)) (ssLeft (T.map (·.2.2)) start) →
    ∃ R, dropT start T = (getN (T.map (·.1)) (ssLeft (T.map (·.2.2)) start), start,
                          getN (T.map (·.2.2)) (ssLeft (T.map (·.2.2)) start)) :: R ∧
      TSorted (getN (T.map (·.2.2)) (ssLeft (T.map (·.2.2)) start) + 1) R := by
  induction T with
  | nil => intro lo _ h1 h2; simp [ssLeft, getN_nil] at h1 h2; omega
  | cons t r ih =>
    intro lo hs ha hb
    obtain ⟨p, s, e⟩ := t
    obtain ⟨h1, h2, h3⟩ := hs
    simp only [map_cons, ssLeft] at ha hb ⊢
    by_cases c : e < start
    · simp only [c, if_true, getN_cons_succ] at ha hb ⊢
      obtain ⟨R, hR1, hR2⟩ := ih (e + 1) h3 ha hb
      refine ⟨R, ?_, hR2⟩
      simp only [dropT]; rw [if_pos (by omega)]; exact hR1
    · simp only [c, if_false, getN_cons_zero] at ha hb ⊢
      refine ⟨r, ?_, h3⟩
      simp only [dropT]; rw [if_neg (by omega), if_pos ha]

theorem locate (start : Int) (h0 : 0 ≤ start) (T : List Trip) : ∀ (lo : Int), TSorted lo T →
    getN (T.map (·.2.1)) (ssLeft (T.map (·.2.2)) start) ≤ start →
    start < getN (T.map (·.2.2)) (ssLeft (T.map (·.2.2)) start) →
    ∃ R, dropT start T = (getN (T.map (·.1)) (ssLeft (T.map (·.2.2)) start), start,
                          getN (T.map (·.2.2)) (ssLeft (T.map (·.2.2)) start)) :: R ∧
      TSorted (getN (T.map (·.2.2)) (ssLeft (T.map (·.2.2)) start) + 1) R :=
  dropT_of_mem start T

theorem takeT_of_lt (T : List Trip) (stop : Int) (h : TSorted stop T) : takeT stop T = [] := by
  cases T with
  | nil => rfl
  | cons t r =>
    obtain ⟨p, s, e⟩ := t
    obtain ⟨h1, h2, _⟩ := h
    simp only [takeT]
    rw [if_neg (by omega), if_neg (by omega)]

theorem takeT_sorted (T : List Trip) (col stop : Int) (hs : TSorted col T) : TSorted col (takeT stop T) := by
  fun_induction takeT stop T generalizing col with
  | case1 p s e r c1 ih => exact ⟨hs.1, hs.2.1, ih _ hs.2.2⟩
  | case2 p s e r c1 c2 => exact ⟨hs.1, c2, trivial⟩
  | case3 => trivial
  | case4 => trivial

theorem takeT_rel (T : List Trip) (col next stop : Int) (hr : TRel col next T) :
    TRel col next (takeT stop T) := by
  fun_induction takeT stop T generalizing col next with
  | case1 p s e r c1 ih => exact ⟨hr.1, ih _ _ hr.2⟩
  | case2 => exact ⟨hr.1, trivial⟩
  | case3 => trivial
  | case4 => trivial

/-- the gaps kept by `takeT` lie at or before the residue shown at column `stop` -/
theorem takeT_pos_le (T : List Trip) (col next stop : Int) (hs : TSorted col T) (hr : TRel col next T)
    (h : col ≤ stop) : ∀ t ∈ takeT stop T, t.1 ≤ seqIdxT col next T stop := by
  fun_induction takeT stop T generalizing col next with
  | case1 p s e r c1 ih =>
    have h3 := tsorted_mono _ _ _ (show e ≤ e + 1 by omega) hs.2.2
    rw [seqIdxT_cons_of_ge hs c1]
    intro t ht
    rcases mem_cons.mp ht with rfl | ht'
    · exact seqIdxT_ge_next r e p stop h3 hr.2 c1
    · exact ih e p h3 hr.2 c1 t ht'
  | case2 p s e r c1 c2 =>
    intro t ht
    rw [mem_singleton] at ht
    subst ht
    simp only [seqIdxT]
    rw [if_neg (by omega), if_pos (by omega)]
    exact Int.le_refl p
  | case3 => intro t ht; cases ht
  | case4 => intro t ht; cases ht

/-- if no gap begins before `stop`, the scan just counts columns -/
theorem seqIdxT_take_nil (T : List Trip) (col next stop : Int) (hr : TRel col next T)
    (h : takeT stop T = []) : seqIdxT col next T stop = next + (stop - col) := by
  fun_induction takeT stop T with
  | case1 => cases h
  | case2 => cases h
  | case3 p s e r c1 c2 =>
    have := hr.1
    simp only [seqIdxT]
    split
    · rfl
    · rw [if_pos (by omega)]; omega
  | case4 => rfl

/-- every gap that survives dropping then taking comes from an original gap that overlaps the window -/
theorem mem_take_drop (T : List Trip) : ∀ (col start stop : Int) (t : Trip), TSorted col T → start < stop →
    t ∈ takeT stop (dropT start T) →
    ∃ t0 ∈ T, t0.1 = t.1 ∧ start < t0.2.2 ∧ t0.2.1 < stop ∧ start ≤ t.2.1 ∧ t.2.1 < t.2.2 ∧ t.2.2 ≤ stop := by
  induction T with
  | nil => intro _ _ _ t _ _ h; simp [dropT, takeT] at h
  | cons t0 r ih =>
    intro col start stop t hs hlt hm
    obtain ⟨p, s, e⟩ := t0
    obtain ⟨h1, h2, h3⟩ := hs
    simp only [dropT] at hm
    by_cases c1 : e ≤ start
    · rw [if_pos c1] at hm
      obtain ⟨t0, ht0, hh⟩ := ih (e + 1) start stop t h3 hlt hm
      exact ⟨t0, mem_cons_of_mem _ ht0, hh⟩
    · rw [if_neg c1] at hm
      -- the remaining list is (p, s', e) :: r with s' = max s start; all later gaps are whole
      have key : ∀ (s' : Int), start ≤ s' → s ≤ s' → s' < e → t ∈ takeT stop ((p, s', e) :: r) →
          ∃ t0 ∈ (p, s, e) :: r, t0.1 = t.1 ∧ start < t0.2.2 ∧ t0.2.1 < stop ∧ start ≤ t.2.1 ∧ t.2.1 < t.2.2 ∧ t.2.2 ≤ stop := by
        intro s' hs1 hs2 hs3 hm'
        simp only [takeT] at hm'
        by_cases d1 : e ≤ stop
        · rw [if_pos d1] at hm'
          rcases mem_cons.mp hm' with rfl | hm''
          · exact ⟨(p, s, e), by simp, rfl, by simp only; omega, by simp only; omega, hs1, hs3, d1⟩
          · rw [← dropT_of_lt r start (tsorted_mono _ _ _ (by omega) h3)] at hm''
            obtain ⟨t0, ht0, hh⟩ := ih (e + 1) start stop t h3 hlt hm''
            exact ⟨t0, mem_cons_of_mem _ ht0, hh⟩
        · rw [if_neg d1] at hm'
          by_cases d2 : s' < stop
          · rw [if_pos d2] at hm'
            simp only [mem_singleton] at hm'
            subst hm'
            exact ⟨(p, s, e), by simp, rfl, by simp only; omega, by simp only; omega, hs1, d2, by simp⟩
          · rw [if_neg d2] at hm'; simp at hm'
      by_cases c2 : s ≤ start
      · rw [if_pos c2] at hm; exact key start (by omega) c2 (by omega) hm
      · rw [if_neg c2] at hm; exact key s (by omega) (by omega) h2 hm

end CogentModel.IndelMap
