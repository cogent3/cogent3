import Mathlib.Analysis.Normed.Algebra.MatrixExponential
import Mathlib.Topology.Algebra.InfiniteSum.Order
import Mathlib.Topology.Instances.Matrix
import Mathlib.Tactic.NormNum
import CogentModel.Proofs.DetailedBalanceMatrix
/-! C05 over ℝ: the exponential of an entrywise non-negative matrix, and hence of a matrix with non-negative off-diagonal
entries, is entrywise non-negative; the exponential of a transposed generator. -/
namespace CogentModel.C05Real
open Matrix NormedSpace

variable {n : Type*} [Fintype n] [DecidableEq n]
attribute [local instance] Matrix.linftyOpNormedRing Matrix.linftyOpNormedAlgebra

theorem pow_entry_nonneg (A : Matrix n n ℝ) (hA : ∀ i j, 0 ≤ A i j) : ∀ (k : ℕ) (i j : n), 0 ≤ (A ^ k) i j := by
  intro k
  induction k with
  | zero => intro i j; rw [pow_zero, Matrix.one_apply]; split <;> norm_num
  | succ k ih =>
    intro i j
    rw [pow_succ, Matrix.mul_apply]
    exact Finset.sum_nonneg fun l _ => mul_nonneg (ih i l) (hA l j)

theorem exp_entry_nonneg (A : Matrix n n ℝ) (hA : ∀ i j, 0 ≤ A i j) (i j : n) : 0 ≤ (exp A) i j := by
  have hs : HasSum (fun k : ℕ => ((k.factorial : ℝ)⁻¹) • A ^ k) (exp A) := exp_series_hasSum_exp' (𝕂 := ℝ) A
  have hc : Continuous fun M : Matrix n n ℝ => M i j := continuous_id.matrix_elem i j
  have hs2 : HasSum (fun k : ℕ => (((k.factorial : ℝ)⁻¹) • A ^ k) i j) ((exp A) i j) :=
    hs.map (Matrix.entryAddMonoidHom ℝ i j) hc
  refine HasSum.nonneg (fun k => ?_) hs2
  rw [Matrix.smul_apply, smul_eq_mul]
  exact mul_nonneg (inv_nonneg.mpr (Nat.cast_nonneg _)) (pow_entry_nonneg A hA k i j)

/-- the exponential of a matrix with non-negative off-diagonal entries (a Metzler matrix) is entrywise non-negative -/
theorem exp_metzler_entry_nonneg (M : Matrix n n ℝ) (hM : ∀ i j, i ≠ j → 0 ≤ M i j) (i j : n) : 0 ≤ (exp M) i j := by
  -- shift by c = ∑ |M_ii| so that A = M + c • 1 is entrywise non-negative; then exp M = exp (-c) • exp A
  let c : ℝ := ∑ k, |M k k|
  have hc : ∀ k, -M k k ≤ c := fun k =>
    le_trans (neg_le_abs (M k k)) (Finset.single_le_sum (f := fun k => |M k k|) (fun _ _ => abs_nonneg _) (Finset.mem_univ k))
  let A : Matrix n n ℝ := M + c • (1 : Matrix n n ℝ)
  have hA : ∀ a b, 0 ≤ A a b := by
    intro a b
    show 0 ≤ (M + c • (1 : Matrix n n ℝ)) a b
    rw [Matrix.add_apply, Matrix.smul_apply, smul_eq_mul, Matrix.one_apply]
    by_cases hab : a = b
    · subst hab; rw [if_pos rfl, mul_one]; exact neg_le_iff_add_nonneg'.mp (hc a)
    · rw [if_neg hab, mul_zero, add_zero]; exact hM a b hab
  have hexp : exp ((-c) • (1 : Matrix n n ℝ)) = exp (-c) • 1 := by
    rw [← Algebra.algebraMap_eq_smul_one, ← Algebra.algebraMap_eq_smul_one]
    exact (algebraMap_exp_comm (-c)).symm
  have key : exp M = exp (-c) • exp A := by
    rw [show M = A + (-c) • 1 by rw [neg_smul, add_neg_cancel_right],
      Matrix.exp_add_of_commute _ _ ((Commute.one_right A).smul_right _), hexp, mul_smul_comm, mul_one]
  rw [key, Matrix.smul_apply, smul_eq_mul]
  refine mul_nonneg ?_ (exp_entry_nonneg A hA i j)
  rw [← add_halves (-c), NormedSpace.exp_add]
  exact mul_self_nonneg _

theorem exp_smul_transpose (Q : Matrix n n ℝ) (t : ℝ) : exp (t • Qᵀ) = (exp (t • Q))ᵀ := by
  rw [← Matrix.transpose_smul, Matrix.exp_transpose]

end CogentModel.C05Real
