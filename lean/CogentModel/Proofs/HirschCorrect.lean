/-
  The divide-and-conquer result answers the global problem as the full DP does: the same value and a path that has it
  (a maximiser, in general not the one the full DP returns).
-/
import CogentModel.Proofs.HirschMiddleRow
namespace CogentModel.PairHMM
set_option linter.unusedSectionVars false

variable {S : Type} [Add S] [LT S] [DecidableLT S] [ScoreLawsAC S]

namespace Solves

/-- an answer to the first-half problem answers "the best path of `h` to `(half, j)` that ends in state `a`" -/
theorem of_pinEnd {h : HMM S} {z : S} (hz : ∀ x : S, x + z = x) {a half j : Nat} {R : Result S} (h1 : 1 ≤ half)
    (hR : Solves (pinEnd h z a) half j R) :
    IsOpt (prefixScore h 0 0) (fun p => p ≠ [] ∧ IsGlobalPath h half j p ∧ lastState p = a) R.score
      fun p => R.path = some (annotate h 0 0 p) := by
  refine hR.congr (fun p v hp hw hs => ?_) fun p v ⟨hne, hp, hl⟩ hs => ?_
  · obtain ⟨hst, hc⟩ := (isGlobalPath_pinEnd h z a half j p).mp hp
    have hne := ne_nil_of_consumed h1 hc
    rw [globalScore_pinEnd h z hz a hne hst] at hs
    split at hs
    · next hl => exact ⟨p, by rw [hw, annotate_congr (pinEnd h z a) h fun _ => rfl], ⟨hne, ⟨hst, hc⟩, hl⟩, hs⟩
    · cases hs
  · exact ⟨p, (isGlobalPath_pinEnd h z a half j p).mpr hp,
      by rw [globalScore_pinEnd h z hz a hne hp.1, if_pos hl]; exact hs⟩

/-- an answer to the second-half problem answers "the best continuation in `h` after state `a` in `(i0, j0)`" -/
theorem of_startFrom {h : HMM S} {a i0 j0 n m : Nat} {R : Result S} (hi : i0 ≤ n) (hj : j0 ≤ m)
    (hR : Solves (startFrom h a i0 j0) (n - i0) (m - j0) R) :
    IsOpt (tailScore h a i0 j0) (fun q => statesOK h q ∧ consumedFrom h i0 j0 q = (n, m)) R.score
      fun q => R.path.map (shiftSteps i0 j0) = some (annotate h i0 j0 q) := by
  refine hR.congr (fun q v hq hw hs => ?_) fun q v hq hs => ?_
  · have hq' := (isGlobalPath_startFrom h a hi hj q).mp hq
    exact ⟨q, by rw [hw, Option.map_some, annotate_shift, annotate_congr (startFrom h a i0 j0) h fun _ => rfl]; rfl, hq',
      (globalScore_startFrom h a i0 j0 q hq'.1).symm.trans hs⟩
  · exact ⟨q, (isGlobalPath_startFrom h a hi hj q).mpr hq, (globalScore_startFrom h a i0 j0 q hq.1).trans hs⟩

end Solves

/-- **the linear-space alignment answers the global problem** (the value of the full DP and a path that has it), for
every fuel, threshold, split function and HMM -/
theorem hirsch_correct (z : S) (hz : ∀ x : S, x + z = x) (split : Nat → Nat)
    (hsplit : ∀ n, 3 ≤ n → 1 ≤ split n ∧ split n ≤ n) (limit : Nat) :
    ∀ (f : Nat) (h : HMM S), NoSilent h → ∀ (n m : Nat), Solves h n m (hirsch z split limit f h n m) := by
  intro f
  induction f with
  | zero => intro h hns n m; exact viterbiGlobal_solves h hns n m
  | succ f ih =>
    intro h hns n m
    rw [hirsch]
    split
    · next hcond =>
      obtain ⟨h1, hn⟩ := hsplit n hcond.1
      simp only [tableOf_getD _ _ _ _ _ (Nat.le_refl _)]
      -- each sub-answer solves the prefix resp. the continuation problem of `h`, whose optimum the row holds
      have hmid := split_isOpt h n m (split n) h1 hn
        (fun j a hj ha1 hak => ((ih (pinEnd h z a) hns (split n) j).of_pinEnd hz h1).cast
          (val_isOpt h hns m (split n) j a hj ha1 hak))
        (fun j a hj => ((ih (startFrom h a (split n) j) hns (n - split n) (m - j)).of_startFrom hn hj).cast
          (bwd_isOpt h hns n m (split n) j a hn hj))
        (midRow_isMax h n m (split n))
      split
      · next hb => exact ⟨fun p hp => hb ▸ hmid.ge p hp, fun v hv => by cases hv⟩
      · next v hb =>
        refine ⟨fun p hp => hb ▸ hmid.ge p hp, fun v' hv' => ?_⟩
        obtain ⟨_, ⟨pa, pb, rfl, hca, hpa, hpb⟩, hp, hs⟩ := hmid.attained v hb
        obtain rfl : v = v' := Option.some.inj hv'
        -- the returned steps: those of the first answer, then the shifted steps of the second
        obtain ⟨sb, hrb, hsb⟩ := Option.map_eq_some_iff.mp hpb
        refine ⟨pa ++ pb, ?_, hp, hs⟩
        dsimp only at hpa hrb ⊢
        rw [hpa, hrb, annotate_append_list, hca, ← hsb]
    · exact viterbiGlobal_solves h hns n m

end CogentModel.PairHMM
