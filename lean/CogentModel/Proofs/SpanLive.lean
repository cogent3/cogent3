import CogentModel.Model.RichDict
/-! A constructed span is a well-formed live span, and pickle and JSON re-initialise a span from the same live values:
what holds of every well-formed live state therefore holds of every constructed one, on either route. -/
namespace CogentModel.RichDict

/-- `Span.__init__` leaves `start ≤ end` -/
theorem span_build_wf (a : SpanArgs) : a.build.WF := by
  cases a with
  | lost l => trivial
  | span s e ts te r =>
    cases e with
    | none => simp only [SpanArgs.build, SpanState.WF]; omega
    | some e =>
      by_cases h : s > e
      · simp only [SpanArgs.build, h, if_true, SpanState.WF]; omega
      · simp only [SpanArgs.build, h, if_false, SpanState.WF]; omega

theorem pickleArgs_eq_richArgs : SpanState.pickleArgs = SpanState.richArgs := by
  funext x; cases x <;> rfl

end CogentModel.RichDict
