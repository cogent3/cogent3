import CogentModel.Model.Controller
import CogentModel.Proofs.CtlFail
/-! # C07 — dirty-set propagation of the ParameterController: the invariant `Inv`, obtained from that of `CtlF`
(`Proofs/CtlFail.lean`) by reading the controller as the case in which no `update()` raises -/
namespace CogentModel.Ctl
variable {V : Type} [Inhabited V]

def WF (g : Graph V) : Prop := ∀ k, k < g.length → ∀ a, a ∈ (defn g k).args → a < k

/-- definition `k` holds what its rule says, given the current values / settings -/
def LocalOK (g : Graph V) (s : St V) (k : Nat) : Prop :=
  match defn g k with
  | .leaf => s.values k = s.setting k
  | .derived args f => s.values k = f (args.map s.values)

def Defn.lift : Defn V → CtlF.Defn V
  | .leaf => .leaf
  | .derived args f => .derived args fun l => some (f l)

def lift (g : Graph V) : CtlF.Graph V := g.map Defn.lift

theorem length_lift (g : Graph V) : (lift g).length = g.length := List.length_map _

theorem defn_lift (g : Graph V) (k : Nat) : CtlF.defn (lift g) k = (defn g k).lift := by
  simp only [CtlF.defn, defn, lift, List.getD, List.getElem?_map]
  cases g[k]? <;> rfl

theorem args_lift (g : Graph V) (k : Nat) : (CtlF.defn (lift g) k).args = (defn g k).args := by
  rw [defn_lift]
  cases defn g k <;> rfl

theorem clients_lift (g : Graph V) (k : Nat) : CtlF.clients (lift g) k = clients g k := by
  simp only [CtlF.clients, clients, length_lift, args_lift]

theorem wf_lift {g : Graph V} : CtlF.WF (lift g) ↔ WF g := by
  simp only [CtlF.WF, WF, length_lift, args_lift]

theorem localOK_lift {g : Graph V} {s : St V} {k : Nat} : CtlF.LocalOK (lift g) s k ↔ LocalOK g s k := by
  unfold CtlF.LocalOK LocalOK
  rw [defn_lift]
  cases defn g k with
  | leaf => rfl
  | derived args f => exact ⟨fun h => (Option.some.inj h).symm, fun h => congrArg some h.symm⟩

theorem updateOne_lift (g : Graph V) (s : St V) (k : Nat) :
    CtlF.updateOne (lift g) s k = some (updateOne g s k) := by
  unfold CtlF.updateOne updateOne
  rw [defn_lift]
  cases defn g k <;> rfl

theorem updateLoop_lift (g : Graph V) : ∀ (ks : List Nat) (s : St V),
    CtlF.updateLoop (lift g) ks s = (updateLoop g ks s, true)
  | [], _ => rfl
  | k :: ks, s => by
    unfold CtlF.updateLoop updateLoop
    rw [updateOne_lift, clients_lift]
    split
    · exact updateLoop_lift g ks _
    · exact updateLoop_lift g ks s

theorem LocalOK.congr {g : Graph V} {s s' : St V} {k : Nat} (h : LocalOK g s k)
    (hk : s'.values k = s.values k) (ha : ∀ a, a ∈ (defn g k).args → s'.values a = s.values a)
    (hs : s'.setting k = s.setting k) : LocalOK g s' k :=
  localOK_lift.1 ((localOK_lift.2 h).congr hk (args_lift g k ▸ ha) hs)

/-- the walk only writes `values` and `changed` -/
theorem updateLoop_fields (g : Graph V) (ks : List Nat) (s : St V) :
    (updateLoop g ks s).setting = s.setting ∧ (updateLoop g ks s).suspended = s.suspended ∧
    (updateLoop g ks s).stack = s.stack := by
  have := CtlF.updateLoop_fields (lift g) ks s
  rwa [updateLoop_lift] at this

theorem updateIntermediate_fields (g : Graph V) (s : St V) :
    (updateIntermediate g s).setting = s.setting ∧ (updateIntermediate g s).suspended = s.suspended ∧
    (updateIntermediate g s).stack = s.stack := by
  unfold updateIntermediate
  split
  · exact ⟨rfl, rfl, rfl⟩
  · exact updateLoop_fields g _ s

/-- every definition that is not marked dirty is locally consistent -/
def J (g : Graph V) (s : St V) : Prop := ∀ k, k < g.length → k ∉ s.changed → LocalOK g s k

theorem j_lift {g : Graph V} {s : St V} : CtlF.J (lift g) s ↔ J g s := by
  simp only [CtlF.J, J, length_lift, localOK_lift]

/-- the walk over all definitions leaves every definition consistent -/
theorem updateLoop_range (g : Graph V) (hwf : WF g) (s : St V) (hJ : J g s) :
    ∀ j, j < g.length → LocalOK g (updateLoop g (List.range g.length) s) j := by
  have := (CtlF.updateLoop_upto (lift g) (wf_lift.2 hwf) (lift g).length 0 s (Nat.zero_add _) (j_lift.2 hJ).upto).2
  rw [← List.range_eq_range', length_lift, updateLoop_lift] at this
  exact fun j hj => localOK_lift.1 (this rfl j hj)

/-- marking definitions dirty keeps `J`, also when the settings of the marked ones change -/
theorem J.mark {g : Graph V} {s : St V} (hJ : J g s) (ks : List Nat) (σ : Nat → V)
    (hσ : ∀ j, j ∉ ks → σ j = s.setting j) : J g { s with setting := σ, changed := s.changed ++ ks } :=
  j_lift.1 ((j_lift.2 hJ).mark ks σ hσ)

structure Inv (g : Graph V) (s : St V) : Prop where
  j : J g s
  stack : StackOK s.suspended s.stack
  clean : s.suspended = false → s.changed = []

theorem updateIntermediate_lift (g : Graph V) (s : St V) :
    CtlF.updateIntermediate (lift g) s = (updateIntermediate g s, true) := by
  unfold CtlF.updateIntermediate updateIntermediate
  rw [length_lift, updateLoop_lift]
  split <;> rfl

theorem Inv.propagate (g : Graph V) (hwf : WF g) (s : St V) (hJ : J g s) (hst : StackOK s.suspended s.stack) :
    Inv g (updateIntermediate g s) := by
  have := CtlF.Inv.propagate (lift g) (wf_lift.2 hwf) s (j_lift.2 hJ) hst
  rw [updateIntermediate_lift] at this
  exact ⟨j_lift.1 this.1.j, this.1.stack, this.2 rfl⟩

theorem init_inv (g : Graph V) (hwf : WF g) (setting : Nat → V) : Inv g (init g setting) :=
  Inv.propagate g hwf _ (fun _ hk hkc => absurd (List.mem_range.2 hk) hkc) rfl

theorem step_inv (g : Graph V) (hwf : WF g) (s : St V) (o : Op V) (hI : Inv g s) :
    Inv g (step g s o) := by
  cases o with
  | assign k v =>
    exact Inv.propagate g hwf _ (hI.j.mark [k] _ fun j hj => if_neg (by simpa using hj)) hI.stack
  | enter => exact ⟨hI.j, ⟨rfl, hI.stack⟩, fun h => by simp [step] at h⟩
  | exit | xexit =>
    unfold step
    cases hst : s.stack with
    | nil => exact hI
    | cons old rest => exact Inv.propagate g hwf _ hI.j (hst ▸ hI.stack).2

theorem Inv.idle {g : Graph V} {s : St V} (hI : Inv g s) (hst : s.stack = []) :
    s.suspended = false ∧ s.changed = [] ∧ ∀ k, k < g.length → LocalOK g s k := by
  have hs : s.suspended = false := by have := hI.stack; rwa [hst] at this
  refine ⟨hs, hI.clean hs, fun k hk => hI.j k hk ?_⟩
  rw [hI.clean hs]; exact List.not_mem_nil

end CogentModel.Ctl
