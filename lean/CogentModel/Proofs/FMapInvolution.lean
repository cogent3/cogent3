import CogentModel.Proofs.FMapInverse
/-! On a sorted forward map `inverse()` has a closed form (`invC`: no sorting happens, the loop walks the spans in
order); on complete maps the closed form undoes itself (`invC_invC`), which is what
`C08.inverse_involutive_on_complete` rests on. -/
namespace CogentModel.FMap

/-- no lost spans (`FeatureMap.complete`) -/
def Complete (l : List FSp) : Prop := ∀ x ∈ l, x.isLost = false
instance (l : List FSp) : Decidable (Complete l) := by unfold Complete; infer_instance

theorem Complete.tail {x : FSp} {l : List FSp} (h : Complete (x :: l)) : Complete l :=
  fun y hy => h y (List.mem_cons_of_mem _ hy)

/-- the tuples of a `Chain` come out in sorted order -/
theorem invTemp_sorted : ∀ (l : List FSp) (lb cum : Int), Chain lb l →
    (invTemp cum l).Pairwise (fun a b => qle a b = true)
  | [], _, _, _ => .nil
  | .lost n :: r, lb, cum, h => invTemp_sorted r lb (cum + n) h.2
  | .span s e rv :: r, lb, cum, h => by
    obtain ⟨_, hse, rfl, hc⟩ := h
    refine .cons (fun q hq => ?_) (invTemp_sorted r e (cum + (e - s)) hc)
    obtain ⟨⟨rv, hrv⟩, _, hb⟩ := invTemp_mem r (cum + (e - s)) (chain_nonNeg r e hc) q hq
    have := chain_mem r e hc _ _ rv hrv
    obtain ⟨q1, q2, q3, q4⟩ := q
    simp only [qle, Bool.false_eq_true, if_false, decide_eq_true_eq] at hb this ⊢
    omega

theorem chain_weaken : ∀ (l : List FSp) (lb lb' : Int), lb' ≤ lb → Chain lb l → Chain lb' l
  | [], _, _, _, _ => trivial
  | .lost _ :: r, lb, lb', h, hc => ⟨hc.1, chain_weaken r lb lb' h hc.2⟩
  | .span _ _ _ :: _, _, _, h, hc => ⟨Int.le_trans h hc.1, hc.2⟩


theorem chain_gap_append (lb last s : Int) (T : List FSp) : Chain lb (gap last s ++ T) ↔ Chain lb T := by
  unfold gap; split
  · simp only [List.cons_append, List.nil_append, Chain, and_iff_right_iff_imp]; omega
  · rfl

theorem lastEnd_gap_append (c last s : Int) (T : List FSp) : lastEnd c (gap last s ++ T) = lastEnd c T := by
  unfold gap; split <;> rfl

/-- closed form of the spans of `inverse()` on a `Chain` map -/
def invC (last cum : Int) : List FSp → List FSp
  | [] => []
  | .lost n :: r => invC last (cum + n) r
  | .span s e _ :: r => gap last s ++ FSp.span cum (cum + (e - s)) false :: invC e (cum + (e - s)) r

/-- a gap in front only moves the map position on -/
theorem invC_gap_append {a b : Int} (h : a ≤ b) (last : Int) (T : List FSp) :
    invC last a (gap a b ++ T) = invC last b T := by
  unfold gap; split
  · rw [List.cons_append, invC, List.nil_append]; congr 1; omega
  · rw [show b = a by omega]; rfl

theorem invLoop_chain : ∀ (l : List FSp) (last cum : Int), Chain last l →
    invLoop last (invTemp cum l) = .ok (invC last cum l, lastEnd last l)
  | [], _, _, _ => rfl
  | .lost n :: r, last, cum, h => by
    simp only [Chain] at h
    simp only [invTemp, invC, lastEnd]
    exact invLoop_chain r last (cum + n) h.2
  | .span s e rv :: r, last, cum, h => by
    simp only [Chain] at h
    obtain ⟨hlb, hse, hrv, hc⟩ := h
    subst hrv
    simp only [invTemp, Bool.false_eq_true, if_false, invC, lastEnd, invLoop]
    rw [if_neg (by omega), invLoop_chain r e (cum + (e - s)) hc]
    simp only []
    rw [decide_eq_false (by omega), mkSpan_of_le (by omega), gap_cons, List.append_assoc]; rfl

theorem chain_invC_append : ∀ (l : List FSp) (last cum lb : Int) (T : List FSp), Chain last l → lb ≤ cum →
    (∀ c, cum + lenL l ≤ c → Chain c T) → Chain lb (invC last cum l ++ T)
  | [], last, cum, lb, T, _, hlb, hT => chain_weaken T cum lb hlb (hT cum (by simp))
  | .lost n :: r, last, cum, lb, T, h, hlb, hT =>
    chain_invC_append r last (cum + n) lb T h.2 (by have := h.1; omega)
      (fun c hc => hT c (by simp only [lenL_cons, FSp.length]; omega))
  | .span s e rv :: r, last, cum, lb, T, h, hlb, hT => by
    simp only [Chain] at h
    rw [invC, List.append_assoc, chain_gap_append]
    exact ⟨hlb, by omega, rfl, chain_invC_append r e (cum + (e - s)) (cum + (e - s)) T h.2.2.2 (by omega)
      (fun c hc => hT c (by simp only [lenL_cons, FSp.length]; omega))⟩

/-- inverting the inverse of a complete chain gives the chain back -/
theorem invC_invC : ∀ (l : List FSp) (last cum : Int) (T : List FSp), Chain last l → Complete l →
    invC cum last (invC last cum l ++ T) = l ++ invC (cum + lenL l) (lastEnd last l) T
  | [], last, cum, T, _, _ => by simp [invC, lastEnd]
  | .lost n :: r, last, cum, T, _, hC => by
    have := hC (.lost n) List.mem_cons_self
    simp [FSp.isLost] at this
  | .span s e rv :: r, last, cum, T, h, hC => by
    simp only [Chain] at h
    obtain ⟨hlb, hse, hrv, hc⟩ := h
    subst hrv
    -- the gap moves the parent position from `last` to `s`; the span `[cum, cum + (e - s))` then gives `[s, e)` back
    rw [invC, List.append_assoc, invC_gap_append hlb, List.cons_append, invC, gap_self, List.nil_append,
      show s + (cum + (e - s) - cum) = e by omega, invC_invC r e (cum + (e - s)) T hc hC.tail, lenL_cons, lastEnd,
      FSp.length, List.cons_append, Int.add_assoc]

theorem lastEnd_invC : ∀ (l : List FSp) (last cum a b : Int), Chain last l → Complete l →
    lastEnd cum (invC last cum l ++ gap a b) = cum + lenL l
  | [], last, cum, a, b, _, _ => by
    rw [invC, List.nil_append, ← List.append_nil (gap a b), lastEnd_gap_append, lenL_nil, Int.add_zero]; rfl
  | .lost k :: r, last, cum, _, _, _, hC => by
    have := hC (.lost k) List.mem_cons_self
    simp [FSp.isLost] at this
  | .span s e rv :: r, last, cum, a, b, h, hC => by
    rw [invC, List.append_assoc, lastEnd_gap_append, List.cons_append, lastEnd,
      lastEnd_invC r e (cum + (e - s)) a b h.2.2.2 hC.tail, lenL_cons, FSp.length]
    omega

/-- `inverse()` of a `Chain` map, in closed form -/
theorem inverse_chain (m : FM) (h : Chain 0 m.spans) :
    inverse m = .ok ⟨invC 0 0 m.spans ++ gap (lastEnd 0 m.spans) m.parentLength, len m⟩ := by
  unfold inverse
  simp only []
  rw [InsertionSort.sort_of_sorted (ins := insertQ) (fun _ => rfl) (fun _ _ _ => rfl) _ (invTemp_sorted m.spans 0 0 h),
    invLoop_chain m.spans 0 0 h]
  rfl

end CogentModel.FMap
