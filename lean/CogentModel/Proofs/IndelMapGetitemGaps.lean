import CogentModel.Proofs.IndelMapSliceArrays
import CogentModel.Proofs.IndelMapSeqIndex
/-! `__getitem__` on a map with gaps, `0 ≤ start < stop`: its three paths return one closed form (`getitemGaps_eq`),
which is well formed, denotes the slice (`result_spec`) and never raises. -/
namespace CogentModel.IndelMap
open CogentModel.Gapped List

/-- the map `__getitem__` returns (gap positions shifted by the sequence index of `start`,
cumulative sum of the surviving gap lengths, parent length = difference of sequence indices)
is well formed and denotes the slice of the string -/
theorem result_spec (m : IMap) (h : WF m) (start stop : Int) (h0 : 0 ≤ start) (hlt : start < stop)
    (hle : stop ≤ len m) (r : IMap)
    (hgp : r.gapPos = (takeT stop (dropT start (trips 0 m.gapPos m.cumLens))).map (·.1 - seqIndexNN m start))
    (hcum : r.cumLens = cumsum ((takeT stop (dropT start (trips 0 m.gapPos m.cumLens))).map tlen))
    (hpl : r.parentLength = seqIndexNN m stop - seqIndexNN m start) :
    WF r ∧ pattern (abs r) = ((pattern (abs m)).drop start.toNat).take (stop - start).toNat := by
  have hTs := h.tsorted
  have hTr := trel_trips m.gapPos m.cumLens
  have hE := endColT_abs m h
  obtain ⟨gp, cum, pl⟩ := r
  simp only at hgp hcum hpl
  subst hgp hcum hpl
  rw [seqIndexNN_eq_T m h start, seqIndexNN_eq_T m h stop, pattern_abs_trips m] at *
  generalize trips 0 m.gapPos m.cumLens = T at *
  have hDs := dropT_sorted T 0 start hTs h0
  have hDr := dropT_rel T 0 0 start hTs hTr h0
  have hcomp := seqIdxT_comp T 0 0 start stop hTs h0 (by omega)
  have hpat := take_patG _ start _ m.parentLength stop hDs hDr (by omega)
    (by rw [endColT_dropT T 0 0 m.parentLength start hTs h0, hE]; exact hle)
  -- every surviving gap lies at or before the residue shown at `stop`
  have hup := takeT_pos_le _ start _ stop hDs hDr (by omega)
  have hge := seqIdxT_ge_next _ _ _ stop hDs hDr (by omega)
  rw [hcomp] at hpat hup hge
  rw [← drop_patG T 0 0 m.parentLength start hTs hTr h0 (by rw [hE]; omega), Int.sub_zero] at hpat
  have hT's := takeT_sorted _ _ stop hDs
  have hT'r := takeT_rel _ _ _ stop hDr
  generalize seqIdxT 0 0 T start = sh at *
  generalize takeT stop (dropT start T) = T' at *
  obtain ⟨pw, pge⟩ := trel_pos T' start start sh hT's hT'r
  obtain ⟨hwf, hp⟩ := ofLengths_spec (T'.map (·.1 - sh)) (T'.map tlen) (seqIdxT 0 0 T stop - sh)
    (by simp only [length_map])
    (by rw [show T'.map (·.1 - sh) = (T'.map (·.1)).map (· - sh) by rw [map_map]; rfl]
        exact pw.map _ (fun a b hab => by omega))
    (fun l hl => by obtain ⟨t, ht, rfl⟩ := mem_map.mp hl; exact tsorted_tlen_pos T' start hT's t ht)
    (fun q hq => by obtain ⟨t, ht, rfl⟩ := mem_map.mp hq; have := pge t ht; have := hup t ht; omega) (by omega)
  refine ⟨hwf, ?_⟩
  rw [hp, hpat, ← patG_sub (gapsT T') sh sh, Int.sub_self, gapsT, map_map, zip_map']
  rfl

/-- the `shift` computed by the `start` case analysis is the sequence index of `start` -/
theorem sliceBegin_shift (m : IMap) (h : WF m) (hne : m.gapPos ≠ []) (start : Int)
    (hlast : ¬ start ≥ lastD m.gapPos + lastD m.cumLens) (L : List Int) :
    (sliceBegin m start (ssLeft (gapEnds m.gapPos m.cumLens) start) (gapStarts m.gapPos m.cumLens)
        (gapEnds m.gapPos m.cumLens) L).2.1 = seqIndexNN m start := by
  have hl := h.len_eq
  by_cases b1 : start < m.gapPos.headD 0
  · unfold sliceBegin seqIndexNN; rw [if_pos b1, if_pos (Or.inr b1)]
  · have hElen := gapEnds_length m.gapPos m.cumLens hl
    have hlt : ssLeft (gapEnds m.gapPos m.cumLens) start < m.gapPos.length := by
      rw [← hElen]
      exact ssLeft_lt_length _ _ (fun hn => hne (length_eq_zero_iff.mp (by rw [← hElen, hn]; rfl)))
        (by rw [lastD_gapEnds _ _ hl hne]; omega)
    have hF3 := ssLeft_lt_spec (gapEnds m.gapPos m.cumLens) start (by rwa [hElen])
    obtain ⟨hS, hE, hF1⟩ := gapSpans_at _ _ _ _ h.inc _ hlt
    rw [seqIndexNN_eq_siCore m h]
    unfold sliceBegin siCore gapStarts
    rw [if_neg b1]
    generalize ssLeft (gapEnds m.gapPos m.cumLens) start = l at *
    -- `cum[l - 1]` and `gap_pos[0]` as lookups at `l`
    have hX1 : l ≠ 0 → getN m.cumLens (l - 1) = getN (0 :: m.cumLens) l :=
      fun hl0 => (if_neg hl0).symm.trans (getN_cons_pred 0 m.cumLens l)
    have hX2 : l = 0 → m.gapPos.headD 0 = getN m.gapPos l ∧ getN (0 :: m.cumLens) l = 0 := by
      rintro rfl; exact ⟨by cases m.gapPos <;> rfl, rfl⟩
    generalize getN (startsFrom 0 m.gapPos m.cumLens) l = S at *
    generalize getN (gapEnds m.gapPos m.cumLens) l = E at *
    generalize getN (0 :: m.cumLens) l = X at *
    generalize getN m.cumLens (l - 1) = X' at *
    generalize m.gapPos.headD 0 = H at *
    clear hElen hlast hl
    by_cases b2 : S ≤ start ∧ start < E
    · rw [if_pos b2, if_pos ⟨hlt, b2.1⟩]
      show (if l ≠ 0 then start - X' - (start - S) else H) = _
      by_cases hl0 : l = 0
      · rw [if_neg (fun hn => hn hl0)]; exact (hX2 hl0).1
      · rw [if_pos hl0]; have := hX1 hl0; omega
    · rw [if_neg b2]
      by_cases b3 : start = E
      · rw [if_pos b3, if_pos ⟨hlt, by omega⟩]
        show start - getN m.cumLens l = getN m.gapPos l
        omega
      · rw [if_neg b3, if_neg (show ¬ (l < m.gapPos.length ∧ S ≤ start) from fun hh => by omega)]
        show (if l ≠ 0 then start - X' else start) = _
        by_cases hl0 : l = 0
        · rw [if_neg (fun hn => hn hl0)]; have := hX2 hl0; omega
        · rw [if_pos hl0]; have := hX1 hl0; omega

/-- the three paths of `__getitem__` on a map with gaps (no gap in the interval, the interval inside
one gap, the index computation) all return the gaps that survive dropping and taking, with positions
relative to the sequence index of `start` -/
theorem getitemGaps_eq (m : IMap) (h : WF m) (hne : m.gapPos ≠ []) (start stop : Int) (h0 : 0 ≤ start)
    (hlt : start < stop) :
    getitemGaps m start stop =
      mkLengths ((takeT stop (dropT start (trips 0 m.gapPos m.cumLens))).map (·.1 - seqIndexNN m start))
        ((takeT stop (dropT start (trips 0 m.gapPos m.cumLens))).map tlen)
        (seqIndexNN m stop - seqIndexNN m start) := by
  have hl := h.len_eq
  have hTs := h.tsorted
  have hTr := trel_trips m.gapPos m.cumLens
  by_cases c1 : stop < m.gapPos.headD 0 ∨ start ≥ lastD m.gapPos + lastD m.cumLens
  · have hT' : takeT stop (dropT start (trips 0 m.gapPos m.cumLens)) = [] := by
      rcases c1 with c1 | c1
      · have hH := h.tsorted_head
        rw [dropT_of_lt _ start (tsorted_mono _ _ _ (by omega) hH)]
        exact takeT_of_lt _ stop (tsorted_mono _ _ _ (by omega) hH)
      · rw [dropT_all _ start]; · rfl
        intro t ht
        have := pairwise_le_lastD _ (inc_ends_pairwise _ _ _ _ h.inc) t.2.2 (by
          rw [← trips_map_end m.gapPos m.cumLens 0]; exact mem_map_of_mem ht)
        rw [lastD_gapEnds _ _ hl hne] at this
        omega
    -- no gap begins in the interval: the scan counts `stop - start` residues over it
    unfold getitemGaps
    rw [if_pos c1, hT', seqIndexNN_eq_T m h, seqIndexNN_eq_T m h, ← seqIdxT_comp _ 0 0 start stop hTs h0 (by omega),
      seqIdxT_take_nil _ _ _ _ (dropT_rel _ 0 0 start hTs hTr h0) hT', show ∀ a b : Int, a + b - a = b from fun a b => by omega]
    rfl
  · by_cases c2 : getN (gapStarts m.gapPos m.cumLens) (ssLeft (gapEnds m.gapPos m.cumLens) start) ≤ start ∧
              start < getN (gapEnds m.gapPos m.cumLens) (ssLeft (gapEnds m.gapPos m.cumLens) start) ∧
              stop ≤ getN (gapEnds m.gapPos m.cumLens) (ssLeft (gapEnds m.gapPos m.cumLens) start)
    · -- the whole interval lies inside the gap `searchsorted` finds
      have hr' : getitemGaps m start stop = .ok ⟨[0], [stop - start], 0⟩ := by
        unfold getitemGaps; rw [if_neg c1, if_pos c2]
      obtain ⟨c2a, c2b, c2c⟩ := c2
      unfold gapStarts at c2a
      rw [← trips_map_start m.gapPos m.cumLens 0, ← trips_map_end m.gapPos m.cumLens 0] at c2a
      rw [← trips_map_end m.gapPos m.cumLens 0] at c2b c2c
      obtain ⟨R, hR1, hR2⟩ := dropT_of_mem start _ 0 hTs c2a c2b
      rw [hr', seqIndexNN_eq_T m h, seqIndexNN_eq_T m h]
      generalize trips 0 m.gapPos m.cumLens = T at *
      generalize getN (T.map (·.1)) (ssLeft (T.map (·.2.2)) start) = pL at *
      generalize getN (T.map (·.2.2)) (ssLeft (T.map (·.2.2)) start) = eL at *
      have hrel := dropT_rel _ 0 0 start hTs hTr h0
      rw [hR1] at hrel
      have hsh : seqIdxT 0 0 T start = pL := by have := hrel.1; omega
      have hstop : seqIdxT 0 0 T stop = pL := by
        rw [← seqIdxT_comp _ 0 0 start stop hTs h0 (by omega), hR1, hsh]
        simp only [seqIdxT]
        rw [if_neg (by omega), if_pos c2c]
      have hT' : takeT stop (dropT start T) = [(pL, start, stop)] := by
        rw [hR1]
        simp only [takeT]
        by_cases d : eL ≤ stop
        · obtain rfl : eL = stop := by omega
          rw [if_pos d, takeT_of_lt R _ (tsorted_mono _ _ _ (by omega) hR2)]
        · rw [if_neg d, if_pos hlt]
      rw [hT', hsh, hstop]
      simp [mkLengths, mk, cumsum, cumsumFrom, tlen, lastD]
    · -- the index computation
      have hnum : numGaps m = (gapEnds m.gapPos m.cumLens).length := by rw [gapEnds_length _ _ hl]; rfl
      have hshift := sliceBegin_shift m h hne start (fun hh => c1 (Or.inr hh)) (gapLengths m.cumLens)
      obtain ⟨hb1, hb2⟩ := sliceBegin_eq m start (ssLeft (gapEnds m.gapPos m.cumLens) start)
        (gapStarts m.gapPos m.cumLens) (gapEnds m.gapPos m.cumLens) (gapLengths m.cumLens)
      have k := core_spec start stop hlt _ _ h.tsorted_head
      rw [trips_map_start, trips_map_end, trips_map_pos _ _ _ hl, trips_map_len _ _ _ hl] at k
      obtain ⟨k1, k2⟩ := Prod.mk.inj k
      unfold getitemGaps
      simp only [c1, c2, if_false]
      rw [sliceEnd_eq m stop _ _ _ _ hnum, hb1, hb2, hshift]
      congr 1
      exact (congrArg (map (· - seqIndexNN m start)) k1).trans map_map

/-- in range, `__getitem__` returns a well-formed map (so the `__post_init__` check cannot fail) of the slice -/
theorem getitem_inrange (m : IMap) (h : WF m) (start stop : Int) (h0 : 0 ≤ start) (hlt : start < stop)
    (hle : stop ≤ len m) :
    ∃ r, (if m.gapPos = [] then Except.ok (emptyMap (stop - start)) else getitemGaps m start stop) = .ok r ∧
      WF r ∧ pattern (abs r) = ((pattern (abs m)).drop start.toNat).take (stop - start).toNat := by
  by_cases hg : m.gapPos = []
  · have hsi : ∀ x, seqIndexNN m x = x := by intro x; unfold seqIndexNN; rw [if_pos (Or.inl hg)]
    rw [if_pos hg]
    refine ⟨_, rfl, result_spec m h start stop h0 hlt hle _ ?_ ?_ ?_⟩
    · rw [hg]; cases m.cumLens <;> rfl
    · rw [hg]; cases m.cumLens <;> rfl
    · rw [hsi, hsi]; rfl
  · have hr := result_spec m h start stop h0 hlt hle ⟨_, _, _⟩ rfl rfl rfl
    rw [if_neg hg]
    exact ⟨_, (getitemGaps_eq m h hg start stop h0 hlt).trans (wf_mk_ok _ hr.1), hr⟩

end CogentModel.IndelMap
