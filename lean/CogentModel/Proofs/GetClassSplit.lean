/- C10: the Python slices `s[:i]` and `s[i + 1:]` taken at a separator at position `i` give back the two sides;
   splitting a string at its last separator. -/
import CogentModel.Model.GetClass
namespace CogentModel.Registry

theorem findIdx?_reverse_of_not_mem (c : Char) (s : Str) (h : c ∉ s) : s.reverse.findIdx? (· == c) = none :=
  List.findIdx?_eq_none_iff.mpr fun _ hx => beq_eq_false_iff_ne.mpr fun e => h (e ▸ List.mem_reverse.mp hx)

theorem normIdx_of_le (s : Str) (i : Int) (n : Nat) (hi : i = n) (h : n ≤ s.length) : normIdx s i = n := by
  unfold normIdx
  split <;> omega

theorem sliceTo_append (a b : Str) : sliceTo (a ++ b) (a.length : Int) = a := by
  rw [sliceTo, normIdx_of_le _ _ a.length rfl (by simp), List.take_left']
  rfl

theorem sliceFrom_append_cons (a : Str) (c : Char) (b : Str) : sliceFrom (a ++ c :: b) ((a.length : Int) + 1) = b := by
  rw [sliceFrom, normIdx_of_le _ _ (a.length + 1) (by omega) (by simp), List.append_cons, List.drop_left']
  simp

/-- what stands before and after the last `c` of a string, if there is one -/
def splitLast (c : Char) : Str → Option (Str × Str)
  | [] => none
  | x :: t =>
    match splitLast c t with
    | some (m, r) => some (x :: m, r)
    | none => if x == c then some ([], t) else none

theorem splitLast_spec (c : Char) (t : Str) :
    match splitLast c t with
    | some (m, r) => t = m ++ c :: r ∧ c ∉ r
    | none => c ∉ t := by
  induction t with
  | nil => simp [splitLast]
  | cons x t ih =>
    simp only [splitLast]
    split at ih
    · simp [ih]
    · by_cases hx : x = c
      · simp [hx, ih]
      · have : ¬ c = x := fun e => hx e.symm
        simp [hx, ih, this]

end CogentModel.Registry
