/-  C20 — the abstraction from the column store to the list of row tuples (`rowsOf`) and how the store operations act
    on it: fancy indexing picks rows, column selection projects them, columns side by side concatenate the tuples,
    stacked stores concatenate the row lists, transposing swaps the two readings.  A list is handled through its
    positions (`List.range l.length`) wherever the model works with row numbers. -/
import CogentModel.Model.TableOps
import CogentModel.Spec.TableRows
import CogentModel.Proofs.ListGetD
namespace CogentModel.TableOps
open CogentModel.ListGetD (map_getD_range_self)
variable {α : Type}

/-! ### a list through its positions -/

theorem map_range_zipWith {β γ δ : Type} [Inhabited β] [Inhabited γ] (f : β → γ → δ) (a : List β) (b : List γ)
    (h : a.length = b.length) :
    (List.range a.length).map (fun k => f (a.getD k default) (b.getD k default)) = List.zipWith f a b := by
  apply List.ext_getElem
  · simp [h]
  · intro i h1 h2
    simp at h1
    have h3 : i < b.length := h ▸ h1
    simp [List.getD_eq_getElem?_getD, h1, h3]

theorem zipWith_replicate_left {ι β γ : Type} (g : ι → β → γ) (i : ι) (l : List β) :
    List.zipWith g (List.replicate l.length i) l = l.map (g i) := by
  induction l with
  | nil => rfl
  | cons b l ih => simp [List.replicate_succ, ih]

/-! ### rows picked by number, columns picked by position -/

theorem getD_mem {β : Type} (l : List β) (i : Nat) (d : β) (hi : i < l.length) : l.getD i d ∈ l := by
  simp [List.getD_eq_getElem?_getD, hi]

theorem length_rowsOf (dflt : α) (cols : List (List α)) : (rowsOf dflt cols).length = nrows cols := by
  simp [rowsOf]

theorem nrows_takeRows (dflt : α) (idx : List Nat) (cols : List (List α)) (h : cols ≠ []) :
    nrows (takeRows dflt idx cols) = idx.length := by
  cases cols with
  | nil => exact absurd rfl h
  | cons c cs => simp [takeRows, nrows]

theorem rowAt_takeRows (dflt : α) (idx : List Nat) (cols : List (List α)) (k : Nat) (hk : k < idx.length) :
    rowAt dflt (takeRows dflt idx cols) k = rowAt dflt cols idx[k] := by
  simp [rowAt, takeRows, List.getD_eq_getElem?_getD, hk]

/-- fancy indexing of every column with valid row numbers = picking the rows (a store without columns has no rows) -/
theorem rowsOf_takeRows (dflt : α) (idx : List Nat) (cols : List (List α)) (hb : ∀ i ∈ idx, i < nrows cols) :
    rowsOf dflt (takeRows dflt idx cols) = idx.map (rowAt dflt cols) := by
  cases cols with
  | nil =>
    cases idx with
    | nil => rfl
    | cons i _ => exact absurd (hb i List.mem_cons_self) (Nat.not_lt_zero i)
  | cons c cs =>
    unfold rowsOf
    rw [nrows_takeRows dflt idx _ (List.cons_ne_nil c cs)]
    apply List.ext_getElem
    · simp
    · intro i h1 h2
      simp at h1
      simp [rowAt_takeRows dflt idx _ i h1]

theorem rowAt_selectCols (dflt : α) (sel : List Nat) (cols : List (List α)) (i : Nat) :
    rowAt dflt (selectCols sel cols) i = TableRows.proj dflt sel (rowAt dflt cols i) := by
  simp only [rowAt, selectCols, TableRows.proj, List.map_map]
  apply List.map_congr_left
  intro j _
  simp only [Function.comp, List.getD_eq_getElem?_getD, List.getElem?_map]
  cases cols[j]? <;> simp

/-- the model's `proj` is the specification's -/
theorem proj_eq (dflt : α) : TableOps.proj dflt = TableRows.proj dflt := rfl

theorem proj_rowAt (dflt : α) (cols : List (List α)) (sel : List Nat) (i : Nat) :
    TableRows.proj dflt sel (rowAt dflt cols i) = sel.map fun j => (cols.getD j []).getD i dflt :=
  (rowAt_selectCols dflt sel cols i).symm.trans List.map_map

/-- in a well-formed store the column at a valid position has one cell per row -/
theorem length_getD {cols : List (List α)} (hw : WF cols) {j : Nat} (hj : j < cols.length) :
    (cols.getD j []).length = nrows cols :=
  hw _ (getD_mem cols j [] hj)

theorem nrows_selectCols (sel : List Nat) (cols : List (List α)) (hw : WF cols) (hs : sel ≠ [])
    (hb : ∀ j ∈ sel, j < cols.length) : nrows (selectCols sel cols) = nrows cols := by
  cases sel with
  | nil => exact absurd rfl hs
  | cons j js => exact length_getD hw (hb j (by simp))

theorem rowsOf_selectCols (dflt : α) (sel : List Nat) (cols : List (List α)) (hw : WF cols) (hs : sel ≠ [])
    (hb : ∀ j ∈ sel, j < cols.length) :
    rowsOf dflt (selectCols sel cols) = TableRows.select dflt sel (rowsOf dflt cols) := by
  unfold rowsOf TableRows.select
  rw [nrows_selectCols sel cols hw hs hb, List.map_map]
  apply List.map_congr_left
  intro i _
  exact rowAt_selectCols dflt sel cols i

/-- the key tuples read off the sub-table of the key columns are those of the rows -/
theorem keys_selectCols {κ : Type} (dflt : α) (key : α → κ) (sel : List Nat) (cols : List (List α)) (hw : WF cols)
    (hs : sel ≠ []) (hb : ∀ j ∈ sel, j < cols.length) :
    (rowsOf dflt (selectCols sel cols)).map (List.map key)
      = (rowsOf dflt cols).map fun r => (TableRows.proj dflt sel r).map key := by
  rw [rowsOf_selectCols dflt sel cols hw hs hb, TableRows.select, List.map_map]
  rfl

theorem filteredCols_rows (dflt : α) (p : List α → Bool) (sel : List Nat) (cols : List (List α)) :
    rowsOf dflt (filteredCols dflt p sel cols) = TableRows.filtered dflt p sel (rowsOf dflt cols) := by
  unfold filteredCols TableRows.filtered filterIdx
  rw [rowsOf_takeRows dflt _ cols fun i hi => List.mem_range.1 (List.mem_filter.1 hi).1]
  unfold rowsOf
  rw [List.filter_map]
  congr 1
  apply List.filter_congr
  intro i _
  simp [rowAt_selectCols]

/-! ### columns side by side -/

theorem rowAt_append (dflt : α) (a b : List (List α)) (i : Nat) :
    rowAt dflt (a ++ b) i = rowAt dflt a i ++ rowAt dflt b i := by simp [rowAt]

theorem nrows_append (a b : List (List α)) (h : a ≠ []) : nrows (a ++ b) = nrows a := by
  cases a with
  | nil => exact absurd rfl h
  | cons c cs => rfl

/-- two row selections placed side by side: the rows are the concatenated picked rows -/
theorem rowsOf_hstack_take (dflt : α) (a b : List (List α)) (s1 s2 : List Nat) (ha : a ≠ [])
    (hl : s1.length = s2.length) :
    rowsOf dflt (takeRows dflt s1 a ++ takeRows dflt s2 b)
      = List.zipWith (fun i j => rowAt dflt a i ++ rowAt dflt b j) s1 s2 := by
  unfold rowsOf
  rw [nrows_append _ _ (by simpa [takeRows] using ha), nrows_takeRows dflt s1 a ha]
  apply List.ext_getElem
  · simp [hl]
  · intro k h1 h2
    simp at h1
    have h3 : k < s2.length := hl ▸ h1
    simp [rowAt_append, rowAt_takeRows, h1, h3]

/-- a column in front of a store puts its cells in front of the rows -/
theorem rowsOf_cons (dflt : α) (c : List α) (cols : List (List α)) (hc : c.length = nrows cols) :
    rowsOf dflt (c :: cols) = List.zipWith (· :: ·) c (rowsOf dflt cols) := by
  apply List.ext_getElem
  · simp [rowsOf, nrows, hc]
  · intro i h1 h2
    have hi : i < c.length := by simpa [rowsOf, nrows] using h1
    simp [rowsOf, rowAt, List.getD_eq_getElem?_getD, hi]

/-! ### transposing -/

theorem nrows_rowsOf (dflt : α) (cols : List (List α)) (hn : nrows cols ≠ 0) :
    nrows (rowsOf dflt cols) = cols.length := by
  unfold rowsOf
  cases hr : List.range (nrows cols) with
  | nil => exact absurd (List.range_eq_nil.1 hr) hn
  | cons i is => simp [nrows, rowAt]

theorem transpose_rowsOf (dflt : α) (cols : List (List α)) (hw : WF cols) :
    TableRows.transpose dflt cols.length (rowsOf dflt cols) = cols := by
  unfold TableRows.transpose rowsOf
  apply List.ext_getElem
  · simp
  · intro j h2 h3
    have key : ∀ i, ((fun r : List α => r.getD j dflt) ∘ rowAt dflt cols) i = cols[j].getD i dflt := fun i => by
      simp [rowAt, List.getD_eq_getElem?_getD, h3]
    rw [List.getElem_map, List.getElem_range, List.map_map, List.map_congr_left fun i _ => key i,
      ← hw _ (List.getElem_mem h3)]
    exact map_getD_range_self dflt cols[j]

/-! ### stacked stores (`appended`) -/

theorem nrows_vstack (a b : List (List α)) (hl : a.length = b.length) :
    nrows (List.zipWith (· ++ ·) a b) = nrows a + nrows b := by
  cases a with
  | nil => cases b with
    | nil => rfl
    | cons _ _ => simp at hl
  | cons ca as => cases b with
    | nil => simp at hl
    | cons cb bs => simp [nrows]

theorem wf_vstack (a b : List (List α)) (hwa : WF a) (hwb : WF b) (hl : a.length = b.length) :
    WF (List.zipWith (· ++ ·) a b) := by
  intro c hc
  rw [nrows_vstack a b hl]
  obtain ⟨j, hj, rfl⟩ := List.getElem_of_mem hc
  simp only [List.length_zipWith] at hj
  have h1 : j < a.length := by omega
  have h2 : j < b.length := by omega
  simp only [List.getElem_zipWith, List.length_append]
  rw [hwa _ (List.getElem_mem h1), hwb _ (List.getElem_mem h2)]

theorem rowAt_vstack (dflt : α) (a b : List (List α)) (n : Nat) (hwa : ∀ c ∈ a, c.length = n)
    (hl : a.length = b.length) (i : Nat) :
    rowAt dflt (List.zipWith (· ++ ·) a b) i = if i < n then rowAt dflt a i else rowAt dflt b (i - n) := by
  induction a generalizing b with
  | nil =>
    cases b with
    | nil => simp [rowAt]
    | cons _ _ => cases hl
  | cons x a ih =>
    cases b with
    | nil => cases hl
    | cons y b =>
      have hx : (x ++ y).getD i dflt = if i < n then x.getD i dflt else y.getD (i - n) dflt := by
        simp only [List.getD_eq_getElem?_getD, List.getElem?_append, hwa x (by simp)]
        split <;> rfl
      simp only [rowAt, List.zipWith_cons_cons, List.map_cons, hx] at ih ⊢
      rw [ih b (fun c hc => hwa c (by simp [hc])) (by simpa using hl)]
      split <;> rfl

theorem rowsOf_vstack (dflt : α) (a b : List (List α)) (hwa : WF a) (hl : a.length = b.length) :
    rowsOf dflt (List.zipWith (· ++ ·) a b) = rowsOf dflt a ++ rowsOf dflt b := by
  unfold rowsOf
  rw [nrows_vstack a b hl, List.range_add, List.map_append, List.map_map]
  congr 1
  · exact List.map_congr_left fun i hi => by rw [rowAt_vstack dflt a b _ hwa hl, if_pos (List.mem_range.1 hi)]
  · exact List.map_congr_left fun i _ => by
      rw [Function.comp, rowAt_vstack dflt a b _ hwa hl, if_neg (by omega), Nat.add_sub_cancel_left]

/-- `appended` on aligned column stores = concatenation of the row lists, for any number of tables -/
theorem appendCols_rows (dflt : α) (ts : List (List (List α))) (L : Nat)
    (hw : ∀ t ∈ ts, WF t) (hL : ∀ t ∈ ts, t.length = L) (hne : ts ≠ []) :
    rowsOf dflt (appendCols ts) = TableRows.appended (ts.map (rowsOf dflt)) ∧
    WF (appendCols ts) ∧ (appendCols ts).length = L := by
  induction ts with
  | nil => exact absurd rfl hne
  | cons t rest ih =>
    cases rest with
    | nil =>
      simp only [appendCols, TableRows.appended, List.map_cons, List.map_nil, List.flatMap_cons,
        List.flatMap_nil, List.append_nil, id]
      exact ⟨trivial, hw t (by simp), hL t (by simp)⟩
    | cons u rest =>
      obtain ⟨ih1, ih2, ih3⟩ := ih (fun t ht => hw t (by simp [ht])) (fun t ht => hL t (by simp [ht])) (by simp)
      have hl : t.length = (appendCols (u :: rest)).length := by rw [ih3, hL t (by simp)]
      have hwt := hw t (by simp)
      refine ⟨?_, ?_, ?_⟩
      · show rowsOf dflt (List.zipWith (· ++ ·) t (appendCols (u :: rest))) = _
        rw [rowsOf_vstack dflt t _ hwt hl, ih1]
        simp [TableRows.appended]
      · exact wf_vstack t _ hwt ih2 hl
      · show (List.zipWith (· ++ ·) t (appendCols (u :: rest))).length = L
        rw [List.length_zipWith, ← hl, Nat.min_self, hL t (by simp)]

/-- the title column is laid out in the same blocks as the appended rows -/
theorem titled_blocks (dflt : α) (titles : List α) (tabs : List (List (List α))) :
    List.zipWith (· :: ·) (titleCol titles tabs) (TableRows.appended (tabs.map (rowsOf dflt)))
      = TableRows.appendedWithTitle titles (tabs.map (rowsOf dflt)) := by
  unfold titleCol TableRows.appended TableRows.appendedWithTitle
  induction tabs generalizing titles with
  | nil => cases titles <;> rfl
  | cons tab rest ih =>
    cases titles with
    | nil => rfl
    | cons x xs =>
      simp only [List.zip_cons_cons, List.map_cons, List.flatMap_cons, id]
      rw [List.zipWith_append (by simp [length_rowsOf]), ih, ← length_rowsOf dflt tab, zipWith_replicate_left]

/-- `appended(new_column, …)`: every row of every table gets that table's title in front -/
theorem appended_with_title_rows (dflt : α) (titles : List α) (tabs : List (List (List α))) (L : Nat)
    (hl : titles.length = tabs.length) (hw : ∀ t ∈ tabs, WF t) (hL : ∀ t ∈ tabs, t.length = L) (hne : tabs ≠ []) :
    rowsOf dflt (titleCol titles tabs :: appendCols tabs)
      = TableRows.appendedWithTitle titles (tabs.map (rowsOf dflt)) := by
  have h := (appendCols_rows dflt tabs L hw hL hne).1
  rw [rowsOf_cons, h, titled_blocks]
  -- the title column is as long as the body: one title per row of each table
  rw [← length_rowsOf dflt, h]
  clear h hw hL hne
  unfold titleCol TableRows.appended
  induction tabs generalizing titles with
  | nil => cases titles <;> rfl
  | cons tab rest ih =>
    cases titles with
    | nil => cases hl
    | cons x xs => simp [length_rowsOf, ih xs (by simpa using hl)]

end CogentModel.TableOps
