import CogentModel.Proofs.PhyloNewickLabel
import CogentModel.Proofs.PhyloNewick
set_option linter.unusedSimpArgs false
/-! C09: `parse_string(get_newick())` at character level.  The tokeniser reads the written tree chunk by chunk
(`Reads`); classifying its tokens gives the token list of the tree, which `Proofs/PhyloNewick.lean` parses back. -/
namespace CogentModel.Phylo

def sTok {K : Type} : Tok K → STok
  | .lp => .pun '('
  | .rp => .pun ')'
  | .comma => .pun ','
  | .colon => .pun ':'
  | .semi => .pun ';'
  | .label s => .lab s.toList
  | .num _ => .lab []

/- every node is unnamed or has a name the writer/tokeniser pair handles -/
mutual
def GoodTree {K : Type} : PTree K → Prop
  | .node n _ cs => (n = "" ∨ GoodName n.toList) ∧ GoodTreeL cs
def GoodTreeL {K : Type} : List (PTree K) → Prop
  | [] => True
  | c :: cs => GoodTree c ∧ GoodTreeL cs
end

theorem reads_name {K : Type} (n : String) (hn : n = "" ∨ GoodName n.toList) :
    Reads run TermHead (if n = "" then [] else escapeName n.toList) ((nameToks (K := K) n).map sTok) := by
  by_cases h : n = ""
  · simp only [h, if_true, nameToks, List.map_nil]; exact reads_nil
  · simp only [h, if_false, nameToks, List.map_cons, List.map_nil, sTok]
    exact reads_label n.toList (hn.resolve_left h)

theorem lenToks_false {K : Type} (l : Option K) : lenToks false l = [] := by
  cases l <;> simp [lenToks]

theorem printTail_head {K : Type} (cs : List (PTree K)) : ∃ d more, printTail cs = d :: more ∧ Term d := by
  cases cs with
  | nil => exact ⟨')', [], rfl, Or.inr (Or.inl rfl)⟩
  | cons c cs => exact ⟨',', _, rfl, Or.inl rfl⟩

mutual
theorem reads_printStr {K : Type} : ∀ (t : PTree K), GoodTree t →
    Reads run TermHead (printStr t) ((toks false t).map sTok)
  | .node n l [], hg => by
    simp only [printStr, toks, lenToks_false, List.append_nil]
    exact reads_name n hg.1
  | .node n l (c :: cs), hg => by
    simp only [printStr, toks, lenToks_false, List.append_nil, List.map_cons, List.map_append]
    exact reads_append_anyRest (reads_pun rfl) (reads_append_anyRest
      (reads_append (reads_printStr c hg.2.1) (reads_printTail cs hg.2.2) fun Z _ =>
        termHead_append (printTail_head cs) Z) (reads_name n hg.1))
theorem reads_printTail {K : Type} : ∀ (cs : List (PTree K)), GoodTreeL cs →
    Reads run AnyRest (printTail cs) ((toksTail false cs).map sTok)
  | [], _ => reads_pun rfl
  | c :: cs, hg => by
    simp only [printTail, toksTail, List.map_cons, List.map_append]
    exact reads_append_anyRest (reads_pun rfl) (reads_append (reads_printStr c hg.1)
      (reads_printTail cs hg.2) fun Z _ => termHead_append (printTail_head cs) Z)
end

theorem run_children {K : Type} : ∀ (c1 : PTree K) (cs : List (PTree K)), GoodTree c1 → GoodTreeL cs →
    ∀ (Z : List Char), run (printStr c1 ++ (printTail cs ++ Z)) =
      (run Z).map (fun ts => ((toks false c1 ++ toksTail false cs).map sTok) ++ ts) := fun c1 cs h1 h2 Z => by
  rw [← List.append_assoc, List.map_append]
  exact reads_append (reads_printStr c1 h1) (reads_printTail cs h2)
    (fun Z _ => termHead_append (printTail_head cs) Z) Z trivial

theorem run_nil : run [] = some [] := rfl

/-- the whole string: tokenising what `get_newick` wrote gives the token list of the tree -/
theorem tokenise_newickStr {K : Type} (t : PTree K) (hg : GoodTree t) :
    tokenise (newickStr t) = some ((newickToks false t).map sTok) := by
  rw [tokenise_eq_run, newickStr, reads_printStr t hg _ ⟨';', [], rfl, .inr (.inr (.inl rfl))⟩,
    run_pun ';' rfl, run_nil]
  simp [newickToks, sTok]

/-- what the number printer must guarantee: a non-empty chunk of ordinary characters -/
def GoodShow {K : Type} (sh : K → List Char) : Prop :=
  ∀ k, sh k ≠ [] ∧ ∀ y ∈ sh k, PlainCh y ∧ pySpace y = false ∧ y ≠ '_'

theorem unmunge_noop : ∀ (s : List Char), (∀ y ∈ s, y ≠ '_') → unmunge s = s
  | [], _ => rfl
  | x :: s, h => by
    simp only [unmunge, h x (by simp), if_false, unmunge_noop s (fun y hy => h y (by simp [hy]))]

/-- a number chunk before a terminator -/
theorem reads_number {K : Type} (sh : K → List Char) (hsh : GoodShow sh) (k : K) :
    Reads run TermHead (sh k) [STok.lab (sh k)] := by
  obtain ⟨hne, hch⟩ := hsh k
  obtain ⟨x, m, hxm⟩ := List.exists_cons_of_ne_nil hne
  rw [hxm] at hch ⊢
  have hstrip : strip (x :: m) = x :: m := strip_eq_self _
    (fun y hy => (hch y (List.mem_of_head? hy)).2.1) (fun y hy => (hch y (List.mem_of_getLast? hy)).2.1)
  have := reads_unquoted x m (hch x List.mem_cons_self).2.1 (fun y hy => (hch y hy).1.2)
  rwa [hstrip, unmunge_noop _ fun y hy => (hch y hy).2.2] at this

def sTokW {K : Type} (sh : K → List Char) : Tok K → STok
  | .num k => .lab (sh k)
  | t => sTok t

theorem sTokW_nameToks {K : Type} (sh : K → List Char) (n : String) :
    (nameToks n).map (sTokW sh) = (nameToks (K := K) n).map sTok := by
  by_cases h : n = "" <;> simp [nameToks, h, sTokW]

theorem reads_name_len {K : Type} (sh : K → List Char) (hsh : GoodShow sh) (n : String)
    (hn : n = "" ∨ GoodName n.toList) (l : Option K) :
    Reads run TermHead ((if n = "" then [] else escapeName n.toList) ++ lenStr sh l)
      ((nameToks n).map (sTokW sh) ++ (lenToks true l).map (sTokW sh)) := by
  rw [sTokW_nameToks]
  cases l with
  | none => exact reads_append (reads_name n hn) reads_nil fun Z hZ => hZ
  | some k =>
    exact reads_append (reads_name n hn)
      (reads_append_anyRest (reads_pun rfl) (reads_number sh hsh k))
      fun Z _ => ⟨':', _, rfl, .inr (.inr (.inr rfl))⟩

theorem printTailW_head {K : Type} (sh : K → List Char) (cs : List (PTree K)) : TermHead (printTailW sh cs) := by
  cases cs with
  | nil => exact ⟨')', [], rfl, Or.inr (Or.inl rfl)⟩
  | cons c cs => exact ⟨',', _, rfl, Or.inl rfl⟩

mutual
theorem reads_printStrW {K : Type} (sh : K → List Char) (hsh : GoodShow sh) : ∀ (t : PTree K), GoodTree t →
    Reads run TermHead (printStrW sh t) ((toks true t).map (sTokW sh))
  | .node n l [], hg => by
    simp only [printStrW, toks, List.map_append]
    exact reads_name_len sh hsh n hg.1 l
  | .node n l (c :: cs), hg => by
    simp only [printStrW, toks, List.map_cons, List.map_append]
    exact reads_append_anyRest (reads_pun rfl) (reads_append_anyRest
      (reads_append (reads_printStrW sh hsh c hg.2.1) (reads_printTailW sh hsh cs hg.2.2) fun Z _ =>
        termHead_append (printTailW_head sh cs) Z) (reads_name_len sh hsh n hg.1 l))
theorem reads_printTailW {K : Type} (sh : K → List Char) (hsh : GoodShow sh) : ∀ (cs : List (PTree K)),
    GoodTreeL cs → Reads run AnyRest (printTailW sh cs) ((toksTail true cs).map (sTokW sh))
  | [], _ => reads_pun rfl
  | c :: cs, hg => by
    simp only [printTailW, toksTail, List.map_cons, List.map_append]
    exact reads_append_anyRest (reads_pun rfl) (reads_append (reads_printStrW sh hsh c hg.1)
      (reads_printTailW sh hsh cs hg.2) fun Z _ => termHead_append (printTailW_head sh cs) Z)
end

theorem run_childrenW {K : Type} (sh : K → List Char) (hsh : GoodShow sh) : ∀ (c1 : PTree K) (cs : List (PTree K)),
    GoodTree c1 → GoodTreeL cs → ∀ (Z : List Char), run (printStrW sh c1 ++ (printTailW sh cs ++ Z)) =
      (run Z).map (fun ts => ((toks true c1 ++ toksTail true cs).map (sTokW sh)) ++ ts) := fun c1 cs h1 h2 Z => by
  rw [← List.append_assoc, List.map_append]
  exact reads_append (reads_printStrW sh hsh c1 h1) (reads_printTailW sh hsh cs h2)
    (fun Z _ => termHead_append (printTailW_head sh cs) Z) Z trivial

/-- tokenising `get_newick(with_distances=True)`: the tree's token list, numbers as printed -/
theorem tokenise_newickStrW {K : Type} (sh : K → List Char) (hsh : GoodShow sh) (t : PTree K) (hg : GoodTree t) :
    tokenise (newickStrW sh t) = some ((newickToks true t).map (sTokW sh)) := by
  rw [tokenise_eq_run, newickStrW, reads_printStrW sh hsh t hg _ ⟨';', [], rfl, .inr (.inr (.inl rfl))⟩,
    run_pun ';' rfl, run_nil]
  simp [newickToks, sTokW, sTok]

theorem punTok_none_of {K : Type} (c : Char) (h : isPunTokChar c = false) : punTok (K := K) c = none := by
  simp only [isPunTokChar, Bool.or_eq_false_iff, decide_eq_false_iff_not] at h
  obtain ⟨⟨⟨⟨a1, a2⟩, a3⟩, a4⟩, a5⟩ := h
  simp [punTok, a1, a2, a3, a4, a5]

/-- eager classification of an unambiguous token stream (proof device; `plazy` is the model) -/
def retok {K : Type} (rd : List Char → Option K) : Bool → List STok → Option (List (Tok K))
  | _, [] => some []
  | true, .lab s :: rest =>
    match rd s with
    | none => none
    | some k => (retok rd false rest).map (Tok.num k :: ·)
  | true, .pun _ :: _ => none
  | false, .lab s :: rest =>
    if notPunLab s then (retok rd false rest).map (Tok.label (String.ofList s) :: ·) else none
  | false, .pun c :: rest =>
    match punTok (K := K) c with
    | none => none
    | some t => (retok rd (c == ':') rest).map (t :: ·)

section
variable {K : Type} (rd : List Char → Option K) (sh : K → List Char)

theorem retok_name (n : String) (hn : n = "" ∨ GoodName n.toList) :
    Reads (retok rd false) AnyRest ((nameToks (K := K) n).map (sTokW sh)) (nameToks n) := fun X _ => by
  by_cases h : n = ""
  · simp [nameToks, h]
  · simp [nameToks, h, sTokW, sTok, retok, String.ofList_toList,
      ((roundTrips_iff _).1 (hn.resolve_left h)).2.2.2.1]

theorem retok_len (hrd : ∀ k, rd (sh k) = some k) (l : Option K) :
    Reads (retok rd false) AnyRest ((lenToks true l).map (sTokW sh)) (lenToks true l) := fun X _ => by
  cases l with
  | none => simp [lenToks]
  | some k =>
    have e1 : retok rd false (STok.pun ':' :: STok.lab (sh k) :: X) =
        (retok rd true (STok.lab (sh k) :: X)).map (Tok.colon :: ·) := rfl
    have e2 : retok rd true (STok.lab (sh k) :: X) = (retok rd false X).map (Tok.num k :: ·) := by
      simp [retok, hrd k]
    simp only [lenToks, if_true, List.map_cons, List.map_nil, sTokW, sTok, List.cons_append, List.nil_append, e1, e2]
    cases retok rd false X <;> simp

/-- the structural punctuation `(`, `,`, `)` -/
theorem retok_pun (t : Tok K) (c : Char) (hc : punTok c = some t) (hcolon : (c == ':') = false) :
    Reads (retok rd false) AnyRest [STok.pun c] [t] := fun X _ => by
  simp only [List.singleton_append, retok, hc, hcolon]

mutual
theorem retok_toks (hrd : ∀ k, rd (sh k) = some k) : ∀ (t : PTree K), GoodTree t →
    Reads (retok rd false) AnyRest ((toks true t).map (sTokW sh)) (toks true t)
  | .node n l [], hg => by
    simp only [toks, List.map_append]
    exact reads_append_anyRest (retok_name rd sh n hg.1) (retok_len rd sh hrd l)
  | .node n l (c :: cs), hg => by
    simp only [toks, List.map_cons, List.map_append]
    exact reads_append_anyRest (retok_pun rd Tok.lp '(' rfl rfl) (reads_append_anyRest
      (reads_append_anyRest (retok_toks hrd c hg.2.1) (retok_toksTail hrd cs hg.2.2))
      (reads_append_anyRest (retok_name rd sh n hg.1) (retok_len rd sh hrd l)))
theorem retok_toksTail (hrd : ∀ k, rd (sh k) = some k) : ∀ (cs : List (PTree K)), GoodTreeL cs →
    Reads (retok rd false) AnyRest ((toksTail true cs).map (sTokW sh)) (toksTail true cs)
  | [], _ => retok_pun rd Tok.rp ')' rfl rfl
  | c :: cs, hg => by
    simp only [toksTail, List.map_cons, List.map_append]
    exact reads_append_anyRest (retok_pun rd Tok.comma ',' rfl rfl)
      (reads_append_anyRest (retok_toks hrd c hg.1) (retok_toksTail hrd cs hg.2))
end
end

theorem retok_tail {K : Type} (rd : List Char → Option K) (sh : K → List Char) (hrd : ∀ k, rd (sh k) = some k) :
    ∀ (cs : List (PTree K)), GoodTreeL cs → ∀ (X : List STok),
    retok rd false ((toksTail true cs).map (sTokW sh) ++ X) = (retok rd false X).map (toksTail true cs ++ ·) :=
  fun cs hg X => retok_toksTail rd sh hrd cs hg X trivial

theorem mRunP_of_mRun : ∀ (rs : List Raw) (σ : MSt) (ts : List STok), mRun σ rs = some ts →
    mRunP σ rs = (ts, true)
  | [], σ, ts, h => by simp only [mRun] at h; simp [mRunP, h]
  | r :: rs, σ, ts, h => by
    simp only [mRun] at h
    cases hs : mStep σ r with
    | none => simp [hs] at h
    | some p =>
      obtain ⟨σ', o⟩ := p
      simp only [hs] at h
      cases hr : mRun σ' rs with
      | none => simp [hr] at h
      | some ts' =>
        simp only [hr, Option.map_some, Option.some.injEq] at h
        subst h
        simp [mRunP, hs, mRunP_of_mRun rs σ' ts' hr]

theorem classify_name {K : Type} (rd : List Char → Option K) (s : List Char) (hp : notPunLab s = true) :
    classify rd false (STok.lab s) = some (Tok.label (String.ofList s), false) := by
  match s, hp with
  | [], _ => rfl
  | [c], hp =>
    simp only [notPunLab, Bool.and_eq_true, Bool.not_eq_true', bne_iff_ne, ne_eq] at hp
    simp [classify, punTok_none_of c hp.1, hp.2]
  | _ :: _ :: _, _ => rfl

/-- where `retok` accepts a token it reads it as `classify` does -/
theorem retok_cons {K : Type} (rd : List Char → Option K) (ac : Bool) (tok : STok) (ts : List STok)
    (toks : List (Tok K)) (h : retok rd ac (tok :: ts) = some toks) :
    ∃ t ac' toks', classify rd ac tok = some (t, ac') ∧ retok rd ac' ts = some toks' ∧ toks = t :: toks' := by
  cases tok with
  | lab s =>
    cases ac with
    | true =>
      simp only [retok] at h
      cases hr : rd s with
      | none => simp [hr] at h
      | some k =>
        simp only [hr, Option.map_eq_some_iff] at h
        obtain ⟨toks', ht, rfl⟩ := h
        exact ⟨_, _, _, by simp [classify, hr], ht, rfl⟩
    | false =>
      simp only [retok] at h
      by_cases hp : notPunLab s = true
      · simp only [hp, if_true, Option.map_eq_some_iff] at h
        obtain ⟨toks', ht, rfl⟩ := h
        exact ⟨_, _, _, classify_name rd s hp, ht, rfl⟩
      · simp [hp] at h
  | pun c =>
    cases ac with
    | true => simp [retok] at h
    | false =>
      simp only [retok] at h
      cases hc : punTok (K := K) c with
      | none => simp [hc] at h
      | some t =>
        simp only [hc, Option.map_eq_some_iff] at h
        obtain ⟨toks', ht, rfl⟩ := h
        exact ⟨_, _, _, by simp [classify, hc], ht, rfl⟩

/-- on an unambiguous, completely tokenised text the lazy pipeline is the parser on the classified tokens -/
theorem plazy_of_retok {K : Type} (rd : List Char → Option K) : ∀ (ts : List STok) (σ : PState K) (ac : Bool)
    (toks : List (Tok K)), retok rd ac ts = some toks → plazy rd σ ac ts true = prun σ toks
  | [], σ, ac, toks, h => by
    simp only [retok, Option.some.injEq] at h; subst h
    simp only [plazy, prun, if_true]
    cases pstep σ none <;> rfl
  | tok :: ts, σ, ac, toks, h => by
    obtain ⟨t, ac', toks', hc, ht, rfl⟩ := retok_cons rd ac tok ts toks h
    simp only [plazy, hc, prun]
    cases pstep σ (some t) with
    | cont σ' => exact plazy_of_retok rd ts σ' ac' toks' ht
    | done r => rfl
    | err => rfl

/-- STRING-LEVEL ROUND TRIP: `parse_string(get_newick(with_distances=True))` gives back the tree -/
theorem parseString_newickStrW {K : Type} (sh : K → List Char) (rd : List Char → Option K)
    (hsh : GoodShow sh) (hrd : ∀ k, rd (sh k) = some k) (t : PTree K) (hg : GoodTree t) :
    parseString rd (newickStrW sh t) = some t := by
  have htok := tokenise_newickStrW sh hsh t hg
  have hP : tokeniseP (newickStrW sh t) = ((newickToks true t).map (sTokW sh), true) :=
    mRunP_of_mRun _ _ _ htok
  have h := retok_toks rd sh hrd t hg [STok.pun ';'] trivial
  have hsemi : retok rd false [STok.pun ';'] = some [Tok.semi] := by
    simp [retok, punTok]
  rw [hsemi] at h
  have hl : (newickToks true t).map (sTokW sh) = (toks true t).map (sTokW sh) ++ [STok.pun ';'] := by
    simp [newickToks, sTokW, sTok]
  simp only [Option.map_some] at h
  unfold parseString
  simp only [hP]
  rw [hl, plazy_of_retok rd _ {} false _ h]
  have := parse_newickToks true t
  rw [stripLens_true] at this
  simpa [newickToks, parseToks] using this

/-- `GoodShow` can be met; `newick_name_roundtrip` prints its one length with this `sh` -/
theorem goodShow_one : GoodShow (fun (_ : Unit) => ['1']) := by
  intro k
  refine ⟨by simp, ?_⟩
  intro y hy
  simp only [List.mem_cons, List.mem_nil_iff, or_false] at hy
  subst hy
  exact ⟨⟨by decide, by decide, by decide, by decide, by decide⟩, by decide, by decide⟩

end CogentModel.Phylo
