import Mathlib.Algebra.BigOperators.Ring.Finset
import Mathlib.Algebra.BigOperators.Group.Finset.Sigma
import Mathlib.Algebra.BigOperators.Group.List.Basic
import Mathlib.Data.List.Perm.Basic
import CogentModel.Proofs.Prune
/-!
C11: changes of a tree that cannot be seen from above.  A subtree reaches its parent only as `up m prof t`; a change
that keeps `up` at the place where it is made keeps it at every ancestor (`upWith_congr` at a node, `mulVec` at a
sibling list), and the likelihood with it.  `Reorder`, `Split` and `Deep B` (with `Contract` for `B`) are such changes.
-/
namespace CogentModel.Prune
open Finset

section trees
variable {R α : Type}

@[simp] theorem PTree.mat_node (P : Mat R) (cs : List (PTree R α)) : (PTree.node P cs).mat = P := rfl
@[simp] theorem PTree.mat_leaf (P : Mat R) (a : α) : (PTree.leaf P a : PTree R α).mat = P := rfl
@[simp] theorem PTree.mat_setMat (Q : Mat R) (t : PTree R α) : (t.setMat Q).mat = Q := by cases t <;> rfl

theorem setMat_setMat_mat (Q : Mat R) (t : PTree R α) : (t.setMat Q).setMat t.mat = t := by
  cases t <;> rfl

end trees

section semiring
variable {R : Type} [CommSemiring R] {α : Type}

/-! ### children in any order -/
theorem prodUp_perm (m : Nat) (prof : α → Nat → R) {cs cs' : List (PTree R α)} (h : cs.Perm cs') (s : Nat) :
    (prodUp m prof cs).get s = (prodUp m prof cs').get s := by
  rw [prodUp_eq_prod, prodUp_eq_prod, (h.map _).prod_eq]

theorem lh_root_perm (m : Nat) (π : Nat → R) (prof : α → Nat → R) (P0 P0' : Mat R) {cs cs' : List (PTree R α)}
    (hp : cs.Perm cs') : lh m π prof (.node P0 cs) = lh m π prof (.node P0' cs') :=
  dot_congr m π fun s _ => prodUp_perm m prof hp s

mutual
/-- `Reorder t t'`: `t'` is `t` with the children of any number of nodes (at any depth) reordered -/
inductive Reorder : PTree R α → PTree R α → Prop
  | leaf (P : Mat R) (a : α) : Reorder (.leaf P a) (.leaf P a)
  | node (P : Mat R) (cs ds cs' : List (PTree R α)) : ReorderL cs ds → ds.Perm cs' →
      Reorder (.node P cs) (.node P cs')
inductive ReorderL : List (PTree R α) → List (PTree R α) → Prop
  | nil : ReorderL [] []
  | cons (c d : PTree R α) (cs ds : List (PTree R α)) : Reorder c d → ReorderL cs ds →
      ReorderL (c :: cs) (d :: ds)
end

theorem prodUp_reorderL (m : Nat) (prof : α → Nat → R) :
    ∀ {cs ds : List (PTree R α)}, ReorderL cs ds → prodUp m prof cs = prodUp m prof ds := by
  intro cs ds h
  induction h using ReorderL.rec (motive_1 := fun t t' _ => up m prof t = up m prof t') with
  | leaf P a => rfl
  | node P cs ds cs' _ hp ih => exact upWith_congr m P fun s _ => (congrArg (·.get s) ih).trans (prodUp_perm m prof hp s)
  | nil => rfl
  | cons c d cs ds _ _ ihc ihcs => exact congrArg₂ (mulVec m) ihc ihcs

/-! ### splitting an edge through a unary node -/

theorem plh_setMat (m : Nat) (prof : α → Nat → R) (Q : Mat R) (t : PTree R α) :
    plh m prof (t.setMat Q) = plh m prof t := by
  cases t <;> simp [PTree.setMat, plh]

/-- two edges in a row are one edge with the product matrix -/
theorem upWith_upWith (m : Nat) (P1 P2 : Mat R) (v : Vec R) :
    upWith m P1 (upWith m P2 v) = upWith m (matMul m P1 P2) v :=
  vec_ext fun s => by
    simp only [upWith_get, matMul, sumOver_eq, Finset.mul_sum, Finset.sum_mul]
    rw [Finset.sum_comm]
    exact Finset.sum_congr rfl fun _ _ => Finset.sum_congr rfl fun _ _ => (mul_assoc _ _ _).symm

theorem up_split (m : Nat) (prof : α → Nat → R) (P1 P2 : Mat R) (x : PTree R α)
    (h : x.mat = matMul m P1 P2) : up m prof (.node P1 [x.setMat P2]) = up m prof x := by
  simp only [up, plh, prodUp, PTree.mat_node, PTree.mat_setMat, plh_setMat, h, ← upWith_upWith]
  exact upWith_congr m P1 fun s _ => by rw [mulVec_get, mul_one]

mutual
/-- `Split m t t'`: `t'` is `t` with one edge (the one above `t`, or one further down) replaced by two
edges through a unary node whose matrices multiply to the original one -/
inductive Split (m : Nat) : PTree R α → PTree R α → Prop
  | here (x : PTree R α) (P1 P2 : Mat R) : x.mat = matMul m P1 P2 → Split m x (.node P1 [x.setMat P2])
  | under (P : Mat R) (cs cs' : List (PTree R α)) : SplitL m cs cs' → Split m (.node P cs) (.node P cs')
inductive SplitL (m : Nat) : List (PTree R α) → List (PTree R α) → Prop
  | head (c c' : PTree R α) (cs : List (PTree R α)) : Split m c c' → SplitL m (c :: cs) (c' :: cs)
  | tail (c : PTree R α) (cs cs' : List (PTree R α)) : SplitL m cs cs' → SplitL m (c :: cs) (c :: cs')
end

theorem prodUp_splitRel (m : Nat) (prof : α → Nat → R) :
    ∀ {cs cs' : List (PTree R α)}, SplitL m cs cs' → prodUp m prof cs = prodUp m prof cs' := by
  intro cs cs' h
  induction h using SplitL.rec (motive_1 := fun t t' _ => up m prof t = up m prof t') with
  | here x P1 P2 h => exact (up_split m prof P1 P2 x h).symm
  | under P cs cs' _ ih => exact upWith_congr m P fun s _ => congrArg (·.get s) ih
  | head c c' cs _ ih => exact congrArg (mulVec m · (prodUp m prof cs)) ih
  | tail c cs cs' _ ih => exact congrArg (mulVec m (up m prof c)) ih

theorem up_splitRel (m : Nat) (prof : α → Nat → R) :
    ∀ {t t' : PTree R α}, Split m t t' → ∀ s, (up m prof t).get s = (up m prof t').get s
  | _, _, .here x P1 P2 h, s => congrArg (·.get s) (up_split m prof P1 P2 x h).symm
  | _, _, .under P cs cs' hl, s =>
    congrArg (·.get s) (upWith_congr m P fun s _ => congrArg (·.get s) (prodUp_splitRel m prof hl))

/-! ### a change of some node's child list, anywhere in the tree -/

mutual
/-- `Deep B t t'`: the child list of ONE node of `t` (at any depth) is replaced by a `B`-related list -/
inductive Deep (B : List (PTree R α) → List (PTree R α) → Prop) : PTree R α → PTree R α → Prop
  | here (P : Mat R) (cs cs' : List (PTree R α)) : B cs cs' → Deep B (.node P cs) (.node P cs')
  | under (P : Mat R) (cs cs' : List (PTree R α)) : DeepL B cs cs' → Deep B (.node P cs) (.node P cs')
inductive DeepL (B : List (PTree R α) → List (PTree R α) → Prop) : List (PTree R α) → List (PTree R α) → Prop
  | head (c c' : PTree R α) (cs : List (PTree R α)) : Deep B c c' → DeepL B (c :: cs) (c' :: cs)
  | tail (c : PTree R α) (cs cs' : List (PTree R α)) : DeepL B cs cs' → DeepL B (c :: cs) (c :: cs')
end

theorem prodUp_deepL (m : Nat) (prof : α → Nat → R) {B : List (PTree R α) → List (PTree R α) → Prop}
    (hB : ∀ cs cs', B cs cs' → ∀ s, s < m → (prodUp m prof cs).get s = (prodUp m prof cs').get s) :
    ∀ {cs cs' : List (PTree R α)}, DeepL B cs cs' →
      ∀ s, s < m → (prodUp m prof cs).get s = (prodUp m prof cs').get s := by
  intro cs cs' h s _
  refine congrArg (·.get s) (?_ : prodUp m prof cs = prodUp m prof cs')
  induction h using DeepL.rec (motive_1 := fun t t' _ => up m prof t = up m prof t') with
  | here P cs cs' hb => exact upWith_congr m P (hB cs cs' hb)
  | under P cs cs' _ ih => exact upWith_congr m P fun s _ => congrArg (·.get s) ih
  | head c c' cs _ ih => exact congrArg (mulVec m · (prodUp m prof cs)) ih
  | tail c cs cs' _ ih => exact congrArg (mulVec m (up m prof c)) ih

theorem lh_deep (m : Nat) (π : Nat → R) (prof : α → Nat → R) {B : List (PTree R α) → List (PTree R α) → Prop}
    (hB : ∀ cs cs', B cs cs' → ∀ s, s < m → (prodUp m prof cs).get s = (prodUp m prof cs').get s)
    {t t' : PTree R α} (h : Deep B t t') : lh m π prof t = lh m π prof t' := by
  cases h with
  | here P cs cs' hb => exact dot_congr m π (hB cs cs' hb)
  | under P cs cs' hl => exact dot_congr m π (prodUp_deepL m prof hB hl)

/-! ### contracting an identity (zero-length) edge -/

/-- `I` is the identity on the states `< m` -/
def IsId (m : Nat) (I : Mat R) : Prop := ∀ i j, i < m → j < m → I i j = if i = j then 1 else 0

/-- an internal child below an identity edge is replaced, in place, by its own children -/
inductive Contract (m : Nat) : List (PTree R α) → List (PTree R α) → Prop
  | mk (I : Mat R) (pre xs post : List (PTree R α)) : IsId m I →
      Contract m (pre ++ .node I xs :: post) (pre ++ xs ++ post)

/-- an identity edge is transparent on the states `< m` -/
theorem upWith_isId (m : Nat) {I : Mat R} (hI : IsId m I) (v : Vec R) (s : Nat) (hs : s < m) :
    (upWith m I v).get s = v.get s := by
  rw [upWith_get, sum_range_congr fun s' hs' => by rw [hI s s' hs hs']]
  simp only [ite_mul, one_mul, zero_mul, Finset.sum_ite_eq, Finset.mem_range, hs, if_true]

theorem prodUp_append (m : Nat) (prof : α → Nat → R) (xs ys : List (PTree R α)) (s : Nat) :
    (prodUp m prof (xs ++ ys)).get s = (prodUp m prof xs).get s * (prodUp m prof ys).get s := by
  simp only [prodUp_eq_prod, List.map_append, List.prod_append]

theorem prodUp_contract (m : Nat) (prof : α → Nat → R) : ∀ cs cs' : List (PTree R α), Contract m cs cs' →
    ∀ s, s < m → (prodUp m prof cs).get s = (prodUp m prof cs').get s
  | _, _, .mk I pre xs post hI, s, hs => by
    have : (up m prof (.node I xs)).get s = (prodUp m prof xs).get s := upWith_isId m hI _ s hs
    simp only [prodUp_append, prodUp_cons, this, mul_assoc]

end semiring
end CogentModel.Prune
