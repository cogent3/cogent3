import CogentModel.Model.GeneticCode
import CogentModel.Spec.GeneticCode
import CogentModel.Spec.NCBITables
/-!
A genetic code enters only as a string of 64 characters: what the look-ups of either code object return follows from
how the object is built (`dict(zip(…))` tables whose keys occur once), whatever the entries are.  On a canonical codon
every look-up reads the table; on other plain characters the new converter gives one of the two sentinels.
-/
namespace CogentModel.GC
open CogentModel.C12Tables

def plusOf (seq : List Char) (a b c : Char) : Char :=
  let g := mkNewGC newDna seq
  g.plus (kmerIdx g.ns g.gci g.gi (monoIdx g.alpha a) (monoIdx g.alpha b) (monoIdx g.alpha c))

def minusOf (seq : List Char) (a b c : Char) : Char :=
  let g := mkNewGC newDna seq
  g.minus (kmerIdx g.ns g.gci g.gi (monoIdx g.alpha a) (monoIdx g.alpha b) (monoIdx g.alpha c))

theorem lookupD_append {α β} [DecidableEq α] (a b : List (α × β)) (k : α) (d : β) :
    lookupD (a ++ b) k d = lookupD a k (lookupD b k d) := by
  induction a with
  | nil => rfl
  | cons x r ih => obtain ⟨x1, x2⟩ := x; simp only [List.cons_append, lookupD]; split <;> simp [ih]

theorem find_not_mem {α β} [DecidableEq α] (kvs : List (α × β)) (k : α)
    (h : k ∉ kvs.map Prod.fst) : GCSpec.find kvs k = none := by
  induction kvs with
  | nil => rfl
  | cons p r ih =>
    obtain ⟨a, b⟩ := p
    simp only [List.map_cons, List.mem_cons, not_or] at h
    simp only [GCSpec.find]
    rw [if_neg (fun e => h.1 e.symm), ih h.2]

theorem find_of_mem {α β} [DecidableEq α] {kvs : List (α × β)} {k : α} {v : β}
    (hn : (kvs.map Prod.fst).Nodup) (h : (k, v) ∈ kvs) : GCSpec.find kvs k = some v := by
  induction kvs with
  | nil => cases h
  | cons p r ih =>
    obtain ⟨a, b⟩ := p
    rw [List.map_cons, List.nodup_cons] at hn
    rw [GCSpec.find]
    rcases List.mem_cons.1 h with e | h
    · cases e; rw [if_pos rfl]
    · rw [if_neg fun e => hn.1 (List.mem_map.2 ⟨(k, v), h, e.symm⟩), ih hn.2 h]

/-- "a later duplicate wins" is immaterial when no key occurs twice: `dict(zip(…)).get` is the first match -/
theorem dictGet_eq_find {α β} [DecidableEq α] {kvs : List (α × β)} (hn : (kvs.map Prod.fst).Nodup) (k : α) (d : β) :
    dictGet kvs k d = (GCSpec.find kvs k).getD d := by
  unfold dictGet
  induction kvs generalizing d with
  | nil => rfl
  | cons p r ih =>
    obtain ⟨a, b⟩ := p
    rw [List.map_cons, List.nodup_cons] at hn
    rw [List.reverse_cons, lookupD_append, ih hn.2, GCSpec.find]
    by_cases e : a = k
    · subst e; rw [if_pos rfl, find_not_mem _ _ hn.1]; simp [lookupD]
    · rw [if_neg e]; simp [lookupD, e]

theorem dictGet_of_mem {α β} [DecidableEq α] {kvs : List (α × β)} {k : α} {v : β}
    (hn : (kvs.map Prod.fst).Nodup) (h : (k, v) ∈ kvs) (d : β) : dictGet kvs k d = v := by
  rw [dictGet_eq_find hn, find_of_mem hn h]
  rfl

theorem exists_mem_zip {α β} {ks : List α} {vs : List β} {k : α} (hk : k ∈ ks) (hl : ks.length ≤ vs.length) :
    ∃ v, (k, v) ∈ ks.zip vs := by
  obtain ⟨i, hi, rfl⟩ := List.getElem_of_mem hk
  exact ⟨vs[i], List.mem_iff_getElem.2 ⟨i, by rw [List.length_zip]; omega, List.getElem_zip⟩⟩

theorem dictGet_map_zip {α κ β} [DecidableEq κ] (φ : α → κ) {ks : List α} {vs : List β} {k : α} {v : β}
    (hn : (ks.map φ).Nodup) (hl : ks.length ≤ vs.length) (h : (k, v) ∈ ks.zip vs) (d : β) :
    dictGet ((ks.map φ).zip vs) (φ k) d = v := by
  apply dictGet_of_mem
  · rwa [List.map_fst_zip (by rwa [List.length_map])]
  · rw [List.zip_map_left]
    exact List.mem_map_of_mem (f := Prod.map φ id) h

theorem lookupD_not_mem {α β} [DecidableEq α] (kvs : List (α × β)) (k : α) (d : β)
    (h : k ∉ kvs.map Prod.fst) : lookupD kvs k d = d := by
  induction kvs with
  | nil => rfl
  | cons p r ih =>
    obtain ⟨a, b⟩ := p
    simp only [List.map_cons, List.mem_cons, not_or] at h
    simp only [lookupD]
    rw [if_neg (fun e => h.1 e.symm), ih h.2]

theorem dictGet_not_mem {α β} [DecidableEq α] (kvs : List (α × β)) (k : α) (d : β)
    (h : k ∉ kvs.map Prod.fst) : dictGet kvs k d = d := by
  unfold dictGet
  apply lookupD_not_mem
  rwa [List.map_reverse, List.mem_reverse]

theorem mem_codons {x y z : Char} :
    [x, y, z] ∈ GCSpec.codons ↔ x ∈ GCSpec.bases ∧ y ∈ GCSpec.bases ∧ z ∈ GCSpec.bases := by
  simp only [GCSpec.codons, List.mem_flatMap, List.mem_map]
  constructor
  · rintro ⟨a, ha, b, hb, c, hc, h⟩
    simp only [List.cons.injEq, and_true] at h
    obtain ⟨rfl, rfl, rfl⟩ := h
    exact ⟨ha, hb, hc⟩
  · rintro ⟨hx, hy, hz⟩
    exact ⟨x, hx, y, hy, z, hz, rfl⟩

/-- the trinucleotide alphabet of the new code object: the 64 codons, the gap word, the missing word -/
theorem words_eq (seq : List Char) :
    (mkNewGC newDna seq).words = GCSpec.codons ++ [['-', '-', '-'], ['?', '?', '?']] := by
  show (mkNewGC newDna []).words = _
  decide +kernel

theorem toIndex_words (seq : List Char) :
    (mkNewGC newDna seq).words.map (mkNewGC newDna seq).toIndex = List.range 66 := by
  show (mkNewGC newDna []).words.map (mkNewGC newDna []).toIndex = _
  decide +kernel

theorem nodup_toIndex_anti (seq : List Char) :
    ((mkNewGC newDna seq).words.map ((mkNewGC newDna seq).toIndex ∘ newRc newDna)).Nodup := by
  show ((mkNewGC newDna []).words.map ((mkNewGC newDna []).toIndex ∘ newRc newDna)).Nodup
  decide +kernel

theorem nodup_words (seq : List Char) : (mkNewGC newDna seq).words.Nodup := by
  have h : (List.range 66).Nodup := List.nodup_range
  rw [← toIndex_words seq] at h
  exact (List.pairwise_map.1 h).imp fun h e => h (congrArg _ e)

theorem nodup_codons : GCSpec.codons.Nodup :=
  (words_eq [] ▸ nodup_words []).sublist (List.sublist_append_left _ _)

/-- `seq_to_kmer_indices` and `KmerAlphabet.to_index` compute the same index of three characters -/
theorem toIndex_cons3 (seq : List Char) (a b c : Char) :
    (mkNewGC newDna seq).toIndex [a, b, c] =
      kmerIdx (mkNewGC newDna seq).ns (mkNewGC newDna seq).gci (mkNewGC newDna seq).gi
        (monoIdx (mkNewGC newDna seq).alpha a) (monoIdx (mkNewGC newDna seq).alpha b)
        (monoIdx (mkNewGC newDna seq).alpha c) := by
  show (if _ then _ else if _ then _ else _) = _
  simp [kmerIdx, show 0 < (mkNewGC newDna seq).gci from (by decide : 0 < 4)]

theorem wc_mem_bases : ∀ y ∈ GCSpec.bases, GCSpec.wc y ∈ GCSpec.bases := by decide

theorem rc_anticodon : ∀ a ∈ GCSpec.bases, ∀ b ∈ GCSpec.bases, ∀ c ∈ GCSpec.bases,
    newRc newDna [GCSpec.wc c, GCSpec.wc b, GCSpec.wc a] = [a, b, c] := by decide +kernel

theorem oldKey_canon : ∀ a ∈ GCSpec.bases, ∀ b ∈ GCSpec.bases, ∀ c ∈ GCSpec.bases,
    oldKey [a, b, c] = [a, b, c] := by decide +kernel

/-- `GCSpec.normOld` unfolds to the composition of the two maps of `oldKey` -/
theorem oldKey_eq (d : List Char) : oldKey d = d.map GCSpec.normOld := List.map_map

section
variable {seq : List Char} (hlen : seq.length = 64)
include hlen

/-- `dict(zip(codons, code_sequence))` of the new code object is the table followed by the two sentinels -/
theorem words_zip_codeSeq :
    (mkNewGC newDna seq).words.zip (mkNewGC newDna seq).codeSeq =
      GCSpec.table seq ++ [(['-', '-', '-'], '-'), (['?', '?', '?'], 'X')] := by
  rw [words_eq]
  exact List.zip_append (by rw [hlen]; decide)

theorem nodup_table_keys : ((GCSpec.table seq).map Prod.fst).Nodup := by
  rw [GCSpec.table, List.map_fst_zip (by rw [hlen]; decide)]
  exact nodup_codons

theorem mem_table {w : List Char} (hw : w ∈ GCSpec.codons) :
    (w, GCSpec.aa seq w) ∈ GCSpec.table seq := by
  obtain ⟨v, hv⟩ := exists_mem_zip hw (vs := seq) (by rw [hlen]; decide)
  rwa [GCSpec.aa, find_of_mem (nodup_table_keys hlen) hv]

theorem words_le_codeSeq : (mkNewGC newDna seq).words.length ≤ (mkNewGC newDna seq).codeSeq.length := by
  rw [words_eq]
  show 66 ≤ (seq ++ ['-', 'X']).length
  rw [List.length_append, hlen]
  decide

theorem plus_toIndex {w : List Char} {v : Char}
    (h : (w, v) ∈ (mkNewGC newDna seq).words.zip (mkNewGC newDna seq).codeSeq) :
    (mkNewGC newDna seq).plus ((mkNewGC newDna seq).toIndex w) = v :=
  dictGet_map_zip _ (toIndex_words seq ▸ List.nodup_range) (words_le_codeSeq hlen) h _

theorem minus_toIndex_rc {w : List Char} {v : Char}
    (h : (w, v) ∈ (mkNewGC newDna seq).words.zip (mkNewGC newDna seq).codeSeq) :
    (mkNewGC newDna seq).minus ((mkNewGC newDna seq).toIndex (newRc newDna w)) = v := by
  have := dictGet_map_zip _ (nodup_toIndex_anti seq) (words_le_codeSeq hlen) h
    (Char.ofNat ((mkNewGC newDna seq).toIndex (newRc newDna w)))
  rwa [← List.map_map] at this

theorem mem_words_zip {w : List Char} (hw : w ∈ GCSpec.codons) :
    (w, GCSpec.aa seq w) ∈ (mkNewGC newDna seq).words.zip (mkNewGC newDna seq).codeSeq := by
  rw [words_zip_codeSeq hlen]
  exact List.mem_append_left _ (mem_table hlen hw)

theorem plus_codon : ∀ a ∈ GCSpec.bases, ∀ b ∈ GCSpec.bases, ∀ c ∈ GCSpec.bases,
    plusOf seq a b c = GCSpec.aa seq [a, b, c] := fun a ha b hb c hc => by
  rw [← plus_toIndex hlen (mem_words_zip hlen (mem_codons.2 ⟨ha, hb, hc⟩)), toIndex_cons3]
  rfl

theorem minus_codon : ∀ a ∈ GCSpec.bases, ∀ b ∈ GCSpec.bases, ∀ c ∈ GCSpec.bases,
    minusOf seq a b c = GCSpec.aa seq [GCSpec.wc c, GCSpec.wc b, GCSpec.wc a] := fun a ha b hb c hc => by
  rw [← minus_toIndex_rc hlen (mem_words_zip hlen
    (mem_codons.2 ⟨wc_mem_bases c hc, wc_mem_bases b hb, wc_mem_bases a ha⟩)),
    rc_anticodon a ha b hb c hc, toIndex_cons3]
  rfl

theorem new_getitem_codon : ∀ a ∈ GCSpec.bases, ∀ b ∈ GCSpec.bases, ∀ c ∈ GCSpec.bases,
    newGetItem newDna seq [a, b, c] = GCSpec.aa seq [a, b, c] := fun a ha b hb c hc => by
  rw [newGetItem, oldKey_canon a ha b hb c hc]
  exact dictGet_of_mem (by rw [List.map_fst_zip (words_le_codeSeq hlen)]; exact nodup_words seq)
    (mem_words_zip hlen (mem_codons.2 ⟨ha, hb, hc⟩)) _

theorem oldGetItem_eq_aa (item : List Char) : oldGetItem seq item = GCSpec.aa seq (oldKey item) :=
  dictGet_eq_find (nodup_table_keys hlen) _ _

theorem old_codon : ∀ a ∈ GCSpec.bases, ∀ b ∈ GCSpec.bases, ∀ c ∈ GCSpec.bases,
    oldGetItem seq [a, b, c] = GCSpec.aa seq [a, b, c] := fun a ha b hb c hc => by
  rw [oldGetItem_eq_aa hlen, oldKey_canon a ha b hb c hc]

end

/-- characters the byte-table model is faithful for: the six alphabet characters or an ASCII character whose byte
value cannot be mistaken for an index (6 ≤ code point < 128) -/
def PlainChar (c : Char) : Prop := c ∈ ['T', 'C', 'A', 'G', '-', '?'] ∨ (6 ≤ c.toNat ∧ c.toNat < 128)

instance (c : Char) : Decidable (PlainChar c) := by unfold PlainChar; exact inferInstance

theorem new_alpha (seq : List Char) : (mkNewGC newDna seq).alpha = ['T', 'C', 'A', 'G', '-', '?'] := rfl
theorem new_consts (seq : List Char) :
    (mkNewGC newDna seq).ns = 4 ∧ (mkNewGC newDna seq).gci = 4 ∧ (mkNewGC newDna seq).gi = 64 := ⟨rfl, rfl, rfl⟩

def mono6 (c : Char) : Nat := monoIdx ['T', 'C', 'A', 'G', '-', '?'] c

theorem mono6_class {c : Char} (h : PlainChar c) :
    (mono6 c < 4 ↔ c ∈ GCSpec.bases) ∧ (mono6 c = 4 ↔ c = '-') := by
  by_cases hm : c ∈ ['T', 'C', 'A', 'G', '-', '?']
  · exact (by decide : ∀ c ∈ ['T', 'C', 'A', 'G', '-', '?'],
      (mono6 c < 4 ↔ c ∈ GCSpec.bases) ∧ (mono6 c = 4 ↔ c = '-')) c hm
  · -- a character outside the alphabet keeps its byte value
    have h6 : 6 ≤ c.toNat := (h.resolve_left hm).1
    rw [show mono6 c = c.toNat from dictGet_not_mem _ _ _ hm]
    simp only [List.mem_cons, List.not_mem_nil, or_false, not_or] at hm
    obtain ⟨hT, hC, hA, hG, hg, _⟩ := hm
    simp only [GCSpec.bases, List.mem_cons, List.not_mem_nil, hT, hC, hA, hG, hg, or_false, iff_false]
    omega

theorem plusOf_eq (seq : List Char) (a b c : Char) :
    plusOf seq a b c = (mkNewGC newDna seq).plus (kmerIdx 4 4 64 (mono6 a) (mono6 b) (mono6 c)) := rfl

/-- outside the canonical codons `seq_to_kmer_indices` gives the gap index when no index exceeds the gap's, else the
missing index -/
theorem kmerIdx_noncanon {x y z : Nat} (h : ¬ (x < 4 ∧ y < 4 ∧ z < 4)) :
    kmerIdx 4 4 64 x y z = if (x < 4 ∨ x = 4) ∧ (y < 4 ∨ y = 4) ∧ (z < 4 ∨ z = 4) then 64 else 65 := by
  have hm : max x (max y z) = 4 ↔ (x < 4 ∨ x = 4) ∧ (y < 4 ∨ y = 4) ∧ (z < 4 ∨ z = 4) := by omega
  unfold kmerIdx
  rw [if_neg h]
  simp only [hm, show (0 : Nat) < 4 by decide, true_and, if_true]

section
variable {seq : List Char} (hlen : seq.length = 64)
include hlen

/-- the gap word and the missing word have the indices 64 and 65; the converter gives them the two sentinels that
`__post_init__` appends to the code sequence -/
theorem plus_sentinels : (mkNewGC newDna seq).plus 64 = '-' ∧ (mkNewGC newDna seq).plus 65 = 'X' := by
  have h := words_zip_codeSeq hlen
  exact ⟨plus_toIndex hlen (w := ['-', '-', '-']) (h ▸ List.mem_append_right _ (by decide)),
    plus_toIndex hlen (w := ['?', '?', '?']) (h ▸ List.mem_append_right _ (by decide))⟩

theorem plus_general : ∀ a, PlainChar a → ∀ b, PlainChar b → ∀ c, PlainChar c →
    plusOf seq a b c = GCSpec.aaNew seq a b c := fun a ha b hb c hc => by
  obtain ⟨a1, a2⟩ := mono6_class ha
  obtain ⟨b1, b2⟩ := mono6_class hb
  obtain ⟨c1, c2⟩ := mono6_class hc
  unfold GCSpec.aaNew
  by_cases hall : a ∈ GCSpec.bases ∧ b ∈ GCSpec.bases ∧ c ∈ GCSpec.bases
  · rw [if_pos hall]; exact plus_codon hlen a hall.1 b hall.2.1 c hall.2.2
  · rw [if_neg hall, plusOf_eq, kmerIdx_noncanon (by rwa [a1, b1, c1])]
    simp only [← a1, ← a2, ← b1, ← b2, ← c1, ← c2]
    split
    · exact (plus_sentinels hlen).1
    · exact (plus_sentinels hlen).2

end

theorem tables_length : ∀ c ∈ oldCodes ++ newCodes, c.2.1.length = 64 ∧ c.2.2.length = 64 := by
  decide +kernel

theorem len_new {code : Nat × List Char × List Char} (hc : code ∈ newCodes) : code.2.1.length = 64 :=
  (tables_length code (List.mem_append_right _ hc)).1

theorem len_old {code : Nat × List Char × List Char} (hc : code ∈ oldCodes) : code.2.1.length = 64 :=
  (tables_length code (List.mem_append_left _ hc)).1

/-- no code table contains the characters the new `translate` gives to gapped or ambiguous codons -/
theorem tables_no_gap_x : ∀ code ∈ newCodes, '-' ∉ code.2.1 ∧ 'X' ∉ code.2.1 := by decide +kernel

/-- both modules carry exactly the NCBI codes written down in `Spec/NCBITables.lean`, in the same order -/
theorem tables_eq_ncbi : newCodes = NCBI.tables ∧ oldCodes = NCBI.tables := by decide +kernel

/-- the standard code as the familiar 64-character string: what `NCBI.standard` (given by amino acid) evaluates to -/
theorem standard_table : NCBI.tableOf [] =
    ['F', 'F', 'L', 'L', 'S', 'S', 'S', 'S', 'Y', 'Y', '*', '*', 'C', 'C', '*', 'W',
     'L', 'L', 'L', 'L', 'P', 'P', 'P', 'P', 'H', 'H', 'Q', 'Q', 'R', 'R', 'R', 'R',
     'I', 'I', 'I', 'M', 'T', 'T', 'T', 'T', 'N', 'N', 'K', 'K', 'S', 'S', 'R', 'R',
     'V', 'V', 'V', 'V', 'A', 'A', 'A', 'A', 'D', 'D', 'E', 'E', 'G', 'G', 'G', 'G'] :=
  -- code 1 is the head of both lists of `tables_eq_ncbi`; the library's copy is a literal
  (congrArg (fun l => (l.headD default).2.1) tables_eq_ncbi.1).symm.trans (by decide)

end CogentModel.GC
