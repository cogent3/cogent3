import CogentModel.Proofs.GeneticCodeTable
/-!
Every translation function, of the model and of the specification, is a `codonMap`; the codon facts of
`GeneticCodeTable` are lifted to whole texts by `codonMap_congr`.  Reading frames of the reverse strand: `rc_trunc_frame`.
-/
namespace CogentModel.GC
open CogentModel.C12Tables

def Canon (s : List Char) : Prop := ∀ c ∈ s, c ∈ GCSpec.bases

instance (s : List Char) : Decidable (Canon s) := inferInstanceAs (Decidable (∀ c ∈ s, c ∈ GCSpec.bases))

def Plain (s : List Char) : Prop := ∀ c ∈ s, PlainChar c

instance (s : List Char) : Decidable (Plain s) := inferInstanceAs (Decidable (∀ c ∈ s, PlainChar c))

theorem canon_drop {s : List Char} (h : Canon s) (k : Nat) : Canon (s.drop k) :=
  fun c hc => h c (List.mem_of_mem_drop hc)

theorem canon_take {s : List Char} (h : Canon s) (k : Nat) : Canon (s.take k) :=
  fun c hc => h c (List.mem_of_mem_take hc)

theorem trunc3_eq_take (d : List Char) : trunc3 d = d.take (d.length - d.length % 3) := by
  unfold trunc3
  split
  · rfl
  · rename_i h
    have : d.length % 3 = 0 := by omega
    simp [this]

theorem canon_trunc3 {s : List Char} (h : Canon s) : Canon (trunc3 s) := by
  rw [trunc3_eq_take]; exact canon_take h _

theorem trunc3_length (d : List Char) : (trunc3 d).length = d.length - d.length % 3 := by
  rw [trunc3_eq_take, List.length_take]; omega

theorem trunc3_length_mod (d : List Char) : (trunc3 d).length % 3 = 0 := by
  rw [trunc3_length]; omega

/-- the recursion every translation of C12 follows: one value per complete codon, left to right -/
def codonMap {β} (f : Char → Char → Char → β) : List Char → List β
  | a :: b :: c :: rest => f a b c :: codonMap f rest
  | _ => []

/-- how a translation function is recognised as a `codonMap`: its four defining equations hold by `rfl` -/
theorem codonMap_unique {β} {f : Char → Char → Char → β} {F : List Char → List β} (h0 : F [] = [])
    (h1 : ∀ a, F [a] = []) (h2 : ∀ a b, F [a, b] = []) (h3 : ∀ a b c r, F (a :: b :: c :: r) = f a b c :: F r) :
    ∀ d, F d = codonMap f d
  | [] => h0
  | [a] => h1 a
  | [a, b] => h2 a b
  | a :: b :: c :: r => by rw [h3, codonMap, codonMap_unique h0 h1 h2 h3 r]

/-- how a fact about single codons becomes one about whole texts; `h` has the shape of the codon facts (`plus_codon` …) -/
theorem codonMap_congr {β} {f g : Char → Char → Char → β} {P : Char → Prop}
    (h : ∀ a, P a → ∀ b, P b → ∀ c, P c → f a b c = g a b c) : ∀ d : List Char, (∀ x ∈ d, P x) → codonMap f d = codonMap g d
  | [], _ => rfl
  | [_], _ => rfl
  | [_, _], _ => rfl
  | a :: b :: c :: r, hd => by
    rw [codonMap, codonMap, h a (hd a (by simp)) b (hd b (by simp)) c (hd c (by simp)),
      codonMap_congr h r fun x hx => hd x (by simp [hx])]

theorem codonMap_short {β} (f : Char → Char → Char → β) : ∀ d : List Char, d.length < 3 → codonMap f d = []
  | [], _ => rfl
  | [_], _ => rfl
  | [_, _], _ => rfl
  | _ :: _ :: _ :: _, h => by simp at h; omega

theorem codonMap_append {β} (f : Char → Char → Char → β) : ∀ x y : List Char, x.length % 3 = 0 →
    codonMap f (x ++ y) = codonMap f x ++ codonMap f y
  | [], _, _ => rfl
  | [_], _, h => by simp at h
  | [_, _], _, h => by simp at h
  | a :: b :: c :: r, y, h => by
    simp only [List.cons_append, codonMap]
    rw [codonMap_append f r y (by simp at h; omega)]

/-- the incomplete codon that `translate` cuts off contributes nothing -/
theorem codonMap_trunc3 {β} (f : Char → Char → Char → β) (d : List Char) : codonMap f (trunc3 d) = codonMap f d := by
  conv => rhs; rw [← List.take_append_drop (d.length - d.length % 3) d]
  rw [trunc3_eq_take, codonMap_append _ _ _ (by rw [List.length_take]; omega),
    codonMap_short f (d.drop _) (by rw [List.length_drop]; omega), List.append_nil]

theorem mem_codonMap {β} {f : Char → Char → Char → β} {x : β} : ∀ {d : List Char}, x ∈ codonMap f d →
    ∃ a ∈ d, ∃ b ∈ d, ∃ c ∈ d, x = f a b c
  | [], h => nomatch h
  | [_], h => nomatch h
  | [_, _], h => nomatch h
  | a :: b :: c :: r, h => by
    rcases List.mem_cons.1 h with rfl | h
    · exact ⟨a, by simp, b, by simp, c, by simp, rfl⟩
    · obtain ⟨a', ha, b', hb, c', hc, e⟩ := mem_codonMap h
      exact ⟨a', by simp [ha], b', by simp [hb], c', by simp [hc], e⟩

theorem codonMap_map {β} (f : Char → Char → Char → β) (h : Char → Char) : ∀ d : List Char,
    codonMap f (d.map h) = codonMap (fun a b c => f (h a) (h b) (h c)) d :=
  codonMap_unique (F := fun d => codonMap f (d.map h)) rfl (fun _ => rfl) (fun _ _ => rfl) fun _ _ _ _ => rfl

/-- read backwards, a text of whole codons gives its codons in reverse order, each reversed -/
theorem codonMap_reverse {β} (f : Char → Char → Char → β) : ∀ d : List Char, d.length % 3 = 0 →
    codonMap f d.reverse = (codonMap (fun a b c => f c b a) d).reverse
  | [], _ => rfl
  | [_], h => by simp at h
  | [_, _], h => by simp at h
  | a :: b :: c :: r, h => by
    have hr : r.length % 3 = 0 := by simp at h; omega
    rw [show (a :: b :: c :: r).reverse = r.reverse ++ [c, b, a] by simp, codonMap_append _ _ _ (by simpa using hr),
      codonMap_reverse f r hr]
    simp [codonMap]

theorem translate_eq (code : List Char) : GCSpec.translate code = codonMap fun a b c => GCSpec.aa code [a, b, c] :=
  funext (codonMap_unique rfl (fun _ => rfl) (fun _ _ => rfl) fun _ _ _ _ => rfl)

theorem translateNew_eq (code : List Char) : GCSpec.translateNew code = codonMap (GCSpec.aaNew code) :=
  funext (codonMap_unique rfl (fun _ => rfl) (fun _ _ => rfl) fun _ _ _ _ => rfl)

theorem oldCodons_eq (seq : List Char) : oldCodons seq = codonMap fun a b c => oldGetItem seq [a, b, c] :=
  funext (codonMap_unique rfl (fun _ => rfl) (fun _ _ => rfl) fun _ _ _ _ => rfl)

theorem spec_translate_short (code d : List Char) (h : d.length < 3) : GCSpec.translate code d = [] := by
  rw [translate_eq, codonMap_short _ d h]

theorem spec_translate_trunc3 (code d : List Char) : GCSpec.translate code (trunc3 d) = GCSpec.translate code d := by
  rw [translate_eq, codonMap_trunc3]

theorem spec_translate_append (code x y : List Char) (h : x.length % 3 = 0) :
    GCSpec.translate code (x ++ y) = GCSpec.translate code x ++ GCSpec.translate code y := by
  rw [translate_eq, codonMap_append _ _ _ h]

theorem spec_rc_append (x y : List Char) : GCSpec.rc (x ++ y) = GCSpec.rc y ++ GCSpec.rc x := by
  simp [GCSpec.rc]

theorem spec_rc_length (x : List Char) : (GCSpec.rc x).length = x.length := by simp [GCSpec.rc]

/-- the reverse complement of the truncated slice from `k < 3` is frame `(len - k) % 3` of the reverse strand -/
theorem rc_trunc_frame (code : List Char) (s : List Char) (k : Nat) (hk : k < 3) :
    GCSpec.translate code (GCSpec.rc (trunc3 (s.drop k))) =
      GCSpec.translate code ((GCSpec.rc s).drop ((s.length - k) % 3)) := by
  -- s = p ++ q ++ t,  p = take k,  q = trunc3 (drop k),  t = the incomplete codon;  rc s = rc t ++ rc q ++ rc p
  generalize hq : trunc3 (s.drop k) = q
  generalize ht : (s.drop k).drop q.length = t
  have hd : s.drop k = q ++ t := by
    rw [← ht, ← hq, trunc3_eq_take, List.length_take, Nat.min_eq_left (Nat.sub_le _ _), List.take_append_drop]
  have hq3 : q.length % 3 = 0 := hq ▸ trunc3_length_mod _
  have htl : (GCSpec.rc t).length = (s.length - k) % 3 := by
    rw [spec_rc_length, ← ht, ← hq, List.length_drop, trunc3_length, List.length_drop]; omega
  have hs : GCSpec.rc s = GCSpec.rc t ++ (GCSpec.rc q ++ GCSpec.rc (s.take k)) := by
    conv => lhs; rw [← List.take_append_drop k s, hd]
    rw [spec_rc_append, spec_rc_append, List.append_assoc]
  rw [hs, ← htl, List.drop_left, spec_translate_append _ _ _ (by rwa [spec_rc_length]),
    spec_translate_short code (GCSpec.rc (s.take k)) (by rw [spec_rc_length, List.length_take]; omega),
    List.append_nil]

theorem canon_rc {s : List Char} (hs : Canon s) : Canon (GCSpec.rc s) := by
  intro c hc
  simp only [GCSpec.rc, List.mem_reverse, List.mem_map] at hc
  obtain ⟨x, hx, rfl⟩ := hc
  exact wc_mem_bases x (hs x hx)

theorem old_rc_canon : ∀ c ∈ GCSpec.bases, oldComplChar oldDna c = GCSpec.wc c := by decide +kernel

theorem old_rc_spec (s : List Char) (hs : Canon s) : oldRc oldDna s = GCSpec.rc s := by
  unfold oldRc oldComplement GCSpec.rc
  congr 1
  exact List.map_congr_left fun c hc => old_rc_canon c (hs c hc)

theorem flatMap_leBytes_one (idx : List Nat) : idx.flatMap (leBytes 1) = idx := by
  induction idx with
  | nil => rfl
  | cons a r ih => simp [List.flatMap_cons, leBytes, ih]

/-- the trinucleotide alphabet has 66 words, so its index dtype is one byte wide, whatever the code -/
theorem byteWidth_words (seq : List Char) : byteWidth (mkNewGC newDna seq).words.length = 1 := by
  have : (mkNewGC newDna seq).words.length = 66 := by
    show (product3 newDna.chars ++ _).length = 66
    decide
  rw [this]; rfl

/-- `translate`, whatever alphabet the text is indexed with: the converter of the strand, codon by codon, on the k-mer
index of the truncated slice (the index array is one byte wide) -/
theorem translateWith_eq (seq alpha s : List Char) (start : Nat) (rc : Bool) :
    (mkNewGC newDna seq).translateWith alpha s start rc =
      let g := mkNewGC newDna seq
      let idx := fun a b c => kmerIdx g.ns g.gci g.gi (monoIdx alpha a) (monoIdx alpha b) (monoIdx alpha c)
      if rc then (codonMap (fun a b c => g.minus (idx a b c)) (trunc3 (s.drop start))).reverse
      else codonMap (fun a b c => g.plus (idx a b c)) (trunc3 (s.drop start)) := by
  have hd1 : (if start ≠ 0 then s.drop start else s) = s.drop start := by cases start <;> rfl
  have hm : ∀ (p : Nat → Char) (d : List Char),
      (toIndices (mkNewGC newDna seq).ns (mkNewGC newDna seq).gci (mkNewGC newDna seq).gi (d.map (monoIdx alpha))).map p = _ :=
    fun p => codonMap_unique rfl (fun _ => rfl) (fun _ _ => rfl) fun _ _ _ _ => rfl
  unfold NewGC.translateWith NewGC.translateIdx
  simp only [hd1, byteWidth_words, flatMap_leBytes_one, hm]

theorem monoIdx_degen_canon : ∀ c ∈ GCSpec.bases,
    monoIdx (newDegenGapped newDna) c = monoIdx (mkNewGC newDna []).alpha c := by decide +kernel

section
variable {seq : List Char} (hlen : seq.length = 64)
include hlen

/-- the plus strand, whatever alphabet the text is indexed with, provided it numbers the four bases as the code's own
alphabet does (`str` input: that alphabet itself; a sequence object: the most degenerate one, `monoIdx_degen_canon`) -/
theorem translateWith_plus {alpha : List Char}
    (ha : ∀ c ∈ GCSpec.bases, monoIdx alpha c = monoIdx (mkNewGC newDna seq).alpha c) (s : List Char) (start : Nat)
    (hs : Canon s) :
    (mkNewGC newDna seq).translateWith alpha s start false = GCSpec.translate seq (s.drop start) := by
  rw [translateWith_eq, translate_eq]
  refine (codonMap_trunc3 _ _).trans (codonMap_congr (fun a ha' b hb c hc => ?_) _ (canon_drop hs start))
  simp only [ha a ha', ha b hb, ha c hc]
  exact plus_codon hlen a ha' b hb c hc

theorem new_translate_plus (s : List Char) (start : Nat) (hs : Canon s) :
    newTranslate newDna seq s start false = GCSpec.translate seq (s.drop start) :=
  translateWith_plus hlen (fun _ _ => rfl) s start hs

/-- what `translate(rc=True)` computes: the reverse complement of the *already truncated* slice -/
theorem new_translate_minus (s : List Char) (start : Nat) (hs : Canon s) :
    newTranslate newDna seq s start true = GCSpec.translate seq (GCSpec.rc (trunc3 (s.drop start))) := by
  rw [newTranslate, translateWith_eq, translate_eq, GCSpec.rc, ← List.map_reverse, codonMap_map,
    codonMap_reverse _ _ (trunc3_length_mod _)]
  exact congrArg List.reverse (codonMap_congr (minus_codon hlen) _ (canon_trunc3 (canon_drop hs start)))

theorem new_translate_plus_general (s : List Char) (start : Nat) (hp : Plain s) :
    newTranslate newDna seq s start false = GCSpec.translateNew seq (s.drop start) := by
  rw [newTranslate, translateWith_eq, translateNew_eq]
  exact (codonMap_trunc3 _ _).trans
    (codonMap_congr (plus_general hlen) _ fun c hc => hp c (List.mem_of_mem_drop hc))

theorem translate_subset (d : List Char) (hd : Canon d) : ∀ x ∈ GCSpec.translate seq d, x ∈ seq := by
  rw [translate_eq]
  intro x hx
  obtain ⟨a, ha, b, hb, c, hc, rfl⟩ := mem_codonMap hx
  exact (List.of_mem_zip (mem_table hlen (mem_codons.2 ⟨hd a ha, hd b hb, hd c hc⟩))).2

theorem old_chunks (d : List Char) (hd : Canon d) : oldCodons seq d = GCSpec.translate seq d := by
  rw [oldCodons_eq, translate_eq]
  exact codonMap_congr (old_codon hlen) d hd

theorem old_chunks_general (d : List Char) : oldCodons seq d = GCSpec.translateOld seq d := by
  rw [oldCodons_eq, GCSpec.translateOld, translate_eq, codonMap_map]
  exact codonMap_congr (P := fun _ => True) (fun a _ b _ c _ => (oldGetItem_eq_aa hlen _).trans (by rw [oldKey_eq]; rfl)) d
    fun _ _ => trivial

theorem old_translate_plus (s : List Char) (start : Nat) (hs : Canon s) (hstart : start < s.length) :
    oldTranslate seq s start = .ok (GCSpec.translate seq (s.drop start)) := by
  unfold oldTranslate
  have h1 : s.isEmpty = false := by
    cases s with
    | nil => simp at hstart
    | cons _ _ => rfl
  have h2 : ¬ (start + 1 > s.length) := by omega
  simp only [h1, h2, if_false, Bool.false_eq_true]
  rw [old_chunks hlen _ (canon_drop hs start)]

end

theorem translate_last (seq : List Char) {s : List Char} (hs : Canon s) (h3 : s.length % 3 = 0) (hne : s ≠ []) :
    ∃ a ∈ GCSpec.bases, ∃ b ∈ GCSpec.bases, ∃ c ∈ GCSpec.bases, lastN 3 s = [a, b, c] ∧
      GCSpec.translate seq s = GCSpec.translate seq (s.take (s.length - 3)) ++ [GCSpec.aa seq [a, b, c]] := by
  have hl : 3 ≤ s.length := by have := List.length_pos_iff.2 hne; omega
  have hsplit : GCSpec.translate seq s =
      GCSpec.translate seq (s.take (s.length - 3)) ++ GCSpec.translate seq (lastN 3 s) := by
    conv => lhs; rw [← List.take_append_drop (s.length - 3) s]
    exact spec_translate_append seq _ _ (by rw [List.length_take]; omega)
  have hc : Canon (lastN 3 s) := canon_drop hs _
  match hl3 : lastN 3 s, (by simp [lastN]; omega : (lastN 3 s).length = 3), hc with
  | [a, b, c], _, hc =>
    exact ⟨a, hc a (by simp), b, hc b (by simp), c, hc c (by simp), rfl, by rw [hsplit, hl3]; rfl⟩

theorem translate_dropLast3 (seq : List Char) {s : List Char} (hs : Canon s) (h3 : s.length % 3 = 0) (hne : s ≠ []) :
    GCSpec.translate seq (s.take (s.length - 3)) = (GCSpec.translate seq s).dropLast := by
  obtain ⟨a, _, b, _, c, _, _, htr⟩ := translate_last seq hs h3 hne
  rw [htr, List.dropLast_concat]

end CogentModel.GC
