/-  C20 — the csv reader state machine inverts the csv writer, for cells that may contain the delimiter, quotes and
    the characters of the lineterminator (CR / LF inside quoted fields), for the lineterminators "\n" (what
    `Table.write` passes) and "\r\n" (the excel default).
    Proof by induction over the characters of a field, the fields of a record, the records of the text. -/
import CogentModel.Model.Csv
namespace CogentModel.Csv

structure GoodDialect (d : Dialect) : Prop where
  lt : d.lt = ['\n'] ∨ d.lt = ['\r', '\n']
  dq : d.delim ≠ quoteCh
  dnl : isNL d.delim = false

/-- every CR / LF inside the field is a character of the lineterminator, so that QUOTE_MINIMAL quotes the
field (CPython 3.12 only quotes on characters of the lineterminator: with "\n" a bare "\r" is written
unquoted and splits the record on reading, see `csv_cr_counter`) -/
def Quotable (d : Dialect) (f : Str) : Prop := ∀ c ∈ f, isNL c = true → c ∈ d.lt

def NoNL (f : Str) : Prop := ∀ c ∈ f, isNL c = false

theorem quotable_of_noNL (d : Dialect) (f : Str) (h : NoNL f) : Quotable d f := by
  intro c hc hn; rw [h c hc] at hn; cases hn

def emit (r : Row) : Except String (List Row) → Except String (List Row)
  | .ok rs => .ok (r :: rs)
  | .error e => .error e

/-- a character that is data everywhere outside quotes -/
def Plain (delim : Char) (c : Char) : Prop := c ≠ delim ∧ c ≠ quoteCh ∧ isNL c = false

theorem lineEnds_of_not_nl (c : Char) (rest : Str) (h : isNL c = false) : lineEnds c rest = false := by
  simp [isNL] at h
  simp [lineEnds, h.1, h.2]

theorem readChars_step_plain (delim : Char) (s : RS) (mid : Bool) (c : Char) (cs : Str) (h : isNL c = false) :
    readChars delim s mid (c :: cs) = readChars delim (procChar delim s c) true cs := by
  rw [readChars]
  simp [lineEnds_of_not_nl c cs h]

theorem readChars_inField (d : Char) (f : Str) (hf : ∀ c ∈ f, Plain d c) (fld : Str) (fs : Row) (rest : Str) :
    readChars d ⟨.inField, fld, fs⟩ true (f ++ rest) = readChars d ⟨.inField, fld ++ f, fs⟩ true rest := by
  induction f generalizing fld with
  | nil => simp
  | cons c cs ih =>
    obtain ⟨h1, h2, h3⟩ := hf c (by simp)
    rw [List.cons_append, readChars_step_plain _ _ _ _ _ h3]
    simp only [procChar, h1, h3, addChar, Bool.false_eq_true, if_false]
    rw [ih (fun c hc => hf c (by simp [hc]))]
    simp

/-- the body of a quoted field up to and including the closing quote — CR / LF inside are data, the line ends
they cause are ignored by the reader (`IN_QUOTED_FIELD: if c == EOL: pass`) -/
theorem readChars_inQuoted (d : Char) (f : Str) (fld : Str) (fs : Row) (mid : Bool) (rest : Str) :
    readChars d ⟨.inQuoted, fld, fs⟩ mid (escapeBody f ++ quoteCh :: rest)
      = readChars d ⟨.quoteInQuoted, fld ++ f, fs⟩ true rest := by
  induction f generalizing fld mid with
  | nil =>
    simp only [escapeBody, List.nil_append, List.append_nil]
    rw [readChars_step_plain _ _ _ _ _ (by decide)]
    simp [procChar]
  | cons c cs ih =>
    by_cases hc : c = quoteCh
    · subst hc
      simp only [escapeBody, if_true, List.cons_append]
      rw [readChars_step_plain _ _ _ _ _ (by decide), readChars_step_plain _ _ _ _ _ (by decide)]
      simp only [procChar, addChar, if_true]
      rw [ih]
      simp
    · simp only [escapeBody, hc, if_false, List.cons_append]
      rw [readChars]
      simp only [procChar, hc, if_false, addChar]
      by_cases hl : lineEnds c (escapeBody cs ++ quoteCh :: rest) = true
      · simp only [hl, if_true, procEOL]
        simp only [reduceCtorEq, if_false]
        rw [ih]; simp
      · simp only [hl, Bool.false_eq_true, if_false]
        rw [ih]; simp

theorem plain_of_not_needsQuote {d : Dialect} (f : Str) (hq : needsQuote d f = false) (hn : Quotable d f) :
    ∀ c ∈ f, Plain d.delim c := by
  intro c hc
  have h := hq
  simp only [needsQuote, List.any_eq_false] at h
  have hs := h c hc
  simp [special] at hs
  refine ⟨hs.1.1, hs.1.2, ?_⟩
  cases hnl : isNL c with
  | false => rfl
  | true => exact absurd (hn c hc hnl) hs.2

/-- the states the reader can be in when the terminator of a field arrives -/
def AtFieldEnd (s : RS) : Prop := s.st = .inField ∨ s.st = .startField ∨ s.st = .quoteInQuoted

namespace AtFieldEnd

/-- what ends a field does the same in all three states: the field is saved; the delimiter opens the next field,
a new-line character goes on to eat the line end, the end of the line closes the record -/
theorem step {d : Dialect} (g : GoodDialect d) {s : RS} (h : AtFieldEnd s) :
    procChar d.delim s d.delim = saveField s .startField ∧
    (∀ c, isNL c = true → procChar d.delim s c = saveField s .eatCRNL) ∧ procEOL s = saveField s .startRecord := by
  have h1 := g.dq
  have h2 := g.dnl
  have h3 : ∀ c, isNL c = true → c ≠ d.delim ∧ c ≠ quoteCh := fun c hc =>
    ⟨fun e => (by rw [e, g.dnl] at hc; cases hc), fun e => (by rw [e] at hc; revert hc; decide)⟩
  obtain ⟨st, fld, fs⟩ := s
  rcases h with h | h | h <;> simp only at h <;> subst h <;>
    exact ⟨by simp [procChar, procStartField, saveField, h1, h2],
      fun c hc => by simp [procChar, procStartField, hc, h3 c hc], rfl⟩

end AtFieldEnd

theorem atFieldEnd_delim {d : Dialect} (g : GoodDialect d) (s : RS) (h : AtFieldEnd s) (mid : Bool) (rest : Str) :
    readChars d.delim s mid (d.delim :: rest) = readChars d.delim ⟨.startField, [], s.fields ++ [s.field]⟩ true rest := by
  rw [readChars_step_plain _ _ _ _ _ g.dnl, (h.step g).1]
  rfl

/-- the record terminator, read in a state that every new-line character sends to the same `EAT_CRNL` state `e`:
the line ends and the record `e.fields` is produced -/
theorem readChars_lt {d : Dialect} (g : GoodDialect d) (s e : RS) (mid : Bool) (rest : Str) (he : e.st = .eatCRNL)
    (h : ∀ c, isNL c = true → procChar d.delim s c = e) :
    readChars d.delim s mid (d.lt ++ rest) = emit e.fields (readChars d.delim reset false rest) := by
  have lf : ∀ s0 m, procChar d.delim s0 '\n' = e →
      readChars d.delim s0 m ('\n' :: rest) = emit e.fields (readChars d.delim reset false rest) := by
    intro s0 m h0
    rw [readChars]
    simp only [h0, lineEnds, beq_self_eq_true, Bool.true_or, if_true, procEOL, he]
    simp only [reduceCtorEq, if_false]
    cases readChars d.delim reset false rest <;> rfl
  rcases g.lt with hl | hl <;> rw [hl]
  · exact lf s mid (h '\n' rfl)
  · rw [List.cons_append, List.cons_append, List.nil_append, readChars]
    have he1 : lineEnds '\r' ('\n' :: rest) = false := by simp [lineEnds]
    simp only [he1, Bool.false_eq_true, if_false, h '\r' rfl]
    exact lf e true (by simp [procChar, he, isNL])

theorem atFieldEnd_lt {d : Dialect} (g : GoodDialect d) (s : RS) (h : AtFieldEnd s) (mid : Bool) (rest : Str) :
    readChars d.delim s mid (d.lt ++ rest) = emit (s.fields ++ [s.field]) (readChars d.delim reset false rest) :=
  readChars_lt g s (saveField s .eatCRNL) mid rest rfl (h.step g).2.1

theorem readChars_quoted (d : Char) (f : Str) (fs : Row) (mid : Bool) (rest : Str) :
    readChars d ⟨.startField, [], fs⟩ mid (quoteCh :: (escapeBody f ++ quoteCh :: rest))
      = readChars d ⟨.quoteInQuoted, f, fs⟩ true rest := by
  rw [readChars_step_plain _ _ _ _ _ (by decide)]
  simp only [procChar, procStartField, show isNL quoteCh = false by decide, Bool.false_eq_true, if_false, if_true]
  rw [readChars_inQuoted, List.nil_append]

/-- after the encoded text of field `f` the reader is at a field end holding `f`.  `mid` is looked at only when the
text ends: it has to be `true` once a character was consumed; the empty unquoted field consumes none and leaves it. -/
theorem readChars_encField {d : Dialect} (f : Str) (hn : Quotable d f) (fs : Row) (mid : Bool) :
    ∃ s mid', AtFieldEnd s ∧ s.field = f ∧ s.fields = fs ∧ (mid' = true ∨ (encField d f = [] ∧ mid' = mid)) ∧
      ∀ rest, readChars d.delim ⟨.startField, [], fs⟩ mid (encField d f ++ rest) = readChars d.delim s mid' rest := by
  unfold encField
  by_cases hq : needsQuote d f = true
  · simp only [hq, if_true]
    refine ⟨⟨.quoteInQuoted, f, fs⟩, true, Or.inr (Or.inr rfl), rfl, rfl, Or.inl rfl, fun rest => ?_⟩
    rw [List.cons_append, List.append_assoc]
    exact readChars_quoted d.delim f fs mid rest
  · have hq' : needsQuote d f = false := by simpa using hq
    simp only [hq', Bool.false_eq_true, if_false]
    have hp := plain_of_not_needsQuote f hq' hn
    cases f with
    | nil => exact ⟨⟨.startField, [], fs⟩, mid, Or.inr (Or.inl rfl), rfl, rfl, Or.inr ⟨rfl, rfl⟩, fun _ => rfl⟩
    | cons c cs =>
      obtain ⟨h1, h2, h3⟩ := hp c (by simp)
      refine ⟨⟨.inField, c :: cs, fs⟩, true, Or.inl rfl, rfl, rfl, Or.inl rfl, fun rest => ?_⟩
      rw [List.cons_append, readChars_step_plain _ _ _ _ _ h3]
      simp only [procChar, procStartField, h1, h2, h3, addChar, Bool.false_eq_true, if_false]
      rw [readChars_inField d.delim cs (fun c hc => hp c (by simp [hc]))]
      simp

/-- after the written fields of a record the reader is at a field end holding the last of them, the others saved -/
theorem readChars_joinFields {d : Dialect} (g : GoodDialect d) (r : Row) (hr : r ≠ []) (hn : ∀ f ∈ r, Quotable d f)
    (fs0 : Row) (mid : Bool) (rest : Str) :
    ∃ s mid', AtFieldEnd s ∧ s.fields ++ [s.field] = fs0 ++ r ∧ (mid' = true ∨ (joinFields d r = [] ∧ mid' = mid)) ∧
      readChars d.delim ⟨.startField, [], fs0⟩ mid (joinFields d r ++ rest) = readChars d.delim s mid' rest := by
  induction r generalizing fs0 mid with
  | nil => exact absurd rfl hr
  | cons f more ih =>
    obtain ⟨s, mid', hs, hf, hfs, hm, e⟩ := readChars_encField f (hn f (by simp)) fs0 mid
    cases more with
    | nil => exact ⟨s, mid', hs, by rw [hf, hfs], hm, e rest⟩
    | cons f2 more2 =>
      obtain ⟨s', mid'', hs', hr', hm', e'⟩ :=
        ih (by simp) (fun f hf => hn f (by simp [hf])) (fs0 ++ [f]) true
      refine ⟨s', true, hs', by simpa using hr', Or.inl rfl, ?_⟩
      have hm'' : mid'' = true := hm'.elim id (·.2)
      rw [joinFields, List.append_assoc, List.cons_append, e, atFieldEnd_delim g s hs, hf, hfs, e', hm'']

theorem enc_head {d : Dialect} (f : Str) (hn : Quotable d f) :
    (encField d f = [] ∧ f = []) ∨ ∃ c t, encField d f = c :: t ∧ isNL c = false := by
  unfold encField
  by_cases hq : needsQuote d f = true
  · right; exact ⟨quoteCh, escapeBody f ++ [quoteCh], by simp [hq], by decide⟩
  · have hq' : needsQuote d f = false := by simpa using hq
    cases f with
    | nil => left; simp [hq']
    | cons c cs =>
      right
      exact ⟨c, cs, by simp [hq'], (plain_of_not_needsQuote (c :: cs) hq' hn c (by simp)).2.2⟩

theorem joinFields_head {d : Dialect} (g : GoodDialect d) (r : Row) (hr : r ≠ []) (h1 : r ≠ [[]])
    (hn : ∀ f ∈ r, Quotable d f) : ∃ c t, joinFields d r = c :: t ∧ isNL c = false := by
  match r, hr, hn, h1 with
  | [f], _, hn, h1 =>
    rcases enc_head (d := d) f (hn f (by simp)) with ⟨_, h⟩ | ⟨c, t, h, hc⟩
    · subst h; exact absurd rfl h1
    · exact ⟨c, t, by simp [joinFields, h], hc⟩
  | f :: f2 :: more, _, hn, _ =>
    rcases enc_head (d := d) f (hn f (by simp)) with ⟨h, _⟩ | ⟨c, t, h, hc⟩
    · exact ⟨d.delim, _, by simp [joinFields, h]; rfl, g.dnl⟩
    · exact ⟨c, _, by simp [joinFields, h]; rfl, hc⟩

theorem readChars_startRecord (delim : Char) (fld : Str) (fs : Row) (mid : Bool) (c : Char) (t : Str)
    (hc : isNL c = false) :
    readChars delim ⟨.startRecord, fld, fs⟩ mid (c :: t) = readChars delim ⟨.startField, fld, fs⟩ mid (c :: t) := by
  rw [readChars_step_plain _ _ _ _ _ hc, readChars_step_plain _ _ _ _ _ hc]
  simp [procChar, hc, procStartField, saveField, addChar]

/-- after the text of a non-empty record, read from a fresh reader state, the reader is at the end of its last
field; what comes next (the line terminator, or the end of the text) finishes the record -/
theorem readChars_rowText {d : Dialect} (g : GoodDialect d) (r : Row) (hr : r ≠ []) (hn : ∀ f ∈ r, Quotable d f)
    (rest : Str) :
    ∃ s, AtFieldEnd s ∧ s.fields ++ [s.field] = r ∧
      readChars d.delim reset false (rowText d r ++ rest) = readChars d.delim s true rest := by
  unfold rowText
  by_cases h1 : r = [[]]
  · -- the lone empty field is written as `""`
    refine ⟨⟨.quoteInQuoted, [], []⟩, Or.inr (Or.inr rfl), h1.symm, ?_⟩
    rw [if_pos h1, reset, List.cons_append, readChars_startRecord _ _ _ _ _ _ (by decide)]
    exact readChars_quoted d.delim [] [] false rest
  · obtain ⟨c, t, e, hc⟩ := joinFields_head g r hr h1 hn
    obtain ⟨s, mid', hs, hf, hm, e'⟩ := readChars_joinFields g r hr hn [] false rest
    have hm' : mid' = true := hm.elim id fun h => by rw [e] at h; cases h.1
    refine ⟨s, hs, hf, ?_⟩
    rw [if_neg h1, e, List.cons_append, reset, readChars_startRecord _ _ _ _ _ _ hc, ← List.cons_append, ← e, e', hm']

theorem readChars_row {d : Dialect} (g : GoodDialect d) (r : Row) (hn : ∀ f ∈ r, Quotable d f) (rest : Str) :
    readChars d.delim reset false (writeRow d r ++ rest) = emit r (readChars d.delim reset false rest) := by
  unfold writeRow
  by_cases hr : r = []
  · subst hr
    -- the empty record: only the line terminator
    exact readChars_lt g reset ⟨.eatCRNL, [], []⟩ false rest rfl fun c hc => by simp [procChar, reset, hc]
  · obtain ⟨s, hs, hf, e⟩ := readChars_rowText g r hr hn (d.lt ++ rest)
    rw [List.append_assoc, e, atFieldEnd_lt g s hs, hf]

theorem readChars_rows_then {d : Dialect} (g : GoodDialect d) (rows : List Row)
    (hn : ∀ r ∈ rows, ∀ f ∈ r, Quotable d f) (rest : Str) :
    readChars d.delim reset false (csvWrite d rows ++ rest)
      = (match readChars d.delim reset false rest with
         | .ok rs => .ok (rows ++ rs)
         | .error e => .error e) := by
  induction rows with
  | nil => simp [csvWrite]; cases readChars d.delim reset false rest <;> rfl
  | cons r rs ih =>
    simp only [csvWrite, List.append_assoc]
    rw [readChars_row g r (hn r (by simp)), ih (fun r hr => hn r (by simp [hr]))]
    cases readChars d.delim reset false rest <;> simp [emit]

theorem csv_roundtrip_general {d : Dialect} (g : GoodDialect d) (rows : List Row)
    (hn : ∀ r ∈ rows, ∀ f ∈ r, Quotable d f) :
    csvRead d.delim (csvWrite d rows) = .ok rows := by
  have := readChars_rows_then g rows hn []
  simpa [csvRead, readChars, reset] using this

/-! ### text without the final line terminator (`to_csv` / `to_tsv`) -/

theorem atFieldEnd_eof {d : Dialect} (g : GoodDialect d) (s : RS) (h : AtFieldEnd s) :
    readChars d.delim s true [] = .ok [s.fields ++ [s.field]] := by
  simp [readChars, (h.step g).2.2, saveField]

theorem readChars_row_eof {d : Dialect} (g : GoodDialect d) (r : Row) (hr : r ≠ []) (hn : ∀ f ∈ r, Quotable d f) :
    readChars d.delim reset false (rowText d r) = .ok [r] := by
  obtain ⟨s, hs, hf, e⟩ := readChars_rowText g r hr hn []
  rw [← List.append_nil (rowText d r), e, atFieldEnd_eof g s hs, hf]

theorem csvWrite_append (d : Dialect) (a b : List Row) : csvWrite d (a ++ b) = csvWrite d a ++ csvWrite d b := by
  induction a with
  | nil => rfl
  | cons r rs ih => simp [csvWrite, ih]

theorem dropLast_eq {α} : ∀ l : List α, Csv.dropLast l = l.dropLast
  | [] => rfl
  | [_] => rfl
  | a :: b :: l => by simp [Csv.dropLast, dropLast_eq (b :: l)]

/-- reading back what `Table.write` wrote gives its records: title row, header, rows, legend row -/
theorem csvRead_tableWrite {d : Dialect} (g : GoodDialect d) (title legend : Str) (header : Row) (rows : List Row)
    (ht : Quotable d title) (hl : Quotable d legend) (hh : ∀ f ∈ header, Quotable d f)
    (hn : ∀ r ∈ rows, ∀ f ∈ r, Quotable d f) :
    csvRead d.delim (tableWrite d title header rows legend)
      = .ok ((if title = [] then [] else [[title]]) ++ header :: rows ++ (if legend = [] then [] else [[legend]])) := by
  refine csv_roundtrip_general g _ fun r hr f hf => ?_
  have one : ∀ s : Str, Quotable d s → r ∈ (if s = [] then [] else [[s]]) → Quotable d f := by
    intro s hs hr
    split at hr
    · cases hr
    · rw [List.mem_singleton] at hr
      subst hr
      rw [List.mem_singleton] at hf
      exact hf ▸ hs
  simp only [List.mem_append, List.mem_cons] at hr
  rcases hr with (hr | rfl | hr) | hr
  · exact one title ht hr
  · exact hh f hf
  · exact hn r hr f hf
  · exact one legend hl hr

end CogentModel.Csv
