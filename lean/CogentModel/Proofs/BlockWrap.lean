import CogentModel.Proofs.TextLines
/-! `slice_string_in_blocks`: the fuel-free equation of `chunkWrap`, and that the blocks of a residue sequence are
non-empty residue lines whose concatenation is the sequence. -/
namespace CogentModel.SeqFormats
open CogentModel.Splitlines CogentModel.SeqSpec

theorem chunkGo_nil (bs : Nat) : ∀ fuel, chunkGo bs fuel [] = []
  | 0 => rfl
  | _ + 1 => rfl

theorem chunkGo_cons {bs : Nat} (hbs : 0 < bs) (fuel : Nat) {s : Str} (hs : s ≠ []) :
    chunkGo bs (fuel + 1) s = s.take bs :: chunkGo bs fuel (s.drop bs) := by
  rw [chunkGo, List.isEmpty_eq_false_iff.mpr hs, decide_eq_false (Nat.ne_of_gt hbs)]
  rfl

theorem length_drop_cons_le {bs : Nat} (hbs : 0 < bs) (c : Char) (cs : Str) : ((c :: cs).drop bs).length ≤ cs.length := by
  rw [List.length_drop, List.length_cons]
  exact Nat.sub_le_iff_le_add.mpr (Nat.add_le_add_left hbs _)

/-- enough fuel is as good as more -/
theorem chunkGo_fuel {bs : Nat} (hbs : 0 < bs) : ∀ (f1 f2 : Nat) (s : Str), s.length ≤ f1 → s.length ≤ f2 →
    chunkGo bs f1 s = chunkGo bs f2 s
  | _, _, [], _, _ => by rw [chunkGo_nil, chunkGo_nil]
  | f1 + 1, f2 + 1, c :: cs, h1, h2 => by
    have hd := length_drop_cons_le hbs c cs
    rw [chunkGo_cons hbs _ (List.cons_ne_nil _ _), chunkGo_cons hbs _ (List.cons_ne_nil _ _),
      chunkGo_fuel hbs f1 f2 _ (Nat.le_trans hd (Nat.le_of_succ_le_succ h1)) (Nat.le_trans hd (Nat.le_of_succ_le_succ h2))]

theorem chunkGo_eq_wrap {bs : Nat} (hbs : 0 < bs) (fuel : Nat) (s : Str) (h : s.length ≤ fuel) :
    chunkGo bs fuel s = chunkWrap bs s :=
  chunkGo_fuel hbs _ _ s h (Nat.le_refl _)

theorem chunkWrap_cons {bs : Nat} (hbs : 0 < bs) : ∀ {s : Str}, s ≠ [] →
    chunkWrap bs s = s.take bs :: chunkWrap bs (s.drop bs)
  | [], h => absurd rfl h
  | c :: cs, h => by
    rw [chunkWrap, List.length_cons, chunkGo_cons hbs _ h, chunkGo_eq_wrap hbs _ _ (length_drop_cons_le hbs c cs)]

theorem chunkWrap_spec {bs : Nat} (hbs : 0 < bs) : ∀ (s : Str),
    (chunkWrap bs s).flatten = s ∧ ∀ w ∈ chunkWrap bs s, w ≠ [] ∧ ∀ c ∈ w, c ∈ s
  | [] => by simp [chunkWrap, chunkGo]
  | c :: cs => by
    have hne : (c :: cs).take bs ≠ [] := by
      obtain ⟨k, rfl⟩ := Nat.exists_eq_succ_of_ne_zero (Nat.ne_of_gt hbs); simp
    obtain ⟨h1, h2⟩ := chunkWrap_spec hbs ((c :: cs).drop bs)
    rw [chunkWrap_cons hbs (List.cons_ne_nil _ _)]
    refine ⟨by rw [List.flatten_cons, h1, List.take_append_drop], fun w hw => ?_⟩
    rcases List.mem_cons.mp hw with rfl | hw
    · exact ⟨hne, fun x hx => List.mem_of_mem_take hx⟩
    · exact ⟨(h2 w hw).1, fun x hx => List.mem_of_mem_drop ((h2 w hw).2 x hx)⟩
termination_by s => s.length
decreasing_by exact Nat.lt_succ_of_le (length_drop_cons_le hbs c cs)

theorem chunkWrap_flatten {bs : Nat} (hbs : 0 < bs) (s : Str) : (chunkWrap bs s).flatten = s :=
  (chunkWrap_spec hbs s).1

theorem chunkWrap_ne_nil {bs : Nat} (hbs : 0 < bs) {s : Str} (hs : s ≠ []) : chunkWrap bs s ≠ [] := by
  rw [chunkWrap_cons hbs hs]; exact List.cons_ne_nil _ _

theorem chunkWrap_wfLines {lc : List Char} {bs : Nat} (hbs : 0 < bs) {s : Str} (h : wfSeq lc s = true) :
    wfLines lc (chunkWrap bs s) = true := by
  obtain ⟨hne, hc⟩ := wfSeq_chars h
  have h2 := (chunkWrap_spec hbs s).2
  simp only [wfLines, wfSeq, Bool.and_eq_true, Bool.not_eq_true', List.all_eq_true, List.isEmpty_eq_false_iff]
  exact ⟨chunkWrap_ne_nil hbs hne, fun w hw => ⟨(h2 w hw).1, fun x hx => hc x ((h2 w hw).2 x hx)⟩⟩

theorem wrapNl_eq {lc : List Char} {bs : Nat} (hbs : 0 < bs) {s : Str} (h : wfSeq lc s = true) :
    wrapNl bs s = unlines (chunkWrap bs s) := by
  unfold wrapNl
  exact joinNl_unlines _ (chunkWrap_ne_nil hbs (wfSeq_chars h).1)

end CogentModel.SeqFormats
