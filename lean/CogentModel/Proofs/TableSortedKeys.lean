/-  C20 — the key record the model of `Table.sorted` builds for a row (`sortKeyOf`: per key column its dtype class, its
    direction, its distinct values) is `keyT` of the requested transforms on the row's raw key fields, and on the cells
    of a homogeneous column every transform is faithful for its direction (`AllOK`). -/
import CogentModel.Proofs.TableRowsOf
import CogentModel.Proofs.TableDictSet
import CogentModel.Proofs.TableSortOrder
namespace CogentModel.TableOps
variable {α : Type}

/-- the per-field transform `Table.sorted` applies: identity, `_reverse_num`, or the negated dense rank -/
def fieldT (k : ColKind) (rev : Bool) (u : List SKey) : SKey → SKey :=
  if rev then (if k = .num then revNumField else fun f => .num (-((denseRank SKey.le u f : Nat) : Rat))) else id

/-- direction and transform of the key column at position `j` -/
def colSpec (cols : List (List Cell)) (j : Nat) (rv : Bool) : Bool × (SKey → SKey) :=
  (rv, fieldT (colKind (cols.getD j [])) rv (uniqOf (cols.getD j [])))

/-- a key cell `sorted` can handle: it has a key field, and in a numeric column it is a number -/
def CellOK (k : ColKind) (c : Cell) : Prop :=
  c.skey ≠ none ∧ (k = .num → ∃ q, c.skey = some (.num q))

def skeyD (c : Cell) : SKey := c.skey.getD (.bool false)

theorem keyField_eq (k : ColKind) (rv : Bool) (u : List SKey) (c : Cell) (h : CellOK k c) :
    keyField k rv u c = .ok (fieldT k rv u (skeyD c)) := by
  obtain ⟨h1, h2⟩ := h
  unfold keyField fieldT skeyD
  cases rv with
  | false =>
    cases hs : c.skey with
    | none => exact absurd hs h1
    | some f => simp
  | true =>
    simp only [if_true]
    by_cases hk : k = .num
    · subst hk
      obtain ⟨q, hq⟩ := h2 rfl
      cases c <;> simp [Cell.skey] at hq <;> simp [reverseCell, Cell.skey, revNumField, hq]
    · cases hs : c.skey with
      | none => exact absurd hs h1
      | some f =>
        simp only [hk, if_false, Option.getD_some]
        cases k <;> simp at hk <;> simp [reverseCell, hs]

theorem cellOK_of_kind (col : List Cell) (h : colKind col ≠ .obj) : ∀ c ∈ col, CellOK (colKind col) c := by
  intro c hc
  unfold colKind at h ⊢
  split at h
  · rename_i h1
    simp only [h1, if_true]
    have := (List.all_eq_true.1 h1) c hc
    cases c <;> simp at this <;> simp [CellOK, Cell.skey]
  · rename_i h1
    split at h
    · rename_i h2
      simp only [h1, h2, if_true]
      have := (List.all_eq_true.1 h2) c hc
      cases c <;> simp at this <;> simp [CellOK, Cell.skey]
    · rename_i h2
      split at h
      · rename_i h3
        simp only [h1, h2, h3, if_true]
        have := (List.all_eq_true.1 h3) c hc
        cases c <;> simp at this <;> simp [CellOK, Cell.skey]
      · exact absurd rfl h

theorem checkKinds_ok (ks : List ColKind) (h : checkKinds ks = .ok ()) : ∀ k ∈ ks, k ≠ .obj := by
  induction ks with
  | nil => simp
  | cons k ks ih =>
    unfold checkKinds at h
    split at h
    · cases h
    · rename_i hk
      intro x hx
      simp at hx
      rcases hx with rfl | hx
      · exact hk
      · exact ih h x hx

theorem mem_uniqOf (col : List Cell) (i : Nat) (hi : i < col.length) (f : SKey) (hf : (col.getD i dfl).skey = some f) :
    f ∈ uniqOf col := by
  unfold uniqOf
  rw [mem_setOfList]
  right
  rw [List.mem_filterMap]
  exact ⟨col.getD i dfl, getD_mem col i dfl hi, hf⟩

theorem sortedCols_congr {κ : Type} (dflt : α) (le : κ → κ → Bool) (k1 k2 : List α → κ) (cols : List (List α))
    (h : ∀ r ∈ rowsOf dflt cols, k1 r = k2 r) : sortedCols dflt le k1 cols = sortedCols dflt le k2 cols := by
  unfold sortedCols
  rw [List.map_congr_left h]

/-- on the cells of a homogeneous column the requested transform is faithful for its direction -/
theorem fieldOK_fieldT (col : List Cell) (hk : colKind col ≠ .obj) (rv : Bool) (i i' : Nat) (hi : i < col.length)
    (hi' : i' < col.length) :
    FieldOK rv (fieldT (colKind col) rv (uniqOf col)) (skeyD (col.getD i dfl)) (skeyD (col.getD i' dfl)) := by
  have ok1 := cellOK_of_kind col hk _ (getD_mem col i dfl hi)
  have ok2 := cellOK_of_kind col hk _ (getD_mem col i' dfl hi')
  unfold fieldT
  cases rv with
  | false => exact fieldOK_asc _ _
  | true =>
    simp only [if_true]
    by_cases hn : colKind col = .num
    · obtain ⟨p, hp⟩ := ok1.2 hn
      obtain ⟨q, hq⟩ := ok2.2 hn
      simp only [hn, if_true, skeyD, hp, hq, Option.getD_some]
      exact fieldOK_descNum p q
    · obtain ⟨f1, hf1⟩ := Option.ne_none_iff_exists'.1 ok1.1
      obtain ⟨f2, hf2⟩ := Option.ne_none_iff_exists'.1 ok2.1
      simp only [hn, if_false, skeyD, hf1, hf2, Option.getD_some]
      exact fieldOK_descRank _ f1 f2 (mem_uniqOf col i hi f1 hf1) (mem_uniqOf col i' hi' f2 hf2)

/-- the raw key fields of a row -/
def rowFields (sel : List Nat) (row : List Cell) : List SKey := (TableOps.proj dfl sel row).map skeyD

/-- row `i` of the store lies inside every key column, and the key columns are homogeneous -/
def KeyCols (cols : List (List Cell)) (sel : List Nat) (i : Nat) : Prop :=
  ∀ j ∈ sel, colKind (cols.getD j []) ≠ .obj ∧ i < (cols.getD j []).length

theorem keyCols_tail {cols : List (List Cell)} {j : Nat} {js : List Nat} {i : Nat} (h : KeyCols cols (j :: js) i) :
    KeyCols cols js i := fun x hx => h x (List.mem_cons_of_mem j hx)

theorem sortKeyOf_eq_keyT (cols : List (List Cell)) (i : Nat) (sel : List Nat) (revs : List Bool)
    (h : KeyCols cols sel i) :
    sortKeyOf sel (sel.map fun j => colKind (cols.getD j [])) revs (sel.map fun j => uniqOf (cols.getD j []))
        (rowAt dfl cols i)
      = keyT (List.zipWith (colSpec cols) sel revs)
          (rowFields sel (rowAt dfl cols i)) := by
  unfold sortKeyOf rowFields
  rw [proj_eq, proj_rowAt]
  induction sel generalizing revs with
  | nil => rfl
  | cons j js ih =>
    cases revs with
    | nil => rfl
    | cons rv rvs =>
      -- on a homogeneous column the model's key field of a cell is the requested transform of its raw key field
      simp only [List.map_cons, List.zip_cons_cons, List.zipWith_cons_cons, colSpec, keyT,
        keyField_eq _ rv _ _ (cellOK_of_kind _ (h j (by simp)).1 _ (getD_mem _ i dfl (h j (by simp)).2))]
      rw [ih rvs (keyCols_tail h)]

theorem allOK_colSpec (cols : List (List Cell)) (i i' : Nat) (sel : List Nat) (revs : List Bool)
    (hl : revs.length = sel.length) (h : KeyCols cols sel i) (h' : KeyCols cols sel i') :
    AllOK (List.zipWith (colSpec cols) sel revs)
      (rowFields sel (rowAt dfl cols i)) (rowFields sel (rowAt dfl cols i')) := by
  unfold rowFields
  rw [proj_eq, proj_rowAt, proj_rowAt]
  induction sel generalizing revs with
  | nil => cases revs <;> simp [AllOK] at hl ⊢
  | cons j js ih =>
    cases revs with
    | nil => simp at hl
    | cons rv rvs =>
      exact ⟨fieldOK_fieldT _ (h j (by simp)).1 rv i i' (h j (by simp)).2 (h' j (by simp)).2,
        ih rvs (by simpa using hl) (keyCols_tail h) (keyCols_tail h')⟩

theorem map_fst_colSpec (cols : List (List Cell)) (sel : List Nat) (revs : List Bool) (hl : revs.length = sel.length) :
    (List.zipWith (colSpec cols) sel revs).map (·.1) = revs := by
  induction sel generalizing revs with
  | nil =>
    cases revs with
    | nil => rfl
    | cons _ _ => simp at hl
  | cons j js ih =>
    cases revs with
    | nil => simp at hl
    | cons rv rvs => simp [colSpec, ih rvs (by simpa using hl)]

end CogentModel.TableOps
