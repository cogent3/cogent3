import CogentModel.Proofs.BlockWrap
/-! FASTA and GDE: writers followed by the two line parsers.  `WfRecs` and `expected` are the hypothesis and the result
shape of the round-trip theorems of all four formats.  Each writer's text is rewritten as `unlines` of an explicit line
list (`fastaFormat_eq`, `gdeFormat_eq`; `pamlFormat_eq`, `phylipFormat_eq` in Proofs/Paml, Proofs/PhylipSequential),
`pySplitlines_unlines` gives the lines back, and the parser loop is followed over that list. -/
namespace CogentModel.SeqFormats
open CogentModel.Splitlines CogentModel.SeqSpec

/-- well-formed wrapped records for label characters `lc` -/
def WfRecs (lc : List Char) (recs : List (Str × List Str)) : Prop :=
  ∀ r ∈ recs, wfName r.1 = true ∧ wfLines lc r.2 = true

instance (lc : List Char) (recs : List (Str × List Str)) : Decidable (WfRecs lc recs) := by
  unfold WfRecs; infer_instance

/-- the records a parser is expected to return -/
def expected (recs : List (Str × List Str)) : List Rec := recs.map (fun r => (r.1, r.2.flatten))

theorem WfRecs.printable {lc : List Char} {recs : List (Str × List Str)} (h : WfRecs lc recs) {r : Str × List Str}
    (hr : r ∈ recs) : (∀ c ∈ r.1, printable c = true) ∧ ∀ w ∈ r.2, ∀ c ∈ w, printable c = true :=
  ⟨(wfName_chars (h r hr).1).2,
    fun w hw c hc => seqChar_printable ((wfSeq_chars ((wfLines_iff (h r hr).2).2 w hw)).2 c hc)⟩

/-! ### the strict / non-strict line parsers

Both loops are followed over lines of the shape label line, data lines, label line, … whatever the data lines
look like (`strictParser_recLines`, `fasterParser_recLines`); the writers' output is the case in which stripping and
cleaning change nothing. -/

theorem strictGo_cons (lc : List Char) (label : Option Str) (seq : List Str) (line : Str) (rest : List Str) :
    strictGo lc label seq (line :: rest) =
    if line.isEmpty || (line.head? = some '#' && !lc.contains '#') then strictGo lc label seq rest
    else if isLabel lc line then
      match label with
      | some l =>
        if seq.isEmpty then .error .recordError
        else (strictGo lc (some (strip (line.drop 1))) [] rest).map (fun rs => (l, clean seq) :: rs)
      | none =>
        if !seq.isEmpty then .error .recordError
        else strictGo lc (some (strip (line.drop 1))) [] rest
    else strictGo lc label (seq ++ [strip line]) rest := by
  rfl

/-- a line both parsers skip or take for sequence data: empty, or starting with neither a label character nor `#` -/
def DataLine (lc : List Char) (l : Str) : Prop := ∀ c, l.head? = some c → lc.contains c = false ∧ c ≠ '#'

/-- the non-empty lines, stripped: what the line parsers append to `seq` -/
def kept (cs : List Str) : List Str := (cs.filter (fun c => !c.isEmpty)).map strip

theorem kept_nil_cons (cs : List Str) : kept ([] :: cs) = kept cs := rfl

theorem kept_cons (a : Char) (as : Str) (cs : List Str) : kept ((a :: as) :: cs) = strip (a :: as) :: kept cs := rfl

theorem strictGo_data {lc : List Char} (label : Option Str) : ∀ (cs seq rest : List Str),
    (∀ c ∈ cs, DataLine lc c) → strictGo lc label seq (cs ++ rest) = strictGo lc label (seq ++ kept cs) rest
  | [], seq, rest, _ => by simp [kept]
  | [] :: cs, seq, rest, h => by
    rw [kept_nil_cons, ← strictGo_data label cs seq rest fun x hx => h x (List.mem_cons_of_mem _ hx)]
    rfl
  | (a :: as) :: cs, seq, rest, h => by
    obtain ⟨h1, h2⟩ := h _ List.mem_cons_self a rfl
    rw [kept_cons, List.cons_append, strictGo_cons]
    simp only [isLabel, h1, h2, List.isEmpty_cons, List.head?_cons, Option.some.injEq, decide_false, Bool.false_and,
      Bool.or_self, Bool.false_eq_true, if_false]
    rw [strictGo_data label cs _ rest fun x hx => h x (List.mem_cons_of_mem _ hx), List.append_assoc]
    rfl

theorem fasterGo_data {lc : List Char} (label : Option Str) : ∀ (cs seq rest : List Str),
    (∀ c ∈ cs, DataLine lc c) → fasterGo lc label seq (cs ++ rest) = fasterGo lc label (seq ++ kept cs) rest
  | [], seq, rest, _ => by simp [kept]
  | [] :: cs, seq, rest, h => by
    rw [kept_nil_cons, ← fasterGo_data label cs seq rest fun x hx => h x (List.mem_cons_of_mem _ hx)]
    rfl
  | (a :: as) :: cs, seq, rest, h => by
    obtain ⟨h1, _⟩ := h _ List.mem_cons_self a rfl
    rw [kept_cons, List.cons_append, fasterGo]
    simp only [isLabel, h1, List.isEmpty_cons, Bool.false_eq_true, if_false]
    rw [fasterGo_data label cs _ rest fun x hx => h x (List.mem_cons_of_mem _ hx), List.append_assoc]
    rfl

/-- the lines of records given as (label line without its first character `l0`, body lines); with the names and the
wrapped sequences this is what `seqs_to_fasta` / the GDE writer produce -/
def recLines (l0 : Char) (recs : List (Str × List Str)) : List Str :=
  recs.flatMap (fun r => (l0 :: r.1) :: r.2)

/-- what the line parsers make of `recLines l0 recs` -/
def parsed (recs : List (Str × List Str)) : List Rec := recs.map (fun r => (strip r.1, clean (kept r.2)))

def DataRecs (lc : List Char) (recs : List (Str × List Str)) : Prop :=
  ∀ r ∈ recs, (∀ c ∈ r.2, DataLine lc c) ∧ kept r.2 ≠ []

theorem fasterGo_recLines {lc : List Char} {l0 : Char} (hl0 : lc.contains l0 = true) :
    ∀ (recs : List (Str × List Str)) (label : Option Str) (seq : List Str), DataRecs lc recs →
    fasterGo lc label seq (recLines l0 recs) =
      (if seq.isEmpty then [] else [(label.getD [], clean seq)]) ++ parsed recs
  | [], label, seq, _ => by rw [parsed, List.map_nil, List.append_nil]; rfl
  | r :: recs, label, seq, h => by
    obtain ⟨hd, hk⟩ := h r List.mem_cons_self
    have ih := fasterGo_recLines hl0 recs (some (strip r.1)) (kept r.2) fun x hx => h x (List.mem_cons_of_mem _ hx)
    rw [recLines, List.flatMap_cons, List.cons_append, fasterGo]
    simp only [isLabel, hl0, List.isEmpty_cons, Bool.false_eq_true, if_false, if_true, List.drop_one, List.tail_cons]
    rw [fasterGo_data _ r.2 [] _ hd, List.nil_append, ← recLines, ih, List.isEmpty_eq_false_iff.mpr hk]
    rfl

theorem fasterParser_recLines {lc : List Char} {l0 : Char} (hl0 : lc.contains l0 = true)
    (recs : List (Str × List Str)) (h : DataRecs lc recs) : fasterParser lc (recLines l0 recs) = parsed recs :=
  fasterGo_recLines hl0 recs none [] h

/-- a label line closes the record read so far and opens the next -/
theorem strictGo_label {lc : List Char} {l0 : Char} (hl0 : lc.contains l0 = true) (label : Option Str)
    (seq : List Str) (lab : Str) (rest : List Str) :
    strictGo lc label seq ((l0 :: lab) :: rest) =
      match label with
      | some l =>
        if seq.isEmpty then .error .recordError
        else (strictGo lc (some (strip lab)) [] rest).map (fun rs => (l, clean seq) :: rs)
      | none => if !seq.isEmpty then .error .recordError else strictGo lc (some (strip lab)) [] rest := by
  -- `#` opens a comment only if it is not a label character
  have hc : ((l0 :: lab).head? = some '#' && !lc.contains '#') = false := by
    by_cases e : l0 = '#'
    · subst e; rw [hl0]; simp
    · simp [e]
  rw [strictGo_cons, hc]
  simp only [isLabel, hl0, List.isEmpty_cons, Bool.or_self, Bool.false_eq_true, if_false, if_true, List.drop_one,
    List.tail_cons]

theorem strictGo_recLines {lc : List Char} {l0 : Char} (hl0 : lc.contains l0 = true) :
    ∀ (recs : List (Str × List Str)) (label : Str) (seq : List Str), DataRecs lc recs → seq ≠ [] →
    strictGo lc (some label) seq (recLines l0 recs) = .ok ((label, clean seq) :: parsed recs)
  | [], label, seq, _, hs => by
    rw [recLines, List.flatMap_nil, strictGo, List.isEmpty_eq_false_iff.mpr hs]
    rfl
  | r :: recs, label, seq, h, hs => by
    obtain ⟨hd, hk⟩ := h r List.mem_cons_self
    rw [recLines, List.flatMap_cons, List.cons_append, strictGo_label hl0, strictGo_data _ r.2 [] _ hd, List.nil_append,
      ← recLines, strictGo_recLines hl0 recs _ _ (fun x hx => h x (List.mem_cons_of_mem _ hx)) hk]
    simp only [List.isEmpty_eq_false_iff.mpr hs, Bool.false_eq_true, if_false]
    rfl

theorem strictParser_recLines {lc : List Char} {l0 : Char} (hl0 : lc.contains l0 = true) :
    ∀ (recs : List (Str × List Str)), recs ≠ [] → DataRecs lc recs →
    strictParser lc (recLines l0 recs) = .ok (parsed recs)
  | [], hne, _ => absurd rfl hne
  | r :: recs, _, h => by
    obtain ⟨hd, hk⟩ := h r List.mem_cons_self
    rw [strictParser, recLines, List.flatMap_cons, List.cons_append, strictGo_label hl0, strictGo_data _ r.2 [] _ hd,
      List.nil_append, ← recLines, strictGo_recLines hl0 recs _ _ (fun x hx => h x (List.mem_cons_of_mem _ hx)) hk]
    rfl

theorem clean_wf {lc : List Char} {ws : List Str} (h : ∀ w ∈ ws, wfSeq lc w = true) : clean ws = ws.flatten := by
  unfold clean removeWs
  rw [List.filter_eq_self]
  intro c hc
  obtain ⟨w, hw, hcw⟩ := List.mem_flatten.mp hc
  simp [seqChar_not_space ((wfSeq_chars (h w hw)).2 c hcw)]

theorem clean_snoc_strip (seq : List Str) (l : Str) : clean (seq ++ [strip l]) = clean seq ++ removeWs l := by
  unfold clean
  simp only [List.flatten_append, List.flatten_cons, List.flatten_nil, List.append_nil]
  rw [removeWs, List.filter_append]
  exact congrArg _ (removeWs_strip l)

theorem clean_kept : ∀ (cs : List Str), clean (kept cs) = removeWs cs.flatten
  | [] => rfl
  | [] :: cs => clean_kept cs
  | (a :: as) :: cs => by
    rw [kept_cons, clean, List.flatten_cons, List.flatten_cons, removeWs_append, removeWs_append, removeWs_strip, ← clean,
      clean_kept cs]

theorem wfSeq_dataLine {lc : List Char} {w : Str} (h : wfSeq lc w = true) : DataLine lc w := fun c hc =>
  have hs := (wfSeq_chars h).2 c (List.mem_of_head? hc)
  ⟨seqChar_not_label hs, seqChar_not_hash hs⟩

theorem kept_wf {lc : List Char} : ∀ {ws : List Str}, (∀ w ∈ ws, wfSeq lc w = true) → kept ws = ws
  | [], _ => rfl
  | [] :: _, h => absurd rfl (wfSeq_chars (h _ List.mem_cons_self)).1
  | (a :: as) :: ws, h => by
    rw [kept_cons, wfSeq_strip (h _ List.mem_cons_self), kept_wf fun w hw => h w (List.mem_cons_of_mem _ hw)]

theorem WfRecs.dataRecs {lc : List Char} {recs : List (Str × List Str)} (h : WfRecs lc recs) : DataRecs lc recs :=
  fun r hr =>
    have ⟨hne, hws⟩ := wfLines_iff (h r hr).2
    ⟨fun w hw => wfSeq_dataLine (hws w hw), by rwa [kept_wf hws]⟩

theorem WfRecs.parsed {lc : List Char} {recs : List (Str × List Str)} (h : WfRecs lc recs) :
    parsed recs = expected recs :=
  List.map_congr_left fun r hr => by
    have hws := (wfLines_iff (h r hr).2).2
    rw [(wfName_strip (h r hr).1).1, kept_wf hws, clean_wf hws]

theorem unlines_recLines (l0 : Char) (recs : List (Str × List Str)) :
    unlines (recLines l0 recs) = recs.flatMap (fun r => l0 :: r.1 ++ '\n' :: unlines r.2) := by
  rw [recLines, unlines_flatMap]
  simp only [unlines_cons]

theorem fastaFormat_eq (recs : List (Str × List Str)) : fastaFormat recs = unlines (recLines '>' recs) := by
  rw [fastaFormat, show fastaLines recs = recLines '>' recs from rfl]
  by_cases h : recLines '>' recs = []
  · rw [h]; rfl
  · simp only [List.isEmpty_eq_false_iff.mpr h, Bool.false_eq_true, if_false]
    exact joinNl_snoc_nil _

theorem recLines_noBreak {lc : List Char} {l0 : Char} (hl0 : printable l0 = true)
    {recs : List (Str × List Str)} (hwf : WfRecs lc recs) : NoBreak (recLines l0 recs) :=
  noBreak_of_printable fun l hl c hc => by
    obtain ⟨r, hr, hl⟩ := List.mem_flatMap.mp hl
    obtain ⟨hn, hw⟩ := hwf.printable hr
    rcases List.mem_cons.mp hl with rfl | hl
    · rcases List.mem_cons.mp hc with rfl | hc
      · exact hl0
      · exact hn c hc
    · exact hw l hl c hc

/-- both line parsers read back what was written with label character `l0` -/
theorem lineParsers_recLines {lc : List Char} {l0 : Char} (hl0 : lc.contains l0 = true) (hp : printable l0 = true)
    {recs : List (Str × List Str)} (hwf : WfRecs lc recs) :
    fasterParser lc (pySplitlines (unlines (recLines l0 recs))) = expected recs ∧
    (recs ≠ [] → strictParser lc (pySplitlines (unlines (recLines l0 recs))) = .ok (expected recs)) := by
  rw [pySplitlines_unlines (recLines_noBreak hp hwf), ← hwf.parsed]
  exact ⟨fasterParser_recLines hl0 recs hwf.dataRecs, fun hne => strictParser_recLines hl0 recs hne hwf.dataRecs⟩

def blocked (bs : Nat) (recs : List Rec) : List (Str × List Str) := recs.map (fun r => (r.1, chunkWrap bs r.2))

theorem gdeFormat_eq {lc : List Char} {bs : Nat} (hbs : 0 < bs) (recs : List Rec)
    (h : ∀ r ∈ recs, wfSeq lc r.2 = true) : gdeFormat bs recs = unlines (recLines '%' (blocked bs recs)) := by
  rw [unlines_recLines, blocked, List.flatMap_map]
  exact flatMap_congr_mem fun r hr => by rw [wrapNl_eq hbs (h r hr)]

theorem blocked_wf {lc : List Char} {bs : Nat} (hbs : 0 < bs) {recs : List Rec}
    (hwf : ∀ r ∈ recs, wfName r.1 = true ∧ wfSeq lc r.2 = true) : WfRecs lc (blocked bs recs) := by
  intro r hr
  obtain ⟨x, hx, rfl⟩ := List.mem_map.mp hr
  exact ⟨(hwf x hx).1, chunkWrap_wfLines hbs (hwf x hx).2⟩

theorem expected_blocked {bs : Nat} (hbs : 0 < bs) (recs : List Rec) : expected (blocked bs recs) = recs := by
  unfold expected blocked
  rw [List.map_map]
  exact map_rebuild fun r _ => chunkWrap_flatten hbs r.2

end CogentModel.SeqFormats
