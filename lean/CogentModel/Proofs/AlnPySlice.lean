import CogentModel.Proofs.IndelMapPySlice
/-! Python step-1 slices and integer indices of a plain list, at bounds converted by `View.wrapIdx`, are `drop` /
`take` / `getElem?`. -/
namespace CogentModel.Aln
open CogentModel.IndelMap List CogentModel

/-- a step-1 slice whose bounds convert to non-negative indices is a `drop` and a `take` at the converted bounds
(bounds beyond the end need no clamping, a stop before the start gives nothing) -/
theorem slice_wrapIdx {α} [Inhabited α] (xs : List α) (n : Int) (hn : (xs.length : Int) = n) (a b : Option Int)
    (h0 : 0 ≤ View.wrapIdx (a.getD 0) n) (h1 : 0 ≤ View.wrapIdx (b.getD n) n) :
    PySlice.slice xs a b 1 = (xs.drop (View.wrapIdx (a.getD 0) n).toNat).take ((View.wrapIdx (b.getD n) n).toNat - (View.wrapIdx (a.getD 0) n).toNat) := by
  subst hn
  rw [slice_of_norm xs _ rfl a b h0 h1]
  obtain ⟨S, hS⟩ := Int.eq_ofNat_of_zero_le h0
  obtain ⟨E, hE⟩ := Int.eq_ofNat_of_zero_le h1
  simp only [hS, hE]
  rw [← PySlice.natCast_min, ← PySlice.natCast_min, Int.toNat_natCast, Int.toNat_sub, Int.toNat_natCast,
    Int.toNat_natCast, PySlice.drop_take_min]

theorem slice_to_zero {α} [Inhabited α] (xs : List α) (a : Option Int) : PySlice.slice xs a (some 0) 1 = [] := by
  have hs := (View.clampP_mem (a.getD 0) xs.length (Int.natCast_nonneg _)).1
  have he : View.clampP ((some 0).getD xs.length) xs.length = 0 :=
    (if_neg (Int.lt_irrefl 0)).trans (Int.min_eq_left (Int.natCast_nonneg _))
  rw [PySlice.slice_step1, he, Int.toNat_eq_zero.mpr (by omega), take_zero]

theorem slice_single {α} [Inhabited α] (xs : List α) (k : Int) (hk : 0 ≤ k) :
    PySlice.slice xs (some k) (some (k + 1)) 1 = xs[k.toNat]?.toList := by
  obtain ⟨n, rfl⟩ := Int.eq_ofNat_of_zero_le hk
  rw [PySlice.slice_nonneg xs n (n + 1) hk (by omega), Int.toNat_natCast_add_one, Int.toNat_natCast,
    Nat.add_sub_cancel_left, take_one, head?_drop]

theorem index_wrapIdx {α} (xs : List α) (i n : Int) (hn : (xs.length : Int) = n)
    (h : 0 ≤ View.wrapIdx i n ∧ View.wrapIdx i n < n) : PySlice.index xs i = xs[(View.wrapIdx i n).toNat]? := by
  subst hn
  unfold PySlice.index
  rw [View.wrapIdx_eq_ite] at h ⊢
  by_cases h0 : i < 0
  · rw [if_pos h0] at h ⊢
    simp only []
    rw [if_neg (by omega), if_pos (by omega), Int.add_comm]
  · rw [if_neg h0] at h ⊢; exact if_pos h

theorem wrapIdx_in_range (n i : Int) : (0 ≤ View.wrapIdx i n ∧ View.wrapIdx i n < n) ↔ (-n ≤ i ∧ i < n) := by
  unfold View.wrapIdx; split <;> omega

end CogentModel.Aln
