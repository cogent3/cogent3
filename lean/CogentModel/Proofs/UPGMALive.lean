import CogentModel.Proofs.UPGMARealise
import CogentModel.Proofs.FirstMin
import CogentModel.Proofs.NatSum
import Mathlib.Data.Finset.Card
import Mathlib.Data.Finset.Range
/-! UPGMA without a hypothesis on the selection: `find_smallest_index` returns a first minimum, the sentinel
invariant (dead rows/columns hold `big`, live off-diagonal entries are below `big`), the number of live
clusters, the tips of the live clusters.  Together they remove the hypothesis `GoodSel` from
`upgma_realises_ultrametric_partial` and give "the tips are exactly the labels". -/
namespace CogentModel.UPGMA
open CogentModel.NJ (Mat get tab get_tab)
open FirstMin

theorem findSmallest_spec (m : Mat) (n : Nat) (hn : 0 < n) :
    (findSmallest m n).1 < n ∧ (findSmallest m n).2 < n ∧
    ∀ a b, a < n → b < n → get m (findSmallest m n).1 (findSmallest m n).2 ≤ get m a b := by
  cases hr : (List.range (n * n)).foldl (minStep fun idx => get m (idx / n) (idx % n)) (some 0) with
  | none => exact absurd hr (foldl_minStep_ne_none _ _ _ (Or.inl nofun))
  | some p =>
    obtain ⟨a1, _, a3⟩ := foldl_minStep_spec _ _ _ p hr
    have hlt : p < n * n := by
      rcases a1 with a1 | a1
      · cases a1; exact Nat.mul_pos hn hn
      · exact List.mem_range.1 a1
    -- the flat index `find_smallest_index` computes is this first-minimum search, started from index 0
    have e : findSmallest m n = (p / n, p % n) := by
      rw [← foldl_ite_eq] at hr
      cases hr; rfl
    rw [e]
    refine ⟨(unflat_lt hlt).1, (unflat_lt hlt).2, fun a b ha hb => ?_⟩
    have := a3 (a * n + b) (List.mem_range.2 (flat_lt ha hb))
    rwa [flat_div a hb, Nat.mul_add_mod_of_lt hb] at this

def liveSet (n : Nat) (order : List (Option Entry)) : Finset Nat :=
  (Finset.range n).filter fun a => liveB order a = true

theorem mem_liveSet {n : Nat} {order : List (Option Entry)} {a : Nat} :
    a ∈ liveSet n order ↔ a < n ∧ Live order a := by
  rw [liveSet, Finset.mem_filter, Finset.mem_range, liveB_iff]

/-- what `find_smallest_index` relies on: rows and columns of merged-away clusters hold `big`, distances
between different live clusters are below `big` (nothing is assumed about the diagonal of a live cluster) -/
structure SInv (n : Nat) (big : Rat) (m : Mat) (order : List (Option Entry)) : Prop where
  len : order.length = n
  dead : ∀ a b, a < n → b < n → (¬ Live order a ∨ ¬ Live order b) → get m a b = big
  small : ∀ a b, Live order a → Live order b → a ≠ b → get m a b < big

theorem get_resetDiag {m : Mat} {n : Nat} {big : Rat} {a b : Nat} (ha : a < n) (hb : b < n) :
    get (resetDiag m n big) a b = if a = b then big else get m a b :=
  get_tab ha hb

theorem resetDiag_sinv (n : Nat) (big : Rat) (m : Mat) (order : List (Option Entry)) (hS : SInv n big m order) :
    SInv n big (resetDiag m n big) order := by
  refine ⟨hS.len, fun a b ha hb hd => ?_, fun a b ha hb hab => ?_⟩
  · rw [get_resetDiag ha hb]
    split
    · rfl
    · exact hS.dead a b ha hb hd
  · rw [get_resetDiag (hS.len ▸ live_lt ha) (hS.len ▸ live_lt hb), if_neg hab]
    exact hS.small a b ha hb hab

/-- the (possibly diagonal-reset) matrix handed to `condense_*` still satisfies the sentinel invariant -/
theorem select_sinv (n : Nat) (big : Rat) (m : Mat) (order : List (Option Entry)) (hS : SInv n big m order) :
    SInv n big (select n big m).1 order := by
  unfold select
  by_cases h : (findSmallest m n).1 = (findSmallest m n).2
  · rw [if_pos h]; exact resetDiag_sinv n big m order hS
  · rw [if_neg h]; exact hS

/-- under the sentinel invariant, if some pair of distinct live clusters exists, a minimum of the whole array lies
in a live row and a live column: a dead row or column holds `big`, which is not minimal -/
theorem findSmallest_live (n : Nat) (big : Rat) (m : Mat) (order : List (Option Entry)) (hS : SInv n big m order)
    (x y : Nat) (hx : Live order x) (hy : Live order y) (hxy : x ≠ y) :
    Live order (findSmallest m n).1 ∧ Live order (findSmallest m n).2 ∧
    ∀ a b, Live order a → Live order b → a ≠ b → get m (findSmallest m n).1 (findSmallest m n).2 ≤ get m a b := by
  have hlt : ∀ a, Live order a → a < n := fun a h => hS.len ▸ live_lt h
  obtain ⟨hr, hc, hmin⟩ := findSmallest_spec m n (by have := hlt x hx; omega)
  have hbig : get m (findSmallest m n).1 (findSmallest m n).2 < big :=
    lt_of_le_of_lt (hmin x y (hlt x hx) (hlt y hy)) (hS.small x y hx hy hxy)
  have hl : ¬ (¬ Live order (findSmallest m n).1 ∨ ¬ Live order (findSmallest m n).2) :=
    fun hd => ne_of_lt hbig (hS.dead _ _ hr hc hd)
  exact ⟨not_not.1 fun h => hl (Or.inl h), not_not.1 fun h => hl (Or.inr h),
    fun a b ha hb _ => hmin a b (hlt a ha) (hlt b hb)⟩

/-- with at least two live clusters the selected pair is a live off-diagonal minimum -/
theorem select_good (n : Nat) (big : Rat) (st : State) (hS : SInv n big st.m st.order)
    (h2 : 2 ≤ (liveSet n st.order).card) : GoodSel n big st := by
  obtain ⟨x, hx, y, hy, hxy⟩ := Finset.one_lt_card.1 h2
  obtain ⟨hxn, hlx⟩ := mem_liveSet.1 hx
  obtain ⟨hyn, hly⟩ := mem_liveSet.1 hy
  unfold GoodSel select
  by_cases hdiag : (findSmallest st.m n).1 = (findSmallest st.m n).2
  · rw [if_pos hdiag]
    have hR := resetDiag_sinv n big st.m st.order hS
    -- after the reset the diagonal holds `big`, which is above the entry at `(x, y)`
    have hne : (findSmallest (resetDiag st.m n big) n).1 ≠ (findSmallest (resetDiag st.m n big) n).2 := by
      intro he
      obtain ⟨hr, hc, hmin⟩ := findSmallest_spec (resetDiag st.m n big) n (by omega)
      have := hmin x y hxn hyn
      rw [get_resetDiag hr hc, if_pos he] at this
      exact absurd (hR.small x y hlx hly hxy) (not_lt.2 this)
    obtain ⟨k1, k2, k3⟩ := findSmallest_live n big _ st.order hR x y hlx hly hxy
    exact ⟨k1, k2, hne, k3⟩
  · rw [if_neg hdiag]
    obtain ⟨k1, k2, k3⟩ := findSmallest_live n big _ st.order hS x y hlx hly hxy
    exact ⟨k1, k2, hdiag, k3⟩

/-- the sentinel invariant survives merging a live pair: an average of two `big` is `big`, of two smaller entries smaller -/
theorem stepWith_sinv (n : Nat) (big : Rat) (m : Mat) (order : List (Option Entry)) (i j : Nat)
    (hS : SInv n big m order) (hi : Live order i) (hj : Live order j) :
    SInv n big (stepWith n big order m (i, j)).m (stepWith n big order m (i, j)).order := by
  have hin : i < n := hS.len ▸ live_lt hi
  have hjn : j < n := hS.len ▸ live_lt hj
  have hlive := stepWith_live n big m order i j hi hj
  have hm := stepWith_get n big m order i j
  refine ⟨?_, ?_, ?_⟩
  · rw [stepWith_length, hS.len]
  · intro a b ha hb hd
    rw [hm a b ha hb]
    by_cases hj' : a = j ∨ b = j
    · rw [if_pos hj']
    rw [if_neg hj']
    rw [not_or] at hj'
    have hd' : ¬ Live order a ∨ ¬ Live order b :=
      hd.imp (fun h hl => h ((hlive a).2 ⟨hj'.1, hl⟩)) (fun h hl => h ((hlive b).2 ⟨hj'.2, hl⟩))
    have hvec : ∀ k, k < n → ¬ Live order k → newVec m i j k = big := fun k hk hkd => by
      unfold newVec
      rw [hS.dead i k hin hk (Or.inr hkd), hS.dead j k hjn hk (Or.inr hkd)]; ring
    by_cases hai : a = i
    · rw [if_pos hai]; exact hvec b hb (hd'.resolve_left fun h => h (hai ▸ hi))
    rw [if_neg hai]
    by_cases hbi : b = i
    · rw [if_pos hbi]; exact hvec a ha (hd'.resolve_right fun h => h (hbi ▸ hi))
    · rw [if_neg hbi]; exact hS.dead a b ha hb hd'
  · intro a b ha hb hab
    obtain ⟨haj, ha'⟩ := (hlive a).1 ha
    obtain ⟨hbj, hb'⟩ := (hlive b).1 hb
    rw [hm a b (hS.len ▸ live_lt ha') (hS.len ▸ live_lt hb'), if_neg (not_or.2 ⟨haj, hbj⟩)]
    have hvec : ∀ k, Live order k → k ≠ i → k ≠ j → newVec m i j k < big := fun k hk hki hkj => by
      unfold newVec
      have := hS.small i k hi hk (Ne.symm hki)
      have := hS.small j k hj hk (Ne.symm hkj)
      linarith
    by_cases hai : a = i
    · rw [if_pos hai]; exact hvec b hb' (fun e => hab (hai.trans e.symm)) hbj
    rw [if_neg hai]
    by_cases hbi : b = i
    · rw [if_pos hbi]; exact hvec a ha' hai haj
    · rw [if_neg hbi]; exact hS.small a b ha' hb' hab

theorem stepWith_liveSet (n : Nat) (big : Rat) (m : Mat) (order : List (Option Entry)) (i j : Nat)
    (hi : Live order i) (hj : Live order j) :
    liveSet n (stepWith n big order m (i, j)).order = (liveSet n order).erase j := by
  ext a
  rw [Finset.mem_erase, mem_liveSet, mem_liveSet, stepWith_live n big m order i j hi hj a, and_left_comm]

def U.tips (t : U) : List Nat := t.depths.map (·.1)

theorem tips_node (c1 c2 : U) (l1 l2 : Rat) : (U.node c1 l1 c2 l2).tips = c1.tips ++ c2.tips := by
  simp [U.tips, U.depths, List.map_append, List.map_map, Function.comp_def]

/-- the tips of the cluster in slot `a` (none for a merged-away slot) -/
def tipsAt (order : List (Option Entry)) (a : Nat) : List Nat :=
  match order.getD a none with
  | none => []
  | some e => e.tree.tips

theorem stepWith_tips (n : Nat) (big : Rat) (m : Mat) (order : List (Option Entry)) (i j : Nat)
    (hlen : order.length = n) (hi : Live order i) (hj : Live order j) (hij : i ≠ j) (hT : TipsOnce n n (tipsAt order)) :
    TipsOnce n n (tipsAt (stepWith n big order m (i, j)).order) := by
  have hin : i < n := hlen ▸ live_lt hi
  have hjn : j < n := hlen ▸ live_lt hj
  obtain ⟨ei, hei⟩ := hi
  obtain ⟨ej, hej⟩ := hj
  refine tipsOnce_congr (fun a _ => ?_) (tipsOnce_merge hin hjn hij hT)
  unfold tipsAt
  rw [stepWith_order n big m order i j ei ej hei hej a, hei, hej]
  by_cases haj : a = j
  · rw [if_pos haj, if_pos haj]
  rw [if_neg haj, if_neg haj]
  by_cases hai : a = i
  · rw [if_pos hai, if_pos hai]; exact tips_node _ _ _ _
  · rw [if_neg hai, if_neg hai]

/-- what holds after `t` passes -/
structure LInv (n : Nat) (big : Rat) (t : Nat) (st : State) : Prop where
  sinv : SInv n big st.m st.order
  count : (liveSet n st.order).card + t = n
  tinv : TipsOnce n n (tipsAt st.order)

theorem init_linv (D : Nat → Nat → Rat) (n : Nat) (big : Rat)
    (hbig : ∀ a b, a < n → b < n → a ≠ b → D a b < big) : LInv n big 0 (init n (tab n D) big) := by
  refine ⟨⟨by simp [init], ?_, ?_⟩, ?_, ?_⟩
  · intro a b ha hb hd
    rcases hd with hd | hd
    · exact absurd (init_live.2 ha) hd
    · exact absurd (init_live.2 hb) hd
  · intro a b ha hb hab
    have han := init_live.1 ha
    have hbn := init_live.1 hb
    rw [init_get D n big a b han hbn hab]
    exact hbig a b han hbn hab
  · show (liveSet n _).card + 0 = n
    rw [liveSet, Finset.filter_true_of_mem fun a ha => liveB_iff.2 (init_live.2 (Finset.mem_range.1 ha)),
      Finset.card_range, Nat.add_zero]
  · refine tipsOnce_congr (fun a ha => ?_) (tipsOnce_init n)
    unfold tipsAt
    rw [init_order, if_pos ha]
    rfl

theorem step_linv (n : Nat) (big : Rat) (t : Nat) (st : State) (hL : LInv n big t st) (ht : t + 2 ≤ n) :
    GoodSel n big st ∧ LInv n big (t + 1) (step n big st) := by
  have hc := hL.count
  have hg := select_good n big st hL.sinv (by omega)
  refine ⟨hg, ?_⟩
  obtain ⟨g1, g2, g3, _⟩ := hg
  refine ⟨stepWith_sinv n big _ st.order _ _ (select_sinv n big st.m st.order hL.sinv) g1 g2, ?_,
    stepWith_tips n big _ st.order _ _ hL.sinv.len g1 g2 g3 hL.tinv⟩
  have hj : (select n big st.m).2.2 < n := Nat.lt_of_lt_of_eq (live_lt g2) hL.sinv.len
  show (liveSet n (stepWith n big st.order (select n big st.m).1
    ((select n big st.m).2.1, (select n big st.m).2.2)).order).card + (t + 1) = n
  rw [stepWith_liveSet n big _ st.order _ _ g1 g2, Finset.card_erase_of_mem (mem_liveSet.2 ⟨hj, g2⟩)]
  omega

theorem iter_linv (D : Nat → Nat → Rat) (n : Nat) (big : Rat)
    (hbig : ∀ a b, a < n → b < n → a ≠ b → D a b < big) (t : Nat) (ht : t + 1 ≤ n) :
    LInv n big t (iter n big t (init n (tab n D) big)) := by
  induction t with
  | zero => exact init_linv D n big hbig
  | succ t ih =>
    rw [iter_succ]
    exact (step_linv n big t _ (ih (by omega)) (by omega)).2

/-- a live cluster of a state with exactly one live cluster carries every label exactly once -/
theorem tips_of_last (n : Nat) (order : List (Option Entry)) (a : Nat) (e : Entry) (hlen : order.length = n)
    (hc : (liveSet n order).card = 1) (hT : TipsOnce n n (tipsAt order)) (he : order.getD a none = some e) :
    e.tree.tips.Perm (List.range n) := by
  have han : a < n := hlen ▸ live_lt ⟨e, he⟩
  have h := tipsOnce_single hT han fun b hb hba => by
    unfold tipsAt
    cases hb' : order.getD b none with
    | none => rfl
    | some eb =>
      exact absurd (Finset.card_le_one.1 hc.le b (mem_liveSet.2 ⟨hb, eb, hb'⟩)
        a (mem_liveSet.2 ⟨han, e, he⟩)) hba
  unfold tipsAt at h
  rwa [he] at h

end CogentModel.UPGMA
