import CogentModel.Proofs.SeqFormats
/-! PAML: the text `PamlFormatter.format` writes as header line + name and block lines (`pamlFormat_eq`), and the loop
of `PamlParser` followed over such lines for any wrapping of the sequences (`pamlGo_recs`). -/
namespace CogentModel.SeqFormats
open CogentModel.Splitlines CogentModel.SeqSpec

/-- the body of a PAML file: name line followed by the block lines, for every record -/
def plainLines (recs : List (Str × List Str)) : List Str := recs.flatMap (fun r => r.1 :: r.2)

/-- a block line of the record `nm`: the record is complete exactly when the announced length is reached -/
theorem pamlGo_seqLine {lc : List Char} (ns : Int) (L : Nat) (nm : Str) (cur : List Str) (len n : Nat) {w : Str}
    (hw : wfSeq lc w = true) (rest : List Str) :
    pamlGo ns L (some nm) cur len n (w :: rest) =
      if len + w.length = L then
        (pamlGo ns L none [] 0 (n + 1) rest).map (fun rs => (nm, upper (cur ++ [w]).flatten) :: rs)
      else pamlGo ns L (some nm) (cur ++ [w]) (len + w.length) n rest := by
  rw [pamlGo]
  simp only [wfSeq_strip hw, List.isEmpty_eq_false_iff.mpr (wfSeq_chars hw).1, Bool.false_eq_true, if_false, Int.natCast_inj]

theorem pamlGo_blocks {lc : List Char} (ns : Int) (L : Nat) (nm : Str) (rest : List Str) (n : Nat) (w : Str) (ws : List Str)
    (hw : ∀ x ∈ w :: ws, wfSeq lc x = true) (cur : List Str) (len : Nat) (hL : len + (w :: ws).flatten.length = L) :
    pamlGo ns L (some nm) cur len n (w :: ws ++ rest) =
      (pamlGo ns L none [] 0 (n + 1) rest).map (fun rs => (nm, upper (cur ++ w :: ws).flatten) :: rs) := by
  induction ws generalizing w cur len with
  | nil =>
    rw [List.flatten_singleton] at hL
    rw [List.singleton_append, pamlGo_seqLine ns L nm cur len n (hw w List.mem_cons_self), if_pos hL]
  | cons w2 ws ih =>
    -- more blocks follow, so the announced length is not reached yet
    have hpos : (w2 :: ws).flatten.length ≠ 0 := fun e =>
      (wfSeq_chars (hw w2 (List.mem_cons_of_mem _ List.mem_cons_self))).1
        (List.append_eq_nil_iff.mp (List.length_eq_zero_iff.mp e)).1
    rw [List.flatten_cons, List.length_append, ← Nat.add_assoc] at hL
    rw [List.cons_append, pamlGo_seqLine ns L nm cur len n (hw w List.mem_cons_self),
      if_neg fun e => hpos (Nat.add_left_cancel (hL.trans e.symm)),
      ih w2 (fun x hx => hw x (List.mem_cons_of_mem _ hx)) (cur ++ [w]) (len + w.length) hL, List.append_assoc,
      List.singleton_append]

theorem pamlGo_recs {lc : List Char} (L : Nat) : ∀ (recs : List (Str × List Str)) (n : Nat) (ns : Int),
    WfRecs lc recs → (∀ r ∈ recs, r.2.flatten.length = L) → ns = ((n + recs.length : Nat) : Int) →
    pamlGo ns L none [] 0 n (plainLines recs) = .ok ((expected recs).map (fun r => (r.1, upper r.2)))
  | [], n, ns, _, _, hns => by
    rw [List.length_nil, Nat.add_zero] at hns
    rw [plainLines, List.flatMap_nil, pamlGo, if_neg fun h => h hns.symm]
    rfl
  | (nm, ws) :: recs, n, ns, hwf, hlen, hns => by
    have hr := hwf _ List.mem_cons_self
    obtain ⟨hne, hws⟩ := wfLines_iff hr.2
    obtain ⟨w, ws, rfl⟩ := List.exists_cons_of_ne_nil hne
    rw [plainLines, List.flatMap_cons, List.cons_append, pamlGo]
    simp only [(wfName_strip hr.1).1, List.isEmpty_eq_false_iff.mpr (wfName_chars hr.1).1, Bool.false_eq_true, if_false]
    rw [pamlGo_blocks ns L nm _ n w ws hws [] 0 (by rw [Nat.zero_add]; exact hlen _ List.mem_cons_self), ← plainLines,
      pamlGo_recs L recs (n + 1) ns (fun x hx => hwf x (List.mem_cons_of_mem _ hx))
        (fun x hx => hlen x (List.mem_cons_of_mem _ hx)) (by rw [hns, List.length_cons, Nat.add_right_comm, Nat.add_assoc])]
    rfl

theorem pamlBody_eq {lc : List Char} {bs : Nat} (hbs : 0 < bs) (recs : List Rec) (h : ∀ r ∈ recs, wfSeq lc r.2 = true) :
    recs.flatMap (fun r => r.1 ++ '\n' :: wrapNl bs r.2) = unlines (plainLines (blocked bs recs)) := by
  rw [plainLines, unlines_flatMap, blocked, List.flatMap_map]
  exact flatMap_congr_mem fun r hr => by rw [wrapNl_eq hbs (h r hr), unlines_cons]

theorem plainLines_noBreak {lc : List Char} {recs : List (Str × List Str)} (hwf : WfRecs lc recs) :
    NoBreak (plainLines recs) :=
  noBreak_of_printable fun l hl c hc => by
    obtain ⟨r, hr, hl⟩ := List.mem_flatMap.mp hl
    rcases List.mem_cons.mp hl with rfl | hl
    · exact (hwf.printable hr).1 c hc
    · exact (hwf.printable hr).2 l hl c hc

theorem pamlFormat_eq {lc : List Char} {bs : Nat} (hbs : 0 < bs) (r0 : Rec) (rest : List Rec)
    (h : ∀ r ∈ r0 :: rest, wfSeq lc r.2 = true) :
    pamlFormat bs (r0 :: rest) =
      .ok (unlines (headerOf (rest.length + 1) r0.2.length :: plainLines (blocked bs (r0 :: rest)))) := by
  rw [unlines_cons, ← pamlBody_eq hbs _ h]
  rfl

theorem pamlParser_header (n L : Nat) (lines : List Str) :
    pamlParser (headerOf n L :: lines) = pamlGo n L none [] 0 0 lines := by
  rw [pamlParser, splitWs_header]
  simp only [pyInt_natDigits, bind, Except.bind]

end CogentModel.SeqFormats
