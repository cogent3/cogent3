import CogentModel.Model.SeqFormats
import CogentModel.Spec.SeqRecords
import CogentModel.Proofs.Splitlines
import CogentModel.Proofs.ExceptDecEq
import CogentModel.Proofs.ListFacts
/-! Printable text under the Python string primitives of the model: what `strip`, `split`, `int` and `"%d"` do to
printable characters, well-formed names, residue lines and decimal numbers. -/
namespace CogentModel.SeqFormats
open CogentModel.Splitlines CogentModel.SeqSpec

theorem printable_not_break {c : Char} (h : printable c = true) : isBreak c = false := by
  simp only [printable, Bool.and_eq_true, decide_eq_true_eq] at h
  simp only [isBreak, Bool.or_eq_false_iff, decide_eq_false_iff_not, ← Char.toNat_inj]
  have e1 : ('\n' : Char).toNat = 10 := by decide
  have e2 : ('\r' : Char).toNat = 13 := by decide
  rw [e1, e2]
  omega

theorem printable_space {c : Char} (h : printable c = true) : isSpaceStr c = (c == ' ') := by
  simp only [printable, Bool.and_eq_true, decide_eq_true_eq] at h
  have e1 : (' ' : Char).toNat = 32 := by decide
  by_cases hc : c = ' '
  · subst hc; decide
  · have hn : c.toNat ≠ 32 := by rw [← e1]; exact fun h => hc (Char.toNat_inj.mp h)
    have : (c == ' ') = false := by simpa using hc
    rw [this]
    simp only [isSpaceStr, Bool.or_eq_false_iff, Bool.and_eq_false_iff, decide_eq_false_iff_not]
    simp only [hc, not_false_eq_true, true_and]
    omega

theorem printable_bspace {c : Char} (h : printable c = true) : isSpaceBytes c = (c == ' ') := by
  simp only [printable, Bool.and_eq_true, decide_eq_true_eq] at h
  -- tab … carriage return lie below the printable range
  have : (decide (9 ≤ c.toNat) && decide (c.toNat ≤ 13)) = false := by
    rw [Bool.and_eq_false_iff, decide_eq_false_iff_not, decide_eq_false_iff_not]; omega
  rw [isSpaceBytes, this, Bool.or_false]
  rfl

theorem seqChar_printable {lc : List Char} {c : Char} (h : seqChar lc c = true) : printable c = true := by
  simp only [seqChar, Bool.and_eq_true] at h; exact h.1.1.1

theorem seqChar_not_space {lc : List Char} {c : Char} (h : seqChar lc c = true) : isSpaceStr c = false := by
  rw [printable_space (seqChar_printable h)]
  simp only [seqChar, Bool.and_eq_true, bne_iff_ne, ne_eq] at h
  simpa using h.1.1.2

theorem seqChar_not_label {lc : List Char} {c : Char} (h : seqChar lc c = true) : lc.contains c = false := by
  simp only [seqChar, Bool.and_eq_true, Bool.not_eq_true'] at h; exact h.2

theorem seqChar_not_hash {lc : List Char} {c : Char} (h : seqChar lc c = true) : c ≠ '#' := by
  simp only [seqChar, Bool.and_eq_true, bne_iff_ne, ne_eq] at h; exact h.1.2

theorem seqChar_ne_space {lc : List Char} {c : Char} (h : seqChar lc c = true) : c ≠ ' ' := by
  simp only [seqChar, Bool.and_eq_true, bne_iff_ne, ne_eq] at h; exact h.1.1.2

theorem printable_ne_nl {c : Char} (h : printable c = true) : c ≠ '\n' := by
  rintro rfl
  exact absurd h (by decide)

theorem dropWhile_congr_mem {p q : Char → Bool} : ∀ (l : Str), (∀ c ∈ l, p c = q c) → l.dropWhile p = l.dropWhile q
  | [], _ => rfl
  | c :: cs, h => by
    have hc := h c List.mem_cons_self
    have ih := dropWhile_congr_mem cs (fun d hd => h d (List.mem_cons_of_mem _ hd))
    simp [List.dropWhile, hc, ih]

theorem isEmpty_dropWhile (p : Char → Bool) : ∀ l : Str, (l.dropWhile p).isEmpty = l.all p
  | [] => rfl
  | c :: cs => by
    by_cases h : p c = true
    · simp [List.dropWhile, h, isEmpty_dropWhile p cs]
    · simp [List.dropWhile, h]

theorem all_dropWhile (p : Char → Bool) : ∀ l : Str, (l.dropWhile p).all p = l.all p
  | [] => rfl
  | c :: cs => by
    by_cases h : p c = true
    · simp [List.dropWhile, h, all_dropWhile p cs]
    · simp [List.dropWhile, h]

theorem stripBy_id {p : Char → Bool} {s : Str} (hh : ∀ c, s.head? = some c → p c = false)
    (hl : ∀ c, s.getLast? = some c → p c = false) : stripBy p s = s := strip_id hh hl

/-- a string without any character of `p` is left alone -/
theorem stripBy_of_all {p : Char → Bool} {s : Str} (h : ∀ c ∈ s, p c = false) : stripBy p s = s :=
  stripBy_id (fun c hc => h c (List.mem_of_head? hc)) fun c hc => h c (List.mem_of_getLast? hc)

theorem ends_notSpace {n : Str} (hp : ∀ c ∈ n, printable c = true) (hh : n.head? ≠ some ' ')
    (hl : n.getLast? ≠ some ' ') :
    (∀ c, n.head? = some c → isSpaceStr c = false ∧ isSpaceBytes c = false) ∧
    (∀ c, n.getLast? = some c → isSpaceStr c = false ∧ isSpaceBytes c = false) := by
  have key : ∀ c ∈ n, c ≠ ' ' → isSpaceStr c = false ∧ isSpaceBytes c = false := fun c hc hs =>
    ⟨by rw [printable_space (hp c hc)]; simpa using hs, by rw [printable_bspace (hp c hc)]; simpa using hs⟩
  exact ⟨fun c hc => key c (List.mem_of_head? hc) fun e => hh (e ▸ hc),
    fun c hc => key c (List.mem_of_getLast? hc) fun e => hl (e ▸ hc)⟩

theorem stripBy_around {p : Char → Bool} {pre name post : Str} (hpre : ∀ c ∈ pre, p c = true)
    (hpost : ∀ c ∈ post, p c = true) (hh : ∀ c, name.head? = some c → p c = false)
    (hl : ∀ c, name.getLast? = some c → p c = false) : stripBy p (pre ++ name ++ post) = name := by
  unfold stripBy rstripBy
  rw [List.append_assoc, List.dropWhile_append_of_pos hpre]
  cases hn : name with
  | nil =>
    rw [List.nil_append, ← List.append_nil post, List.dropWhile_append_of_pos hpost]
    rfl
  | cons a as =>
    rw [← hn, dropWhile_id_of_head (s := name ++ post) (by
      intro c hc; apply hh c; rw [hn] at hc ⊢; simpa using hc)]
    rw [List.reverse_append, List.dropWhile_append_of_pos fun c hc => hpost c (List.mem_reverse.mp hc)]
    rw [dropWhile_id_of_head (by rw [List.head?_reverse]; exact hl), List.reverse_reverse]

theorem filter_dropWhile {p : Char → Bool} : ∀ (l : Str), (l.dropWhile p).filter (fun c => !p c) = l.filter (fun c => !p c)
  | [] => rfl
  | c :: cs => by
    by_cases h : p c = true
    · simp [List.dropWhile, h, filter_dropWhile cs]
    · simp [List.dropWhile, h]

theorem removeWs_strip (l : Str) : removeWs (strip l) = removeWs l := by
  unfold removeWs strip stripBy rstripBy
  rw [List.filter_reverse, filter_dropWhile, ← List.filter_reverse, List.reverse_reverse, filter_dropWhile]

theorem removeWs_append (a b : Str) : removeWs (a ++ b) = removeWs a ++ removeWs b := by
  simp [removeWs]

/-- what the parser reads back from the blank padded name column -/
theorem strip_pad {x : Str} (hx : x ≠ []) (hp : ∀ c ∈ x, printable c = true) (hh : x.head? ≠ some ' ') (k : Nat) :
    strip (x ++ List.replicate k ' ') = (x.reverse.dropWhile (· = ' ')).reverse := by
  unfold strip stripBy rstripBy
  cases x with
  | nil => exact absurd rfl hx
  | cons c cs =>
    have hc : isSpaceStr c = false := by
      rw [printable_space (hp c List.mem_cons_self)]
      have : c ≠ ' ' := by rintro rfl; exact hh rfl
      simpa using this
    have h1 : (c :: cs ++ List.replicate k ' ').dropWhile isSpaceStr = c :: cs ++ List.replicate k ' ' := by
      simp [hc]
    rw [h1, List.reverse_append, List.reverse_replicate,
      List.dropWhile_append_of_pos fun c hc => by rw [(List.mem_replicate.mp hc).2]; rfl]
    congr 1
    apply dropWhile_congr_mem
    intro d hd
    rw [printable_space (hp d (List.mem_reverse.mp hd))]
    rfl

theorem not_blank_of_mem {l : Str} {c : Char} (hc : c ∈ l) (hs : isSpaceStr c = false) : isBlank l = false := by
  unfold isBlank
  cases h : l.all isSpaceStr with
  | false => rfl
  | true =>
    rw [List.all_eq_true] at h
    rw [h c hc] at hs; exact absurd hs (by simp)

theorem wfName_chars {n : Str} (h : wfName n = true) : n ≠ [] ∧ ∀ c ∈ n, printable c = true := by
  simp only [wfName, Bool.and_eq_true, Bool.not_eq_true', List.all_eq_true] at h
  exact ⟨by intro e; subst e; simp at h, h.1.1.2⟩

theorem wfName_ends {n : Str} (h : wfName n = true) : n.head? ≠ some ' ' ∧ n.getLast? ≠ some ' ' := by
  simp only [wfName, Bool.and_eq_true, bne_iff_ne, ne_eq] at h
  exact ⟨h.1.2, h.2⟩

theorem wfName_strip {n : Str} (h : wfName n = true) : strip n = n ∧ bstrip n = n := by
  obtain ⟨hH, hT⟩ := ends_notSpace (wfName_chars h).2 (wfName_ends h).1 (wfName_ends h).2
  exact ⟨stripBy_id (fun c hc => (hH c hc).1) (fun c hc => (hT c hc).1),
    stripBy_id (fun c hc => (hH c hc).2) (fun c hc => (hT c hc).2)⟩

theorem wfSeq_chars {lc : List Char} {s : Str} (h : wfSeq lc s = true) : s ≠ [] ∧ ∀ c ∈ s, seqChar lc c = true := by
  simp only [wfSeq, Bool.and_eq_true, Bool.not_eq_true', List.all_eq_true] at h
  exact ⟨by intro e; subst e; simp at h, h.2⟩

theorem wfSeq_strip {lc : List Char} {s : Str} (h : wfSeq lc s = true) : strip s = s :=
  stripBy_of_all fun c hc => seqChar_not_space ((wfSeq_chars h).2 c hc)

theorem wfSeq_noSpaceChar {lc : List Char} {w : Str} (h : wfSeq lc w = true) : w.filter (· ≠ ' ') = w := by
  rw [List.filter_eq_self]
  intro c hc
  simpa using seqChar_ne_space ((wfSeq_chars h).2 c hc)

theorem wfLines_iff {lc : List Char} {ws : List Str} (h : wfLines lc ws = true) :
    ws ≠ [] ∧ ∀ w ∈ ws, wfSeq lc w = true := by
  simp only [wfLines, Bool.and_eq_true, Bool.not_eq_true', List.all_eq_true] at h
  exact ⟨by intro e; subst e; simp at h, h.2⟩

theorem upper_id {s : Str} (h : noLower s = true) : upper s = s := by
  rw [noLower, List.all_eq_true] at h
  conv => rhs; rw [← List.map_id s]
  exact List.map_congr_left fun c hc => if_neg fun hl => by
    have := h c hc
    rw [decide_eq_true hl.1, decide_eq_true hl.2] at this
    cases this

/-- records rebuilt from their own second components -/
theorem map_rebuild {recs : List Rec} {f : Rec → Str} (h : ∀ r ∈ recs, f r = r.2) :
    recs.map (fun r => (r.1, f r)) = recs :=
  (List.map_congr_left fun r hr => congrArg (Prod.mk r.1) (h r hr)).trans (List.map_id recs)

theorem revDigits_lt : ∀ (f n : Nat), ∀ d ∈ revDigits f n, d < 10
  | 0, _, _, h => nomatch h
  | f + 1, n, d, h => by
    rw [revDigits] at h
    split at h
    next hn => rw [List.mem_singleton.mp h]; exact hn
    next =>
      rcases List.mem_cons.mp h with rfl | e
      · exact Nat.mod_lt _ (by decide)
      · exact revDigits_lt f _ d e

theorem valRev_revDigits : ∀ (f n : Nat), n < f → valRev (revDigits f n) = n
  | 0, _, h => absurd h (Nat.not_lt_zero _)
  | f + 1, n, h => by
    rw [revDigits]
    split
    next => rfl
    next hn =>
      have hpos : 0 < n := Nat.lt_of_lt_of_le (by decide) (Nat.le_of_not_lt hn)
      rw [valRev, valRev_revDigits f (n / 10)
        (Nat.lt_of_lt_of_le (Nat.div_lt_self hpos (by decide)) (Nat.le_of_lt_succ h)), Nat.mod_add_div]

theorem revDigits_ne_nil (f n : Nat) : revDigits (f + 1) n ≠ [] := by
  simp only [revDigits]; split <;> simp

/-- what the writers and parsers of numbers use of a decimal digit character -/
structure DigitFacts (c : Char) : Prop where
  isDigit : isDigit c = true
  printable : printable c = true
  ne_space : c ≠ ' '
  ne_minus : c ≠ '-'
  ne_plus : c ≠ '+'

theorem digit_facts : ∀ d, d < 10 → digitVal (digitChar d) = d ∧ isDigit (digitChar d) = true ∧
    printable (digitChar d) = true ∧ digitChar d ≠ ' ' ∧ digitChar d ≠ '-' ∧ digitChar d ≠ '+' := by
  decide

theorem natDigits_chars (n : Nat) : ∀ c ∈ natDigits n, DigitFacts c := by
  intro c hc
  simp only [natDigits, List.mem_map, List.mem_reverse] at hc
  obtain ⟨d, hd, rfl⟩ := hc
  obtain ⟨_, h1, h2, h3, h4, h5⟩ := digit_facts d (revDigits_lt _ _ d hd)
  exact ⟨h1, h2, h3, h4, h5⟩

theorem natDigits_ne_nil (n : Nat) : natDigits n ≠ [] := by
  simp [natDigits, revDigits_ne_nil]

theorem pyInt_natDigits (n : Nat) : pyInt (natDigits n) = .ok (n : Int) := by
  have hch := natDigits_chars n
  have hss : signSplit (natDigits n) = (false, natDigits n) := by
    cases h : natDigits n with
    | nil => rfl
    | cons c r =>
      have hc := hch c (h ▸ List.mem_cons_self)
      rw [signSplit, if_neg hc.ne_minus, if_neg hc.ne_plus]
  have hval : (natDigits n).reverse.map digitVal = revDigits (n + 1) n := by
    rw [natDigits, ← List.map_reverse, List.reverse_reverse, List.map_map]
    conv => rhs; rw [← List.map_id (revDigits (n + 1) n)]
    exact List.map_congr_left fun d hd => (digit_facts d (revDigits_lt _ _ d hd)).1
  have hall : (natDigits n).all isDigit = true := List.all_eq_true.mpr fun c hc => (hch c hc).isDigit
  rw [pyInt]
  simp only [hss, hval, hall, valRev_revDigits _ _ (Nat.lt_succ_self n), List.isEmpty_eq_false_iff.mpr (natDigits_ne_nil n),
    Bool.not_true, Bool.or_self, Bool.false_eq_true, if_false]

theorem splitWs_word_app {rest : Str} (hr : ∀ s, rest.head? = some s → isSpaceStr s = true) : ∀ (w : Str), w ≠ [] →
    (∀ c ∈ w, isSpaceStr c = false) → splitWs (w ++ rest) = w :: splitWs rest
  | [], h, _ => absurd rfl h
  | [c], _, hs => by
    cases rest with
    | nil => simp [splitWs, hs c List.mem_cons_self]
    | cons s r =>
      rw [List.singleton_append, splitWs]
      simp only [hs c List.mem_cons_self, hr s rfl, Bool.false_eq_true, if_false, if_true]
  | c :: c2 :: cs, _, hs => by
    have ih := splitWs_word_app hr (c2 :: cs) (by simp) (fun d hd => hs d (List.mem_cons_of_mem _ hd))
    rw [List.cons_append] at ih
    rw [List.cons_append, List.cons_append, splitWs, ih]
    simp only [hs c List.mem_cons_self, hs c2 (List.mem_cons_of_mem _ List.mem_cons_self), Bool.false_eq_true, if_false,
      consHead]

theorem splitWs_word (w : Str) (hne : w ≠ []) (hs : ∀ c ∈ w, isSpaceStr c = false) : splitWs w = [w] := by
  have := splitWs_word_app (rest := []) (fun _ h => nomatch h) w hne hs
  rwa [List.append_nil] at this

theorem natDigits_noSpace (n : Nat) : ∀ c ∈ natDigits n, isSpaceStr c = false := by
  intro c hc
  have h := natDigits_chars n c hc
  rw [printable_space h.printable]; simpa using h.ne_space

/-- the header line `"%d  %d" % (n, L)` of the PAML and PHYLIP writers -/
def headerOf (n L : Nat) : Str := natDigits n ++ ' ' :: ' ' :: natDigits L

theorem splitWs_header (a b : Nat) : splitWs (headerOf a b) = [natDigits a, natDigits b] := by
  rw [headerOf, splitWs_word_app (fun s h => by cases h; decide) _ (natDigits_ne_nil a) (natDigits_noSpace a),
    show splitWs (' ' :: ' ' :: natDigits b) = splitWs (natDigits b) from rfl,
    splitWs_word _ (natDigits_ne_nil b) (natDigits_noSpace b)]

theorem header_noBreak (a b : Nat) : ∀ c ∈ headerOf a b, isBreak c = false := fun c hc => printable_not_break <| by
  simp only [headerOf, List.mem_append, List.mem_cons] at hc
  rcases hc with h | rfl | rfl | h
  · exact (natDigits_chars a c h).printable
  · decide
  · decide
  · exact (natDigits_chars b c h).printable

end CogentModel.SeqFormats
