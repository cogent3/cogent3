import CogentModel.Model.ParamRules
/-! # C07 — exported parameter rules rebuild the same scoped settings -/
namespace CogentModel.Rules

/-- every Var in use holds a value inside its bounds (what `assign_all` establishes by clamping) -/
def WFSt (d : Defn) (s : St) : Prop :=
  ∀ e, e < d.nEdges → match s.setting e with
    | .var lo v hi => lo ≤ v ∧ v ≤ hi
    | .const _ => True

/-- one `assign_all` scope: all edges of `G` get one new setting object -/
def assignGroup (t : St) (G : List Nat) (σ : Setting) : St :=
  { asg := fun e => if G.contains e then t.next else t.asg e, store := upd t.store t.next σ, next := t.next + 1 }

theorem eq_singleton_of {l : List Nat} {a : Nat} (hnd : l.Nodup) (hall : ∀ x, x ∈ l → x = a) (ha : a ∈ l) :
    l = [a] := by
  cases l with
  | nil => simp at ha
  | cons b l =>
    have hb : b = a := hall b (by simp)
    subst hb
    cases l with
    | nil => rfl
    | cons c l =>
      exfalso
      have hc : c = b := hall c (by simp)
      subst hc
      simp at hnd

theorem len_one_eq {α : Type} {l : List α} (h : l.length = 1) (a b : α) (ha : a ∈ l) (hb : b ∈ l) : a = b := by
  obtain ⟨x, rfl⟩ := List.length_eq_one_iff.1 h
  rw [List.mem_singleton.1 ha, List.mem_singleton.1 hb]

theorem short_eq {α : Type} {l : List α} (h : ¬ 2 ≤ l.length) (a b : α) (ha : a ∈ l) (hb : b ∈ l) : a = b := by
  match l, h with
  | [], _ => simp at ha
  | [x], _ =>
    simp at ha hb
    rw [ha, hb]
  | x :: y :: l, h => simp at h

theorem isFirst_iff (s : St) (e : Nat) : isFirst s e = true ↔ ∀ e', e' < e → s.asg e' ≠ s.asg e := by
  simp [isFirst]

theorem rep_exists (s : St) : ∀ x, ∃ f, f ≤ x ∧ isFirst s f = true ∧ s.asg f = s.asg x := by
  intro x
  induction x using Nat.strongRecOn with
  | _ x ih =>
    by_cases h : isFirst s x = true
    · exact ⟨x, Nat.le_refl _, h, rfl⟩
    · have : ∃ e', e' < x ∧ s.asg e' = s.asg x := by
        simpa [isFirst] using h
      obtain ⟨e', he', heq⟩ := this
      obtain ⟨f, hf, hff, hfa⟩ := ih e' he'
      exact ⟨f, by omega, hff, hfa.trans heq⟩

theorem first_inj (s : St) (a b : Nat) (ha : isFirst s a = true) (hb : isFirst s b = true)
    (h : s.asg a = s.asg b) : a = b := by
  rcases Nat.lt_trichotomy a b with hlt | heq | hgt
  · exact absurd h ((isFirst_iff s b).1 hb a hlt)
  · exact heq
  · exact absurd h.symm ((isFirst_iff s a).1 ha b hgt)

theorem mem_group (d : Defn) (s : St) (e x : Nat) : x ∈ group d s e ↔ x < d.nEdges ∧ s.asg x = s.asg e := by
  simp [group]

/-- the edges selected by the exported rule of `e` are exactly the edges sharing `e`'s setting -/
theorem mem_ruleGroup (d : Defn) (s : St) (e : Nat) (he : e < d.nEdges) (x : Nat) :
    x ∈ selected d (ruleOf d s e).edges ↔ x < d.nEdges ∧ s.asg x = s.asg e := by
  unfold ruleOf
  simp only []
  by_cases h1 : nGroups d s = 1
  · simp only [h1, if_true, selected, List.mem_range]
    constructor
    · intro hx
      refine ⟨hx, ?_⟩
      obtain ⟨f1, hf1, hf1f, hf1a⟩ := rep_exists s x
      obtain ⟨f2, hf2, hf2f, hf2a⟩ := rep_exists s e
      have := len_one_eq h1 f1 f2 (List.mem_filter.2 ⟨List.mem_range.2 (by omega), hf1f⟩)
        (List.mem_filter.2 ⟨List.mem_range.2 (by omega), hf2f⟩)
      rw [← hf1a, ← hf2a, this]
    · intro hx; exact hx.1
  · simp only [h1, if_false, selected]
    have hne := List.isEmpty_eq_false_iff_exists_mem.2 ⟨e, (mem_group d s e e).2 ⟨he, rfl⟩⟩
    simp only [hne, Bool.false_eq_true, if_false, List.mem_filter, List.mem_range, List.contains_iff_mem, mem_group,
      and_self_left]

theorem hasDup_of_nodup : ∀ (l : List Nat), l.Nodup → hasDup l = false
  | [], _ => rfl
  | a :: as, h => by
    have h' := List.nodup_cons.1 h
    simp [hasDup, h'.1, hasDup_of_nodup as h'.2]

theorem selected_nodup (d : Defn) (edges : Option (List Nat)) : (selected d edges).Nodup := by
  unfold selected
  cases edges with
  | none => exact List.nodup_range
  | some es =>
    simp only []
    split
    · exact List.nodup_range
    · exact List.nodup_range.filter _

/-! ### one exported rule applied to any state -/

/-- the scopes of an exported rule are the single selected set -/
theorem scopes_ruleOf (d : Defn) (s : St) (e : Nat) (he : e < d.nEdges) :
    scopes d (ruleOf d s e).edges (indepOf d (ruleOf d s e).isIndependent) = [selected d (ruleOf d s e).edges] := by
  have hmem := mem_ruleGroup d s e he
  have hne := List.isEmpty_eq_false_iff_exists_mem.2 ⟨e, (hmem e).2 ⟨he, rfl⟩⟩
  have hind : (ruleOf d s e).isIndependent =
      if d.indepDefault && decide (2 ≤ (group d s e).length) then some false else none := rfl
  unfold scopes indepOf
  rw [hind]
  cases d.indepDefault with
  | false => simp only [Bool.false_and, Bool.false_eq_true, if_false, hne]
  | true =>
    by_cases hg : 2 ≤ (group d s e).length
    · simp only [hg, decide_true, Bool.and_self, if_true, Bool.false_eq_true, if_false, hne]
    · simp only [hg, decide_false, Bool.and_false, Bool.false_eq_true, if_false, if_true]
      have hall : ∀ x, x ∈ selected d (ruleOf d s e).edges → x = e := fun x hx =>
        short_eq hg x e ((mem_group d s e x).2 ((hmem x).1 hx)) ((mem_group d s e e).2 ⟨he, rfl⟩)
      rw [eq_singleton_of (selected_nodup d _) hall ((hmem e).2 ⟨he, rfl⟩)]
      rfl

theorem badEdges_ruleOf (d : Defn) (s : St) (e : Nat) : badEdges d (ruleOf d s e).edges = false := by
  have hed : (ruleOf d s e).edges = if nGroups d s = 1 then none else some (group d s e) := rfl
  rw [hed]
  split
  · rfl
  · simp only [badEdges, Bool.or_eq_false_iff, List.any_eq_false, decide_eq_true_eq]
    exact ⟨fun x hx => Nat.not_le.2 ((mem_group d s e x).1 hx).1, hasDup_of_nodup _ (List.nodup_range.filter _)⟩

theorem setRule_ruleOf (d : Defn) (s : St) (hwf : WFSt d s) (e : Nat) (he : e < d.nEdges) (t : St) :
    setRule d t (ruleOf d s e) = .ok (assignGroup t (selected d (ruleOf d s e).edges) (s.setting e)) := by
  have hw := hwf e he
  unfold setRule assignAll
  rw [badEdges_ruleOf, scopes_ruleOf d s e he]
  cases hs : s.setting e with
  | const v =>
    simp [ruleOf, hs, Setting.isVar, truthy, mkSettings, mkSetting, orElse, assignScopes, assignGroup]
  | var lo v hi =>
    rw [hs] at hw
    have c1 : ¬ hi < lo := Rat.not_lt.2 (Rat.le_trans hw.1 hw.2)
    have c2 : ¬ v < lo := Rat.not_lt.2 hw.1
    have c3 : ¬ hi < v := Rat.not_lt.2 hw.2
    simp [ruleOf, hs, Setting.isVar, truthy, mkSettings, mkSetting, clampVar, orElse, assignScopes, assignGroup,
      c1, c2, c3]

/-! ### all exported rules applied in order -/

/-- the position of a member determines it -/
theorem idxOf_inj {α : Type} [BEq α] [LawfulBEq α] {l : List α} {a b : α} (ha : a ∈ l) (hb : b ∈ l)
    (h : l.idxOf a = l.idxOf b) : a = b := by
  rw [← List.getElem_idxOf (List.idxOf_lt_length_of_mem ha), ← List.getElem_idxOf (List.idxOf_lt_length_of_mem hb)]
  simp only [h]

theorem applyRules_fold (d : Defn) (s : St) (hwf : WFSt d s) :
    ∀ (fs : List Nat) (t0 : St), fs.Nodup → (∀ f, f ∈ fs → f < d.nEdges) →
      (∀ a, a ∈ fs → ∀ b, b ∈ fs → s.asg a = s.asg b → a = b) →
      ∃ t, applyRules d t0 (fs.map (ruleOf d s)) = .ok t ∧ t.next = t0.next + fs.length ∧
        (∀ x, x < d.nEdges → ∀ f, f ∈ fs → s.asg x = s.asg f →
          t.asg x = t0.next + fs.idxOf f ∧ t.store (t0.next + fs.idxOf f) = s.setting f) ∧
        (∀ x, x < d.nEdges → (∀ f, f ∈ fs → s.asg x ≠ s.asg f) → t.asg x = t0.asg x) ∧
        (∀ i, i < t0.next → t.store i = t0.store i) := by
  intro fs
  induction fs with
  | nil =>
    intro t0 _ _ _
    refine ⟨t0, rfl, by simp, ?_, fun _ _ _ => rfl, fun _ _ => rfl⟩
    intro x _ f hf; simp at hf
  | cons f fs ih =>
    intro t0 hnd hlt hinj
    have hfn : f < d.nEdges := hlt f (by simp)
    have hnd' := List.nodup_cons.1 hnd
    simp only [List.map_cons, applyRules, setRule_ruleOf d s hwf f hfn t0]
    have hmem := mem_ruleGroup d s f hfn
    generalize selected d (ruleOf d s f).edges = G at hmem ⊢
    obtain ⟨t, h1, h2, h3, h4, h5⟩ := ih (assignGroup t0 G (s.setting f)) hnd'.2
      (fun g hg => hlt g (by simp [hg])) (fun a ha b hb => hinj a (by simp [ha]) b (by simp [hb]))
    have hnext : (assignGroup t0 G (s.setting f)).next = t0.next + 1 := rfl
    have hasg : ∀ x, (assignGroup t0 G (s.setting f)).asg x = if x ∈ G then t0.next else t0.asg x := by
      intro x; simp [assignGroup]
    have hstore : ∀ i, (assignGroup t0 G (s.setting f)).store i = if i = t0.next then s.setting f else t0.store i := by
      intro i; simp [assignGroup, upd]
    refine ⟨t, h1, ?_, ?_, ?_, ?_⟩
    · rw [h2, hnext]; exact Nat.add_right_comm _ _ _
    · intro x hx g hg hxg
      rcases List.mem_cons.1 hg with hgf | hgfs
      · subst hgf
        have hxin : x ∈ G := (hmem x).2 ⟨hx, hxg⟩
        have hnone : ∀ f', f' ∈ fs → s.asg x ≠ s.asg f' := by
          intro f' hf' heq
          have : g = f' := hinj g (by simp) f' (by simp [hf']) (hxg.symm.trans heq)
          subst this
          exact hnd'.1 hf'
        constructor
        · rw [h4 x hx hnone, hasg, if_pos hxin, List.idxOf_cons_self, Nat.add_zero]
        · rw [List.idxOf_cons_self, Nat.add_zero, h5 t0.next (Nat.lt_succ_self _), hstore, if_pos rfl]
      · have hgne : g ≠ f := by
          intro h; subst h; exact hnd'.1 hgfs
        obtain ⟨a1, a2⟩ := h3 x hx g hgfs hxg
        rw [hnext] at a1 a2
        rw [List.idxOf_cons, beq_eq_false_iff_ne.2 (Ne.symm hgne), cond_false]
        constructor
        · rw [a1]; omega
        · rw [← a2]; congr 1; omega
    · intro x hx hnone
      have hxnot : x ∉ G := fun hin => hnone f (by simp) ((hmem x).1 hin).2
      rw [h4 x hx (fun f' hf' => hnone f' (by simp [hf'])), hasg, if_neg hxnot]
    · intro i hi
      rw [h5 i (Nat.lt_succ_of_lt hi), hstore, if_neg (Nat.ne_of_lt hi)]

/-- **round trip**: applying the exported rules, in order, to a newly built function yields the same
setting for every edge, the same sharing of setting objects, hence the same number of free
parameters. -/
theorem roundtrip (d : Defn) (s : St) (hwf : WFSt d s) :
    ∃ s', applyRules d (fresh d) (exportRules d s) = .ok s' ∧
      (∀ e, e < d.nEdges → s'.setting e = s.setting e) ∧
      (∀ e1 e2, e1 < d.nEdges → e2 < d.nEdges → (s'.asg e1 = s'.asg e2 ↔ s.asg e1 = s.asg e2)) ∧
      nfp d s' = nfp d s := by
  have hfs_mem : ∀ f, f ∈ (List.range d.nEdges).filter (isFirst s) ↔ f < d.nEdges ∧ isFirst s f = true := by
    intro f; simp
  obtain ⟨t, h1, _, h3, _, _⟩ := applyRules_fold d s hwf ((List.range d.nEdges).filter (isFirst s)) (fresh d)
    (List.nodup_range.filter _) (fun f hf => ((hfs_mem f).1 hf).1)
    (fun a ha b hb h => first_inj s a b ((hfs_mem a).1 ha).2 ((hfs_mem b).1 hb).2 h)
  have hrep : ∀ x, x < d.nEdges → ∃ f, f ∈ (List.range d.nEdges).filter (isFirst s) ∧ s.asg x = s.asg f := by
    intro x hx
    obtain ⟨f, hf, hff, hfa⟩ := rep_exists s x
    exact ⟨f, (hfs_mem f).2 ⟨by omega, hff⟩, hfa.symm⟩
  have hset : ∀ e, e < d.nEdges → t.setting e = s.setting e := by
    intro e he
    obtain ⟨f, hf, hef⟩ := hrep e he
    obtain ⟨a1, a2⟩ := h3 e he f hf hef
    show t.store (t.asg e) = s.store (s.asg e)
    rw [a1, a2, hef]; rfl
  have hpart : ∀ e1 e2, e1 < d.nEdges → e2 < d.nEdges → (t.asg e1 = t.asg e2 ↔ s.asg e1 = s.asg e2) := by
    intro e1 e2 he1 he2
    obtain ⟨f1, hf1, hef1⟩ := hrep e1 he1
    obtain ⟨f2, hf2, hef2⟩ := hrep e2 he2
    rw [(h3 e1 he1 f1 hf1 hef1).1, (h3 e2 he2 f2 hf2 hef2).1]
    constructor
    · intro h
      have : f1 = f2 := idxOf_inj hf1 hf2 (by omega)
      rw [hef1, hef2, this]
    · intro h
      have : f1 = f2 := first_inj s f1 f2 ((hfs_mem f1).1 hf1).2 ((hfs_mem f2).1 hf2).2
        (hef1.symm.trans (h.trans hef2))
      rw [this]
  refine ⟨t, h1, hset, hpart, ?_⟩
  unfold nfp
  congr 1
  apply List.filter_congr
  intro e he
  have he' : e < d.nEdges := by simpa using he
  have hfirst : isFirst t e = isFirst s e := by
    rw [Bool.eq_iff_iff, isFirst_iff, isFirst_iff]
    constructor
    · intro h e' he'' heq
      exact h e' he'' ((hpart e' e (by omega) he').2 heq)
    · intro h e' he'' heq
      exact h e' he'' ((hpart e' e (by omega) he').1 heq)
  rw [hfirst, hset e he']

/-! ### every state reached by `set_param_rule` calls is well formed -/

def Good : Setting → Prop
  | .var lo v hi => lo ≤ v ∧ v ≤ hi
  | .const _ => True

/-- ids in use are below the fresh-id counter, and every Var in use is within its bounds -/
def Inv2 (d : Defn) (s : St) : Prop := (∀ e, e < d.nEdges → s.asg e < s.next) ∧ WFSt d s

theorem clampVar_good (lo v hi : Rat) (σ : Setting) (h : clampVar lo v hi = .ok σ) : Good σ := by
  unfold clampVar at h
  by_cases h1 : hi < lo
  · simp [h1] at h
  · by_cases h2 : v < lo
    · simp only [h1, h2, if_true, if_false, Except.ok.injEq] at h
      subst h; exact ⟨Rat.le_refl, Rat.not_lt.1 h1⟩
    · by_cases h3 : hi < v
      · simp only [h1, h2, h3, if_true, if_false, Except.ok.injEq] at h
        subst h; exact ⟨Rat.not_lt.1 h1, Rat.le_refl⟩
      · simp only [h1, h2, h3, if_false, Except.ok.injEq] at h
        subst h; exact ⟨Rat.not_lt.1 h2, Rat.not_lt.1 h3⟩

theorem mkSetting_good (d : Defn) (s : St) (sc : List Nat) (value lower upper : Option Rat) (c : Bool)
    (σ : Setting) (h : mkSetting d s sc value lower upper c = .ok σ) : Good σ := by
  unfold mkSetting at h
  cases c with
  | true => simp only [if_true, Except.ok.injEq] at h; subst h; trivial
  | false =>
    simp only [Bool.false_eq_true, if_false] at h
    exact clampVar_good _ _ _ σ h

theorem mkSettings_good (d : Defn) (s : St) (value lower upper : Option Rat) (c : Bool) :
    ∀ (scs : List (List Nat)) (l : List (List Nat × Setting)),
      mkSettings d s value lower upper c scs = .ok l → ∀ p, p ∈ l → Good p.2 := by
  intro scs
  induction scs with
  | nil => intro l h p hp; cases h; cases hp
  | cons sc scs ih =>
    intro l h p hp
    simp only [mkSettings] at h
    split at h
    · cases h
    · rename_i σ h1
      split at h
      · cases h
      · rename_i l' h2
        cases h
        rcases List.mem_cons.1 hp with rfl | hp
        · exact mkSetting_good d s sc value lower upper c σ h1
        · exact ih l' h2 p hp

theorem assignScopes_inv (d : Defn) : ∀ (l : List (List Nat × Setting)) (s : St),
    Inv2 d s → (∀ p, p ∈ l → Good p.2) → Inv2 d (assignScopes s l) := by
  intro l
  induction l with
  | nil => intro s h _; exact h
  | cons p l ih =>
    intro s h hg
    obtain ⟨sc, σ⟩ := p
    simp only [assignScopes]
    apply ih _ _ (fun p hp => hg p (by simp [hp]))
    refine ⟨?_, ?_⟩
    · intro e he
      show (if sc.contains e then s.next else s.asg e) < s.next + 1
      have := h.1 e he
      split <;> omega
    · intro e he
      show Good (upd s.store s.next σ (if sc.contains e then s.next else s.asg e))
      by_cases hc : sc.contains e = true
      · simp only [hc, if_true, upd]
        exact hg (sc, σ) (by simp)
      · have hne : s.asg e ≠ s.next := Nat.ne_of_lt (h.1 e he)
        simp only [hc, Bool.false_eq_true, if_false, upd, hne]
        exact h.2 e he

theorem setRule_inv (d : Defn) (s s' : St) (r : RuleArgs) (h : setRule d s r = .ok s') (hI : Inv2 d s) :
    Inv2 d s' := by
  unfold setRule at h
  split at h
  · cases h
  · split at h
    · cases h
    · unfold assignAll at h
      split at h
      · cases h
      · split at h
        · cases h
        · rename_i l hl
          cases h
          exact assignScopes_inv d l s hI (mkSettings_good d s _ _ _ _ _ l hl)

theorem fresh_inv (d : Defn) (hd : d.dLo ≤ d.dVal ∧ d.dVal ≤ d.dHi) : Inv2 d (fresh d) := by
  unfold fresh
  split
  · exact ⟨fun e he => he, fun e _ => hd⟩
  · exact ⟨fun e _ => Nat.zero_lt_one, fun e _ => hd⟩

end CogentModel.Rules
