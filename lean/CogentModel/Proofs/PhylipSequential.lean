import CogentModel.Proofs.SeqFormats
/-! Sequential PHYLIP: the block loop of `PhylipFormatter.format` in closed form (`phylipBlocks_eq`, `phylipFormat_eq`),
the ten character name column as the parser reads it back (`strip_pad10`), and the sequential branch of
`MinimalPhylipParser` followed over the written lines for any wrapping (`phySeqGo_recs`). -/
namespace CogentModel.SeqFormats
open CogentModel.Splitlines CogentModel.SeqSpec

def sp10 : Str := List.replicate 10 ' '

/-- the lines `PhylipFormatter.format` writes for one sequence whose blocks are `ws` -/
def phyRecLines (name : Str) (ws : List Str) : List Str :=
  match ws with
  | [] => []
  | c0 :: cs => (pad10 (name.take 9) ++ c0) :: cs.map (sp10 ++ ·)

/-- one round of the block loop of `PhylipFormatter.format` -/
theorem phylipBlocks_step {bs L block : Nat} (hbs : 0 < bs) (name : Str) {seq : Str} (hL : seq.length = L)
    (hb : block < L) (fuel : Nat) :
    phylipBlocks bs L name seq (fuel + 1) block =
      ((if block = 0 then pad10 (name.take 9) else sp10) ++ (seq.drop block).take bs) ::
        phylipBlocks bs L name seq fuel (block + bs) := by
  -- the slice `seq[block:to]` with `to` capped at `L` is the next `bs` characters
  have ht : (seq.drop block).take ((if block + bs > L then L else block + bs) - block) = (seq.drop block).take bs := by
    split
    next h =>
      rw [List.take_of_length_le (i := L - block) (by rw [List.length_drop, hL]; exact Nat.le_refl _),
        List.take_of_length_le (by rw [List.length_drop, hL]; exact Nat.sub_le_iff_le_add'.mpr (Nat.le_of_lt h))]
    next => rw [Nat.add_sub_cancel_left]
  have hp : (if name.length > 9 then pad10 (name.take 9) else pad10 name) = pad10 (name.take 9) := by
    split
    next => rfl
    next h => rw [List.take_of_length_le (Nat.le_of_not_lt h)]
  rw [phylipBlocks, if_pos ⟨hb, hbs⟩]
  simp only [ht, hp]
  rfl

theorem phylipBlocks_done {bs L block : Nat} (name seq : Str) (hb : ¬ block < L) :
    ∀ fuel, phylipBlocks bs L name seq fuel block = []
  | 0 => rfl
  | _ + 1 => by rw [phylipBlocks, if_neg fun h => hb h.1]

theorem phylipBlocks_later {bs L : Nat} (hbs : 0 < bs) (name : Str) {seq : Str} (hL : seq.length = L) :
    ∀ (fuel block : Nat), 0 < block →
    phylipBlocks bs L name seq fuel block = (chunkGo bs fuel (seq.drop block)).map (sp10 ++ ·)
  | 0, _, _ => rfl
  | fuel + 1, block, hpos => by
    by_cases hb : block < L
    · have hne : seq.drop block ≠ [] := fun e => Nat.not_le_of_lt hb (hL ▸ List.drop_eq_nil_iff.mp e)
      rw [phylipBlocks_step hbs name hL hb, if_neg (Nat.ne_of_gt hpos), chunkGo_cons hbs _ hne,
        phylipBlocks_later hbs name hL fuel _ (Nat.add_pos_left hpos bs), List.drop_drop]
      rfl
    · rw [phylipBlocks_done name seq hb, List.drop_eq_nil_of_le (hL ▸ Nat.le_of_not_lt hb), chunkGo_nil]
      rfl

theorem phylipBlocks_eq {bs L : Nat} (hbs : 0 < bs) (name : Str) {seq : Str} (hL : seq.length = L) :
    phylipBlocks bs L name seq (L + 1) 0 = phyRecLines name (chunkWrap bs seq) := by
  by_cases h0 : 0 < L
  · have hne : seq ≠ [] := fun e => Nat.ne_of_gt h0 (by rw [e] at hL; exact hL.symm)
    rw [phylipBlocks_step hbs name hL h0, Nat.zero_add, chunkWrap_cons hbs hne, phylipBlocks_later hbs name hL L _ hbs,
      chunkGo_eq_wrap hbs L _ (by rw [List.length_drop, hL]; exact Nat.sub_le L bs)]
    rfl
  · have : seq = [] := List.length_eq_zero_iff.mp (hL.trans (Nat.eq_zero_of_not_pos h0))
    subst this
    rw [phylipBlocks_done name [] h0]
    rfl

theorem phySeqGo_cons (cache : Option (Str × List Str)) (line : Str) (rest : List Str) :
    phySeqGo cache (line :: rest) =
    match splitLine line 10 with
    | none => phySeqGo cache rest
    | some (cid, cseq) =>
      if cid.isEmpty && cseq.isEmpty then phySeqGo cache rest
      else if !cid.isEmpty then
        (phySeqGo (some (cid, [cseq])) rest).map (fun rs =>
          (match cache with
            | none => []
            | some c => [(c.1, c.2.flatten)]) ++ rs)
      else match cache with
        | none => .error .attributeError
        | some c => phySeqGo (some (c.1, c.2 ++ [cseq])) rest := rfl

theorem pad10_length {x : Str} (h : x.length ≤ 10) : (pad10 x).length = 10 := by
  rw [pad10, List.length_append, List.length_replicate, Nat.add_sub_cancel' h]

/-- a line made of a ten character name column and a block of residues -/
theorem splitLine_col {lc : List Char} {col c : Str} (hlen : col.length = 10) (hc : wfSeq lc c = true) :
    splitLine (col ++ c) 10 = some (strip col, c) := by
  obtain ⟨hne, hcc⟩ := wfSeq_chars hc
  obtain ⟨d, hd⟩ := List.exists_mem_of_ne_nil _ hne
  have hnb : isBlank (col ++ c) = false := not_blank_of_mem (List.mem_append_right _ hd) (seqChar_not_space (hcc d hd))
  have hemp : (col ++ c).isEmpty = false := List.isEmpty_eq_false_iff.mpr fun e => hne (List.append_eq_nil_iff.mp e).2
  rw [splitLine, hemp, hnb, List.take_left' hlen, List.drop_left' hlen, wfSeq_strip hc, wfSeq_noSpaceChar hc]
  rfl

theorem strip_pad10 {name : Str} (hn : wfName name = true) : strip (pad10 (name.take 9)) = truncName name := by
  obtain ⟨hnne, hnp⟩ := wfName_chars hn
  obtain ⟨a, as, rfl⟩ := List.exists_cons_of_ne_nil hnne
  exact strip_pad (x := (a :: as).take 9) (List.cons_ne_nil _ _) (fun c hc => hnp c (List.mem_of_mem_take hc))
    (wfName_ends hn).1 _

theorem truncName_ne_nil {name : Str} (hn : wfName name = true) : (truncName name).isEmpty = false := by
  obtain ⟨a, as, rfl⟩ := List.exists_cons_of_ne_nil (wfName_chars hn).1
  have ha : a ≠ ' ' := fun e => (wfName_ends hn).1 (e ▸ rfl)
  -- the first character is not blank, so stripping blanks from the right leaves it
  rw [truncName, List.isEmpty_reverse, isEmpty_dropWhile, List.all_reverse, List.take_succ_cons, List.all_cons,
    decide_eq_false ha]
  rfl

def cacheOut : Option (Str × List Str) → List Rec
  | none => []
  | some c => [(c.1, c.2.flatten)]

/-- the first line of a record closes the record read so far -/
theorem phySeqGo_first {lc : List Char} (cache : Option (Str × List Str)) {name c0 : Str} (hn : wfName name = true)
    (hc : wfSeq lc c0 = true) (rest : List Str) :
    phySeqGo cache ((pad10 (name.take 9) ++ c0) :: rest) =
      (phySeqGo (some (truncName name, [c0])) rest).map (cacheOut cache ++ ·) := by
  rw [phySeqGo_cons, splitLine_col (pad10_length (Nat.le_trans (List.length_take_le 9 name) (by decide))) hc, strip_pad10 hn]
  simp only [truncName_ne_nil hn, Bool.false_and, Bool.false_eq_true, if_false, Bool.not_false, if_true]
  rfl

/-- a continuation line: ten blanks + block -/
theorem phySeqGo_cont {lc : List Char} (cid : Str) (ps : List Str) {c : Str} (hc : wfSeq lc c = true) (rest : List Str) :
    phySeqGo (some (cid, ps)) ((sp10 ++ c) :: rest) = phySeqGo (some (cid, ps ++ [c])) rest := by
  rw [phySeqGo_cons, splitLine_col (by rfl) hc, show strip sp10 = [] by decide]
  simp only [List.isEmpty_nil, List.isEmpty_eq_false_iff.mpr (wfSeq_chars hc).1, Bool.and_false, Bool.false_eq_true,
    if_false, Bool.not_true]

theorem phySeqGo_conts {lc : List Char} (rest : List Str) : ∀ (cs : List Str) (cid : Str) (ps : List Str),
    (∀ c ∈ cs, wfSeq lc c = true) →
    phySeqGo (some (cid, ps)) (cs.map (sp10 ++ ·) ++ rest) = phySeqGo (some (cid, ps ++ cs)) rest
  | [], _, _, _ => by rw [List.append_nil]; rfl
  | c :: cs, cid, ps, h => by
    rw [List.map_cons, List.cons_append, phySeqGo_cont cid ps (h c List.mem_cons_self),
      phySeqGo_conts rest cs cid _ fun x hx => h x (List.mem_cons_of_mem _ hx), List.append_assoc]
    rfl

theorem phySeqGo_recs {lc : List Char} : ∀ (recs : List (Str × List Str)) (cache : Option (Str × List Str)),
    WfRecs lc recs →
    phySeqGo cache (recs.flatMap (fun r => phyRecLines r.1 r.2)) =
      .ok (cacheOut cache ++ (expected recs).map (fun r => (truncName r.1, r.2)))
  | [], cache, _ => by cases cache <;> rfl
  | (name, ws) :: recs, cache, hwf => by
    have hr := hwf _ List.mem_cons_self
    obtain ⟨hne, hws⟩ := wfLines_iff hr.2
    obtain ⟨c0, cs, rfl⟩ := List.exists_cons_of_ne_nil hne
    rw [List.flatMap_cons, phyRecLines, List.cons_append, phySeqGo_first cache hr.1 (hws c0 List.mem_cons_self),
      phySeqGo_conts _ cs _ _ (fun x hx => hws x (List.mem_cons_of_mem _ hx)),
      phySeqGo_recs recs _ fun x hx => hwf x (List.mem_cons_of_mem _ hx)]
    rfl

theorem phyLines_eq {bs L : Nat} (hbs : 0 < bs) (recs : List Rec) (h : ∀ r ∈ recs, r.2.length = L) :
    recs.flatMap (fun r => phylipBlocks bs L r.1 r.2 (L + 1) 0) =
      (blocked bs recs).flatMap (fun r => phyRecLines r.1 r.2) := by
  rw [blocked, List.flatMap_map]
  exact flatMap_congr_mem fun r hr => phylipBlocks_eq hbs r.1 (h r hr)

theorem phyLines_noBreak {lc : List Char} {recs : List (Str × List Str)} (hwf : WfRecs lc recs) :
    NoBreak (recs.flatMap (fun r => phyRecLines r.1 r.2)) :=
  noBreak_of_printable fun l hl c hc => by
    obtain ⟨r, hr, hl⟩ := List.mem_flatMap.mp hl
    obtain ⟨hn, hw⟩ := hwf.printable hr
    have hsp : ∀ {k}, c ∈ List.replicate k ' ' → printable c = true := fun h => (List.mem_replicate.mp h).2 ▸ by decide
    generalize r.2 = ws at hw hl
    cases ws with
    | nil => cases hl
    | cons c0 cs =>
      rcases List.mem_cons.mp hl with rfl | hl
      · rcases List.mem_append.mp hc with h | h
        · rcases List.mem_append.mp h with h | h
          · exact hn c (List.mem_of_mem_take h)
          · exact hsp h
        · exact hw c0 List.mem_cons_self c h
      · obtain ⟨x, hx, rfl⟩ := List.mem_map.mp hl
        rcases List.mem_append.mp hc with h | h
        · exact hsp h
        · exact hw x (List.mem_cons_of_mem _ hx) c h

theorem phylipFormat_eq {bs : Nat} (hbs : 0 < bs) (r0 : Rec) (rest : List Rec)
    (hL : ∀ r ∈ r0 :: rest, r.2.length = r0.2.length) :
    phylipFormat bs (r0 :: rest) = .ok (unlines (headerOf (rest.length + 1) r0.2.length ::
      (blocked bs (r0 :: rest)).flatMap (fun r => phyRecLines r.1 r.2))) := by
  rw [unlines_cons, ← phyLines_eq hbs _ hL]
  rfl

/-- a header without a third field announces the sequential layout -/
theorem phylipParser_header {n L : Nat} (hn : n ≠ 0) (hL : L ≠ 0) (lines : List Str) :
    phylipParser (headerOf n L :: lines) = phySeqGo none lines := by
  have hn' := Int.natCast_ne_zero.mpr hn
  have hL' := Int.natCast_ne_zero.mpr hL
  rw [phylipParser, splitWs_header]
  simp only [pyInt_natDigits, bind, Except.bind, hn', hL', decide_false, Bool.or_self, Bool.false_eq_true, if_false,
    List.isEmpty_nil, if_true]

end CogentModel.SeqFormats
