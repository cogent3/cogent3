import CogentModel.Proofs.PhyloMidpoint
import CogentModel.Proofs.PhyloGoodLens
/-! C09: the search half of midpoint rooting (`midPlan`): the plan it produces puts the new root
at distance d(p,q)/2 from both tips of the farthest pair. -/
namespace CogentModel.Phylo
open PTree

theorem foldl_max_mem (c : Rat × String × String) (rest : List (Rat × String × String)) :
    rest.foldl (fun best x => if best.1 < x.1 then x else best) c ∈ c :: rest := by
  induction rest generalizing c with
  | nil => simp
  | cons y ys ih =>
    rw [List.foldl_cons]
    rcases List.mem_cons.1 (ih (if c.1 < y.1 then y else c)) with h | h
    · rw [h]; split <;> simp
    · exact List.mem_cons_of_mem _ (List.mem_cons_of_mem _ h)

theorem argmaxPair_spec (t : RT) (hnd : (tips t).Nodup) (m : Rat) (a b : String)
    (h : argmaxPair (tips t) (getDistances 1 t) = (m, a, b)) (hm : m ≠ 0) :
    a ∈ tips t ∧ b ∈ tips t ∧ a ≠ b ∧ m = distSpec 1 a b t := by
  unfold argmaxPair at h
  simp only at h
  generalize hc : ((tips t).flatMap fun a => (tips t).map fun b =>
    ((if a = b then (0 : Rat) else (lookupLast (a, b) (getDistances 1 t)).getD 0), a, b)) = cells at h
  have hmem : (m, a, b) ∈ cells := by
    cases cells with
    | nil => simp at h; exact absurd h.1.symm hm
    | cons c rest => simp only at h; rw [← h]; exact foldl_max_mem c rest
  rw [← hc] at hmem
  simp only [List.mem_flatMap, List.mem_map] at hmem
  obtain ⟨a', ha', b', hb', heq⟩ := hmem
  simp only [Prod.mk.injEq] at heq
  obtain ⟨h1, rfl, rfl⟩ := heq
  by_cases hab : a' = b'
  · simp [hab] at h1; exact absurd h1.symm hm
  · simp only [hab, if_false] at h1
    rw [getDistances_lookup 1 t hnd a' b' ha' hb' hab] at h1
    exact ⟨ha', hb', hab, h1.symm⟩

theorem findPathL_sound (nm : String) : ∀ (cs : List RT) (i : Nat) (p : List Nat), findPathL nm cs i = some p →
    ∃ j p' pre x post, p = j :: p' ∧ pick cs (j - i) = some (pre, x, post) ∧
      ∃ u, nodeAt x p' = some u ∧ u.name = nm := by
  intro cs i p h
  obtain ⟨j, p', pre, x, post, rfl, hpk, hrest⟩ := findPathL_offset nm cs i p h
  exact ⟨i + j, p', pre, x, post, rfl, by rwa [Nat.add_sub_cancel_left], hrest⟩

def lenSum (fs : List PFrame) : Rat := sumBy (fun f => lenOr (1 : Rat) f.v.len) fs

theorem lenSum_cons {g : PFrame} {y : Rat} (h : g.v.len = some y) (P : List PFrame) :
    lenSum (g :: P) = y + lenSum P := by
  simp only [lenSum, sumBy, h, lenOr]

theorem frames_tips_sub (p : List Nat) (u : RT) (acc : List Nat) :
    ∀ f ∈ framesOn u p acc, ∀ z ∈ tips f.v, z ∈ tips u := by
  fun_induction framesOn u p acc with
  | case1 => exact fun _ h => nomatch h
  | case2 => exact fun _ h => nomatch h
  | case3 n l cs i p acc pre x post hp ih =>
    have hx : ∀ z ∈ tips x, z ∈ tips (PTree.node n l cs) :=
      tips_nodeAt_subset [i] _ x (by simp only [nodeAt, hp])
    intro f hf z hz
    rcases List.mem_cons.1 hf with rfl | hf
    · exact hx z hz
    · exact hx z (ih f hf z hz)

theorem depth_frames (a : String) : ∀ (p : List Nat) (u : RT) (acc : List Nat), TipPath u p a →
    (tips u).Nodup → depthR a u = lenSum (framesOn u p acc)
  | [], u, acc, h, _ => by
    obtain ⟨tp, h1, h2, _⟩ := h
    cases h1
    cases u with
    | node n l cs => cases h2; rfl
  | i :: p, .node n l cs, acc, h, hnd => by
    obtain ⟨pre, x, post, hp, hx⟩ := h.step
    obtain ⟨rfl, -⟩ := pick_spec hp
    rw [tips_node_ne_nil _ _ _ (by simp)] at hnd
    have ih := depth_frames a p x (acc ++ [i]) hx (nodup_child pre post x hnd)
    simp only [framesOn, hp, lenSum, sumBy]
    exact (depth_at_node 1 pre post x hnd a hx.mem).trans (congrArg _ ih)

/-- a frame of the descent to tip `a`, with the frames `B` below it: where it sits in `t0`, that `a` lies
below its child, and how deep -/
theorem frames_at (a : String) (t0 : RT) (p : List Nat) (u : RT) (acc : List Nat) (hacc : nodeAt t0 acc = some u)
    (h : TipPath u p a) (hnd : (tips u).Nodup) (A : List PFrame) (f : PFrame) (B : List PFrame)
    (hfs : framesOn u p acc = A ++ f :: B) :
    nodeAt t0 f.pp = some f.par ∧ pick f.par.children f.idx = some (f.pre, f.v, f.post) ∧
      a ∈ tips f.v ∧ depthR a f.v = lenSum B := by
  fun_induction framesOn u p acc generalizing A with
  | case1 => cases A <;> cases hfs
  | case2 => cases A <;> cases hfs
  | case3 n l cs i p acc pre x post hp ih =>
    obtain ⟨_, _, _, hp', hx⟩ := h.step
    cases hp.symm.trans hp'
    have hndx : (tips x).Nodup := by
      obtain ⟨rfl, -⟩ := pick_spec hp
      rw [tips_node_ne_nil _ _ _ (by simp)] at hnd
      exact nodup_child pre post x hnd
    cases A with
    | nil => cases hfs; exact ⟨hacc, hp, hx.mem, depth_frames a p x _ hx hndx⟩
    | cons g A' =>
      exact ih (by rw [nodeAt_append acc [i] t0 _ hacc]; simp only [nodeAt, hp]) hx hndx A' (List.cons.inj hfs).2

theorem frames_good (P : Rat → Prop) (p : List Nat) (u : RT) (acc : List Nat) (hg : GoodLensL P u.children) :
    ∀ f ∈ framesOn u p acc, ∃ x, f.v.len = some x ∧ P x := by
  fun_induction framesOn u p acc with
  | case1 => exact fun _ h => nomatch h
  | case2 => exact fun _ h => nomatch h
  | case3 n l cs i p acc pre x post hp ih =>
    have hgx : GoodLens P x := goodLensL_mem _ cs hg x (by rw [(pick_spec hp).1]; simp)
    intro f hf
    rcases List.mem_cons.1 hf with rfl | hf
    · exact goodLens_len _ x hgx
    · exact ih (goodLens_children _ x hgx) f hf

/-- the last common ancestor: where the two paths part -/
theorem lca_split (a b : String) (hab : a ≠ b) : ∀ (p1 p2 : List Nat) (u : RT) (acc1 acc2 : List Nat),
    TipPath u p1 a → TipPath u p2 b → (tips u).Nodup →
    distSpec 1 a b u = lenSum ((framesOn u p1 acc1).drop (commonPrefixLen p1 p2)) +
        lenSum ((framesOn u p2 acc2).drop (commonPrefixLen p1 p2)) ∧
      (∀ f ∈ (framesOn u p1 acc1).drop (commonPrefixLen p1 p2), b ∉ tips f.v) ∧
      (∀ f ∈ (framesOn u p2 acc2).drop (commonPrefixLen p1 p2), a ∉ tips f.v)
  | [], p2, u, _, _, h1, h2, _ => by
    have := h1.tips_nil ▸ h2.mem
    exact absurd (List.mem_singleton.1 this).symm hab
  | i :: p1, [], u, _, _, h1, h2, _ => by
    have := h2.tips_nil ▸ h1.mem
    exact absurd (List.mem_singleton.1 this) hab
  | i :: p1, j :: p2, .node n l cs, acc1, acc2, h1, h2, hnd => by
    have hnd0 := hnd
    obtain ⟨pre, x, post, hp, hx⟩ := h1.step
    obtain ⟨pre', x', post', hp', hx'⟩ := h2.step
    obtain ⟨hcs, -⟩ := pick_spec hp
    rw [tips_node_ne_nil _ _ _ (hcs ▸ List.append_ne_nil_of_right_ne_nil _ (List.cons_ne_nil _ _))] at hnd
    have hndc : (tipsL (pre ++ x :: post)).Nodup := hcs ▸ hnd
    by_cases hij : i = j
    · subst hij
      cases hp.symm.trans hp'
      have ih := lca_split a b hab p1 p2 x (acc1 ++ [i]) (acc2 ++ [i]) hx hx' (nodup_child pre post x hndc)
      simp only [commonPrefixLen, if_true, framesOn, hp, List.drop_succ_cons]
      refine ⟨?_, ih.2.1, ih.2.2⟩
      rw [← ih.1]
      simp only [distSpec, splits, hcs]
      exact dist_same_child 1 pre post x hndc a b hx.mem hx'.mem
    · have hbx : b ∉ tips x := fun hb => pick_disjoint hp' hp (Ne.symm hij) hnd hx'.mem hb
      have hax' : a ∉ tips x' := fun ha => pick_disjoint hp hp' hij hnd hx.mem ha
      simp only [commonPrefixLen, hij, if_false, List.drop_zero]
      refine ⟨?_, fun f hf hb => ?_, fun f hf ha => ?_⟩
      · rw [← depth_frames a (i :: p1) _ acc1 h1 hnd0, ← depth_frames b (j :: p2) _ acc2 h2 hnd0]
        simp only [depthR, depthSpec, distSpec, splits, hcs]
        exact dist_across 1 pre post x hndc a b hx.mem hbx
      · simp only [framesOn, hp, List.mem_cons] at hf
        rcases hf with rfl | hf
        · exact hbx hb
        · exact hbx (frames_tips_sub p1 x _ f hf b hb)
      · simp only [framesOn, hp', List.mem_cons] at hf
        rcases hf with rfl | hf
        · exact hax' ha
        · exact hax' (frames_tips_sub p2 x' _ f hf a ha)

theorem lenSum_reverse (A : List PFrame) : lenSum A.reverse = lenSum A :=
  sumBy_perm _ (List.reverse_perm A)

theorem lenSum_nonneg (A : List PFrame) (h : ∀ f ∈ A, ∃ x, f.v.len = some x ∧ 0 < x) : 0 ≤ lenSum A := by
  induction A with
  | nil => exact le_refl _
  | cons g A ih =>
    obtain ⟨x, hx, hpos⟩ := h g List.mem_cons_self
    rw [lenSum_cons hx]
    exact add_nonneg hpos.le (ih fun f hf => h f (List.mem_cons_of_mem _ hf))

/-- The climb passes the frames `L1` and stops at `f`: every initial stretch of the passed frames
stays short of `half`, the stretch up to and including `f` does not. -/
theorem climbF_spec (half : Rat) : ∀ (L : List PFrame) (c0 : Rat) (f : PFrame) (c x : Rat),
    climbF half L c0 = .ok (f, c, x) → c0 < half →
    ∃ L1 L2, L = L1 ++ f :: L2 ∧ c = c0 + lenSum L1 ∧ f.v.len = some x ∧ ¬ (c + x < half) ∧
      ∀ P, P <+: L1 → c0 + lenSum P < half
  | [], c0, f, c, x, h, _ => by cases h
  | g :: rest, c0, f, c, x, h, h0 => by
    simp only [climbF] at h
    split at h
    · cases h
    rename_i y hl
    split at h
    · rename_i hlt
      obtain ⟨L1, L2, rfl, rfl, hx, hstop, hinv⟩ := climbF_spec half rest (c0 + y) f c x h hlt
      refine ⟨g :: L1, L2, rfl, by rw [lenSum_cons hl, add_assoc], hx, hstop, fun P hP => ?_⟩
      cases P with
      | nil => simpa only [lenSum, sumBy, add_zero] using h0
      | cons g' P' =>
        obtain ⟨rfl, hP'⟩ := List.cons_prefix_cons.1 hP
        rw [lenSum_cons hl, ← add_assoc]
        exact hinv P' hP'
    · rename_i hlt
      cases h
      exact ⟨[], rest, rfl, (add_zero _).symm, hl, hlt, fun P hP => by
        rw [List.prefix_nil.1 hP]; simpa only [lenSum, sumBy, add_zero] using h0⟩

/-- the climb stops strictly below the point where the paths part, if the distance from the tip up
to that point is at least `half`: had it passed all the frames below that point, their total
length would have stayed short of `half` -/
theorem climb_below (half : Rat) (hh : 0 < half) (fs : List PFrame) (k : Nat)
    (hk : half ≤ lenSum (fs.drop k))
    (f : PFrame) (c x : Rat) (h : climbF half fs.reverse 0 = .ok (f, c, x)) :
    ∃ A B, fs = A ++ f :: B ∧ c = lenSum B ∧ f.v.len = some x ∧ ¬ (c + x < half) ∧ c < half ∧ f ∈ fs.drop k := by
  obtain ⟨L1, L2, hL, hc, hx, hstop, hinv⟩ := climbF_spec half fs.reverse 0 f c x h hh
  have hfs : fs = L2.reverse ++ f :: L1.reverse := by
    simpa only [List.reverse_reverse, List.reverse_append, List.reverse_cons, List.append_assoc,
      List.singleton_append] using congrArg List.reverse hL
  have hsuf : ∀ S, S <:+ L1.reverse → lenSum S < half := fun S hS => by
    have hP := List.reverse_prefix.2 hS
    rw [List.reverse_reverse] at hP
    have := hinv S.reverse hP
    rwa [zero_add, lenSum_reverse] at this
  have hc' : c = lenSum L1.reverse := by rw [lenSum_reverse, hc, zero_add]
  refine ⟨L2.reverse, L1.reverse, hfs, hc', hx, hstop, hc' ▸ hsuf _ (List.suffix_refl _), ?_⟩
  rw [hfs, List.drop_append] at hk ⊢
  cases hm : k - L2.reverse.length with
  | zero => exact List.mem_append_right _ List.mem_cons_self
  | succ m =>
    -- dropping beyond the stop leaves a final stretch of the frames below it
    rw [hm, List.drop_succ_cons, List.drop_eq_nil_of_le (by omega), List.nil_append] at hk
    exact absurd (hsuf _ (List.drop_suffix m _)) (not_lt.2 hk)

theorem lensOnPath_frames (p : List Nat) (u : RT) (acc : List Nat) :
    lensOnPath u p = (framesOn u p acc).map fun f => f.v.len := by
  fun_induction framesOn u p acc with
  | case1 => simp only [lensOnPath, List.map_nil]
  | case2 n l cs i p acc hp => simp only [lensOnPath, hp, List.map_nil]
  | case3 n l cs i p acc pre x post hp ih => simp only [lensOnPath, hp, ih, List.map_cons]

theorem foldl_truthy (L : List PFrame) (hpos : ∀ f ∈ L, ∃ x, f.v.len = some x ∧ 0 < x) (c : Rat) :
    (L.map fun f => f.v.len).foldl (fun s l => s + truthyLen l) c = c + lenSum L := by
  induction L generalizing c with
  | nil => simp [lenSum, sumBy]
  | cons g L ih =>
    obtain ⟨x, hx, _⟩ := hpos g (by simp)
    simp only [List.map_cons, List.foldl_cons]
    rw [ih (fun f hf => hpos f (by simp [hf])), lenSum_cons hx, hx, add_assoc]
    rfl

/-- the core: the plan found for the pair (p, q), climbing from `p` -/
theorem plan_equidistant (t r : RT) (hdeg : 2 ≤ t.children.length) (hnd : (tips t).Nodup)
    (p q : String) (pth : List Nat) (k : Nat) (half : Rat) (hh : 0 < half)
    (hp : TipPath t pth p) (hq : q ∈ tips t)
    (hdist : distSpec 1 p q t / 2 = half)
    (hk : half ≤ lenSum ((framesOn t pth []).drop k))
    (hother : ∀ f ∈ (framesOn t pth []).drop k, q ∉ tips f.v)
    (f : PFrame) (c x : Rat) (hcl : climbF half (framesOn t pth []).reverse 0 = .ok (f, c, x))
    (hex : execPlan t (if c + x = half then MidPlan.at f.pp else MidPlan.split f.pp f.idx (half - c)) = .ok r) :
    depthR p r = half ∧ depthR q r = half := by
  obtain ⟨A, B, hfs, rfl, hx, hstop, hlt, hmem⟩ := climb_below half hh _ k hk f c x hcl
  obtain ⟨hpar, hpick, hpv, hdep⟩ := frames_at p t pth t [] rfl hp hnd A f B hfs
  rw [← hdist] at hex ⊢
  split at hex
  · rename_i heq
    exact equidistant_at t r f.par f.pp f.idx f.pre f.post f.v hdeg hnd hex hpar hpick p q hpv hq (hother f hmem)
      (by rw [hx, hdep]; exact (add_comm _ _).trans heq)
  · exact equidistant_split t r f.par f.pp f.idx _ f.pre f.post f.v hdeg hnd hex hpar hpick p q hpv hq
      (hother f hmem) (by rw [hdep]; exact sub_add_cancel _ _)

theorem midPlan_eq_ok {t : RT} {plan : MidPlan} {m : Rat} {a b : String}
    (harg : argmaxPair (tips t) (getDistances 1 t) = (m, a, b)) (hm : m ≠ 0) (h : midPlan t = .ok plan) :
    ∃ p1 p2 f c x, findPath a t = some p1 ∧ findPath b t = some p2 ∧
      climbF (m / 2) (framesOn t (if m / 2 < ((lensOnPath t p1).drop (commonPrefixLen p1 p2)).foldl
        (fun s l => s + truthyLen l) 0 then p1 else p2) []).reverse 0 = .ok (f, c, x) ∧
      plan = if c + x = m / 2 then .at f.pp else .split f.pp f.idx (m / 2 - c) := by
  unfold midPlan at h
  simp only [harg, hm, if_false] at h
  split at h
  · rename_i p1 p2 h1 h2
    split at h
    · cases h
    · rename_i f c x hcl
      rw [← apply_ite Except.ok] at h
      exact ⟨p1, p2, f, c, x, h1, h2, hcl, (Except.ok.inj h).symm⟩
  · cases h

/-- the other part of a path is at least half of it when the one part is at most half -/
theorem half_le_right {m s1 s2 : Rat} (hm : m = s1 + s2) (h : ¬ m / 2 < s1) : m / 2 ≤ s2 := by
  have : m / 2 + m / 2 ≤ m / 2 + s2 :=
    ((add_halves m).trans hm).trans_le (add_le_add_left (not_lt.1 h) s2)
  exact le_of_add_le_add_left this

end CogentModel.Phylo
