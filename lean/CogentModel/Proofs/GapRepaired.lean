/-
  The repaired `pairwise_to_multiple` keeps every pairwise alignment: both merged rows of a pair are its pairwise
  rows padded at the same columns.
-/
import CogentModel.Proofs.GapCombined
import CogentModel.Proofs.GapInject
import CogentModel.Proofs.GapUnion
namespace CogentModel.GapMerge

/-- one pairwise alignment inside a merge whose reference gaps `u` dominate its own: both merged rows are the pairwise
rows padded at the columns `_combined_refseq_gaps` lists -/
theorem keepsPair_repaired (reflen len : Int) (rg og u : Gaps) (hreflen : 0 ≤ reflen)
    (hv : pairValid reflen (rg, og, len) = true) (hu : GapsOK u reflen) (hdom : ∀ p, gl rg p ≤ gl u p) :
    ∃ inj, gapsForInjection true og (combinedRefseqGaps rg u) len = .ok inj ∧
      keepsPair reflen u rg og inj len = true := by
  obtain ⟨hlen, hrg, hog, hlenEq, hdrop⟩ := pairValid_parts reflen rg og len hv
  have H : MergeHyp rg u reflen := ⟨hrg, hu, hdom⟩
  have hL : reflen + total rg = len + total og :=
    (rowOf_length rg reflen hrg hreflen).symm.trans
      ((congrArg (fun n : Nat => (n : Int)) hlenEq).trans (rowOf_length og len hog hlen))
  obtain ⟨inj, hinj, hO⟩ := inject_row og _ len hlen hog (hL ▸ combined_ok H)
  refine ⟨inj, hinj, ?_⟩
  obtain ⟨hp1, hp2⟩ := padCols_pair (glN (combinedRefseqGaps rg u)) (rowOf rg reflen) (rowOf og len) hlenEq 0
  simp only [keepsPair, Bool.and_eq_true, beq_iff_eq]
  rw [combined_row H, hO]
  exact ⟨hp1, by rw [hp2]; exact dropCommon_eq_zip _ _ hlenEq hdrop⟩

theorem keepsList_repaired (reflen : Int) (hreflen : 0 ≤ reflen) (u : Gaps) (hu : GapsOK u reflen) :
    ∀ pw : List (Gaps × Gaps × Int), (∀ x ∈ pw, pairValid reflen x = true) → (∀ x ∈ pw, ∀ p, gl x.1 p ≤ gl u p) →
      ∃ others, injectAll true u pw = .ok others ∧ keepsList reflen u pw others = true := by
  intro pw
  induction pw with
  | nil => intro _ _; exact ⟨[], rfl, rfl⟩
  | cons x r ih =>
    intro hv hd
    obtain ⟨rg, og, len⟩ := x
    obtain ⟨inj, hinj, hk⟩ := keepsPair_repaired reflen len rg og u hreflen (hv _ List.mem_cons_self) hu
      (hd _ List.mem_cons_self)
    obtain ⟨rest, hrest, hkr⟩ := ih (fun x hx => hv x (List.mem_cons_of_mem _ hx)) (fun x hx => hd x (List.mem_cons_of_mem _ hx))
    refine ⟨inj :: rest, ?_, ?_⟩
    · simp only [injectAll, hinj, hrest]
    · simp only [keepsList, hk, hkr, Bool.and_self]

/-- **the repaired merge keeps every pairwise alignment**, for any number of well-formed pairwise alignments -/
theorem keepsAll_repaired (reflen : Int) (hreflen : 0 ≤ reflen) (pw : List (Gaps × Gaps × Int))
    (hv : ∀ x ∈ pw, pairValid reflen x = true) : keepsAll true reflen pw = true := by
  have hall : ∀ g ∈ pw.map (·.1), GapsOK g reflen := by
    intro g hg
    obtain ⟨x, hx, rfl⟩ := List.mem_map.mp hg
    obtain ⟨rg, og, len⟩ := x
    exact (pairValid_parts reflen rg og len (hv _ hx)).2.1
  obtain ⟨hu, _, hdom⟩ := gapUnion_spec reflen (pw.map (·.1)) [] (gapsOK_nil reflen) hall
  obtain ⟨others, hinj, hk⟩ := keepsList_repaired reflen hreflen _ hu pw hv
    (fun x hx p => hdom x.1 (List.mem_map.mpr ⟨x, hx, rfl⟩) p)
  simp only [keepsAll, pairwiseToMultiple, hinj, hk]

end CogentModel.GapMerge
