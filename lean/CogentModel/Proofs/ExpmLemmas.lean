import CogentModel.Proofs.ExpmAlgebra
import CogentModel.Proofs.DetailedBalanceMatrix
/-! C05: the matrix facts of `ExpmAlgebra` read back on the model's own entries.  Unit row sums and the identity at
`t = 0` both say that a right null vector of `tQ` is fixed: the all-ones vector, and at `t = 0` every vector.  The rest
turns hypotheses and conclusions written with `sumTo` / `mget` into `Matrix` statements and back. -/

namespace CogentModel.Expm
open CogentModel.RateMatrix Finset

variable {K : Type*} [Field K]

def RowsZero (n : Nat) (A : Mat K) : Prop := ∀ i, i < n → sumTo n (fun j => mget A i j) = 0
def RowsOne (n : Nat) (A : Mat K) : Prop := ∀ i, i < n → sumTo n (fun j => mget A i j) = 1

/-- every column of `A·J`, `J` the all-ones matrix, holds the row sums of `A` -/
theorem mul_ones_apply (n : Nat) (A : Mat K) (i j : Fin n) :
    (toM n A * (Matrix.of fun _ _ => 1 : Matrix (Fin n) (Fin n) K)) i j = sumTo n fun k => mget A i k := by
  rw [Matrix.mul_apply, sumTo_eq_sum, ← Fin.sum_univ_eq_sum_range (fun k => mget A i k) n]
  exact Finset.sum_congr rfl fun k _ => by rw [Matrix.of_apply, mul_one, toM_apply]

theorem RowsZero.mul_ones {n : Nat} {A : Mat K} (h : RowsZero n A) : toM n A * (Matrix.of fun _ _ => 1) = 0 := by
  ext i j
  rw [mul_ones_apply, Matrix.zero_apply, h i i.isLt]

theorem rowsOne_iff_mul_ones {n : Nat} {A : Mat K} :
    RowsOne n A ↔ toM n A * (Matrix.of fun _ _ => 1) = Matrix.of fun _ _ => 1 := by
  constructor
  · intro h
    ext i j
    rw [mul_ones_apply, Matrix.of_apply, h i i.isLt]
  · intro h i hi
    have := congrFun (congrFun h ⟨i, hi⟩) ⟨i, hi⟩
    rwa [mul_ones_apply, Matrix.of_apply] at this

theorem rowsOne_ident (n : Nat) : RowsOne n (ident n : Mat K) :=
  rowsOne_iff_mul_ones.mpr (by rw [toM_ident, Matrix.one_mul])

theorem rowsOne_matMul (n : Nat) (X A : Mat K) (hX : RowsOne n X) (hA : RowsOne n A) : RowsOne n (matMul n X A) :=
  rowsOne_iff_mul_ones.mpr (by
    rw [toM_matMul, Matrix.mul_assoc, rowsOne_iff_mul_ones.mp hA, rowsOne_iff_mul_ones.mp hX])

section taylor
variable [LT K] [DecidableLT K] [LE K] [DecidableLE K]

/-- at `t = 0` the value and `1` are both values at the zero matrix -/
theorem taylor_zero_entry (n : Nat) (rtol atol : K) (Q : Mat K) (q fuel : Nat) :
    EntryEq n (taylor n rtol atol Q 0 q fuel).1 (ident n) := by
  have h := taylor_ratVal (n := n) rtol atol Q 0 q fuel
  rw [zero_smul] at h
  have := (h.semiconj h.zero (SemiconjBy.one_left 0)).eq
  rw [Matrix.one_mul, Matrix.one_mul, ← toM_ident] at this
  exact (entryEq_iff n _ _).mpr this
end taylor

/-- the model's own way of writing an entry of a product -/
theorem sumTo_mul_eq (n : Nat) (A B : Mat K) {a b : Nat} (ha : a < n) (hb : b < n) :
    sumTo n (fun k => mget A a k * mget B k b) = (toM n A * toM n B) ⟨a, ha⟩ ⟨b, hb⟩ := by
  rw [← toM_matMul, toM_apply, mget_matMul_sumTo n A B ha hb]

theorem leftvec_hyp (n : Nat) (Q : Mat K) (pi : Vec K)
    (h : ∀ j, j < n → sumTo n (fun i => vget pi i * mget Q i j) = 0) :
    (Matrix.of fun (_ : Fin n) (k : Fin n) => vget pi k.val) * toM n Q = 0 := by
  ext i j
  rw [Matrix.mul_apply, Matrix.zero_apply, ← h j.val j.isLt, sumTo_eq_sum,
    ← Fin.sum_univ_eq_sum_range (fun k => vget pi k * mget Q k j) n]
  exact Finset.sum_congr rfl fun k _ => by rw [Matrix.of_apply, toM_apply]

theorem leftvec_concl (n : Nat) (P : Mat K) (pi : Vec K)
    (h : (Matrix.of fun (_ : Fin n) (k : Fin n) => vget pi k.val) * toM n P =
      Matrix.of fun (_ : Fin n) (k : Fin n) => vget pi k.val) (j : Nat) (hj : j < n) :
    sumTo n (fun i => vget pi i * mget P i j) = vget pi j := by
  have := congrFun (congrFun h ⟨j, hj⟩) ⟨j, hj⟩
  rw [Matrix.mul_apply, Matrix.of_apply] at this
  rw [sumTo_eq_sum, ← Fin.sum_univ_eq_sum_range (fun k => vget pi k * mget P k j) n, ← this]
  exact Finset.sum_congr rfl fun k _ => by rw [Matrix.of_apply, toM_apply]

/-- detailed balance on the model's entries is detailed balance of the `toM` image -/
theorem diag_iff (n : Nat) (Q : Mat K) (pi : Vec K) :
    (∀ i j, i < n → j < n → vget pi i * mget Q i j = vget pi j * mget Q j i) ↔
      SemiconjBy (Matrix.diagonal fun k : Fin n => vget pi k.val) (toM n Q) (toM n Q).transpose := by
  rw [← detailed_iff_semiconj]
  simp only [toM_apply]
  exact ⟨fun h i j => h i j i.isLt j.isLt, fun h i j hi hj => h ⟨i, hi⟩ ⟨j, hj⟩⟩

end CogentModel.Expm
