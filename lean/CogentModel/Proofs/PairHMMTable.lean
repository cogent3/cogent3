/-
  The table built by scans is the pure function `V`, and `V` satisfies the
  Bellman recurrence entry by entry.
-/
import CogentModel.Proofs.PairHMMOrder
import CogentModel.Proofs.PairHMMPath
import CogentModel.Proofs.ListGetD
namespace CogentModel.PairHMM
set_option linter.unusedSectionVars false

section scan
variable {α : Type}

theorem scanRev_head (f : Nat → Option α → α) : ∀ n, (scanRev f n).head? = some (nthScan f n)
  | 0 => rfl
  | k + 1 => by rw [scanRev, nthScan, scanRev_head f k]; rfl

theorem scanList_succ (f : Nat → Option α → α) (n : Nat) :
    scanList f (n + 1) = scanList f n ++ [nthScan f (n + 1)] := by
  rw [scanList, scanRev, scanRev_head, List.reverse_cons]; rfl

/-- the scan lists the values of its pure meaning -/
theorem scanList_eq_map (f : Nat → Option α → α) (n : Nat) :
    scanList f n = (List.range (n + 1)).map (nthScan f) := by
  induction n with
  | zero => rfl
  | succ k ih => rw [scanList_succ, ih, List.range_succ (n := k + 1), List.map_append]; rfl

theorem scanList_length (f : Nat → Option α → α) (n : Nat) : (scanList f n).length = n + 1 := by
  rw [scanList_eq_map, List.length_map, List.length_range]

theorem scanList_getD (f : Nat → Option α → α) (n j : Nat) (d : α) (h : j ≤ n) :
    (scanList f n).getD j d = nthScan f j := by
  rw [scanList_eq_map, ListGetD.getD_map_range_of_lt (Nat.lt_succ_of_le h)]

/-- `l[q]? = some x` split into the bound and the value, the form in which the table is read -/
theorem getElem?_eq_some_getD {l : List α} {q : Nat} {x : α} (d : α) :
    l[q]? = some x ↔ q < l.length ∧ x = l.getD q d := by
  constructor
  · intro hx; exact ⟨(List.getElem?_eq_some_iff.mp hx).1, by simp [List.getD_eq_getElem?_getD, hx]⟩
  · rintro ⟨hl, rfl⟩; simp [List.getD_eq_getElem?_getD, hl]

end scan

variable {S : Type} [Add S] [LT S] [DecidableLT S]

/-- row `i` of the table as a pure function -/
def Vrow (h : HMM S) (loc : Bool) (m : Nat) (i : Nat) : List (Cell S) := nthScan (rowOf h loc m) i

/-- cell `(i, j)` of the table as a pure function (`[]` outside `j ≤ m`) -/
def V (h : HMM S) (loc : Bool) (m : Nat) (i j : Nat) : Cell S := (Vrow h loc m i).getD j []

theorem tableOf_length (h : HMM S) (loc : Bool) (n m : Nat) : (tableOf h loc n m).length = n + 1 :=
  scanList_length _ _

theorem tableOf_getD (h : HMM S) (loc : Bool) (n m i : Nat) (hi : i ≤ n) :
    (tableOf h loc n m).getD i [] = Vrow h loc m i :=
  scanList_getD _ _ _ _ hi

theorem Vrow_length (h : HMM S) (loc : Bool) (m a : Nat) : (Vrow h loc m a).length = m + 1 := by
  cases a <;> exact scanList_length _ _

theorem look_tableOf (h : HMM S) (loc : Bool) (n m i j : Nat) (hi : i ≤ n) :
    look (tableOf h loc n m) i j = V h loc m i j := by
  rw [look, tableOf_getD h loc n m i hi, V]

theorem Vrow_zero (h : HMM S) (loc : Bool) (m : Nat) : Vrow h loc m 0 = rowOf h loc m 0 none := rfl
theorem Vrow_succ (h : HMM S) (loc : Bool) (m i : Nat) :
    Vrow h loc m (i + 1) = rowOf h loc m (i + 1) (some (Vrow h loc m i)) := rfl

theorem V_eq_nth (h : HMM S) (loc : Bool) (m i j : Nat) (hj : j ≤ m) :
    V h loc m i j = nthScan (rowStep h loc i (match i with | 0 => none | k + 1 => some (Vrow h loc m k))) j := by
  cases i <;> exact scanList_getD _ _ _ _ hj

/-- the cell-level Bellman equation: cell `(i, j)` is `cellOf` of its three neighbours -/
theorem V_cell (h : HMM S) (loc : Bool) (m i j : Nat) (hj : j ≤ m) :
    V h loc m i j = cellOf h loc i j
      (if i = 0 ∨ j = 0 then [] else V h loc m (i - 1) (j - 1))
      (if i = 0 then [] else V h loc m (i - 1) j)
      (if j = 0 then [] else V h loc m i (j - 1)) := by
  -- in each of the four corners the `if`s on `i`, `j` are decided and what is left is the definition of `rowStep`
  cases j with
  | zero => rw [V_eq_nth h loc m i 0 hj]; cases i <;> rfl
  | succ j' =>
    rw [V_eq_nth h loc m i (j' + 1) hj, nthScan, ← V_eq_nth h loc m i j' (Nat.le_of_succ_le hj)]
    cases i <;> rfl

theorem cellEntries_length (h : HMM S) (loc : Bool) (i j : Nat) (diag up left : Cell S) (ds : List (Bool × Bool)) (s : Nat) :
    (cellEntries h loc i j diag up left ds s).length = ds.length := by
  induction ds generalizing s with
  | nil => rfl
  | cons d r ih => simp [cellEntries, ih]

theorem cellEntries_getD (h : HMM S) (loc : Bool) (i j : Nat) (diag up left : Cell S) (ds : List (Bool × Bool)) (s q : Nat)
    (hq : q < ds.length) (dflt : Option S × Nat) :
    (cellEntries h loc i j diag up left ds s).getD q dflt =
      cellEntry h loc i j (q + s) (ds.getD q (false, false)) (pickSrc (ds.getD q (false, false)) diag up left) := by
  induction ds generalizing s q with
  | nil => simp at hq
  | cons d r ih =>
    cases q with
    | zero => rw [Nat.zero_add]; rfl
    | succ q =>
      rw [Nat.add_right_comm]
      exact ih (s + 1) q (Nat.lt_of_succ_lt_succ hq)

theorem cellOf_length (h : HMM S) (loc : Bool) (i j : Nat) (diag up left : Cell S) :
    (cellOf h loc i j diag up left).length = h.k := by
  rw [cellOf]
  split
  · exact cellEntries_length ..
  · exact List.length_map ..

theorem cellOf_getD (h : HMM S) (loc : Bool) (i j : Nat) (diag up left : Cell S) (q : Nat) (hq : q < h.k)
    (dflt : Option S × Nat) :
    (cellOf h loc i j diag up left).getD q dflt =
      if cellOK loc i j then cellEntry h loc i j (q + 1) (h.dir (q + 1)) (pickSrc (h.dir (q + 1)) diag up left)
      else (none, 0) := by
  rw [cellOf]
  split
  · exact cellEntries_getD _ _ _ _ _ _ _ _ _ q hq dflt
  · rw [List.getD_eq_getElem?_getD, List.getElem?_map, List.getElem?_eq_getElem hq]; rfl

theorem V_length (h : HMM S) (loc : Bool) (m i j : Nat) (hj : j ≤ m) : (V h loc m i j).length = h.k := by
  rw [V_cell h loc m i j hj]; exact cellOf_length ..

theorem tableOf_getElem? {h : HMM S} {loc : Bool} {n m a : Nat} {row : List (Cell S)} :
    (tableOf h loc n m)[a]? = some row ↔ a ≤ n ∧ row = Vrow h loc m a := by
  rw [getElem?_eq_some_getD [], tableOf_length, Nat.lt_succ_iff]
  exact and_congr_right fun ha => by rw [tableOf_getD h loc n m a ha]

theorem Vrow_getElem? {h : HMM S} {loc : Bool} {m a b : Nat} {cell : Cell S} :
    (Vrow h loc m a)[b]? = some cell ↔ b ≤ m ∧ cell = V h loc m a b := by
  rw [getElem?_eq_some_getD [], Vrow_length, Nat.lt_succ_iff]; rfl

/-- position `q` of a cell holds the entry of state `q + 1` -/
theorem V_getElem? {h : HMM S} {loc : Bool} {m a b q : Nat} {x : Option S × Nat} (hb : b ≤ m) :
    (V h loc m a b)[q]? = some x ↔ q < h.k ∧ x = (V h loc m a b).getD q (none, h.errId) := by
  rw [getElem?_eq_some_getD (none, h.errId), V_length h loc m a b hb]

/-- the source cell a state reads, as a function of the table -/
theorem pickSrc_V (h : HMM S) (loc : Bool) (m i j : Nat) (d : Bool × Bool) (hd : (d.1 || d.2) = true)
    (hi : d.1.toNat ≤ i) (hj : d.2.toNat ≤ j) :
    pickSrc d (if i = 0 ∨ j = 0 then [] else V h loc m (i - 1) (j - 1)) (if i = 0 then [] else V h loc m (i - 1) j)
      (if j = 0 then [] else V h loc m i (j - 1)) = V h loc m (i - d.1.toNat) (j - d.2.toNat) := by
  obtain ⟨dx, dy⟩ := d
  cases dx <;> cases dy
  · cases hd
  · exact if_neg (Nat.ne_of_gt hj)
  · exact if_neg (Nat.ne_of_gt hi)
  · exact if_neg (not_or.mpr ⟨Nat.ne_of_gt hi, Nat.ne_of_gt hj⟩)

/-- the entry-level Bellman equation -/
theorem V_entry (h : HMM S) (loc : Bool) (m i j s : Nat) (hj : j ≤ m) (hs : IsState h s) (dflt : Option S × Nat) :
    (V h loc m i j).getD (s - 1) dflt =
      if cellOK loc i j then
        cellEntry h loc i j s (h.dir s) (V h loc m (i - (h.dir s).1.toNat) (j - (h.dir s).2.toNat))
      else (none, 0) := by
  obtain ⟨hs1, hsk, hd⟩ := hs
  obtain ⟨q, rfl⟩ : ∃ q, s = q + 1 := ⟨s - 1, (Nat.sub_add_cancel hs1).symm⟩
  rw [V_cell h loc m i j hj, Nat.add_sub_cancel, cellOf_getD _ _ _ _ _ _ _ q hsk]
  by_cases hi : (i < (h.dir (q + 1)).1.toNat ∨ j < (h.dir (q + 1)).2.toNat)
  · simp only [cellEntry, if_pos hi]
  · rw [pickSrc_V h loc m i j _ hd (Nat.le_of_not_lt fun h => hi (Or.inl h)) (Nat.le_of_not_lt fun h => hi (Or.inr h))]

end CogentModel.PairHMM
