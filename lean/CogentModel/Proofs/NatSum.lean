/-! Sums of natural numbers over `0..n-1` and the invariant they serve.  NJ and UPGMA both keep slots of clusters;
"every label is a tip of exactly one cluster, once" (`TipsOnce`) is a statement about the slot-wise sum of the
occurrence counts, kept by the two things the algorithms do to slots: one slot takes over another (`tipsOnce_merge`),
an emptied slot is refilled from the last one (`tipsOnce_move`). -/
namespace CogentModel

def nsum : Nat → (Nat → Nat) → Nat
  | 0, _ => 0
  | n + 1, f => nsum n f + f n

theorem nsum_congr (n : Nat) (f g : Nat → Nat) (h : ∀ k, k < n → f k = g k) : nsum n f = nsum n g := by
  induction n with
  | zero => rfl
  | succ n ih => simp only [nsum]; rw [ih fun k hk => h k (by omega), h n (by omega)]

theorem nsum_update (n j v : Nat) (f : Nat → Nat) (hj : j < n) :
    nsum n (fun a => if a = j then v else f a) + f j = nsum n f + v := by
  induction n with
  | zero => exact absurd hj (Nat.not_lt_zero j)
  | succ n ih =>
    simp only [nsum]
    by_cases hjn : j = n
    · subst hjn
      rw [if_pos rfl, nsum_congr j _ f fun k hk => if_neg (Nat.ne_of_lt hk), Nat.add_right_comm]
    · rw [if_neg fun e => hjn e.symm, Nat.add_right_comm, ih (Nat.lt_of_le_of_ne (Nat.le_of_lt_succ hj) hjn),
        Nat.add_right_comm]

theorem nsum_pos_iff (n : Nat) (f : Nat → Nat) : 0 < nsum n f ↔ ∃ a, a < n ∧ 0 < f a := by
  induction n with
  | zero => exact ⟨fun h => absurd h (Nat.lt_irrefl 0), fun ⟨_, h, _⟩ => absurd h (Nat.not_lt_zero _)⟩
  | succ n ih =>
    simp only [nsum]
    rw [Nat.add_pos_iff_pos_or_pos, ih]
    constructor
    · rintro (⟨a, ha, hfa⟩ | h)
      · exact ⟨a, Nat.lt_succ_of_lt ha, hfa⟩
      · exact ⟨n, Nat.lt_succ_self n, h⟩
    · rintro ⟨a, ha, hfa⟩
      by_cases han : a = n
      · exact Or.inr (han ▸ hfa)
      · exact Or.inl ⟨a, Nat.lt_of_le_of_ne (Nat.le_of_lt_succ ha) han, hfa⟩

theorem nsum_eq_zero (n : Nat) (f : Nat → Nat) (h : ∀ a, a < n → f a = 0) : nsum n f = 0 := by
  have : ¬ 0 < nsum n f := fun hp => by
    obtain ⟨a, ha, hfa⟩ := (nsum_pos_iff n f).1 hp
    have := h a ha
    omega
  omega

theorem nsum_single (n i : Nat) (f : Nat → Nat) (hi : i < n) (h : ∀ a, a < n → a ≠ i → f a = 0) :
    nsum n f = f i := by
  have h1 := nsum_update n i 0 f hi
  have h2 := nsum_eq_zero n (fun a => if a = i then 0 else f a) fun a ha => by
    by_cases hai : a = i
    · exact if_pos hai
    · rw [if_neg hai]; exact h a ha hai
  omega

theorem nsum_indicator (n x : Nat) : nsum n (fun a => if a = x then 1 else 0) = if x < n then 1 else 0 := by
  by_cases hx : x < n
  · rw [if_pos hx, nsum_single n x _ hx fun a _ hax => if_neg hax, if_pos rfl]
  · rw [if_neg hx]
    exact nsum_eq_zero n _ fun a ha => if_neg (by omega)

/-- the slots `0..L-1` hold lists of labels; every label `< n` occurs exactly once among them, nothing else occurs -/
def TipsOnce (n L : Nat) (tp : Nat → List Nat) : Prop :=
  ∀ x, nsum L (fun a => (tp a).count x) = if x < n then 1 else 0

theorem tipsOnce_congr {n L : Nat} {tp tp' : Nat → List Nat} (h : ∀ a, a < L → tp' a = tp a)
    (hT : TipsOnce n L tp) : TipsOnce n L tp' := fun x =>
  (nsum_congr L _ _ fun a ha => by rw [h a ha]).trans (hT x)

theorem tipsOnce_init (n : Nat) : TipsOnce n n fun a => [a] := fun x =>
  (nsum_congr n _ _ fun a _ => by simp only [List.count_singleton, beq_iff_eq]).trans (nsum_indicator n x)

/-- slot `i` takes over the labels of slot `j` -/
theorem tipsOnce_merge {n L i j : Nat} {tp : Nat → List Nat} (hi : i < L) (hj : j < L) (hij : i ≠ j)
    (hT : TipsOnce n L tp) :
    TipsOnce n L fun a => if a = j then [] else if a = i then tp i ++ tp j else tp a := by
  intro x
  rw [← hT x]
  have hc : ∀ a, a < L → (if a = j then [] else if a = i then tp i ++ tp j else tp a).count x
      = if a = j then 0 else if a = i then (tp i).count x + (tp j).count x else (tp a).count x :=
    fun a _ => by rw [apply_ite (List.count x), apply_ite (List.count x), List.count_append]; rfl
  have h1 := nsum_update L j 0 (fun a => if a = i then (tp i).count x + (tp j).count x else (tp a).count x) hj
  have h2 := nsum_update L i ((tp i).count x + (tp j).count x) (fun a => (tp a).count x) hi
  rw [if_neg (Ne.symm hij)] at h1
  rw [nsum_congr L _ _ hc]
  omega

/-- an empty slot `j` is refilled from the last slot, which is dropped -/
theorem tipsOnce_move {n L j : Nat} {tp : Nat → List Nat} (hj : j < L) (hnil : tp j = [])
    (hT : TipsOnce n L tp) : TipsOnce n (L - 1) fun a => tp (if a = j then L - 1 else a) := by
  intro x
  rw [← hT x]
  cases L with
  | zero => exact absurd hj (Nat.not_lt_zero j)
  | succ M =>
    have hc : ∀ a, (tp (if a = j then M else a)).count x = if a = j then (tp M).count x else (tp a).count x :=
      fun a => apply_ite (fun k => (tp k).count x) _ _ _
    show nsum M (fun a => (tp (if a = j then M else a)).count x) = nsum M _ + (tp M).count x
    rw [nsum_congr M _ _ fun a _ => hc a]
    by_cases hjM : j = M
    · rw [← hjM, hnil]
      exact nsum_congr j _ _ fun a ha => if_neg (Nat.ne_of_lt ha)
    · have h := nsum_update M j ((tp M).count x) (fun a => (tp a).count x)
        (Nat.lt_of_le_of_ne (Nat.le_of_lt_succ hj) hjM)
      rwa [hnil] at h

/-- a count that is right for every label puts every label somewhere and nothing else anywhere -/
theorem tipsOnce_mem {n L : Nat} {tp : Nat → List Nat} (hT : TipsOnce n L tp) :
    (∀ x, x < n → ∃ a, a < L ∧ x ∈ tp a) ∧ ∀ a, a < L → ∀ x ∈ tp a, x < n := by
  constructor
  · intro x hx
    have := hT x
    rw [if_pos hx] at this
    obtain ⟨a, ha, hc⟩ := (nsum_pos_iff _ _).1 (by omega : 0 < nsum L fun a => (tp a).count x)
    exact ⟨a, ha, List.count_pos_iff.1 hc⟩
  · intro a ha x hx
    refine Decidable.byContradiction fun hxn => ?_
    have := hT x
    rw [if_neg hxn] at this
    have hpos := (nsum_pos_iff L fun a => (tp a).count x).2 ⟨a, ha, List.count_pos_iff.2 hx⟩
    omega

/-- if only slot `a` is occupied it lists the labels -/
theorem tipsOnce_single {n L a : Nat} {tp : Nat → List Nat} (hT : TipsOnce n L tp) (ha : a < L)
    (h : ∀ b, b < L → b ≠ a → tp b = []) : (tp a).Perm (List.range n) := by
  rw [List.perm_iff_count]
  intro x
  rw [List.count_range, ← hT x, nsum_single L a _ ha fun b hb hba => by rw [h b hb hba]; rfl]

end CogentModel
