import CogentModel.Proofs.ViewCoords
import CogentModel.Model.FeatureSeq
/-! C04: copy(sliced) keeps what every feature denotes; the new-style _mapped guard. -/
namespace CogentModel.FeatureView
open CogentModel.View CogentModel.SeqWrap

theorem mk_full_fwd (L off : Int) (hL : 0 < L) :
    mk L none none (some 1) off = .ok { start := 0, stop := L, step := 1, offset := off, seqLen := L } := by
  have a1 : ¬ (L < 0) := by omega
  have a3 : ¬ (L ≤ 0) := by omega
  simp [mk, inputValsPos, pyabs, hL, a1, a3]

theorem mk_full_rev (L off : Int) (hL : 0 < L) :
    mk L none none (some (-1)) off = .ok { start := -1, stop := -L - 1, step := -1, offset := off, seqLen := L } := by
  have a1 : ¬ ((-1 : Int) < -L - 1) := by omega
  simp [mk, inputValsNeg, inputValsNegTail, a1]

/-- on a unit view the truncated parent has `len v` letters and the copy's offset is the segment start -/
theorem copyView_unit (v : View) (h : UnitView v) :
    copyView v = mk (len v) none none (some v.step) (segStart v) := by
  unfold copyView richDictBounds
  rw [parentStart_unit v h]
  rcases unit_cases v h with ⟨hs, -, hn, -⟩ | ⟨hs, -, hn, -⟩ <;> rw [hs, hn]
  · rfl
  · rw [if_pos (by decide)]; dsimp only; congr 1; omega

theorem copyView_spec (v : View) (h : UnitView v) (hl : 0 < len v) :
    ∃ w, copyView v = .ok w ∧ UnitView w ∧ segStart w = segStart v ∧ len w = len v ∧ w.step = v.step := by
  rw [copyView_unit v h]
  rcases h.2 with hs | hs <;> rw [hs]
  · have hu : UnitView { start := 0, stop := len v, step := 1, offset := segStart v, seqLen := len v } :=
      ⟨⟨by simp only []; omega, .inl ⟨by simp only []; omega, by simp only []; omega, by simp only []; omega, by simp only []; omega⟩⟩, .inl rfl⟩
    exact ⟨_, mk_full_fwd _ _ hl, hu, by rw [segStart]; simp, by rw [len_unit _ hu]; simp, rfl⟩
  · have hu : UnitView { start := -1, stop := -len v - 1, step := -1, offset := segStart v, seqLen := len v } :=
      ⟨⟨by simp only []; omega, .inr ⟨by simp only []; omega, by simp only []; omega, by simp only []; omega, by simp only []; omega⟩⟩, .inr rfl⟩
    exact ⟨_, mk_full_rev _ _ hl, hu, by rw [segStart]; simp; omega, by rw [len_unit _ hu]; simp; omega, rfl⟩

theorem getSliceNew_err (comp : Char → Char) (s : Seq) (f : Feat) (a b : Int)
    (h1 : realOf f.spans = [(a, b)]) (h2 : a ≠ 0) (h3 : s.v.offset ≠ 0) :
    getSliceNew comp s f = .error .valueError := by
  unfold getSliceNew; rw [h1]; simp [h2, h3]

theorem getSliceNew_ok (comp : Char → Char) (s : Seq) (f : Feat)
    (h : ¬ ∃ a b, realOf f.spans = [(a, b)] ∧ a ≠ 0 ∧ s.v.offset ≠ 0) :
    getSliceNew comp s f = .ok (getSlice comp s f) := by
  unfold getSliceNew
  split
  · rename_i a b heq
    have : ¬ (a ≠ 0 ∧ s.v.offset ≠ 0) := fun hc => h ⟨a, b, heq, hc.1, hc.2⟩
    simp only [this, if_false]
  · rfl

end CogentModel.FeatureView
