/-
  C04, translator tie: every definition GENERATED by translator/c04_feature2lean.py from the current python source of
  `Sequence.get_features` (with `parent_coordinates` inlined) / `Sequence.make_feature` / `Sequence.add_feature`
  (core/sequence.py -> GenOld, core/new_sequence.py -> GenNew) and of `_spans_from_locations` /
  `MapABC.from_locations` / `FeatureMap.nucleic_reversed` (core/location.py -> GenLoc) equals the hand model
  (`Model/FeatureView.lean`, `Model/FeatureAdd.lean`) FOR ALL ARGUMENTS, so the theorems of Props/C04.lean are theorems
  about the translated code (three of them are restated on the generated definitions below).  A semantic edit of the
  python changes `Gen/C04Feature.lean` and one of these proofs stops checking.
-/
import CogentModel.Gen.C04Feature
import CogentModel.Proofs.C04GenAux
import CogentModel.Props.C04
namespace CogentModel.C04
open CogentModel.View CogentModel.FeatureView CogentModel.FeatureSpec CogentModel.C04Gen

-- `Int.sub_zero` is listed in simp calls that find nothing to rewrite with it on the present translation: a `x - 0`
-- written into the python does not change what it computes and must not break the tie
set_option linter.unusedSimpArgs false

/-- `location._spans_from_locations` as translated = `spansFromLocations` of the hand model (every location list, every length) -/
theorem gen_spans_from_locations_eq (locs : List (Int × Int)) (L : Int) :
    GenLoc.spansFromLocations locs L = FeatureView.spansFromLocations L locs := by
  unfold GenLoc.spansFromLocations FeatureView.spansFromLocations
  cases locs with
  | nil => rfl
  | cons p ps =>
    rw [if_neg (not_not.mpr (length_cons_ne_zero p ps)), mapExcept_congr (g := locate L)]
    · exact if_congr (firstLast_cons p ps) rfl (by cases mapExcept (locate L) (p :: ps) <;> rfl)
    · intro x
      -- the only difference: `abs(diff)` where `diff = end - parent_length > 0`
      by_cases h : x.2 > L
      · simp only [locate, h, if_true, pyabs_of_nonneg (Int.le_of_lt (Int.sub_pos_of_lt h)), List.nil_append]
      · simp only [locate, h, if_false, List.nil_append]


example : GenLoc.spansFromLocations [(1, 3), (4, 9)] 6 = .ok [.span 1 3, .span 4 6, .lost 3] ∧
    GenLoc.spansFromLocations [(4, 9), (1, 3)] 6 = .error .valueError ∧
    GenLoc.spansFromLocations [(7, 9)] 6 = .error .runtimeError := by decide +kernel

/-- `MapABC.from_locations` as translated (for a FeatureMap) -/
theorem gen_from_locations_eq (locs : List (Int × Int)) (L : Int) :
    GenLoc.fromLocations locs L =
      (match FeatureView.spansFromLocations L locs with
       | .error e => .error e
       | .ok m => .ok (FMapG.mk m L)) := by
  unfold GenLoc.fromLocations
  rw [gen_spans_from_locations_eq]
  cases locs with
  | nil => rfl
  | cons p ps =>
    rw [if_pos (length_cons_ne_zero p ps)]
    cases FeatureView.spansFromLocations L (p :: ps) <;> rfl


example : GenLoc.fromLocations [] 6 = .ok ⟨[], 6⟩ ∧ GenLoc.fromLocations [(1, 3), (4, 9)] 6 = .ok ⟨[.span 1 3, .span 4 6, .lost 3], 6⟩ := by decide +kernel

/-- `FeatureMap.nucleic_reversed` as translated = `revSpan` on every span, then reversed -/
theorem gen_nucleic_reversed_eq (fm : FMapG) :
    GenLoc.nucleicReversed fm =
      (match mapExcept (revSpan fm.parentLength) fm.spans with
       | .error e => .error e
       | .ok r => .ok (FMapG.mk r.reverse fm.parentLength)) := by
  unfold GenLoc.nucleicReversed
  simp only []
  rw [mapExcept_congr (g := fun x => okSingle (revSpan fm.parentLength x)), mapExcept_single]
  · cases mapExcept (revSpan fm.parentLength) fm.spans
    · rfl
    · simp only [flatten_map_single]
  · rintro (⟨s, e⟩ | n)
    · show (if ¬fm.parentLength - e ≥ 0 then _ else _) = okSingle (if fm.parentLength - e < 0 then _ else _)
      rw [apply_ite okSingle]
      exact if_congr Int.not_le rfl rfl
    · rfl


example : GenLoc.nucleicReversed ⟨[.lost 2, .span 0 3, .span 5 6], 8⟩ = .ok ⟨[.span 2 3, .span 5 8, .lost 2], 8⟩ := by decide +kernel

theorem gen_makeFeature_old_eq (v : View) (minus : Bool) (spans : List (Int × Int)) :
    GenOld.makeFeature v minus spans = FeatureView.makeFeature (len v) (isReversed v) minus spans := by
  unfold GenOld.makeFeature FeatureView.makeFeature
  have hpre : (if minOfSpans spans < 0 then pyabs (minOfSpans spans) else 0) =
      if minOfSpans spans < 0 then -minOfSpans spans else 0 := by
    split
    · next h => exact pyabs_of_neg h
    · rfl
  have hpost : (if maxOfSpans spans > len v then pyabs (maxOfSpans spans - len v) else 0) =
      if maxOfSpans spans > len v then maxOfSpans spans - len v else 0 := by
    split
    · next h => exact pyabs_of_nonneg (Int.le_of_lt (Int.sub_pos_of_lt h))
    · rfl
  simp only [Int.sub_zero, hpre, hpost]
  rw [mapExcept_congr (g := fun c => .ok ((clipSpan (len v) c).toList))]
  · rw [mapExcept_eq_map _ _ _ fun _ _ => rfl]
    simp only [flatten_map_toList, gen_from_locations_eq]
    cases FeatureView.spansFromLocations (len v) (List.filterMap (clipSpan (len v)) spans) with
    | error e => rfl
    | ok m =>
      simp only [gen_nucleic_reversed_eq, FMapG.ite_mk, padLost_eq, strandFlag_eq]
      cases isReversed v
      · rfl
      · simp only [if_true]
        cases mapExcept (revSpan (len v)) _ <;> rfl
  · intro c
    simp only [clipSpan, apply_ite Option.toList, apply_ite Except.ok, List.nil_append, Option.toList_some,
      Option.toList_none]

-- core/new_sequence.py carries the same code as core/sequence.py: each `new` theorem unfolds both translations to the
-- same term
theorem gen_makeFeature_new_eq (v : View) (minus : Bool) (spans : List (Int × Int)) :
    GenNew.makeFeature v minus spans = FeatureView.makeFeature (len v) (isReversed v) minus spans := by
  simp only [← gen_makeFeature_old_eq, GenNew.makeFeature, GenOld.makeFeature, Int.sub_zero]

theorem gen_queryWindow_old_eq (v : View) (start stop : Option Int) :
    GenOld.queryWindow v start stop = FeatureView.queryWindow v start stop := by
  unfold GenOld.queryWindow FeatureView.queryWindow
  simp only [Int.sub_zero, isReversed, decide_eq_true_eq, strand_eq_neg_one]
  generalize liftErr (absolutePosition v _ false) = A, liftErr (absolutePosition v _ true) = B
  cases A <;> cases B <;> try rfl
  dsimp only
  split <;> rfl

theorem gen_queryWindow_new_eq (v : View) (start stop : Option Int) :
    GenNew.queryWindow v start stop = FeatureView.queryWindow v start stop := by
  simp only [← gen_queryWindow_old_eq, GenNew.queryWindow, GenOld.queryWindow, Int.sub_zero]

theorem gen_featureOnView_old_eq (v : View) (minus : Bool) (dbSpans : List (Int × Int)) :
    GenOld.featureOnView v minus dbSpans = FeatureView.featureOnView v minus dbSpans := by
  unfold GenOld.featureOnView FeatureView.featureOnView
  simp only [Int.sub_zero, relSpans_mapCoords_eq, gen_makeFeature_old_eq, isReversed, decide_eq_true_eq,
    strand_eq_neg_one]
  rw [mapCoords_congr (g := fun c => liftErr (relativePosition v c false))]
  · cases mapCoords (fun c => liftErr (relativePosition v c false)) dbSpans <;> rfl
  · intro c; cases liftErr (relativePosition v c false) <;> rfl

theorem gen_featureOnView_new_eq (v : View) (minus : Bool) (dbSpans : List (Int × Int)) :
    GenNew.featureOnView v minus dbSpans = FeatureView.featureOnView v minus dbSpans := by
  simp only [← gen_featureOnView_old_eq, GenNew.featureOnView, GenOld.featureOnView, gen_makeFeature_new_eq,
    gen_makeFeature_old_eq, Int.sub_zero]


example : GenOld.makeFeature { start := 2, stop := 8, step := 1, offset := 0, seqLen := 10 } true [(-2, 1), (2, 3), (5, 9)] =
      .ok { spans := [.lost 2, .span 0 1, .span 2 3, .span 5 6, .lost 3], reversed := true } ∧
    GenNew.makeFeature { start := -3, stop := -9, step := -1, offset := 0, seqLen := 10 } true [(-2, 1), (2, 3), (5, 9)] =
      .ok { spans := [.lost 3, .span 0 1, .span 3 4, .span 5 6, .lost 2], reversed := false } := by decide +kernel

/-- `feature_positions_on_view` restated on the TRANSLATED code: on every unit-stride view satisfying C01's invariant
the code translated from `get_features` / `make_feature` builds the feature without exception and the positions read by
`get_slice` are exactly `denote` (feature spans ∩ retained segment, in reading order). -/
theorem generated_feature_positions_on_view (v : View) (h : UnitView v) (hl : 0 < len v) (minus : Bool)
    (spans : List (Int × Int)) (hsp : ∀ sp ∈ spans, 0 ≤ sp.1 ∧ sp.1 < sp.2)
    (hsorted : spans.Pairwise (fun a b => a.1 ≤ b.1)) :
    ∃ f, GenOld.featureOnView v minus spans = .ok f ∧ GenNew.featureOnView v minus spans = .ok f ∧
      slicePositions v f = denote spans minus (segStart v) (segStart v + len v) := by
  obtain ⟨f, hf, hs⟩ := feature_positions_on_view v h hl minus spans hsp hsorted
  exact ⟨f, by rw [gen_featureOnView_old_eq, hf], by rw [gen_featureOnView_new_eq, hf], hs⟩

example : (match GenOld.featureOnView { start := -3, stop := -8, step := -1, offset := 5, seqLen := 8 } false [(5, 8), (9, 12)] with
      | .ok f => slicePositions { start := -3, stop := -8, step := -1, offset := 5, seqLen := 8 } f == ([6, 7, 9, 10], false)
      | .error _ => false) = true := by
  decide +kernel

/-- `query_window_exact` restated on the TRANSLATED window arithmetic of `get_features` -/
theorem generated_query_window_exact (v : View) (h : UnitView v) (a b : Int) (ha : 0 ≤ a) (hab : a < b) (hb : b ≤ len v)
    (hoff : 0 ≤ v.offset) :
    GenOld.queryWindow v (some a) (some b) =
      .ok (if v.step < 0 then (segStart v + (len v - b), segStart v + (len v - a))
           else (segStart v + a, segStart v + b)) ∧
    GenNew.queryWindow v (some a) (some b) = GenOld.queryWindow v (some a) (some b) := by
  rw [gen_queryWindow_new_eq, gen_queryWindow_old_eq]
  exact ⟨query_window_exact v h a b ha hab hb hoff, rfl⟩

example : GenNew.queryWindow { start := -3, stop := -9, step := -1, offset := 5, seqLen := 10 } (some 1) (some 4) = .ok (9, 12) := by
  decide +kernel

/-! ## `Sequence.add_feature` (translated whole: the db record AND the returned Feature) -/

/-- `Sequence.add_feature` of core/sequence.py as translated (with the inlined `annotation_offset` property =
`self._seq.parent_start`) = the hand model `addFeature` (Model/FeatureAdd.lean), every view, span list and strand -/
theorem gen_addFeature_old_eq (v : View) (spans : List (Int × Int)) (minus : Bool) :
    GenOld.addFeature v spans minus = FeatureView.addFeature v spans minus := by
  unfold GenOld.addFeature FeatureView.addFeature addFeatureRecord addRelSpans
  simp only [Int.sub_zero, gen_makeFeature_old_eq, sortRows_eq, isReversed]
  by_cases h : v.step < 0
  · simp only [h, decide_true, if_true]
    cases parentStart v with
    | error e => cases e <;> rfl
    | ok off => cases minus <;> simp [liftErr] <;> rfl
  · simp only [h, decide_false, if_false]
    cases parentStart v with
    | error e => cases e <;> simp [liftErr]
    | ok off => simp [liftErr]; rfl

theorem gen_addFeature_new_eq (v : View) (spans : List (Int × Int)) (minus : Bool) :
    GenNew.addFeature v spans minus = FeatureView.addFeature v spans minus := by
  simp only [← gen_addFeature_old_eq, GenNew.addFeature, GenOld.addFeature, gen_makeFeature_new_eq,
    gen_makeFeature_old_eq, Int.sub_zero]


-- `s[3:11].rc()` of a 15-mer: spans (1,3),(5,8) as seen on the view; record in absolute plus-strand coordinates, strand
-- flipped; the returned feature has exactly the spans given and is not reversed relative to the view
example : GenOld.addFeature { start := -5, stop := -13, step := -1, offset := 0, seqLen := 15 } [(1, 3), (5, 8)] false
    = .ok (([(3, 6), (8, 10)], true), { spans := [.span 1 3, .span 5 8], reversed := false }) := by decide +kernel

/-- `added_feature_denotes_view_spans` restated on the TRANSLATED code, and extended to the Feature `add_feature`
itself returns: on every unit-stride view (forward / rc'd, sliced, with offset) the translated `add_feature` does not
raise, the Feature it returns IS the feature the translated `get_features` loop builds from the record it wrote
(old and new module), its real spans are exactly the spans given and it is reversed iff the strand given is `-`. -/
theorem generated_added_feature_denotes_view_spans (v : View) (h : UnitView v) (hl : 0 < len v) (hoff : 0 ≤ v.offset)
    (minus : Bool) (spans : List (Int × Int)) (hs : ViewSpans (len v) spans) :
    ∃ db dm f, GenOld.addFeature v spans minus = .ok ((db, dm), f) ∧ GenNew.addFeature v spans minus = .ok ((db, dm), f) ∧
      GenOld.featureOnView v dm db = .ok f ∧ GenNew.featureOnView v dm db = .ok f ∧
      sliceIdx f = spans.flatMap (fun sp => seg sp.1 sp.2) ∧ f.reversed = minus := by
  obtain ⟨db, dm, f, h1, h2, h3, h4⟩ := added_feature_returned_is_requeried v h hl hoff minus spans hs
  exact ⟨db, dm, f, by rw [gen_addFeature_old_eq, h1], by rw [gen_addFeature_new_eq, h1],
    by rw [gen_featureOnView_old_eq, h2], by rw [gen_featureOnView_new_eq, h2], h3, h4⟩

example : (match GenNew.addFeature { start := 3, stop := 11, step := 1, offset := 4, seqLen := 15 } [(1, 3), (5, 8)] true with
      | .ok ((db, dm), f) => db == [(8, 10), (12, 15)] && dm && GenNew.featureOnView { start := 3, stop := 11, step := 1, offset := 4, seqLen := 15 } dm db == .ok f
      | .error _ => false) = true := by
  decide +kernel

end CogentModel.C04
