import CogentModel.Model.Prune
import CogentModel.Proofs.Prune
import CogentModel.Proofs.PruneCompress
import CogentModel.Proofs.PruneCongruence
import CogentModel.Proofs.PruneRename
import CogentModel.Proofs.PruneReroot
import CogentModel.Props.C02
/-! # C11 — the likelihood is invariant under relabelling, reordering and re-rooting

Same model as C02 (`Model/Prune.lean`, the definitions the drivers execute).  `g` below stands for
`log ∘ (column likelihood)`; it is an arbitrary function into an additive commutative monoid, so
the statements hold whatever `log` is.  Columns are the motif-sized blocks of the alignment. -/
namespace CogentModel.C11
open CogentModel.Prune

/-- Permuting the alignment columns (motif blocks) leaves the computed total — compression by
`_indexed` included — unchanged. -/
theorem lnl_column_perm {κ S : Type} [DecidableEq κ] [AddCommMonoid S] (g : κ → S) {cols cols' : List κ}
    (h : cols.Perm cols') : lnLCompressed g cols = lnLCompressed g cols' := by
  rw [C02.compress_sum, C02.compress_sum]
  exact (h.map g).sum_eq

example : lnLCompressed (fun k : Nat => 10 * k) [3, 1, 3, 2] = lnLCompressed (fun k : Nat => 10 * k) [2, 3, 3, 1] := by decide +kernel
example : [3, 1, 3, 2].Perm [2, 3, 3, 1] := by decide +kernel

/-- Repeating every column `k` times (in place) multiplies the total by `k`. -/
theorem lnl_repeat_k {κ S : Type} [DecidableEq κ] [AddCommMonoid S] (g : κ → S) (k : Nat) (cols : List κ) :
    lnLCompressed g (cols.flatMap (List.replicate k)) = k • lnLCompressed g cols := by
  rw [C02.compress_sum, C02.compress_sum]
  induction cols with
  | nil => simp [lnLPlain]
  | cons c cs ih =>
    simp only [lnLPlain] at ih ⊢
    simp only [List.flatMap_cons, List.map_append, List.sum_append, List.map_replicate,
      List.sum_replicate, List.map_cons, List.sum_cons, ih, nsmul_add]

/-- Concatenating `k` copies of the alignment multiplies the total by `k`. -/
theorem lnl_repeat_alignment {κ S : Type} [DecidableEq κ] [AddCommMonoid S] (g : κ → S) (k : Nat) (cols : List κ) :
    lnLCompressed g (List.replicate k cols).flatten = k • lnLCompressed g cols := by
  rw [C02.compress_sum, C02.compress_sum]
  simp only [lnLPlain, List.map_flatten, List.map_replicate, List.sum_flatten, List.sum_replicate]

example : lnLCompressed (fun k : Nat => 10 * k) ([3, 1, 2].flatMap (List.replicate 3)) = 180 := by decide +kernel

/-- Merging identical columns (what `_indexed` does) or not merging them gives the same total. -/
theorem lnl_merge_duplicates {κ S : Type} [DecidableEq κ] [AddCommMonoid S] (g : κ → S) (cols : List κ) :
    lnLCompressed g cols = lnLPlain g cols :=
  C02.compress_sum g cols

/-- Reordering the children of any set of nodes, at any depth, leaves the column likelihood unchanged. -/
theorem lh_child_reorder {R α : Type} [CommSemiring R] (m : Nat) (π : Nat → R) (prof : α → Nat → R)
    {t t' : PTree R α} (h : Reorder t t') : lh m π prof t = lh m π prof t' := by
  cases h with
  | leaf P a => rfl
  | node P cs ds cs' hl hp =>
    exact dot_congr m π fun s _ => (congrArg (·.get s) (prodUp_reorderL m prof hl)).trans (prodUp_perm m prof hp s)

def exP : Mat Nat := fun i j => if i = j then 3 else 1
def exA : PTree Nat Nat := .node exP [.leaf exP 0, .node exP [.leaf exP 1, .leaf exP 2], .leaf exP 3]
def exB : PTree Nat Nat := .node exP [.node exP [.leaf exP 2, .leaf exP 1], .leaf exP 3, .leaf exP 0]
example : Reorder exA exB :=
  .node _ _ [.leaf exP 0, .node exP [.leaf exP 2, .leaf exP 1], .leaf exP 3] _
    (.cons _ _ _ _ (.leaf _ _) (.cons _ _ _ _
      (.node _ _ [.leaf exP 1, .leaf exP 2] _ (.cons _ _ _ _ (.leaf _ _) (.cons _ _ _ _ (.leaf _ _) .nil))
        (List.Perm.swap _ _ _))
      (.cons _ _ _ _ (.leaf _ _) .nil)))
    (List.perm_append_comm (l₁ := [PTree.leaf exP 0]))

/-- Renaming the tips together with the alignment rows leaves the likelihood unchanged: leaves get
their data by name only. -/
theorem lh_leaf_relabel {R α β : Type} [CommSemiring R] (m : Nat) (π : Nat → R) (prof : β → Nat → R)
    (f : α → β) (t : PTree R α) : lh m π prof (t.mapLeaves f) = lh m π (fun a => prof (f a)) t := by
  rw [lh_eq, lh_eq, plh_mapLeaves]

/-- Reordering the sequences (rows) of the alignment leaves the likelihood unchanged, provided the
names are distinct: each leaf finds its row by name (`lookupRow`). -/
theorem lh_seq_reorder {R α : Type} [CommSemiring R] [DecidableEq α] (m : Nat) (π : Nat → R)
    (dflt : Nat → R) {rows rows' : List (α × (Nat → R))} (h : rows.Perm rows')
    (hn : (rows.map Prod.fst).Nodup) (t : PTree R α) :
    lh m π (lookupRow dflt rows) t = lh m π (lookupRow dflt rows') t := by
  rw [funext (lookupRow_perm dflt h hn)]

example : lookupRow 0 [(1, 10), (2, 20), (3, 30)] 2 = lookupRow 0 [(3, 30), (1, 10), (2, 20)] 2 := by decide +kernel

/-- **One move of the root across an edge**, stated explicitly: the child `node P cs` of the root becomes the root and
the old root (with its remaining children `ds`) hangs below it on the same edge; the column likelihood is unchanged
when that edge is in detailed balance with `π`. -/
theorem lh_reroot_across_edge {R α : Type} [CommSemiring R] (m : Nat) (π : Nat → R) (prof : α → Nat → R)
    (P0 P0' P : Mat R) (cs ds : List (PTree R α)) (hdb : DetailedBalance m π P) :
    lh m π prof (.node P0 (.node P cs :: ds)) = lh m π prof (.node P0' (.node P ds :: cs)) :=
  dot_upWith_comm m π P hdb (prodUp m prof cs) (prodUp m prof ds)

/-- **Pulley principle.** If every edge matrix satisfies detailed balance with respect to the root
distribution `π` (time-reversible model), moving the root across any sequence of edges (and
reordering children on the way) leaves the column likelihood unchanged. -/
theorem lh_reroot_reversible {R α : Type} [CommSemiring R] (m : Nat) (π : Nat → R) (prof : α → Nat → R)
    {t t' : PTree R α} (h : Reroot t t') (hdb : ∀ P ∈ t.edgeMats, DetailedBalance m π P) :
    lh m π prof t = lh m π prof t' := by
  induction h with
  | refl t => rfl
  | move P0 P0' P cs ds => exact lh_reroot_across_edge m π prof P0 P0' P cs ds (hdb P List.mem_cons_self)
  | perm P0 cs cs' hp => exact lh_root_perm m π prof P0 P0 hp
  | trans t u v h1 _ ih1 ih2 => exact (ih1 hdb).trans (ih2 fun Q hQ => hdb Q ((mem_edgeMats_reroot h1 Q).mpr hQ))

example : DetailedBalance 2 (fun _ => (1 : Nat)) exP := by
  intro i j _ _; simp only [exP, one_mul]; by_cases h : i = j <;> simp [h, eq_comm]
example : ¬ DetailedBalance 2 (fun s => (s + 1 : Nat)) exP := by
  intro h; have := h 0 1 (by decide) (by decide); simp [exP] at this

/-- **Edge split.** Replacing one edge (anywhere below the root) by two edges through a unary node
whose matrices multiply to the original matrix — `P(s)·P(t) = P(s+t)` for a time-homogeneous model —
leaves the column likelihood unchanged. -/
theorem lh_edge_split {R α : Type} [CommSemiring R] (m : Nat) (π : Nat → R) (prof : α → Nat → R)
    (P0 : Mat R) {cs cs' : List (PTree R α)} (h : SplitL m cs cs') :
    lh m π prof (.node P0 cs) = lh m π prof (.node P0 cs') :=
  congrArg (fun v => dot m v π) (prodUp_splitRel m prof h)

example : SplitL 2 [PTree.leaf (matMul 2 exP exP) (0 : Nat), .leaf exP 1]
    [.node exP [.leaf exP 0], .leaf exP 1] :=
  .head _ _ _ (.here (.leaf (matMul 2 exP exP) 0) exP exP rfl)

/-! ## Further instances, and two composite root placements -/

example : lnLCompressed (fun k : Nat => 10 * k) (List.replicate 3 [3, 1, 3]).flatten = 3 • lnLCompressed (fun k : Nat => 10 * k) [3, 1, 3] := by
  decide +kernel

/-- `lh_leaf_relabel` on a non-trivial tree: tips renamed `a ↦ a + 10`, rows looked up under the new names -/
example : lh 2 (fun s => s + 1) (fun b s => if (b + s) % 2 = 0 then (1 : Nat) else 0) (exA.mapLeaves (· + 10))
    = lh 2 (fun s => s + 1) (fun a s => if (a + 10 + s) % 2 = 0 then (1 : Nat) else 0) exA := by decide +kernel

/-- the hypotheses of `lh_reroot_reversible` are jointly satisfiable on a non-trivial tree: the root of `exA`
moves across the edge above its internal child (`perm` then `move`), every edge matrix is `exP`, which is in
detailed balance with the uniform weights -/
def exC : PTree Nat Nat := .node exP [.node exP [.leaf exP 0, .leaf exP 3], .leaf exP 1, .leaf exP 2]
example : Reroot exA exC :=
  .trans _ (.node exP [.node exP [.leaf exP 1, .leaf exP 2], .leaf exP 0, .leaf exP 3]) _
    (.perm _ _ _ (List.Perm.swap _ _ _))
    (.move exP exP exP [.leaf exP 1, .leaf exP 2] [.leaf exP 0, .leaf exP 3])
example : ∀ P ∈ exA.edgeMats, DetailedBalance 2 (fun _ => (1 : Nat)) P := by
  intro P hP
  have hP' : P = exP := by
    simp only [exA, PTree.edgeMats, PTree.edgeMatsL, PTree.mat, List.mem_cons, List.mem_append, List.not_mem_nil, or_false, false_or, or_self] at hP
    exact hP
  subst hP'
  intro i j _ _; simp only [exP, one_mul]; by_cases h : i = j <;> simp [h, eq_comm]
example : lh 2 (fun _ => 1) (fun a s => if (a + s) % 2 = 0 then (1 : Nat) else 0) exA
    = lh 2 (fun _ => 1) (fun a s => if (a + s) % 2 = 0 then (1 : Nat) else 0) exC := by decide +kernel
/-- … and with non-uniform root weights (no detailed balance) the two root placements do differ -/
example : lh 2 (fun s => s + 1) (fun a s => if a = 1 then (if s = 0 then (1 : Nat) else 0) else 1) exA
    ≠ lh 2 (fun s => s + 1) (fun a s => if a = 1 then (if s = 0 then (1 : Nat) else 0) else 1) exC := by decide +kernel

/-- **Root placed inside an edge.** For a reversible (`DetailedBalance` of the upper piece `P1`) and
time-homogeneous (`x.mat = P1 · P2`) process, moving the root to a point *inside* the edge above the root's
child `x` — the new root has two children: `x` below the lower piece `P2`, and the old root (with its other
children `ds`) below the upper piece `P1` — leaves the column likelihood unchanged.  (`lh_edge_split` followed
by `lh_reroot_across_edge`; this is "the root is moved anywhere on the tree" for a point that is not a node.) -/
theorem lh_root_inside_edge {R α : Type} [CommSemiring R] (m : Nat) (π : Nat → R) (prof : α → Nat → R)
    (P0 P0' P1 P2 : Mat R) (x : PTree R α) (ds : List (PTree R α)) (hx : x.mat = matMul m P1 P2)
    (hdb : DetailedBalance m π P1) :
    lh m π prof (.node P0 (x :: ds)) = lh m π prof (.node P0' [.node P1 ds, x.setMat P2]) := by
  rw [lh_edge_split m π prof P0 (SplitL.head x (.node P1 [x.setMat P2]) ds (Split.here x P1 P2 hx)),
    lh_reroot_across_edge m π prof P0 P0' P1 [x.setMat P2] ds hdb]

/-- **A bifurcating root dissolved** (`TreeNode.unrooted()`): for a reversible process the root with the two
children `a` and `node P cs` can be removed, `a` then hangs directly on the former sister node below the
composed edge `P · a.mat` (time-homogeneity makes that `P(s + t)`).  (`lh_root_inside_edge` read from right to left
for the child `a.setMat (P · a.mat)`, then `perm`: dissolving a bifurcating root is placing the root inside an edge, backwards.) -/
theorem lh_unroot_bifurcating {R α : Type} [CommSemiring R] (m : Nat) (π : Nat → R) (prof : α → Nat → R)
    (P0 P0' P : Mat R) (a : PTree R α) (cs : List (PTree R α)) (hdb : DetailedBalance m π P) :
    lh m π prof (.node P0 [a, .node P cs]) = lh m π prof (.node P0' (a.setMat (matMul m P a.mat) :: cs)) := by
  rw [lh_root_inside_edge m π prof P0' P0 P a.mat _ cs (PTree.mat_setMat _ a) hdb, setMat_setMat_mat]
  exact lh_root_perm m π prof P0 P0 (List.Perm.swap _ _ _)

example : lh 2 (fun _ => 1) (fun a s => if (a + s) % 2 = 0 then (1 : Nat) else 0)
      (.node exP [.leaf exP 0, .node exP [.leaf exP 1, .leaf exP 2]])
    = lh 2 (fun _ => 1) (fun a s => if (a + s) % 2 = 0 then (1 : Nat) else 0)
      (.node exP [.leaf (matMul 2 exP exP) 0, .leaf exP 1, .leaf exP 2]) := by decide +kernel
example : lh 2 (fun _ => 1) (fun a s => if (a + s) % 2 = 0 then (1 : Nat) else 0)
      (.node exP [.leaf (matMul 2 exP exP) 0, .leaf exP 1])
    = lh 2 (fun _ => 1) (fun a s => if (a + s) % 2 = 0 then (1 : Nat) else 0)
      (.node exP [.node exP [.leaf exP 1], .leaf exP 0]) := by decide +kernel

end CogentModel.C11
