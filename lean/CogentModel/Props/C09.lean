import CogentModel.Model.PhyloTree
import CogentModel.Spec.PhyloSplits
import CogentModel.Proofs.PhyloReroot
import CogentModel.Proofs.PhyloUnrooted
import CogentModel.Proofs.PhyloSorted
import CogentModel.Proofs.PhyloOps
import CogentModel.Proofs.PhyloRF
import CogentModel.Proofs.PhyloNewick
import CogentModel.Proofs.PhyloGoodLens
import CogentModel.Proofs.PhyloSubtree
import CogentModel.Proofs.PhyloDist
import CogentModel.Proofs.PhyloPhi
import CogentModel.Proofs.PhyloHistory
import CogentModel.Proofs.PhyloPath
import CogentModel.Proofs.PhyloMidpoint
import CogentModel.Proofs.PhyloMidSearch
import CogentModel.Proofs.PhyloNewickStr
import CogentModel.Proofs.PhyloNames
import CogentModel.Proofs.PhyloNamesGen
/-! # C09 — property theorems (tree transformations preserve tips, topology and path lengths)

`PTree K`, `rerootAt`, `unrooted`, `sorted`, `getSubTree`, … : `Model/PhyloTree.lean`
(mirror of cogent3 `core/tree.py`).  `splits`, `distSpec`, `SplitsEquiv`: `Spec/PhyloSplits.lean`.
`K` is any commutative additive monoid of branch lengths; `d` is the length used for an edge
that has none (cogent3 uses 1). -/
namespace CogentModel.C09
open CogentModel.Phylo

variable {K : Type}

/-- Re-rooting (`unrooted_deepcopy` started at any internal node, i.e. `rooted_at`,
`rooted_with_tip`, and the final step of `root_at_midpoint`) keeps the tips — for every tree,
every target node.  (If the old root has a single child and the root moves, the code turns the
old root into a new *tip*; hence the degree hypothesis.) -/
theorem reroot_preserves_tips (t r : PTree K) (p : List Nat) (h : rerootAt t p = some r)
    (hdeg : p = [] ∨ 2 ≤ t.children.length) : (tips r).Perm (tips t) :=
  (rerootAt_spec t r p h hdeg).1

/-- Re-rooting keeps the multiset of named weighted splits (the unrooted topology with its
edge names and lengths): every edge keeps its name and length and carries the same
bipartition of the tips. -/
theorem reroot_preserves_splits (t r : PTree K) (p : List Nat) (h : rerootAt t p = some r)
    (hdeg : p = [] ∨ 2 ≤ t.children.length) (hnd : (tips t).Nodup) :
    SplitsEquiv (tips t) (splits t) (splits r) :=
  (rerootAt_spec t r p h hdeg).2 hnd

/-- … hence every tip-to-tip path length. -/
theorem reroot_preserves_dist [AddCommMonoid K] (d : K) (t r : PTree K) (p : List Nat)
    (h : rerootAt t p = some r) (hdeg : p = [] ∨ 2 ≤ t.children.length) (hnd : (tips t).Nodup)
    (a b : String) (ha : a ∈ tips t) (hb : b ∈ tips t) :
    distSpec d a b r = distSpec d a b t :=
  dist_of_splitsEquiv d (tips t) t r (reroot_preserves_splits t r p h hdeg hnd) a b ha hb

-- non-vacuity: a 5-tip tree re-rooted two edges away from the old root
example : rerootAt (K := Int)
    (.node "" none [.node "x" (some 3) [.node "a" (some 1) [], .node "y" (some 7) [.node "b" (some 2) [], .node "e" (some 1) []]],
                    .node "c" (some 4) [], .node "d" (some 5) []]) [0, 1]
  = some (.node "" none [.node "b" (some 2) [], .node "e" (some 1) [],
      .node "y" (some 7) [.node "a" (some 1) [], .node "x" (some 3) [.node "c" (some 4) [], .node "d" (some 5) []]]]) := by rfl

/-- `sorted` (any sort order) keeps the tips … -/
theorem sorted_preserves_tips (t : PTree K) (order : List String) :
    (tips (sorted t order)).Perm (tips t) :=
  (sorted_ok t order).2.2.1

/-- … and the split multiset (for every reference tip set `T`), hence the unrooted topology -/
theorem sorted_preserves_splits (t : PTree K) (order : List String) (T : List String) :
    SplitsEquiv T (splits t) (splits (sorted t order)) :=
  (sorted_ok t order).2.2.2 T

/-- … and every path length. -/
theorem sorted_preserves_dist [AddCommMonoid K] (d : K) (t : PTree K) (order : List String)
    (a b : String) (ha : a ∈ tips t) (hb : b ∈ tips t) :
    distSpec d a b (sorted t order) = distSpec d a b t :=
  dist_of_splitsEquiv d (tips t) t _ (sorted_preserves_splits t order (tips t)) a b ha hb

example : tips (sorted (K := Int) (.node "" none [.node "x" (some 3) [.node "d" (some 1) [], .node "b" (some 2) []],
    .node "c" (some 4) [], .node "a" (some 5) []]) []) = ["a", "b", "d", "c"] := by decide +kernel

/-- Compositions: any history of re-rootings (at a node / beside a tip / the re-rooting step of
midpoint rooting), sortings and copies keeps the tip set, the split multiset and hence all
path lengths — by induction over the history, for every tree whose root has ≥ 2 children.
(`copy`/`deepcopy` are the identity in the value model: that they, and every other operation,
leave the *Python object* they are called on unmodified is checked on the implementation by
deep snapshots — harness `spec_check`; `root_at_midpoint` used to fail that check and now works on a
`deepcopy` of `self`: finding C09-midpoint-mutates-argument, status fixed, regression-guarded.) -/
theorem history_preserves_tips_splits (ops : List TOp) (t r : PTree K) (h : applyOps t ops = some r)
    (hdeg : 2 ≤ t.children.length) (hnd : (tips t).Nodup) :
    (tips r).Perm (tips t) ∧ SplitsEquiv (tips t) (splits t) (splits r) :=
  have s := applyOps_spec ops t r h hdeg
  ⟨s.1, s.2 hnd⟩

theorem history_preserves_dist [AddCommMonoid K] (d : K) (ops : List TOp) (t r : PTree K)
    (h : applyOps t ops = some r) (hdeg : 2 ≤ t.children.length) (hnd : (tips t).Nodup)
    (a b : String) (ha : a ∈ tips t) (hb : b ∈ tips t) :
    distSpec d a b r = distSpec d a b t :=
  (applyOps_spec ops t r h hdeg).topo hnd d _ (bipPred_sep _ a b ha hb)

example : (applyOps (K := Int)
    (.node "" none [.node "x" (some 3) [.node "a" (some 1) [], .node "b" (some 2) []], .node "c" (some 4) [], .node "d" (some 5) []])
    [.reroot [0], .sorted ["d"], .copy, .reroot [0]]).isSome = true := by decide +kernel

/-- `unrooted` keeps the tips, in order — for every tree. -/
theorem unrooted_preserves_tips [Add K] (t : PTree K) : tips (unrooted t) = tips t :=
  tips_unrooted t

/-- `unrooted` (core/tree.py as of commit 4e5465d45: the collapsed stem edge's length goes onto
the sister edge) preserves every tip-to-tip path length — for every tree with distinct tips
whose root children carry lengths.  (The earlier code added that length to every child of the
collapsed clade: `((a:1,b:2):3,(c:4,d:5):6)` gave d(a,b) 3 → 9; that input is replayed on the
implementation by every run as a regression witness.) -/
theorem unrooted_preserves_dist [AddCommMonoid K] (d : K) (t : PTree K) (hnd : (tips t).Nodup)
    (hlen : ∀ c ∈ t.children, ∃ l, c.len = some l) (a b : String) (ha : a ∈ tips t) (hb : b ∈ tips t) :
    distSpec d a b (unrooted t) = distSpec d a b t :=
  unrooted_phi d t hnd hlen (sep a b) (bipPred_sep _ a b ha hb)

example :
    let t : PTree Int := .node "" none [.node "" (some 3) [.node "a" (some 1) [], .node "b" (some 2) []],
                                         .node "" (some 6) [.node "c" (some 4) [], .node "d" (some 5) []]]
    (tips t).Nodup ∧ tips (unrooted t) = ["a", "b", "c", "d"] ∧
      distSpec 1 "a" "b" (unrooted t) = 3 ∧ distSpec 1 "a" "c" (unrooted t) = 14 ∧
      distSpec 1 "a" "c" t = 14 := by decide +kernel

/-- `get_sub_tree(names, tipsonly=True)` (any `ignore_missing`, `keep_root`; including the
re-unrooting of the result when the source root has more than 2 children): the result has
exactly the kept tips, in their original order, and every path length among kept tips is
unchanged — single-child chains are merged by adding lengths.  For every tree with distinct
tips whose non-root edges all have a length satisfying `P`, `P` any class closed under `+`
(`fun _ => True`: every edge has a length — ZERO LENGTHS INCLUDED, see `subtree_restricts_any_lengths`;
"positive"; …).  A missing part makes the merged edge lose its length (code and model), hence "has a
length".  Until /repo d2c7528e3 the code also dropped a merged length of 0.0 (repaired finding
C09-subtree-drops-zero-merged-length). -/
theorem subtree_restricts [AddCommMonoid K] (P : K → Prop)
    (hadd : ∀ x y, P x → P y → P (x + y)) (d : K)
    (t : PTree K) (names : List String) (ignoreMissing keepRoot : Bool) (r : PTree K)
    (h : getSubTree t names ignoreMissing keepRoot true = .ok r)
    (hg : GoodLensL P t.children) (hnd : (tips t).Nodup) :
    tips r = (tips t).filter (fun x => names.contains x) ∧
      ∀ a b, names.contains a = true → names.contains b = true → a ∈ tips t → b ∈ tips t →
        distSpec d a b r = distSpec d a b t := by
  obtain ⟨ht, _, hφ⟩ := getSubTree_phi P hadd d t names ignoreMissing keepRoot r h hg hnd
  refine ⟨ht, fun a b ha hb hat hbt => ?_⟩
  have hmem : ∀ z, names.contains z = true → z ∈ tips t → z ∈ tips r :=
    fun z hz hzt => ht ▸ List.mem_filter.2 ⟨hzt, hz⟩
  exact hφ (sep a b) (bipPred_sep _ a b (hmem a ha hat) (hmem b hb hbt))

/-- Full strength in the lengths: ANY lengths (zero, negative, any additive commutative monoid), as
long as every non-root edge has one. -/
theorem subtree_restricts_any_lengths [AddCommMonoid K] (d : K)
    (t : PTree K) (names : List String) (ignoreMissing keepRoot : Bool) (r : PTree K)
    (h : getSubTree t names ignoreMissing keepRoot true = .ok r)
    (hg : GoodLensL (fun _ => True) t.children) (hnd : (tips t).Nodup) :
    tips r = (tips t).filter (fun x => names.contains x) ∧
      (∀ a b, names.contains a = true → names.contains b = true → a ∈ tips t → b ∈ tips t →
        distSpec d a b r = distSpec d a b t) ∧
      ∀ φ, BipPred (tips r) φ → topoWeight d φ r = topoWeight d φ t :=
  have s := subtree_restricts _ (fun _ _ _ _ => trivial) d t names ignoreMissing keepRoot r h hg hnd
  ⟨s.1, s.2, (getSubTree_phi _ (fun _ _ _ _ => trivial) d t names ignoreMissing keepRoot r h hg hnd).2.2⟩

example : GoodLensL (fun x : Int => 0 < x)
    (PTree.node "" none [.node "x" (some 3) [.node "a" (some 1) [], .node "b" (some 2) []], .node "c" (some 4) []]).children := by
  simp [GoodLensL, GoodLens]
-- the witness of the repaired defect: `(a:1,b:2,c:3,d:4,e:5).bifurcating()` has two nested 0-length
-- edges; dropping c merges them (0 + 0): the merged edge keeps length 0, d(a,d) stays 5 (was 6)
example :
    let t : PTree Int := .node "" none [.node "a" (some 1) [], .node "" (some 0) [.node "b" (some 2) [],
        .node "" (some 0) [.node "c" (some 3) [], .node "" (some 0) [.node "d" (some 4) [], .node "e" (some 5) []]]]]
    GoodLensL (fun _ => True) t.children ∧
    (getSubTree t ["a", "b", "d", "e"] false false true).toOption.map tips = some ["a", "b", "d", "e"] ∧
    (getSubTree t ["a", "b", "d", "e"] false false true).toOption.map (distSpec 1 "b" "d") = some 6 ∧
    (getSubTree t ["a", "b", "d", "e"] false false true).toOption.map (distSpec 1 "a" "d") = some 5 ∧
    distSpec 1 "a" "d" t = 5 := by
  refine ⟨by simp [GoodLensL, GoodLens], ?_⟩
  decide +kernel
-- a source root with 3 children: the result is re-unrooted, d(a,b) stays 3
example :
    let t : PTree Int := .node "" none [.node "x" (some 3) [.node "a" (some 1) [], .node "b" (some 2) []],
                                         .node "c" (some 4) [], .node "d" (some 5) []]
    (getSubTree t ["a", "b", "c"] false false true).toOption.map tips = some ["a", "b", "c"] ∧
      (getSubTree t ["a", "b", "c"] false false true).toOption.map (distSpec 1 "a" "b") = some 3 ∧
      (getSubTree t ["a", "b", "c"] false false true).toOption.map (distSpec 1 "a" "c") = some 8 ∧
      distSpec 1 "a" "c" t = 8 := by
  decide +kernel

/-- Token level (a label is one token; for strings see `newick_string_roundtrip`): `parse_string` (the parser state
machine over `_Tokeniser` tokens) inverts `get_newick` with distances, for every tree — any shape, any names, any
lengths, unnamed nodes, missing lengths. -/
theorem newick_tokens_roundtrip (t : PTree K) : parseToks (newickToks true t) = some t := by
  rw [parse_newickToks, stripLens_true]

/-- without distances the parser returns the same tree without lengths -/
theorem newick_tokens_roundtrip_topology (t : PTree K) :
    parseToks (newickToks false t) = some (stripLens false t) :=
  parse_newickToks false t

example : newickToks true (PTree.node (K := Int) "" none [.node "a b" (some 1) [], .node "x" (some 3) [.node "c" none [], .node "" (some 2) []]])
    = [.lp, .label "a b", .colon, .num 1, .comma, .lp, .label "c", .comma, .colon, .num 2, .rp, .label "x", .colon, .num 3, .rp, .semi] := by
  rfl

/-! ## tree-to-tree distances (Robinson–Foulds; `phylo/tree_distance.py`) -/

/-- symmetric: rooted and unrooted RF, including which argument pairs are rejected -/
theorem rf_symmetric (t₁ t₂ : PTree K) :
    rootedRF t₁ t₂ = rootedRF t₂ t₁ ∧ unrootedRF t₁ t₂ = unrootedRF t₂ t₁ :=
  ⟨rootedRF_comm t₁ t₂, unrootedRF_comm t₁ t₂⟩

/-- The implemented unrooted RF (clades from `subsets()`, each normalised by `_compute_splits`
to the side containing the first tip, Python-set symmetric difference) equals the independent
split-set computation `symDiffBip` (bipartitions compared by their separation relation, no
reference tip) — for all trees on which it is defined. -/
theorem rf_eq_splitset (t₁ t₂ : PTree K) (n : Nat) (h : unrootedRF t₁ t₂ = .ok n) :
    n = symDiffBip (tips t₁) (clusters t₁) (clusters t₂) := by
  rw [unrootedRF_eq_ite] at h
  split at h
  · exact (Except.ok.inj h).symm
  · cases h

/-- … and is zero exactly when the two trees have the same bipartitions (equal unrooted topology). -/
theorem rf_zero_iff_same_splits (t₁ t₂ : PTree K) (n : Nat) (h : unrootedRF t₁ t₂ = .ok n) :
    n = 0 ↔ (∀ A ∈ clusters t₁, ∃ B ∈ clusters t₂, bipEquiv (tips t₁) A B) ∧
            (∀ B ∈ clusters t₂, ∃ A ∈ clusters t₁, bipEquiv (tips t₁) B A) := by
  rw [rf_eq_splitset t₁ t₂ n h]
  exact symDiffBip_zero_iff _ _ _

example : unrootedRF (K := Int)
    (.node "" none [.node "a" none [], .node "b" none [], .node "" none [.node "c" none [], .node "d" none []]])
    (.node "" none [.node "c" none [], .node "a" none [], .node "" none [.node "b" none [], .node "d" none []]])
    = .ok 2 := by decide +kernel
example : unrootedRF (K := Int)
    (.node "" none [.node "a" none [], .node "b" none [], .node "" none [.node "c" none [], .node "d" none []]])
    (.node "" none [.node "c" none [], .node "d" none [], .node "" none [.node "b" none [], .node "a" none []]])
    = .ok 0 := by decide +kernel

/-! ## The public entry points `rooted_at(name)` / `rooted_with_tip(name)`

The re-rooting theorems for the functions the driver runs against the implementation, not only for the
internal path walk. -/

theorem rooted_at_preserves [AddCommMonoid K] (d : K) (t r : PTree K) (nm : String)
    (h : rootedAt t nm = .ok r) (hdeg : 2 ≤ t.children.length) (hnd : (tips t).Nodup) :
    (tips r).Perm (tips t) ∧ SplitsEquiv (tips t) (splits t) (splits r) ∧
      ∀ a b, a ∈ tips t → b ∈ tips t → distSpec d a b r = distSpec d a b t := by
  unfold rootedAt at h
  split at h
  · cases h
  · rename_i p _
    split at h
    · cases h
    · rename_i r' hr
      cases h
      exact rerootAt_preserves d t r p hr hdeg hnd

theorem rooted_with_tip_preserves [AddCommMonoid K] (d : K) (t r : PTree K) (nm : String)
    (h : rootedWithTip t nm = .ok r) (hdeg : 2 ≤ t.children.length) (hnd : (tips t).Nodup) :
    (tips r).Perm (tips t) ∧ SplitsEquiv (tips t) (splits t) (splits r) ∧
      ∀ a b, a ∈ tips t → b ∈ tips t → distSpec d a b r = distSpec d a b t := by
  unfold rootedWithTip at h
  split at h
  · cases h
  · rename_i p _
    split at h
    · cases h
    · split at h
      · cases h
      · rename_i r' hr
        cases h
        exact rerootAt_preserves d t r _ hr hdeg hnd

example : (rootedWithTip (K := Int)
    (.node "" none [.node "x" (some 3) [.node "a" (some 1) [], .node "y" (some 7) [.node "b" (some 2) [], .node "e" (some 1) []]],
                    .node "c" (some 4) [], .node "d" (some 5) []]) "b").toOption.map tips = some ["b", "e", "a", "c", "d"] := by
  decide +kernel

/-! ### rooted Robinson–Foulds: zero exactly when the two trees have the same clades -/

theorem memSet_dedup (x : List String) (S : List (List String)) : memSet x (dedupSets S) = memSet x S := by
  unfold memSet
  rw [dedupSets_eq]
  exact any_dedupBy seteq seteq_trans x S

theorem symDiffCount_dedup_zero_iff (S₁ S₂ : List (List String)) :
    symDiffCount (dedupSets S₁) (dedupSets S₂) = 0 ↔
      (∀ A ∈ S₁, ∃ B ∈ S₂, seteq A B = true) ∧ (∀ B ∈ S₂, ∃ A ∈ S₁, seteq B A = true) := by
  have hrefl : ∀ A, seteq A A = true := fun A => (seteq_iff A A).2 fun _ => Iff.rfl
  unfold symDiffCount
  simp only [memSet_dedup]
  unfold memSet
  rw [Nat.add_eq_zero_iff, dedupSets_eq, dedupSets_eq,
    filter_dedupBy_length_eq_zero _ hrefl seteq_trans, filter_dedupBy_length_eq_zero _ hrefl seteq_trans]

theorem rooted_rf_zero_iff_same_clades (t₁ t₂ : PTree K) (n : Nat) (h : rootedRF t₁ t₂ = .ok n) :
    n = 0 ↔ (∀ A ∈ clusters t₁, ∃ B ∈ clusters t₂, seteq A B = true) ∧
            (∀ B ∈ clusters t₂, ∃ A ∈ clusters t₁, seteq B A = true) := by
  unfold rootedRF at h
  split at h
  · cases h
  · split at h
    · cases h
    · injection h with h
      rw [← h]
      exact symDiffCount_dedup_zero_iff _ _

example : rootedRF (K := Int)
    (.node "" none [.node "" none [.node "a" none [], .node "b" none []], .node "" none [.node "c" none [], .node "d" none []]])
    (.node "" none [.node "" none [.node "d" none [], .node "c" none []], .node "" none [.node "b" none [], .node "a" none []]])
    = .ok 0 := by decide +kernel
example : rootedRF (K := Int)
    (.node "" none [.node "" none [.node "a" none [], .node "b" none []], .node "" none [.node "c" none [], .node "d" none []]])
    (.node "" none [.node "" none [.node "a" none [], .node "c" none []], .node "" none [.node "b" none [], .node "d" none []]])
    = .ok 4 := by decide +kernel


/-! ### 1. the distance function the code runs

`getDistances d t` mirrors `PhyloNode._get_distances` (post-order accumulation of root-ward tip
distances, cross products between the children of every node, a dict in which the last write
wins); `lookupLast (a, b)` is `tree.get_distances()[(a, b)]`. -/

/-- What `get_distances()` reports for two distinct tips is the specification path length — for
every tree with distinct tip names (any shape, missing lengths counted as `d`). Hence every
`distSpec` theorem of this file is a theorem about the modelled code's own distance function. -/
theorem getDistances_eq_distSpec [AddCommMonoid K] (d : K) (t : PTree K) (hnd : (tips t).Nodup)
    (a b : String) (ha : a ∈ tips t) (hb : b ∈ tips t) (hab : a ≠ b) :
    lookupLast (a, b) (getDistances d t) = some (distSpec d a b t) :=
  getDistances_lookup d t hnd a b ha hb hab

/-- … and the dict has no entries other than pairs of tips with that value. -/
theorem getDistances_entries [AddCommMonoid K] (d : K) (t : PTree K) (hnd : (tips t).Nodup)
    (a b : String) (v : K) (h : ((a, b), v) ∈ getDistances d t) :
    a ∈ tips t ∧ b ∈ tips t ∧ v = distSpec d a b t :=
  (distGo_ok d t hnd).vals _ h

example : lookupLast ("a", "c") (getDistances (1 : Int)
    (.node "" none [.node "" (some 3) [.node "a" (some 1) [], .node "b" (some 2) []],
                    .node "" (some 6) [.node "c" (some 4) [], .node "d" none []]])) = some 14 := by decide +kernel

/-! ### 2. topology of `unrooted` and `get_sub_tree`

`topoWeight d φ t` = total length of the edges of `t` whose bipartition satisfies the
bipartition predicate `φ` (`Spec/PhyloSplits.lean`: `BipPred T φ` — `φ` cannot tell a side from
one with the same members of `T` nor from its complement in `T`, and rejects the trivial
bipartition).  With `φ = sepAll T A` (`A` a proper part of `T`) it is the weight of the
bipartition `A | T∖A`, *merged* over all edges carrying it (0 when there is none); with
`φ = sep a b` it is the path length.  "Same weighted unrooted topology among `T`" = all these
agree. -/

/-- `unrooted` keeps the weighted unrooted topology: the edge above the collapsed node and the
sister edge carry the same bipartition and their weights are merged; nothing else changes. -/
theorem unrooted_preserves_splits [AddCommMonoid K] (d : K) (t : PTree K) (hnd : (tips t).Nodup)
    (hlen : ∀ c ∈ t.children, ∃ l, c.len = some l) (φ : List String → Bool) (hφ : BipPred (tips t) φ) :
    topoWeight d φ (unrooted t) = topoWeight d φ t :=
  unrooted_phi d t hnd hlen φ hφ

/-- the weight of every proper bipartition `A | T∖A` is the same before and after `unrooted` -/
theorem unrooted_preserves_bipartition_weights [AddCommMonoid K] (d : K) (t : PTree K) (hnd : (tips t).Nodup)
    (hlen : ∀ c ∈ t.children, ∃ l, c.len = some l) (A : List String) (hA : Proper (tips t) A) :
    topoWeight d (sepAll (tips t) A) (unrooted t) = topoWeight d (sepAll (tips t) A) t :=
  unrooted_phi d t hnd hlen _ (bipPred_sepAll _ A hA)

example :
    let t : PTree Int := .node "" none [.node "" (some 3) [.node "a" (some 1) [], .node "b" (some 2) []],
                                         .node "" (some 6) [.node "c" (some 4) [], .node "d" (some 5) []]]
    topoWeight 1 (sepAll (tips t) ["a", "b"]) t = 9 ∧ topoWeight 1 (sepAll (tips t) ["a", "b"]) (unrooted t) = 9 ∧
      topoWeight 1 (sepAll (tips t) ["a", "c"]) t = 0 := by decide +kernel

/-- `get_sub_tree(names, tipsonly=True)`: the bipartitions of the result are the restrictions of
the source bipartitions to the kept tips, with the weights of merged edges added and the
trivial ones dropped: every bipartition functional over the kept tips has the same value on the
result and on the source (a predicate on the kept tips sees only the restriction of a side).
The result's edges still have lengths in `P`. -/
theorem subtree_restricts_splits [AddCommMonoid K] (P : K → Prop)
    (hadd : ∀ x y, P x → P y → P (x + y)) (d : K)
    (t : PTree K) (names : List String) (ignoreMissing keepRoot : Bool) (r : PTree K)
    (h : getSubTree t names ignoreMissing keepRoot true = .ok r)
    (hg : GoodLensL P t.children) (hnd : (tips t).Nodup) :
    tips r = (tips t).filter (fun x => names.contains x) ∧ GoodLensL P r.children ∧
      ∀ φ, BipPred (tips r) φ → topoWeight d φ r = topoWeight d φ t :=
  getSubTree_phi P hadd d t names ignoreMissing keepRoot r h hg hnd

example :
    let t : PTree Int := .node "" none [.node "x" (some 3) [.node "a" (some 1) [], .node "y" (some 7) [.node "b" (some 2) [], .node "e" (some 1) []]],
                                         .node "c" (some 4) [], .node "d" (some 5) []]
    -- keeping a, b, c, d: the edges x (3) | y (7) survive; bipartition ab|cd has weight 3 in both, b|acd = 2 + 7 merged
    (getSubTree t ["a", "b", "c", "d"] false false true).toOption.map (topoWeight 1 (sepAll ["a", "b", "c", "d"] ["a", "b"])) = some 3 ∧
    topoWeight 1 (sepAll ["a", "b", "c", "d"] ["a", "b"]) t = 3 ∧
    (getSubTree t ["a", "b", "c", "d"] false false true).toOption.map (topoWeight 1 (sepAll ["a", "b", "c", "d"] ["b"])) = some 9 ∧
    topoWeight 1 (sepAll ["a", "b", "c", "d"] ["b"]) t = 9 := by decide +kernel

/-! ### 3. one induction over ALL the transformations

`XOp` (`Model/PhyloHistory.lean`): reroot | sorted | copy | unrooted | subtree names … | newick
(print with distances → parse, token level).  `applyXs` runs a history and is defined while every
intermediate root has ≥ 2 children; `keptAll ops` is the conjunction of the name lists of its
pruning steps. -/

/-- Arbitrary compositions of every transformation the property lists: the final tips are the
original tips filtered by all pruning steps (up to order), all edges still have lengths in `P`,
and the weighted unrooted topology among the retained tips is unchanged.  `P` is any class closed
under `+` — with `P := fun _ => True` the only hypothesis on lengths is that every non-root edge has
one (zero lengths, e.g. those `bifurcating()` inserts, are covered since /repo d2c7528e3). -/
theorem full_history_preserves [AddCommMonoid K] (P : K → Prop)
    (hadd : ∀ x y, P x → P y → P (x + y)) (d : K)
    (ops : List XOp) (t r : PTree K) (h : applyXs t ops = some r) (hdeg : 2 ≤ t.children.length)
    (hnd : (tips t).Nodup) (hg : GoodLensL P t.children) :
    (tips r).Perm ((tips t).filter (keptAll ops)) ∧ GoodLensL P r.children ∧
      ∀ φ, BipPred (tips r) φ → topoWeight d φ r = topoWeight d φ t :=
  let s := applyXs_ok P hadd d ops t r h hdeg hnd hg
  ⟨s.tips, s.good, s.topo⟩

/-- … in particular every tip-to-tip path length among retained tips, as reported by the modelled
`get_distances()` on the final and on the original tree. -/
theorem full_history_preserves_get_distances [AddCommMonoid K] (P : K → Prop)
    (hadd : ∀ x y, P x → P y → P (x + y)) (d : K)
    (ops : List XOp) (t r : PTree K) (h : applyXs t ops = some r) (hdeg : 2 ≤ t.children.length)
    (hnd : (tips t).Nodup) (hg : GoodLensL P t.children)
    (a b : String) (ha : a ∈ tips r) (hb : b ∈ tips r) (hab : a ≠ b) :
    lookupLast (a, b) (getDistances d r) = lookupLast (a, b) (getDistances d t) ∧
      distSpec d a b r = distSpec d a b t := by
  have s := applyXs_ok P hadd d ops t r h hdeg hnd hg
  have hd : distSpec d a b r = distSpec d a b t := s.topo (sep a b) (bipPred_sep _ a b ha hb)
  exact ⟨getDistances_lookup_congr d t r hnd (s.nodup hnd) a b (s.mem ha) (s.mem hb) ha hb hab hd, hd⟩

example : (applyXs (K := Int)
    (.node "" none [.node "x" (some 3) [.node "a" (some 1) [], .node "y" (some 7) [.node "b" (some 2) [], .node "e" (some 1) []]],
                    .node "c" (some 4) [], .node "d" (some 5) []])
    [.reroot [0, 1], .newick, .subtree ["a", "b", "c", "e"] false false, .unrooted, .sorted [], .copy]).map tips
    = some ["a", "c", "b", "e"] := by decide +kernel


/-! ### 4. midpoint rooting (`root_at_midpoint`, model `rootAtMidpoint` at `Rat`)

`midPlan` is the search (farthest pair, deeper tip, climb until half the distance is covered);
`execPlan` either re-roots at an existing node or first splits the edge at the midpoint
(`splitEdge`: a new unnamed node with the climbed node as its only child, lengths `x - y` and `y`)
and re-roots at the new node. -/

/-- Midpoint rooting keeps the tips and the weighted unrooted topology — the two halves of a split
edge carry the same bipartition and their weights add up to the old length — hence every
tip-to-tip path length, also as reported by the modelled `get_distances()`. -/
theorem midpoint_preserves (t r : RT) (h : rootAtMidpoint t = .ok r)
    (hdeg : 2 ≤ t.children.length) (hnd : (tips t).Nodup) :
    (tips r).Perm (tips t) ∧ (∀ φ, BipPred (tips t) φ → topoWeight 1 φ r = topoWeight 1 φ t) ∧
      ∀ a b, a ∈ tips t → b ∈ tips t → a ≠ b →
        distSpec 1 a b r = distSpec 1 a b t ∧
        lookupLast (a, b) (getDistances 1 r) = lookupLast (a, b) (getDistances 1 t) := by
  obtain ⟨plan, -, hex⟩ := rootAtMidpoint_eq_ok h
  obtain ⟨hp, hφ⟩ := execPlan_ok 1 t r plan hex hdeg hnd
  refine ⟨hp, hφ, fun a b ha hb hab => ?_⟩
  have hd : distSpec 1 a b r = distSpec 1 a b t := hφ (sep a b) (bipPred_sep _ a b ha hb)
  exact ⟨hd, getDistances_lookup_congr 1 t r hnd ((hp.nodup_iff).2 hnd) a b ha hb ((hp.mem_iff).2 ha)
    ((hp.mem_iff).2 hb) hab hd⟩

/-- Re-rooting at any node `w`: a tip `p` below child `v` of `w` ends up at depth `len v + depth of
p in v`, and for every tip `q` not below `v` the path length is the sum of the two depths.
(`depthR a t` = root-to-tip distance of `a` in `t`.) -/
theorem reroot_depths_spec (t r w : RT) (pp : List Nat) (idx : Nat) (pre post : List RT) (v : RT)
    (hdeg : 2 ≤ t.children.length) (hnd : (tips t).Nodup)
    (hr : rerootAt t pp = some r) (hw : nodeAt t pp = some w) (hv : pick w.children idx = some (pre, v, post))
    (p q : String) (hp : p ∈ tips v) (hq : q ∈ tips t) (hqv : q ∉ tips v) :
    depthR p r = lenOr 1 v.len + depthR p v ∧ distSpec 1 p q t = depthR p r + depthR q r :=
  reroot_depths 1 t r w pp idx pre post v hdeg hnd hr hw hv p q hp hq hqv

/-- `root_at_midpoint`: the two tips of the farthest pair (`max_tip_tip_distance`: first maximum of
the tip-by-tip matrix) end up equidistant from the new root, at half their path length — for every
tree with ≥ 2 root children, distinct tip names none of which is also the name of an internal node
(`get_node_matching_name` takes the first node with the name), and positive branch lengths.
Proved through the search itself: `findPath` soundness, the frames of the climb (`climb_node`,
`climb_node.parent`), "the climb stops strictly below the last common ancestor", and the two
execution lemmas below. -/
theorem midpoint_equidistant (t r : RT) (h : rootAtMidpoint t = .ok r)
    (hdeg : 2 ≤ t.children.length) (hnd : (tips t).Nodup)
    (hint : ∀ n ∈ tips t, n ∉ internalNames t)
    (hg : GoodLensL (fun x : Rat => 0 < x) t.children)
    (m : Rat) (a b : String) (harg : argmaxPair (tips t) (getDistances 1 t) = (m, a, b)) (hm : m ≠ 0) :
    m = distSpec 1 a b t ∧ depthR a r = m / 2 ∧ depthR b r = m / 2 := by
  obtain ⟨ha, hb, hab, hmd⟩ := argmaxPair_spec t hnd m a b harg hm
  obtain ⟨plan, hpl, h⟩ := rootAtMidpoint_eq_ok h
  obtain ⟨p1, p2, f, c, x, h1, h2, hcl, rfl⟩ := midPlan_eq_ok harg hm hpl
  have tp1 := tipPath_of_findPath t a p1 ha hint h1
  have tp2 := tipPath_of_findPath t b p2 hb hint h2
  obtain ⟨hsplit, hnb, hna⟩ := lca_split a b hab p1 p2 t [] [] tp1 tp2 hnd
  have hpos1 := frames_good _ p1 t [] hg
  have hpos2 := frames_good _ p2 t [] hg
  generalize commonPrefixLen p1 p2 = k at hcl hsplit hnb hna
  have hmpos : 0 < m := lt_of_le_of_ne (by
    rw [hmd, hsplit]
    exact add_nonneg (lenSum_nonneg _ fun f hf => hpos1 f (List.mem_of_mem_drop hf))
      (lenSum_nonneg _ fun f hf => hpos2 f (List.mem_of_mem_drop hf))) hm.symm
  rw [lensOnPath_frames p1 t [], ← List.map_drop,
    foldl_truthy _ (fun f hf => hpos1 f (List.mem_of_mem_drop hf)), zero_add] at hcl
  rw [← hmd] at hsplit
  split at hcl
  · rename_i hlt
    exact ⟨hmd, plan_equidistant t r hdeg hnd a b p1 k (m / 2) (div_pos hmpos two_pos) tp1 hb (hmd ▸ rfl) hlt.le hnb
      f c x hcl h⟩
  · rename_i hlt
    have := plan_equidistant t r hdeg hnd b a p2 k (m / 2) (div_pos hmpos two_pos) tp2 ha
      (by rw [hmd]; exact congrArg (· / 2) (splitW_swap 1 b a _)) (half_le_right hsplit hlt) hna f c x hcl h
    exact ⟨hmd, this.2, this.1⟩

/-- the plan "re-root at the existing node at `pp`" -/
theorem midpoint_equidistant_at (t r w : RT) (pp : List Nat) (idx : Nat) (pre post : List RT) (v : RT)
    (hdeg : 2 ≤ t.children.length) (hnd : (tips t).Nodup)
    (h : execPlan t (.at pp) = .ok r) (hw : nodeAt t pp = some w)
    (hv : pick w.children idx = some (pre, v, post))
    (p q : String) (hp : p ∈ tips v) (hq : q ∈ tips t) (hqv : q ∉ tips v)
    (hhalf : lenOr 1 v.len + depthR p v = distSpec 1 p q t / 2) :
    depthR p r = distSpec 1 p q t / 2 ∧ depthR q r = distSpec 1 p q t / 2 :=
  equidistant_at t r w pp idx pre post v hdeg hnd h hw hv p q hp hq hqv hhalf

/-- the plan "split the edge above child `v` of the node at `pp`, leaving `y` below the new root" -/
theorem midpoint_equidistant_split (t r par : RT) (pp : List Nat) (idx : Nat) (y : Rat)
    (pre post : List RT) (v : RT) (hdeg : 2 ≤ t.children.length) (hnd : (tips t).Nodup)
    (h : execPlan t (.split pp idx y) = .ok r) (hpar : nodeAt t pp = some par)
    (hv : pick par.children idx = some (pre, v, post))
    (p q : String) (hp : p ∈ tips v) (hq : q ∈ tips t) (hqv : q ∉ tips v)
    (hhalf : y + depthR p v = distSpec 1 p q t / 2) :
    depthR p r = distSpec 1 p q t / 2 ∧ depthR q r = distSpec 1 p q t / 2 :=
  equidistant_split t r par pp idx y pre post v hdeg hnd h hpar hv p q hp hq hqv hhalf

example :
    let t : RT := .node "" none [.node "a" (some 1) [], .node "b" (some 2) [], .node "x" (some 1) [.node "c" (some 6) [], .node "d" (some 1) []]]
    -- farthest pair (b, c): 2 + 1 + 6 = 9; the midpoint lies on c's edge, 4.5 from c
    midPlan t = .ok (.split [2] 0 (9 / 2)) ∧ argmaxPair (tips t) (getDistances 1 t) = (9, "b", "c") ∧
    (rootAtMidpoint t).toOption.map (fun r => (depthR "b" r, depthR "c" r)) = some (9 / 2, 9 / 2) ∧
    internalNames t = ["", "x"] := by
  decide +kernel


/-! ### 5. newick at character level

`Model/PhyloNewickStr.lean`: `escapeName` / `printStrW` mirror the writer (`get_newick`,
escape_name=True: names containing one of ``[]'"(),:;_`` are wrapped in single quotes with inner
quotes doubled, otherwise blanks become underscores); `lex` mirrors the regular-expression split of
`_Tokeniser`, `mRun` its token loop (quoted / unquoted labels, strip, underscore un-munging),
`classify`/`plazy` how `parse_string` reads the token generator (lazily; `float` of the token after
`:`; a token equal to a punctuation string *is* that punctuation).  All tied to the real code on
random strings every run.  `sh` stands for Python's float formatting, `rd` for `float`.

Hypotheses = exactly what the code gets right (`GoodTree`): every node is unnamed or its name — ANY
string, any Unicode characters — satisfies the decidable predicate `roundTrips` of the model:
  * no newline in it (ends an unquoted label, an error inside a quoted one);
  * it does not begin with a single quote     (known finding C09-newick-leading-quote-name);
  * it is not a single punctuation character `( ) , : ; [`   (known finding C09-newick-punctuation-name);
  * if it is written UNQUOTED (none of ``[]'"(),:;_`` in it) it neither begins nor ends with white space
    other than the blank (`str.strip()` in the tokeniser; blanks travel as underscores).
Non-empty printable ASCII names (the two findings apart) are in the class:
`newick_printable_names_roundtrip`.  Every excluded class really fails (`newick_excluded_names_fail`), and the
predicate is compared with the real `make_tree(get_newick())` on adversarial names every run.
JSON (`to_json` writes names unescaped — known finding C09-json-unescaped-names) is not modelled. -/

/-- the tokeniser reads the written string back as the tree's token list (names unescaped) -/
theorem newick_string_tokens (sh : K → List Char) (hsh : GoodShow sh) (t : PTree K) (hg : GoodTree t) :
    tokenise (newickStrW sh t) = some ((newickToks true t).map (sTokW sh)) :=
  tokenise_newickStrW sh hsh t hg

/-- STRING-LEVEL ROUND TRIP: `parse_string(tree.get_newick(with_distances=True))` is the tree —
every shape, unnamed nodes, missing lengths, names with blanks, underscores, quotes and newick
metacharacters inside. -/
theorem newick_string_roundtrip (sh : K → List Char) (rd : List Char → Option K)
    (hsh : GoodShow sh) (hrd : ∀ k, rd (sh k) = some k) (t : PTree K) (hg : GoodTree t) :
    parseString rd (newickStrW sh t) = some t :=
  parseString_newickStrW sh rd hsh hrd t hg

/-- without distances -/
theorem newick_string_tokens_topology (t : PTree K) (hg : GoodTree t) :
    tokenise (newickStr t) = some ((newickToks false t).map sTok) :=
  tokenise_newickStr t hg

-- non-vacuity: a printer/reader pair for a one-element length type, and a tree with awkward names
example : GoodShow (fun (_ : Unit) => ['1', '.', '5']) := by
  intro k
  refine ⟨by simp, ?_⟩
  intro y hy
  simp only [List.mem_cons, List.mem_nil_iff, or_false] at hy
  rcases hy with rfl | rfl | rfl <;> exact ⟨⟨by decide, by decide, by decide, by decide, by decide⟩, by decide, by decide⟩
example : GoodName "it's (a_b), c:d".toList := by decide +kernel
example : GoodName "a\tb \"\"K12\"\" é中  ".toList := by decide +kernel
example : String.ofList (newickStrW (fun (_ : Unit) => ['1', '.', '5'])
      (.node "" none [.node "it's (a_b)" (some ()) [], .node "x y" none [.node "c" (some ()) [], .node "" none []]]))
    = "('it''s (a_b)':1.5,(c:1.5,)x_y);" := by decide +kernel
example : parseString (fun s => if s = ['1', '.', '5'] then some () else none)
      "('it''s (a_b)':1.5,(c:1.5,)x_y);".toList
    = some (.node "" none [.node "it's (a_b)" (some ()) [], .node "x y" none [.node "c" (some ()) [], .node "" none []]]) := by
  -- the literal's characters first: `rfl` alone has the elaborator decode the string byte by byte
  simp only [String.reduceToList]
  rfl


/-! ### 6. names: arbitrary strings through the newick round trip, generated names

`roundTrips` (`Model/PhyloNewickStr.lean`) is the exact class of names the writer / tokeniser / parser
triple hands back unchanged; `nameRoundTrip n` runs the modelled `parse_string(get_newick())` on a
two-tip tree whose first tip is called `n` and returns the name read back.
`assignNames` / `makeTreeNames` (`Model/PhyloNames.lean`) mirror `TreeBuilder._unique_name` (the
recursive re-check of the suffixed candidate included) and `make_tree`'s late renaming of an unnamed root. -/

/-- every name in the class — any characters at all — is read back unchanged -/
theorem newick_name_roundtrip (n : List Char) (h : roundTrips n = true) :
    nameRoundTrip n = some (String.ofList n) := by
  have hg : GoodTree (K := Unit) (.node "" none [.node (String.ofList n) none [], .node "z" none []]) := by
    refine ⟨Or.inl rfl, ⟨Or.inr ?_, trivial⟩, ⟨Or.inr ?_, trivial⟩, trivial⟩
    · simpa [GoodName, String.toList_ofList] using h
    · show roundTrips "z".toList = true
      decide
  have hrt := parseString_newickStrW (fun (_ : Unit) => ['1']) (fun _ => some ()) goodShow_one (fun _ => rfl) _ hg
  have heq : newickStrW (fun (_ : Unit) => ['1']) (.node "" none [.node (String.ofList n) none [], .node "z" none []])
      = newickStr (K := Unit) (.node "" none [.node (String.ofList n) none [], .node "z" none []]) := by
    simp [newickStrW, newickStr, printStrW, printTailW, printStr, printTail, lenStr]
  unfold nameRoundTrip
  rw [← heq, hrt]
  rfl

/-- the printable-ASCII names are in the class -/
theorem newick_printable_names_roundtrip (n : List Char) (hne : n ≠ []) (hhead : n.head? ≠ some '\'')
    (hpr : ∀ x ∈ n, Printable x) (hp : notPunLab n = true) : roundTrips n = true :=
  (roundTrips_iff n).2 ⟨hne, fun x hx => printable_ne_nl (hpr x hx), hhead, hp, Or.inr
    ⟨fun x hx => printable_hardSpace (hpr x (List.mem_of_head? hx)),
     fun x hx => printable_hardSpace (hpr x (List.mem_of_getLast? hx))⟩⟩

/-- each excluded class fails in the modelled code (a leading quote; wrapped in quotes; a single
punctuation character; a newline; an unquoted name with a leading tab / trailing carriage return /
leading no-break space): the predicate excludes nothing it could keep on these witnesses -/
theorem newick_excluded_names_fail :
    (roundTrips "'ab".toList = false ∧ nameRoundTrip "'ab".toList = none) ∧
    (roundTrips "'ab'".toList = false ∧ nameRoundTrip "'ab'".toList = some "ab") ∧
    (roundTrips "(".toList = false ∧ nameRoundTrip "(".toList = none) ∧
    (roundTrips ",".toList = false ∧ nameRoundTrip ",".toList = none) ∧
    (roundTrips "[".toList = false ∧ nameRoundTrip "[".toList = none) ∧
    (roundTrips "a\nb".toList = false ∧ nameRoundTrip "a\nb".toList = none) ∧
    (roundTrips "\tab".toList = false ∧ nameRoundTrip "\tab".toList = some "ab") ∧
    (roundTrips "ab\r".toList = false ∧ nameRoundTrip "ab\r".toList = some "ab") ∧
    (roundTrips [Char.ofNat 0xA0, 'a'] = false ∧ nameRoundTrip [Char.ofNat 0xA0, 'a'] = some "a") := by
  decide +kernel

-- … while their neighbours are fine: `]`, a leading blank, a tab inside, a quoted leading tab
example : roundTrips "]".toList = true ∧ roundTrips " ab ".toList = true ∧ roundTrips "a\tb".toList = true ∧
    roundTrips "\ta,b".toList = true ∧ roundTrips "a''b\"\"c".toList = true := by decide +kernel
example : nameRoundTrip "a''b\"\"c".toList = some "a''b\"\"c" := by decide +kernel

/-- `TreeBuilder._unique_name`: whatever the labels (repeated labels, labels that look like generated
names, missing labels), the names handed out by one builder are pairwise distinct -/
theorem unique_names_nodup (labels : List (Option String)) : (assignNames labels).Nodup :=
  assignNames_nodup labels

/-- `make_tree`: pairwise distinct node names, provided the late renaming of an unnamed root to "root"
does not meet a node that is already called "root" -/
theorem make_tree_names_nodup (labels : List (Option String))
    (h : labels.getLast? = some none → "root" ∉ (assignNames labels).dropLast) :
    (makeTreeNames labels).Nodup := by
  unfold makeTreeNames
  by_cases hl : labels.getLast? = some none
  · simp only [hl, if_true]
    have hn := assignNames_nodup labels
    have hsub : (assignNames labels).dropLast.Sublist (assignNames labels) := List.dropLast_sublist _
    have hd := hn.sublist hsub
    rw [List.nodup_append]
    refine ⟨hd, by simp, ?_⟩
    intro a ha b hb
    simp only [List.mem_singleton] at hb
    subst hb
    intro e; subst e
    exact h hl ha
  · simp only [hl, if_false]
    exact assignNames_nodup labels

/-- … and that proviso is needed: a tip labelled `root` below an unnamed root gives two nodes called
"root" (known finding C09-generated-name-collision) -/
theorem make_tree_names_root_collision :
    makeTreeNames [some "root", some "b", none] = ["root", "b", "root"] := by
  decide +kernel

example : assignNames [some "x", some "x.2", some "x", none, some "edge.0", none, some "x"] =
    ["x", "x.2", "x.2.2", "edge.0", "edge.0.2", "edge.1", "x.3"] := by decide +kernel

/-! ### 7. translation tie of the naming code

`Gen/C09Newick.lean` is re-translated on every run from `core/tree.py::TreeBuilder` (`__init__`'s dict literal and the whole body of
`_unique_name`, statement by statement; conventions U1-U5 in `translator/c09_names2lean.py`).  The theorems below prove the
generated definitions equal to the hand model for ALL dict states and labels, so `unique_names_nodup` is a statement about the
translated code (`gen_unique_names_nodup`). -/

/-- one unfolding of the generated recursion = one unfolding of the model's, given the tie one level down -/
theorem gen_unique_name_rec_step (n : Nat) (ih : ∀ (u : Used) (s : String), s ≠ "" → CogentModel.Gen.C09Newick.uniqueNameRec n u (some s) = uniqueNameFuel n u s)
    (u : Used) (l : Option String) :
    CogentModel.Gen.C09Newick.uniqueNameRec (n + 1) u l = uniqueNameFuel (n + 1) u (CogentModel.Gen.C09Newick.pyOr l "edge") := by
  rw [CogentModel.Gen.C09Newick.uniqueNameRec, uniqueNameFuel]
  cases hg : usedGet u (CogentModel.Gen.C09Newick.pyOr l "edge") with
  | none => simp [CogentModel.Gen.C09Newick.dHas, hg]
  | some c =>
    simp only [CogentModel.Gen.C09Newick.dHas, hg, Option.isSome_some, if_true, CogentModel.Gen.C09Newick.dGet, Option.getD_some, usedGet_usedSet_same]
    rw [ih _ _ (GenNames.suffixed_ne_empty _ _), String.append_assoc]

/-- generated recursion = `uniqueNameFuel` at every fuel, every dict state, every non-empty candidate -/
theorem gen_unique_name_rec_eq (fuel : Nat) : ∀ (u : Used) (s : String), s ≠ "" →
    CogentModel.Gen.C09Newick.uniqueNameRec fuel u (some s) = uniqueNameFuel fuel u s := by
  induction fuel with
  | zero => intro u s _; simp [CogentModel.Gen.C09Newick.uniqueNameRec, uniqueNameFuel]
  | succ n ih =>
    intro u s hs
    rw [gen_unique_name_rec_step n ih, GenNames.pyOr_some s hs]

/-- generated `_unique_name` = hand model, for every dict state and every label (None, "", any str) -/
theorem gen_unique_name_eq (u : Used) (l : Option String) :
    CogentModel.Gen.C09Newick.uniqueName u l = CogentModel.Phylo.uniqueName u l := by
  unfold CogentModel.Gen.C09Newick.uniqueName CogentModel.Phylo.uniqueName
  rw [gen_unique_name_rec_step _ (gen_unique_name_rec_eq _)]
  cases l with
  | none => rfl
  | some s => by_cases h : s = "" <;> simp [CogentModel.Gen.C09Newick.pyOr, h]

/-- generated initial dict of `TreeBuilder.__init__` = the one `assignNames` starts from -/
theorem gen_used_names_init_eq : CogentModel.Gen.C09Newick.usedNamesInit = [("edge", -1)] := rfl

/-- folding the GENERATED `_unique_name` from the GENERATED initial dict over any label list = `assignNames` -/
theorem gen_assign_names_eq (labels : List (Option String)) :
    genAssignFrom CogentModel.Gen.C09Newick.usedNamesInit labels = assignNames labels := by
  unfold assignNames
  rw [gen_used_names_init_eq]
  generalize ([("edge", -1)] : Used) = u
  induction labels generalizing u with
  | nil => rfl
  | cons l ls ih => simp only [genAssignFrom, assignFrom, gen_unique_name_eq, ih]

/-- hence the translated code hands out pairwise distinct names for ANY list of labels -/
theorem gen_unique_names_nodup (labels : List (Option String)) :
    (genAssignFrom CogentModel.Gen.C09Newick.usedNamesInit labels).Nodup := by
  rw [gen_assign_names_eq]; exact assignNames_nodup labels

end CogentModel.C09
