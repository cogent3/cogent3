import CogentModel.Proofs.GeneticCodeState
import CogentModel.Props.C12
/-!
# C12 — collections in a DERIVED STATE (new-style `SeqsData`: stored strings + `reversed` flags)

`Model/GeneticCodeState.lean` models what `coll.rc()` does to a new-style collection (toggle the flags) and how
`get_translation` / `trim_stop_codons` / `has_terminal_stop` read the DISPLAYED rows and build a new `SeqsData`.
The theorems are for EVERY state `sd` (arbitrary stored rows and flags), so they cover every history of `rc()` calls.
`fwd = false` is the code that does not forward `reversed_seqs` (get_translation; trim_stop_codons after
fixes/C12-new-collection-trim-stop-codons-after-rc.patch), `fwd = true` the code of the finding.  The harness probes the
real class each run and ties the model with the matching `fwd` (driver command `collstate`).
-/
namespace CogentModel.C12State
open CogentModel.GC CogentModel.GCS CogentModel.C12Tables CogentModel.C12

/-- `SequenceCollection.rc()` (new style: only the `reversed` flags of `SeqsData` are toggled) displays the reverse
complement of every DISPLAYED row, in ANY state (any history of `rc`, any flags), and `rc().rc()` displays the
original — for every involutive `rcf` (instantiated below with the moltype reverse complement). -/
theorem collection_rc_displayed (rcf : List Char → List Char) (hinv : ∀ s, rcf (rcf s) = s) (sd : SD) :
    sd.reverseSeqs.rows rcf = (sd.rows rcf).map rcf ∧
    sd.reverseSeqs.reverseSeqs.display rcf = sd.display rcf := by
  constructor
  · simp only [SD.rows, display_reverseSeqs rcf hinv, List.map_map]; rfl
  · simp [display_reverseSeqs rcf hinv, Function.comp_def, hinv]

example : ((SD.fresh [(['a'], ['A', 'C'])]).reverseSeqs.rows List.reverse) = [['C', 'A']] := by decide

/-- new `SequenceCollection.get_translation` on a collection in ANY derived state (any `reversed` flags, hence any
history of `rc()`): the rows the result DISPLAYS are the row-wise translation of the rows the collection DISPLAYS at
the time of the call (the result is built without `reversed_seqs`; `rcf'` — how the protein collection would display
a flagged row — is irrelevant). -/
theorem derived_translation_displayed_rows (rcf rcf' : List Char → List Char) (mt : MT) (seq : List Char) (sd : SD)
    (io is_ ts : Bool) :
    (SD.getTranslation false rcf mt seq sd io is_ ts).map (SD.rows rcf') =
      newCollGetTranslation mt seq (sd.rows rcf) io is_ ts := by
  unfold SD.getTranslation
  cases h : newCollGetTranslation mt seq (sd.rows rcf) io is_ ts with
  | error e => rfl
  | ok rows =>
    have hl := (mapM_ok_get _ _ _ h).1
    simp only [Except.map]
    rw [rows_rebuilt_false rcf' sd rows (by rw [hl, rows_length])]

example : (SD.fresh [(['a'], ['A'])]).reverseSeqs.isRev ['a'] = true := by decide

/-- new `SequenceCollection.trim_stop_codons` WITHOUT `reversed_seqs=self.seqs.reversed` (the repaired code): in any
derived state the displayed rows of the result are the trimmed displayed rows. -/
theorem derived_trim_displayed_rows (rcf : List Char → List Char) (getItem : List Char → Char) (sd : SD) (strict : Bool) :
    (SD.trimStopCodons false rcf getItem sd strict).map (SD.rows rcf) = collTrimStopCodons getItem (sd.rows rcf) strict := by
  unfold SD.trimStopCodons collTrimStopCodons
  cases h : collHasTerminalStop getItem (sd.rows rcf) strict with
  | error e => rfl
  | ok b =>
    cases b with
    | false => rfl
    | true =>
      simp only []
      cases h2 : (sd.rows rcf).mapM (fun r => trimStopCodon getItem r strict) with
      | error e => rfl
      | ok rows =>
        have hl := (mapM_ok_get _ _ _ h2).1
        simp only [Except.map]
        rw [rows_rebuilt_false rcf sd rows (by rw [hl, rows_length])]

example : (SD.fresh [(['a'], ['A'])]).reverseSeqs.reverseSeqs.isRev ['a'] = false := by decide

/-- … and WITH `reversed_seqs=self.seqs.reversed` (the code of the finding
C12-new-collection-trim-stop-codons-after-rc): after one `rc()` of a fresh collection, whenever some displayed row has a
terminal stop, the result displays every trimmed row reverse complemented ONCE MORE. -/
theorem derived_trim_forwarding_actual (rcf : List Char → List Char) (getItem : List Char → Char)
    (data : List (List Char × List Char)) (strict : Bool) :
    let sd := (SD.fresh data).reverseSeqs
    collHasTerminalStop getItem (sd.rows rcf) strict = .ok true →
    (SD.trimStopCodons true rcf getItem sd strict).map (SD.rows rcf) =
      (collTrimStopCodons getItem (sd.rows rcf) strict).map (List.map rcf) := by
  intro sd h
  unfold SD.trimStopCodons collTrimStopCodons
  simp only [h]
  cases h2 : (sd.rows rcf).mapM (fun r => trimStopCodon getItem r strict) with
  | error e => rfl
  | ok rows =>
    have hl := (mapM_ok_get _ _ _ h2).1
    simp only [Except.map]
    rw [rows_rebuilt_true_allrev rcf sd (allrev_reverse_fresh data) rows (by rw [hl, rows_length])]


example : (SD.fresh [(['a'], ['A', 'T'])]).reverseSeqs.rebuilt true [['A']] = ⟨[(['a'], ['A'])], [(['a'], true)]⟩ := by decide

/-- the moltype reverse complement (new DNA / RNA tables) is an involution on EVERY string -/
theorem newRc_invol_all : (∀ s, newRc newDna (newRc newDna s) = s) ∧ (∀ s, newRc newRna (newRc newRna s) = s) :=
  ⟨fun _ => rc_rc_of_invol fun c _ => compl_invol_all.2.2.1 c, fun _ => rc_rc_of_invol fun c _ => compl_invol_all.2.2.2 c⟩

example : newRc newDna ['A', 'C', 'x', 'N', '-'] = ['-', 'N', 'x', 'G', 'T'] := by decide +kernel

/-- Composition with the row-wise theorems of `Props/C12.lean`: for every NCBI code and a new-style DNA collection in ANY
derived state whose displayed rows are canonical and non-empty, `get_translation` displays the sequence-level
SPECIFICATION mapped over the displayed rows (all 8 option combinations); if they are whole codons, the repaired
`trim_stop_codons` displays the specification's trimmed rows; and `rc()` first reverse-complements what is displayed. -/
theorem derived_collection_spec (code : Nat × List Char × List Char) (hc : code ∈ newCodes) (sd : SD) :
    ((∀ r ∈ sd.rows (newRc newDna), Canon r ∧ r ≠ []) → ∀ io is_ ts rcf',
      (SD.getTranslation false (newRc newDna) newDna code.2.1 sd io is_ ts).map (SD.rows rcf') =
        specCollTranslation code.2.1 (sd.rows (newRc newDna)) io is_ ts) ∧
    (CodonRows (sd.rows (newRc newDna)) → ∀ strict,
      (SD.trimStopCodons false (newRc newDna) (newGetItem newDna code.2.1) sd strict).map (SD.rows (newRc newDna)) =
        .ok ((sd.rows (newRc newDna)).map (specTrimRow code.2.1))) ∧
    sd.reverseSeqs.rows (newRc newDna) = (sd.rows (newRc newDna)).map (newRc newDna) := by
  refine ⟨fun h io is_ ts rcf' => ?_, fun h strict => ?_, (collection_rc_displayed _ newRc_invol_all.1 sd).1⟩
  · rw [derived_translation_displayed_rows, collection_translation_rowwise code hc _ h]
  · rw [derived_trim_displayed_rows]
    exact ((collection_trim_rowwise _ h strict).2 code hc).2

example : CodonRows ((SD.fresh [(['s'], ['T', 'T', 'A', 'C', 'A', 'T'])]).reverseSeqs.rows (newRc newDna)) := by decide +kernel

/-- The witness of the finding, kernel-checked on the model with `fwd = true`: `{'s0': 'TCAGCAAAA', 's1': 'AAAAACTAT'}`,
`rc()` displays `TTTTGCTGA / ATAGTTTTT`; `trim_stop_codons` (standard code) then displays `GCAAAA / AAAAACTAT` where the
model with `fwd = false` displays `TTTTGC / ATAGTTTTT`. -/
theorem derived_trim_forwarding_counter : ∀ code ∈ newCodes, code.1 = 1 →
    let sd := (SD.fresh [(['s', '0'], ['T', 'C', 'A', 'G', 'C', 'A', 'A', 'A', 'A']),
                         (['s', '1'], ['A', 'A', 'A', 'A', 'A', 'C', 'T', 'A', 'T'])]).reverseSeqs
    sd.rows (newRc newDna) = [['T', 'T', 'T', 'T', 'G', 'C', 'T', 'G', 'A'], ['A', 'T', 'A', 'G', 'T', 'T', 'T', 'T', 'T']] ∧
    (SD.trimStopCodons true (newRc newDna) (newGetItem newDna code.2.1) sd false).map (SD.rows (newRc newDna)) =
      .ok [['G', 'C', 'A', 'A', 'A', 'A'], ['A', 'A', 'A', 'A', 'A', 'C', 'T', 'A', 'T']] ∧
    (SD.trimStopCodons false (newRc newDna) (newGetItem newDna code.2.1) sd false).map (SD.rows (newRc newDna)) =
      .ok [['T', 'T', 'T', 'T', 'G', 'C'], ['A', 'T', 'A', 'G', 'T', 'T', 'T', 'T', 'T']] := by
  decide +kernel

example : ∃ code ∈ newCodes, code.1 = 1 := by decide

/-- EVERY history of `rc()` calls: after `n` calls the collection displays every row of the original display with the
reverse complement applied `n` times — so an even number of calls displays the original rows and an odd number their
reverse complements, whatever the state it started from. -/
theorem collection_rc_history (rcf : List Char → List Char) (hinv : ∀ s, rcf (rcf s) = s) :
    ∀ (n : Nat) (sd : SD), (sd.rcTimes n).rows rcf = (sd.rows rcf).map (if n % 2 = 0 then id else rcf) := by
  intro n
  induction n with
  | zero => intro sd; simp [SD.rcTimes]
  | succ n ih =>
    intro sd
    rw [SD.rcTimes, ih, (collection_rc_displayed rcf hinv sd).1, List.map_map]
    refine List.map_congr_left fun r _ => ?_
    rcases Nat.mod_two_eq_zero_or_one n with h | h <;> simp [Nat.add_mod, h, hinv]

example : ((SD.fresh [(['a'], ['A', 'C'])]).rcTimes 3).rows (newRc newDna) = [['G', 'T']] := by decide +kernel

end CogentModel.C12State
