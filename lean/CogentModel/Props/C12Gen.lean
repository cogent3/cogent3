import CogentModel.Gen.C12Code
import CogentModel.Proofs.GeneticCodePrims
import CogentModel.Props.C12
/-!
# C12 — tie by TRANSLATION: the generated definitions equal the hand model, for all arguments

`Gen/C12Code.lean` is re-translated from the CURRENT source of `core/genetic_code.py`, `core/new_genetic_code.py`,
`core/new_sequence.py` and `core/sequence.py` on every run (`translator/c12_code2lean.py`).  Each theorem below states
that one translated function is, for ALL arguments, the hand model (`Model/GeneticCode.lean`) the property theorems of
`Props/C12.lean` are about — so a semantic edit of any of these functions breaks an obligation here (the proofs are
in this file, so the broken obligation is named).  `mkOldGC seq starts` / `mkNewGCO mt seq` are the genetic-code
objects for an ARBITRARY 64-character table `seq` (not only the 27 NCBI tables).  Starts are `Nat`s cast to `Int`
in the first theorems; `gen_new_translate_int` lifts that for the new `translate` (EVERY integer start); the old
`translate` with a negative start walks `range(start, …)` through negative slice bounds and is executed by the
correspondence only.
The last section composes: translated source → hand model → specification.
-/
namespace CogentModel.C12Gen
open CogentModel.GC CogentModel.GCP CogentModel.Gen.C12Code CogentModel.C12Tables

/-! ## `core/genetic_code.py` -/

/-- translated `GeneticCode.__getitem__` (old), EVERY item: three characters → the hand model's look-up (upper case,
`U → T`, `'X'` when unknown), one character → the synonyms entry, any other length → InvalidCodonError. -/
theorem gen_old_getitem (seq st item : List Char) :
    old_getitem (mkOldGC seq st) item =
      if item.length = 1 then .ok (.strs (lookupD (mkOldGC seq st).synonyms item []))
      else if item.length = 3 then .ok (.str [oldGetItem seq item]) else .error .invalidCodon := by
  unfold old_getitem
  simp only [pyLen_eq1, pyLen_eq3, key_eq, dictGetD]
  split
  · rfl
  · split
    · simp only [mkOldGC, lookupD_dictOfZip]
      rw [show ['X'] = (fun c : Char => [c]) 'X' from rfl, dictGet_zip_map]; rfl
    · rfl

example : old_getitem (mkOldGC (NCBI.tableOf []) []) ['a', 'u', 'g'] = .ok (.str ['M']) := by
  rw [standard_table]
  decide +kernel

/-- the comprehension `[self[dna[i:i+3]] for i in range(k, …, 3)]` of the translated old `translate` visits exactly the
successive complete codons of `dna[k:]` (`range_slices`). -/
theorem old_chunks_range (seq st dna : List Char) : ∀ (n k : Nat), 3 * n ≤ dna.length - k → dna.length - k < 3 * n + 3 →
    k ≤ dna.length →
    (pyRangeAux n (k : Int) 3).mapM (fun i => old_getitem (mkOldGC seq st) (pySlice dna (some i) (some (i + (3 : Int))))) =
      .ok ((oldCodons seq (dna.drop k)).map fun c => Item.str [c]) := by
  intro n k h1 h2 h3
  have hr := range_slices dna n k h1 h2 h3
  rw [oldCodons_chunks3, List.map_map, ← hr]
  refine (List.mapM_map (g := old_getitem (mkOldGC seq st))).symm.trans ((mapM_congr_mem fun w hw => ?_).trans List.mapM_pure)
  rw [gen_old_getitem, length_of_mem_chunks3 (hr ▸ hw)]
  rfl

example : (3 * 2 ≤ 8 - 1) ∧ (8 - 1 < 3 * 2 + 3) := by decide

/-- translated `GeneticCode.translate` (old) = the hand model for every text and every start ≥ 0 (empty text → `""`,
start beyond the end → ValueError, otherwise the comprehension over `range(start, len(dna) - 2, 3)`). -/
theorem gen_old_translate (seq st dna : List Char) (start : Nat) :
    old_translate (mkOldGC seq st) dna (start : Int) = liftE (oldTranslate seq dna start) := by
  unfold old_translate oldTranslate
  cases dna with
  | nil => simp [liftE]
  | cons x xs =>
    have e : ((start : Int) + 1 > pyLen (x :: xs)) ↔ start + 1 > (x :: xs).length := by unfold pyLen; omega
    simp only [ne_eq, reduceCtorEq, not_false_eq_true, not_true_eq_false, if_false, List.isEmpty_cons, Bool.false_eq_true, e]
    split
    · rfl
    · rw [pyRange_codons _ start (by omega), old_chunks_range seq st (x :: xs) _ start (Nat.mul_div_le _ 3) (by omega) (by omega)]
      simp only [Except.bind, pyJoinItems_singletons]
      rfl

example : old_translate (mkOldGC (NCBI.tableOf []) []) ['A', 'A', 'T', 'G', 'T', 'A', 'A', 'C'] 1 = .ok ['M', '*'] := by
  rw [standard_table]
  decide +kernel

/-- translated `GeneticCode.sixframes` (old) = the hand model (three frames of the sequence, three of `dna.rc()`). -/
theorem gen_old_sixframes (seq st dna : List Char) :
    old_sixframes (mkOldGC seq st) dna = liftE (oldSixframes oldDna seq dna) := by
  have h : ∀ d, [(0:Int), 1, 2].mapM (fun start => old_translate (mkOldGC seq st) d start) =
      liftE ([0, 1, 2].mapM (oldTranslate seq d)) := fun d => by
    rw [← mapM_liftE, ← funext (gen_old_translate seq st d)]
    rfl
  unfold old_sixframes oldSixframes
  simp only [pyRange3, h, oldSeqRc, liftE_bind]
  rfl

example : old_sixframes (mkOldGC (NCBI.tableOf []) []) ['A', 'T', 'G'] = .ok [['M'], [], [], ['H'], [], []] := by
  rw [standard_table]
  decide +kernel

/-- translated `GeneticCode.is_stop` (old) = `gc[codon] == "*"`: the hand model's `isStopEnd`, every item. -/
theorem gen_old_is_stop (seq st codon : List Char) :
    old_is_stop (mkOldGC seq st) codon = liftE (isStopEnd (oldGetItem seq) codon) :=
  isStop_of_getitem (gen_old_getitem seq st codon)

example : old_is_stop (mkOldGC (NCBI.tableOf []) []) ['u', 'g', 'a'] = .ok true := by
  rw [standard_table]
  decide +kernel

/-- translated `GeneticCode.is_start` (old): the normalised codon (upper case, `U → T`) is a key of `start_codons`. -/
theorem gen_old_is_start (seq st codon : List Char) :
    old_is_start (mkOldGC seq st) codon = .ok (dictHas (mkOldGC seq st).start_codons (oldKey codon)) := by
  simp [old_is_start, key_eq]

example : old_is_start (mkOldGC (NCBI.tableOf []) (NCBI.startsOf ["ATG"])) ['a', 'u', 'g'] = .ok true := by
  rw [standard_table]
  decide +kernel

/-- translated `_simple_rc` is the specification's reverse complement on EVERY string. -/
theorem gen_old_simple_rc (s : List Char) : old_simple_rc s = .ok (GCSpec.rc s) := by
  -- the table and `wc` agree on the four keys and leave every other character alone
  refine congrArg (fun l => Except.ok (List.reverse l)) (List.map_congr_left fun c _ => ?_)
  by_cases h : c ∈ ['T', 'C', 'A', 'G']
  · exact (by decide : ∀ c ∈ ['T', 'C', 'A', 'G'],
      dictGet (['T', 'C', 'A', 'G'].zip ['A', 'G', 'T', 'C']) c c = GCSpec.wc c) c h
  · rw [dictGet_not_mem _ _ _ h]
    simp only [List.mem_cons, List.not_mem_nil, or_false, not_or] at h
    simp only [GCSpec.wc, h, if_false]

example : old_simple_rc ['A', 'A', 'C', 'G', 'N'] = .ok ['N', 'C', 'G', 'T', 'T'] := by decide

/-! ## `core/new_genetic_code.py` -/

/-- translated `GeneticCode.__getitem__` (new), EVERY item. -/
theorem gen_new_getitem (mt : MT) (seq item : List Char) :
    new_getitem (mkNewGCO mt seq) item =
      if item.length = 1 then .ok (.strs (lookupD (mkNewGCO mt seq).aa_to_codon item []))
      else if item.length = 3 then .ok (.str [newGetItem mt seq item]) else .error .invalidCodon := by
  unfold new_getitem
  simp only [pyLen_eq1, ne_eq, pyLen_eq3, key_eq, dictGetD]
  split
  · rfl
  · split
    · simp
    · rename_i h; have h' : item.length = 3 := by omega
      simp only [h', if_true, mkNewGCO, lookupD_dictOfZip, newGetItem]
      rw [show ['X'] = (fun c : Char => [c]) 'X' from rfl, dictGet_zip_map]

example : new_getitem (mkNewGCO newDna (NCBI.tableOf [])) ['T', 'A', 'A'] = .ok (.str ['*']) := by
  rw [standard_table]
  decide +kernel

/-- translated `GeneticCode.is_stop` (new), every item. -/
theorem gen_new_is_stop (mt : MT) (seq codon : List Char) :
    new_is_stop (mkNewGCO mt seq) codon = liftE (isStopEnd (newGetItem mt seq) codon) :=
  isStop_of_getitem (gen_new_getitem mt seq codon)

/-- translated `GeneticCode.translate` (new) = the hand model for EVERY input (a `str`, or the index array of a
sequence over any alphabet), every start ≥ 0 and both strands: slice from `start`, cut to a multiple of three,
k-mer indices, bytes, byte-translate, reverse for `rc` — in this order (which is why the minus-strand frame is wrong). -/
theorem gen_new_translate (mt : MT) (seq : List Char) (d : Dna) (start : Nat) (rc : Bool) :
    new_translate (mkNewGCO mt seq) d (start : Int) rc =
      .ok ((mkNewGC mt seq).translateWith (d.alpha.getD (mkNewGC mt seq).alpha) d.chars start rc) := by
  unfold new_translate NewGC.translateWith NewGC.translateIdx
  simp only [Dna.slice, Dna.len, pySlice_n_, fmod3, Int.natCast_ne_zero]
  generalize hd1 : (if start ≠ 0 then List.drop start d.chars else d.chars) = d1
  have hd1' : (if start ≠ 0 then ({ chars := List.drop start d.chars, alpha := d.alpha } : Dna) else d) = ⟨d1, d.alpha⟩ := by
    subst hd1; split <;> rfl
  rw [hd1']
  simp only []
  have hd2 : (if d1.length % 3 ≠ 0 then ({ chars := pySlice d1 none (some (-((d1.length % 3 : Nat) : Int))), alpha := d.alpha } : Dna) else ⟨d1, d.alpha⟩) = ⟨trunc3 d1, d.alpha⟩ := by
    unfold trunc3
    split
    · rename_i h; rw [pySlice__neg _ _ (by omega)]
    · rfl
  rw [hd2]
  simp only [NewGCO.toIndices, Idx.tobytes, NewGCO.translatePlus, NewGCO.translateMinus, pyRev, mkNewGCO]
  cases d.alpha <;> cases rc <;> simp

example : new_translate (mkNewGCO newDna (NCBI.tableOf [])) (Dna.ofStr ['A', 'T', 'G', 'A', 'A', 'A', 'T', 'A']) 0 true =
    .ok ['F', 'H'] := by
  rw [standard_table]
  decide +kernel

/-- … in particular on a `str` it is `newTranslate`, the function of `translate_plus_spec` / `translate_minus_actual`. -/
theorem gen_new_translate_str (mt : MT) (seq dna : List Char) (start : Nat) (rc : Bool) :
    new_translate (mkNewGCO mt seq) (Dna.ofStr dna) (start : Int) rc = .ok (newTranslate mt seq dna start rc) :=
  gen_new_translate mt seq (Dna.ofStr dna) start rc

example : newTranslate newDna (NCBI.tableOf []) ['A', 'T', 'G', 'T', 'A', 'A'] 0 false = ['M', '*'] := by
  rw [standard_table]
  decide +kernel

/-- The `Nat`-start restriction lifted: for EVERY integer `start` (negative ones count from the end and are clamped, as
Python slices do) the translated new `translate` first takes `dna[start:]` — `start = 0` included, where the code skips
the slice — and then translates that from frame 0. -/
theorem new_translate_shift (g : NewGCO) (d : Dna) (start : Int) (rc : Bool) :
    new_translate g d start rc = new_translate g (Dna.slice d (some start) none) 0 rc := by
  unfold new_translate
  have h : (if start ≠ 0 then Dna.slice d (some start) none else d) = Dna.slice d (some start) none := by
    split
    · rfl
    · rename_i h
      have h0 : start = ((0 : Nat) : Int) := by omega
      rw [h0]
      simp only [Dna.slice, pySlice_n_, List.drop_zero]
  rw [h]
  simp

example : new_translate (mkNewGCO newDna (NCBI.tableOf [])) (Dna.ofStr ['C', 'C', 'A', 'T', 'G', 'A']) (-4) false = .ok ['M'] := by
  rw [standard_table]
  decide +kernel

/-- translated new `translate` = the hand model for EVERY integer start (negative, zero, beyond the end), both strands,
`str` or index array: the hand model applied to the Python slice `dna[start:]`. -/
theorem gen_new_translate_int (mt : MT) (seq : List Char) (d : Dna) (start : Int) (rc : Bool) :
    new_translate (mkNewGCO mt seq) d start rc =
      .ok ((mkNewGC mt seq).translateWith (d.alpha.getD (mkNewGC mt seq).alpha) (pySlice d.chars (some start) none) 0 rc) := by
  rw [new_translate_shift]
  exact gen_new_translate mt seq (Dna.slice d (some start) none) 0 rc

example : pySlice ['C', 'C', 'A', 'T', 'G', 'A'] (some (-4 : Int)) none = ['A', 'T', 'G', 'A'] := by decide

/-- … so a NEGATIVE start `-k` translates the last `k` characters (the whole text when `k` exceeds its length). -/
theorem gen_new_translate_neg_str (mt : MT) (seq dna : List Char) (k : Nat) (hk : 0 < k) (rc : Bool) :
    new_translate (mkNewGCO mt seq) (Dna.ofStr dna) (-(k : Int)) rc = .ok (newTranslate mt seq (dna.drop (dna.length - k)) 0 rc) := by
  rw [gen_new_translate_int]
  simp only [Dna.ofStr, pySlice_neg_ _ _ hk]
  rfl

example : (0 : Nat) < 4 := by decide

/-- translated `GeneticCode.sixframes` (new; a generator over `itertools.product(("+", "-"), range(3))`) = the hand
model (strand sign as "+" / "-"). -/
theorem gen_new_sixframes (mt : MT) (seq dna : List Char) :
    new_sixframes (mkNewGCO mt seq) (Dna.ofStr dna) =
      .ok ((newSixframes mt seq dna).map fun x => ((if x.1 then ['-'] else ['+']), (x.2.1 : Int), x.2.2)) := by
  have h0 := fun rc => gen_new_translate mt seq (Dna.ofStr dna) 0 rc
  have h1 := fun rc => gen_new_translate mt seq (Dna.ofStr dna) 1 rc
  have h2 := fun rc => gen_new_translate mt seq (Dna.ofStr dna) 2 rc
  have e2 : ((2 : Nat) : Int) = 2 := rfl
  simp only [Int.natCast_zero, Int.natCast_one, e2] at h0 h1 h2
  unfold new_sixframes newSixframes newTranslate
  simp only [pyRange3, pyProduct, List.flatMap_cons, List.flatMap_nil, List.map_cons, List.map_nil, List.append_nil,
    List.cons_append, List.nil_append, List.mapM_cons, List.mapM_nil, h0, h1, h2]
  simp [Except.bind, bind, pure, Except.pure, Dna.ofStr]

/-! ## stop handling of sequences: `core/new_sequence.py`, `core/sequence.py` -/

/-- translated `has_terminal_stop` (new `Sequence`) = the hand model applied to the ungapped string, for EVERY sequence
(gapped or not), both values of `strict`. -/
theorem gen_new_seq_has_terminal_stop (mt : MT) (seq : List Char) (q : NSeq) (strict : Bool) :
    new_seq_has_terminal_stop q (mkNewGCO mt seq) strict =
      liftE (hasTerminalStop (newGetItem mt seq) (q.chars.filter fun c => c ≠ q.gap) strict) := by
  unfold new_seq_has_terminal_stop hasTerminalStop
  simp only [NSeq.len, NSeq.ungapped, NSeq.slice, NSeq.str, pySlice_m3, fmod3_zero, decide_eq_true_eq, gen_new_is_stop, lastN]
  split
  · rfl
  · cases strict <;> rfl

example : new_seq_has_terminal_stop (newSeqOf newDna ['A', 'T', 'G', '-', '-', 'T', 'A', '-', 'A']) (mkNewGCO newDna (NCBI.tableOf [])) false
    = .ok true := by
  rw [standard_table]
  decide +kernel

/-- translated `has_terminal_stop` (old `Sequence`), likewise. -/
theorem gen_old_seq_has_terminal_stop (seq st : List Char) (q : NSeq) (strict : Bool) :
    old_seq_has_terminal_stop q (mkOldGC seq st) strict =
      liftE (hasTerminalStop (oldGetItem seq) (q.chars.filter fun c => c ≠ q.gap) strict) := by
  unfold old_seq_has_terminal_stop hasTerminalStop
  simp only [NSeq.len, NSeq.ungapped, NSeq.slice, NSeq.str, pySlice_m3, fmod3_zero, decide_eq_true_eq, gen_old_is_stop, lastN]
  split
  · rfl
  · cases strict <;> rfl

/-- translated `trim_stop_codon` (new `Sequence`) on a sequence without gap characters = the hand model (`self[:-3]` when
the last codon is a stop, unchanged otherwise, AlphabetError for a strict length violation).
PARTIAL: the regular-expression branch (sequences containing gaps) is translated and executed by the correspondence,
not proved. -/
theorem gen_new_seq_trim_stop_codon_partial (mt : MT) (seq : List Char) (q : NSeq) (hq : GapFree q) (strict : Bool) :
    new_seq_trim_stop_codon q (mkNewGCO mt seq) strict =
      liftE ((trimStopCodon (newGetItem mt seq) q.chars strict).map fun t => NSeq.withStr q t) := by
  unfold new_seq_trim_stop_codon
  simp only [gen_new_seq_has_terminal_stop, numGaps_of_gapFree hq, NSeq.len, NSeq.ungapped, NSeq.slice, NSeq.str,
    pySlice_m3, pySlice__m3, fmod3_zero, decide_eq_true_eq, gen_new_is_stop, filter_nogap _ _ hq]
  exact trim_of_has_stop q strict _

example : GapFree (newSeqOf newDna ['A', 'T', 'G', 'T', 'A', 'A']) := by unfold GapFree; decide

/-- translated `trim_stop_codon` (old `Sequence`), likewise. -/
theorem gen_old_seq_trim_stop_codon_partial (seq st : List Char) (q : NSeq) (hq : GapFree q) (strict : Bool) :
    old_seq_trim_stop_codon q (mkOldGC seq st) strict =
      liftE ((trimStopCodon (oldGetItem seq) q.chars strict).map fun t => NSeq.withStr q t) := by
  unfold old_seq_trim_stop_codon
  simp only [gen_old_seq_has_terminal_stop, numGaps_of_gapFree hq, NSeq.len, NSeq.ungapped, NSeq.slice, NSeq.str,
    pySlice_m3, pySlice__m3, fmod3_zero, decide_eq_true_eq, gen_old_is_stop, filter_nogap _ _ hq]
  exact trim_of_has_stop q strict _

/-- translated `Sequence.get_translation` (new) on a sequence without gap characters = the hand model, all eight
combinations of `incomplete_ok`, `include_stop`, `trim_stop`. -/
theorem gen_new_seq_get_translation_partial (mt : MT) (seq s : List Char) (hs : mt.gap ∉ s) (io is_ ts : Bool) :
    new_seq_get_translation (newSeqOf mt s) (mkNewGCO mt seq) io is_ ts =
      liftE (newSeqGetTranslation mt seq s io is_ ts) := by
  have hq : GapFree (newSeqOf mt s) := hs
  have ht := fun q => gen_new_translate mt seq (NSeq.array q) 0 false
  -- the checks on the translated peptide, as translated and as modelled
  have hchk : ∀ pep : List Char,
      (if (¬ is_ = true) ∧ '*' ∈ pep then .error PyErr.alphabetError
       else if (¬ io = true) ∧ ('-' ∈ pep ∨ 'X' ∈ pep) then .error PyErr.alphabetError else .ok pep) =
      liftE (do
        if !is_ && pep.contains '*' then throw Err.alphabetError
        if !io && (pep.contains '-' || pep.contains 'X') then throw Err.alphabetError
        pure pep) := by
    intro pep
    cases io <;> cases is_ <;>
      simp [bind, Except.bind, pure, Except.pure, throw, throwThe, MonadExceptOf.throw] <;>
      (repeat' split) <;> rfl
  unfold new_seq_get_translation newSeqGetTranslation
  simp only [gen_new_seq_trim_stop_codon_partial mt seq _ hq, Int.natCast_zero ▸ ht]
  cases ts
  · simp only [Bool.false_eq_true, if_false, Except.bind, hchk]
    rfl
  · simp only [if_true, decide_not, Bool.decide_eq_true, newSeqOf]
    cases h : trimStopCodon (newGetItem mt seq) s (!io) with
    | error e => simp [liftE, Except.bind, bind, Except.map]
    | ok s1 =>
      simp only [liftE, Except.bind, Except.map, hchk]
      rfl

example : newDna.gap ∉ ['A', 'T', 'G', 'T', 'A', 'A'] := by decide

/- FULL STATEMENT (not proved): `gen_*_trim_stop_codon` / `gen_new_seq_get_translation` without the gap-free
   hypothesis: the hand model `trimStopCodon` has no counterpart of the regular-expression branch (it is executed
   against the real functions on gapped DNA / RNA sequences every run instead). -/

/-! ## `core/sequence.py` old `Sequence.get_translation` (loops, try / except, `continue`, the RNA recursion) -/

/-- the lifted body of the inner loop (`for codon in resolved`) does not depend on the outer loop's variables it is given -/
theorem for1_params (self : NSeq) (gc : OldGC) (io is_ ts : Bool) (p : PM) (ca : List (List Char)) (m : NSeq)
    (tr : List (List Char)) (sq : List Char) (posn : Int) (oc : List Char) (res : List (List Char)) :
    old_seq_get_translation_for1 self gc io is_ ts p ca m tr sq posn oc res =
      old_seq_get_translation_for1 self gc io is_ false p ca m [] [] 0 [] [] := by
  funext trans codon
  rfl

example : old_seq_get_translation_for1 (oldSeqOf oldDna []) (mkOldGC (NCBI.tableOf []) []) false false true (protMoltype []) [] (oldSeqOf oldDna [])
    [] [] 0 [] [] [['K']] ['-', '-', '-'] = .ok [['K'], ['-']] := by decide

/-- the lifted body of the outer loop (`for posn in range(0, len(seq) - 2, 3)`) looks at the text only through the codon
`seq[posn : posn + 3]` and only APPENDS to `translation`: it is itself run on the codon alone, appended to the state -/
theorem for2_acc (self : NSeq) (gc : OldGC) (io is_ ts : Bool) (p : PM) (ca : List (List Char)) (m : NSeq)
    (sq : List Char) (tr : List (List Char)) (posn : Int) (cod : List Char)
    (hc : pySlice sq (some posn) (some (posn + 3)) = cod) (h3 : cod.length = 3) :
    old_seq_get_translation_for2 self gc io is_ ts p ca m sq tr posn =
      (old_seq_get_translation_for2 self gc io is_ false p ca m cod [] 0).map (fun t => tr ++ t) := by
  have h0 : pySlice cod (some (0 : Int)) (some ((0 : Int) + 3)) = cod :=
    (pySlice_nn cod 0 3).trans (List.take_of_length_le (Nat.le_of_eq h3))
  unfold old_seq_get_translation_for2
  simp only [hc, h0, for1_params self gc io is_ ts p ca m tr sq posn, for1_params self gc io is_ false p ca m [] cod 0]
  cases pyTry (NSeq.resolveAmbiguity m cod ca) PyErr.alphabetError
      (if (¬ (io = true)) ∨ (¬ ('-' ∈ cod)) then .error PyErr.alphabetError else .ok [cod]) with
  | error e => rfl
  | ok resolved =>
    simp only [Except.bind]
    cases resolved.foldlM (old_seq_get_translation_for1 self gc io is_ false p ca m [] [] 0 [] []) [] with
    | error e => rfl
    | ok trans =>
      simp only []
      split <;> simp [Except.map]

example : pySlice ['A', 'A', 'T', 'G', 'C'] (some (1 : Int)) (some ((1 : Int) + 3)) = ['A', 'T', 'G'] := by decide

/-- the protein moltype old `get_translation` asks for -/
def protOf (is_ : Bool) : PM :=
  protMoltype (if (is_ = true) then ['p', 'r', 'o', 't', 'e', 'i', 'n', '_', 'w', 'i', 't', 'h', '_', 's', 't', 'o', 'p'] else ['p', 'r', 'o', 't', 'e', 'i', 'n'])

/-- what the TRANSLATED loop body does with ONE codon (`resolve_ambiguity` with the code's codon alphabet, the inner loop
over the resolved codons, `what_ambiguity` of the protein moltype): the body itself, run on the codon alone -/
def oldCodonStep (q : NSeq) (g : OldGC) (io is_ : Bool) (cod : List Char) : Except PyErr (List (List Char)) :=
  old_seq_get_translation_for2 q g io is_ false (protOf is_) (OldGC.codonAlphabet g is_) q cod [] 0

def oldCodonFold (q : NSeq) (g : OldGC) (io is_ : Bool) (acc : List (List Char)) (cod : List Char) : Except PyErr (List (List Char)) :=
  (oldCodonStep q g io is_ cod).map fun t => acc ++ t

/-- the outer loop of the translated old `get_translation` visits exactly the successive complete codons of the text
(`range_slices`), threading the accumulated translation — for EVERY text (gapped, ambiguous,
any length) and every option -/
theorem old_tr_loop (q : NSeq) (g : OldGC) (io is_ ts : Bool) (str : List Char) : ∀ (n k : Nat) (acc : List (List Char)),
    3 * n ≤ str.length - k → str.length - k < 3 * n + 3 → k ≤ str.length →
    (pyRangeAux n (k : Int) 3).foldlM
        (old_seq_get_translation_for2 q g io is_ ts (protOf is_) (OldGC.codonAlphabet g is_) q str) acc =
      (chunks3 (str.drop k)).foldlM (oldCodonFold q g io is_) acc := by
  intro n k acc h1 h2 h3
  have hr := range_slices str n k h1 h2 h3
  rw [← hr, List.foldlM_map]
  exact foldlM_congr_mem acc fun i hi tr => for2_acc q g io is_ ts _ _ q str tr i _ rfl
    (length_of_mem_chunks3 (hr ▸ List.mem_map_of_mem hi))

example : chunks3 ['A', 'T', 'G', '-', '-', 'A', 'C'] = [['A', 'T', 'G'], ['-', '-', 'A']] := by decide

/-- NORMAL FORM of the translated old `Sequence.get_translation`, for EVERY sequence (gapped, ambiguous, RNA, any length),
every genetic-code object and all eight option combinations: an RNA sequence is converted with `to_dna()` and translated
again (the recursion; `fuel` = remaining depth); otherwise the text is the sequence itself when `include_stop or not
trim_stop` (this is where `include_stop` overrides `trim_stop`: known finding) and `trim_stop_codon(gc, strict=not
incomplete_ok)` else; its successive complete codons go through the codon step one by one, left to right, the first
failure aborts, and the amino acids are joined. -/
theorem gen_old_seq_get_translation_structure (q : NSeq) (g : OldGC) (io is_ ts : Bool) (fuel : Nat) :
    old_seq_get_translation_fuel (fuel + 1) q g io is_ ts =
      if NSeq.label q = ['r', 'n', 'a'] then old_seq_get_translation_fuel fuel (NSeq.toDna q) g io is_ ts
      else
        Except.bind (if is_ = true ∨ ¬ ts = true then .ok q.chars
                     else (old_seq_trim_stop_codon q g (decide (¬ io = true))).map NSeq.str) fun str =>
        Except.bind ((chunks3 str).foldlM (oldCodonFold q g io is_) []) fun tr => .ok (pyJoin [] tr) := by
  conv => lhs; unfold old_seq_get_translation_fuel
  simp only []
  split
  · rfl
  · have h0 : ∀ s : List Char, pyRange (0 : Int) (pyLen s - 2) 3 = pyRangeAux (s.length / 3) ((0 : Nat) : Int) 3 :=
      fun s => pyRange_codons s 0 (Nat.zero_le _)
    simp only [h0]
    have hl := fun str => old_tr_loop q g io is_ ts str (str.length / 3) 0 [] (by omega) (by omega) (by omega)
    simp only [List.drop_zero] at hl
    split
    · simp only [NSeq.str, Except.bind]
      rw [← hl q.chars]
      rfl
    · cases old_seq_trim_stop_codon q g (decide (¬ io = true)) with
      | error e => rfl
      | ok t =>
        simp only [NSeq.str, Except.bind, Except.map]
        rw [← hl t.chars]
        rfl

example : old_seq_get_translation (oldSeqOf oldDna ['A', 'T', 'G', 'R', 'A', 'T', 'T', 'A', 'A']) (mkOldGC (NCBI.tableOf []) []) false false true
    = .ok ['M', 'B'] := by
  rw [standard_table]
  decide +kernel

/-- `to_dna()` leaves a DNA sequence: the RNA recursion of old `get_translation` is exactly one level deep, so the
two-level fuel of the translation never runs out. -/
theorem old_get_translation_recursion_depth (q : NSeq) (g : OldGC) (io is_ ts : Bool) :
    NSeq.label (NSeq.toDna q) ≠ ['r', 'n', 'a'] ∧
    (NSeq.label q = ['r', 'n', 'a'] →
      old_seq_get_translation q g io is_ ts = old_seq_get_translation_fuel 1 (NSeq.toDna q) g io is_ ts) := by
  constructor
  · have hU : 'U' ∉ (NSeq.toDna q).mtChars := by
      simp only [NSeq.toDna, List.mem_map, not_exists, not_and]
      intro c _
      split
      · decide
      · split
        · decide
        · rename_i h _; exact h
    simp [NSeq.label, hU]
  · intro h
    unfold old_seq_get_translation
    rw [gen_old_seq_get_translation_structure, if_pos h]

example : old_seq_get_translation (oldSeqOf oldRna ['A', 'U', 'G', 'U', 'A', 'A']) (mkOldGC (NCBI.tableOf []) []) false false true
    = .ok ['M'] := by
  rw [standard_table]
  decide +kernel

/-! ## composition: translated source → hand model → specification -/

/-- The TRANSLATED new `translate` is the table mapped over the successive codons, for every NCBI code, every canonical
sequence of any length and every start offset (plus strand); and the TRANSLATED old `translate` likewise. -/
theorem translated_translate_spec (code : Nat × List Char × List Char) (s : List Char) (start : Nat) (hs : Canon s) :
    (code ∈ newCodes →
      new_translate (mkNewGCO newDna code.2.1) (Dna.ofStr s) (start : Int) false = .ok (GCSpec.translate code.2.1 (s.drop start))) ∧
    (code ∈ oldCodes → start < s.length →
      old_translate (mkOldGC code.2.1 code.2.2) s (start : Int) = .ok (GCSpec.translate code.2.1 (s.drop start))) := by
  refine ⟨fun hc => ?_, fun hc hlt => ?_⟩
  · rw [gen_new_translate_str, C12.translate_plus_spec code hc s start hs]
  · rw [gen_old_translate, C12.old_translate_spec code hc s start hs hlt]; rfl

example : Canon ['A', 'T', 'G', 'A', 'A', 'A', 'T', 'A'] ∧ 1 < ['A', 'T', 'G', 'A', 'A', 'A', 'T', 'A'].length := by decide

/-- The TRANSLATED new `Sequence.get_translation` trims / keeps / rejects stops as the specification says, for every NCBI
code, every non-empty canonical sequence and all eight option combinations. -/
theorem translated_get_translation_stop_rules (code : Nat × List Char × List Char) (hc : code ∈ newCodes)
    (s : List Char) (hs : Canon s) (hne : s ≠ []) (io is_ ts : Bool) :
    new_seq_get_translation (newSeqOf newDna s) (mkNewGCO newDna code.2.1) io is_ ts =
      liftE (outcomeToExcept (GCSpec.getTranslation code.2.1 s io is_ ts)) := by
  have hg : newDna.gap ∉ s := by
    intro h
    have := hs _ h
    revert this
    decide
  rw [gen_new_seq_get_translation_partial newDna code.2.1 s hg, C12.get_translation_stop_rules code hc s hs hne]

example : Canon ['A', 'T', 'G', 'T', 'A', 'A'] ∧ ['A', 'T', 'G', 'T', 'A', 'A'] ≠ [] := by decide

end CogentModel.C12Gen
