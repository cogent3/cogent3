/-
  C13 — the GENERATED definitions
    Gen/C13Fmt.lean  (cogent3.util.io.get_format_suffixes, translated statement by statement into the Option monad)
    Gen/C13Sql.lean  (DataStoreSqlite: identifier rewriting, guards, UPDATE/INSERT and DELETE choice, SQL column pairing, statement order;
                      DataStoreABC.__contains__)
  are equal to the hand models the refinement theorems are stated on (Model/DataStore.lean getFormatSuffixes, Model/DataStoreSqlite.lean),
  for ALL arguments.  Both generated files are rewritten from the current source on every run.
-/
import CogentModel.Gen.C13Fmt
import CogentModel.Gen.C13Sql
import CogentModel.Gen.C13Names
import CogentModel.Model.DataStoreSqlite
import CogentModel.Proofs.DataStoreGen
namespace CogentModel.C13
open CogentModel CogentModel.KV
open CogentModel.DataStore (sResults sLogs startsWith pathName splitExt pathSuffixes pathSuffixDot pathSuffixesDot reSubLeadDot lower
  pyLastN pyIdx getFormatSuffixes compression)
open CogentModel.DataStoreSqlite

theorem gen_get_format_suffixes_eq (n : Str) :
    (Gen.C13Fmt.get_format_suffixes n).getD (none, none) = getFormatSuffixes n := by
  rw [gen_get_format_suffixes_cases]
  by_cases h : (splitExt n).isNone
  · simp [h, getFormatSuffixes]
  · cases hp : pathSuffixes n <;> simp [h, hp, getFormatSuffixes]

/-- the translated function raises IndexError exactly for names with a `.suffix` but no `.suffixes` (`..a`) -/
theorem gen_get_format_suffixes_raises_iff (n : Str) :
    Gen.C13Fmt.get_format_suffixes n = none ↔ ((splitExt n).isSome ∧ pathSuffixes n = []) := by
  rw [gen_get_format_suffixes_cases]
  cases splitExt n <;> simp [List.isEmpty_iff]

/-- non-vacuity: a two-part, upper-case suffix; a name on which the Python raises -/
example : Gen.C13Fmt.get_format_suffixes "a.FA.gz".toList = some (some "fa".toList, some "gz".toList) := by decide +kernel
example : Gen.C13Fmt.get_format_suffixes "..a".toList = none := by decide +kernel

theorem gen_sql_write_id_eq (id : Str) :
    Gen.C13Sql.write_id id = stripTable sResults id ∧ Gen.C13Sql.write_nc_id id = stripTable sResults id
      ∧ Gen.C13Sql.write_log_id id = stripTable sLogs id := ⟨rfl, rfl, rfl⟩

theorem gen_sql_contains_eq {D : Type} (s : Sql D) (id : Str) :
    Gen.C13Sql.abc_contains s.cCache s.ncCache id = contains s id := by
  rw [Gen.C13Sql.abc_contains, List.any_append, List.any_beq', List.any_beq', contains]

theorem gen_sql_check_writable_eq {D : Type} (s : Sql D) (id : Str) :
    (s.mode = .r → checkWritable s id = (s, some .ioError) ∧ Gen.C13Names.check_writable_rejects true false false = true) ∧
    (s.mode ≠ .r → ∀ s1, connect s = (s1, none) →
      checkWritable s id = (populate s1,
        if Gen.C13Names.check_writable_rejects false (decide ((populate s1).mode = .a))
            (Gen.C13Sql.abc_contains (populate s1).cCache (populate s1).ncCache id) then some .ioError else none)) := by
  constructor
  · intro h; simp [checkWritable, h, Gen.C13Names.check_writable_rejects]
  · intro h s1 hc
    simp only [checkWritable, h, if_false, hc, gen_sql_contains_eq, Gen.C13Names.check_writable_rejects]
    by_cases hm : contains (populate s1) id = true <;> by_cases ha : (populate s1).mode = .a <;> simp [hm, ha]

theorem gen_sql_write_row_eq {D : Type} (H : D → D) (s0 : Sql D) (id : Str) (data : D) (completed : Bool) :
    writeRow H s0 id data completed =
      (let s := populate (initLog s0)
       if Gen.C13Sql.write_updates (Gen.C13Sql.abc_contains s.cCache s.ncCache id) (decide (s.mode = .a)) then
         ({ s with rows := s.rows.map (fun p => if p.1 = id then (p.1, { p.2 with data := data, md5 := H data }) else p) }, .done (some id))
       else if has s.rows id then (s, .err .integrity)
       else ({ s with rows := s.rows ++ [(id, ⟨data, H data, completed⟩)] }, .done (some id))) := by
  simp only [writeRow, gen_sql_contains_eq, Gen.C13Sql.write_updates]
  by_cases ha : (populate (initLog s0)).mode = .a <;> simp [ha]

theorem gen_sql_statements :
    Gen.C13Sql.update_sets = [("data", "data"), ("log_id", "self._log_id"), ("md5", "md5")]
    ∧ Gen.C13Sql.update_where = [("record_id", "unique_id")]
    ∧ Gen.C13Sql.insert_cols = [("record_id", "unique_id"), ("data", "data"), ("log_id", "self._log_id"), ("md5", "md5"), ("is_completed", "is_completed")]
    ∧ Gen.C13Sql.log_update_sets = [("data", "data"), ("log_name", "unique_id")]
    ∧ Gen.C13Sql.log_update_where = [("log_id", "self._log_id")]
    ∧ Gen.C13Sql.md5_where = [("record_id", "unique_id")] ∧ Gen.C13Sql.md5_column = "md5" :=
  ⟨rfl, rfl, rfl, rfl, rfl, rfl, rfl⟩

theorem gen_sql_drop_eq {D : Type} (s : Sql D) (id : Str) :
    dropRows s id = { s with rows := s.rows.filter (fun p => !Gen.C13Sql.drop_deletes id p.1 p.2.completed), ncCache := [] } := by
  simp only [dropRows, Gen.C13Sql.drop_deletes]
  congr 1
  apply List.filter_congr
  intro p _
  by_cases he : id.isEmpty = true <;> cases p.2.completed <;> simp [he, bne]

theorem gen_sql_event_order :
    Gen.C13Sql.write_plan = (sResults, true, ["check_writable", "drop_not_completed", "_write", "append_completed_if_absent", "return_member"])
    ∧ Gen.C13Sql.write_nc_plan = (sResults, false, ["check_writable", "_write", "append_not_completed", "return_member"])
    ∧ Gen.C13Sql.write_log_plan = (sLogs, false, ["check_writable", "_write"])
    ∧ Gen.C13Sql.write_events = ["init_log_if_none", "log_branch", "md5_of_data", "update_or_insert", "return_member"]
    ∧ Gen.C13Sql.drop_events = ["choose_delete", "execute", "cache_reset"]
    ∧ Gen.C13Sql.write_is_log Gen.C13Sql.write_plan.1 = false ∧ Gen.C13Sql.write_is_log Gen.C13Sql.write_nc_plan.1 = false
    ∧ Gen.C13Sql.write_is_log Gen.C13Sql.write_log_plan.1 = true :=
  ⟨rfl, rfl, rfl, rfl, rfl, by decide +kernel, by decide +kernel, by decide +kernel⟩

end CogentModel.C13
