import CogentModel.Model.RichDict
import CogentModel.Proofs.RebaseView
import CogentModel.Proofs.SpanLive
/-! # C10 — property theorems (export / re-basing of views and maps round-trips)

What a rebuilt sequence has to share with the original is `RebaseObs` / `RebaseOK` (Proofs/RebaseView.lean). -/
namespace CogentModel.C10
open CogentModel.View CogentModel.RichDict

/-- Old-style `Sequence.to_rich_dict` → `deserialise_seq` (and `to_json`): for EVERY
view satisfying the invariant over EVERY parent (any history of slices / rc / strides),
the export succeeds and the rebuilt sequence is observationally the original. -/
theorem view_rebase_roundtrip {α} [Inhabited α] (parent : List α) (v : View)
    (hinv : Inv v) (hlen : v.seqLen = parent.length) :
    ∃ r, seqRoundtripOld parent v = .ok r ∧ RebaseOK parent v r := by
  obtain ⟨ps, w, hps, hmk, hok⟩ := rebuilt parent v hinv hlen
  refine ⟨_, ?_, hok⟩
  -- `from_rich_dict` builds with offset 0, the coercion puts `annotation_offset` in
  simp only [seqRoundtripOld, hps, fromRich, toRich_seq, toRich_step, toRich_offset, Option.getD_none, (mk_offset hmk 0).1]
  rw [coerce_zero _ _ rfl, ← (mk_offset hmk 0).2]

example : Inv { start := -3, stop := -10, step := -2, offset := 7, seqLen := 10 } := by decide +kernel
example : (seqRoundtripOld [0,1,2,3,4,5,6,7,8,9] { start := -3, stop := -10, step := -2, offset := 7, seqLen := 10 }).toOption
    = some ([1,2,3,4,5,6,7], { start := -1, stop := -8, step := -2, offset := 8, seqLen := 7 }) := by decide +kernel

/-- Old-style `Sequence.copy(sliced=True)` (`SeqView.copy(sliced=True)` is
`from_rich_dict(to_rich_dict())`, the Sequence re-attaches `annotation_offset`). -/
theorem seq_copy_old_roundtrip {α} [Inhabited α] (parent : List α) (v : View)
    (hinv : Inv v) (hlen : v.seqLen = parent.length) :
    ∃ r, seqCopyOld parent v = .ok r ∧ RebaseOK parent v r :=
  view_rebase_roundtrip parent v hinv hlen

example : (seqCopyOld [0,1,2,3,4,5] { start := 1, stop := 5, step := 3, offset := 2, seqLen := 6 }).toOption
    = some ([1,2,3,4], { start := 0, stop := 4, step := 3, offset := 3, seqLen := 4 }) := by decide +kernel

/-- New-style `Sequence.to_rich_dict` → `_moltype_seq_from_rich_dict`
(`SeqView(seq=trunc, offset=annotation_offset)[::step]`): string, coordinates and
invariant for every view; strand for every non-empty view. -/
theorem view_rebase_roundtrip_new_partial {α} [Inhabited α] (parent : List α) (v : View)
    (hinv : Inv v) (hlen : v.seqLen = parent.length) :
    ∃ r, seqRoundtripNew parent v = .ok r ∧ RebaseObs parent v r ∧
      (v.start ≠ v.stop → isReversed r.2 = isReversed v) := by
  obtain ⟨ps, w, hps, hmk, hok⟩ := rebuilt parent v hinv hlen
  have htl := trunc_len parent v hinv hlen
  rcases Int.lt_or_eq_of_le (Int.natCast_nonneg (trunc parent v).length) with hpos | hz
  · -- `x[::step]` on the fresh full view is the constructor with that step
    exact ⟨_, by simp only [seqRoundtripNew, hps, toRich_seq, toRich_step, mk_step_none, mk_fwd_full _ 1 _ hpos Int.one_pos,
      getitem_full _ _ _ hpos hinv.step_ne_zero, hmk], hok.1, fun _ => hok.2⟩
  · -- on an empty view `x[::step]` returns the view itself: the fresh forward view
    refine ⟨(trunc parent v, { start := 0, stop := 0, step := 1, offset := ps, seqLen := 0 }),
      by simp only [seqRoundtripNew, hps, toRich_seq, toRich_step, ← hz, mk_step_none, mk_fwd_empty 1 _ Int.one_pos, getitem_empty], ?_, fun hne => ?_⟩
    · have hps' := (window_spec v hinv).2.2.2.1
      rw [hps] at hps'
      cases hps'
      exact obs_of_whole parent v hinv hlen _ (by simp [View.Inv]) (by simp; omega) (by simp [richDictBounds]; omega)
        rfl (.inr hz.symm)
    · have : (richDictBounds v).1 ≠ (richDictBounds v).2 := by
        unfold richDictBounds; split <;> simp <;> omega
      omega

/- FULL STATEMENT (not proved): `∃ r, seqRoundtripNew parent v = .ok r ∧ RebaseOK parent v r`.
   It is false for the model (and the code): `x[::step]` on an empty view returns the view
   itself (`len(self) == 0 → return self`), so an EMPTY reversed view comes back as an empty
   forward view (strand of the empty sequence is lost; nothing else is). -/
theorem view_rebase_roundtrip_new_counter :
    (seqRoundtripNew [0,1,2,3] { start := -2, stop := -2, step := -1, offset := 0, seqLen := 4 }).toOption
      = some ([], { start := 0, stop := 0, step := 1, offset := 3, seqLen := 0 }) := by decide +kernel

example : (seqRoundtripNew [0,1,2,3,4,5,6,7,8,9] { start := -3, stop := -10, step := -2, offset := 7, seqLen := 10 }).toOption
    = some ([1,2,3,4,5,6,7], { start := -1, stop := -8, step := -2, offset := 8, seqLen := 7 }) := by decide +kernel

-- a REVERSED STRIDED view with NON-ZERO residue (truncated parent length 9, (9-1) % 3 = 2; `seq.rc()[1::3]` on 10
-- residues with annotation offset 100): striding from the right end is not "stride from the left, then reverse"
example : Inv { start := -2, stop := -11, step := -3, offset := 100, seqLen := 10 } := by decide +kernel
example : (seqRoundtripNew [0,1,2,3,4,5,6,7,8,9] { start := -2, stop := -11, step := -3, offset := 100, seqLen := 10 }).toOption.map
      (fun r => (r.1, r.2, realise r.1 r.2, parentStart r.2 |>.toOption, parentStop r.2 |>.toOption))
    = some ([0,1,2,3,4,5,6,7,8], { start := -1, stop := -10, step := -3, offset := 100, seqLen := 9 }, [8,5,2], some 100, some 109) := by decide +kernel
example : (seqRoundtripOld [0,1,2,3,4,5,6,7,8,9] { start := -2, stop := -11, step := -3, offset := 100, seqLen := 10 }).toOption.map
      (fun r => (r.1, r.2, realise r.1 r.2))
    = some ([0,1,2,3,4,5,6,7,8], { start := -1, stop := -10, step := -3, offset := 100, seqLen := 9 }, [8,5,2]) := by decide +kernel
example : (parentStart { start := -2, stop := -11, step := -3, offset := 100, seqLen := 10 }).toOption = some 100
    ∧ (parentStop { start := -2, stop := -11, step := -3, offset := 100, seqLen := 10 }).toOption = some 109 := by decide +kernel

/-- New-style `Sequence.copy(sliced=True)` (`SeqView.copy(sliced=True)` builds the truncated
parent with `step` only, the Sequence re-attaches `annotation_offset = parent_start`): for EVERY
view satisfying the invariant, with ANY offset, the copy succeeds and is observationally the
original. (The code as of repo commit f9c946a7e; before it `Sequence.copy` raised whenever `v.offset ≠ 0`, a witness
kept in the harness's regression corpus.) -/
theorem seq_copy_new_roundtrip {α} [Inhabited α] (parent : List α) (v : View)
    (hinv : Inv v) (hlen : v.seqLen = parent.length) :
    ∃ r, seqCopyNew parent v = .ok r ∧ RebaseOK parent v r :=
  -- the constructor call of the new `copy` is the one `from_rich_dict` makes: the route is the old JSON route
  view_rebase_roundtrip parent v hinv hlen

example : (seqCopyNew [0,1,2,3,4,5] { start := 1, stop := 5, step := 3, offset := 0, seqLen := 6 }).toOption
    = some ([1,2,3,4], { start := 0, stop := 4, step := 3, offset := 1, seqLen := 4 }) := by decide +kernel
example : (seqCopyNew [0,1,2,3] { start := 0, stop := 4, step := 1, offset := 5, seqLen := 4 }).toOption
    = some ([0,1,2,3], { start := 0, stop := 4, step := 1, offset := 5, seqLen := 4 }) := by decide +kernel
example : (seqCopyNew [0,1,2,3,4,5,6,7,8,9] { start := -3, stop := -10, step := -2, offset := 7, seqLen := 10 }).toOption
    = some ([1,2,3,4,5,6,7], { start := -1, stop := -8, step := -2, offset := 8, seqLen := 7 }) := by decide +kernel

/-- `SeqDataView.to_rich_dict` (sequence taken out of a new-style collection) exports the
right string when the view is an unsliced forward prefix. -/
theorem dataview_export_partial {α} [Inhabited α] (parent : List α) (v : View)
    (hs : v.start = 0) (hc : v.step = 1) (h0 : 0 ≤ v.stop) (he : v.stop ≤ parent.length) :
    (toRichDataView parent v).seq = realise parent v := by
  have hb : richDictBounds v = (0, v.stop) := by simp [richDictBounds, hs, hc]
  -- the displayed string is the prefix `parent[0:stop]`; slicing it again with its own bounds changes nothing
  have hl : ((realise parent v).length : Int) = v.stop := by
    rw [realise, hs, hc, PySlice.window_length parent 0 v.stop (Int.le_refl 0) h0 he, Int.sub_zero]
  simp only [toRichDataView, hb]
  rw [← hl, PySlice.slice_all]

example : (toRichDataView [0,1,2,3,4,5] { start := 0, stop := 4, step := 1, offset := 0, seqLen := 6 }).seq = [0,1,2,3] := by decide +kernel

/- FULL STATEMENT (not proved): `∃ r, seqRoundtripDataView parent v = .ok r ∧ RebaseObs parent v r`
   for every `Inv` view. False for the mirrored model: the code slices the ALREADY sliced
   `str_value` with the parent bounds. Witness `parent[2:8]`: -/
theorem dataview_export_counter :
    (toRichDataView [0,1,2,3,4,5,6,7,8,9] { start := 2, stop := 8, step := 1, offset := 0, seqLen := 10 }).seq = [4,5,6,7]
    ∧ realise [0,1,2,3,4,5,6,7,8,9] { start := 2, stop := 8, step := 1, offset := 0, seqLen := 10 } = [2,3,4,5,6,7] := by
  decide +kernel

/-- The Sequence a new-style collection hands out (a `SeqDataView` inside) through
`Sequence.to_rich_dict → SeqDataView.to_rich_dict → _moltype_seq_from_rich_dict`: for every invariant view that is
an unsliced forward prefix (`start = 0`, `step = 1`, any stop, any offset) the rebuilt sequence displays the same
string, has the same parent coordinates, satisfies the invariant, and (non-empty) the same strand. -/
theorem dataview_roundtrip_partial {α} [Inhabited α] (parent : List α) (v : View)
    (hinv : Inv v) (hlen : v.seqLen = parent.length) (hs : v.start = 0) (hc : v.step = 1) :
    ∃ r, seqRoundtripDataView parent v = .ok r ∧ RebaseObs parent v r ∧
      (v.start ≠ v.stop → isReversed r.2 = isReversed v) := by
  obtain ⟨hn, ⟨_, h0, hse, he⟩ | ⟨hneg, _⟩⟩ := id hinv
  · have hseq : (toRichDataView parent v).seq = (toRich parent v).seq := by
      rw [dataview_export_partial parent v hs hc (by omega) (by omega)]
      have hns : ¬ v.step < 0 := by omega
      have hb : richDictBounds v = (0, v.stop) := by simp [richDictBounds, hns, hs]
      simp only [toRich, realise, hb, hs, hc]
    have hstep : (toRichDataView parent v).step = (toRich parent v).step := rfl
    have heq : seqRoundtripDataView parent v = seqRoundtripNew parent v := by
      simp only [seqRoundtripDataView, seqRoundtripNew, hseq, hstep]
    rw [heq]
    exact view_rebase_roundtrip_new_partial parent v hinv hlen
  · omega

example : Inv { start := 0, stop := 4, step := 1, offset := 0, seqLen := 6 } := by decide +kernel
example : (seqRoundtripDataView [0,1,2,3,4,5] { start := 0, stop := 4, step := 1, offset := 0, seqLen := 6 }).toOption
    = some ([0,1,2,3], { start := 0, stop := 4, step := 1, offset := 0, seqLen := 4 }) := by decide +kernel

/- FULL STATEMENT (not proved): the same for EVERY `Inv` view. False for the mirrored model and the real code
   (open finding C10-seqdataview-export-slices-twice): a reversed strided member view with non-zero residue
   (`coll.get_seq('a').rc()[1::3]` on 10 residues: start=-2, stop=-11, step=-3) exports a wrong, shorter string: -/
theorem dataview_roundtrip_counter :
    realise [0,1,2,3,4,5,6,7,8,9] { start := -2, stop := -11, step := -3, offset := 0, seqLen := 10 } = [8,5,2]
    ∧ (seqRoundtripDataView [0,1,2,3,4,5,6,7,8,9] { start := -2, stop := -11, step := -3, offset := 0, seqLen := 10 }).toOption.map
        (fun r => realise r.1 r.2) = some [2] := by
  decide +kernel

/-- `IndelMap`: whatever constructor route built the map (`cum_gap_lengths` or `gap_lengths`),
`from_rich_dict(to_rich_dict(m))` passes the constructor checks again and gives the same map. -/
theorem indelmap_roundtrip (gp : List Int) (cum len : Option (List Int)) (tu : Bool) (pl : Int) (m : IndelMap)
    (h : IndelMap.mk' gp cum len tu pl = .ok m) : IndelMap.fromRich m.toRich = .ok m := by
  unfold IndelMap.mk' at h
  unfold IndelMap.fromRich IndelMap.toRich IndelMap.mk'
  cases cum <;> cases len <;> simp only [] at h ⊢ <;> try cases h
  all_goals
    split at h
    · cases h
    · split at h
      · cases h
      · cases h
        rename_i h1 h2
        simp only [Option.getD_some] at h1 h2 ⊢
        rw [if_neg h1, if_neg h2]

example : IndelMap.mk' [1, 3] none (some [2, 1]) false 5 =
    .ok { gapPos := [1, 3], cumGapLengths := [2, 3], terminiUnknown := false, parentLength := 5 } := by rfl

/-- the live-state export of one span re-builds the same span, for every well-formed live span
(`start ≤ end`), not only freshly constructed ones -/
theorem span_live_roundtrip (x : SpanState) (h : x.WF) : x.richArgs.build = x := by
  cases x with
  | lost l => rfl
  | span s e ts te r =>
    have h' : ¬ s > e := by simp only [SpanState.WF] at h; omega
    simp only [SpanState.richArgs, SpanArgs.build, h', if_false]

/-- `Span`/`LostSpan` pickle (`__getstate__`/`__setstate__` re-run `__init__` on the live
values): normalisation (`start > end` swap, `end=None → start+1`) is idempotent. -/
theorem span_pickle_roundtrip (a : SpanArgs) : a.build.pickleArgs.build = a.build := by
  rw [pickleArgs_eq_richArgs]
  exact span_live_roundtrip _ (span_build_wf a)

example : (SpanArgs.span 5 (some 2) false false true).build = .span 2 5 false false true := by decide +kernel

/-- `FeatureMap.to_rich_dict` → `from_rich_dict` (JSON; spans export their LIVE state): every well-formed live map state —
whatever history of constructor calls and in-place span shifts (`zeroed()`) produced it — comes back
unchanged: same spans, parent_length and length. -/
theorem featurestate_json_roundtrip (s : FeatureState) (h : s.WF) : s.roundtripJson = s := by
  obtain ⟨hs, hl⟩ := h
  have hm : (s.spans.map SpanState.richArgs).map SpanArgs.build = s.spans := by
    rw [List.map_map]
    conv => rhs; rw [← List.map_id s.spans]
    exact List.map_congr_left fun x hx => span_live_roundtrip x (hs x hx)
  cases s with
  | mk spans pl len =>
    simp only [FeatureState.roundtripJson, FeatureState.toRich, FeatureMap.build] at hm ⊢
    simp only [hm]
    simp only at hl
    rw [hl]

/-- pickle of any well-formed live map state (same re-initialisation from the live values) -/
theorem featurestate_pickle_roundtrip (s : FeatureState) (h : s.WF) : s.roundtripPickle = s := by
  have := featurestate_json_roundtrip s h
  simpa only [FeatureState.roundtripJson, FeatureState.toRich, FeatureState.roundtripPickle, pickleArgs_eq_richArgs] using this

/-- every constructed map state is well-formed, so the two theorems above apply to it -/
theorem featuremap_build_wf (m : FeatureMap) : (FeatureMap.build m).WF := by
  refine ⟨?_, rfl⟩
  intro x hx
  simp only [FeatureMap.build, List.mem_map] at hx
  obtain ⟨a, _, rfl⟩ := hx
  exact span_build_wf a

/-- … in particular every freshly constructed `FeatureMap` -/
theorem featuremap_roundtrip (m : FeatureMap) : (FeatureMap.build m).roundtripJson = FeatureMap.build m :=
  featurestate_json_roundtrip _ (featuremap_build_wf m)

/-- `FeatureMap` pickle: spans, parent_length and length survive. -/
theorem featuremap_pickle_roundtrip (m : FeatureMap) :
    (FeatureMap.build m).roundtripPickle = FeatureMap.build m :=
  featurestate_pickle_roundtrip _ (featuremap_build_wf m)

example : (FeatureMap.build { spans := [.span 5 (some 2) false false false, .lost 3, .span 7 none false false true], parentLength := 10 }).length = 7 := by decide +kernel

-- a state NOT in constructor-argument form (as left by `zeroed()`: spans shifted in place, swapped input order)
example : ({ spans := [.span 0 3 false false true, .lost 2, .span 5 6 true false false], parentLength := 6, length := 6 } : FeatureState).roundtripJson
    = { spans := [.span 0 3 false false true, .lost 2, .span 5 6 true false false], parentLength := 6, length := 6 } := by decide +kernel
example : (FeatureMap.build { spans := [.span 5 (some 2) false false false, .lost 3, .span 7 none false false true], parentLength := 10 }).roundtripJson
    = FeatureMap.build { spans := [.span 5 (some 2) false false false, .lost 3, .span 7 none false false true], parentLength := 10 } := by decide +kernel

example : ({ spans := [.span 0 3 false false true, .lost 2, .span 5 6 true false false], parentLength := 6, length := 6 } : FeatureState).WF := by
  refine ⟨?_, by decide⟩
  intro x hx
  simp only [List.mem_cons, List.not_mem_nil, or_false] at hx
  rcases hx with rfl | rfl | rfl <;> simp [SpanState.WF]

end CogentModel.C10
