import CogentModel.Gen.C06Str
import CogentModel.Model.Clustal
import CogentModel.Model.SeqFormats
import CogentModel.Proofs.PyText
/-! # C06 — the TRANSLATED string functions equal the hand models, for all arguments

`Gen/C06Str.lean` is re-generated on every run from the CURRENT source of `parse/clustal.py` and `parse/phylip.py`
(translator/c06_str2lean.py, `ast` only).  Each theorem below states that a generated definition and the hand-written
model used by the round-trip theorems are the same function, so a semantic edit of the Python function breaks the
corresponding proof obligation (and the failing-input search then looks for a concrete input). -/
namespace CogentModel.C06
open CogentModel.SeqFormats CogentModel.Clustal

/-- `is_clustal_seq_line` (as translated) is the model's `isSeqLine` -/
theorem gen_is_clustal_seq_line_eq (line : Str) : Gen.C06Str.is_clustal_seq_line line = isSeqLine line := by
  cases line with
  | nil => rfl
  | cons c cs =>
    simp [Gen.C06Str.is_clustal_seq_line, isSeqLine, PyStr.truthy, PyStr.isspace, PyStr.at0, PyStr.startswith]

/-- `delete_trailing_number` (as translated) is the model's `deleteTrailingNumber` (also on lines without any field, where
Python raises IndexError and both sides return the line) -/
theorem gen_delete_trailing_number_eq (line : Str) :
    Gen.C06Str.delete_trailing_number line = deleteTrailingNumber line := by
  have key : ∀ ps : List Str,
      (if pyIntOk (PyStr.lastD ps) then joinSp ps.dropLast else line) =
        (match ps.getLast? with
          | none => line
          | some t => if pyIntOk t then joinSp ps.dropLast else line) := by
    intro ps
    unfold PyStr.lastD
    cases ps.getLast? <;> simp [pyIntOk, signSplit]
  exact key (splitWs line)

/-- `is_blank` (parse/phylip.py, as translated) is the model's `isBlank` -/
theorem gen_is_blank_eq (x : Str) : Gen.C06Str.is_blank x = isBlank x := by
  unfold Gen.C06Str.is_blank PyStr.truthy isBlank strip stripBy rstripBy
  rw [Bool.not_not, List.isEmpty_reverse, isEmpty_dropWhile, List.all_reverse, all_dropWhile]

/-- `_split_line` (parse/phylip.py, as translated) is the model's `splitLine`: `(None, None)` exactly when the model
returns `none`, the same `(id, seq)` pair otherwise — for every line and every id column width -/
theorem gen_split_line_eq (line : Str) (off : Nat) :
    Gen.C06Str.split_line line off =
      match splitLine line off with
      | none => (none, none)
      | some p => (some p.1, some p.2) := by
  have hb : (!(PyStr.truthy (strip line))) = isBlank line := gen_is_blank_eq line
  rw [Gen.C06Str.split_line, splitLine, hb, PyStr.truthy, Bool.not_not]
  split <;> rfl

theorem pyInt_error {t : Str} {e : Err} (h : pyInt t = .error e) : e = .valueError := by
  simp only [pyInt] at h
  split at h
  · cases h; rfl
  · cases h

/-- `_get_header_info` (parse/phylip.py, as translated) is the header logic of the model `phylipParser`: the model is the
translated function followed by the (hand-modelled) dispatch on its result — `not num_seqs or not seq_len` -> no records,
`interleaved` chooses the branch — for every header line and every body -/
theorem gen_get_header_info_eq (line : Str) (rest : List Str) :
    phylipParser (line :: rest) =
      match Gen.C06Str.get_header_info line with
      | .error e => .error e
      | .ok (ns, sl, il) =>
        if ns = 0 || sl = 0 then .ok []
        else if !il then phySeqGo none rest
        else phyIntFinish sl (phyIntGo ns 0 10 [] rest) := by
  unfold phylipParser Gen.C06Str.get_header_info
  cases hs : splitWs line with
  | nil => simp [hs, PyStr.mapInt]
  | cons a t1 =>
    cases t1 with
    | nil =>
      cases ha : pyInt a with
      | error e => simp [hs, PyStr.mapInt, ha, pyInt_error ha]
      | ok v => simp [hs, PyStr.mapInt, ha, Except.map]
    | cons b more =>
      cases ha : pyInt a with
      | error e => simp [hs, PyStr.mapInt, ha, pyInt_error ha, bind, Except.bind]
      | ok v =>
        cases hb : pyInt b with
        | error e => simp [hs, PyStr.mapInt, ha, hb, pyInt_error hb, bind, Except.bind, Except.map]
        | ok w =>
          cases more with
          | nil => simp [hs, PyStr.mapInt, ha, hb, bind, Except.bind, Except.map]
          | cons m ms => simp [hs, PyStr.mapInt, ha, hb, bind, Except.bind, Except.map]

-- non-vacuity: sequential and interleaved headers, a header with one field, a non-integer field
example : Gen.C06Str.get_header_info "3 12".toList = .ok (3, 12, false) := by decide +kernel
example : Gen.C06Str.get_header_info " 3  12 I".toList = .ok (3, 12, true) := by
  -- the literal as a character list first: the kernel would otherwise decode its bytes character by character
  rw [String.toList_ofList]
  decide +kernel
example : Gen.C06Str.get_header_info "3".toList = .error .valueError := by decide +kernel
example : Gen.C06Str.get_header_info "3 x".toList = .error .valueError := by decide +kernel

end CogentModel.C06
