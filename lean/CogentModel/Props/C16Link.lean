import CogentModel.Model.Optimiser
import CogentModel.Props.C16
import CogentModel.Props.C07
import CogentModel.Props.C07Lf
/-! # C16 × C07 — `lf.optimise` never lowers the log-likelihood

`ParameterController.optimise` builds a calculator (`make_calculator`), runs
`maximise(calculator, x, bounds, …)` on it and, in a `finally`, takes the calculator's parameter
values back (`update_from_calculator`).  Here the objective handed to the C16 wrapper model is the
C07 calculator MODEL itself: the points at which `maximise` calls its objective are replayed, in
order, as `calculator(x)` calls on the two-buffer calculator (`runCalls`), starting from ANY
earlier calculator history.  C07 (`calculator_is_pure`) says every such call returns the value of a
calculation from scratch, so the wrapper sees a function; C16 (`Optimiser.maximise_ok`, the lemma
under `maximise_never_worse`) then gives the inequality; C07 again (`calls_last_correct`, `calls_consistent`) says what the calculator — and
hence the likelihood function, which recomputes from the calculator's vector — reports afterwards. -/
namespace CogentModel.C16
open CogentModel.Calc CogentModel.Optimiser CogentModel.C07

variable {V : Type} [Inhabited V] [DecidableEq V]

/-- the calculator as `maximise`'s objective: its value from scratch, a raise is
`ParameterOutOfBoundsError`/`ArithmeticError` (both are treated alike by every wrapper) -/
def calcRes (g : Calc.Graph V) (x : List V) : Res V :=
  match objective g x with
  | some v => .val v
  | none => .oob

theorem calcRes_val {g : Calc.Graph V} {x : List V} {v : V} (h : calcRes g x = .val v) :
    objective g x = some v := by
  unfold calcRes at h
  cases ho : objective g x with
  | none => rw [ho] at h; cases h
  | some w => rw [ho] at h; cases h; rfl

/-- **optimise_never_lowers_lnL**.  For every cell graph (any model, tree, data), every earlier
history `prior` of calculator calls, every start vector `xs` in bounds at which the function has a
finite value `lnL0` (= the log-likelihood before, computed from scratch), every evaluation limit
≥ 1 and EVERY behaviour `qs` of the optimiser(s): `maximise` reaches `get_best`, and when the points
it evaluated are issued as `calculator(x)` calls on the real two-buffer machinery, the calculator
ends at the reported best vector `xb`, every cell of its buffer — in particular the result the
likelihood function reports after `update_from_calculator` — is a fresh evaluation there, its value
is the reported `fb`, and `lnL0 ≤ fb`. -/
theorem optimise_never_lowers_lnL [LinearOrder V] (g : Calc.Graph V) (hwf : g.WF) (hpos : 0 < g.n)
    (x0 : Nat → V) (s0 : Calc.St V) (h0 : Calc.init g x0 = some s0) (prior : List (List V))
    (c : Cfg (List V) V) (hf : c.f = calcRes g) (hg : ∀ a b, c.gt a b = decide (b < a))
    (xs : List V) (lnL0 : V) (hstart : objective g xs = some lnL0) (hb : c.inB xs = true)
    (hfin : c.fin lnL0 = true) (hbot : c.negInf < lnL0) (hmax : c.maxEvals ≠ some 0)
    (qs : List (List V)) :
    ∃ fb xb n exc, (maximise c xs qs).final = .done fb xb n exc ∧
      (∀ j, j < g.nOpt →
        (runCalls g s0 (prior ++ (maximise c xs qs).st.calls.reverse)).lastValues j = xb.getD j default) ∧
      evalFresh g (runCalls g s0 (prior ++ (maximise c xs qs).st.calls.reverse)).lastValues
        = some (curValues g (runCalls g s0 (prior ++ (maximise c xs qs).st.calls.reverse))) ∧
      (evalFresh g (runCalls g s0 (prior ++ (maximise c xs qs).st.calls.reverse)).lastValues).map
        (fun l => l.getD (g.n - 1) default) = some fb ∧
      c.inB xb = true ∧ lnL0 ≤ fb := by
  have hfx : c.f xs = .val lnL0 := by rw [hf]; unfold calcRes; rw [hstart]
  obtain ⟨t, xb, k, hbx, hfxb, hm⟩ := maximise_ok hg hfx hb hfin hbot hmax qs
  have hobj : objective g xb = some t.st.bestF := calcRes_val (by rw [← hf]; exact hfxb)
  have hrev : prior ++ (xb :: t.st.calls).reverse = (prior ++ t.st.calls.reverse) ++ [xb] := by
    rw [List.reverse_cons, List.append_assoc]
  have hstep : runCalls g s0 ((prior ++ t.st.calls.reverse) ++ [xb])
      = (call g (runCalls g s0 (prior ++ t.st.calls.reverse)) xb).1 := by
    rw [runCalls_append]; rfl
  have hret : (call g (runCalls g s0 (prior ++ t.st.calls.reverse)) xb).2 = some t.st.bestF := by
    rw [calculator_is_pure g hwf x0 s0 h0 hpos]; exact hobj
  obtain ⟨hl, hv⟩ := calls_last_correct g hwf x0 s0 h0 (prior ++ t.st.calls.reverse) hpos xb _ hret
  rw [hm]
  refine ⟨_, xb, _, _, rfl, ?_, ?_, ?_, k.inb xb (k.bestMem xb hbx), k.maxi xs k.start lnL0 hfx⟩
  · rw [hrev, hstep]; exact hl
  · exact calls_consistent g hwf x0 s0 h0 _
  · rw [hrev, hstep]; exact hv

/-- non-vacuity on the C07 example graph `exG` (5 cells, one recycled and raising): start (1,1) with
value 14; the "optimiser" tries (4,1), (4,2) (the calc raises), (2,5) and (3,0); the reported and
applied optimum is (2,5) with value 108 ≥ 14 -/
def exLinkCfg : Cfg (List Int) Int :=
  { f := calcRes exG, inB := fun x => x.all (fun v => decide (0 ≤ v ∧ v ≤ 9)),
    gt := fun a b => decide (b < a), fin := fun y => decide (-1000000 < y), negInf := -1000000, maxEvals := some 10 }

example : objective exG [1, 1] = some 14 ∧
    (maximise exLinkCfg [1, 1] [[4, 1], [4, 2], [2, 5], [3, 0]]).final = .done 108 [2, 5] 5 none ∧
    (maximise exLinkCfg [1, 1] [[4, 1], [4, 2], [2, 5], [3, 0]]).st.calls.reverse
      = [[1, 1], [4, 1], [4, 2], [2, 5], [3, 0], [2, 5]] := by decide +kernel

example : (Calc.init exG exX0).map (fun s0 =>
      lastVec exG (runCalls exG s0 ([[3, 3]] ++ [[1, 1], [4, 1], [4, 2], [2, 5], [3, 0], [2, 5]])))
    = some [2, 5] := by decide +kernel

end CogentModel.C16
