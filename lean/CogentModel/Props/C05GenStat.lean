import CogentModel.Props.C05
import CogentModel.Proofs.GenStatLemmas
/-!
# C05 — `GeneralStationary`: the column-balancing loop makes the motif probabilities stationary

`GeneralStationary.calc_exchangeability_matrix` fills `R` from `param_pick` and then, for every `(i, j)` of
`last_in_column` (columns in increasing order, `i > j`), sets `R[i, j] = required / π_i` with
`required = dot(π, R[j]) - dot(π, R[:, j])`, replaced by `|required|` when `|required| ≤ 1e-8`; it raises
`ParameterOutOfBoundsError` when the (adjusted) value is negative.  Ordered field, any dimension.
-/
namespace CogentModel.C05
open CogentModel.RateMatrix Finset

variable {K : Type*} [Field K] [LinearOrder K] [IsStrictOrderedRing K]

/-- **The error branch is taken exactly when `row_total - col_total < -tol`** (for `tol ≥ 0`): values in `[-tol, 0)` are
silently replaced by their absolute value, everything below raises. -/
theorem generalStationary_step_error_iff (n : Nat) (tol : K) (htol : 0 ≤ tol) (pi : Vec K) (R : Mat K) (ij : Nat × Nat) :
    gsStep n tol pi R ij = none ↔
      sumTo n (fun k => vget pi k * mget R ij.2 k) - sumTo n (fun k => vget pi k * mget R k ij.2) < -tol := by
  rw [gsStep_eq, sumTo_eq_sum, sumTo_eq_sum]
  by_cases h : gsAdj tol (gsReq n pi R ij.2) < 0
  · rw [if_pos h]; exact iff_of_true rfl ((gsAdj_neg_iff tol _ htol).mp h)
  · rw [if_neg h]; exact iff_of_false nofun fun h' => h ((gsAdj_neg_iff tol _ htol).mpr h')

/-- **Feasible parameter vectors**: the whole loop succeeds iff every required value met along the run is `≥ -tol`
(`GsOk` unfolds the run: `-tol ≤ required_1 ∧ -tol ≤ required_2(after step 1) ∧ …`). -/
theorem generalStationary_feasible_iff (n : Nat) (tol : K) (htol : 0 ≤ tol) (pick : Array (Array Nat))
    (lic : List (Nat × Nat)) (pi : Vec K) (params : List K) :
    (exchGeneralStationary n tol pick lic pi params).isSome = true ↔ GsOk n tol pi (exchGeneral n pick params) lic := by
  unfold exchGeneralStationary
  exact gsLoop_isSome_iff n tol htol pi lic _

example : (exchGeneralStationary 2 (1/100 : ℚ) #[#[0, 1], #[0, 0]] [(1, 0)] #[1/4, 3/4] []).isSome = true := by
  decide +kernel
example : exchGeneralStationary 2 (1/100 : ℚ) #[#[0, 0], #[1, 0]] [(1, 0)] #[1/4, 3/4] [] = none := by decide +kernel

/-- **Flow balance after the loop** (exact branch: every required value is `≥ 0`, so no tolerance adjustment is active):
for `last_in_column` sorted by column with `i > j`, target cells initially empty (`param_pick = 0`), `π_i ≠ 0` for the rows
written, covering every column except `j0`, and `π_{j0} ≠ 0`, every column — including the uncorrected one, by
conservation of total flow — has `π`-weighted inflow equal to outflow. -/
theorem generalStationary_flow_balance (n : Nat) (tol : K) (pick : Array (Array Nat)) (lic : List (Nat × Nat))
    (pi : Vec K) (params : List K) (R : Mat K)
    (h : exchGeneralStationary n tol pick lic pi params = some R)
    (hexact : GsExact n tol pi (exchGeneral n pick params) lic)
    (hsorted : lic.Pairwise (fun a b => a.2 < b.2))
    (hcells : ∀ ij ∈ lic, ij.2 < ij.1 ∧ ij.1 < n ∧ vget pi ij.1 ≠ 0 ∧ (pick.getD ij.1 #[]).getD ij.2 0 = 0)
    (j0 : Nat) (hj0 : j0 < n) (hpi0 : vget pi j0 ≠ 0) (hcover : ∀ j, j < n → j ≠ j0 → ∃ i, (i, j) ∈ lic)
    (j : Nat) (hj : j < n) :
    sumTo n (fun i => vget pi i * mget R i j) = sumTo n (fun k => vget pi k * mget R j k) := by
  have hpw : lic.Pairwise (fun a b => b.2 ≠ a.2 ∧ b.1 ≠ a.2) :=
    hsorted.imp_of_mem fun {a b} _ hb hab => ⟨ne_of_gt hab, ne_of_gt (lt_trans hab (hcells b hb).1)⟩
  have hc : ∀ ij ∈ lic, ij.1 < n ∧ ij.2 < n ∧ ij.1 ≠ ij.2 ∧ vget pi ij.1 ≠ 0 ∧ mget (exchGeneral n pick params) ij.1 ij.2 = 0 :=
    fun ij hm =>
      have ⟨a1, a2, a3, a4⟩ := hcells ij hm
      ⟨a2, lt_trans a1 a2, ne_of_gt a1, a3, exchGeneral_zero_cell n pick params a2 (lt_trans a1 a2) a4⟩
  have hb1 := (gsLoop_balanced n tol pi lic _ R h hexact hpw hc).1
  rw [sumTo_eq_sum, sumTo_eq_sum]
  by_cases hjj : j = j0
  · rw [hjj]
    exact bal_last n pi R j0 hj0 hpi0 fun j' hj' hne => hb1 j' hj' (hcover j' hj' hne)
  · exact hb1 j hj (hcover j hj hjj)

/-- **`generalStationary_piQ_zero`**: hence the stationary construction on `GeneralStationary`'s exchangeability matrix has
`π Q = 0` — `stationaryQ_stationary` with its flow-balance hypothesis discharged. -/
theorem generalStationary_piQ_zero (n : Nat) (tol : K) (pick : Array (Array Nat)) (lic : List (Nat × Nat))
    (pi : Vec K) (params : List K) (R : Mat K)
    (h : exchGeneralStationary n tol pick lic pi params = some R)
    (hexact : GsExact n tol pi (exchGeneral n pick params) lic)
    (hsorted : lic.Pairwise (fun a b => a.2 < b.2))
    (hcells : ∀ ij ∈ lic, ij.2 < ij.1 ∧ ij.1 < n ∧ vget pi ij.1 ≠ 0 ∧ (pick.getD ij.1 #[]).getD ij.2 0 = 0)
    (j0 : Nat) (hj0 : j0 < n) (hpi0 : vget pi j0 ≠ 0) (hcover : ∀ j, j < n → j ≠ j0 → ∃ i, (i, j) ∈ lic)
    (j : Nat) (hj : j < n) :
    sumTo n (fun i => vget pi i * mget (calcQStationary n R (weightSimple n pi) pi) i j) = 0 := by
  apply stationaryQ_stationary n R (weightSimple n pi) pi _ j hj
  intro b hb
  have hbal := generalStationary_flow_balance n tol pick lic pi params R h hexact hsorted hcells j0 hj0 hpi0 hcover b hb
  calc sumTo n (fun i => vget pi i * (mget R i b * mget (weightSimple n pi) i b))
      = sumTo n (fun i => vget pi i * mget R i b * vget pi b) :=
        sumTo_congr fun i hi => by rw [mget_weightSimple n pi hi hb, mul_assoc]
    _ = vget pi b * sumTo n (fun k => vget pi k * mget R b k) := by
        rw [← sumTo_mul_const, hbal, mul_comm]
    _ = _ := congrArg _ (sumTo_congr fun k hk => by rw [mget_weightSimple n pi hb hk, mul_comm])

/-- a 3-state instance meeting every hypothesis (pick table of `GeneralStationary` on 3 states, `π` uniform, parameters 1) -/
example : exchGeneralStationary 3 (1/100000000 : ℚ) #[#[0, 1, 2], #[3, 0, 4], #[0, 0, 0]] [(2, 0), (2, 1)] #[1/3, 1/3, 1/3] [1, 1, 1, 1] =
    some #[#[0, 1, 1], #[1, 0, 1], #[1, 1, 0]] := by decide +kernel
example : GsExact 3 (1/100000000 : ℚ) #[1/3, 1/3, 1/3] (exchGeneral 3 #[#[0, 1, 2], #[3, 0, 4], #[0, 0, 0]] [1, 1, 1, 1]) [(2, 0), (2, 1)] := by
  unfold GsExact GsExact GsExact
  decide +kernel

end CogentModel.C05
