import CogentModel.Gen.C14Call
import CogentModel.Model.CallRich
import CogentModel.Model.ParallelBook
import CogentModel.Proofs.CallRichLemmas
/-! # C14 — the SOURCE TEXT of `_call`, `_validate_data_type`, `_add`, `get_default_chunksize`, translated

`Gen/C14Call.lean` is rewritten from `/repo`'s current source on every run (`translator/c14_call2lean.py`).  The theorems
`gen_*_eq` prove each generated definition equal to the hand model for ALL arguments, so every semantic edit of those four
functions breaks an obligation here.  The remaining theorems are about the hand model over the rich value domain (None,
list / tuple / set data, source proxies) and tie it to `Composable.callChain`, the model under the theorems of `Props/C14.lean`. -/
namespace CogentModel.C14Call
open CogentModel.Composable CogentModel.CallPrims CogentModel.CallRich CogentModel.Gen

/-- the names that occur in the source (`_builtin_seqs`, the two "anything" type hints) are the tags of the hand model -/
theorem source_names :
    [clsTag "list", clsTag "set", clsTag "tuple"] = builtinSeqs ∧
    [tyTag "SerialisableType", tyTag "IdentifierType"] = [100, 101] := by decide +kernel

/-- translated `get_default_chunksize` = `ParallelBook.defaultChunksize` (all n, all max_workers) -/
theorem gen_chunksize_eq (n w : Nat) : C14Call.getDefaultChunksize n w = ParallelBook.defaultChunksize n w := by
  unfold C14Call.getDefaultChunksize ParallelBook.defaultChunksize
  by_cases h : n % (w * 4) = 0 <;> simp [h]

/-- translated `_add` = `addR` (all operand signatures) -/
theorem gen_add_eq (a b : AppSig) (same : Bool) : C14Call.add a b same = addR a b same := by
  have h : ∀ t, C14Call.isAppTypeIn t [AppType.writer, AppType.loader, AppType.generic] = composable t := by
    intro t; cases t with
    | none => rfl
    | some k => cases k <;> rfl
  unfold C14Call.add addR AppSig.inputAttrMissing
  rw [h, source_names.2]
  simp only [Bool.not_not]

/-- translated `_validate_data_type` = `validateR` (all steps, all python values incl. None, containers, proxies) -/
theorem gen_validate_eq (s : RStep) (d : PV) : C14Call.validateDataType s d = validateR s d := by
  -- the class test as the source writes it (`valid = …; if not valid: valid = NotCompleted(…)`) is `checkClass`
  have hcls (y : PV) : (if (!(s.dataTypes.contains y.className)) = true
        then mkNC "ERROR" s.name [Part.lit "invalid data type, '", Part.cls y.className, Part.lit "' not in ", Part.types s.dataTypes] y.source
        else PV.bool (s.dataTypes.contains y.className)) = checkClass s y := by
    unfold checkClass; cases s.dataTypes.contains y.className <;> rfl
  unfold C14Call.validateDataType validateR typeCheckOff
  simp only [source_names.1, source_names.2, Bool.not_not, hcls, checkData_eq]

/-- translated `_call` = `callR` (all steps, any connected input app, all python values).  The source differs from the hand
model in three places only: the source of `None` (which is none), the type check, and `if not …` for `if …`. -/
theorem gen_call_eq (s : RStep) (input : Option (PV → PV)) (val : PV) : C14Call.call s input val = callR s input val := by
  have h1 : (if val.isNone = true then mkNC "ERROR" s.name [Part.lit "unexpected input value None"] val.source else val)
      = (if val.isNone = true then mkNC "ERROR" s.name [Part.lit "unexpected input value None"] none else val) := by
    cases val <;> rfl
  unfold C14Call.call callR afterInputR runMainR
  simp only [gen_validate_eq, h1, ite_bnot]
  rfl

/-- the composed app built from the TRANSLATED `_call` (steps from the outermost to the innermost) -/
def genChain : List RStep → PV → PV
  | [], v => v
  | s :: rest, v => C14Call.call s (if rest.isEmpty then none else some (genChain rest)) v

theorem gen_chain_eq (steps : List RStep) : genChain steps = chainR steps := by
  induction steps with
  | nil => rfl
  | cons s rest ih => funext v; simp only [genChain, chainR, gen_call_eq, ih]

/-- **The translated `_call`, composed, IS the model of `Props/C14.lean`.**  For every non-empty list of plain steps whose
accepted class tags do not use the two reserved "anything" tags, and every input (None, a completed value, a
not-completed value), the plain view of what the composition of translated `_call`s returns is `callChain steps v`. -/
theorem gen_chain_refines_callChain (steps : List Step) (hne : steps ≠ [])
    (htags : ∀ s ∈ steps, ¬ (100 ∈ s.accepts) ∧ ¬ (101 ∈ s.accepts)) (v : Option Val) :
    projPV (genChain (steps.map embedStep) (embedOpt v)) = some (callChain steps v) := by
  rw [gen_chain_eq]
  apply rel_chain steps hne htags
  cases v with
  | none => exact Or.inl ⟨rfl, rfl⟩
  | some x => exact Or.inr ⟨x, rfl, projPV_embedVal x⟩

def exLoader : Step := ⟨1, .loader, true, [], fun v => match v with | .ok x => .ret ⟨2, x.val, x.src⟩ | _ => .retNone⟩
def exFail : Step := ⟨2, .generic, true, [2], fun _ => .raise 7⟩
def exNext : Step := ⟨3, .generic, true, [2], fun v => match v with | .ok x => .ret x | _ => .retNone⟩
example : projPV (genChain ([exNext, exFail, exLoader].map embedStep) (embedOpt (some (.ok ⟨1, 5, some 5⟩))))
    = some (.nc ⟨.error, 2, .exc 7, some 5⟩) := by
  rw [gen_chain_refines_callChain _ (by simp) (by decide)]; decide
example : genChain ([exNext, exLoader].map embedStep) .none
    = .nc ⟨"ERROR", 3, [.lit "unexpected input value None"], none⟩ := rfl

/-! ### behaviour outside the plain model: containers and proxies -/

/-- **Empty data.**  A step with a type check that is handed an EMPTY list / tuple / set (bare or inside a source proxy)
never calls `main`: the result is the ERROR record "empty data" naming the step. -/
theorem empty_data_not_completed (s : RStep) (input : Option (PV → PV)) (c : Nat) (hc : c ∈ builtinSeqs)
    (hoff : typeCheckOff s = false) (hl : s.kind = .loader ∨ input = none) (wrap : Bool) (src : Option Id) :
    callR s input (if wrap then .proxy (.seq c []) src else .seq c [])
      = .nc ⟨"ERROR", s.name, [.lit "empty data"], none⟩ := by
  have hin : (s.kind != Kind.loader && input.isSome) = false := by
    rcases hl with h | h <;> simp [h]
  cases wrap <;>
    simp [callR, hin, afterInputR, validateR, hoff, checkData, hc, PV.isNone, PV.isNC, PV.isProxy, PV.proxyObj, PV.truthy, mkNC]

/-- **A container is typed by its first element**: the type check of `[v, …]` is the type check of `v`, and a rejected
container is reported with the class and the source of its FIRST element. -/
theorem seq_typed_by_first_element (s : RStep) (c : Nat) (hc : c ∈ builtinSeqs) (hoff : typeCheckOff s = false)
    (v : V) (vs : List V) :
    validateR s (.seq c (v :: vs)) = validateR s (.obj v) ∧
    (v.ty ∉ s.dataTypes → validateR s (.seq c (v :: vs))
      = .nc ⟨"ERROR", s.name, [.lit "invalid data type, '", .cls v.ty, .lit "' not in ", .types s.dataTypes], v.src⟩) := by
  constructor
  · simp [validateR, hoff, checkData, hc, PV.isNC, PV.isProxy]
  · intro hv
    simp [validateR, hoff, checkData, checkClass, hc, PV.isNC, PV.isProxy, PV.className, hv, mkNC, PV.source]

/-- `SerialisableType` / `IdentifierType` among the declared types (or no declared types) switch the check off for EVERY value -/
theorem serialisable_accepts_everything (s : RStep) (h : 100 ∈ s.dataTypes ∨ 101 ∈ s.dataTypes ∨ s.dataTypes = []) (d : PV)
    (hd : (d.isNC && s.skipNC) = false) : validateR s d = .bool true := by
  have : typeCheckOff s = true := by
    rcases h with h | h | h
    · exact typeCheckOff_of_mem s 100 h (by decide)
    · exact typeCheckOff_of_mem s 101 h (by decide)
    · simp [typeCheckOff, h]
  simp [validateR, hd, this]

/-- **`_validate_data_type` is total and only ever answers "passes", the not-completed input itself, or an ERROR record
naming this step** — for every python value (None, containers, proxies included). -/
theorem validate_total (s : RStep) (d : PV) :
    validateR s d = .bool true ∨ (validateR s d = d ∧ d.isNC = true ∧ s.skipNC = true) ∨
    ∃ m src, validateR s d = .nc ⟨"ERROR", s.name, m, src⟩ :=
  validateR_cases s d

/-- **`_call` never returns None and never turns a failure into a success** (rich domain: any input value, any connected
input app, any behaviour of `main`): the result is a not-completed value, or the non-None value `main` returned. -/
theorem call_result (s : RStep) (input : Option (PV → PV)) (val : PV) :
    (callR s input val).isNone = false ∧
    ((callR s input val).isNC = true ∨ ∃ w, s.main w = .ret (callR s input val)) := by
  rcases callR_result s input val with h | ⟨w, h⟩
  · exact ⟨isNone_of_isNC h, Or.inl h⟩
  · rw [h]
    rcases runMainR_result s w with h' | ⟨h', hn⟩
    · exact ⟨isNone_of_isNC h', Or.inl h'⟩
    · exact ⟨hn, Or.inr ⟨w, h'⟩⟩

example : callR ⟨4, .generic, true, [2], [2], fun _ => .ret .none⟩ none (.seq 4 [])
    = .nc ⟨"ERROR", 4, [.lit "empty data"], none⟩ := rfl
example : callR ⟨4, .generic, true, [2], [2], fun _ => .ret (.bool true)⟩ none (.seq 5 [⟨3, 0, some 8⟩, ⟨2, 0, none⟩])
    = .nc ⟨"ERROR", 4, [.lit "invalid data type, '", .cls 3, .lit "' not in ", .types [2]], some 8⟩ := rfl
example : callR ⟨4, .generic, true, [2], [2], fun _ => .ret .none⟩ none (.proxy (.seq 6 [⟨2, 0, some 8⟩]) (some 1))
    = .nc ⟨"BUG", 4, [.lit "unexpected output value None"], some 1⟩ := rfl

/-! ### `_add`: which compositions exist -/

/-- what a successful `a + b` guarantees -/
theorem add_connected (a b : AppSig) (h : addR a b false = .connected) :
    composable b.appType = true ∧ b.hasInput = false ∧ a.appType ≠ some .writer ∧ b.appType ≠ some .loader ∧
    (¬ (inter a.returnTypes [100, 101]).isEmpty ∨
      (a.returnTypes ≠ [] ∧ b.dataTypes ≠ [] ∧ (inter a.returnTypes b.dataTypes) ≠ [])) := by
  have := (addR_eq_connected_iff a b false).mp h
  exact ⟨this.1, this.2.2.1, this.2.2.2.2.1, this.2.1, this.2.2.2.2.2⟩

/-- **Shape of every composition.**  If `a₀ + a₁ + … + aₙ` (left to right, distinct unconnected apps) is accepted by
`_add` at every `+`, then no app after the first is a loader, no app before the last is a writer, and every added app is
composable — i.e. every composed app is `loader? generic* writer?`, which is exactly the hypothesis `kind ≠ loader` for the
outer steps in `C14.nc_passthrough` / `failing_step_recorded`. -/
theorem composed_shape (cur : AppSig) (l : List AppSig) (h : composeFrom cur l = true) :
    (∀ o ∈ l, o.appType ≠ some .loader ∧ composable o.appType = true) ∧
    (l ≠ [] → cur.appType ≠ some .writer) ∧ (∀ o ∈ l.dropLast, o.appType ≠ some .writer) := by
  induction l generalizing cur with
  | nil => simp
  | cons o rest ih =>
    unfold composeFrom at h
    split at h
    · rename_i hc
      have a := add_connected cur o hc
      have r := ih { o with hasInput := true } h
      refine ⟨?_, fun _ => a.2.2.1, ?_⟩
      · intro x hx
        rcases List.mem_cons.mp hx with rfl | hx
        · exact ⟨a.2.2.2.1, a.1⟩
        · exact r.1 x hx
      · intro x hx
        cases rest with
        | nil => simp at hx
        | cons o2 rest2 =>
          rw [List.dropLast_cons_cons] at hx
          rcases List.mem_cons.mp hx with rfl | hx
          · exact r.2.1 (by simp)
          · exact r.2.2 x hx
    · cases h

/-- a writer can only be last, a loader only first: the two rejected orders.  AS CODED a loader on the right is rejected by the
AttributeError of evaluating `other.input` (a loader has no such attribute); the intended `TypeError("Right hand side … loader")`
is unreachable. -/
theorem add_rejects (a b : AppSig) (hb : composable b.appType = true) :
    (b.appType = some .loader → addR a b false = .raised "AttributeError" 99) ∧
    (b.appType ≠ some .loader → b.hasInput = false → a.appType = some .writer → addR a b false = .raised "TypeError" 3) := by
  constructor
  · intro h2
    have hl : composable (some AppType.loader) = true := by decide
    simp [addR, h2, hl]
  · intro h1 hin h; simp [addR, hb, hin, h, h1]

def sigLoader : AppSig := ⟨some .loader, false, [101], [2, 100]⟩
def sigA : AppSig := ⟨some .generic, false, [2], [2, 3]⟩
def sigB : AppSig := ⟨some .generic, false, [3], [7, 100]⟩
def sigWriter : AppSig := ⟨some .writer, false, [100], [101]⟩
example : composeFrom sigLoader [sigA, sigB, sigWriter] = true := rfl
example : composeFrom sigA [sigLoader] = false ∧ composeFrom sigWriter [sigA] = false ∧ composeFrom sigA [⟨some .generic, false, [7], [7]⟩] = false := ⟨rfl, rfl, rfl⟩
example : C14Call.add sigA ⟨some .generic, false, [7], [7]⟩ false = .raised "TypeError" 7 ∧ C14Call.add sigLoader sigA true = .raised "ValueError" 2 := ⟨rfl, rfl⟩
example : C14Call.getDefaultChunksize 10 2 = 2 ∧ C14Call.getDefaultChunksize 8 2 = 1 := ⟨rfl, rfl⟩

end CogentModel.C14Call
