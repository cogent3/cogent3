import CogentModel.Gen.C18Gaps
import CogentModel.Gen.C18Pog
import CogentModel.Proofs.C18Gen
import CogentModel.Proofs.Progressive

/-! # C18 — translation tie of the gap-dict helpers of `app/align.py`

`Gen/C18Gaps.lean` is GENERATED on every run from the Python source of `_GapOffset.__init__/__getitem__`,
`_gap_difference`, `_merged_gaps`, `_subset_gaps_to_align_coords`, `_combined_refseq_gaps`, `_gaps_for_injection`
(translator `/verif/translator/c18_gaps2lean.py`, `ast` only).  Each theorem below proves a generated definition equal to
the hand model `Model/GapMerge.lean` — the model the merge theorems of `Props/C18.lean` are stated on — for ALL arguments.
A dict is an association list; where the Python iterates a dict and assigns the iterated keys into a fresh dict, the
equality needs the dict invariant (unique keys) of the iterated argument, stated as `Nodup`.  A semantic edit of one of
these functions changes the generated text and breaks the corresponding proof. -/

namespace CogentModel.C18G
open CogentModel.GapMerge
open CogentModel.Gen
open CogentModel.C18Gen

/-- `_GapOffset.__init__`: the generated constructor, read through `toModel` (cache attribute dropped,
`min_pos = None` of an empty dict read as 0), is the hand model's constructor, for every dict and both modes. -/
theorem gen_gapOffsetInit (g : Gaps) (invert : Bool) :
    toModel (C18Gaps.gapOffsetInit g invert) = GapOffset.mk' g invert :=
  C18Gen.gen_gapOffsetInit g invert

example : (C18Gaps.gapOffsetInit [(7, 1), (1, 3)] true).store = [(1, 0), (4, 3), (10, 3), (11, 4)] := by decide +kernel

/-- `_GapOffset.__getitem__`: for EVERY object state (not only those the constructor produces) and every index. -/
theorem gen_gapOffsetGetitem (G : C18Gaps.GapOffsetG) (index : Int) :
    C18Gaps.gapOffsetGetitem G index = (toModel G).get index :=
  C18Gen.gen_gapOffsetGetitem G index

-- an object state written by hand (beyond max_pos -> total)
example : C18Gaps.gapOffsetGetitem { store := [(1, 0)], min_pos := some 1, max_pos := 1, total := 3, invert := false } 5 = 3 := by decide +kernel

/-- constructor followed by a query = the hand model's `_GapOffset(g, invert)[x]` -/
theorem gen_gapOffset_query (g : Gaps) (invert : Bool) (x : Int) :
    C18Gaps.gapOffsetGetitem (C18Gaps.gapOffsetInit g invert) x = (GapOffset.mk' g invert).get x := by
  rw [C18Gen.gen_gapOffsetGetitem, C18Gen.gen_gapOffsetInit]

-- the docstring examples of the class
example : 2 + C18Gaps.gapOffsetGetitem (C18Gaps.gapOffsetInit [(1, 3), (7, 1)] false) 2 = 5 := by decide +kernel
example : 5 - C18Gaps.gapOffsetGetitem (C18Gaps.gapOffsetInit [(1, 3), (7, 1)] true) 5 = 2 := by decide +kernel

/-- `_merged_gaps` -/
theorem gen_mergedGaps (a b : Gaps) : C18Gaps.mergedGaps a b = mergedGaps a b :=
  C18Gen.gen_mergedGaps a b

example : C18Gaps.mergedGaps [(1, 3), (7, 1)] [(7, 2), (4, 1)] = [(1, 3), (7, 2), (4, 1)] := by decide +kernel

/-- `_gap_difference`, for every sequence dict and every union dict (unique keys) -/
theorem gen_gapDifference (seq u : Gaps) (hnd : (u.map (·.1)).Nodup) :
    C18Gaps.gapDifference seq u = gapDifference seq u :=
  C18Gen.gen_gapDifference seq u hnd

example : C18Gaps.gapDifference [(1, 3)] [(1, 5), (4, 2)] = ([(4, 2)], [(1, 2)]) := by decide +kernel

/-- `_subset_gaps_to_align_coords`, for every offset object -/
theorem gen_subsetGapsToAlignCoords (G : C18Gaps.GapOffsetG) (sub orig : Gaps) :
    C18Gaps.subsetGapsToAlignCoords sub orig G = subsetToAlign orig (toModel G) sub [] :=
  C18Gen.gen_subsetGapsToAlignCoords G sub orig

example : C18Gaps.subsetGapsToAlignCoords [(1, 2)] [(1, 3)] (C18Gaps.gapOffsetInit [(1, 3)] false) = [(4, 2)] := by decide +kernel

/-- `_combined_refseq_gaps` (composition of the generated constructor, difference, coordinate conversion and update) -/
theorem gen_combinedRefseqGaps (seq u : Gaps) (hnd : (u.map (·.1)).Nodup) :
    C18Gaps.combinedRefseqGaps seq u = combinedRefseqGaps seq u :=
  C18Gen.gen_combinedRefseqGaps seq u hnd

example : C18Gaps.combinedRefseqGaps [(1, 3)] [(1, 5), (4, 2)] = [(4, 2), (7, 2)] := by decide +kernel

/-- `_gaps_for_injection` as it is in the checked tree = the hand model's variant `fixed = false` (the code whose
violation of "keeps the pairwise alignment" is the open finding C18-p2m-injected-gap-inside-other-gap), including the
`ValueError` path, for all dicts and lengths.  When the proposed repair is applied to the tree this theorem no longer
checks and must be restated for `fixed = true`. -/
theorem gen_gapsForInjection (other ref : Gaps) (seqlen : Int) :
    C18Gaps.gapsForInjection other ref seqlen = gapsForInjection false other ref seqlen :=
  C18Gen.gen_gapsForInjection other ref seqlen

example : (C18Gaps.gapsForInjection [(2, 1)] [(1, 2), (5, 1)] 4).toOption = some [(2, 1), (1, 2), (4, 1)] := by decide +kernel
example : (C18Gaps.gapsForInjection [] [(-3, 2)] 4).toOption = none := by decide +kernel

/-! ## column completion of progressive alignment (`Gen/C18Pog.lean`, translator `c18_pog2lean.py`) -/

/-- `pog_traceback` + `POGBuilder.add_skipped/add_aligned/get_pog`, sliced to `aligned_positions` and translated from the
source, is the hand model `Progressive.pogTraceback` — for all child widths and ALL position lists (valid or malformed).
Together with `pog_traceback_complete` / `progressive_alignment_sound` of `Props/C18.lean` this puts the completed
position list of the real code under those theorems by translation, not only by the behavioural tie. -/
theorem gen_pogTraceback (n1 n2 : Nat) (ap : List CogentModel.Progressive.Pos) :
    C18Pog.pogTraceback n1 n2 ap = CogentModel.Progressive.pogTraceback n1 n2 ap :=
  C18Gen.gen_pogTraceback n1 n2 ap

example : C18Pog.pogTraceback 3 2 [(some 1, some 0)] = [(some 0, none), (some 1, some 0), (some 2, none), (none, some 1)] := by decide +kernel

/-- the translated completion has every child column exactly once (the completeness theorem transported to the
generated definition) -/
theorem gen_pogTraceback_complete (n1 n2 : Nat) (ap : List CogentModel.Progressive.Pos)
    (h : CogentModel.Progressive.apValid n1 n2 ap 0 0 = true) :
    (C18Pog.pogTraceback n1 n2 ap).filterMap (·.1) = List.range n1 ∧
    (C18Pog.pogTraceback n1 n2 ap).filterMap (·.2) = List.range n2 := by
  rw [C18Gen.gen_pogTraceback, List.range_eq_range', List.range_eq_range']
  exact CogentModel.Progressive.pogTraceback_complete n1 n2 ap h

example : CogentModel.Progressive.apValid 3 2 [(some 1, some 0)] 0 0 = true := by decide +kernel

end CogentModel.C18G
