/-
  C04, translator tie for the SLICING side: the definitions GENERATED by translator/c04_slice2lean.py from the current
  python source of `Feature.get_slice` / `Feature._do_seq_slice` (core/annotation.py -> GenAnn) and `Sequence._mapped` /
  `Sequence.gapped_by_map_segment_iter` (core/sequence.py -> GenOldS, core/new_sequence.py -> GenNewS) equal the hand
  model `Model/FeatureSeq.lean` (`getSlice`, `getSliceContig`, `getSliceNew`) FOR ALL sequences and feature maps.  A
  semantic edit of the python (the contiguous form no longer reverse complemented, `complete` / `allow_gaps` swapped, a
  changed guard in `_mapped`, '?' segments for lost spans joined in) changes `Gen/C04Slice.lean` and a proof stops checking.
-/
import CogentModel.Gen.C04Slice
import CogentModel.Proofs.C04GenSliceAux
import CogentModel.Props.C04Gen
namespace CogentModel.C04
open CogentModel.View CogentModel.SeqWrap CogentModel.FeatureView CogentModel.FeatureSpec CogentModel.C04GenSlice CogentModel.C04Gen

/-- the translated generator on a complete map: the segments of the real spans, no exception -/
theorem gen_segmentIter_old_complete (comp : Char → Char) (s : Seq) (m : FMapG) (h : m.complete = true) (ag rg : Bool) :
    GenOldS.segmentIter comp s m ag rg = .ok ((realOf m.spans).map fun p => strSlice comp s p.1 p.2) := by
  unfold GenOldS.segmentIter
  simp only [h, not_true_eq_false, and_false, if_false]
  obtain ⟨sp, L⟩ := m
  have hsp := spans_of_complete sp h
  generalize realOf sp = r at hsp
  subst hsp
  rw [mapExcept_eq_map _ (fun x => strSlice comp s x.start x.stop) _ fun x hx => ?_]
  · exact congrArg Except.ok List.map_map
  · obtain ⟨p, -, rfl⟩ := List.mem_map.mp hx
    rfl

theorem gen_segmentIter_old_incomplete (comp : Char → Char) (s : Seq) (m : FMapG) (h : m.complete = false) (rg : Bool) :
    GenOldS.segmentIter comp s m false rg = .error .valueError := by
  unfold GenOldS.segmentIter
  simp [h]

theorem gen_mapped_old_eq (comp : Char → Char) (s : Seq) (m : FMapG) :
    GenOldS.mapped comp s m = if m.complete then .ok (joined comp s m.spans) else .error .valueError := by
  unfold GenOldS.mapped
  cases h : m.complete
  · simp [gen_segmentIter_old_incomplete comp s m h]
  · simp only [gen_segmentIter_old_complete comp s m h, ctorStr, flatten_strSlice, joined, sliceIdx_realOf, if_true]

example :
    let s : Seq := { parent := "ACGTACGTAC".toList, v := { start := 2, stop := 9, step := 1, offset := 0, seqLen := 10 }, nucleic := true }
    GenOldS.mapped id s ⟨[.span 1 3, .span 4 6], 7⟩ = .ok "TAGT".toList ∧
    GenOldS.mapped id s ⟨[.lost 2, .span 1 3], 7⟩ = .error .valueError := by decide +kernel

/-- `_do_seq_slice`: both arms of the `len(self.map.spans) > 1` test return the same residues -/
theorem gen_doSeqSlice_eq (comp : Char → Char) (m : FMapG) (r : Bool) (res : List Char) :
    GenAnn.doSeqSlice comp m r res = .ok (if r then rcChars comp res else res) := by
  unfold GenAnn.doSeqSlice
  cases r <;> simp only [ite_self, if_true, if_false, Bool.false_eq_true]

/-- `get_slice` reads the parent through the map itself if `complete` is asked for, else through the map without its
lost spans (which is the map itself when it has none); the four arms differ in nothing else -/
theorem gen_getSlice_read (comp : Char → Char) (pm : FMapG → Except FErr (List Char))
    (ps : Int → Int → Except FErr (List Char)) (m : FMapG) (r c ag : Bool) :
    GenAnn.getSlice comp pm ps m r c ag =
      (match (if ag then ps (FMapG.start (if c then m else m.withoutGaps)) (FMapG.stop (if c then m else m.withoutGaps))
              else pm (if c then m else m.withoutGaps)) with
       | .error e => .error e
       | .ok res => .ok (if r then rcChars comp res else res)) := by
  unfold GenAnn.getSlice
  simp only [gen_doSeqSlice_eq]
  cases c <;> cases hc : m.complete <;> cases ag <;>
    simp only [hc, withoutGaps_of_complete, not_true_eq_false, not_false_eq_true, and_self, and_false, false_and,
      if_true, if_false, Bool.false_eq_true] <;> rfl

theorem getSlice_eq_joined (comp : Char → Char) (s : Seq) (f : Feat) :
    FeatureView.getSlice comp s f =
      if f.reversed then rcChars comp (joined comp s f.spans) else joined comp s f.spans := rfl

theorem joined_withoutGaps (comp : Char → Char) (s : Seq) (m : FMapG) :
    joined comp s m.withoutGaps.spans = joined comp s m.spans := by
  simp only [joined, sliceIdx_realOf, realOf_withoutGaps]

theorem gen_getSlice_old_eq (comp : Char → Char) (s : Seq) (f : Feat) (L : Int) :
    GenAnn.getSlice comp (GenOldS.mapped comp s) (fun a b => .ok (strSlice comp s a b)) ⟨f.spans, L⟩ f.reversed false false
      = .ok (FeatureView.getSlice comp s f) := by
  simp only [gen_getSlice_read, gen_mapped_old_eq, complete_withoutGaps, joined_withoutGaps, getSlice_eq_joined,
    Bool.false_eq_true, if_false, if_true]

example :
    let s : Seq := { parent := "ACGTACGTAC".toList, v := { start := 2, stop := 9, step := 1, offset := 0, seqLen := 10 }, nucleic := true }
    let comp : Char → Char := fun c => if c = 'A' then 'T' else if c = 'T' then 'A' else if c = 'C' then 'G' else if c = 'G' then 'C' else c
    GenAnn.getSlice comp (GenOldS.mapped comp s) (fun a b => .ok (strSlice comp s a b)) ⟨[.lost 2, .span 1 3, .span 4 6], 7⟩ true false false
      = .ok "ACTA".toList ∧
    GenAnn.getSlice comp (GenOldS.mapped comp s) (fun a b => .ok (strSlice comp s a b)) ⟨[.lost 2, .span 1 3, .span 4 6], 7⟩ true true false
      = .error .valueError := by decide +kernel

/-- the contiguous form: `get_slice(allow_gaps=True)` as translated = `getSliceContig` -/
theorem gen_getSlice_contig_eq (comp : Char → Char) (s : Seq) (f : Feat) (L : Int)
    (pm : FMapG → Except FErr (List Char)) :
    GenAnn.getSlice comp pm (fun a b => .ok (strSlice comp s a b)) ⟨f.spans, L⟩ f.reversed false true
      = .ok (FeatureView.getSliceContig comp s f) := by
  have hci : (irange (mapStart (realOf f.spans)) (mapEnd (realOf f.spans))).map (fun i => (str comp s)[i.toNat]!) =
      (contigIdx f).map fun i => (str comp s)[i.toNat]! := by rw [contigIdx_eq]
  simp only [gen_getSlice_read, FMapG.start, FMapG.stop, realOf_withoutGaps, strSlice, hci, if_true, if_false,
    Bool.false_eq_true]
  rfl

example :
    let s : Seq := { parent := "ACGTACGTAC".toList, v := { start := 2, stop := 9, step := 1, offset := 0, seqLen := 10 }, nucleic := true }
    let comp : Char → Char := fun c => if c = 'A' then 'T' else if c = 'T' then 'A' else if c = 'C' then 'G' else if c = 'G' then 'C' else c
    GenAnn.getSlice comp (GenOldS.mapped comp s) (fun a b => .ok (strSlice comp s a b)) ⟨[.lost 2, .span 1 3, .span 4 6], 7⟩ true false true
      = .ok "ACGTA".toList := by decide +kernel

theorem gen_segmentIter_new_eq (comp : Char → Char) (s : Seq) (m : FMapG) (ag rg : Bool) :
    GenNewS.segmentIter comp s m ag rg = GenOldS.segmentIter comp s m ag rg := rfl

/-- new-style `_mapped` as translated, on a complete map: the constructor guard fires exactly for ONE span not starting
at view index 0 on a view with an offset; otherwise the same residues as the old class -/
theorem gen_mapped_new_complete (comp : Char → Char) (s : Seq) (m : FMapG) (h : m.complete = true) :
    GenNewS.mapped comp s m =
      (match realOf m.spans with
       | [(a, _)] => if a ≠ 0 ∧ s.v.offset ≠ 0 then .error .valueError else .ok (joined comp s m.spans)
       | _ => .ok (joined comp s m.spans)) := by
  unfold GenNewS.mapped
  rw [gen_segmentIter_new_eq, gen_segmentIter_old_complete comp s m h]
  obtain ⟨sp, L⟩ := m
  have hsp := spans_of_complete sp h
  generalize realOf sp = r at hsp
  subst hsp
  simp only [FMapG.numSpans, FMapG.start, FMapG.stop, realOf_map_spanOf, joined, sliceIdx_realOf, ctorStr, flatten_strSlice]
  match r with
  | [] => rfl
  | [(a, b)] =>
    simp only [List.map_cons, List.map_nil, List.length_singleton, Int.cast_ofNat_Int, if_true, mapStart, mapEnd, ctorView, strSlice,
      List.flatMap_cons, List.flatMap_nil, List.append_nil]
    rfl
  | p :: q :: rest =>
    have : ¬ (((List.map spanOf (p :: q :: rest)).length : Int) = 1) := by simp; omega
    simp only [this, if_false]
-- the guard: one span not starting at 0 on a view with an offset
example :
    let s : Seq := { parent := "ACGTACGTAC".toList, v := { start := 2, stop := 9, step := 1, offset := 3, seqLen := 10 }, nucleic := true }
    GenNewS.mapped id s ⟨[.span 1 3], 7⟩ = .error .valueError ∧ GenNewS.mapped id s ⟨[.span 0 3], 7⟩ = .ok "GTA".toList ∧
    GenNewS.mapped id s ⟨[.span 1 3, .span 4 6], 7⟩ = .ok "TAGT".toList := by decide +kernel

theorem gen_getSlice_new_eq (comp : Char → Char) (s : Seq) (f : Feat) (L : Int) :
    GenAnn.getSlice comp (GenNewS.mapped comp s) (fun a b => .ok (strSlice comp s a b)) ⟨f.spans, L⟩ f.reversed false false
      = (match getSliceNew comp s f with
         | .ok t => .ok t
         | .error e => .error e) := by
  simp only [gen_getSlice_read, gen_mapped_new_complete comp s _ (complete_withoutGaps _), realOf_withoutGaps,
    joined_withoutGaps, getSliceNew, getSlice_eq_joined, Bool.false_eq_true, if_false]
  match realOf f.spans with
  | [] => rfl
  | [(a, b)] =>
    dsimp only
    by_cases hg : a ≠ 0 ∧ s.v.offset ≠ 0
    · rw [if_pos hg, if_pos hg]
    · rw [if_neg hg, if_neg hg]
  | p :: q :: rest => rfl

example :
    let s : Seq := { parent := "ACGTACGTAC".toList, v := { start := 2, stop := 9, step := 1, offset := 3, seqLen := 10 }, nucleic := true }
    GenAnn.getSlice id (GenNewS.mapped id s) (fun a b => .ok (strSlice id s a b)) ⟨[.lost 2, .span 1 3], 7⟩ false false false
      = .error .valueError := by decide +kernel

/-- `get_slice(complete=True)` as translated (old-style class): it raises ValueError exactly when the feature map has a
lost span (the feature is not wholly retained by the view) and otherwise returns the spliced residues -/
theorem gen_getSlice_complete_eq (comp : Char → Char) (s : Seq) (f : Feat) (L : Int) :
    GenAnn.getSlice comp (GenOldS.mapped comp s) (fun a b => .ok (strSlice comp s a b)) ⟨f.spans, L⟩ f.reversed true false
      = if (FMapG.complete ⟨f.spans, L⟩) then .ok (FeatureView.getSlice comp s f) else .error .valueError := by
  simp only [gen_getSlice_read, gen_mapped_old_eq, getSlice_eq_joined, if_true, Bool.false_eq_true, if_false]
  cases FMapG.complete ⟨f.spans, L⟩ <;> rfl

example :
    let s : Seq := { parent := "ACGTACGTAC".toList, v := { start := 2, stop := 9, step := 1, offset := 0, seqLen := 10 }, nucleic := true }
    GenAnn.getSlice id (GenOldS.mapped id s) (fun a b => .ok (strSlice id s a b)) ⟨[.span 1 3, .span 4 6], 7⟩ false true false = .ok "TAGT".toList := by
  decide +kernel

/-- `feature_on_view` restated on the TRANSLATED chain `get_features` -> `make_feature` -> `Feature.get_slice` ->
`Sequence._mapped` -> `gapped_by_map_segment_iter` (old-style class): on every well-formed unit-stride nucleic Sequence
the translated code builds the feature and returns exactly the parent residues at `denote`, read on the feature's
strand; and the translated contiguous form `get_slice(allow_gaps=True)` returns the residues at `denoteContig`. -/
theorem generated_feature_on_view (comp : Char → Char) (hcomp : ∀ x, comp (comp x) = x) (s : Seq) (hw : WF s)
    (hn : s.nucleic = true) (hu : UnitView s.v) (hl : 0 < len s.v) (minus : Bool) (spans : List (Int × Int))
    (hsp : ∀ sp ∈ spans, 0 ≤ sp.1 ∧ sp.1 < sp.2) (hdis : spans.Pairwise (fun a b => a.2 ≤ b.1)) :
    ∃ f, GenOld.featureOnView s.v minus spans = .ok f ∧
      GenAnn.getSlice comp (GenOldS.mapped comp s) (fun a b => .ok (strSlice comp s a b)) ⟨f.spans, len s.v⟩ f.reversed false false =
        .ok ((denote spans minus (segStart s.v) (segStart s.v + len s.v)).1.map
          (fun p => (if minus then comp else id) (s.parent[(p - s.v.offset).toNat]!))) ∧
      GenAnn.getSlice comp (GenOldS.mapped comp s) (fun a b => .ok (strSlice comp s a b)) ⟨f.spans, len s.v⟩ f.reversed false true =
        .ok ((denoteContig spans minus (segStart s.v) (segStart s.v + len s.v)).1.map
          (fun p => (if minus then comp else id) (s.parent[(p - s.v.offset).toNat]!))) := by
  obtain ⟨f, hf, hs⟩ := feature_on_view comp hcomp s hw hn hu hl minus spans hsp
    (FeatureView.Disjoint.sorted ⟨hdis, fun q hq => (hsp q hq).2⟩)
  obtain ⟨f', hf', hs'⟩ := contiguous_feature_on_view comp hcomp s hw hn hu hl minus spans hsp hdis
  have hff : f' = f := by rw [hf] at hf'; cases hf'; rfl
  subst hff
  exact ⟨f', by rw [C04.gen_featureOnView_old_eq, hf], by rw [gen_getSlice_old_eq, hs], by rw [gen_getSlice_contig_eq, hs']⟩

example :
    let s : Seq := { parent := "ACGTACGTACGTACGT".toList, v := { start := 4, stop := 9, step := 1, offset := 0, seqLen := 16 }, nucleic := true }
    let comp : Char → Char := fun c => if c = 'A' then 'T' else if c = 'T' then 'A' else if c = 'C' then 'G' else if c = 'G' then 'C' else c
    (match GenOld.featureOnView s.v true [(1, 6), (7, 12)] with
      | .ok f => GenAnn.getSlice comp (GenOldS.mapped comp s) (fun a b => .ok (strSlice comp s a b)) ⟨f.spans, 5⟩ f.reversed false false == .ok "TAGT".toList
                 && GenAnn.getSlice comp (GenOldS.mapped comp s) (fun a b => .ok (strSlice comp s a b)) ⟨f.spans, 5⟩ f.reversed false true == .ok "TACGT".toList
      | .error _ => false) = true := by
  decide +kernel

end CogentModel.C04
