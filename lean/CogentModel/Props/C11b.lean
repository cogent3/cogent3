import CogentModel.Model.Prune
import CogentModel.Model.PruneInvariance
import CogentModel.Proofs.PruneCongruence
import CogentModel.Proofs.PruneRename
import CogentModel.Proofs.PruneReroot
import CogentModel.Proofs.PruneDetailedBalance
import CogentModel.Props.C11
import Mathlib.Algebra.Field.Defs
/-! # C11, second file — further invariances of the modelled likelihood, for ALL trees / matrices / profiles

Same executable model (`Model/Prune.lean`) plus the executable tree operations of `Model/PruneInvariance.lean`
(`rootedAt` mirrors `TreeNode.rooted_at` / `rooted_with_tip`, `unrootedM` mirrors `TreeNode.unrooted`), which the
driver runs against cogent3's own operations on every run. -/
namespace CogentModel.C11
open CogentModel.Prune

/-- **`rooted_at` as a function.**  Whatever node (given by its path of child positions; any tree shape incl.
multifurcations and unary nodes) cogent3's `rooted_at` re-roots at, the resulting tree — the new root's children
followed by its former parent, every node on the path hanging below the edge it was reached through — is
`Reroot`-related to the original one. -/
theorem rooted_at_is_reroot {R α : Type} {path : List Nat} {t t' : PTree R α}
    (h : rootedAt path t = some t') : Reroot t t' := by
  unfold rootedAt at h
  split at h
  · rename_i P cs fs hd
    simp only [Option.some.injEq] at h
    subst h
    have := plug_descend path t [] _ fs hd
    simp only [plug] at this
    rw [← this]
    exact reroot_plug fs P cs
  · simp at h

/-- … hence for a reversible process (every edge in detailed balance w.r.t. `π`) `rooted_at` ANY internal node
leaves the column likelihood unchanged (induction along the path of root moves). -/
theorem lh_rooted_at {R α : Type} [CommSemiring R] (m : Nat) (π : Nat → R) (prof : α → Nat → R)
    {path : List Nat} {t t' : PTree R α} (h : rootedAt path t = some t')
    (hdb : ∀ P ∈ t.edgeMats, DetailedBalance m π P) : lh m π prof t = lh m π prof t' :=
  lh_reroot_reversible m π prof (rooted_at_is_reroot h) hdb

def exQ : Mat Nat := fun i j => if i = j then 3 else 1
/-- a 5-tip tree with a polytomy and a two-level clade: `(0,(1,(2,3),4),5)` -/
def exT : PTree Nat Nat :=
  .node exQ [.leaf exQ 0, .node exQ [.leaf exQ 1, .node exQ [.leaf exQ 2, .leaf exQ 3], .leaf exQ 4], .leaf exQ 5]
example : (rootedAt [1, 1] exT).isSome = true := by decide +kernel
example : (rootedAt [1, 0] exT).isSome = false := by decide  -- a tip cannot be the root
example : ((rootedAt [1, 1] exT).map fun t => (t.children.length, lh 2 (fun _ => 1) (fun a s => if (a + s) % 2 = 0 then 1 else 0) t))
    = some (3, lh 2 (fun _ => 1) (fun a s => if (a + s) % 2 = 0 then 1 else 0) exT) := by decide +kernel

/-- **Renaming the states.**  For any permutation `σ` of the states (inverse `τ`), the problem with the states
renamed consistently — every edge matrix `P' i j = P (σ i) (σ j)`, root distribution `π' i = π (σ i)`, leaf
profiles `prof' a i = prof a (σ i)` — has the same column likelihood. -/
theorem lh_state_relabel {R α : Type} [CommSemiring R] (m : Nat) (σ τ : Nat → Nat) (h : PermOn m σ τ)
    (π : Nat → R) (prof : α → Nat → R) (t : PTree R α) :
    lh m (fun i => π (σ i)) (fun a i => prof a (σ i)) (t.mapMats (permMat σ)) = lh m π prof t := by
  rw [lh_eq, lh_eq]
  simp only [plh_permStates m σ τ h prof t]
  exact sum_permOn h fun u => (plh m prof t).get u * π u

def exSwap : Nat → Nat := fun i => if i = 0 then 2 else if i = 2 then 0 else i
example : PermOn 3 exSwap exSwap := ⟨by decide, by decide, by decide, by decide⟩
def exAsym : Mat Nat := fun i j => 1 + i + 2 * j
example : lh 3 (fun i => exSwap i + 1) (fun a i => if (a + exSwap i) % 2 = 0 then 1 else 0)
      ((PTree.node exAsym [.leaf exAsym 0, .node exAsym [.leaf exAsym 1, .leaf exAsym 2]] : PTree Nat Nat).mapMats (permMat exSwap))
    = lh 3 (fun i => i + 1) (fun a i => if (a + i) % 2 = 0 then 1 else 0)
      (PTree.node exAsym [.leaf exAsym 0, .node exAsym [.leaf exAsym 1, .leaf exAsym 2]] : PTree Nat Nat) := by decide +kernel
/-- renaming only the matrices (not `π` and the profiles) does change the value: the three must move together -/
example : lh 3 (fun i => i + 1) (fun a i => if (a + i) % 2 = 0 then 1 else 0)
      ((PTree.node exAsym [.leaf exAsym 0, .node exAsym [.leaf exAsym 1, .leaf exAsym 2]] : PTree Nat Nat).mapMats (permMat exSwap))
    ≠ lh 3 (fun i => i + 1) (fun a i => if (a + i) % 2 = 0 then 1 else 0)
      (PTree.node exAsym [.leaf exAsym 0, .node exAsym [.leaf exAsym 1, .leaf exAsym 2]] : PTree Nat Nat) := by decide +kernel

/-- **Contracting a zero-length edge.**  An internal node below an edge whose matrix is the identity (a zero-length
edge of a continuous-time process: `exp(Q·0) = I`) can be dissolved, its children taking its place among their
grandparent's children — at the root or at any depth — without changing the column likelihood.  (Read from right
to left: a polytomy can be resolved by zero-length edges in any way.) -/
theorem lh_contract_zero_edge {R α : Type} [CommSemiring R] (m : Nat) (π : Nat → R) (prof : α → Nat → R)
    {t t' : PTree R α} (h : Deep (Contract m) t t') : lh m π prof t = lh m π prof t' :=
  lh_deep m π prof (prodUp_contract m prof) h

example : IsId 2 (idMat : Mat Nat) := by intro i j _ _; rfl
example : Deep (Contract 2)
    (PTree.node exQ [.leaf exQ 0, .node exQ [.leaf exQ 1, .node idMat [.leaf exQ 2, .leaf exQ 3], .leaf exQ 4]] : PTree Nat Nat)
    (PTree.node exQ [.leaf exQ 0, .node exQ [.leaf exQ 1, .leaf exQ 2, .leaf exQ 3, .leaf exQ 4]]) :=
  .under _ _ _ (.tail _ _ _ (.head _ _ _ (.here _ _ _
    (.mk idMat [.leaf exQ 1] [.leaf exQ 2, .leaf exQ 3] [.leaf exQ 4] (by intro i j _ _; rfl)))))
example : lh 2 (fun s => s + 1) (fun a s => if (a + s) % 2 = 0 then 1 else 0)
      (PTree.node exQ [.leaf exQ 0, .node exQ [.leaf exQ 1, .node idMat [.leaf exQ 2, .leaf exQ 3], .leaf exQ 4]] : PTree Nat Nat)
    = lh 2 (fun s => s + 1) (fun a s => if (a + s) % 2 = 0 then 1 else 0)
      (PTree.node exQ [.leaf exQ 0, .node exQ [.leaf exQ 1, .leaf exQ 2, .leaf exQ 3, .leaf exQ 4]]) := by decide +kernel

/-- **`TreeNode.unrooted()` as a function** on a bifurcating root, for all shapes of the two children (tip-clade,
clade-tip, clade-clade: the FIRST internal child is dissolved; tip-tip: nothing happens): with the sister edge
lengthened by the dissolved edge (`P(collapsed)·P(sister)`) the column likelihood is unchanged for a reversible
process. -/
theorem lh_unrooted_bifurcating_root {R α : Type} [CommSemiring R] (m : Nat) (π : Nat → R) (prof : α → Nat → R)
    (P0 : Mat R) (a b : PTree R α) (ha : DetailedBalance m π a.mat) (hb : DetailedBalance m π b.mat) :
    lh m π prof (unrootedM (matMul m) (.node P0 [a, b])) = lh m π prof (.node P0 [a, b]) := by
  rcases a with ⟨Pa, la⟩ | ⟨Pa, _ | ⟨x, xs⟩⟩
  case node.cons =>
    simp only [unrootedM, firstInternal, expandFirst, List.length_cons, List.length_nil, List.map_cons, List.map_nil]
    rw [lh_root_perm m π prof P0 P0 (List.Perm.swap _ _ _ : [PTree.node Pa (x :: xs), b].Perm [b, .node Pa (x :: xs)]),
      lh_unroot_bifurcating m π prof P0 P0 Pa b (x :: xs) ha]
    exact lh_root_perm m π prof P0 P0 (List.perm_append_comm (l₁ := x :: xs) (l₂ := [_]))
  -- `a` has no children: `b` is dissolved if it has any, else nothing happens
  all_goals
    rcases b with ⟨Pb, lb⟩ | ⟨Pb, _ | ⟨y, ys⟩⟩
    · simp [unrootedM, firstInternal]
    · simp [unrootedM, firstInternal]
    · simp only [unrootedM, firstInternal, expandFirst, List.length_cons, List.length_nil, List.map_nil, List.append_nil]
      exact (lh_unroot_bifurcating m π prof P0 P0 Pb _ _ hb).symm

/-- a root with three or more children is already unrooted -/
theorem unrooted_of_multifurcating_root {R α : Type} (comp : Mat R → Mat R → Mat R) (P0 : Mat R)
    (cs : List (PTree R α)) (h : 3 ≤ cs.length) : unrootedM comp (.node P0 cs) = .node P0 cs := by
  simp only [unrootedM, if_neg (Nat.not_lt.mpr h)]

example : (unrootedM (matMul 2) (.node exQ [.node exQ [.leaf exQ 1, .leaf exQ 2], .node exQ [.leaf exQ 3, .leaf exQ 4]] : PTree Nat Nat)).children.length = 3 := by
  decide +kernel
example : lh 2 (fun _ => 1) (fun a s => if (a + s) % 2 = 0 then 1 else 0)
      (unrootedM (matMul 2) (.node exQ [.node exQ [.leaf exQ 1, .leaf exQ 2], .node exQ [.leaf exQ 3, .leaf exQ 4]] : PTree Nat Nat))
    = lh 2 (fun _ => 1) (fun a s => if (a + s) % 2 = 0 then 1 else 0)
      (.node exQ [.node exQ [.leaf exQ 1, .leaf exQ 2], .node exQ [.leaf exQ 3, .leaf exQ 4]] : PTree Nat Nat) := by decide +kernel

/-- **Rate bins.**  The likelihood of a column under the bin mixture (`lhColumn`: one tree with its own matrices and
one root distribution per bin) depends on the bins only through the per-bin likelihoods … -/
theorem lh_bins_congr {R α : Type} [CommSemiring R] (m : Nat) (bprobs : List R) (prof : α → Nat → R)
    {bins bins' : List ((Nat → R) × PTree R α)}
    (h : List.Forall₂ (fun b b' => lh m b.1 prof b.2 = lh m b'.1 prof b'.2) bins bins') :
    lhColumn m bprobs bins prof = lhColumn m bprobs bins' prof := by
  have hb : lhBins m bprobs bins prof = lhBins m bprobs bins' prof := by
    have : bins.map (fun b => lh m b.1 prof b.2) = bins'.map (fun b => lh m b.1 prof b.2) := by
      rw [← List.forall₂_eq_eq_eq, List.forall₂_map_left_iff, List.forall₂_map_right_iff]
      exact h
    exact congrArg (weightedSum bprobs) this
  -- the mixture is bypassed exactly when there is a single bin, on both sides alike
  cases h with
  | nil => rfl
  | cons h1 ht =>
    cases ht with
    | nil => rename_i b b'; obtain ⟨π, t⟩ := b; obtain ⟨π', t'⟩ := b'; exact h1
    | cons h2 ht' => exact hb

/-- … so every relation above lifts to the mixture; stated for re-rooting: if in every bin the tree is re-rooted
(`Reroot`, same root distribution) and that bin's matrices are in detailed balance with that bin's root
distribution, the mixture likelihood is unchanged. -/
theorem lh_bins_reroot {R α : Type} [CommSemiring R] (m : Nat) (bprobs : List R) (prof : α → Nat → R)
    {bins bins' : List ((Nat → R) × PTree R α)}
    (h : List.Forall₂ (fun b b' => b.1 = b'.1 ∧ Reroot b.2 b'.2 ∧ ∀ P ∈ b.2.edgeMats, DetailedBalance m b.1 P) bins bins') :
    lhColumn m bprobs bins prof = lhColumn m bprobs bins' prof := by
  refine lh_bins_congr m bprobs prof (h.imp ?_)
  rintro ⟨π, t⟩ ⟨π', t'⟩ ⟨rfl, hr, hdb⟩
  exact lh_reroot_reversible m π prof hr hdb

example : lhColumn 2 [1, 2] [((fun _ => 1), exT), ((fun _ => 1), exT)] (fun a s => if (a + s) % 2 = 0 then 1 else 0)
    = 3 * lh 2 (fun _ => 1) (fun a s => if (a + s) % 2 = 0 then 1 else 0) exT := by decide +kernel

/-- **Reversibility by construction** (`StationaryQ.calcQ`): whatever the scale and the diagonal, the rate matrix built
from SYMMETRIC exchangeabilities `Rm` times a matrix whose rows are all the motif probabilities `π`
(`mprobs_matrix`) is in detailed balance with `π`. -/
theorem calcQ_reversible_by_construction {K : Type} [Field K] (m : Nat) (Rm M : Mat K) (w π : Nat → K)
    (hsym : ∀ i j, i < m → j < m → Rm i j = Rm j i) (hM : ∀ i j, i < m → j < m → M i j = π j) :
    DetailedBalance m π (calcQ m Rm M w) := by
  intro i j hi hj
  by_cases h : i = j
  · subst h; rfl
  · have h' : ¬ j = i := fun e => h e.symm
    simp only [calcQ, if_neg h, if_neg h', sub_zero, hM i j hi hj, hM j i hj hi, hsym i j hi hj]
    ring

/-- … and detailed balance of `Q` is inherited by every power of `Q` and every polynomial `Σ_{n<N} c n · Qⁿ` — in
particular by every Taylor polynomial of `exp(tQ)`; only the passage to the limit (the matrix exponential itself) is
outside the algebraic model and is measured on the implementation's matrices (driver `hyp`). -/
theorem detailed_balance_of_polynomials {R : Type} [CommSemiring R] (m : Nat) (π : Nat → R) (Q : Mat R) (c : Nat → R)
    (h : DetailedBalance m π Q) (N : Nat) : DetailedBalance m π (matPoly m Q c N) := by
  induction N with
  | zero => intro i j _ _; simp [matPoly]
  | succ N ih =>
    exact detailedBalance_add m π _ _ ih (detailedBalance_smul m π (c N) _ (detailedBalance_matPow m π Q h N))

example : DetailedBalance 2 (fun i => ((i : Int) + 1)) (calcQ 2 (fun _ _ => (1 : Int)) (fun _ j => (j : Int) + 1) (fun _ => 1)) := by
  intro i j hi hj
  have hi' : i = 0 ∨ i = 1 := by omega
  have hj' : j = 0 ∨ j = 1 := by omega
  rcases hi' with rfl | rfl <;> rcases hj' with rfl | rfl <;> decide
example : matPoly 2 exQ (fun _ => 1) 3 0 1 = 7 := by decide +kernel

end CogentModel.C11
