import CogentModel.Gen.C06Loop
import CogentModel.Model.SeqFormats
import CogentModel.Proofs.PyText
/-! # C06 — the TRANSLATED parser loops equal the hand models, for all arguments and all line lists

`Gen/C06Loop.lean` is re-generated on every run from the CURRENT source of `parse/fasta.py` (`_faster_parser`,
`_strict_parser`) and `parse/paml.py` (`PamlParser`: state initialisation, loop, code after the loop) by
translator/c06_loop2lean.py (`ast` only).  Each theorem states that the generated recursion and the hand-written model
the round-trip / parser-agreement theorems are about (`fasterGo`, `strictGo`, `pamlGo` of Model/SeqFormats.lean) are the same
function — for every label-character set, every state and every list of lines — so a semantic edit of one of the loops
breaks a proof obligation. -/
namespace CogentModel.C06
open CogentModel.SeqFormats

theorem headIn_eq (line lc : Str) : PyStr.headIn line lc = isLabel lc line := by
  cases line <;> rfl

/-- `_faster_parser` (as translated), from any state -/
theorem gen_faster_go_eq (lc : Str) : ∀ (lines : List Str) (label : Option Str) (seq : List Str),
    Gen.C06Loop.faster_parser_go lc label seq lines = .ok (fasterGo lc label seq lines)
  | [], label, seq => by
    unfold Gen.C06Loop.faster_parser_go fasterGo
    cases h : seq.isEmpty <;> simp [PyStr.ycons, PyStr.joinEmpty, clean, Except.map]
  | line :: rest, label, seq => by
    unfold Gen.C06Loop.faster_parser_go fasterGo
    simp only [headIn_eq, PyStr.truthy, Bool.not_not]
    by_cases h1 : line.isEmpty = true
    · simp only [h1, if_true]; exact gen_faster_go_eq lc rest label seq
    · simp only [h1, Bool.false_eq_true, if_false]
      by_cases h2 : isLabel lc line = true
      · simp only [h2, if_true]
        cases h3 : seq.isEmpty <;>
          simp [PyStr.ycons, PyStr.joinEmpty, clean, Except.map, gen_faster_go_eq lc rest]
      · simp only [h2, Bool.false_eq_true, if_false]
        exact gen_faster_go_eq lc rest label _

/-- **`_faster_parser` as translated = the model `fasterParser`** (which never raises) -/
theorem gen_faster_parser_eq (lc : Str) (lines : List Str) :
    Gen.C06Loop.faster_parser lc lines = .ok (fasterParser lc lines) :=
  gen_faster_go_eq lc lines none []

/-- `_strict_parser` (as translated), from any state -/
theorem gen_strict_go_eq (lc : Str) : ∀ (lines : List Str) (label : Option Str) (seq : List Str),
    Gen.C06Loop.strict_parser_go lc seq label lines = strictGo lc label seq lines
  | [], label, seq => by
    unfold Gen.C06Loop.strict_parser_go strictGo
    cases h : seq.isEmpty <;> cases label <;> simp [PyStr.ycons, PyStr.joinEmpty, clean, Except.map]
  | line :: rest, label, seq => by
    unfold Gen.C06Loop.strict_parser_go strictGo
    have hhash : (PyStr.at0 line == ['#']) = (line.head? = some '#' : Bool) := by
      cases line with
      | nil => rfl
      | cons c cs => rw [Bool.eq_iff_iff]; simp [PyStr.at0]
    simp only [headIn_eq, PyStr.truthy, Bool.not_not, hhash]
    by_cases h1 : (line.isEmpty || (decide (line.head? = some '#') && !lc.contains '#')) = true
    · simp only [h1, if_true]; exact gen_strict_go_eq lc rest label seq
    · simp only [h1, Bool.false_eq_true, if_false]
      by_cases h2 : isLabel lc line = true
      · simp only [h2, if_true]
        cases label <;> cases h3 : seq.isEmpty <;>
          simp [PyStr.ycons, PyStr.joinEmpty, clean, Except.map, gen_strict_go_eq lc rest]
      · simp only [h2, Bool.false_eq_true, if_false]
        exact gen_strict_go_eq lc rest label _

/-- **`_strict_parser` as translated = the model `strictParser`**, errors included -/
theorem gen_strict_parser_eq (lc : Str) (lines : List Str) :
    Gen.C06Loop.strict_parser lc lines = strictParser lc lines :=
  gen_strict_go_eq lc lines none []

/-- the loop of `PamlParser` (as translated), from any state -/
theorem gen_paml_go_eq (ns sl : Int) : ∀ (lines : List Str) (name : Option Str) (cur : List Str) (len n : Nat),
    Gen.C06Loop.paml_parser_go ns sl cur len name n lines = pamlGo ns sl name cur len n lines
  | [], name, cur, len, n => by
    unfold Gen.C06Loop.paml_parser_go pamlGo
    by_cases h : (n : Int) = ns <;> simp [h]
  | line :: rest, name, cur, len, n => by
    unfold Gen.C06Loop.paml_parser_go pamlGo
    simp only [PyStr.truthy, Bool.not_not]
    by_cases h1 : (strip line).isEmpty = true
    · simp only [h1, if_true]; exact gen_paml_go_eq ns sl rest name cur len n
    · simp only [h1, Bool.false_eq_true, if_false]
      cases name with
      | none => exact gen_paml_go_eq ns sl rest _ cur len n
      | some nm =>
        by_cases h2 : (len : Int) + ((strip line).length : Int) = sl
        · simp [h2, PyStr.ycons, PyStr.joinEmpty, Except.map, gen_paml_go_eq ns sl rest]
        · simp [h2, gen_paml_go_eq ns sl rest]

/-- **`PamlParser` as translated (state initialisation, loop, final count check) = the model**: with the header's two
integers `num_seqs`, `seq_len` the translated function is `pamlGo` from the initial state -/
theorem gen_paml_parser_eq (ns sl : Int) (lines : List Str) :
    Gen.C06Loop.paml_parser ns sl lines = pamlGo ns sl none [] 0 0 lines :=
  gen_paml_go_eq ns sl lines none [] 0 0

-- non-vacuity: the translated loops run (a GDE-style label set, an error path, a PAML body with a blank line)
example : Gen.C06Loop.faster_parser ['>'] [">a b".toList, "AC GT".toList, [], "tt".toList, ">c".toList, "G".toList]
    = .ok [("a b".toList, "ACGTtt".toList), ("c".toList, "G".toList)] := by
  -- the literal as a character list first: the kernel would otherwise decode its bytes character by character
  repeat rw [String.toList_ofList]
  decide +kernel
example : Gen.C06Loop.strict_parser ['%', '#'] ["#a".toList, "AC".toList, "%b".toList] = .error .recordError := by decide +kernel
example : Gen.C06Loop.paml_parser 2 3 ["a".toList, "ac".toList, "g".toList, [], "b".toList, "TTT".toList]
    = .ok [("a".toList, "ACG".toList), ("b".toList, "TTT".toList)] := by decide +kernel

end CogentModel.C06
