import CogentModel.Proofs.OptGen
import CogentModel.Model.OptGenClamp
/-! # C16 — the translated start clamp of `Calculator.optimise` equals the hand model `clampStart`

`clampX env`, which the generated `Calculator.optimise` hands to `maximise` (`calc_optimise_eq`), is the translated
pair of statements

    if numpy.allclose(x[low > x], low[low > x]): x[low > x] = low[low > x]
    if numpy.allclose(x[high < x], high[high < x]): x[high < x] = high[high < x]

over the abstract array operations of `Env` (`maskGt`, `maskLt`, `sel`, `put`, `allclose`), whereas
`start_clamp_in_bounds` (Props/C16.lean) is about the hand model `clampStart` on coordinate lists.  For every
environment whose array operations are numpy's boolean-mask operations on vectors (`MaskLaws`: the vector read off an
array by `rep`, the mask by `repM`) the translated clamp is `clampStart`, so the start-clamp theorem holds for the
translated code (`translated_start_clamp_in_bounds`, Props/C16Gen.lean).  `listEnv` is a concrete environment
satisfying the laws, so the hypothesis is not empty; the driver evaluates `clampX` on it against the real
`Calculator.optimise` (stream C), which ties the laws' reading of numpy to numpy. -/
namespace CogentModel.C16Clamp
open CogentModel.Optimiser CogentModel.OptGen CogentModel.OptGenProofs CogentModel.Gen CogentModel.OptGenClamp

variable {X Y R : Type}

/-! ## numpy's boolean-mask operations on vectors (`selL`, `putL`, `allcloseL`: Model/OptGenClamp.lean) -/

/-- the array operations of `env` are numpy's on vectors: `rep` reads a float vector, `repM` a mask -/
structure MaskLaws (env : Env X Y) (rep : X → List R) (repM : X → List Bool) (lt close : R → R → Bool) : Prop where
  /-- `a > b` elementwise -/
  maskGt : ∀ a b, repM (env.maskGt a b) = List.zipWith (fun p q => lt q p) (rep a) (rep b)
  /-- `a < b` elementwise -/
  maskLt : ∀ a b, repM (env.maskLt a b) = List.zipWith (fun p q => lt p q) (rep a) (rep b)
  sel : ∀ a m, rep (env.sel a m) = selL (rep a) (repM m)
  put : ∀ x m v, rep (env.put x m v) = putL (rep x) (repM m) (rep v)
  allclose : ∀ a b, env.allclose a b = allcloseL close (rep a) (rep b)

/-! ## list lemmas

Both clamps are one operation over the coordinates: `p c` says that coordinate `c` lies beyond the bound, `t c` is
that bound; the mask is `v.map p`. -/

def clampBy (p : Coord R → Bool) (t : Coord R → R) (c : Coord R) : Coord R := if p c then { c with x := t c } else c

theorem allclose_sel (close : R → R → Bool) (p : Coord R → Bool) (t : Coord R → R) (v : List (Coord R)) :
    allcloseL close (selL (v.map (·.x)) (v.map p)) (selL (v.map t) (v.map p))
      = v.all (fun c => !(p c) || close c.x (t c)) := by
  induction v with
  | nil => rfl
  | cons c v ih =>
    simp only [List.map_cons, List.all_cons]
    cases h : p c
    · exact ih
    · exact congrArg (close c.x (t c) && ·) ih

theorem put_sel (p : Coord R → Bool) (t : Coord R → R) (v : List (Coord R)) :
    putL (v.map (·.x)) (v.map p) (selL (v.map t) (v.map p)) = (v.map (clampBy p t)).map (·.x) := by
  induction v with
  | nil => rfl
  | cons c v ih =>
    simp only [List.map_cons, clampBy]
    cases h : p c
    · exact congrArg (c.x :: ·) ih
    · exact congrArg (t c :: ·) ih

/-- a clamp, applied or not, only touches `x` -/
theorem map_clamp {α : Type} (g : Coord R → α) (hg : ∀ c r, g { c with x := r } = g c) (b : Prop) [Decidable b]
    (p : Coord R → Bool) (t : Coord R → R) (v : List (Coord R)) :
    (if b then v.map (clampBy p t) else v).map g = v.map g := by
  split
  · rw [List.map_map]
    refine List.map_congr_left fun c _ => ?_
    simp only [Function.comp, clampBy]
    split
    · exact hg c _
    · rfl
  · rfl

theorem allclose_low (lt close : R → R → Bool) (v : List (Coord R)) :
    allcloseL close (selL (v.map (·.x)) (List.zipWith (fun p q => lt q p) (v.map (·.lo)) (v.map (·.x))))
                    (selL (v.map (·.lo)) (List.zipWith (fun p q => lt q p) (v.map (·.lo)) (v.map (·.x))))
      = v.all (fun c => !(lt c.x c.lo) || close c.x c.lo) := by
  rw [List.zipWith_map, List.zipWith_self]
  exact allclose_sel close (fun c => lt c.x c.lo) (·.lo) v

theorem put_low (lt : R → R → Bool) (v : List (Coord R)) :
    putL (v.map (·.x)) (List.zipWith (fun p q => lt q p) (v.map (·.lo)) (v.map (·.x)))
         (selL (v.map (·.lo)) (List.zipWith (fun p q => lt q p) (v.map (·.lo)) (v.map (·.x))))
      = (v.map (fun c => if lt c.x c.lo then { c with x := c.lo } else c)).map (·.x) := by
  rw [List.zipWith_map, List.zipWith_self]
  exact put_sel (fun c => lt c.x c.lo) (·.lo) v

theorem allclose_high (lt close : R → R → Bool) (v : List (Coord R)) :
    allcloseL close (selL (v.map (·.x)) (List.zipWith (fun p q => lt p q) (v.map (·.hi)) (v.map (·.x))))
                    (selL (v.map (·.hi)) (List.zipWith (fun p q => lt p q) (v.map (·.hi)) (v.map (·.x))))
      = v.all (fun c => !(lt c.hi c.x) || close c.x c.hi) := by
  rw [List.zipWith_map, List.zipWith_self]
  exact allclose_sel close (fun c => lt c.hi c.x) (·.hi) v

theorem put_high (lt : R → R → Bool) (v : List (Coord R)) :
    putL (v.map (·.x)) (List.zipWith (fun p q => lt p q) (v.map (·.hi)) (v.map (·.x)))
         (selL (v.map (·.hi)) (List.zipWith (fun p q => lt p q) (v.map (·.hi)) (v.map (·.x))))
      = (v.map (fun c => if lt c.hi c.x then { c with x := c.hi } else c)).map (·.x) := by
  rw [List.zipWith_map, List.zipWith_self]
  exact put_sel (fun c => lt c.hi c.x) (·.hi) v

theorem clampLow_lo (lt close : R → R → Bool) (v : List (Coord R)) : (clampLow lt close v).map (·.lo) = v.map (·.lo) :=
  map_clamp (·.lo) (fun _ _ => rfl) _ (fun c => lt c.x c.lo) (·.lo) v

theorem clampLow_hi (lt close : R → R → Bool) (v : List (Coord R)) : (clampLow lt close v).map (·.hi) = v.map (·.hi) :=
  map_clamp (·.hi) (fun _ _ => rfl) _ (fun c => lt c.x c.lo) (·.lo) v

/-! ## the translated clamp -/

/-- a generated clamp statement with mask `m` and bound `b`, read as a vector -/
theorem mask_step (env : Env X Y) (rep : X → List R) (repM : X → List Bool) (lt close : R → R → Bool)
    (L : MaskLaws env rep repM lt close) (x b m : X) (p : Coord R → Bool) (t : Coord R → R) (v : List (Coord R))
    (hx : rep x = v.map (·.x)) (hb : rep b = v.map t) (hm : repM m = v.map p) :
    rep (if env.allclose (env.sel x m) (env.sel b m) then env.put x m (env.sel b m) else x)
      = (if v.all (fun c => !(p c) || close c.x (t c)) then v.map (clampBy p t) else v).map (·.x) := by
  rw [L.allclose, L.sel, L.sel, hm, hx, hb, allclose_sel]
  split
  · rw [L.put, L.sel, hm, hx, hb, put_sel]
  · exact hx

/-- what the generated statement 3 (`low` clamp) computes, read as a vector, is `clampLow` -/
theorem low_step (env : Env X Y) (rep : X → List R) (repM : X → List Bool) (lt close : R → R → Bool)
    (L : MaskLaws env rep repM lt close) (x low : X) (v : List (Coord R))
    (hx : rep x = v.map (·.x)) (hlo : rep low = v.map (·.lo)) :
    rep (if env.allclose (env.sel x (env.maskGt low x)) (env.sel low (env.maskGt low x))
         then env.put x (env.maskGt low x) (env.sel low (env.maskGt low x)) else x)
      = (clampLow lt close v).map (·.x) :=
  mask_step env rep repM lt close L x low _ (fun c => lt c.x c.lo) (·.lo) v hx hlo
    (by rw [L.maskGt, hx, hlo, List.zipWith_map, List.zipWith_self])

/-- … statement 4 (`high` clamp) is `clampHigh` -/
theorem high_step (env : Env X Y) (rep : X → List R) (repM : X → List Bool) (lt close : R → R → Bool)
    (L : MaskLaws env rep repM lt close) (x high : X) (v : List (Coord R))
    (hx : rep x = v.map (·.x)) (hhi : rep high = v.map (·.hi)) :
    rep (if env.allclose (env.sel x (env.maskLt high x)) (env.sel high (env.maskLt high x))
         then env.put x (env.maskLt high x) (env.sel high (env.maskLt high x)) else x)
      = (clampHigh lt close v).map (·.x) :=
  mask_step env rep repM lt close L x high _ (fun c => lt c.hi c.x) (·.hi) v hx hhi
    (by rw [L.maskLt, hx, hhi, List.zipWith_map, List.zipWith_self])

/-- GENERATED `Calculator.optimise.s3` (source line `if numpy.allclose(x[low > x], low[low > x]): x[low > x] = …`)
is the hand model `clampLow`, for all arguments and states -/
theorem gen_calc_s3_is_clampLow (env : Env X Y) (rep : X → List R) (repM : X → List Bool) (lt close : R → R → Bool)
    (L : MaskLaws env rep repM lt close) (x low : X) (v : List (Coord R))
    (hx : rep x = v.map (·.x)) (hlo : rep low = v.map (·.lo)) (g : GSt X Y) :
    ∃ x', C16Opt.Calculator.optimise.s3 env x low g = (g, .ok x') ∧ rep x' = (clampLow lt close v).map (·.x) :=
  ⟨_, cs3_eq env x low g, low_step env rep repM lt close L x low v hx hlo⟩

/-- GENERATED `Calculator.optimise.s4` is the hand model `clampHigh` -/
theorem gen_calc_s4_is_clampHigh (env : Env X Y) (rep : X → List R) (repM : X → List Bool) (lt close : R → R → Bool)
    (L : MaskLaws env rep repM lt close) (x high : X) (v : List (Coord R))
    (hx : rep x = v.map (·.x)) (hhi : rep high = v.map (·.hi)) (g : GSt X Y) :
    ∃ x', C16Opt.Calculator.optimise.s4 env x high g = (g, .ok x') ∧ rep x' = (clampHigh lt close v).map (·.x) :=
  ⟨_, cs4_eq env x high g, high_step env rep repM lt close L x high v hx hhi⟩

/-- The start vector the TRANSLATED `Calculator.optimise` hands to `maximise` (`clampX`, see `calc_optimise_eq` /
`translated_calculator_optimise_is_model`) is the hand model `clampStart` of the calculator's value array and bounds. -/
theorem gen_clampX_is_clampStart (env : Env X Y) (rep : X → List R) (repM : X → List Bool) (lt close : R → R → Bool)
    (L : MaskLaws env rep repM lt close) (v : List (Coord R))
    (hx : rep env.valueArray = v.map (·.x)) (hlo : rep env.boundsLow = v.map (·.lo))
    (hhi : rep env.boundsHigh = v.map (·.hi)) :
    rep (clampX env) = (clampStart lt close v).map (·.x) := by
  unfold clampX clampStart
  exact high_step env rep repM lt close L _ env.boundsHigh (clampLow lt close v)
    (low_step env rep repM lt close L env.valueArray env.boundsLow v hx hlo)
    (by rw [clampLow_hi, hhi])

/-- the bounds the translated code passes on are still the calculator's (the clamp only touches `x`) -/
theorem clampStart_bounds (lt close : R → R → Bool) (v : List (Coord R)) :
    (clampStart lt close v).map (·.lo) = v.map (·.lo) ∧ (clampStart lt close v).map (·.hi) = v.map (·.hi) := by
  unfold clampStart
  exact ⟨(map_clamp (·.lo) (fun _ _ => rfl) _ (fun c => lt c.hi c.x) (·.hi) _).trans (clampLow_lo lt close v),
    (map_clamp (·.hi) (fun _ _ => rfl) _ (fun c => lt c.hi c.x) (·.hi) _).trans (clampLow_hi lt close v)⟩

/-! ## a concrete environment satisfying the laws (`listEnv`, Model/OptGenClamp.lean; the driver evaluates `clampX` on it) -/

theorem listEnv_laws (lt close : R → R → Bool) (x lo hi : List R) :
    MaskLaws (listEnv lt close x lo hi) Arr.rep Arr.repM lt close :=
  ⟨fun _ _ => rfl, fun _ _ => rfl, fun _ _ => rfl, fun _ _ _ => rfl, fun _ _ => rfl⟩

/-- the link on the concrete environment: what the driver computes with the generated code is `clampStart` -/
theorem gen_clampX_listEnv (lt close : R → R → Bool) (v : List (Coord R)) :
    (clampX (listEnv lt close (v.map (·.x)) (v.map (·.lo)) (v.map (·.hi)))).rep = (clampStart lt close v).map (·.x) :=
  gen_clampX_is_clampStart _ Arr.rep Arr.repM lt close (listEnv_laws lt close _ _ _) v rfl rfl rfl

end CogentModel.C16Clamp
