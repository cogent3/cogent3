import CogentModel.Proofs.PhylipInterleaved
import CogentModel.Props.C06
/-! # C06 — the INTERLEAVED branch of `MinimalPhylipParser` (parse/phylip.py)

`Spec/PhylipInterleaved.lean` describes an interleaved PHYLIP file: header `n L <flag>`, a first block with a line per
sequence (ten-character name column + residues), then any number of later blocks with a residue line per sequence in the
same order; residue parts may be indented and cut into blank-separated groups; blank lines may stand ANYWHERE (between
blocks, inside a block, at the end).  The theorem is for all such files: any number of records, any number of blocks, any
(also unequal) block widths. -/
namespace CogentModel.C06
open CogentModel.Splitlines CogentModel.SeqFormats CogentModel.SeqSpec CogentModel.PhylipSpec

/-- **Interleaved PHYLIP files parse to their records.**  For every non-empty list of records with well-formed names,
every first block `b1` (pieces `c r`) and later blocks `bs` (pieces `cs`), with the pieces of every record adding up to the
header's length `L > 0` and a header whose fields are `n`, `L` and at least one more (the interleave flag):
`MinimalPhylipParser` returns, in file order, the names cut to the documented 9 characters and the concatenated pieces. -/
theorem phylip_interleaved_parse (recs : List Rec) (hne : recs ≠ []) (hn : ∀ r ∈ recs, wfName r.1 = true)
    (c : Rec → Str) (cs : List (Rec → Str)) (b1 : List Str) (bs : List (List Str)) (L : Nat) (hL0 : 0 < L)
    (h1 : BlockOf (fun p l => FirstLineOf p.1 p.2 l) (recs.map (fun r => (r.1, c r))) b1)
    (h2 : LaterBlocks recs cs bs)
    (hL : ∀ r ∈ recs, (((c :: cs).map (fun d => d r)).flatten).length = L)
    (header flag : Str) (more : List Str)
    (hh : splitWs header = natDigits recs.length :: natDigits L :: flag :: more) :
    phylipParser (header :: (b1 ++ bs.flatten))
      = .ok (recs.map (fun r => (truncName r.1, ((c :: cs).map (fun d => d r)).flatten))) := by
  rw [phylipParser_interleaved hh (List.length_pos_iff.mpr hne) hL0, phyIntGo_first hne hn c h1,
    phyIntGo_later hne (fun r => truncName r.1) h2 (fun r => [c r]), phyIntFinish_mk]
  · rw [List.map_map]
    rfl
  · intro e he
    obtain ⟨r, hr, rfl⟩ := List.mem_map.mp he
    exact congrArg Int.ofNat (hL r hr)

/-- **Interleaved round trip**: if the blocks cut every sequence into its pieces, the parse returns exactly the records
(names up to the documented truncation, order, sequences). -/
theorem phylip_interleaved_roundtrip (recs : List Rec) (hne : recs ≠ []) (hn : ∀ r ∈ recs, wfName r.1 = true)
    (c : Rec → Str) (cs : List (Rec → Str)) (b1 : List Str) (bs : List (List Str)) (L : Nat) (hL0 : 0 < L)
    (h1 : BlockOf (fun p l => FirstLineOf p.1 p.2 l) (recs.map (fun r => (r.1, c r))) b1)
    (h2 : LaterBlocks recs cs bs)
    (hcut : ∀ r ∈ recs, ((c :: cs).map (fun d => d r)).flatten = r.2) (hL : ∀ r ∈ recs, r.2.length = L)
    (header flag : Str) (more : List Str)
    (hh : splitWs header = natDigits recs.length :: natDigits L :: flag :: more) :
    phylipParser (header :: (b1 ++ bs.flatten)) = .ok (recs.map (fun r => (truncName r.1, r.2))) := by
  rw [phylip_interleaved_parse recs hne hn c cs b1 bs L hL0 h1 h2 (fun r hr => by rw [hcut r hr]; exact hL r hr)
    header flag more hh]
  congr 1
  apply List.map_congr_left
  intro r hr
  rw [hcut r hr]

-- non-vacuity: 2 records, 3 blocks of widths 2/2/1, a blank line inside the first block, between blocks and at the end,
-- an indented residue line, blank-separated groups, a 10-character name (cut to 9)
private def exRecs : List Rec := [("seq_number".toList, "ACGTA".toList), ("b".toList, "TT-GG".toList)]
private def exFile : List Str :=
  ["2 5 I".toList, "seq_numbe A C".toList, [], "b         TT".toList, "  ".toList, "GT".toList, "    - G".toList, [],
   "A".toList, "G ".toList, []]
example : BlockOf (fun p l => FirstLineOf p.1 p.2 l) (exRecs.map (fun r => (r.1, r.2.take 2)))
    ["seq_numbe A C".toList, [], "b         TT".toList, "  ".toList] := by
  unfold exRecs
  -- the literals as character lists first: the kernel would otherwise decode their bytes character by character
  repeat rw [String.toList_ofList]
  exact .line _ _ ⟨['A', ' ', 'C'], by decide +kernel, by decide +kernel, by decide +kernel, by decide +kernel⟩ <|
    .blank _ (by decide +kernel) <|
    .line _ _ ⟨['T', 'T'], by decide +kernel, by decide +kernel, by decide +kernel, by decide +kernel⟩ <|
    .blank _ (by decide +kernel) .nil
example : LaterBlocks exRecs [fun r => (r.2.drop 2).take 2, fun r => r.2.drop 4]
    [["GT".toList, "    - G".toList, []], ["A".toList, "G ".toList, []]] := by
  unfold exRecs
  repeat rw [String.toList_ofList]
  exact .cons _ _ (.line _ _ ⟨by decide +kernel, by decide +kernel, by decide +kernel⟩ <|
      .line _ _ ⟨by decide +kernel, by decide +kernel, by decide +kernel⟩ <| .blank _ (by decide +kernel) .nil) <|
    .cons _ _ (.line _ _ ⟨by decide +kernel, by decide +kernel, by decide +kernel⟩ <|
      .line _ _ ⟨by decide +kernel, by decide +kernel, by decide +kernel⟩ <| .blank _ (by decide +kernel) .nil) .nil
example : phylipParser exFile = .ok [("seq_numbe".toList, "ACGTA".toList), ("b".toList, "TT-GG".toList)] := by
  unfold exFile
  repeat rw [String.toList_ofList]
  decide +kernel
example : splitWs "2 5 I".toList = [natDigits 2, natDigits 5, "I".toList] := by
  repeat rw [String.toList_ofList]
  decide +kernel

end CogentModel.C06
