import CogentModel.Model.FMapOps
import CogentModel.Proofs.FMapOps
/-! # C08 (span predicates and the remaining `FeatureMap` operations) — set-theoretic meaning

Theorems about `Model/FMapOps.lean` (tied to the python by TRANSLATION: `Props/C08Gen.lean` proves the definitions
generated from the current source equal to this model for all arguments, and by the `spanops` / `fmops` correspondence
streams).  `cover` / `coverSp` is the abstraction of `Props/C08FMap.lean`: map position ↦ parent position or lost. -/
namespace CogentModel.C08
open CogentModel.FMap

/-- `x in span` is membership in the set of positions the span covers (either strand) -/
theorem span_contains_int_iff (s e x : Int) (r : Bool) :
    containsInt s e x = true ↔ some x ∈ coverSp (.span s e r) := containsInt_iff s e x r

example : containsInt 2 5 4 = true ∧ containsInt 2 5 5 = false ∧ some (4 : Int) ∈ coverSp (.span 2 5 true) := by decide

/-- `other in span` (a span argument) implies set inclusion, for every pair of spans … -/
theorem span_contains_span_subset (s e os oe : Int) (r r' : Bool) (h : containsSpan s e os oe = true) (x : Int)
    (hx : some x ∈ coverSp (.span os oe r')) : some x ∈ coverSp (.span s e r) := by
  rw [← containsInt_iff] at hx ⊢
  simp only [containsSpan, containsInt, decide_eq_true_eq] at *
  omega

/-- … and is exactly set inclusion when `other` is not empty -/
theorem span_contains_span_of_subset (s e os oe : Int) (r r' : Bool) (hne : os < oe)
    (h : ∀ x, some x ∈ coverSp (.span os oe r') → some x ∈ coverSp (.span s e r)) : containsSpan s e os oe = true := by
  have h1 := h os; have h2 := h (oe - 1)
  rw [← containsInt_iff, ← containsInt_iff] at h1 h2
  simp only [containsSpan, containsInt, decide_eq_true_eq] at *
  omega

example : containsSpan 2 9 3 9 = true ∧ containsSpan 2 9 3 10 = false := by decide

/-- `overlaps` of two non-empty spans: they share a position -/
theorem span_overlaps_iff (s e os oe : Int) (r r' : Bool) (h1 : s < e) (h2 : os < oe) :
    overlapsSpan s e os oe = true ↔ ∃ x, some x ∈ coverSp (.span s e r) ∧ some x ∈ coverSp (.span os oe r') := by
  simp only [← containsInt_iff, overlapsSpan, containsInt, Bool.or_eq_true, decide_eq_true_eq]
  constructor
  · rintro (h | h)
    · exact ⟨s, by omega, by omega⟩
    · exact ⟨os, by omega, by omega⟩
  · rintro ⟨x, ha, hb⟩; omega

example : overlapsSpan 2 5 4 9 = true ∧ overlapsSpan 2 5 5 9 = false ∧ overlapsSpan 4 9 2 5 = true := by decide

/-- `a + b`: the positions of `a` followed by the positions of `b`, on the same parent; stays inside the parent -/
theorem fm_add_spec (a b c : FM) (h : fmAdd a b = .ok c) :
    cover c = cover a ++ cover b ∧ len c = len a + len b ∧ c.parentLength = a.parentLength ∧
      (Within a → Within b → Within c) := by
  unfold fmAdd at h
  split at h
  · cases h
  · rename_i hpl
    injection h with h; subst h
    refine ⟨by simp [cover_eq_coverL], by simp [len_eq_lenL], rfl, ?_⟩
    intro ha hb sp hsp
    simp only [List.mem_append] at hsp
    rcases hsp with hsp | hsp
    · exact ha sp hsp
    · have := hb sp hsp
      simp only [ne_eq, Decidable.not_not] at hpl
      rw [hpl] at this; exact this

/-- `a + b` is defined when the two maps have the same parent length (otherwise ValueError: the example below) -/
theorem fm_add_total (a b : FM) (h : a.parentLength = b.parentLength) : ∃ c, fmAdd a b = .ok c := by
  unfold fmAdd; rw [if_neg (by simp [h])]; exact ⟨_, rfl⟩

example : fmAdd ⟨[.span 2 5 false], 10⟩ ⟨[.lost 1, .span 7 9 true], 10⟩ = .ok ⟨[.span 2 5 false, .lost 1, .span 7 9 true], 10⟩ ∧
    fmAdd ⟨[], 10⟩ ⟨[], 11⟩ = .error .valueError := by decide

/-- `without_gaps()` keeps exactly the positions that are not lost, in order -/
theorem fm_without_gaps_spec (m : FM) :
    cover (withoutGaps m) = (cover m).filter Option.isSome ∧ (withoutGaps m).parentLength = m.parentLength ∧
      (Within m → Within (withoutGaps m)) := by
  refine ⟨?_, rfl, ?_⟩
  · simp only [cover_eq_coverL, withoutGaps]
    induction m.spans with
    | nil => rfl
    | cons x xs ih =>
      cases x with
      | lost n =>
        have : (FSp.lost n).isLost = true := rfl
        simp only [List.filter, this, Bool.not_true, coverL_cons, List.filter_append, coverSp_filter_lost, List.nil_append]
        exact ih
      | span s e r =>
        have : (FSp.span s e r).isLost = false := rfl
        simp only [List.filter, this, Bool.not_false, coverL_cons, List.filter_append, coverSp_filter_span]
        rw [ih]
  · intro hw sp hsp
    simp only [withoutGaps, List.mem_filter] at hsp
    exact hw sp hsp.1

example : withoutGaps ⟨[.lost 2, .span 2 5 true, .lost 1, .span 7 9 false], 10⟩ = ⟨[.span 2 5 true, .span 7 9 false], 10⟩ := by decide

/-- `m * k` (`k > 0`): the length and the parent are scaled, coordinates stay inside the scaled parent, and parent
position `p` is covered iff `p div k` was: every position becomes the block `[q*k, q*k+k)` -/
theorem fm_mul_spec (m : FM) (k : Int) (hN : NonNeg m) (hk : 0 < k) :
    len (fmMul m k) = len m * k ∧ (fmMul m k).parentLength = m.parentLength * k ∧
    (Within m → Within (fmMul m k)) ∧
    (∀ p, some p ∈ cover (fmMul m k) ↔ ∃ q, some q ∈ cover m ∧ q * k ≤ p ∧ p < q * k + k) := by
  refine ⟨?_, rfl, ?_, ?_⟩
  · simp only [len_eq_lenL, fmMul]; exact lenL_map_mul _ _ hN (Int.le_of_lt hk)
  · intro hw sp hsp
    obtain ⟨x, hx, rfl⟩ := List.mem_map.1 hsp
    exact FSp.mul_within k (Int.le_of_lt hk) (hw x hx)
  · intro p
    simp only [cover, fmMul, List.mem_flatMap, List.mem_map]
    constructor
    · rintro ⟨_, ⟨x, hx, rfl⟩, h⟩
      obtain ⟨q, hq, hq2⟩ := (mem_coverSp_mul (hN x hx) hk p).1 h
      exact ⟨q, ⟨x, hx, hq⟩, hq2⟩
    · rintro ⟨q, ⟨x, hx, hq⟩, hq2⟩
      exact ⟨_, ⟨x, hx, rfl⟩, (mem_coverSp_mul (hN x hx) hk p).2 ⟨q, hq, hq2⟩⟩


example : NonNeg ⟨[.span 2 5 true, .lost 2], 10⟩ ∧ fmMul ⟨[.span 2 5 true, .lost 2], 10⟩ 3 = ⟨[.span 6 15 true, .lost 6], 30⟩ := by decide

/-- `(m * k) / k = m` whenever the division is defined: `_LostSpan.__truediv__` asserts `length % 3 == 0` (a literal 3 in
the source, whatever the scale), so the lost spans of `m * k` must have lengths divisible by 3 -/
theorem fm_truediv_mul (m : FM) (k : Int) (hN : NonNeg m) (hk : 0 < k)
    (h3 : ∀ n, .lost n ∈ m.spans → Int.fmod (n * k) 3 = 0) : fmTruediv (fmMul m k) k = .ok m := by
  simp only [fmTruediv, fmMul, mapSpans_truediv_mul m.spans k hN hk h3]
  rw [Int.fdiv_eq_ediv_of_nonneg _ (Int.le_of_lt hk), Int.mul_ediv_cancel _ (by omega)]

example : fmTruediv (fmMul ⟨[.span 2 5 true, .lost 2], 10⟩ 3) 3 = .ok ⟨[.span 2 5 true, .lost 2], 10⟩ := by decide

/-- the hypothesis on the lost spans is needed: scaling by 2 and back fails on a lost span of length 1 -/
theorem fm_truediv_mul_needs_three :
    fmTruediv (fmMul ⟨[.span 2 5 false, .lost 1], 10⟩ 2) 2 = .error .assertionError := by decide

/-- `span.reversed_relative_to(L)` of a span inside `[0, L]`: never fails, mirrors every position (`p ↦ L-1-p`, in the
same map order: the strand flag is flipped), and stays inside `[0, L]` -/
theorem span_reversed_relative_to_spec (s e L : Int) (r : Bool) (h1 : s ≤ e) (h2 : e ≤ L) :
    ∃ y, (FSp.span s e r).reversedRelativeTo L = .ok y ∧ coverSp y = (coverSp (.span s e r)).map (flip L) ∧
      (0 ≤ s → y.within L) := by
  refine ⟨.span (L - e) (L - e + (e - s)) (!r), ?_, coverSp_mirror L s e r, fun h0 => ?_⟩
  · rw [FSp.reversedRelativeTo, if_pos (by omega), mkSpan_of_le (by omega)]
  · simp only [FSp.within]; omega

example : (FSp.span 2 5 false).reversedRelativeTo 10 = .ok (.span 5 8 true) ∧
    coverSp (.span 5 8 true) = [some 7, some 6, some 5] ∧ coverSp (.span 2 5 false) = [some 2, some 3, some 4] := by decide

/-- `get_covering_span()` of a map inside its parent with at least one real span: the single forward span from the smallest
start to the largest end (both attained), inside the parent, containing every covered position -/
theorem fm_covering_span_spec (m : FM) (hw : Within m) (hne : ∃ s e r, FSp.span s e r ∈ m.spans) :
    ∃ lo hi, coveringSpan m = .ok ⟨[.span lo hi false], m.parentLength⟩ ∧ 0 ≤ lo ∧ lo ≤ hi ∧ hi ≤ m.parentLength ∧
      (∀ p, some p ∈ cover m → lo ≤ p ∧ p < hi) ∧
      (∃ s e r, FSp.span s e r ∈ m.spans ∧ lo = s) ∧ (∃ s e r, FSp.span s e r ∈ m.spans ∧ hi = e) := by
  obtain ⟨lo, hi, h, h3, ⟨s, e, r, hm, h4⟩, ⟨s', e', r', hm', h5⟩⟩ := foldl_seStep_none m.spans hne
  have w1 := hw _ hm; have w2 := hw _ hm'
  simp only [FSp.within] at w1 w2
  have b1 := h3 s e r hm; have b2 := h3 s' e' r' hm'
  refine ⟨lo, hi, ?_, by omega, by omega, by omega, ?_, ⟨s, e, r, hm, h4⟩, ⟨s', e', r', hm', h5⟩⟩
  · simp only [coveringSpan, fmStart, fmEnd, startEnd_eq, h, fromLocations, spansFromLocations, List.getLast?_singleton]
    rw [if_neg (by omega)]
    simp only [spansFromLocs]
    rw [if_neg (by omega), if_neg (by omega), if_neg (by omega)]
  · intro p hp
    rw [cover_eq_coverL, mem_coverL] at hp
    obtain ⟨a, b, rv, hab, hp1, hp2⟩ := hp
    have := h3 a b rv hab
    omega

example : Within ⟨[.span 7 9 true, .lost 2, .span 2 5 false], 10⟩ ∧
    coveringSpan ⟨[.span 7 9 true, .lost 2, .span 2 5 false], 10⟩ = .ok ⟨[.span 2 9 false], 10⟩ := by decide

end CogentModel.C08
