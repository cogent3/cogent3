import CogentModel.Model.PruneFixed
import CogentModel.Proofs.PruneFixed
import CogentModel.Props.C02
import CogentModel.Model.PruneGap
/-! # C02, third part — `fixed_motifs` (`PartialLikelihoodProductDefnFixedMotif`, ancestral reconstruction)

`Model/PruneFixed.lean` mirrors the mask `result[:, motif != fixed_motif] = 0` on the partial likelihoods of ONE internal
node, addressed by its path from the root (`lhFixed`), inside the pruning recursion of `Model/Prune.lean`.  All
statements: every commutative semiring, every rose tree, every node at ANY depth, every profile. -/
namespace CogentModel.C02
open CogentModel.Prune CogentModel.PruneFixed

/-- **The restricted likelihoods of a node sum to the column likelihood** (what `reconstruct_ancestral_seqs` returns per
node and column, summed over the `m` states, is the unrestricted likelihood of the column): for every tree, every path
that ends at an internal node (the root included: `path = []`), every profile. -/
theorem fixed_motif_sum {R α : Type} [CommSemiring R] (m : Nat) (π : Nat → R) (prof : α → Nat → R)
    (path : List Nat) (t : PTree R α) (hv : isInternalAt path t = true) :
    (∑ s ∈ Finset.range m, lhFixed m π prof s path t) = lh m π prof t := by
  simp only [lhFixed, lh, dot_eq]
  rw [Finset.sum_comm]
  refine sum_range_congr fun x hx => ?_
  rw [← Finset.sum_mul]
  congr 1
  have h := plhMod_sum m prof (Finset.range m) (fun s => maskVec m s) id
    (by
      intro v x hx
      simp only [maskVec_get, id]
      rw [Finset.sum_ite_eq (Finset.range m) x]
      simp [hx])
    path t hv x hx
  rw [h, plhMod_id]

/-- a 6-node tree, the inner 3-ary node (path `[1]`) and the root (path `[]`): 240 = the sum of the two
restricted values; they are different from each other and non-zero -/
example : isInternalAt [1] exTree = true := by decide +kernel
example : lhFixed 2 exPi exProf 0 [1] exTree + lhFixed 2 exPi exProf 1 [1] exTree = 240 := by decide +kernel
example : lhFixed 2 exPi exProf 0 [1] exTree = 132 ∧ lhFixed 2 exPi exProf 1 [1] exTree = 108 := by decide +kernel
example : lhFixed 2 exPi exProf 0 [] exTree + lhFixed 2 exPi exProf 1 [] exTree = lh 2 exPi exProf exTree := by decide +kernel
/-- the hypothesis is needed: a path that ends at a tip restricts nothing, the sum is then `m` times the likelihood -/
example : lhFixed 2 exPi exProf 0 [0] exTree + lhFixed 2 exPi exProf 1 [0] exTree = 2 * 240 := by decide +kernel

/-- **An all-compatible leaf is neutral, at any depth.**  Hanging an extra tip below ANY node of the tree (addressed by
`path`; nothing is added when the path does not end at an internal node) whose symbol is compatible with every state
(`?`, `N`, an all-gap sequence: profile `1` on the `m` states) and whose edge matrix has rows summing to one — the
identity in particular — does not change the column likelihood. -/
theorem all_compatible_leaf_neutral {R α : Type} [CommSemiring R] (m : Nat) (π : Nat → R) (prof : α → Nat → R)
    (P0 : Mat R) (a0 : α) (hP : RowStochastic m P0) (h1 : ∀ s, s < m → prof a0 s = 1)
    (path : List Nat) (t : PTree R α) :
    lh m π prof (addLeafAt (.leaf P0 a0) path t) = lh m π prof t := by
  rw [lh_addLeafAt m π prof _ id ?_ path t, plhMod_id, lh]
  intro v y hy
  rw [show (up m prof (.leaf P0 a0)).get y = 1 from upWith_ones m hP h1 y hy, one_mul, id]

/-- the identity (edge matrix of a pin leaf) has rows summing to one -/
theorem idMat_rowStochastic {R : Type} [CommSemiring R] (m : Nat) : RowStochastic m (idMat : Mat R) := by
  intro i hi
  simp only [idMat]
  rw [Finset.sum_ite_eq (Finset.range m) i]
  simp [hi]

/-- leaf `2` of `exTree` is all-compatible in `exProf`; a second copy of it on an identity edge below the inner node
(depth 1) or below the root changes nothing -/
example : lh 2 exPi exProf (addLeafAt (.leaf idMat 2) [1] exTree) = 240 := by decide +kernel
example : (addLeafAt (.leaf idMat 2) [1] exTree).numNodes = 7 := by decide +kernel
example : lh 2 exPi exProf (addLeafAt (.leaf idMat 2) [] exTree) = 240 := by decide +kernel

/-- **The mask of the code is a pin leaf.**  The likelihood with `fixed_motif = s` on the node at `path` equals the
plain pruning likelihood of the tree with one more tip below that node whose edge matrix is the identity and whose
profile is the indicator of `s` (any path; when it does not end at an internal node neither side restricts anything). -/
theorem fixed_motif_eq_pin_leaf {R α : Type} [CommSemiring R] (m : Nat) (π : Nat → R) (prof : α → Nat → R)
    (s : Nat) (a0 : α) (h1 : ∀ x, x < m → prof a0 x = if x = s then 1 else 0)
    (path : List Nat) (t : PTree R α) :
    lhFixed m π prof s path t = lh m π prof (addLeafAt (.leaf idMat a0) path t) := by
  rw [lhFixed, lh_addLeafAt m π prof _ (maskVec m s) ?_ path t]
  intro v y hy
  have : (∑ s' ∈ Finset.range m, (idMat : Mat R) y s' * prof a0 s') = if y = s then 1 else 0 := by
    simp only [idMat, ite_mul, one_mul, zero_mul, Finset.sum_ite_eq, Finset.mem_range, hy, if_true, h1 y hy]
  rw [up_leaf_get, maskVec_get, this, ite_mul, one_mul, zero_mul]

/-- … hence, by `prune_eq_bruteForce`, the restricted likelihood is the first-principles sum over ALL labelings of the
tree with the pin leaf (the identity edge kills every labeling in which the node's state is not `s`) -/
theorem fixed_motif_eq_bruteForce {R α : Type} [CommSemiring R] (m : Nat) (π : Nat → R) (prof : α → Nat → R)
    (s : Nat) (a0 : α) (h1 : ∀ x, x < m → prof a0 x = if x = s then 1 else 0)
    (path : List Nat) (t : PTree R α) :
    lhFixed m π prof s path t = bruteForce (fun _ _ => true) m π prof (addLeafAt (.leaf idMat a0) path t) := by
  rw [fixed_motif_eq_pin_leaf m π prof s a0 h1 path t, prune_eq_bruteForce]

/-- leaf name `7` does not occur in `exTree`; give it the indicator of state 1 -/
example : lhFixed 2 exPi (fun a x => if a = 7 then (if x = 1 then 1 else 0) else exProf a x) 1 [1] exTree
    = lh 2 exPi (fun a x => if a = 7 then (if x = 1 then 1 else 0) else exProf a x) (addLeafAt (.leaf idMat 7) [1] exTree) := by
  decide +kernel
example : lh 2 exPi (fun a x => if a = 7 then (if x = 1 then 1 else 0) else exProf a x) (addLeafAt (.leaf idMat 7) [1] exTree) = 108 := by
  decide +kernel

/-! ## the extra all-gap column (count 0) every node appends to its unique columns -/

/-- **The gap row is weightless.**  `get_log_sum_across_sites` over the arrays of a real node — `_indexed` output plus the
appended gap row with count `0` — is the plain sum over ALL alignment columns, whatever the gap row's key and whatever
likelihood `g` the kernel computes for it (any `g`, so `log` stays uninterpreted). -/
theorem gap_column_weightless {κ S : Type} [DecidableEq κ] [AddCommMonoid S] (g : κ → S) (gap : κ) (cols : List κ) :
    lnLCompressedGap g gap cols = (cols.map g).sum := by
  unfold lnLCompressedGap indexedGap
  simp only
  rw [wls_append g gap 0 _ _ (indexed_len cols), zero_nsmul, add_zero]
  exact compress_sum g cols

/-- **No column points at the gap row**: `likelihoods[self.index]` over the extended table gives every alignment column
its own pattern's value; the index array is the one `_indexed` produced and all its entries are below the gap row's position. -/
theorem gap_column_full_length {κ S : Type} [DecidableEq κ] [Zero S] (g : κ → S) (gap : κ) (cols : List κ) :
    fullLengthGap g gap cols = cols.map g
    ∧ (indexedGap gap cols).index = (indexed cols).index
    ∧ (∀ i ∈ (indexedGap gap cols).index, i < (indexedGap gap cols).uniq.length - 1)
    ∧ (indexedGap gap cols).counts.getLast? = some 0 := by
  refine ⟨map_getD_of_lookup (lookup_append (indexed_lookup cols) [gap]) g 0, rfl, ?_, by simp [indexedGap]⟩
  intro i hi
  simpa [indexedGap] using indexed_index_lt cols i hi

/-- three columns, one repeated; the gap row's own "likelihood" (`g 9 = 1000`) never shows up -/
example : (indexedGap 9 [4, 7, 4]).uniq = [4, 7, 9] ∧ (indexedGap 9 [4, 7, 4]).counts = [2, 1, 0]
    ∧ (indexedGap 9 [4, 7, 4]).index = [0, 1, 0] := by decide +kernel
example : lnLCompressedGap (fun k => if k = 9 then 1000 else k + 1) 9 [4, 7, 4] = 5 + 8 + 5 := by decide +kernel
example : fullLengthGap (fun k => if k = 9 then 1000 else k + 1) 9 [4, 7, 4] = [5, 8, 5] := by decide +kernel
example : gapKey [3, 1, 5] = [2, 0, 4] := by decide +kernel

end CogentModel.C02
