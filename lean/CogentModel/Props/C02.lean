import CogentModel.Model.Prune
import CogentModel.Proofs.Prune
import CogentModel.Proofs.PruneLinear
import CogentModel.Proofs.PruneCompress
import CogentModel.Proofs.PruneLabelings
import CogentModel.Proofs.PruneCompressedEq
/-! # C02 — the computed likelihood is the first-principles Felsenstein sum-product

`Model/Prune.lean` is the executable model (the same definitions the native driver runs over
`Rat` on the implementation's float64 inputs); the theorems hold over every commutative
semiring, for every rose tree (any arity), every leaf profile and every matrix family. -/
namespace CogentModel.C02
open CogentModel.Prune

/-- a two-state example used for the non-vacuity checks (over `ℕ`, a commutative semiring) -/
def exP : Mat Nat := fun i j => if i = j then 3 else 1
def exTree : PTree Nat Nat := .node exP [.leaf exP 0, .node exP [.leaf exP 1, .leaf exP 2, .leaf exP 0]]
def exProf : Nat → Nat → Nat := fun a s => if a = 2 then 1 else if a % 2 = s then 1 else 0
def exPi : Nat → Nat := fun s => s + 1

/-- **Pruning = definition, with the enumeration restricted** to leaf states the profile does not rule out (`keep a s = false`
only where `prof a s = 0`; what the driver evaluates: labelings of the internal nodes × compatible leaf states): for every
tree the column likelihood computed by the pruning recursion equals the sum over the labelings that are kept of
`π(root state) · ∏_edges P_e[parent state, child state] · ∏_leaves profile`. -/
theorem prune_eq_bruteForce_support {R α : Type} [CommSemiring R] (keep : α → Nat → Bool) (m : Nat)
    (π : Nat → R) (prof : α → Nat → R) (hk : ∀ a s, keep a s = false → prof a s = 0) (t : PTree R α) :
    lh m π prof t = bruteForce keep m π prof t := by
  rw [lh_eq, bruteForce, labelings, sum_map_flatMap, list_range_sum]
  refine Finset.sum_congr rfl fun s _ => ?_
  rw [plh_eq_sum_labelings keep m prof hk t s, ← List.sum_map_mul_right]
  congr 1
  refine List.map_congr_left fun l hl => ?_
  rw [(labelingsAt_mat_state keep m t s l hl).2]

example : ∀ a s, (fun a s => decide (exProf a s ≠ 0)) a s = false → exProf a s = 0 :=
  fun _ _ h => Decidable.not_not.mp (of_decide_eq_false h)
example : (labelings (fun a s => decide (exProf a s ≠ 0)) 2 exTree).length = 8 := by decide +kernel

/-- **Pruning = definition.** For every tree (polytomies and unary nodes included), the
column likelihood computed by the pruning recursion equals the sum, over all assignments of a
state to every node, of `π(root state) · ∏_edges P_e[parent state, child state] · ∏_leaves profile`. -/
theorem prune_eq_bruteForce {R α : Type} [CommSemiring R] (m : Nat) (π : Nat → R)
    (prof : α → Nat → R) (t : PTree R α) :
    lh m π prof t = bruteForce (fun _ _ => true) m π prof t :=
  prune_eq_bruteForce_support _ m π prof (by intro a s h; cases h) t

example : lh 2 exPi exProf exTree = 240 := by decide +kernel
example : bruteForce (fun _ _ => true) 2 exPi exProf exTree = 240 := by decide +kernel
example : (labelings (fun _ _ => true) 2 exTree).length = 2 ^ 6 := by decide +kernel

/-- **The definition really ranges over all labelings.** With nothing skipped, `labelings m t` contains
exactly the trees of the shape of `t` (same matrices, same leaf names) in which *every* node carries a
state `< m` … -/
theorem labelings_exact {R α : Type} (m : Nat) (t : PTree R α) (l : LTree R α) :
    l ∈ labelings (fun _ _ => true) m t ↔ (l.erase = t ∧ l.allStates (fun x => decide (x < m)) = true) := by
  simp only [labelings, List.mem_flatMap, List.mem_range, mem_labelingsAt, LTree.allStates_eq,
    Bool.and_eq_true, decide_eq_true_eq]
  constructor
  · rintro ⟨s, hs, e1, rfl, e3⟩
    exact ⟨e1, hs, e3⟩
  · rintro ⟨e1, hs, e3⟩
    exact ⟨l.state, hs, e1, rfl, e3⟩

/-- … and there are `m ^ (number of nodes)` of them. -/
theorem labelings_count {R α : Type} (m : Nat) (t : PTree R α) :
    (labelings (fun _ _ => true) m t).length = m ^ t.numNodes := by
  simp only [labelings, List.length_flatMap, length_labelingsAt, List.map_const', List.sum_replicate_nat,
    List.length_range, numNodes_eq, Nat.pow_add, Nat.pow_one, length_labelingsL]

example : exTree.numNodes = 6 := by decide +kernel

/-- **Column compression.** The weighted sum over the unique columns produced by the modelled
`_indexed` (`∑_u counts[u] · g(uniq[u])`, what `get_log_sum_across_sites` computes with
`g = log ∘ lh`) equals the plain sum over all alignment columns, for *any* `g` into any additive
commutative monoid (so `log` needs no interpretation). -/
theorem compress_sum {κ S : Type} [DecidableEq κ] [AddCommMonoid S] (g : κ → S) (cols : List κ) :
    lnLCompressed g cols = lnLPlain g cols := by
  show weightedLogSum g (indexed cols).uniq (indexed cols).counts = (cols.map g).sum
  induction cols using List.reverseRecOn with
  | nil => rfl
  | append_singleton vs k ih =>
    rw [List.map_append, List.sum_append, List.map_singleton, List.sum_singleton, ← ih, indexed_concat]
    by_cases hi : (indexed vs).uniq.idxOf k < (indexed vs).uniq.length
    · rw [indexedStep_old hi]
      exact wls_bump g k _ _ (indexed_len vs) hi
    · rw [indexedStep_new hi]
      exact (wls_append g k 1 _ _ (indexed_len vs)).trans (by rw [one_nsmul])

example : (indexed [3, 1, 3, 3, 2, 1]).uniq = [3, 1, 2] ∧ (indexed [3, 1, 3, 3, 2, 1]).counts = [3, 2, 1]
    ∧ (indexed [3, 1, 3, 3, 2, 1]).index = [0, 1, 0, 0, 2, 1] := by decide +kernel
example : lnLCompressed (fun k : Nat => 10 * k) [3, 1, 3, 3, 2, 1] = 130 := by decide +kernel

/-- **Per-column values.** `likelihoods[self.index]` (get_full_length_likelihoods) gives every alignment
column the value computed for its own pattern. -/
theorem full_length_expand {κ S : Type} [DecidableEq κ] [Zero S] (g : κ → S) (cols : List κ) :
    fullLength g cols = cols.map g :=
  map_getD_of_lookup (indexed_lookup cols) g 0

example : fullLength (fun k : Nat => 10 * k) [3, 1, 3, 3, 2, 1] = [30, 10, 30, 30, 20, 10] := by decide +kernel

/-- **Hierarchical compression is sound.** `Model/PruneCompressed.lean` mirrors how the implementation
really evaluates: every node stores only its unique columns (a leaf its unique motifs, an internal node
the unique tuples of its children's unique-column numbers, `_indexed(zip(*child indexes))`), `inner`
with the edge matrix is applied to whole child tables and products are taken through the index arrays.
For an alignment of `n` columns (every leaf sequence of length `n`) the full-length likelihoods it
returns are, column by column, the plain per-column pruning values. -/
theorem compressed_prune_eq {R α : Type} [CommSemiring R] (m n : Nat) (π : Nat → R) (seqs : α → List Nat)
    (symProf : Nat → Nat → R) (t : PTree R α) (hl : ∀ a ∈ t.leaves, (seqs a).length = n) :
    clhFull m n π seqs symProf t = (List.range n).map fun j => lh m π (colProf seqs symProf j) t :=
  (map_getD_of_lookup (cplh_lookup m n seqs symProf t hl) (dot m · π) 0).trans (List.map_map ..)

example : clhFull 2 4 exPi (fun a => if a = 0 then [0, 1, 0, 0] else [1, 1, 1, 0]) (fun sym s => if sym = s then 1 else 0) exTree
    = [114, 522, 114, 306] := by decide +kernel
example : (cplh 2 4 (fun a => if a = 0 then [0, 1, 0, 0] else [1, 1, 1, 0]) (fun sym s => if sym = s then (1 : Nat) else 0) exTree).index
    = [0, 1, 0, 2] := by decide +kernel

/-- **Ambiguity is a set sum.** If the symbol of leaf `a` (a tip that occurs once in the tree) is
degenerate with compatible state set `K` (profile = indicator of `K`: IUPAC codes, `?`, recoded
gaps), the column likelihood is the sum over `k ∈ K` of the likelihoods of the columns in which the
leaf shows the unambiguous state `k`. -/
theorem ambiguity_is_set_sum {R α : Type} [CommSemiring R] [DecidableEq α] (m : Nat) (π : Nat → R)
    (prof : α → Nat → R) (a : α) (K : Finset Nat) (t : PTree R α) (h : t.leaves.count a = 1) :
    lh m π (Function.update prof a (fun s => if s ∈ K then 1 else 0)) t
      = ∑ k ∈ K, lh m π (Function.update prof a (indicator k)) t := by
  refine lh_linear_of m π a K _ _ (fun k b hb => ?_) (fun s => ?_) t h
  · rw [Function.update_of_ne hb, Function.update_of_ne hb]
  · simp only [Function.update_self, indicator, Finset.sum_ite_eq]

example : exTree.leaves.count 1 = 1 := by decide +kernel

/-- **Likelihoods of all columns sum to one.** If every edge matrix is row-stochastic on the `m`
states and the root probabilities sum to one, then summing the column likelihood over *every*
assignment of a state to each leaf (all `m^k` columns; leaves named distinctly) gives exactly 1.
(`sumAllColumns` is the `k`-fold nested sum; `prof0` — the profile of names that are not leaves — is irrelevant.) -/
theorem column_probs_sum_one {R α : Type} [CommSemiring R] [DecidableEq α] (m : Nat) (π : Nat → R)
    (t : PTree R α) (hnd : t.leaves.Nodup) (hP : ∀ P ∈ t.edgeMats, RowStochastic m P)
    (hπ : ∑ s ∈ Finset.range m, π s = 1) (prof0 : α → Nat → R) :
    sumAllColumns m (fun p => lh m π p t) t.leaves prof0 = 1 := by
  rw [sumAllColumns_lh m π t t.leaves hnd (fun a ha => List.count_eq_one_of_mem hnd ha)]
  exact lh_ones m π _ t hP (fun a ha => by simp [ha]) hπ

/-- a stochastic example over `ℕ`: `ℕ`-valued matrices cannot be stochastic unless they are permutations, so the
example uses the swap matrix -/
def exSwap : Mat Nat := fun i j => if i + j = 1 then 1 else 0
def exTree2 : PTree Nat Nat := .node exSwap [.leaf exSwap 0, .node exSwap [.leaf exSwap 1, .leaf exSwap 2]]
example : exTree2.leaves.Nodup := by decide +kernel
example : ∀ P ∈ exTree2.edgeMats, RowStochastic 2 P := by
  intro P hP
  rw [List.eq_of_mem_replicate (show P ∈ List.replicate 4 exSwap from hP)]
  intro i hi
  match i, hi with
  | 0, _ => decide
  | 1, _ => decide
example : sumAllColumns 2 (fun p => lh 2 (fun s => if s = 0 then 1 else 0) p exTree2) exTree2.leaves (fun _ _ => 0) = 1 := by
  decide +kernel

/-- **Bin mixture.** With more than one rate bin the modelled column likelihood
(`BinnedSiteDistribution.get_weighted_sum_lh`) is the `bprobs`-weighted sum of the per-bin
first-principles likelihoods (each bin has its own edge matrices and root distribution). -/
theorem bins_mixture {R α : Type} [CommSemiring R] (m : Nat) (bprobs : List R)
    (bins : List ((Nat → R) × PTree R α)) (prof : α → Nat → R) :
    lhBins m bprobs bins prof
      = ((List.zip bprobs bins).map fun p => p.1 * bruteForce (fun _ _ => true) m p.2.1 prof p.2.2).sum := by
  rw [lhBins, weightedSum_eq, List.zip_map_right, List.map_map]
  congr 1
  refine List.map_congr_left fun p _ => ?_
  simp [Prod.map, prune_eq_bruteForce]

/-- with a single bin no mixture is applied (the branch `len(bin_names) > 1` of the implementation) -/
theorem lhColumn_single {R α : Type} [CommSemiring R] (m : Nat) (bprobs : List R) (π : Nat → R)
    (t : PTree R α) (prof : α → Nat → R) :
    lhColumn m bprobs [(π, t)] prof = bruteForce (fun _ _ => true) m π prof t := by
  rw [← prune_eq_bruteForce]; rfl

example : lhBins 2 [1, 2] [(exPi, exTree), (exPi, exTree2)] exProf = 240 + 2 * lh 2 exPi exProf exTree2 := by decide +kernel

/-! ## The pieces above chained into the sentence of the property -/

/-- **Reported log-likelihood = defining sum (one bin).** What the implementation reports — compress the
columns with `_indexed`, evaluate the pruning recursion on the unique columns, weight `log` of each by its
count — equals the sum over *all* alignment columns of `log` of the sum over all labelings, for every
function `logf` (so nothing about `log` is assumed). -/
theorem lnL_eq_definition {R α κ S : Type} [CommSemiring R] [DecidableEq κ] [AddCommMonoid S]
    (logf : R → S) (m : Nat) (π : Nat → R) (prof : κ → α → Nat → R) (t : PTree R α) (cols : List κ) :
    lnLCompressed (fun c => logf (lh m π (prof c) t)) cols
      = (cols.map fun c => logf (bruteForce (fun _ _ => true) m π (prof c) t)).sum := by
  rw [compress_sum]
  simp only [lnLPlain, prune_eq_bruteForce]

/-- the same with rate bins: the column likelihood inside `log` is the `bprobs`-weighted mixture -/
theorem lnL_bins_eq_definition {R α κ S : Type} [CommSemiring R] [DecidableEq κ] [AddCommMonoid S]
    (logf : R → S) (m : Nat) (bprobs : List R) (bins : List ((Nat → R) × PTree R α))
    (prof : κ → α → Nat → R) (cols : List κ) :
    lnLCompressed (fun c => logf (lhBins m bprobs bins (prof c))) cols
      = (cols.map fun c => logf
          ((List.zip bprobs bins).map fun p => p.1 * bruteForce (fun _ _ => true) m p.2.1 (prof c) p.2.2).sum).sum := by
  rw [compress_sum]
  simp only [lnLPlain, bins_mixture]

/-- non-trivial instance: three columns (one repeated) over `exTree`; `logf = (· + 1)` stands in for `log` -/
example : lnLCompressed (fun c : Nat => (lh 2 exPi (fun a s => exProf (a + c) s) exTree) + 1) [0, 1, 0]
    = (bruteForce (fun _ _ => true) 2 exPi (fun a s => exProf a s) exTree + 1)
      + (bruteForce (fun _ _ => true) 2 exPi (fun a s => exProf (a + 1) s) exTree + 1)
      + (bruteForce (fun _ _ => true) 2 exPi (fun a s => exProf a s) exTree + 1) := by decide +kernel

/-- **The hierarchically compressed evaluation returns the defining sums**, column by column
(`compressed_prune_eq` chained with `prune_eq_bruteForce`). -/
theorem compressed_eq_definition {R α : Type} [CommSemiring R] (m n : Nat) (π : Nat → R) (seqs : α → List Nat)
    (symProf : Nat → Nat → R) (t : PTree R α) (hl : ∀ a ∈ t.leaves, (seqs a).length = n) :
    clhFull m n π seqs symProf t
      = (List.range n).map fun j => bruteForce (fun _ _ => true) m π (colProf seqs symProf j) t := by
  rw [compressed_prune_eq m n π seqs symProf t hl]
  simp only [prune_eq_bruteForce]

example : ∀ a ∈ exTree.leaves, ((fun a => if a = 0 then [0, 1, 0, 0] else [1, 1, 1, 0]) a).length = 4 := by decide +kernel
example : bruteForce (fun _ _ => true) 2 exPi
    (colProf (fun a => if a = 0 then [0, 1, 0, 0] else [1, 1, 1, 0]) (fun sym s => if sym = s then 1 else 0) 1) exTree = 522 := by
  decide +kernel

end CogentModel.C02
