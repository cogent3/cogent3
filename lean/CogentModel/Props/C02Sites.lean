import CogentModel.Model.PruneSites
import CogentModel.Proofs.PruneSites
import CogentModel.Proofs.PruneSitesLump
import CogentModel.Props.C02
/-! # C02, second part — what happens to the per-column likelihoods afterwards: several loci, and the
hidden Markov chain over site classes (`sites_independent=False`)

`Model/PruneSites.lean` mirrors `SumDefn` over loci, `PatchSiteDistribution`, `SiteClassTransitionMatrix` and the
loop of `LikelihoodTreeEdge.log_dot_reduce` as written (since fix 6668db777: `dot(state_probs, switch_probs)`).  The statements hold over every commutative semiring
(ring where a subtraction occurs), for every number of states, every matrix and every list of sites. -/
namespace CogentModel.C02
open CogentModel.Prune CogentModel.PruneSites

/-- **Several loci.**  The total of a multi-locus likelihood function (`SumDefn`: `0 + lnL₁ + lnL₂ + …`, every
locus compressed with `_indexed` on its own and evaluated with its own parameters `g`) is the sum over the loci of
the sum over ALL columns of that locus. -/
theorem lnL_loci_eq_definition {κ S : Type} [DecidableEq κ] [AddCommMonoid S] (loci : List ((κ → S) × List κ)) :
    lnLLoci loci = (loci.map fun l => (l.2.map l.1).sum).sum := by
  unfold lnLLoci
  rw [sumDefn_eq]
  congr 1
  refine List.map_congr_left fun l _ => ?_
  obtain ⟨g, cols⟩ := l
  simp only [compress_sum]
  rfl

/-- … with the pruning recursion inside: every locus has its own root distribution, tree (edge matrices) and
columns; the reported value is the sum over loci and columns of `logf` of the sum over all labelings -/
theorem lnL_loci_eq_bruteForce {R α κ S : Type} [CommSemiring R] [DecidableEq κ] [AddCommMonoid S] (logf : R → S) (m : Nat)
    (prof : κ → α → Nat → R) (loci : List (((Nat → R) × PTree R α) × List κ)) :
    lnLLoci (loci.map fun l => ((fun c => logf (lh m l.1.1 (prof c) l.1.2)), l.2))
      = (loci.map fun l => (l.2.map fun c => logf (bruteForce (fun _ _ => true) m l.1.1 (prof c) l.1.2)).sum).sum := by
  rw [lnL_loci_eq_definition, List.map_map]
  congr 1
  refine List.map_congr_left fun l _ => ?_
  simp only [Function.comp, prune_eq_bruteForce]

/-- two loci with different root distributions over `exTree`, one with a repeated column -/
example : lnLLoci ([((exPi, exTree), [0, 1, 0]), ((fun _ => 1, exTree), [1])].map fun l =>
      ((fun c : Nat => lh 2 l.1.1 (fun a s => exProf (a + c) s) l.1.2 + 1), l.2))
    = (240 + 1) + (lh 2 exPi (fun a s => exProf (a + 1) s) exTree + 1) + (240 + 1)
      + (lh 2 (fun _ => 1) (fun a s => exProf (a + 1) s) exTree + 1) := by decide +kernel

/-! ## hidden Markov chain over site classes -/

/-- **The loop of `log_dot_reduce`, for ALL inputs.**  `state_probs = dot(state_probs, switch_probs) * plhs[site]`
iterated over the sites and summed equals the sum over all `k^(n+1)` paths `z₋₁ z₀ … z_{n-1}` of
`init[z₋₁] · Π_t switch_probs[z_{t-1}, z_t] · e_t[z_t]` — the matrix entry used for the move `z_{t-1} → z_t` is
`[z_{t-1}, z_t]`, as `SiteClassTransitionMatrix` defines it. -/
theorem hmm_forward_eq_paths {R : Type} [CommSemiring R] (k : Nat) (M : Mat R) (init : Nat → R) (es : List (Nat → R)) :
    forward k M init es = bruteHmmPre k init M es := by
  rw [forward, forwardGo_sum, bruteHmmPre_eq]

example : (paths 2 2) = [[0, 0], [0, 1], [1, 0], [1, 1]] := by decide +kernel
example : forward 2 (fun i j => i + 2 * j + 1) (fun z => z + 1) [fun z => z + 2, fun _ => 3]
    = bruteHmmPre 2 (fun z => z + 1) (fun i j => i + 2 * j + 1) [fun z => z + 2, fun _ => 3] := by decide +kernel

/-- every path really is enumerated: `k ^ n` paths, all states `< k` -/
theorem hmm_paths_count (k : Nat) : ∀ n, (paths k n).length = k ^ n
  | 0 => rfl
  | n + 1 => by
    simp only [paths, List.length_flatMap, List.length_map, hmm_paths_count k n, List.map_const',
      List.sum_replicate_nat, List.length_range, Nat.pow_succ, Nat.mul_comm]

/-- **HEADLINE: the code as it is computes the published definition.**  For a transition matrix `T`
(`T[i, j]` = probability of `i → j`) with stationary distribution `π` (`Σ_p π_p T[p, z] = π_z`) and at least one site,
the loop of `log_dot_reduce` (`state_probs = dot(state_probs, T) * plhs[site]` from `state_probs = π`, then `sum`)
equals the sum over all class assignments `z₀ … z_{n-1}` of `π[z₀] e₀[z₀] Π_{t≥1} T[z_{t-1}, z_t] e_t[z_t]`.
("transposed" in the name is relative to the loop before fix 6668db777, `forwardOld`; `forward` mirrors the code as it is.) -/
theorem hmm_transposed_forward_eq_definition {R : Type} [CommSemiring R] (k : Nat) (π : Nat → R) (T : Mat R)
    (hst : ∀ z, z < k → (∑ p ∈ Finset.range k, π p * T p z) = π z) (e : Nat → R) (es : List (Nat → R)) :
    forward k T π (e :: es) = bruteHmm k π T (e :: es) := by
  rw [hmm_forward_eq_paths]
  exact pre_eq_brute k π T hst e es

/-- hypothesis satisfiable, statement non-trivial: UNEQUAL classes `(1/4, 3/4)`, switch `1/3`, two sites over `ℚ`:
the stationarity hypothesis holds (it is `switch_matrix_props`), the loop equals the sum over the 4 paths -/
example : ∀ z, z < 2 → (∑ p ∈ Finset.range 2, (fun z => if z = 0 then (1/4 : Rat) else 3/4) p
    * switchMatrix (1/3 : Rat) (fun z => if z = 0 then 1/4 else 3/4) p z) = (fun z => if z = 0 then (1/4 : Rat) else 3/4) z := by
  decide +kernel
example : forward 2 (switchMatrix (1/3 : Rat) fun z => if z = 0 then 1/4 else 3/4) (fun z => if z = 0 then 1/4 else 3/4)
      [fun z => if z = 0 then 1 else 1/4, fun z => if z = 0 then 1/5 else 1]
    = bruteHmm 2 (fun z => if z = 0 then 1/4 else 3/4) (switchMatrix (1/3 : Rat) fun z => if z = 0 then 1/4 else 3/4)
      [fun z => if z = 0 then 1 else 1/4, fun z => if z = 0 then 1/5 else 1] := by
  decide +kernel
/-- … while the pre-fix loop gives another value on the same input -/
example : forwardOld 2 (switchMatrix (1/3 : Rat) fun z => if z = 0 then 1/4 else 3/4) (fun z => if z = 0 then 1/4 else 3/4)
      [fun z => if z = 0 then 1 else 1/4, fun z => if z = 0 then 1/5 else 1]
    ≠ bruteHmm 2 (fun z => if z = 0 then 1/4 else 3/4) (switchMatrix (1/3 : Rat) fun z => if z = 0 then 1/4 else 3/4)
      [fun z => if z = 0 then 1 else 1/4, fun z => if z = 0 then 1/5 else 1] := by
  decide +kernel

/-- **`SiteClassTransitionMatrix`**: rows sum to one, `probs` is stationary, detailed balance holds, and the
matrix is symmetric when (and, by `hmm_old_orientation_counter`, essentially only when) the class probabilities are equal. -/
theorem switch_matrix_props {R : Type} [CommRing R] (k : Nat) (s : R) (p : Nat → R) (hp : (∑ j ∈ Finset.range k, p j) = 1) :
    (∀ i, i < k → (∑ j ∈ Finset.range k, switchMatrix s p i j) = 1)
    ∧ (∀ j, j < k → (∑ i ∈ Finset.range k, p i * switchMatrix s p i j) = p j)
    ∧ (∀ i j, p i * switchMatrix s p i j = p j * switchMatrix s p j i)
    ∧ ((∀ i j, i < k → j < k → p i = p j) → ∀ i j, i < k → j < k → switchMatrix s p i j = switchMatrix s p j i) :=
  ⟨switchMatrix_rows k s p hp, switchMatrix_stationary k s p hp, switchMatrix_balance s p,
    fun hu i j hi hj => switchMatrix_symm_of s p (hu i j hi hj)⟩

/-- **The site-class HMM of the implementation = the published definition, for EVERY class distribution** (of the
pre-fix loop only `hmm_old_forward_eq_definition_partial`, with equal class probabilities, holds): the loop with
`SiteClassTransitionMatrix(switch, probs)` started from `probs`, any `k` classes whose probabilities sum to one, any
switch value, at least one site. -/
theorem hmm_switch_eq_definition {R : Type} [CommRing R] (k : Nat) (s : R) (p : Nat → R)
    (hp : (∑ j ∈ Finset.range k, p j) = 1) (e : Nat → R) (es : List (Nat → R)) :
    forward k (switchMatrix s p) p (e :: es) = bruteHmm k p (switchMatrix s p) (e :: es) :=
  hmm_transposed_forward_eq_definition k p _ (switch_matrix_props k s p hp).2.1 e es

/-- hypotheses satisfiable, statement non-trivial: two UNEQUAL classes `(1/4, 3/4)`, switch `1/3`, three sites over `ℚ` -/
example : forward 2 (switchMatrix (1/3 : Rat) fun z => if z = 0 then 1/4 else 3/4) (fun z => if z = 0 then 1/4 else 3/4)
      [fun z => if z = 0 then 1 else 1/4, fun z => if z = 0 then 1/5 else 1, fun z => if z = 0 then 1/2 else 1/3]
    = bruteHmm 2 (fun z => if z = 0 then 1/4 else 3/4) (switchMatrix (1/3 : Rat) fun z => if z = 0 then 1/4 else 3/4)
      [fun z => if z = 0 then 1 else 1/4, fun z => if z = 0 then 1/5 else 1, fun z => if z = 0 then 1/2 else 1/3] := by
  decide +kernel

/-- **`SiteHmm.__call__` as a whole** (`siteHmm`: patch probabilities from the bin probabilities, the switch matrix,
per-site patch emissions from `get_weighted_sum_lhs`, the loop): when the patch probabilities sum to one and the
alignment has at least one column, the value is the sum over all patch assignments of the published weight. -/
theorem site_hmm_eq_definition {R : Type} [Field R] (bprobs : List R) (switch : R) (lhs : List (List R)) (u : Nat) (index : List Nat)
    (hp : (∑ a ∈ Finset.range (npatch bprobs.length), patchProbs bprobs a) = 1) :
    siteHmm bprobs switch lhs (u :: index)
      = bruteHmm (npatch bprobs.length) (patchProbs bprobs) (switchMatrix switch (patchProbs bprobs))
          (siteEmissions bprobs lhs (u :: index)) := by
  unfold siteHmm
  simp only [siteEmissions, List.map_cons]
  exact hmm_switch_eq_definition _ switch _ hp _ _

example : siteHmm [(1/4 : Rat), 1/4, 1/2] (1/3) [[1, 1/2], [1/3, 1], [1/5, 1/7]] [0, 1, 1]
    = bruteHmm 2 (patchProbs [(1/4 : Rat), 1/4, 1/2]) (switchMatrix (1/3) (patchProbs [(1/4 : Rat), 1/4, 1/2]))
        (siteEmissions [(1/4 : Rat), 1/4, 1/2] [[1, 1/2], [1/3, 1], [1/5, 1/7]] [0, 1, 1]) := by
  decide +kernel

/-! ## bins → patches: the lumping of `PatchSiteDistribution` -/

/-- **Lumping, in general.**  A hidden chain over `nb` bins in which the move `b → c` has probability
`T[patch b, patch c] · cond[c]` (go to the patch of `c`, then draw `c` inside it) gives — for EVERY patch assignment `p`,
matrix `T`, conditional weights `cond`, initial vector and per-bin likelihoods — the same forward value as the chain over the
`k` patches with matrix `T`, the initial vector summed per patch and the patch emission `Σ_{c ∈ a} lh[c] · cond[c]`
(`get_weighted_sum_lhs`). -/
theorem patch_emission_lumping {R : Type} [CommSemiring R] (nb k : Nat) (p : Nat → Nat) (hp : ∀ b, b < nb → p b < k)
    (T : Mat R) (cond ib : Nat → R) (es : List (Nat → R)) :
    forward k T (lumpW nb p ib) (es.map fun lh a => ∑ b ∈ Finset.range nb, if p b = a then lh b * cond b else 0)
      = forward nb (fun b c => T (p b) (p c) * cond c) ib es :=
  forward_lump nb k p hp T cond ib es

/-- **`SiteHmm.__call__` = the forward recursion over the BINS** with the bin-level matrix of the published definition
(`binMatrix`: patch move × conditional bin probability) started from the bin probabilities — every list of bin probabilities
(any number of bins), switch value, per-bin likelihood table and index; no hypothesis. -/
theorem site_hmm_eq_bin_forward {R : Type} [Field R] (bprobs : List R) (switch : R) (lhs : List (List R)) (index : List Nat) :
    siteHmm bprobs switch lhs index
      = forward bprobs.length (binMatrix bprobs switch) (fun b => bprobs.getD b 0) (binEmissions lhs index) :=
  PruneSites.site_hmm_eq_bin_forward bprobs switch lhs index

/-- **The reported site-class HMM likelihood is the published definition at the level of the bins**: the sum over ALL
`nb^n` assignments of a bin to every site of `bprobs[b₀] lh₀[b₀] Π_t binMatrix[b_{t-1}, b_t] lh_t[b_t]`, when the bin
probabilities sum to one, both patches have non-zero probability and the alignment has at least one column. -/
theorem site_hmm_eq_bin_definition {R : Type} [Field R] (bprobs : List R) (switch : R) (lhs : List (List R)) (u : Nat) (index : List Nat)
    (h1 : (∑ b ∈ Finset.range bprobs.length, bprobs.getD b 0) = 1)
    (hpos : ∀ a, a < npatch bprobs.length → patchProbs bprobs a ≠ 0) :
    siteHmm bprobs switch lhs (u :: index)
      = bruteHmm bprobs.length (fun b => bprobs.getD b 0) (binMatrix bprobs switch) (binEmissions lhs (u :: index)) := by
  rw [site_hmm_eq_bin_forward]
  simp only [binEmissions, List.map_cons]
  exact hmm_transposed_forward_eq_definition _ _ _ (fun c _ => binMatrix_stationary bprobs switch h1 hpos c) _ _

/-- three bins `(1/4, 1/4, 1/2)` → patches `(1/4, 3/4)`, switch `1/3`, three sites (two patterns): `27` bin paths -/
example : siteHmm [(1/4 : Rat), 1/4, 1/2] (1/3) [[1, 1/2], [1/3, 1], [1/5, 1/7]] [0, 1, 1]
    = bruteHmm 3 (fun b => [(1/4 : Rat), 1/4, 1/2].getD b 0) (binMatrix [(1/4 : Rat), 1/4, 1/2] (1/3))
        (binEmissions [[1, 1/2], [1/3, 1], [1/5, 1/7]] [0, 1, 1]) := by
  decide +kernel
example : (paths 3 3).length = 27 := by decide +kernel

/-! ### regression note: the orientation of the loop before fix 6668db777 -/

/-- the pre-fix loop `state_probs = dot(switch_probs, state_probs) * plhs[site]` is the present loop run with the
transposed matrix, hence a path sum with the matrix entered as `[z_t, z_{t-1}]` -/
theorem hmm_old_forward_eq_paths {R : Type} [CommSemiring R] (k : Nat) (M : Mat R) (init : Nat → R) (es : List (Nat → R)) :
    forwardOld k M init es = bruteHmmPre k init (transpose M) es := by
  rw [forwardOld_eq, hmm_forward_eq_paths]

/-- **What could be said of the pre-fix loop**: it equals the definition when, in addition, the matrix is symmetric on the
states in use (equal class probabilities).  Without the symmetry hypothesis it is FALSE: `hmm_old_orientation_counter`. -/
theorem hmm_old_forward_eq_definition_partial {R : Type} [CommSemiring R] (k : Nat) (π : Nat → R) (M : Mat R)
    (hsym : ∀ i j, i < k → j < k → M i j = M j i)
    (hst : ∀ z, z < k → (∑ p ∈ Finset.range k, π p * M p z) = π z) (e : Nat → R) (es : List (Nat → R)) :
    forwardOld k M π (e :: es) = bruteHmm k π M (e :: es) := by
  rw [forwardOld_eq, forward_congr k (transpose M) M (fun i j hi hj => hsym j i hj hi)]
  exact hmm_transposed_forward_eq_definition k π M hst e es

/-- two classes `(1/2, 1/2)`, switch `1/3`, two sites over `ℚ`: here both orientations agree -/
example : forwardOld 2 (switchMatrix (1/3 : Rat) fun _ => 1/2) (fun _ => 1/2) [fun z => if z = 0 then 1 else 1/4, fun z => if z = 0 then 1/5 else 1]
    = bruteHmm 2 (fun _ => 1/2) (switchMatrix (1/3 : Rat) fun _ => 1/2) [fun z => if z = 0 then 1 else 1/4, fun z => if z = 0 then 1/5 else 1] := by
  decide +kernel

/-- **Witness of the repaired defect** (regression corpus): class probabilities `(1/4, 3/4)`, `bin_switch = 1` (sites
independent), one site whose likelihood is `1` in both classes.  The definition gives `1` and so does the code as it is;
the pre-fix loop gave `5/4` (`dot(switch_probs, probs) = (5/8, 5/8)` is not even a distribution). -/
theorem hmm_old_orientation_counter :
    forwardOld 2 (switchMatrix (1 : Rat) fun z => if z = 0 then 1/4 else 3/4) (fun z => if z = 0 then 1/4 else 3/4) [fun _ => 1] = 5/4
    ∧ bruteHmm 2 (fun z => if z = 0 then 1/4 else 3/4) (switchMatrix (1 : Rat) fun z => if z = 0 then 1/4 else 3/4) [fun _ => 1] = 1
    ∧ forward 2 (switchMatrix (1 : Rat) fun z => if z = 0 then 1/4 else 3/4) (fun z => if z = 0 then 1/4 else 3/4) [fun _ => 1] = 1 := by
  decide +kernel

end CogentModel.C02
