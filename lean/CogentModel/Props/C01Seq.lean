import CogentModel.Proofs.SeqConv
import CogentModel.Proofs.SeqCoords
import CogentModel.Proofs.C01GenEq
/-! # C01 — string-level property theorems, part 2

Chains that also convert DNA <-> RNA, iteration / length corollaries, `parent_coordinates()` through
chains with an annotation offset, and the `SeqDataView` reading of the string
(models: `Model/SeqConv.lean`, `Model/SeqCoords.lean`). -/
namespace CogentModel.C01
open CogentModel.View

/-! complement / conversion tables used in the examples (the theorems hold for every table) -/
def dnaC (c : Char) : Char :=
  if c = 'A' then 'T' else if c = 'T' then 'A' else if c = 'C' then 'G' else if c = 'G' then 'C' else c
def rnaC (c : Char) : Char :=
  if c = 'A' then 'U' else if c = 'U' then 'A' else if c = 'C' then 'G' else if c = 'G' then 'C' else c
def toR (c : Char) : Char := if c = 't' then 'u' else if c = 'T' then 'U' else c
def toD (c : Char) : Char := if c = 'u' then 't' else if c = 'U' then 'T' else c

/-- **Chains of slice / index / rc / to_rna / to_dna of any depth on a nucleic-acid sequence read
exactly as the same chain on the plain string**, where a negative step and `rc` complement with the
current moltype's table and a conversion only maps the displayed characters through the conversion
table (T<->U). -/
theorem seq_conv_chain_spec (cd cr toR toD : Char → Char) (hd : ∀ x, cd (cd x) = x)
    (hr : ∀ x, cr (cr x) = x) (ops : List SeqConv.COp) (c c' : SeqConv.CSeq) (h : SeqConv.WFc c)
    (hops : ∀ op ∈ ops, SeqConv.COp.ok op) (hw : SeqConv.runOps cd cr toR toD c ops = .ok c') :
    SeqConv.specRun cd cr toR toD (c.rna, SeqConv.cstr cd cr c) ops = some (c'.rna, SeqConv.cstr cd cr c') ∧
    SeqConv.WFc c' :=
  (SeqConv.runOps_spec cd cr toR toD hd hr ops c h hops).1 c' hw

example : (SeqConv.runOps dnaC rnaC toR toD (SeqConv.ofString "ACGGTTA".toList false)
      [.rc, .toRna, .slice (some 5) none (some (-2)), .toDna, .toDna]).toOption.map
      (fun c => (c.rna, SeqConv.cstr dnaC rnaC c)) = some (false, "CGT".toList) ∧
    SeqConv.specRun dnaC rnaC toR toD (false, "ACGGTTA".toList)
      [.rc, .toRna, .slice (some 5) none (some (-2)), .toDna, .toDna] = some (false, "CGT".toList) := by
  decide +kernel

/-- such a chain raises exactly where Python's string indexing raises -/
theorem seq_conv_chain_error_spec (cd cr toR toD : Char → Char) (hd : ∀ x, cd (cd x) = x)
    (hr : ∀ x, cr (cr x) = x) (ops : List SeqConv.COp) (c : SeqConv.CSeq) (e : Err) (h : SeqConv.WFc c)
    (hops : ∀ op ∈ ops, SeqConv.COp.ok op) (hw : SeqConv.runOps cd cr toR toD c ops = .error e) :
    SeqConv.specRun cd cr toR toD (c.rna, SeqConv.cstr cd cr c) ops = none :=
  (SeqConv.runOps_spec cd cr toR toD hd hr ops c h hops).2 e hw

example : SeqConv.runOps dnaC rnaC toR toD (SeqConv.ofString "ACGGTTA".toList false) [.toRna, .rc, .index 7]
      = .error .indexError ∧
    SeqConv.specRun dnaC rnaC toR toD (false, "ACGGTTA".toList) [.toRna, .rc, .index 7] = none := by decide +kernel

/-- `__iter__` after any chain yields the characters of the plain-string chain -/
theorem iter_spec (cd cr toR toD : Char → Char) (hd : ∀ x, cd (cd x) = x)
    (hr : ∀ x, cr (cr x) = x) (ops : List SeqConv.COp) (c c' : SeqConv.CSeq) (h : SeqConv.WFc c)
    (hops : ∀ op ∈ ops, SeqConv.COp.ok op) (hw : SeqConv.runOps cd cr toR toD c ops = .ok c') :
    SeqConv.specRun cd cr toR toD (c.rna, SeqConv.iter cd cr c) ops = some (c'.rna, SeqConv.iter cd cr c') :=
  (seq_conv_chain_spec cd cr toR toD hd hr ops c c' h hops hw).1

example : SeqConv.iter dnaC rnaC (SeqConv.convert dnaC rnaC toR (SeqConv.ofString "ACGT".toList false) true)
    = "ACGU".toList := by decide +kernel

/-- `len(seq)` after any chain is the length of the plain-string chain's result -/
theorem len_spec (cd cr toR toD : Char → Char) (hd : ∀ x, cd (cd x) = x)
    (hr : ∀ x, cr (cr x) = x) (ops : List SeqConv.COp) (c c' : SeqConv.CSeq) (h : SeqConv.WFc c)
    (hops : ∀ op ∈ ops, SeqConv.COp.ok op) (hw : SeqConv.runOps cd cr toR toD c ops = .ok c') :
    ∃ u, SeqConv.specRun cd cr toR toD (c.rna, SeqConv.cstr cd cr c) ops = some (c'.rna, u) ∧
      SeqConv.length c' = (u.length : Int) := by
  obtain ⟨h1, h2⟩ := seq_conv_chain_spec cd cr toR toD hd hr ops c c' h hops hw
  exact ⟨_, h1, SeqWrap.length_eq_str_length _ c'.q h2.1⟩

example : (SeqConv.runOps dnaC rnaC toR toD (SeqConv.ofString "ACGGTTA".toList false)
      [.slice none none (some (-3)), .toRna]).toOption.map SeqConv.length = some 3 := by decide +kernel

/-- **The raw string of a view is the reported parent window `parent[ps:pe]` strided by the step.** -/
theorem value_parent_window (s : SeqWrap.Seq) (h : SeqWrap.WF s) :
    ∃ ps pe : Int, parentStart s.v = .ok (s.v.offset + ps) ∧ parentStop s.v = .ok (s.v.offset + pe) ∧
      0 ≤ ps ∧ ps ≤ pe ∧ pe ≤ s.parent.length ∧
      SeqWrap.value s = PySlice.slice (PySlice.slice s.parent (some ps) (some pe) 1) none none s.v.step :=
  SeqCoords.value_eq_window s h

example : SeqWrap.value { parent := "ACGGTAAC".toList, v := { start := -2, stop := -7, step := -2, offset := 5, seqLen := 8 }, nucleic := true }
    = PySlice.slice (PySlice.slice "ACGGTAAC".toList (some 2) (some 7) 1) none none (-2) := by decide +kernel

section
set_option linter.unusedVariables false  -- `hcomp` and `hops` in the next two theorems

/-- **`parent_coordinates()` after any chain of slices / indexing / rc from a sequence with annotation
offset `o`**: as long as something is displayed, the seqid is unchanged, the coordinates are
`(o + ps, o + pe, strand)` with `0 ≤ ps ≤ pe ≤ len(parent)`, `annotation_offset = o + ps`, and reading
`parent[ps:pe]` (reverse-complemented when `strand = -1`) with stride `|step|` gives exactly `str(seq)`.
(`hcomp` and `hops` are not needed: `SeqCoords.parent_coordinates_chain'` is the statement without them.) -/
theorem parent_coordinates_chain (comp : Char → Char) (hcomp : ∀ x, comp (comp x) = x)
    (t : List Char) (nucleic : Bool) (o : Int) (sid : Option String) (ops : List SeqWrap.SOp)
    (s' : SeqCoords.ASeq) (hops : ∀ op ∈ ops, SeqWrap.SOp.ok nucleic op)
    (hs : SeqCoords.runOps (SeqCoords.ofString t nucleic o sid) ops = .ok s')
    (hne : SeqWrap.str comp s'.q ≠ []) :
    ∃ ps pe : Int,
      SeqCoords.parentCoordinates s' = .ok (sid, o + ps, o + pe, if s'.q.v.step < 0 then -1 else 1) ∧
      SeqCoords.annotationOffset s' = .ok (o + ps) ∧ 0 ≤ ps ∧ ps ≤ pe ∧ pe ≤ t.length ∧
      SeqWrap.str comp s'.q =
        SeqCoords.readSegment comp nucleic t ps pe (if s'.q.v.step < 0 then -1 else 1) (pyabs s'.q.v.step) :=
  SeqCoords.parent_coordinates_chain' comp t nucleic o sid ops s' hs hne

example : (SeqCoords.runOps (SeqCoords.ofString "ACGGTAAC".toList true 7 (some "chr1"))
      [.slice (some 1) none none, .rc, .slice none none (some 2)]).toOption.map
      (fun s => (SeqCoords.parentCoordinates s, SeqWrap.str dnaC s.q))
    = some (.ok (some "chr1", 7 + 1, 7 + 8, -1), "GTCG".toList) ∧
    SeqCoords.readSegment dnaC true "ACGGTAAC".toList 1 8 (-1) 2 = "GTCG".toList := by decide +kernel

/-- **`parent_coordinates()` of `seq[i]` after any chain** of slices / indexing / rc from
`make_seq(t, name=sid, annotation_offset=o)`, for EVERY python int `i`: when `str(seq)` has an `i`-th character `ch`
(negative `i` from the end), `seq[i]` succeeds, displays `[ch]`, and reports `(sid, o + x, o + x + 1, strand of seq)`
with `annotation_offset = o + x`, where `x` is a valid position of the ORIGINAL parent at which it holds `ch`
(complemented iff `seq` is a reversed nucleic acid); otherwise `seq[i]` raises `IndexError` and nothing else.
(`hcomp` and `hops` are not needed: `SeqCoords.parent_coordinates_index'` is the statement without them.) -/
theorem parent_coordinates_index (comp : Char → Char) (hcomp : ∀ x, comp (comp x) = x)
    (t : List Char) (nucleic : Bool) (o : Int) (sid : Option String) (ops : List SeqWrap.SOp)
    (s' : SeqCoords.ASeq) (i : Int) (hops : ∀ op ∈ ops, SeqWrap.SOp.ok nucleic op)
    (hs : SeqCoords.runOps (SeqCoords.ofString t nucleic o sid) ops = .ok s') :
    (∀ ch, PySlice.index (SeqWrap.str comp s'.q) i = some ch →
      ∃ s'' x, SeqCoords.step1 s' (.index i) = .ok s'' ∧ SeqWrap.str comp s''.q = [ch] ∧
        SeqCoords.parentCoordinates s'' = .ok (sid, o + x, o + x + 1, if s'.q.v.step < 0 then -1 else 1) ∧
        SeqCoords.annotationOffset s'' = .ok (o + x) ∧ 0 ≤ x ∧ x < t.length ∧
        ch = (if s'.q.v.step < 0 ∧ nucleic then comp (t[x.toNat]!) else t[x.toNat]!)) ∧
    (PySlice.index (SeqWrap.str comp s'.q) i = none →
      SeqCoords.step1 s' (.index i) = .error .indexError) :=
  SeqCoords.parent_coordinates_index' comp t nucleic o sid ops s' i hs

-- offset 7, "ACGGTCATTG"[1:9][::3] = "CTT" (parent positions 1, 4, 7); [-1] -> `T` at 7 -> coordinates (14, 15, +)
example : (SeqCoords.runOps (SeqCoords.ofString "ACGGTCATTG".toList true 7 (some "chr1"))
      [.slice (some 1) (some 9) none, .slice none none (some 3), .index (-1)]).toOption.map
      (fun s => (SeqCoords.parentCoordinates s, SeqWrap.str dnaC s.q))
    = some (.ok (some "chr1", 7 + 7, 7 + 7 + 1, 1), "T".toList) := by decide +kernel
-- reversed strided: rc then [::3] = "CTCT" (parent positions 9, 6, 3, 0 complemented); [1] -> position 6, strand -1
example : (SeqCoords.runOps (SeqCoords.ofString "ACGGTCATTG".toList true 7 (some "chr1"))
      [.rc, .slice none none (some 3), .index 1]).toOption.map
      (fun s => (SeqCoords.parentCoordinates s, SeqWrap.str dnaC s.q))
    = some (.ok (some "chr1", 7 + 6, 7 + 6 + 1, -1), "T".toList) ∧
    (SeqCoords.runOps (SeqCoords.ofString "ACGGTCATTG".toList true 7 (some "chr1"))
      [.rc, .slice none none (some 3), .index 4]).toOption = none := by decide +kernel

end

/-- **A `SeqDataView` (sequence held by a new-style collection) with offset 0 reads the same string
as a `SeqView` with the same start/stop/step**, so every string-level theorem transfers. -/
theorem sdv_str_value_eq (data : List Char) (v : View) (h : Inv v) (hl : v.seqLen = data.length)
    (ho : v.offset = 0) :
    SeqCoords.sdvStrValue data v = .ok (PySlice.slice data (some v.start) (some v.stop) v.step) :=
  SeqCoords.sdv_str_value_eq data v h hl ho

example : SeqCoords.sdvStrValue "ACGTACGTAC".toList { start := -3, stop := -10, step := -2, offset := 0, seqLen := 10 }
    = .ok "TCTC".toList := by decide +kernel

/-- With a non-zero offset `SeqDataView.str_value` indexes the stored data with the offset-shifted
`parent_start/parent_stop`: it reads a shifted, truncated window (defect witness, see
`known_findings`). -/
theorem sdv_str_value_offset_counter :
    SeqCoords.sdvStrValue "ACGTACGTAC".toList { start := 0, stop := 10, step := 1, offset := 3, seqLen := 10 }
      = .ok "TACGTAC".toList ∧
    PySlice.slice "ACGTACGTAC".toList (some 0) (some 10) 1 = "ACGTACGTAC".toList :=
  SeqCoords.sdv_offset_counter

example : Inv { start := 0, stop := 10, step := 1, offset := 3, seqLen := 10 } := by decide +kernel

/-! ## translated Sequence-level getters

`Sequence.annotation_offset` and `Sequence.parent_coordinates` of BOTH sequence modules are translated from the current
python source on every run (`translator/py2lean_view.py`, conventions A4/A5: functions of the wrapped view, the seqid
string dropped).  They are the hand model's `SeqCoords.annotationOffset` / `SeqCoords.parentCoordinates` for all
arguments, and the full-strength integer-index theorem holds for the translated `__getitem__` + getters. -/
section translated_sequence_getters
open CogentModel.Gen.C01View

/-- the hand model's `parent_coordinates()` / `annotation_offset` are the translated ones of core/sequence.py
(applied to the wrapped view; the seqid the view carries put back in front, convention A5) -/
theorem gen_old_parentCoordinates (s : SeqCoords.ASeq) :
    SeqCoords.parentCoordinates s = (GenOld.parentCoordinates s.q.v).map (fun r => (s.seqid, r.1, r.2.1, r.2.2)) ∧
    SeqCoords.annotationOffset s = GenOld.annotationOffset s.q.v := by
  unfold SeqCoords.parentCoordinates SeqCoords.annotationOffset GenOld.parentCoordinates GenOld.annotationOffset
  rw [C01GenEq.Old.parentStart_eq, C01GenEq.Old.parentStop_eq]
  refine ⟨?_, rfl⟩
  cases parentStart s.q.v <;> cases parentStop s.q.v <;> rfl

/-- **integer index + translated getters**: for every view satisfying the invariant and every python int `i`, if the
displayed positions have an `i`-th element `x` then the translated `view[i]` succeeds and the translated
`parent_coordinates()` / `annotation_offset` of the result are `(offset + x, offset + x + 1, strand of the view)` /
`offset + x`; otherwise the translated `view[i]` raises `IndexError` -/
theorem gen_old_getitem_int_coords (v : View) (h : Inv v) (i : Int) :
    (∀ x, PySlice.index (elems v) i = some x →
      ∃ w, GenOld.getitemInt v i = .ok w ∧ elems w = [x] ∧
        GenOld.parentCoordinates w = .ok (v.offset + x, v.offset + x + 1, if v.step < 0 then -1 else 1) ∧
        GenOld.annotationOffset w = .ok (v.offset + x)) ∧
    (PySlice.index (elems v) i = none → GenOld.getitemInt v i = .error .indexError) := by
  rw [C01GenEq.Old.getitemInt_eq]
  refine getitemInt_coords _ _ (fun w a b ha hb => ?_) (fun w => ?_) v h i
  · rw [GenOld.parentCoordinates, C01GenEq.Old.parentStart_eq, C01GenEq.Old.parentStop_eq, ha, hb]
  · rw [GenOld.annotationOffset, C01GenEq.Old.parentStart_eq]

example : GenOld.parentCoordinates { start := -7, stop := -8, step := -1, offset := 5, seqLen := 10 } = .ok (5 + 3, 5 + 3 + 1, -1) ∧
    GenOld.annotationOffset { start := 6, stop := 7, step := 1, offset := 3, seqLen := 10 } = .ok (3 + 6) := by decide +kernel

/-- the hand model's `parent_coordinates()` / `annotation_offset` are the translated ones of core/new_sequence.py
(applied to the wrapped view; the seqid the view carries put back in front, convention A5) -/
theorem gen_new_parentCoordinates (s : SeqCoords.ASeq) :
    SeqCoords.parentCoordinates s = (GenNew.parentCoordinates s.q.v).map (fun r => (s.seqid, r.1, r.2.1, r.2.2)) ∧
    SeqCoords.annotationOffset s = GenNew.annotationOffset s.q.v := by
  unfold SeqCoords.parentCoordinates SeqCoords.annotationOffset GenNew.parentCoordinates GenNew.annotationOffset
  rw [C01GenEq.New.parentStart_eq, C01GenEq.New.parentStop_eq]
  refine ⟨?_, rfl⟩
  cases parentStart s.q.v <;> cases parentStop s.q.v <;> rfl

/-- **integer index + translated getters**: for every view satisfying the invariant and every python int `i`, if the
displayed positions have an `i`-th element `x` then the translated `view[i]` succeeds and the translated
`parent_coordinates()` / `annotation_offset` of the result are `(offset + x, offset + x + 1, strand of the view)` /
`offset + x`; otherwise the translated `view[i]` raises `IndexError` -/
theorem gen_new_getitem_int_coords (v : View) (h : Inv v) (i : Int) :
    (∀ x, PySlice.index (elems v) i = some x →
      ∃ w, GenNew.getitemInt v i = .ok w ∧ elems w = [x] ∧
        GenNew.parentCoordinates w = .ok (v.offset + x, v.offset + x + 1, if v.step < 0 then -1 else 1) ∧
        GenNew.annotationOffset w = .ok (v.offset + x)) ∧
    (PySlice.index (elems v) i = none → GenNew.getitemInt v i = .error .indexError) := by
  rw [C01GenEq.New.getitemInt_eq]
  refine getitemInt_coords _ _ (fun w a b ha hb => ?_) (fun w => ?_) v h i
  · rw [GenNew.parentCoordinates, C01GenEq.New.parentStart_eq, C01GenEq.New.parentStop_eq, ha, hb]
  · rw [GenNew.annotationOffset, C01GenEq.New.parentStart_eq]

example : GenNew.parentCoordinates { start := -7, stop := -8, step := -1, offset := 5, seqLen := 10 } = .ok (5 + 3, 5 + 3 + 1, -1) ∧
    GenNew.annotationOffset { start := 6, stop := 7, step := 1, offset := 3, seqLen := 10 } = .ok (3 + 6) := by decide +kernel

/-- the hand model's `parent_coordinates()` / `annotation_offset` are the translated ones of core/new_sequence.py
`Sequence` over a new_alignment.py `SeqDataView`
(applied to the wrapped view; the seqid the view carries put back in front, convention A5) -/
theorem gen_data_parentCoordinates (s : SeqCoords.ASeq) :
    SeqCoords.parentCoordinates s = (GenData.parentCoordinates s.q.v).map (fun r => (s.seqid, r.1, r.2.1, r.2.2)) ∧
    SeqCoords.annotationOffset s = GenData.annotationOffset s.q.v :=
  gen_new_parentCoordinates s

/-- **integer index + translated getters**: for every view satisfying the invariant and every python int `i`, if the
displayed positions have an `i`-th element `x` then the translated `view[i]` succeeds and the translated
`parent_coordinates()` / `annotation_offset` of the result are `(offset + x, offset + x + 1, strand of the view)` /
`offset + x`; otherwise the translated `view[i]` raises `IndexError` -/
theorem gen_data_getitem_int_coords (v : View) (h : Inv v) (i : Int) :
    (∀ x, PySlice.index (elems v) i = some x →
      ∃ w, GenData.getitemInt v i = .ok w ∧ elems w = [x] ∧
        GenData.parentCoordinates w = .ok (v.offset + x, v.offset + x + 1, if v.step < 0 then -1 else 1) ∧
        GenData.annotationOffset w = .ok (v.offset + x)) ∧
    (PySlice.index (elems v) i = none → GenData.getitemInt v i = .error .indexError) := by
  rw [C01GenEq.Data.getitemInt_eq]
  refine getitemInt_coords _ _ (fun w a b ha hb => ?_) (fun w => ?_) v h i
  · rw [GenData.parentCoordinates, C01GenEq.Data.parentStart_eq, C01GenEq.Data.parentStop_eq, ha, hb]
  · rw [GenData.annotationOffset, C01GenEq.Data.parentStart_eq]

example : GenData.parentCoordinates { start := -7, stop := -8, step := -1, offset := 5, seqLen := 10 } = .ok (5 + 3, 5 + 3 + 1, -1) ∧
    GenData.annotationOffset { start := 6, stop := 7, step := 1, offset := 3, seqLen := 10 } = .ok (3 + 6) := by decide +kernel

end translated_sequence_getters

end CogentModel.C01
