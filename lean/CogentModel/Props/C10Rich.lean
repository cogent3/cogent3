/- C10: the integer / decision part of the three view exporters, TRANSLATED on every run (translator/c10_rich2lean.py ->
   Gen/C10Rich.lean), is the hand model used by every theorem of Props/C10.lean. -/
import CogentModel.Gen.C10Rich
import CogentModel.Model.RichDict
namespace CogentModel.C10Rich
open CogentModel CogentModel.View CogentModel.RichDict
open CogentModel.Gen.C10Rich

/-- old `SeqView.to_rich_dict`: the translated truncation bounds are `richDictBounds` (hand model), for every view -/
theorem gen_bounds_old_eq (v : View) : bounds_old v.start v.stop v.step v.seqLen = richDictBounds v := by
  unfold bounds_old is_reversed_old richDictBounds
  by_cases h : v.step < 0 <;> simp [h]

theorem gen_bounds_new_eq (v : View) : bounds_new v.start v.stop v.step v.seqLen = richDictBounds v := by
  unfold bounds_new is_reversed_new richDictBounds
  by_cases h : v.step < 0 <;> simp [h]

theorem gen_bounds_dataview_eq (v : View) : bounds_dataview v.start v.stop v.step v.seqLen = richDictBounds v := by
  unfold bounds_dataview is_reversed_dataview richDictBounds
  by_cases h : v.step < 0 <;> simp [h]

example : bounds_new (-2) (-11) (-3) 10 = (0, 9) := by decide

/-- the hand exporters, restated through the TRANSLATED bounds: `toRich` slices the parent (`self.seq`), `toRichDataView` slices the
    displayed string (`self.str_value`, the defect of finding C10-seqdataview-export-slices-twice) -/
theorem gen_toRich_eq {α} [Inhabited α] (parent : List α) (v : View) :
    toRich parent v =
      { seq := PySlice.slice parent (some (bounds_new v.start v.stop v.step v.seqLen).1) (some (bounds_new v.start v.stop v.step v.seqLen).2) 1,
        step := v.step, offset := none } ∧
    toRich parent v =
      { seq := PySlice.slice parent (some (bounds_old v.start v.stop v.step v.seqLen).1) (some (bounds_old v.start v.stop v.step v.seqLen).2) 1,
        step := v.step, offset := none } := by
  rw [gen_bounds_new_eq, gen_bounds_old_eq]; exact ⟨rfl, rfl⟩

theorem gen_toRichDataView_eq {α} [Inhabited α] (parent : List α) (v : View) :
    (toRichDataView parent v).seq =
      PySlice.slice (realise parent v) (some (bounds_dataview v.start v.stop v.step v.seqLen).1)
        (some (bounds_dataview v.start v.stop v.step v.seqLen).2) 1 := by
  rw [gen_bounds_dataview_eq]; rfl

/-- WHICH string each exporter slices and WHICH init_args it writes (source text, statement order) are what the hand model assumes:
    old/new SeqView slice `self.seq` and write no offset (ViewRich.offset = none; the enclosing Sequence exports it); SeqDataView slices
    `self.str_value` and writes offset = parent_start -/
theorem gen_export_shape :
    sliced_old = "self.seq" ∧ sliced_new = "self.seq" ∧ sliced_dataview = "self.str_value" ∧
    init_args_old = [("step", "self.step"), ("seq", "self.seq[start:stop]")] ∧
    init_args_new = [("step", "self.step"), ("seq", "self.seq[start:stop]"), ("alphabet", "self.alphabet.to_rich_dict()")] ∧
    init_args_dataview = [("step", "self.step"), ("seq", "self.str_value[start:stop]"), ("offset", "int(self.parent_start)"), ("seq_len", "len(self)")] :=
  ⟨rfl, rfl, rfl, rfl, rfl, rfl⟩

end CogentModel.C10Rich
