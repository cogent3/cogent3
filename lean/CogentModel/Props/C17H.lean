import CogentModel.Props.C17
import CogentModel.Proofs.AnnotDbHist
/-! # C17 (histories) — any sequence of add / update / union / subset / copy calls

`Model/AnnotDbHist.lean` runs a history of python calls on a register of dbs (`stepOp`, the machine behind the
`ops` correspondence); `specHistory` is the property's own reading: every db is a plain list of records.
The theorems hold for EVERY history, of any length, over the three db classes in any mixture. -/
namespace CogentModel.C17H
open CogentModel.AnnotDb CogentModel.AnnotDbSpec CogentModel.C17

/-- **Content after any history.**  Start from an empty register and run any list of calls (new db, add_feature,
loaded rows, update with or without `seqids`, union, subset with any query, deepcopy / pickle / write+reload copies,
to_json round trips) that does not raise: the
register holds as many dbs as the record-list spec predicts, and every db is well formed and holds exactly the
multiset of records the spec predicts for it (update from the same connection being the no-op it is). -/
theorem history_content (ops : List Op) (dbs : List Db) (hok : ∀ op ∈ ops, op.ok)
    (hr : runHistory [] ops = .ok dbs) :
    dbs.length = (specHistory [] ops).length ∧
    ∀ (j : Nat) (d : Db), dbs[j]? = some d → d.WF ∧ d.records.Perm ((specHistory [] ops)[j]?.getD []) := by
  have h := history_inv clauses_ok ops [] dbs [] ⟨rfl, by simp⟩ hok hr
  exact ⟨h.1, fun j d hd => ⟨(h.2 j d hd).1, (h.2 j d hd).2.1⟩⟩

/-- **Queries after any history are scans of the predicted content.**  On every db of the final register,
`get_records_matching` / `get_features_matching` return exactly the multiset the linear scan selects from the
record list the spec predicts, and `num_matches` is its length. -/
theorem history_queries_are_scans (ops : List Op) (dbs : List Db) (hok : ∀ op ∈ ops, op.ok)
    (hr : runHistory [] ops = .ok dbs) (j : Nat) (d : Db) (hd : dbs[j]? = some d) (q : Query)
    (hq : (q.allowPartial = false ∨ q.start = none ∨ q.stop = none) ∨ WindowOk q) :
    (getMatching d q).Perm (linearScan ((specHistory [] ops)[j]?.getD []) q) ∧
    numMatches d q = (linearScan ((specHistory [] ops)[j]?.getD []) { q with start := none, stop := none }).length := by
  obtain ⟨_, hp, hlt⟩ := (history_inv clauses_ok ops [] dbs [] ⟨rfl, by simp⟩ hok hr).2 j d hd
  constructor
  · rw [getMatching_eq_select, selectTable_of_winHyp clauses_ok _ q fun r hr => hq.imp id fun hw => ⟨hlt r (hp.mem_iff.mp hr), hw⟩]
    exact hp.filter _
  · rw [num_matches_is_scan_count]
    exact (hp.filter _).length_eq

/-- one more call keeps the correspondence (the step the two theorems above iterate) -/
theorem history_step (dbs dbs' : List Db) (ms : List (List Rec)) (op : Op) (h : Inv dbs ms) (hop : op.ok)
    (hs : stepOp dbs op = .ok dbs') : Inv dbs' (specStep ms op) :=
  step_inv clauses_ok dbs dbs' ms op h hop hs

-- a history over all three classes: loaded gff row, user features, update with seqids, update from itself (no-op),
-- union basic + gff, a window subset with allow_partial, a copy
example :
    let r1 := mkUserRec "s1" "gene" "a" (some "-") none [(2, 5)]
    let r2 := mkUserRec "s2" "cds" "b" none (some "zq") [(12, 15)]
    let ops : List Op := [.new .gff, .addTable 0 "gff" r2, .new .basic, .add 1 r1, .add 1 r2, .update 0 1 (some (.one "s1")),
      .update 0 0 none, .union 1 0, .subset 2 { start := some 4, stop := some 13, allowPartial := true }, .copyJson 3]
    (∀ op ∈ ops, op.ok) ∧
    (match runHistory [] ops with | .ok dbs => dbs.map (·.records) | .error _ => []) =
      [[r2, r1], [r1, r2], [r2, r1, r2, r1], [r2, r1, r2, r1], [r2, r1, r2, r1]] ∧
    specHistory [] ops = [[r2, r1], [r1, r2], [r1, r2, r2, r1], [r1, r2, r2, r1], [r1, r2, r2, r1]] := by
  decide +kernel

-- a refused direction stops the history: a BasicAnnotationDb cannot be updated from a GffAnnotationDb holding rows
example :
    let r2 := mkUserRec "s2" "cds" "b" none none [(12, 15)]
    (match runHistory [] [.new .gff, .addTable 0 "gff" r2, .new .basic, .update 1 0 none] with
      | .error .typeError => true | _ => false) = true := by
  decide +kernel

end CogentModel.C17H
