import CogentModel.Model.AnnotDb
import CogentModel.Spec.AnnotDb
import CogentModel.Proofs.AnnotDb
import CogentModel.Proofs.AnnotDbSpans
import CogentModel.Proofs.GffLoad
import CogentModel.Model.AnnotDbRoundTrip
import CogentModel.Proofs.AnnotDbRoundTrip
/-! # C17 — annotation databases return exactly the matching records

`matchPartial`, `matchWithin`, `matchStartOnly`, `matchStopOnly` are **generated** from the SQL
f-strings of `_matching_conditions` on every run (`Gen/C17Sql.lean`); the first four theorems are
therefore re-checked against the current source. -/
namespace CogentModel.C17
open CogentModel.AnnotDb CogentModel.AnnotDbSpec CogentModel.Gen.C17Sql

/-- The four OR-ed SQL clauses used with `allow_partial=True` select exactly the rows whose
`[start, stop)` overlaps the window `[a, b)` (proper intervals). -/
theorem partial_iff_overlap (s e a b : Int) (hse : s < e) (hab : a < b) :
    matchPartial s e a b = true ↔ overlaps s e a b := by
  unfold matchPartial overlaps
  simp only [Bool.or_eq_true, Bool.and_eq_true, decide_eq_true_eq]
  -- `try`, here and below: whether `simp only` leaves a goal depends on the generated clause text
  try omega

example : matchPartial 3 5 4 9 = true ∧ overlaps 3 5 4 9 := by decide +kernel
example : matchPartial 3 5 5 9 = false ∧ ¬ overlaps 3 5 5 9 := by decide +kernel

/-- The `allow_partial=False` clause selects exactly the rows lying inside the window. -/
theorem within_iff (s e a b : Int) : matchWithin s e a b = true ↔ within s e a b := by
  unfold matchWithin within
  simp only [Bool.or_eq_true, Bool.and_eq_true, decide_eq_true_eq]
  try omega

example : matchWithin 4 9 4 9 = true ∧ matchWithin 3 9 4 9 = false := by decide +kernel

/-- With only one bound given, the clause selects the rows containing that point. -/
theorem point_clause_iff (s e x : Int) :
    (matchStartOnly s e x = true ↔ containsPt s e x) ∧ (matchStopOnly s e x = true ↔ containsPt s e x) := by
  unfold matchStartOnly matchStopOnly containsPt
  simp only [Bool.or_eq_true, Bool.and_eq_true, decide_eq_true_eq]
  constructor <;> first | trivial | omega

example : matchStartOnly 2 5 4 = true ∧ matchStopOnly 2 5 5 = false := by decide +kernel

/-- Degenerate rows (`start = stop`, a zero-length feature): the partial clauses treat the point
as matching the *closed* window `[a, b]`. -/
theorem partial_zero_length (s a b : Int) (hab : a < b) :
    matchPartial s s a b = true ↔ (a ≤ s ∧ s ≤ b) := by
  unfold matchPartial
  simp only [Bool.or_eq_true, Bool.and_eq_true, decide_eq_true_eq]
  try omega

example : matchPartial 9 9 4 9 = true := by decide +kernel

theorem clauses_ok : ClausesOk :=
  ⟨partial_iff_overlap, within_iff, fun s e a => (point_clause_iff s e a).1, fun s e a => (point_clause_iff s e a).2⟩

/-- `get_features_matching` / `get_records_matching`, for every db class (any number of tables),
every subset of the optional arguments and either `allow_partial`, returns exactly the MULTISET of
records that the linear scan with the property's predicate selects (`List.Perm`).

Order is deliberately not claimed.  In the model the two lists are even equal
(`query_is_filter_of` in `Proofs/AnnotDb.lean`: tables in `table_names` order, rows in insertion
order), but that is an artefact of the model: the real `SELECT` has no `ORDER BY`, and once
`make_indexes()` has run sqlite answers column conditions in index order (the correspondence therefore
compares multisets). -/
theorem query_is_filter (db : Db) (q : Query) (hdb : ∀ r ∈ db.records, r.start < r.stop) (hq : WindowOk q) :
    (getMatching db q).Perm (linearScan db.records q) := by
  rw [query_is_filter_of clauses_ok db q hdb hq]

example :
    let r1 := mkUserRec "s1" "gene" "a" (some "-") none [(8, 10), (5, 2)]
    let r2 := mkUserRec "s1" "cds" "a" none none [(12, 15)]
    let db : Db := { kind := .gff, tables := [("gff", [r2]), ("user", [r1, r2])] }
    let q : Query := { seqid := some "s1", name := some "a", start := some 9, stop := some 12, allowPartial := true }
    getMatching db q = [r1] ∧ WindowOk q ∧ ∀ r ∈ db.records, r.start < r.stop := by decide +kernel

/-- `query_is_filter` needs neither `start < stop` on the rows nor a proper window unless both
bounds are given together with `allow_partial=True`: zero-length rows and reversed / empty windows
are included. -/
theorem query_is_filter_nonpartial (db : Db) (q : Query)
    (h : q.allowPartial = false ∨ q.start = none ∨ q.stop = none) :
    (getMatching db q).Perm (linearScan db.records q) := by
  rw [getMatching_eq_select, selectTable_nonpartial clauses_ok _ q h]

-- a zero-length row, a reversed window: outside `query_is_filter`, inside this one
example :
    let z := mkUserRec "s1" "gene" "z" none none [(9, 9)]
    let r := mkUserRec "s1" "gene" "r" none none [(3, 7)]
    let db : Db := { kind := .basic, tables := [("user", [z, r])] }
    let q : Query := { seqid := some "s1", start := some 4, stop := some 9 }
    let q' : Query := { start := some 9, stop := some 4 }
    getMatching db q = [z] ∧ getMatching db q' = [] ∧ ¬ (∀ r ∈ db.records, r.start < r.stop) ∧ ¬ WindowOk q' := by decide +kernel

/-- `num_matches(seqid, biotype, name, strand, attributes)` is the length of the linear scan, for every
subset of its arguments (since 969aa691c `attributes` is the same substring search as in the query methods). -/
theorem num_matches_is_scan_count (db : Db) (q : Query) :
    numMatches db q = (linearScan db.records { q with start := none, stop := none }).length := by
  unfold numMatches linearScan Db.records
  rw [List.filter_flatMap, countMatches_spec]

example :
    let r1 := mkUserRec "s1" "gene" "a" (some "-") none [(2, 5)]
    let r2 := mkUserRec "s2" "gene" "a" none none [(12, 15)]
    let db : Db := { kind := .gff, tables := [("gff", [r2, r1]), ("user", [r1])] }
    numMatches db { seqid := some "s1", name := some "a" } = 2 ∧ numMatches db {} = 3 := by decide +kernel

-- `attributes` is a substring search here too: both records match
example :
    let r1 := mkUserRec "s1" "gene" "a" none (some "k=zq;") [(2, 5)]
    let r2 := mkUserRec "s1" "gene" "b" none (some "zq") [(7, 9)]
    let db : Db := { kind := .basic, tables := [("user", [r1, r2])] }
    numMatches db { attributes := some "zq" } = 2 := by
  decide +kernel

/-- `add_feature` stores spans that denote the same set of positions as the spans given
(whatever their order / orientation). -/
theorem add_feature_positions (seqid biotype name : String) (strand attrs : Option String)
    (spans : List (Int × Int)) (p : Int) :
    covers (mkUserRec seqid biotype name strand attrs spans).spans p ↔ covers spans p :=
  norm_positions spans p

/-- … and its `start`/`stop` columns are the hull of those positions. -/
theorem add_feature_hull (seqid biotype name : String) (strand attrs : Option String)
    (spans : List (Int × Int)) (p : Int) (h : covers spans p) :
    (mkUserRec seqid biotype name strand attrs spans).start ≤ p ∧
      p < (mkUserRec seqid biotype name strand attrs spans).stop :=
  hull_of_covers _ p ((norm_positions spans p).mpr h)

example : (mkUserRec "s" "g" "n" none none [(8, 10), (5, 2)]).spans = [(2, 5), (8, 10)] ∧
    (mkUserRec "s" "g" "n" none none [(8, 10), (5, 2)]).start = 2 ∧
    (mkUserRec "s" "g" "n" none none [(8, 10), (5, 2)]).stop = 10 := by decide +kernel

/-- GFF: a 1-based closed `[first, last]` row becomes a 0-based half-open span over the same residues. -/
theorem gff_coords_positions (first last p1 : Int) (h1 : 1 ≤ first) (h2 : first ≤ last) :
    covers1 first last p1 ↔ (gffCoords first last).1 ≤ p1 - 1 ∧ p1 - 1 < (gffCoords first last).2 :=
  gffCoords_positions first last p1 h1 h2

example : gffCoords 3 5 = (2, 5) := by decide +kernel

/-- GenBank: the stored spans of any location expression (`join`, `complement`, nested) cover the
0-based position `p0` iff one of its 1-based closed segments covers `p0 + 1`. -/
theorem genbank_coords_positions (l : Loc) (hl : ∀ seg ∈ l.flat, seg.1 ≤ seg.2.1) (p0 : Int) :
    covers (gbCoords l) p0 ↔ ∃ seg ∈ l.flat, covers1 seg.1 seg.2.1 (p0 + 1) :=
  gbCoords_positions l hl p0

example : gbCoords (.complement (.join [.seg 10 20, .seg 30 40])) = [(9, 20), (29, 40)] ∧
    gbStrand (.complement (.join [.seg 10 20, .seg 30 40])) = some "-" ∧
    gbStrand (.join [.seg 10 20, .complement (.seg 30 40)]) = none := by decide +kernel

/-- `complement(complement(x))` denotes the same segments and strands as `x`. -/
theorem genbank_complement_involutive (x : Loc) : (Loc.complement (Loc.complement x)).flat = x.flat :=
  flat_complement_complement x

example : (Loc.complement (.join [.seg 1 2, .seg 5 9])).flat = [(5, 9, -1), (1, 2, -1)] := by decide +kernel

/-- `update` keeps every record of `self` and adds exactly the selected records of `other`
(multiset equality), staying a well-formed db of the same class. -/
theorem update_perm (self other : Db) (seqids : Option CondVal) (d : Db)
    (hs : self.WF) (ho : other.WF) (h : update self other seqids = .ok d) :
    d.WF ∧ d.kind = self.kind ∧ d.records.Perm (self.records ++ other.records.filter (seqidCond seqids)) :=
  AnnotDb.update_perm self other seqids d hs ho h

-- `update` with a `seqids` selection, gff <- basic; and the refused direction basic <- gff
example :
    let r1 := mkUserRec "s1" "gene" "a" (some "-") none [(2, 5)]
    let r2 := mkUserRec "s2" "cds" "b" none none [(12, 15)]
    let a : Db := { kind := .gff, tables := [("gff", [r2]), ("user", [r1])] }
    let b : Db := { kind := .basic, tables := [("user", [r2, r1, r2])] }
    a.WF ∧ b.WF ∧
    (match update a b (some (.many ["s2", "s3"])) with | .ok d => d.records == [r2, r1, r2, r2] | .error _ => false) = true ∧
    (match update b a none with | .ok _ => false | .error e => e == .typeError) = true := by
  decide +kernel

/-- `union` preserves the multiset of records of both operands (whenever it succeeds). -/
theorem union_perm (self other d : Db) (hs : self.WF) (ho : other.WF) (h : union self other = .ok d) :
    d.WF ∧ d.records.Perm (self.records ++ other.records) :=
  union_perm_aux self other d hs ho h

example :
    let r1 := mkUserRec "s1" "gene" "a" (some "-") none [(2, 5)]
    let r2 := mkUserRec "s2" "cds" "b" none none [(12, 15)]
    let a : Db := { kind := .basic, tables := [("user", [r1])] }
    let b : Db := { kind := .gff, tables := [("gff", [r2]), ("user", [r2, r1])] }
    a.WF ∧ b.WF ∧ (match union a b with | .ok d => d.records == [r2, r1, r2, r1] | .error _ => false) = true := by
  decide +kernel

/-- `subset(**query)` holds exactly the multiset of records the linear scan selects, for every query
(any subset of column conditions, any window mode, either `allow_partial`) and keeps the db class.
(Multiset, not order: see `query_is_filter`.) -/
theorem subset_filter (db : Db) (q : Query) (hdb : ∀ r ∈ db.records, r.start < r.stop) (hq : WindowOk q) :
    ∃ d, subset db q = .ok d ∧ d.kind = db.kind ∧ d.records.Perm (linearScan db.records q) := by
  obtain ⟨d, h1, h2, h3⟩ := subset_filter_aux db q hdb fun t ht => selectTable_spec clauses_ok t q ht hq
  exact ⟨d, h1, h2, by rw [h3]⟩

example :
    let r1 := mkUserRec "s1" "gene" "a" (some "-") none [(2, 5)]
    let r2 := mkUserRec "s1" "gene" "b" (some "-") none [(12, 15)]
    let db : Db := { kind := .basic, tables := [("user", [r1, r2])] }
    let q : Query := { start := some 0, stop := some 11 }
    (match subset db q with | .ok d => d.records == [r1] | .error _ => false) = true := by
  decide +kernel

/-- … and without side conditions outside the "both bounds + `allow_partial`" mode. -/
theorem subset_filter_nonpartial (db : Db) (q : Query)
    (h : q.allowPartial = false ∨ q.start = none ∨ q.stop = none) :
    ∃ d, subset db q = .ok d ∧ d.kind = db.kind ∧ d.records.Perm (linearScan db.records q) := by
  obtain ⟨d, h1, h2, h3⟩ := subset_select db q
  exact ⟨d, h1, h2, by rw [h3, selectTable_nonpartial clauses_ok _ q h]⟩

example :
    let z := mkUserRec "s1" "gene" "z" none none [(9, 9)]
    let r := mkUserRec "s1" "gene" "r" none none [(3, 7)]
    let db : Db := { kind := .genbank, tables := [("gb", [r]), ("user", [z, r])] }
    (match subset db { stop := some 5 } with | .ok d => d.records == [r, r] | .error _ => false) = true := by
  decide +kernel

/-- Loading a GFF file in one block stores, in order, the `add_records` row of every record that
`merged_gff_records` makes of the rows, nothing else.  (That these are one per ID is `gff_load_names_nodup` /
`gff_load_every_id_stored`.) -/
theorem gff_load_one_block (rows : List GffRow) :
    loadGffBlocks [rows] = (mergeRows rows 0 []).1.map gffRec := by
  simp only [loadGffBlocks, loadBlock, List.foldl_cons, List.foldl_nil, List.contains_nil, Bool.false_eq_true, if_false,
    foldl_const, List.nil_append, Bool.not_false]
  rw [List.filter_eq_self.mpr (fun _ _ => rfl)]

example :
    (loadGffBlocks [[⟨some "c1", "s1", "CDS", "-", "ID=c1", 3, 4⟩, ⟨some "c1", "s1", "CDS", "-", "ID=c1", 8, 10⟩]]).map
      (fun r => (r.name, r.spans, r.start, r.stop)) = [(some "c1", [(2, 4), (7, 10)], 2, 10)] := by decide +kernel

/-- `_db_from_gff` (as it is since 348f9741c) stores the same
records — same order, hence the same multiset — whatever `lines_per_block` is: any way of cutting
the rows into blocks gives what reading them in one block gives.  This covers IDs whose rows fall
into different blocks (`update_record_spans` + popping the already-seen name) and the numbering
of rows without an ID across blocks (`num_fake_ids` threaded through `merged_gff_records`).
Hypothesis: in the merged file no feature lists the same span twice (see the counterexample below). -/
theorem gff_load_block_independent (blocks : List (List GffRow))
    (hnd : ∀ x ∈ (mergeRows blocks.flatten 0 []).1, x.spans.Nodup) :
    loadGffBlocks blocks = loadGffBlocks [blocks.flatten] :=
  (loadGffBlocks_eq_merged blocks hnd).trans (gff_load_one_block _).symm

/-- … in particular the same multiset of records. -/
theorem gff_load_block_independent_perm (blocks : List (List GffRow))
    (hnd : ∀ x ∈ (mergeRows blocks.flatten 0 []).1, x.spans.Nodup) :
    (loadGffBlocks blocks).Perm (loadGffBlocks [blocks.flatten]) := by
  rw [gff_load_block_independent blocks hnd]

-- three blocks: an ID split over blocks 1 and 3, rows without ID in every block
example :
    let c1a : GffRow := ⟨some "c1", "s1", "CDS", "-", "ID=c1", 3, 4⟩
    let c1b : GffRow := ⟨some "c1", "s1", "CDS", "-", "ID=c1", 8, 10⟩
    let e1 : GffRow := ⟨none, "s1", "exon", "-", "Parent=c1", 3, 4⟩
    let e2 : GffRow := ⟨none, "s1", "exon", "-", "Parent=c1", 8, 9⟩
    let e3 : GffRow := ⟨none, "s2", "exon", "+", "", 1, 2⟩
    let blocks := [[c1a, e1], [e2], [e3, c1b]]
    (∀ x ∈ (mergeRows blocks.flatten 0 []).1, x.spans.Nodup) ∧
    (loadGffBlocks blocks).map (fun r => (r.name, r.spans, r.start, r.stop)) =
      [(some "c1", [(2, 4), (7, 10)], 2, 10), (some "unknown-0", [(2, 4)], 2, 4),
       (some "unknown-1", [(7, 9)], 7, 9), (some "unknown-2", [(0, 2)], 0, 2)] := by
  decide +kernel

/-- "One record per ID", which `gff_load_one_block` leaves to `merged_gff_records`: whatever the
blocking, no two stored records share a name … -/
theorem gff_load_names_nodup (blocks : List (List GffRow))
    (hnd : ∀ x ∈ (mergeRows blocks.flatten 0 []).1, x.spans.Nodup) :
    ((loadGffBlocks blocks).map (·.name)).Nodup := by
  rw [loadGffBlocks_eq_merged blocks hnd, mergeRows_nil, names_map_gffRec]
  exact (names_merged_nodup 0 _).map some fun _ _ h e => h (Option.some.inj e)

/-- … and every `ID=` that occurs in the file is the name of a stored record (no ID is lost). -/
theorem gff_load_every_id_stored (blocks : List (List GffRow))
    (hnd : ∀ x ∈ (mergeRows blocks.flatten 0 []).1, x.spans.Nodup)
    (row : GffRow) (i : String) (hrow : row ∈ blocks.flatten) (hi : row.id = some i) :
    some i ∈ (loadGffBlocks blocks).map (·.name) := by
  rw [loadGffBlocks_eq_merged blocks hnd, mergeRows_nil, names_map_gffRec]
  exact List.mem_map_of_mem (mem_names_combine.mpr (.inr (mem_names_singles hi hrow 0)))

-- (the three-block example above satisfies the hypothesis; its names are c1, unknown-0, unknown-1, unknown-2)

/- The hypothesis is needed: when the *same row* of one ID occurs twice, reading both copies in one
   block keeps the span twice, while `_merge_spans` (`numpy.unique`, and the `old == new` shortcut)
   drops the duplicate when the copies are in different blocks.  The correspondence check replays
   this input on the real loader. -/
theorem gff_blocks_duplicate_row_counter :
    (loadGffBlocks [[⟨some "c1", "s1", "CDS", "-", "ID=c1", 3, 5⟩], [⟨some "c1", "s1", "CDS", "-", "ID=c1", 3, 5⟩]]).map (·.spans)
      = [[(2, 5)]] ∧
    (loadGffBlocks [[⟨some "c1", "s1", "CDS", "-", "ID=c1", 3, 5⟩, ⟨some "c1", "s1", "CDS", "-", "ID=c1", 3, 5⟩]]).map (·.spans)
      = [[(2, 5), (2, 5)]] := by
  decide +kernel

/-! ## Serialisation round trips (record-list model `Model/AnnotDbRoundTrip.lean`)

`to_rich_dict` keeps the non-NULL columns of every row; `from_dict` OPENS `init_args["source"]` and INSERTS
the records into it; `__deepcopy__` / pickle REPLACE the new connection's content with the byte image;
`write` + reopening loads the backup.  sqlite's `serialize`/`deserialize`/`backup` are trusted to carry
row lists unchanged; what the theorems are about is the dict encoding of a row and which db the rows end
up in. -/

/-- One row survives `to_rich_dict` → `from_dict` unchanged, whichever of its optional columns are NULL. -/
theorem richdict_row_roundtrip (r : Rec) : richToRec (recToRich r) = r :=
  richToRec_recToRich r

example : richToRec (recToRich (mkUserRec "s1" "gene" "a" none (some "note=zq") [(8, 10), (5, 2)]))
    = mkUserRec "s1" "gene" "a" none (some "note=zq") [(8, 10), (5, 2)] := by decide +kernel

/-- `from_dict(to_rich_dict())` and `deserialise_object(to_json())` of an IN-MEMORY db of any of the
three classes: same class, well formed, same multiset of records. -/
theorem richdict_roundtrip_perm (db : Db) (h : db.WF) :
    (jsonRoundTrip db false).WF ∧ (jsonRoundTrip db false).kind = db.kind ∧
      (jsonRoundTrip db false).records.Perm db.records :=
  jsonRoundTrip_memory_perm db h

theorem to_json_roundtrip_perm (db : Db) (h : db.WF) : (jsonRoundTrip db false).records.Perm db.records :=
  (richdict_roundtrip_perm db h).2.2

example :
    let r1 := mkUserRec "s1" "gene" "a" (some "-") none [(2, 5)]
    let r2 := mkUserRec "s2" "cds" "b" none (some "zq") [(12, 15)]
    let db : Db := { kind := .gff, tables := [("gff", [r2]), ("user", [r1, r2])] }
    db.WF ∧ (jsonRoundTrip db false).records = [r2, r1, r2] := by decide +kernel

/- FULL STATEMENT (not proved): the same for a FILE-BACKED db (`source=<file>`).  False of the mirrored
   model and of the code (open finding C17-json-roundtrip-of-file-backed-db-duplicates): `from_dict`
   re-opens the source file and inserts every record into it again. -/
theorem richdict_roundtrip_file_backed_counter (db : Db) (h : db.WF) :
    (jsonRoundTrip db true).records.Perm (db.records ++ db.records) := by
  unfold jsonRoundTrip
  rw [if_pos rfl, fromRichInto_toRich]
  exact (foldl_addToTable id db.tables db h fun _ hx => h.mem_names hx).2.2

/-- `copy.deepcopy(db)` (and `copy`, which the classes do not define separately): same records, for an
in-memory and for a file-backed source — the byte image replaces what the new connection opened. -/
theorem deepcopy_perm (db : Db) (fileBacked : Bool) :
    (deepcopyDb db fileBacked).kind = db.kind ∧ (deepcopyDb db fileBacked).records.Perm db.records :=
  ⟨rfl, List.Perm.refl _⟩

/-- pickling (`__getstate__` = byte image + source, `__setstate__` = open source, deserialize) is the
same operation. -/
theorem pickle_perm (db : Db) (fileBacked : Bool) : (deepcopyDb db fileBacked).records.Perm db.records :=
  (deepcopy_perm db fileBacked).2

/-- `write(path)` to a new file and `cls(source=path)`: same records. -/
theorem write_load_perm (db : Db) : (writeLoad db).kind = db.kind ∧ (writeLoad db).records.Perm db.records :=
  ⟨rfl, List.Perm.refl _⟩

example :
    let r1 := mkUserRec "s1" "gene" "a" (some "-") none [(2, 5)]
    let db : Db := { kind := .genbank, tables := [("gb", [r1]), ("user", [r1])] }
    (deepcopyDb db true).records = [r1, r1] ∧ (writeLoad db).records = [r1, r1] ∧
      (jsonRoundTrip db true).records = [r1, r1, r1, r1] := by decide +kernel

end CogentModel.C17
