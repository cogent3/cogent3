import CogentModel.Model.UPGMA
import CogentModel.Proofs.UPGMARealise
import CogentModel.Proofs.UPGMALive
/-! # C15 — property theorems, part 3: UPGMA -/
namespace CogentModel.C15
open CogentModel.UPGMA
open CogentModel.NJ (Mat get tab)

/-- Key lemma: in a symmetric matrix satisfying the three-point (ultrametric) condition on the live set `S`,
a globally minimal pair `(i, j)` has identical rows: `d i k = d j k` for every other live `k`.  Hence the
row average taken by `condense_matrix` is exact. -/
theorem upgma_min_pair_rows_equal (S : Nat → Prop) (d : Nat → Nat → Rat) (i j : Nat)
    (hsym : ∀ a b, S a → S b → d a b = d b a) (hu : Ultra S d) (hi : S i) (hj : S j) (hij : i ≠ j)
    (hmin : ∀ a b, S a → S b → a ≠ b → d i j ≤ d a b) (k : Nat) (hk : S k) (hki : k ≠ i) (hkj : k ≠ j) :
    d i k = d j k :=
  min_pair_rows_equal S d i j hsym hu hi hj hij hmin k hk hki hkj

/-- One-step reduction, on the model of `condense_node_order` + `condense_matrix`: if the state realises `D`
(`UInv`: live part of the matrix symmetric and ultrametric, every live node an equal-depth subtree realising
`D` with non-negative branch lengths, different live nodes at matrix distance) and `(i, j)` is a live pair
of globally minimal distance, then the state after merging `i` and `j` realises `D` again — in
particular the reduced matrix is again ultrametric and the new node's branch lengths are non-negative. -/
theorem upgma_reduced_ultrametric (D : Nat → Nat → Rat) (n : Nat) (big : Rat) (m : Mat) (order : List (Option Entry))
    (i j : Nat) (hI : UInv D n m order) (hi : Live order i) (hj : Live order j) (hij : i ≠ j)
    (hmin : ∀ a b, Live order a → Live order b → a ≠ b → get m i j ≤ get m a b) :
    UInv D n (stepWith n big order m (i, j)).m (stepWith n big order m (i, j)).order :=
  stepWith_inv D n big m order i j hI hi hj hij hmin

/-- UPGMA realises every ultrametric, provided each pass selects a live minimal pair (`GoodSel`, see the full
statement below).  `D` symmetric, non-negative, three-point condition on the labels `0..n-1`, `n ≥ 2`:
`upgma` returns a tree whose path distances between tips equal `D` (`UReal`), whose branch lengths are all
non-negative and whose tips are all at the same depth. -/
theorem upgma_realises_ultrametric_partial (D : Nat → Nat → Rat) (n : Nat) (hn : 2 ≤ n) (big : Rat)
    (hDs : ∀ a b, D a b = D b a) (hDn : ∀ a b, 0 ≤ D a b)
    (hDu : ∀ x y z, x < n → y < n → z < n → x ≠ y → y ≠ z → x ≠ z → D x z ≤ max (D x y) (D y z))
    (hg : ∀ t, t < n - 1 → GoodSel n big (iter n big t (init n (tab n D) big))) :
    ∃ t h, upgma n (tab n D) big = some t ∧ UReal D t ∧ NonNeg t ∧ ∀ p ∈ t.depths, p.2 = h := by
  obtain ⟨_, e, he, _, hd, hr, hnn⟩ := upgma_result D n hn big hDs hDn hDu hg
  exact ⟨e.tree, e.height, he, hr, hnn, hd⟩

/-- ultrametric ((0:1,1:1):2,2:3) -/
def exU : Mat := [[0, 2, 6], [2, 0, 6], [6, 6, 0]]

/-- Per-instance certificate: `upgmaCertified n d big` is a computable check (at each of the `n-1` passes the
pair found by `find_smallest_index` is a pair of distinct live clusters at minimal live distance) evaluated by
the driver on every test matrix; whenever it is `true` the model of `upgma` returns an equal-depth tree with
non-negative branch lengths whose path distances are `D`. -/
theorem upgma_realises_ultrametric_checked (D : Nat → Nat → Rat) (n : Nat) (hn : 2 ≤ n) (big : Rat)
    (hDs : ∀ a b, D a b = D b a) (hDn : ∀ a b, 0 ≤ D a b)
    (hDu : ∀ x y z, x < n → y < n → z < n → x ≠ y → y ≠ z → x ≠ z → D x z ≤ max (D x y) (D y z))
    (hc : upgmaCertified n (tab n D) big = true) :
    ∃ t h, upgma n (tab n D) big = some t ∧ UReal D t ∧ NonNeg t ∧ ∀ p ∈ t.depths, p.2 = h :=
  upgma_realises_ultrametric_partial D n hn big hDs hDn hDu
    (allGood_sound n big (n - 1) _ (by simp [init]) hc)

example : upgmaCertified 3 exU 1000000 = true := by decide +kernel

example : upgma 3 exU 1000000 = some (.node (.node (.tip 0) 1 (.tip 1) 1) 2 (.tip 2) 3) := by decide +kernel
example : select 3 1000000 (init 3 exU 1000000).m = ((init 3 exU 1000000).m, (0, 1)) := by decide +kernel

/-! ### the full statement: no hypothesis on the selection, tips = labels

Nothing of the UPGMA part of C15 is left unproved: `upgma_selects_live_minimum` discharges the hypothesis `hg`
of `upgma_realises_ultrametric_partial` (the only side condition is the sentinel bound `D a b < big` for
`a ≠ b`, which the Python states as "large_number ... should be much larger than any value already in the
matrix"; no quantitative `2^n` margin is needed because a diagonal minimum triggers the diagonal reset that
the model mirrors), and `upgma_realises_ultrametric` adds "the tips are exactly the labels". -/

/-- the ultrametric ((0:1,1:1):2,2:3) as a function; `tab 3 exD = exU` -/
def exD (a b : Nat) : Rat := if a = b then 0 else if a + b = 1 then 2 else 6

example : tab 3 exD = exU := by decide +kernel

theorem exD_sym : ∀ a b, exD a b = exD b a := by
  intro a b
  unfold exD
  rw [Nat.add_comm b a]
  by_cases h : a = b
  · subst h; rfl
  · rw [if_neg h, if_neg (Ne.symm h)]

theorem exD_nonneg : ∀ a b, 0 ≤ exD a b := by
  intro a b
  unfold exD
  split
  · decide +kernel
  · split <;> decide +kernel

theorem exD_ultra : ∀ x y z, x < 3 → y < 3 → z < 3 → x ≠ y → y ≠ z → x ≠ z → exD x z ≤ max (exD x y) (exD y z) := by
  intro x y z _ _ _ hxy hyz hxz
  have h6 : ∀ a b, exD a b ≤ 6 := by
    intro a b
    unfold exD
    split
    · decide +kernel
    · split <;> decide +kernel
  -- of the pairs `(x, y)` and `(y, z)` at most one is `{0, 1}`, so the right side is 6
  by_cases h : x + y = 1
  · have : exD y z = 6 := by unfold exD; rw [if_neg hyz, if_neg (by omega)]
    exact le_trans (h6 x z) (this ▸ le_max_right _ _)
  · have : exD x y = 6 := by unfold exD; rw [if_neg hxy, if_neg h]
    exact le_trans (h6 x z) (this ▸ le_max_left _ _)

example : Ultra (fun a => a < 3) (fun a b => if a = b then 0 else if a + b = 1 then 2 else 6) :=
  fun x y z hx hy hz => exD_ultra x y z hx hy hz

theorem exD_big : ∀ a b, a < 3 → b < 3 → a ≠ b → exD a b < 1000000 := by
  intro a b _ _ hab
  unfold exD
  rw [if_neg hab]
  split <;> decide +kernel

/-- Selection correctness of `find_smallest_index` inside `UPGMA_cluster`, for every reached state: if all
off-diagonal input distances are below the sentinel `big` (cogent3: `BIG_NUM = 1e305`), then at each of the
`n - 1` passes the pair selected (first minimum of the flattened array; if that lies on the diagonal, the
diagonal is reset to `big` and the search repeated) is a pair of distinct live clusters whose distance is
minimal among all pairs of distinct live clusters.  No metric assumption on `D` is needed for this part:
rows/columns of merged-away clusters hold exactly `big`, distances between live clusters stay below `big`
(averages of such), and `n - t ≥ 2` clusters are live at pass `t`. -/
theorem upgma_selects_live_minimum (D : Nat → Nat → Rat) (n : Nat) (big : Rat)
    (hbig : ∀ a b, a < n → b < n → a ≠ b → D a b < big) (t : Nat) (ht : t < n - 1) :
    GoodSel n big (iter n big t (init n (tab n D) big)) :=
  (step_linv n big t _ (iter_linv D n big hbig t (by omega)) (by omega)).1

example : ∀ t, t < 3 - 1 → GoodSel 3 1000000 (iter 3 1000000 t (init 3 (tab 3 exD) 1000000)) :=
  fun t ht => upgma_selects_live_minimum exD 3 1000000 exD_big t ht

/-- **UPGMA realises every ultrametric.**  `D` symmetric, non-negative, three-point condition on the labels
`0..n-1`, `n ≥ 2`, and every off-diagonal input distance below the sentinel `big` (cogent3 uses
`BIG_NUM = 1e305`, so this holds for any realistic input): the model of `upgma` returns a tree `t` whose
path distances between tips equal `D` (`UReal`), whose branch lengths are all non-negative, whose tips are all
at the same depth `h`, and whose tips are exactly the labels `0..n-1`, each once. -/
theorem upgma_realises_ultrametric (D : Nat → Nat → Rat) (n : Nat) (hn : 2 ≤ n) (big : Rat)
    (hDs : ∀ a b, D a b = D b a) (hDn : ∀ a b, 0 ≤ D a b)
    (hDu : ∀ x y z, x < n → y < n → z < n → x ≠ y → y ≠ z → x ≠ z → D x z ≤ max (D x y) (D y z))
    (hbig : ∀ a b, a < n → b < n → a ≠ b → D a b < big) :
    ∃ t h, upgma n (tab n D) big = some t ∧ UReal D t ∧ NonNeg t ∧ (∀ p ∈ t.depths, p.2 = h) ∧
      (t.depths.map (·.1)).Perm (List.range n) := by
  obtain ⟨a, e, he, hlast, hd, hr, hnn⟩ := upgma_result D n hn big hDs hDn hDu
    fun t ht => upgma_selects_live_minimum D n big hbig t ht
  have hL := iter_linv D n big hbig (n - 1) (by omega)
  exact ⟨e.tree, e.height, he, hr, hnn, hd,
    tips_of_last n _ a e hL.sinv.len (by have := hL.count; omega) hL.tinv hlast⟩

example : ∃ t h, upgma 3 (tab 3 exD) 1000000 = some t ∧ UReal exD t ∧ NonNeg t ∧ (∀ p ∈ t.depths, p.2 = h) ∧
    (t.depths.map (·.1)).Perm (List.range 3) :=
  upgma_realises_ultrametric exD 3 (by omega) 1000000 exD_sym exD_nonneg exD_ultra exD_big

end CogentModel.C15
