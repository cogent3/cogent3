import CogentModel.Model.Distance
import CogentModel.Spec.DistanceFormulas
import CogentModel.Proofs.DistanceFormulaLemmas
/-! # C15 — the estimators of `fast_distance.py` equal their published formulas

`m : M4` is the count matrix in cogent3's array layout (alphabet order T,C,A,G);
`ofMatrix m` reads it by nucleotide name.  The left-hand sides are the model of the code
(Model/Distance.lean), the right-hand sides are the formulas of Spec/DistanceFormulas.lean, which do
not use any of the model's helper functions.  Every `Stat` carries the exact rational quantities
the code passes to `numpy.log`, so equality of `Stat`s is equality of the coefficients and of the
log arguments (hence of the distances). -/
namespace CogentModel.C15
open CogentModel.Distance CogentModel.DistanceFormulas

/-- Hamming / p-distance: `_hamming` fails exactly when no column is comparable (n = 0); otherwise it
returns n, p = (Σ_{x≠y} N x y)/n and the Hamming count Σ_{x≠y} N x y. -/
theorem hamming_matches_formula (m : M4) :
    hammingStat m =
      if n (ofMatrix m) = 0 then .invalid
      else .hamming (n (ofMatrix m)) (p (ofMatrix m)) (hamming (ofMatrix m)) := by
  rw [n_ofMatrix, p_ofMatrix, hamming_ofMatrix]; rfl

example : n (ofMatrix exCounts) ≠ 0 ∧ hammingStat exCounts = .hamming 60 (4 / 15) 16 := by decide +kernel
example : n (ofMatrix exEmpty) = 0 ∧ hammingStat exEmpty = .invalid := by decide +kernel

/-- JC69 (Jukes & Cantor 1969), d = −(3/4) ln(1 − 4p/3): `_jc69_from_matrix` fails exactly when n = 0 or
p ≥ 3/4 (the formula is undefined); otherwise the log argument it uses is 1 − 4p/3 with the spec's p. -/
theorem jc69_matches_formula (m : M4) :
    jc69Stat m =
      if n (ofMatrix m) = 0 ∨ 3 / 4 ≤ p (ofMatrix m) then .invalid
      else .jc69 (n (ofMatrix m)) (p (ofMatrix m)) (jcArg (ofMatrix m)) := by
  rw [ite_or, n_ofMatrix, jcArg_ofMatrix, p_ofMatrix]; rfl

example : ¬ (n (ofMatrix exCounts) = 0 ∨ 3 / 4 ≤ p (ofMatrix exCounts)) ∧
    jc69Stat exCounts = .jc69 60 (4 / 15) (29 / 45) := by decide +kernel
example : 3 / 4 ≤ p (ofMatrix exSaturated) ∧ jc69Stat exSaturated = .invalid := by decide +kernel

/-- TN93 (Tamura & Nei 1993), d = −k1 ln w1 − k2 ln w2 − k3 ln w3 with
π_R = π_A + π_G, π_Y = π_C + π_T, P1 = A↔G transitions, P2 = C↔T transitions, Q = transversions.
For a table of (non-negative) counts with n ≠ 0 in which every nucleotide occurs (no 0/0):
`_tn93_from_matrix` returns the spec's three coefficients and three log arguments when all three
arguments are positive, and fails otherwise.  The formula is stated by nucleotide name, so this pins
down that the code's purine indices [2,3] are A,G and its pyrimidine indices [1,0] are C,T. -/
theorem tn93_matches_formula (m : M4) (hN : ∀ x y, 0 ≤ ofMatrix m x y)
    (h0 : n (ofMatrix m) ≠ 0)
    (hA : pi (ofMatrix m) .A ≠ 0) (hC : pi (ofMatrix m) .C ≠ 0)
    (hG : pi (ofMatrix m) .G ≠ 0) (hT : pi (ofMatrix m) .T ≠ 0) :
    tn93Stat m =
      if 0 < tnW1 (ofMatrix m) ∧ 0 < tnW2 (ofMatrix m) ∧ 0 < tnW3 (ofMatrix m) then
        .tn93 (n (ofMatrix m)) (p (ofMatrix m)) (tnK1 (ofMatrix m)) (tnK2 (ofMatrix m)) (tnK3 (ofMatrix m))
          (tnW1 (ofMatrix m)) (tnW2 (ofMatrix m)) (tnW3 (ofMatrix m))
      else .invalid :=
  tn93_of_nonneg m hN h0 hA hC hG hT

example : (∀ x y, 0 ≤ ofMatrix exCounts x y) ∧ n (ofMatrix exCounts) ≠ 0 ∧
    pi (ofMatrix exCounts) .A ≠ 0 ∧ pi (ofMatrix exCounts) .C ≠ 0 ∧
    pi (ofMatrix exCounts) .G ≠ 0 ∧ pi (ofMatrix exCounts) .T ≠ 0 ∧
    (0 < tnW1 (ofMatrix exCounts) ∧ 0 < tnW2 (ofMatrix exCounts) ∧ 0 < tnW3 (ofMatrix exCounts)) ∧
    tn93Stat exCounts =
      .tn93 60 (4 / 15) (1 / 4) (13 / 56) (1621 / 6300) (211 / 480) (1233 / 1820) (179 / 224) := by
  refine ⟨?_, by decide +kernel⟩
  intro x y; cases x <;> cases y <;> decide +kernel

example : (∀ x y, 0 ≤ ofMatrix exSaturated x y) ∧ n (ofMatrix exSaturated) ≠ 0 ∧
    pi (ofMatrix exSaturated) .A ≠ 0 ∧ pi (ofMatrix exSaturated) .C ≠ 0 ∧
    pi (ofMatrix exSaturated) .G ≠ 0 ∧ pi (ofMatrix exSaturated) .T ≠ 0 ∧
    ¬ (0 < tnW1 (ofMatrix exSaturated) ∧ 0 < tnW2 (ofMatrix exSaturated) ∧ 0 < tnW3 (ofMatrix exSaturated)) ∧
    tn93Stat exSaturated = .invalid := by
  refine ⟨?_, by decide +kernel⟩
  intro x y; cases x <;> cases y <;> decide +kernel

/-- Paralinear (Lake 1994), d = −(1/4) ln( det F / sqrt(Π_x fx(x)·fy(x)) ), F the joint frequency matrix
(pseudo-count 1/2 on empty diagonal cells, normalised): `_paralinear` fails exactly when n = 0, or no
difference was observed, or det F ≤ 0 (log undefined); otherwise the determinant it uses is the
Leibniz determinant of F and the product is Π_x fx(x)·fy(x). -/
theorem paralinear_matches_formula (m : M4) :
    paralinearStat m =
      if n (ofMatrix m) = 0 ∨ hamming (ofMatrix m) = 0 ∨ detLeibniz (freqTable (ofMatrix m)) ≤ 0 then .invalid
      else .paralinear (n (ofMatrix m)) (p (ofMatrix m)) (detLeibniz (freqTable (ofMatrix m)))
        (margProd (freqTable (ofMatrix m))) := by
  unfold paralinearStat
  rw [logdetCommon_eq]
  simp only [freqTable_ofMatrix, detLeibniz_ofMatrix, margProd_ofMatrix]

example : ¬ (n (ofMatrix exCounts) = 0 ∨ hamming (ofMatrix exCounts) = 0 ∨
      detLeibniz (freqTable (ofMatrix exCounts)) ≤ 0) ∧
    paralinearStat exCounts = .paralinear 60 (4 / 15) (209 / 259200) (3214211 / 248832000000) := by
  rw [freqTable_ofMatrix, detLeibniz_ofMatrix]; decide +kernel
example : detLeibniz (freqTable (ofMatrix exSaturated)) ≤ 0 ∧ paralinearStat exSaturated = .invalid := by
  rw [freqTable_ofMatrix, detLeibniz_ofMatrix]; decide +kernel
example : hamming (ofMatrix exIdentical) = 0 ∧ paralinearStat exIdentical = .invalid := by decide +kernel

/-- LogDet with the Tamura–Kumar adjustment (Tamura & Kumar 2002),
d = −[(1 − Σ_x g_x²)/3] ln( det F / sqrt(Π_x fx(x)·fy(x)) ), g_x = (fx(x)+fy(x))/2: same validity conditions as
paralinear; the coefficient the code uses equals −(1 − Σ_x g_x²)/3. -/
theorem logdet_matches_formula (m : M4) :
    logdetStat true m =
      if n (ofMatrix m) = 0 ∨ hamming (ofMatrix m) = 0 ∨ detLeibniz (freqTable (ofMatrix m)) ≤ 0 then .invalid
      else .logdetTK (n (ofMatrix m)) (p (ofMatrix m)) (tkCoeff (freqTable (ofMatrix m)))
        (detLeibniz (freqTable (ofMatrix m))) (margProd (freqTable (ofMatrix m))) := by
  unfold logdetStat
  rw [logdetCommon_eq]
  simp only [freqTable_ofMatrix, detLeibniz_ofMatrix, margProd_ofMatrix, tkCoeff_ofMatrix, if_true]

example : ¬ (n (ofMatrix exCounts) = 0 ∨ hamming (ofMatrix exCounts) = 0 ∨
      detLeibniz (freqTable (ofMatrix exCounts)) ≤ 0) ∧
    logdetStat true exCounts =
      .logdetTK 60 (4 / 15) (-1331 / 5400) (209 / 259200) (3214211 / 248832000000) := by
  rw [freqTable_ofMatrix, detLeibniz_ofMatrix]; decide +kernel
example : n (ofMatrix exEmpty) = 0 ∧ logdetStat true exEmpty = .invalid := by decide +kernel

/-- LogDet without adjustment (Lockhart et al. 1994), d = −(1/4) ln det F − ln 4: same validity
conditions; the determinant the code uses is the Leibniz determinant of F. -/
theorem logdet_noTK_matches_formula (m : M4) :
    logdetStat false m =
      if n (ofMatrix m) = 0 ∨ hamming (ofMatrix m) = 0 ∨ detLeibniz (freqTable (ofMatrix m)) ≤ 0 then .invalid
      else .logdet (n (ofMatrix m)) (p (ofMatrix m)) (detLeibniz (freqTable (ofMatrix m))) := by
  unfold logdetStat
  rw [logdetCommon_eq]
  simp only [freqTable_ofMatrix, detLeibniz_ofMatrix, Bool.false_eq_true, if_false]

example : ¬ (n (ofMatrix exCounts) = 0 ∨ hamming (ofMatrix exCounts) = 0 ∨
      detLeibniz (freqTable (ofMatrix exCounts)) ≤ 0) ∧
    logdetStat false exCounts = .logdet 60 (4 / 15) (209 / 259200) := by
  rw [freqTable_ofMatrix, detLeibniz_ofMatrix]; decide +kernel
example : detLeibniz (freqTable (ofMatrix exSaturated)) ≤ 0 ∧ logdetStat false exSaturated = .invalid := by
  rw [freqTable_ofMatrix, detLeibniz_ofMatrix]; decide +kernel

end CogentModel.C15
