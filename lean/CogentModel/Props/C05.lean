import CogentModel.Model.RateMatrix
import CogentModel.Model.Expm
import CogentModel.Proofs.RateMatrixLemmas
import CogentModel.Proofs.ExpmLemmas
import CogentModel.Proofs.MotifProbLemmas
import Mathlib.Tactic.NormNum
/-!
# C05 — substitution processes are valid, calibrated Markov processes

Property theorems about the executable model (`Model/RateMatrix.lean`, `Model/Expm.lean`), for an
**arbitrary field** `K` (ordered where signs are involved), arbitrary dimension `n`, arbitrary
matrices / parameter vectors.  `sumTo n f` is the model's `∑_{k<n} f k`, `mget M i j` its entry.
The theorems about the *true* matrix exponential over `ℝ` are in `Props/C05Real.lean`.
-/
namespace CogentModel.C05
open CogentModel.RateMatrix CogentModel.Expm Finset

section field
variable {K : Type*} [Field K]

/-- Rows of the general (`_ContinuousSubstitutionModel.calcQ`) rate matrix sum to zero — for every
exchangeability matrix, every `π`, even a zero normaliser. -/
theorem calcQ_rowsum_zero (n : Nat) (R : Mat K) (pi : Vec K) (i : Nat) (hi : i < n) :
    sumTo n (fun j => mget (calcQGeneral n R pi) i j) = 0 :=
  finishQ_rowsum_zero n R pi hi

example : sumTo 2 (fun j => mget (calcQGeneral 2 (#[#[0, 2], #[3, 0]] : Mat ℚ) #[1/4, 3/4]) 1 j) = 0 :=
  calcQ_rowsum_zero 2 _ _ 1 (by decide)

/-- Rows of the stationary (`StationaryQ.calcQ`, `Q = R ∘ mprobs_matrix`) rate matrix sum to zero. -/
theorem stationaryQ_rowsum_zero (n : Nat) (R W : Mat K) (pi : Vec K) (i : Nat) (hi : i < n) :
    sumTo n (fun j => mget (calcQStationary n R W pi) i j) = 0 :=
  finishQ_rowsum_zero n _ pi hi

example : sumTo 2 (fun j => mget (calcQStationary 2 (#[#[0, 2], #[2, 0]] : Mat ℚ) (weightSimple 2 #[1/4, 3/4]) #[1/4, 3/4]) 0 j) = 0 :=
  stationaryQ_rowsum_zero 2 _ _ _ 0 (by decide)

/-- Calibration: the expected rate at `π` is one, `-∑ π_i Q_ii = 1`, whenever the exchangeability matrix
has a zero diagonal and the normaliser `∑ π_i · rowsum_i` is non-zero (a branch length *is* the
expected number of substitutions per site). -/
theorem calcQ_calibrated (n : Nat) (R : Mat K) (pi : Vec K) (hdiag : ∀ i, i < n → mget R i i = 0)
    (hnorm : sumTo n (fun i => vget pi i * sumTo n (fun j => mget R i j)) ≠ 0) :
    - sumTo n (fun i => vget pi i * mget (calcQGeneral n R pi) i i) = 1 :=
  finishQ_calibrated n R pi hdiag hnorm

example : ∃ (R : Mat ℚ) (pi : Vec ℚ), (∀ i, i < 2 → mget R i i = 0) ∧
    sumTo 2 (fun i => vget pi i * sumTo 2 (fun j => mget R i j)) ≠ 0 :=
  ⟨#[#[0, 2], #[3, 0]], #[1/4, 3/4], by decide +kernel, by decide +kernel⟩

/-- Calibration of the stationary construction (same statement with `R ∘ W`). -/
theorem stationaryQ_calibrated (n : Nat) (R W : Mat K) (pi : Vec K) (hdiag : ∀ i, i < n → mget R i i = 0)
    (hnorm : sumTo n (fun i => vget pi i * sumTo n (fun j => mget R i j * mget W i j)) ≠ 0) :
    - sumTo n (fun i => vget pi i * mget (calcQStationary n R W pi) i i) = 1 := by
  apply finishQ_calibrated n _ pi
  · intro i hi; rw [mget_tab _ hi hi, hdiag i hi, zero_mul]
  · rwa [sumTo_congr fun k hk => by rw [sumTo_congr fun l hl => mget_tab _ hk hl]]

example : ∃ (R W : Mat ℚ) (pi : Vec ℚ), (∀ i, i < 2 → mget R i i = 0) ∧
    sumTo 2 (fun i => vget pi i * sumTo 2 (fun j => mget R i j * mget W i j)) ≠ 0 :=
  ⟨#[#[0, 2], #[2, 0]], weightSimple 2 #[1/4, 3/4], #[1/4, 3/4], by decide +kernel, by decide +kernel⟩

/-- Stationarity from flow balance: if for every state the `π`-weighted un-normalised inflow equals the
outflow (this is what `GeneralStationary` enforces column by column, and what detailed balance gives),
then `π Q = 0`. -/
theorem stationaryQ_stationary (n : Nat) (R W : Mat K) (pi : Vec K)
    (hbal : ∀ j, j < n → sumTo n (fun i => vget pi i * (mget R i j * mget W i j)) =
        vget pi j * sumTo n (fun k => mget R j k * mget W j k))
    (j : Nat) (hj : j < n) :
    sumTo n (fun i => vget pi i * mget (calcQStationary n R W pi) i j) = 0 := by
  apply finishQ_stationary n _ pi _ hj
  intro j hj
  rw [sumTo_congr fun i hi => by rw [mget_tab _ hi hj], sumTo_congr fun k hk => mget_tab _ hj hk]
  exact hbal j hj

-- the flow-balance hypothesis is satisfiable by a **non-reversible** process: 3-cycle, uniform π, W = 1
example : let R : Mat ℚ := #[#[0, 1, 0], #[0, 0, 1], #[1, 0, 0]]
    let W : Mat ℚ := #[#[1, 1, 1], #[1, 1, 1], #[1, 1, 1]]
    let pi : Vec ℚ := #[1/3, 1/3, 1/3]
    (∀ j, j < 3 → sumTo 3 (fun i => vget pi i * (mget R i j * mget W i j)) =
        vget pi j * sumTo 3 (fun k => mget R j k * mget W j k)) ∧
    ¬ (vget pi 0 * (mget R 0 1 * mget W 0 1) = vget pi 1 * (mget R 1 0 * mget W 1 0)) := by
  decide +kernel

/-- Detailed balance for the time-reversible construction: if the un-normalised rates are balanced,
`π_i R_ij W_ij = π_j R_ji W_ji`, then `π_i Q_ij = π_j Q_ji` for all `i, j`. -/
theorem reversible_detailed_balance (n : Nat) (R W : Mat K) (pi : Vec K)
    (hdb : ∀ i j, i < n → j < n → vget pi i * (mget R i j * mget W i j) = vget pi j * (mget R j i * mget W j i))
    (i j : Nat) (hi : i < n) (hj : j < n) :
    vget pi i * mget (calcQStationary n R W pi) i j = vget pi j * mget (calcQStationary n R W pi) j i := by
  apply finishQ_detailed_balance n _ pi _ hi hj
  intro a b ha hb
  rw [mget_tab _ ha hb, mget_tab _ hb ha]
  exact hdb a b ha hb

/-- Detailed balance of `Q` gives stationarity of `π` (used for every time-reversible construction below). -/
theorem stationary_of_detailed_balance (n : Nat) (Q : Mat K) (pi : Vec K)
    (hrow : ∀ j, j < n → sumTo n (fun k => mget Q j k) = 0)
    (hdb : ∀ i j, i < n → j < n → vget pi i * mget Q i j = vget pi j * mget Q j i) (j : Nat) (hj : j < n) :
    sumTo n (fun i => vget pi i * mget Q i j) = 0 := by
  rw [sumTo_eq_sum, balance_of_detailed n Q pi hdb j hj, ← sumTo_eq_sum, hrow j hj, mul_zero]

/-- With the simple (`tuple`) motif-prob model, `W_ij = π_j`, a symmetric exchangeability matrix gives
detailed balance … -/
theorem reversible_detailed_balance_simple (n : Nat) (R : Mat K) (pi : Vec K)
    (hsym : ∀ i j, i < n → j < n → mget R i j = mget R j i)
    (i j : Nat) (hi : i < n) (hj : j < n) :
    vget pi i * mget (calcQStationary n R (weightSimple n pi) pi) i j =
      vget pi j * mget (calcQStationary n R (weightSimple n pi) pi) j i :=
  reversible_detailed_balance n R _ pi
    (balanced_of_symm n pi R _ hsym fun a b ha hb _ => by
      rw [mget_weightSimple n pi ha hb, mget_weightSimple n pi hb ha, mul_comm]) i j hi hj

/-- … and hence stationarity of the motif probabilities: `π Q = 0`. -/
theorem stationaryQ_stationary_simple (n : Nat) (R : Mat K) (pi : Vec K)
    (hsym : ∀ i j, i < n → j < n → mget R i j = mget R j i) (j : Nat) (hj : j < n) :
    sumTo n (fun i => vget pi i * mget (calcQStationary n R (weightSimple n pi) pi) i j) = 0 :=
  stationary_of_detailed_balance n _ pi (stationaryQ_rowsum_zero n R _ pi) (reversible_detailed_balance_simple n R pi hsym) j hj

example : ∀ i j, i < 2 → j < 2 → mget (#[#[0, 2], #[2, 0]] : Mat ℚ) i j = mget (#[#[0, 2], #[2, 0]] : Mat ℚ) j i :=
  fun i j hi hj => (by decide +kernel : ∀ i, i < 2 → ∀ j, j < 2 →
    mget (#[#[0, 2], #[2, 0]] : Mat ℚ) i j = mget (#[#[0, 2], #[2, 0]] : Mat ℚ) j i) i hi j hj

/-- Time-reversible models with the **conditional** motif-prob model (GTR, CNFGTR, CNFHKY; the default for word
alphabets): `W_ij = π_j / P(context of j at the changed position)`.  If the exchangeability matrix is symmetric and
vanishes off the instantaneous mask, the mask is symmetric, and instantaneous pairs differ at exactly one position
(`sameContext`), then detailed balance holds — including the `context_probs == 0 → inf` branch. -/
theorem reversible_detailed_balance_conditional [DecidableEq K] (words : Array (Array Nat)) (L : Nat) (inst : Mat Bool)
    (pi : Vec K) (R : Mat K)
    (hR : ∀ i j, i < words.size → j < words.size → mget R i j = mget R j i)
    (hzero : ∀ i j, i < words.size → j < words.size → bget inst i j = false → mget R i j = 0)
    (hinst : ∀ i j, i < words.size → j < words.size → bget inst i j = bget inst j i)
    (hctx : ∀ i j, i < words.size → j < words.size → bget inst i j = true →
      sameContext (firstDiff (wordAt words i) (wordAt words j)) 0 (wordAt words i) (wordAt words j) = true)
    (i j : Nat) (hi : i < words.size) (hj : j < words.size) :
    vget pi i * mget (calcQStationary words.size R (weightConditional words L inst pi) pi) i j =
      vget pi j * mget (calcQStationary words.size R (weightConditional words L inst pi) pi) j i :=
  reversible_detailed_balance words.size R _ pi
    (balanced_of_symm words.size pi R _ hR fun a b ha hb h0 =>
      have h := Bool.eq_true_of_not_eq_false (mt (hzero a b ha hb) h0)
      weightConditional_balanced words L inst pi a b ha hb h ((hinst a b ha hb).symm.trans h) (hctx a b ha hb h)) i j hi hj

/-- the dinucleotide alphabet over two letters: the model's own `instMask` meets the hypotheses -/
example : ∀ i, i < 4 → ∀ j, j < 4 → bget (instMask false 2 #[#[0, 0], #[0, 1], #[1, 0], #[1, 1]]) i j = true →
    sameContext (firstDiff (wordAt #[#[0, 0], #[0, 1], #[1, 0], #[1, 1]] i) (wordAt #[#[0, 0], #[0, 1], #[1, 0], #[1, 1]] j)) 0
      (wordAt #[#[0, 0], #[0, 1], #[1, 0], #[1, 1]] i) (wordAt #[#[0, 0], #[0, 1], #[1, 0], #[1, 1]] j) = true := by
  decide +kernel

/-- Time-reversible models with the **monomer** / position-specific monomer motif-prob models (MG94HKY, MG94GTR):
word probabilities are normalised products of monomer probabilities and `W_ij` is the probability of the
new monomer; detailed balance holds w.r.t. the model's own word probabilities. -/
theorem reversible_detailed_balance_monomer (words : Array (Array Nat)) (L : Nat) (inst : Mat Bool)
    (mp : Nat → Vec K) (R : Mat K)
    (hR : ∀ i j, i < words.size → j < words.size → mget R i j = mget R j i)
    (hzero : ∀ i j, i < words.size → j < words.size → bget inst i j = false → mget R i j = 0)
    (hinst : ∀ i j, i < words.size → j < words.size → bget inst i j = bget inst j i)
    (hagree : ∀ i j, i < words.size → j < words.size → bget inst i j = true →
      firstDiff (wordAt words i) (wordAt words j) < L ∧
      ∀ k, k < L → k ≠ firstDiff (wordAt words i) (wordAt words j) →
        (words.getD i #[]).getD k 0 = (words.getD j #[]).getD k 0)
    (i j : Nat) (hi : i < words.size) (hj : j < words.size) :
    vget (wordProbsMonomer words L mp) i *
        mget (calcQStationary words.size R (weightMonomer words inst mp) (wordProbsMonomer words L mp)) i j =
      vget (wordProbsMonomer words L mp) j *
        mget (calcQStationary words.size R (weightMonomer words inst mp) (wordProbsMonomer words L mp)) j i :=
  reversible_detailed_balance words.size R _ _
    (balanced_of_symm words.size _ R _ hR fun a b ha hb h0 =>
      have h := Bool.eq_true_of_not_eq_false (mt (hzero a b ha hb) h0)
      weightMonomer_balanced words L inst mp a b ha hb h ((hinst a b ha hb).symm.trans h)
        (hagree a b ha hb h).1 (hagree a b ha hb h).2) i j hi hj

example : ∀ i, i < 4 → ∀ j, j < 4 → bget (instMask false 2 #[#[0, 0], #[0, 1], #[1, 0], #[1, 1]]) i j = true →
    firstDiff (wordAt #[#[0, 0], #[0, 1], #[1, 0], #[1, 1]] i) (wordAt #[#[0, 0], #[0, 1], #[1, 0], #[1, 1]] j) < 2 := by
  decide +kernel

/-- `Parametric.calc_exchangeability_matrix` keeps the exchangeability matrix symmetric when the
instantaneous mask and every predicate mask are symmetric (the `TimeReversible` precondition). -/
theorem parametric_symmetric (n : Nat) (mask : Mat K) (preds : List (List (Nat × Nat))) (params : List K) (R : Mat K)
    (h : exchParametric n mask preds params = some R)
    (hm : ∀ i j, i < n → j < n → mget mask i j = mget mask j i)
    (hp : ∀ idx ∈ preds, ∀ i j, idx.contains (i, j) = idx.contains (j, i)) :
    ∀ i j, i < n → j < n → mget R i j = mget R j i := by
  intro i j hi hj
  rw [mget_exchParametric h hi hj, mget_exchParametric h hj hi, hm i j hi hj]
  congr 2
  exact List.map_congr_left fun ip hip => by rw [hp ip.1 (List.of_mem_zip hip).1 i j]

example : exchParametric 2 (#[#[0, 1], #[1, 0]] : Mat ℚ) [[(0, 1), (1, 0)]] [5] = some #[#[0, 5], #[5, 0]] := by decide +kernel

/-- … and a zero diagonal (predicates only rescale entries). -/
theorem parametric_diag_zero (n : Nat) (mask : Mat K) (preds : List (List (Nat × Nat))) (params : List K) (R : Mat K)
    (h : exchParametric n mask preds params = some R) (hm : ∀ i, i < n → mget mask i i = 0) :
    ∀ i, i < n → mget R i i = 0 := by
  intro i hi
  rw [mget_exchParametric h hi hi, hm i hi, zero_mul]

example : ∀ i, i < 2 → mget (#[#[0, 1], #[1, 0]] : Mat ℚ) i i = 0 := by decide +kernel

/-- `General.calc_exchangeability_matrix` (`array((0,)+params+(1,)).take(param_pick)`): a zero diagonal of
`param_pick` gives a zero diagonal of `R` — the `hdiag` hypothesis of `calcQ_calibrated` for the `General` class. -/
theorem general_diag_zero (n : Nat) (pick : Array (Array Nat)) (params : List K)
    (hp : ∀ i, i < n → (pick.getD i #[]).getD i 0 = 0) : ∀ i, i < n → mget (exchGeneral n pick params) i i = 0 :=
  fun i hi => exchGeneral_zero_cell n pick params hi hi (hp i hi)

example : exchGeneral 2 #[#[0, 1], #[2, 0]] [(5 : ℚ)] = #[#[0, 5], #[1, 0]] := by decide +kernel

/-- `WeightedPartitionDefn` / `MonotonicDefn` normalisation: the weighted mean of the rate multipliers is one. -/
theorem rate_classes_mean_one (w v : Vec K) (h : sumTo v.size (fun b => vget w b * vget v b) ≠ 0) :
    sumTo v.size (fun b => vget w b * vget (ratesWeighted w v) b) = 1 := by
  dsimp only [ratesWeighted]
  rw [sumTo_congr fun b hb => by rw [vget_vtab _ hb]]
  exact sumTo_mul_div_self v.size (vget w) (vget v) h

example : sumTo 2 (fun b => vget (#[1/4, 3/4] : Vec ℚ) b * vget (#[1, 3] : Vec ℚ) b) ≠ 0 := by decide +kernel

/-- `MonotonicDefn.calc` (running sums of the increments, then the same normalisation). -/
theorem rate_classes_mean_one_monotonic (w inc : Vec K)
    (h : sumTo inc.size (fun b => vget w b * sumTo (b + 1) (vget inc)) ≠ 0) :
    sumTo inc.size (fun b => vget w b * vget (ratesMonotonic w inc) b) = 1 := by
  unfold ratesMonotonic
  have hs : (vtab inc.size fun b => sumTo (b + 1) (vget inc)).size = inc.size := size_vtab _
  have := rate_classes_mean_one w (vtab inc.size fun b => sumTo (b + 1) (vget inc))
  rw [hs] at this
  apply this
  rwa [sumTo_congr fun b hb => by rw [vget_vtab _ hb]]

example : sumTo 2 (fun b => vget (#[1/4, 3/4] : Vec ℚ) b * sumTo (b + 1) (vget (#[1/3, 2/3] : Vec ℚ))) ≠ 0 := by decide +kernel

/-- `GammaDefn.calc` given the bin medians: the mean under the *normalised* bin probabilities is one. -/
theorem rate_classes_mean_one_gamma (w med : Vec K)
    (h : sumTo med.size (fun b => vget med b * (vget w b / sumTo w.size (vget w))) ≠ 0) (hsz : med.size ≤ w.size) :
    sumTo med.size (fun b => (vget w b / sumTo w.size (vget w)) * vget (ratesGamma w med) b) = 1 := by
  dsimp only [ratesGamma]
  have hscale : sumTo med.size (fun b => vget med b * vget (vtab w.size fun b => vget w b / sumTo w.size (vget w)) b)
      = sumTo med.size (fun b => vget w b / sumTo w.size (vget w) * vget med b) :=
    sumTo_congr fun c hc => by rw [vget_vtab _ (Nat.lt_of_lt_of_le hc hsz), mul_comm]
  rw [sumTo_congr fun b _ => mul_comm (vget med b) _] at h
  exact (sumTo_congr fun b hb => by rw [vget_vtab _ hb, hscale]).trans (sumTo_mul_div_self med.size _ (vget med) h)

example : sumTo 2 (fun b => vget (#[1/5, 2] : Vec ℚ) b * (vget (#[1/2, 1/2] : Vec ℚ) b / sumTo 2 (vget (#[1/2, 1/2] : Vec ℚ)))) ≠ 0 := by decide +kernel

/-- Padé with scaling and squaring is row-stochastic in the algebraic sense for **every** order `q` and
every number of squarings `j`: if the rows of `Q` sum to zero then, whenever `solve` succeeds, the rows of
`P` sum to one.  (Covers the exact Gauss–Jordan model of `numpy.linalg.solve`.) -/
theorem pade_rowsum_one [DecidableEq K] (n : Nat) (Q : Mat K) (t : K) (q j : Nat) (P : Mat K)
    (hQ : ∀ i, i < n → sumTo n (fun k => mget Q i k) = 0) (h : padeCore n Q t q j = some P) :
    ∀ i, i < n → sumTo n (fun k => mget P i k) = 1 :=
  rowsOne_iff_mul_ones.mpr ((padeCore_ratVal Q t q j P h).right_fixed (RowsZero.mul_ones (n := n) (A := Q) hQ))

example : (padeCore 2 (#[#[-1, 1], #[2, -2]] : Mat ℚ) (1/2) 3 1).isSome = true := by decide +kernel

/-- At length zero the Padé approximant *is* defined and equals the identity, for every `q`, `j`. -/
theorem pade_zero [DecidableEq K] (n : Nat) (Q : Mat K) (q j : Nat) :
    ∃ P, padeCore n Q 0 q j = some P ∧ ∀ a b, a < n → b < n → mget P a b = if a = b then 1 else 0 := by
  obtain ⟨P, hP, hI⟩ := padeCore_zero n Q q j
  exact ⟨P, hP, fun a b ha hb => by rw [hI a b ha hb, mget_ident n ha hb]⟩

variable [LT K] [DecidableLT K] [LE K] [DecidableLE K]

/-- `TaylorExponentiator`: rows sum to one for every starting order `q`, every amount of lengthening
(`fuel`), whatever the stopping test decides (the order relation is arbitrary here). -/
theorem taylor_rowsum_one (n : Nat) (rtol atol : K) (Q : Mat K) (t : K) (q fuel : Nat)
    (hQ : ∀ i, i < n → sumTo n (fun k => mget Q i k) = 0) :
    ∀ i, i < n → sumTo n (fun k => mget (taylor n rtol atol Q t q fuel).1 i k) = 1 :=
  rowsOne_iff_mul_ones.mpr ((taylor_ratVal rtol atol Q t q fuel).right_fixed (RowsZero.mul_ones (n := n) (A := Q) hQ))

/-- `TaylorExponentiator` at length zero is the identity. -/
theorem taylor_zero (n : Nat) (rtol atol : K) (Q : Mat K) (q fuel : Nat) (a b : Nat) (ha : a < n) (hb : b < n) :
    mget (taylor n rtol atol Q 0 q fuel).1 a b = if a = b then 1 else 0 := by
  rw [taylor_zero_entry n rtol atol Q q fuel a b ha hb, mget_ident n ha hb]

end field

example : ∀ i, i < 2 → sumTo 2 (fun k => mget (#[#[-1, 1], #[2, -2]] : Mat ℚ) i k) = 0 := by decide +kernel

-- concrete runs of the exponentiator models: the lengthening loop stops by its own test (k = 11 < fuel),
-- the rows of the result sum to one, and at t = 0 Padé returns the identity
example : (taylor 2 (1/100000) (1/100000000) (#[#[-1, 1], #[2, -2]] : Mat ℚ) (1/2) 3 40).2 = 11 ∧
    sumTo 2 (fun k => mget (taylor 2 (1/100000) (1/100000000) (#[#[-1, 1], #[2, -2]] : Mat ℚ) (1/2) 3 40).1 0 k) = 1 := by
  decide +kernel
example : padeCore 2 (#[#[-1, 1], #[2, -2]] : Mat ℚ) 0 3 1 = some #[#[1, 0], #[0, 1]] := by decide +kernel

section ordered
variable {K : Type*} [Field K] [LinearOrder K] [IsStrictOrderedRing K]

/-- Off-diagonal entries of the general rate matrix are non-negative when the exchangeabilities and
motif probabilities are. -/
theorem calcQ_offdiag_nonneg (n : Nat) (R : Mat K) (pi : Vec K)
    (hR : ∀ i j, i < n → j < n → 0 ≤ mget R i j) (hpi : ∀ i, i < n → 0 ≤ vget pi i)
    (i j : Nat) (hi : i < n) (hj : j < n) (hij : i ≠ j) : 0 ≤ mget (calcQGeneral n R pi) i j :=
  finishQ_offdiag_nonneg n R pi hR hpi hi hj hij

/-- Same for the stationary construction, with a non-negative weight matrix `W`. -/
theorem stationaryQ_offdiag_nonneg (n : Nat) (R W : Mat K) (pi : Vec K)
    (hR : ∀ i j, i < n → j < n → 0 ≤ mget R i j) (hW : ∀ i j, i < n → j < n → 0 ≤ mget W i j)
    (hpi : ∀ i, i < n → 0 ≤ vget pi i)
    (i j : Nat) (hi : i < n) (hj : j < n) (hij : i ≠ j) : 0 ≤ mget (calcQStationary n R W pi) i j := by
  apply finishQ_offdiag_nonneg n _ pi _ hpi hi hj hij
  intro a b ha hb
  rw [mget_tab _ ha hb]
  exact mul_nonneg (hR a b ha hb) (hW a b ha hb)

/-- The parametric exchangeability matrix is non-negative for a non-negative mask and parameters `≥ 0`
(within cogent3's bounds `[1e-6, 1e6]`). -/
theorem parametric_nonneg (n : Nat) (mask : Mat K) (preds : List (List (Nat × Nat))) (params : List K) (R : Mat K)
    (h : exchParametric n mask preds params = some R)
    (hm : ∀ i j, i < n → j < n → 0 ≤ mget mask i j) (hp : ∀ p ∈ params, 0 ≤ p) :
    ∀ i j, i < n → j < n → 0 ≤ mget R i j := by
  intro i j hi hj
  rw [mget_exchParametric h hi hj]
  refine mul_nonneg (hm i j hi hj) (List.prod_nonneg fun a ha => ?_)
  obtain ⟨ip, hip, rfl⟩ := List.mem_map.mp ha
  by_cases hc : ip.1.contains (i, j) = true
  · rw [if_pos hc]; exact hp _ (List.of_mem_zip hip).2
  · rw [if_neg hc]; exact zero_le_one

example : ∀ i j, i < 2 → j < 2 → 0 ≤ mget (#[#[0, 1], #[1, 0]] : Mat ℚ) i j :=
  fun i j hi hj => (by decide +kernel : ∀ i, i < 2 → ∀ j, j < 2 → 0 ≤ mget (#[#[0, 1], #[1, 0]] : Mat ℚ) i j) i hi j hj

/-- Non-negativity of `General.calc_exchangeability_matrix` for parameters `≥ 0` -/
theorem general_nonneg (n : Nat) (pick : Array (Array Nat)) (params : List K) (hp : ∀ p ∈ params, 0 ≤ p) :
    ∀ i j, i < n → j < n → 0 ≤ mget (exchGeneral n pick params) i j := by
  intro i j hi hj
  rw [mget_exchGeneral n pick params hi hj, List.getD_eq_getElem?_getD]
  generalize (pick.getD i #[]).getD j 0 = k
  cases h : (((0 : K) :: params) ++ [1])[k]? with
  | none => simp
  | some x =>
    simp only [Option.getD_some]
    have hx : x ∈ ((0 : K) :: params) ++ [1] := List.mem_of_getElem? h
    simp only [List.cons_append, List.mem_cons, List.mem_append, List.not_mem_nil, or_false] at hx
    rcases hx with rfl | hx | rfl
    · exact le_refl _
    · exact hp x hx
    · exact zero_le_one

example : ∀ p ∈ [(5 : ℚ), 1/3], 0 ≤ p := by decide +kernel

/-- The diagonal of `Q` is non-positive (with `calcQ_offdiag_nonneg` and `calcQ_rowsum_zero`: `Q` is a generator) -/
theorem calcQ_diag_nonpos (n : Nat) (R : Mat K) (pi : Vec K)
    (hR : ∀ i j, i < n → j < n → 0 ≤ mget R i j) (hpi : ∀ i, i < n → 0 ≤ vget pi i)
    (hdiag : ∀ i, i < n → mget R i i = 0) (i : Nat) (hi : i < n) : mget (calcQGeneral n R pi) i i ≤ 0 :=
  finishQ_diag_nonpos n R pi hR hpi hdiag hi

/-- **End to end for `Parametric` models** (`Parametric.calc_exchangeability_matrix` followed by
`_ContinuousSubstitutionModel.calcQ`): from hypotheses on the *inputs* only (0/1 mask with zero diagonal, parameters and
motif probabilities `≥ 0`, non-zero normaliser) the rate matrix has zero row sums, non-negative off-diagonals and
expected rate one at `π`. -/
theorem parametric_calcQ_valid (n : Nat) (mask : Mat K) (preds : List (List (Nat × Nat))) (params : List K)
    (R : Mat K) (pi : Vec K) (h : exchParametric n mask preds params = some R)
    (hm0 : ∀ i, i < n → mget mask i i = 0) (hm : ∀ i j, i < n → j < n → 0 ≤ mget mask i j)
    (hp : ∀ p ∈ params, 0 ≤ p) (hpi : ∀ i, i < n → 0 ≤ vget pi i)
    (hnorm : sumTo n (fun i => vget pi i * sumTo n (fun j => mget R i j)) ≠ 0) :
    (∀ i, i < n → sumTo n (fun j => mget (calcQGeneral n R pi) i j) = 0) ∧
    (∀ i j, i < n → j < n → i ≠ j → 0 ≤ mget (calcQGeneral n R pi) i j) ∧
    - sumTo n (fun i => vget pi i * mget (calcQGeneral n R pi) i i) = 1 :=
  ⟨fun i hi => calcQ_rowsum_zero n R pi i hi,
   fun i j hi hj hij => calcQ_offdiag_nonneg n R pi (parametric_nonneg n mask preds params R h hm hp) hpi i j hi hj hij,
   calcQ_calibrated n R pi (parametric_diag_zero n mask preds params R h hm0) hnorm⟩

example : exchParametric 2 (#[#[0, 1], #[1, 0]] : Mat ℚ) [[(0, 1)]] [5] = some #[#[0, 5], #[1, 0]] ∧
    sumTo 2 (fun i => vget (#[1/4, 3/4] : Vec ℚ) i * sumTo 2 (fun j => mget (#[#[0, 5], #[1, 0]] : Mat ℚ) i j)) ≠ 0 ∧
    calcQGeneral 2 (#[#[0, 5], #[1, 0]] : Mat ℚ) #[1/4, 3/4] = #[#[-5/2, 5/2], #[1/2, -1/2]] := by decide +kernel

end ordered

/- In separate files:
   * `GeneralStationary`'s `last_in_column` loop balances every column ⇒ `π Q = 0`
     (`Props/C05GenStat.lean`: `generalStationary_piQ_zero`, with the exact error-branch characterisation);
   * the "instantaneous pairs differ at exactly one position" hypotheses of `reversible_detailed_balance_conditional` /
     `_monomer` hold for `instMask` over every gap-free equal-length alphabet (`Props/C05Alphabet.lean`).

   FULL STATEMENT (not proved): in the tolerance branch of `GeneralStationary` (`-1e-8 ≤ required < 0`, replaced by
   `|required|`) the column is *not* exactly balanced: `col - row = 2·|required| ≤ 2e-8`; `generalStationary_piQ_zero`
   therefore assumes `GsExact` (every required value ≥ 0).  A quantitative `|πQ| ≤ c·tol` bound is not stated. -/

end CogentModel.C05
