import CogentModel.Proofs.TreeGen
import CogentModel.Props.C15NJ
import CogentModel.Props.C15UPGMA
/-! # C15 — the TRANSLATED array / list code of nj.py and UPGMA.py equals the hand models, for all arguments

`Gen/C15Tree.lean` is rewritten on every run by `translator/c15_tree2lean.py` from the current text of
`phylo/nj.py` (`PartialTree.join`, `get_dist_saved_join_score_matrix`, `lengths` of `asScoreTreeTuple`) and
`cluster/UPGMA.py` (`find_smallest_index`, `condense_matrix`, `condense_node_order`, the loop body of `UPGMA_cluster`,
`inputs_from_dict_array`), numpy / list operation by operation (primitives: `Model/TreeNumpy.lean`).  The theorems below prove every generated
definition equal to (or, for the PhyloNode records, in simulation with) the hand models `Model/NJ.lean` / `Model/UPGMA.lean`
about which the C15NJ / C15UPGMA theorems are stated — for ALL matrices, sizes, node lists and index pairs — and then the
whole loops: `gen_upgma_eq` (UPGMA_cluster on upgma's inputs) and `gen_nj_eq` (gnj(keep=1) for ≥ 3 names).
Still hand-modelled: the argsort / de-duplication generator `uniq_neighbour_joins` (as `argminOff`: first off-diagonal minimum),
the zip of `asScoreTreeTuple` (`genFinish`; the `length` that `convert` stores is translated), the two-taxon shortcut of `gnj`. -/
namespace CogentModel.C15
open CogentModel.NJ CogentModel.UPGMA CogentModel.TreeNp CogentModel.Gen

/-- the ultrametric ((0:1,1:1):2,2:3) -/
def exM : Mat := [[0, 2, 6], [2, 0, 6], [6, 6, 0]]
/-- the additive quartet ((0:1,1:2):4,2:2,3:3) -/
def exQ : Mat := [[0, 3, 7, 8], [3, 0, 8, 9], [7, 8, 0, 5], [8, 9, 5, 0]]

/-- `find_smallest_index` (ravel / argmin / divmod) as translated IS the model's `findSmallest` -/
theorem gen_find_smallest_index_eq (m : Mat) (n : Nat) :
    C15Tree.find_smallest_index n (get m) = findSmallest m n := rfl
example : C15Tree.find_smallest_index 3 (get exM) = (0, 0) ∧ C15Tree.find_smallest_index 3 (setDiag (get exM) 99) = (0, 1) := by decide +kernel


/-- `condense_matrix` as translated (take / average, the four row / column stores in their order), materialised as an n×n array, is the model's `condenseMatrix` — all matrices, all index pairs (also i = j and out-of-range) -/
theorem gen_condense_matrix_eq (m : Mat) (n i j : Nat) (big : Rat) :
    tab n (C15Tree.condense_matrix (get m) (i, j) big) = condenseMatrix m n i j big := by
  unfold condenseMatrix
  congr 1
  funext a b
  exact condense_matrix_apply (get m) i j big a b
example : tab 3 (C15Tree.condense_matrix (get exM) (0, 1) 99) = [[1, 99, 6], [99, 99, 99], [6, 99, 0]] := by decide +kernel


/-- explicit form of the translated `condense_node_order` (the `for n in nodes` loop unrolled over the two aliased nodes): both nodes get `length = genLen d ·` (= `d - children[0].TipLength` if they have children, else `d`) and `TipLength = d`, the new parent with these two children replaces entry `index1`, entry `index2` becomes `None` -/
theorem gen_condense_node_order_eq (m : Arr) (s : Nat × Nat) (order : List (Option PN)) :
    C15Tree.condense_node_order m s order =
      let n1 := (order.getD s.1 none).getD default
      let n2 := (order.getD s.2 none).getD default
      let d := m s.1 s.2 / 2
      (order.set s.1 (some (PN.mk 0 [(n1.withLength (genLen d n1)).withTipLength d, (n2.withLength (genLen d n2)).withTipLength d] 0 0))).set s.2 none := by
  simp only [C15Tree.condense_node_order, lset, PN.new, PN.append, List.nil_append, List.cons_append, genLen]
  split_ifs <;> rfl
example : (C15Tree.condense_node_order (get exM) (0, 1) [some (PN.mk 0 [] 0 0), some (PN.mk 1 [] 0 0), some (PN.mk 2 [] 0 0)]).map (fun o => o.map toU) =
    [some (.node (.tip 0) 1 (.tip 1) 1), none, some (.tip 2)] := by decide +kernel


/-- the translated `condense_node_order` simulates the model's `condenseNodes`: related node lists (`RelL`: same trees under `toU`, same branch-length rule) go to related node lists — all lists, all index pairs, dead (`None`) entries included -/
theorem gen_condense_node_order_sim (arr : Arr) (m : Mat) (i j : Nat) (order : List (Option PN)) (eo : List (Option Entry))
    (h : RelL order eo) (hm : arr i j = get m i j) :
    RelL (C15Tree.condense_node_order arr (i, j) order) (condenseNodes m i j eo) := by
  obtain ⟨hl, hr⟩ := h
  have r1 := relO_getD _ _ (hr i)
  have r2 := relO_getD _ _ (hr j)
  rw [gen_condense_node_order_eq]
  unfold condenseNodes
  refine ⟨by simp [hl], fun a => ?_⟩
  simp only []
  rw [ListGetD.getD_set_set, ListGetD.getD_set_set, hl]
  split_ifs with hja hia
  · trivial
  · show Rel _ _
    refine ⟨?_, fun d' => ?_⟩
    · rw [r1.2, r2.2, hm, r1.1, r2.1]
      simp only [toU, toU_with, length_with, genLen]
    · simp [branch, PN.children, tipLength_with, hm]
  · exact hr a
example : RelL [some (PN.mk 0 [] 0 0), none] [some { tree := .tip 0, isTip := true, height := 0 }, none] :=
  ⟨rfl, fun a => match a with
    | 0 => ⟨rfl, fun d => by simp [branch, PN.children]⟩
    | 1 => trivial
    | _ + 2 => trivial⟩


/-- ONE PASS of the translated loop of `UPGMA_cluster` (find, diagonal reset + second find, `condense_node_order`, `condense_matrix`, `tree = node_order[...]`) simulates one `step` of the hand model: from related states (array agrees with the matrix inside the box, node lists related entry by entry) the results are related — no hypothesis on the selected pair -/
theorem gen_cluster_step_sim (n : Nat) (hpos : 0 < n) (big : Rat) (arr : Arr) (order : List (Option PN)) (st : State)
    (hA : Agree n arr st.m) (hR : RelL order st.order) :
    Agree n (C15Tree.UPGMA_cluster_step n big arr order).1 (step n big st).m ∧
      RelL (C15Tree.UPGMA_cluster_step n big arr order).2.1 (step n big st).order ∧
      RelO (C15Tree.UPGMA_cluster_step n big arr order).2.2 (step n big st).tree := by
  -- whichever array is handed on (the original or the one with the diagonal reset), the found position is inside the box
  have hcond : ∀ (arr' : Arr) (m' : Mat), Agree n arr' m' →
      Agree n (C15Tree.condense_matrix arr' (findSmallest m' n) big)
          (condenseMatrix m' n (findSmallest m' n).1 (findSmallest m' n).2 big) ∧
        RelL (C15Tree.condense_node_order arr' (findSmallest m' n) order)
          (condenseNodes m' (findSmallest m' n).1 (findSmallest m' n).2 st.order) := by
    intro arr' m' hA'
    obtain ⟨b1, b2, _⟩ := findSmallest_spec m' n hpos
    exact ⟨condense_matrix_agree n big _ _ _ _ b1 b2 hA',
      gen_condense_node_order_sim arr' m' _ _ order st.order hR (hA' _ _ b1 b2)⟩
  have hf := find_smallest_agree n arr st.m hA
  have hA' := setDiag_agree n big arr st.m hA
  have hf2 := find_smallest_agree n _ _ hA'
  unfold step stepWith
  simp only [C15Tree.UPGMA_cluster_step, hf, hf2]
  unfold select
  by_cases hd : (findSmallest st.m n).1 = (findSmallest st.m n).2
  · simp only [hd, if_true]
    obtain ⟨h1, h2⟩ := hcond _ _ hA'
    exact ⟨h1, h2, h2.2 _⟩
  · simp only [hd, if_false]
    obtain ⟨h1, h2⟩ := hcond _ _ hA
    exact ⟨h1, h2, h2.2 _⟩
example : Agree 3 (get exM) exM := fun _ _ _ _ => rfl


/-- WHOLE LOOP: `k` passes of the translated `UPGMA_cluster` body simulate `iter n big k` of the hand model, from any related pair of states, for every `k` -/
theorem gen_cluster_iter_sim (n : Nat) (hpos : 0 < n) (big : Rat) :
    ∀ (k : Nat) (s : Arr × List (Option PN) × Option PN) (st : State),
      Agree n s.1 st.m → RelL s.2.1 st.order → RelO s.2.2 st.tree →
      Agree n (genIter n big k s).1 (iter n big k st).m ∧ RelL (genIter n big k s).2.1 (iter n big k st).order ∧
        RelO (genIter n big k s).2.2 (iter n big k st).tree := by
  intro k
  induction k with
  | zero => intro s st hA hR hT; exact ⟨hA, hR, hT⟩
  | succ k ih =>
    intro s st hA hR _
    obtain ⟨a1, a2, a3⟩ := gen_cluster_step_sim n hpos big s.1 s.2.1 st hA hR
    exact ih _ _ a1 a2 a3

/-- `inputs_from_dict_array` as translated (`array += numpy.eye(n) * BIG_NUM`, `list(map(PhyloNode, keys))`) produces exactly the
state `genInit` from which `gen_upgma_eq` runs the translated loop (hence, with `Agree`/`RelL`, the model's `init`) -/
theorem gen_inputs_eq (n : Nat) (d : Mat) (big : Rat) :
    C15Tree.inputs_from_dict_array n (get d) big = ((genInit n d big).1, (genInit n d big).2.1) := by
  unfold C15Tree.inputs_from_dict_array genInit
  refine Prod.ext ?_ rfl
  funext a b
  simp only [eye]
  split_ifs <;> simp

example : (C15Tree.inputs_from_dict_array 3 (get exM) 100).1 0 0 = 100 ∧ (C15Tree.inputs_from_dict_array 3 (get exM) 100).1 0 1 = 2 ∧
    ((C15Tree.inputs_from_dict_array 3 (get exM) 100).2.map fun o => o.map toU) = [some (.tip 0), some (.tip 1), some (.tip 2)] := by
  decide +kernel

/-- `UPGMA_cluster` as translated (loop body iterated `len(node_order) - 1` times on `upgma`'s inputs) returns the PhyloNode
whose tree is the hand model's `upgma n d big` — for ALL matrices and sizes -/
theorem gen_upgma_eq (n : Nat) (hpos : 0 < n) (d : Mat) (big : Rat) :
    upgma n d big =
      (genIter n big (C15Tree.UPGMA_cluster_trips (genInit n d big).2.1) (genInit n d big)).2.2.map toU := by
  obtain ⟨hA, hR, hT⟩ := genInit_rel n d big
  have ht : C15Tree.UPGMA_cluster_trips (genInit n d big).2.1 = n - 1 := by simp [C15Tree.UPGMA_cluster_trips, genInit]
  rw [ht]
  obtain ⟨_, _, h⟩ := gen_cluster_iter_sim n hpos big (n - 1) _ _ hA hR hT
  rw [upgma_eq]
  exact relO_tree _ _ h
example : (genIter 3 1000000 (C15Tree.UPGMA_cluster_trips (genInit 3 exM 1000000).2.1) (genInit 3 exM 1000000)).2.2.map toU =
    some (.node (.node (.tip 0) 1 (.tip 1) 1) 2 (.tip 2) 3) := by decide +kernel


/-- `get_dist_saved_join_score_matrix` as translated (column sums, `numpy.add.outer`, the three divisions) is entry by entry the model's `scoreAt` with the column sums -/
theorem gen_score_matrix_eq (d : Mat) (L : Nat) (score : Rat) (a b : Nat) :
    C15Tree.score_matrix L (get d) score a b = scoreAt d L (colSum d L) score a b := rfl
example : C15Tree.score_matrix 4 (get exQ) 0 0 1 = scoreAt exQ 4 (colSum exQ 4) 0 0 1 ∧ C15Tree.score_matrix 4 (get exQ) 0 0 1 = 12 := by decide +kernel


/-- the pair `gnj(keep=1)` joins is the first off-diagonal minimum of the TRANSLATED score matrix -/
theorem gen_pickPair_eq (pt : PT) :
    pickPair pt = argminOff pt.L (C15Tree.score_matrix pt.L (get pt.d) pt.score) :=
  pickPair_eq pt
example : argminOff 4 (C15Tree.score_matrix 4 (get exQ) 0) = (0, 1) := by decide +kernel


/-- `lengths` of `asScoreTreeTuple` as translated is the model's `finalLen` -/
theorem gen_final_lengths_eq (d : Mat) (a : Nat) : C15Tree.final_lengths 3 (get d) a = finalLen d a := rfl
example : C15Tree.final_lengths 3 (get [[0, 3, 4], [3, 0, 5], [4, 5, 0]]) 0 = 1 := by decide +kernel


/-- the distance array returned by the translated `PartialTree.join` (branch lengths, `new_dists`, the three stores into row / column `i`, "move the last row / column into `j`", the slice), materialised with side `L - 1`, is the model's `joinMat` — all matrices, all `i`, `j` -/
theorem gen_join_d_eq (pt : PT) (i j : Nat) (hn : pt.nodes.length = pt.L) :
    tab (pt.L - 1) (C15Tree.join pt.L (get pt.d) pt.nodes pt.score i j).1 = (NJ.join pt i j).d := by
  unfold NJ.join joinMat
  apply tab_congr
  intro a b ha hb
  -- inside the slice: the array after the three stores into row / column `i` is `base`, read through `src`
  show slice0 _ (pt.nodes.length - 1) a b = _
  rw [hn]
  unfold slice0
  rw [if_pos ⟨ha, hb⟩, move_apply]
  rfl
example : tab 3 (C15Tree.join 4 (get exQ) (star 4 exQ).nodes 0 0 1).1 = [[0, 7, 6], [7, 0, 5], [6, 5, 0]] := by decide +kernel


/-- the node list returned by the translated `join` (new `LightweightTreeNode` with the two clamped lengths stored at `i`, last node moved into `j`, `pop`) is the model's `joinNodes` -/
theorem gen_join_nodes_eq (pt : PT) (i j : Nat) (hn : pt.nodes.length = pt.L) (hi : i < pt.L) (hj : j < pt.L) :
    (C15Tree.join pt.L (get pt.d) pt.nodes pt.score i j).2.1 = (NJ.join pt i j).nodes := by
  unfold NJ.join
  simp only [C15Tree.join, hn]
  exact list_join_eq pt.nodes pt.L i j _ hn hi hj
example : (C15Tree.join 4 (get exQ) (star 4 exQ).nodes 0 0 1).2.1 = [.bin 1 (.tip 0) 2 (.tip 1), .tip 3, .tip 2] := by decide +kernel


/-- the score returned by the translated `join` -/
theorem gen_join_score_eq (pt : PT) (i j : Nat) :
    (C15Tree.join pt.L (get pt.d) pt.nodes pt.score i j).2.2 = (NJ.join pt i j).score := rfl

/-- the `length` that `convert` stores (tips and inner nodes, as translated) is the model's `clamp0`, and applying it to a length
that `join` has already clamped changes nothing — the model's reason for keeping the clamped lengths in `T.bin` -/
theorem gen_convert_length_eq (x : Rat) :
    C15Tree.tip_convert_length x = clamp0 x ∧ C15Tree.node_convert_length x = clamp0 x ∧
      C15Tree.node_convert_length (pymax 0 x) = pymax 0 x ∧ C15Tree.tip_convert_length (pymax 0 x) = pymax 0 x := by
  -- both translated functions are `pymax 0 ·`, which is idempotent
  have h : pymax 0 (pymax 0 x) = pymax 0 x := by
    unfold pymax
    split_ifs <;> rfl
  exact ⟨rfl, rfl, h, h⟩

example : C15Tree.tip_convert_length (-3) = 0 ∧ C15Tree.node_convert_length (5 / 2) = 5 / 2 := by decide +kernel

/-- one pass of the `gnj(keep=1)` loop through the translated functions (`genNjStep`: translated score matrix, first off-diagonal minimum, translated `join`) is the model's `join` of the model's `pickPair` -/
theorem gen_nj_step_eq (pt : PT) (hn : pt.nodes.length = pt.L) (h2 : 2 ≤ pt.L) :
    genNjStep pt = NJ.join pt (pickPair pt).1 (pickPair pt).2 := by
  have hp := gen_pickPair_eq pt
  obtain ⟨b1, b2, _⟩ := argminOff_spec pt.L h2 (C15Tree.score_matrix pt.L (get pt.d) pt.score)
  rw [← hp] at b1 b2
  unfold genNjStep
  simp only [← hp]
  have e2 := gen_join_nodes_eq pt (pickPair pt).1 (pickPair pt).2 hn b1 b2
  have e1 := gen_join_d_eq pt (pickPair pt).1 (pickPair pt).2 hn
  have e3 := gen_join_score_eq pt (pickPair pt).1 (pickPair pt).2
  have el : (C15Tree.join pt.L (get pt.d) pt.nodes pt.score (pickPair pt).1 (pickPair pt).2).2.1.length = pt.L - 1 := by
    rw [e2]; exact joinNodes_length _ _ _ _ _
  rw [el, e1, e2, e3]
  rfl
example : (star 4 exQ).nodes.length = (star 4 exQ).L ∧ 2 ≤ (star 4 exQ).L := by decide


/-- WHOLE LOOP of `gnj(keep=1)`: the translated pass iterated is the model's `njLoop pickPair`, for every fuel and every PartialTree whose node list has length `L` -/
theorem gen_nj_loop_eq (fuel : Nat) : ∀ (pt : PT), pt.nodes.length = pt.L → genNjLoop fuel pt = njLoop pickPair fuel pt := by
  induction fuel with
  | zero => intro pt _; rfl
  | succ k ih =>
    intro pt hn
    unfold genNjLoop njLoop
    split_ifs with h3
    · rfl
    · rw [gen_nj_step_eq pt hn (by omega)]
      apply ih
      show (joinNodes _ _ _ _ _).length = _
      exact joinNodes_length _ _ _ _ _

/-- `gnj(keep=1)` for three or more names, all of it through the translated functions, is the hand model `nj` -/
theorem gen_nj_eq (n : Nat) (d : Mat) (h : n ≠ 2) : genFinish (genNjLoop n (star n d)) = nj n d := by
  unfold nj
  rw [if_neg h, gen_nj_loop_eq n (star n d) (by simp [NJ.star])]
  rfl

example : genFinish (genNjLoop 4 (star 4 exQ)) = [(4, .bin 1 (.tip 0) 2 (.tip 1)), (3, .tip 3), (2, .tip 2)] := by decide +kernel

/-! ### the headline theorems, restated about the TRANSLATED code -/

/-- UPGMA on an ultrametric, through the translated `UPGMA_cluster` loop: for every ultrametric `D` on `n ≥ 2` labels (entries
below `BIG_NUM`) the PhyloNode returned stands for a tree that realises `D` (path length between tips = matrix entry), has
non-negative lengths, all tips at one depth, and each label exactly once -/
theorem gen_upgma_realises_ultrametric (D : Nat → Nat → Rat) (n : Nat) (hn : 2 ≤ n) (big : Rat)
    (hDs : ∀ a b, D a b = D b a) (hDn : ∀ a b, 0 ≤ D a b)
    (hDu : ∀ x y z, x < n → y < n → z < n → x ≠ y → y ≠ z → x ≠ z → D x z ≤ max (D x y) (D y z))
    (hbig : ∀ a b, a < n → b < n → a ≠ b → D a b < big) :
    ∃ p h, (genIter n big (C15Tree.UPGMA_cluster_trips (genInit n (tab n D) big).2.1) (genInit n (tab n D) big)).2.2 = some p ∧
      UReal D (toU p) ∧ NonNeg (toU p) ∧ (∀ q ∈ (toU p).depths, q.2 = h) ∧ ((toU p).depths.map (·.1)).Perm (List.range n) := by
  obtain ⟨t, h, e, rest⟩ := upgma_realises_ultrametric D n hn big hDs hDn hDu hbig
  rw [gen_upgma_eq n (by omega)] at e
  obtain ⟨p, hp, rfl⟩ := Option.map_eq_some_iff.mp e
  exact ⟨p, h, hp, rest⟩

example : ∃ p h, (genIter 3 1000000 (C15Tree.UPGMA_cluster_trips (genInit 3 (tab 3 exD) 1000000).2.1) (genInit 3 (tab 3 exD) 1000000)).2.2 = some p ∧
      UReal exD (toU p) ∧ NonNeg (toU p) ∧ (∀ q ∈ (toU p).depths, q.2 = h) ∧ ((toU p).depths.map (·.1)).Perm (List.range 3) :=
  gen_upgma_realises_ultrametric exD 3 (by omega) 1000000 exD_sym exD_nonneg exD_ultra exD_big

/-- neighbour joining on an additive matrix, through the translated score matrix / `join` / `lengths`: for every tree metric
(`splitDist` of a split system on `n ≥ 3` labels) the root built realises the matrix and carries each label exactly once -/
theorem gen_nj_realises_additive (n : Nat) (hn : 3 ≤ n) (Sg : WSplits) (hS : SplitSystem n Sg) :
    RootReal (splitDist Sg) (genFinish (genNjLoop n (star n (tab n (splitDist Sg))))) ∧
    (rootTips (genFinish (genNjLoop n (star n (tab n (splitDist Sg)))))).Perm (List.range n) := by
  rw [gen_nj_eq n _ (by omega)]
  exact nj_model_realises_additive n hn Sg hS

/- `SplitSystem 4 exSplits` is the example after `nj_realises_additive` in Props/C15NJ.lean; its metric is the quartet used above -/
example : tab 4 (splitDist exSplits) = exQ := by decide +kernel

end CogentModel.C15
