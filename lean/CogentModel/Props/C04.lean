import CogentModel.Model.View
import CogentModel.Model.FeatureView
import CogentModel.Model.FeatureSeq
import CogentModel.Spec.FeatureView
import CogentModel.Proofs.ViewInv
import CogentModel.Proofs.ViewCoords
import CogentModel.Proofs.FeatureView
import CogentModel.Proofs.FeatureOnView
import CogentModel.Proofs.FeatureResidues
import CogentModel.Proofs.FeatureCopy
import CogentModel.Model.FeatureAdd
import CogentModel.Proofs.FeatureAdd
import CogentModel.Model.FeatureProject
import CogentModel.Proofs.FeatureProject
import CogentModel.Proofs.UnitStrideHistory
import CogentModel.Proofs.FeatureContig
/-! # C04 — annotations keep denoting the same residues through every view

The model mirrors `make_feature` as it is since commit 11fcfbb18 (spans that only touch a view
boundary are dropped).  All theorems are about views satisfying C01's representation invariant
with `|step| = 1` (`UnitView`): by C01's `mk_inv` / `getitem_inv` / `reachable_inv` every view
reached by any history of slicing / reverse complementing satisfies `Inv`, at any `offset`.
`segStart v` is the absolute plus-strand start of the parent segment the view retains and
`len v` its length; `WF s` is C01's well-formedness of the `Sequence` wrapper (`Inv` + parent
string of the recorded length), preserved by `seq_wf_getitem` / `seq_wf_rc`.  Feature spans are
as the annotation db stores them (C17 `add_feature` normalisation): `0 ≤ start < end`, ordered
by start. -/
namespace CogentModel.C04
open CogentModel.View CogentModel.FeatureView CogentModel.FeatureSpec CogentModel.SeqWrap

/-- `feature_on_view` at the level of positions, for any view record (no parent string needed): the
absolute plus-strand positions read by `get_slice`, in order, are `denote`. -/
theorem feature_positions_on_view (v : View) (h : UnitView v) (hl : 0 < len v) (minus : Bool)
    (spans : List (Int × Int)) (hsp : ∀ sp ∈ spans, 0 ≤ sp.1 ∧ sp.1 < sp.2)
    (hsorted : spans.Pairwise (fun a b => a.1 ≤ b.1)) :
    ∃ f, featureOnView v minus spans = .ok f ∧
      slicePositions v f = denote spans minus (segStart v) (segStart v + len v) :=
  ⟨_, featureOnView_eq v hl minus spans hsp hsorted, built_positions v h minus spans⟩

example : UnitView { start := -3, stop := -8, step := -1, offset := 5, seqLen := 8 } ∧
    (match featureOnView { start := -3, stop := -8, step := -1, offset := 5, seqLen := 8 } false [(5, 8), (9, 12)] with
      | .ok f => slicePositions { start := -3, stop := -8, step := -1, offset := 5, seqLen := 8 } f == ([6, 7, 9, 10], false)
      | .error _ => false) = true := by
  decide +kernel

/-- **feature_on_view.**  For every well-formed nucleic `Sequence` whose view has unit stride
(forward or reverse complemented, any slicing depth, any annotation offset) and every feature
(any number of spans, either strand): `get_features` builds the feature without an exception
and `feature.get_slice()` returns exactly the parent residues at `denote f ∩ retained segment`,
in reading order, complemented iff the feature is on the minus strand. -/
theorem feature_on_view (comp : Char → Char) (hcomp : ∀ x, comp (comp x) = x) (s : Seq) (hw : WF s)
    (hn : s.nucleic = true) (hu : UnitView s.v) (hl : 0 < len s.v) (minus : Bool) (spans : List (Int × Int))
    (hsp : ∀ sp ∈ spans, 0 ≤ sp.1 ∧ sp.1 < sp.2) (hsorted : spans.Pairwise (fun a b => a.1 ≤ b.1)) :
    ∃ f, featureOnView s.v minus spans = .ok f ∧
      getSlice comp s f =
        (denote spans minus (segStart s.v) (segStart s.v + len s.v)).1.map
          (fun p => (if minus then comp else id) (s.parent[(p - s.v.offset).toNat]!)) := by
  have hpos := built_positions s.v hu minus spans
  rw [slicePositions, ← funext (viewPosAny_unit s.v hu.2)] at hpos
  exact ⟨_, featureOnView_eq s.v hl minus spans hsp hsorted, residues_of_positions comp hcomp s hw (fun _ => hn) _
    (sliceIdx_bounds _ _ (built_inView s.v minus spans)) _ _ hpos⟩

-- view `rc(parent[1:6])` of `CCCGGCAT`, feature spans (0,1),(2,3),(4,5) on the minus strand: the spans
-- (2,3),(4,5) are retained, (0,1) only touches the view start and is dropped
example :
    let s : Seq := { parent := "CCCGGCAT".toList, v := { start := -3, stop := -8, step := -1, offset := 0, seqLen := 8 }, nucleic := true }
    WF s ∧ UnitView s.v ∧
    (match featureOnView s.v true [(0, 1), (2, 3), (4, 5)] with
      | .ok f => getSlice (fun c => if c = 'G' then 'C' else if c = 'C' then 'G' else if c = 'A' then 'T' else if c = 'T' then 'A' else c) s f
                  == "CG".toList
      | .error _ => false) = true := by
  decide +kernel

/-- `get_features(start=a, stop=b)` sends to the annotation db exactly the absolute plus-strand
image of the relative window: `[p0+a, p0+b)` on a forward view, `[p0+L-b, p0+L-a)` on a
reverse-complemented one.  With C17's `partial_iff_overlap` / `within_iff` this is "exactly the
features overlapping / inside the queried window". -/
theorem query_window_exact (v : View) (h : UnitView v) (a b : Int) (ha : 0 ≤ a) (hab : a < b) (hb : b ≤ len v)
    (hoff : 0 ≤ v.offset) :
    queryWindow v (some a) (some b) =
      .ok (if v.step < 0 then (segStart v + (len v - b), segStart v + (len v - a))
           else (segStart v + a, segStart v + b)) := by
  have hseg := segStart_nonneg v h hoff
  rw [queryWindow_nonneg v a b ha hab hb]
  simp only [viewPosAny_unit v h.2, viewPos_seg v h]
  split
  · rw [Int.max_eq_left (by omega)]; congr 2 <;> omega
  · rw [Int.max_eq_left (by omega)]

example : UnitView { start := -3, stop := -9, step := -1, offset := 5, seqLen := 10 } ∧
    queryWindow { start := -3, stop := -9, step := -1, offset := 5, seqLen := 10 } (some 1) (some 4) = .ok (9, 12) := by
  decide +kernel

/-- Every absolute db coordinate is turned into its offset from the start of the retained parent
segment — on forward *and* reverse-complemented views. -/
theorem rel_coord_exact (v : View) (h : UnitView v) (hl : 0 < len v) (c : Int) (hc : 0 ≤ c) :
    relCoord v c = .ok (c - segStart v) := by
  rw [relCoord_ceil v hl c hc, relIdx_unit v h]

example : relCoord { start := -3, stop := -9, step := -1, offset := 5, seqLen := 10 } 9 = .ok 2 := by decide +kernel

/-- `relative_position(absolute_position(i)) = i` for every index of a non-empty unit-stride view
(and for the end boundary `i = len` with `include_boundary=True`). -/
theorem rel_abs_inverse (v : View) (h : UnitView v) (hl : 0 < len v) (hoff : 0 ≤ v.offset) (i : Int) (b : Bool)
    (h0 : 0 ≤ i) (h1 : i < len v ∨ (i = len v ∧ b = true)) :
    ∃ a, absolutePosition v i b = .ok a ∧ relativePosition v a false = .ok i := by
  refine ⟨absOf v i, absolutePosition_unit v h i b h0 h1 hl, ?_⟩
  have hpos : 0 ≤ absOf v i := by
    have := segStart_nonneg v h hoff
    unfold absOf; split <;> omega
  rw [relativePosition_unit v h hl _ hpos]
  unfold relOf absOf
  split <;> congr 1 <;> omega

/-- `absolute_position(relative_position(a)) = a` for every absolute coordinate of the retained
segment, boundaries included. -/
theorem abs_rel_inverse (v : View) (h : UnitView v) (hl : 0 < len v) (a : Int) (ha : 0 ≤ a)
    (h0 : segStart v ≤ a) (h1 : a ≤ segStart v + len v) :
    ∃ r, relativePosition v a false = .ok r ∧ absolutePosition v r true = .ok a := by
  refine ⟨relOf v a, relativePosition_unit v h hl a ha, ?_⟩
  have hr0 : 0 ≤ relOf v a := by unfold relOf; split <;> omega
  have hr1 : relOf v a < len v ∨ (relOf v a = len v ∧ true = true) := by
    unfold relOf; simp only [and_true]; split <;> omega
  rw [absolutePosition_unit v h _ true hr0 hr1 hl]
  unfold absOf relOf
  split <;> congr 1 <;> omega

example : absolutePosition { start := -3, stop := -9, step := -1, offset := 5, seqLen := 10 } 2 = .ok 11 ∧
    relativePosition { start := -3, stop := -9, step := -1, offset := 5, seqLen := 10 } 11 = .ok 2 := by decide +kernel

/-- **span_on_view** (full strength): one span through `make_feature`'s clipping and
`_spans_from_locations` never raises; its real part is exactly the span intersected with the
view `[0, L)` and lies inside the view. -/
theorem span_on_view (L s e : Int) (hL : 0 < L) (hse : s < e) :
    ∃ m, clipLocate L (s, e) = .ok m ∧
      realSpans m = (if max s 0 < min e L then [(max s 0, min e L)] else []) ∧
      (∀ a b, MSpan.span a b ∈ m → 0 ≤ a ∧ a ≤ b ∧ b ≤ L) := by
  unfold clipLocate
  rw [clipSpan_eq_clipped L hL (s, e) (Int.le_of_lt hse), clipped]
  by_cases h : max s 0 < min e L
  · rw [if_pos h, if_pos h]
    refine ⟨_, locate_inView L _ (by simp only []; omega), rfl, fun a b hm => ?_⟩
    obtain ⟨rfl, rfl⟩ := MSpan.span.inj (List.mem_singleton.mp hm)
    omega
  · rw [if_neg h, if_neg h]
    exact ⟨[], rfl, rfl, fun a b hm => nomatch hm⟩

example : clipLocate 5 (-2, 9) = .ok [.span 0 5] ∧ clipLocate 5 (3, 9) = .ok [.span 3 5] ∧
    clipLocate 5 (7, 9) = .ok [] ∧ clipLocate 5 (-1, 0) = .ok [] ∧ clipLocate 5 (5, 8) = .ok [] := by decide +kernel

/-- **no_raise_partial_feature** (full strength): `make_feature` returns a feature — never an
exception — for every record on a view of positive length, however its spans fall relative to the
view (inside, straddling, touching, outside), forward or reverse complemented. -/
theorem no_raise_partial_feature (L : Int) (rced minus : Bool) (spans : List (Int × Int)) (hL : 0 < L)
    (hsp : ∀ sp ∈ spans, sp.1 < sp.2) (hsorted : spans.Pairwise (fun a b => a.1 ≤ b.1)) :
    ∃ f, makeFeature L rced minus spans = .ok f :=
  ⟨_, makeFeature_eq L rced minus spans hL (fun sp h => Int.le_of_lt (hsp sp h)) hsorted⟩

-- a span ending exactly at the view start is dropped, not an error
example : makeFeature 5 false false [(-1, 0), (1, 2), (3, 4)] =
    .ok { spans := [.lost 1, .span 1 2, .span 3 4], reversed := false } := by decide +kernel
example : makeFeature 5 true false [(-3, 1), (2, 3), (4, 8)] =
    .ok { spans := [.lost 3, .span 0 1, .span 2 3, .span 4 5, .lost 3], reversed := true } := by decide +kernel

/-- The strand flag: the letters `get_slice` returns are complemented iff the *feature* is on the
minus strand, whatever the orientation of the view. -/
theorem complement_iff_minus (L : Int) (rced minus : Bool) (spans : List (Int × Int)) (f : Feat)
    (h : makeFeature L rced minus spans = .ok f) : (rced != f.reversed) = minus := by
  unfold makeFeature at h
  simp only [] at h
  split at h
  · cases h
  · cases rced
    · simp only [Bool.false_eq_true, if_false, Except.ok.injEq] at h
      subst h; cases minus <;> rfl
    · simp only [if_true] at h
      split at h
      · cases h
      · simp only [Except.ok.injEq] at h
        subst h; cases minus <;> rfl

example : (makeFeature 5 true true [(1, 3)]) = .ok { spans := [.span 2 4], reversed := false } := by decide +kernel

/-- **projection_denotes.**  `Aligned.make_feature` projects a sequence feature onto the alignment
through `inverted[feature.map]` with `inverted = aligned_map.to_feature_map().inverse()`.  For any
aligned row `A` (one map position per alignment column: a sequence position, or lost for a gap;
ordered, inside the sequence) and any sequence feature map `fm` whose residues are all present in
the row: the projection never fails, its parent is the alignment (`len A` columns), and its `j`-th
position is the alignment column `k` that holds exactly the residue `p` which the sequence feature
has at its `j`-th position — for multi-span and reversed features alike, with gaps inside or
between the spans.  (C08's `FeatureMap` model: `inverse_is_converse`, `getitem_is_composition`.) -/
theorem projection_denotes (A fm : FMap.FM) (hA : FMap.SortedFwd A) (hpl : 0 < A.parentLength)
    (hfm : ∀ x ∈ fm.spans, x.idxIn A.parentLength)
    (hcov : ∀ (j : Nat) (p : Int), (FMap.cover fm)[j]? = some (some p) → ∃ k : Nat, (FMap.cover A)[k]? = some (some p)) :
    ∃ r, FMap.project A fm = .ok r ∧ r.parentLength = FMap.len A ∧
      ∀ (j : Nat) (p : Int), (FMap.cover fm)[j]? = some (some p) →
        ∃ k : Nat, (FMap.cover r)[j]? = some (some (k : Int)) ∧ (FMap.cover A)[k]? = some (some p) := by
  obtain ⟨I, r, hr, hrp, hrc, hinv⟩ := FMap.project_cover A fm hA hpl hfm
  refine ⟨r, hr, hrp, fun j p hj => ?_⟩
  obtain ⟨k, hk⟩ := hcov j p hj
  exact ⟨k, by rw [hrc, List.getElem?_map, hj, Option.map_some, hinv k p hk], hk⟩

-- row `AC--GT-A` (sequence ACGTA), feature spans (1,3),(4,5) read reversed: columns of C,G and of the last A
example :
    let A : FMap.FM := ⟨[.span 0 2 false, .lost 2, .span 2 4 false, .lost 1, .span 4 5 false], 5⟩
    let fm : FMap.FM := ⟨[.span 4 5 true, .span 1 3 true], 5⟩
    FMap.SortedFwd A ∧ (∀ x ∈ fm.spans, x.idxIn A.parentLength) ∧
    (FMap.project A fm).toOption.map FMap.cover = some [some 7, some 4, some 1] := by
  decide +kernel

-- a second witness for `feature_on_view` whose answer is NOT its own reverse complement (the one above, "CG", is):
-- view `rc(parent[2:8])` of `ACGTTGCAAT`, minus-strand feature (1,4),(6,9): retained plus-strand residues
-- `GT` + `CA`, read on the minus strand: `TGAC`; and the same feature on the plus strand of the same view: `GTCA`
example :
    let s : Seq := { parent := "ACGTTGCAAT".toList, v := { start := -3, stop := -9, step := -1, offset := 0, seqLen := 10 }, nucleic := true }
    let comp : Char → Char := fun c => if c = 'G' then 'C' else if c = 'C' then 'G' else if c = 'A' then 'T' else if c = 'T' then 'A' else c
    WF s ∧ UnitView s.v ∧
    (match featureOnView s.v true [(1, 4), (6, 9)] with
      | .ok f => getSlice comp s f == "TGAC".toList
      | .error _ => false) = true ∧
    (match featureOnView s.v false [(1, 4), (6, 9)] with
      | .ok f => getSlice comp s f == "GTCA".toList
      | .error _ => false) = true := by
  decide +kernel

/-- `feature_on_view` without the nucleic-acid hypothesis, for what a protein (or any other
non-nucleic) sequence can have: a forward view and a plus-strand feature.  No complement is
involved. -/
theorem feature_on_forward_view_any_moltype (comp : Char → Char) (hcomp : ∀ x, comp (comp x) = x) (s : Seq)
    (hw : WF s) (hu : UnitView s.v) (hf : 0 < s.v.step) (hl : 0 < len s.v) (spans : List (Int × Int))
    (hsp : ∀ sp ∈ spans, 0 ≤ sp.1 ∧ sp.1 < sp.2) (hsorted : spans.Pairwise (fun a b => a.1 ≤ b.1)) :
    ∃ f, featureOnView s.v false spans = .ok f ∧
      getSlice comp s f =
        (denote spans false (segStart s.v) (segStart s.v + len s.v)).1.map
          (fun p => s.parent[(p - s.v.offset).toNat]!) := by
  have hpos := built_positions s.v hu false spans
  rw [slicePositions, ← funext (viewPosAny_unit s.v hu.2)] at hpos
  exact ⟨_, featureOnView_eq s.v hl false spans hsp hsorted, residues_of_positions comp hcomp s hw
    (fun h => absurd h (by omega)) _ (sliceIdx_bounds _ _ (built_inView s.v false spans)) _ _ hpos⟩

example :
    let s : Seq := { parent := "MKVLAAGIW".toList, v := { start := 2, stop := 7, step := 1, offset := 0, seqLen := 9 }, nucleic := false }
    WF s ∧ UnitView s.v ∧
    (match featureOnView s.v false [(0, 3), (5, 9)] with
      | .ok f => getSlice id s f == "VAG".toList
      | .error _ => false) = true := by
  decide +kernel

/-- **unit_history_inv.**  Every history of slices with step `None`/`1`/`-1`, integer indexing and
(on nucleic acids) `rc()` leads from a well-formed unit-stride `Sequence` to a well-formed
unit-stride `Sequence`: the hypotheses `WF`/`UnitView` of the per-view theorems above hold after
ANY such history (C01's `reachable_inv` gives `Inv`; what this adds is that the stride stays 1). -/
theorem unit_history_inv (ops : List SeqWrap.SOp) (s s' : Seq) (hw : WF s) (hu : UnitView s.v)
    (hops : ∀ op ∈ ops, op.unit s.nucleic) (h : SeqWrap.runOps s ops = .ok s') :
    WF s' ∧ UnitView s'.v ∧ s'.nucleic = s.nucleic :=
  SeqWrap.runOps_induction (I := fun t => WF t ∧ UnitView t.v ∧ t.nucleic = s.nucleic) ops
    (fun t t' op ho ⟨h1, h2, h3⟩ ht =>
      have ⟨g1, g2, g3⟩ := SeqWrap.step1_unit t t' op h1 h2 (h3 ▸ hops op ho) ht
      ⟨g1, g2, g3.trans h3⟩)
    s s' ⟨hw, hu, rfl⟩ h

/-- **feature_after_history.**  The property for whole histories, on C01's `Sequence` wrapper: start
from any well-formed unit-stride nucleic `Sequence` `s` (e.g. `ofString t true`, at any annotation
offset), apply ANY history `ops` of unit-step slices / integer indexing / `rc()`; if the resulting
view `s'` is not empty then for every feature (any number of spans, either strand)
* the displayed string of `s'` is what the same history does to the plain string `str s`
  (C01 `seq_chain_spec`),
* `get_features` on `s'` builds the feature without an exception, and
* `feature.get_slice()` is exactly the residues of the ORIGINAL parent string (read at the ORIGINAL
  offset) at `denote f ∩ segment retained by s'`, in reading order, complemented iff the feature
  is on the minus strand. -/
theorem feature_after_history (comp : Char → Char) (hcomp : ∀ x, comp (comp x) = x) (s s' : Seq) (hw : WF s)
    (hn : s.nucleic = true) (hu : UnitView s.v) (ops : List SeqWrap.SOp) (hops : ∀ op ∈ ops, op.unit s.nucleic)
    (hrun : SeqWrap.runOps s ops = .ok s') (hl : 0 < len s'.v) (minus : Bool) (spans : List (Int × Int))
    (hsp : ∀ sp ∈ spans, 0 ≤ sp.1 ∧ sp.1 < sp.2) (hsorted : spans.Pairwise (fun a b => a.1 ≤ b.1)) :
    SeqWrap.specRun comp s.nucleic (SeqWrap.str comp s) ops = some (SeqWrap.str comp s') ∧
    ∃ f, featureOnView s'.v minus spans = .ok f ∧
      getSlice comp s' f =
        (denote spans minus (segStart s'.v) (segStart s'.v + len s'.v)).1.map
          (fun p => (if minus then comp else id) (s.parent[(p - s.v.offset).toNat]!)) := by
  obtain ⟨hw', hu', hn'⟩ := unit_history_inv ops s s' hw hu hops hrun
  obtain ⟨hp, ho⟩ := SeqWrap.runOps_parent ops s s' hw' hrun hl
  have hspec := ((SeqWrap.runOps_spec comp hcomp ops s hw (fun op h => SeqWrap.SOp.unit_ok (hops op h))).1 s' hrun).1
  obtain ⟨f, h1, h2⟩ := feature_on_view comp hcomp s' hw' (by rw [hn', hn]) hu' hl minus spans hsp hsorted
  exact ⟨hspec, f, h1, by rw [h2, hp, ho]⟩

-- `s = ACGTTGCAAT` at annotation offset 5, history `[2:9]`, `rc()`, `[1:]`, `[:-1]`, `rc()`, `[0:4]`:
-- the view retains absolute [8, 12) = `TTGC` of the 10 letters; minus-strand feature (6,9),(11,14) keeps
-- position 8 and position 11: plus-strand `T`,`C`, read on the minus strand `GA`
example :
    let comp : Char → Char := fun c => if c = 'G' then 'C' else if c = 'C' then 'G' else if c = 'A' then 'T' else if c = 'T' then 'A' else c
    let s : Seq := { parent := "ACGTTGCAAT".toList, v := { start := 0, stop := 10, step := 1, offset := 5, seqLen := 10 }, nucleic := true }
    let ops : List SeqWrap.SOp := [.slice (some 2) (some 9) none, .rc, .slice (some 1) none none,
      .slice none (some (-1)) (some 1), .rc, .slice (some 0) (some 4) none]
    WF s ∧ UnitView s.v ∧ (∀ op ∈ ops, op.unit s.nucleic) ∧
    (match SeqWrap.runOps s ops with
      | .ok s' => decide (0 < len s'.v) && (SeqWrap.str comp s' == "TTGC".toList) &&
          (match featureOnView s'.v true [(6, 9), (11, 14)] with
            | .ok f => getSlice comp s' f == "GA".toList
            | .error _ => false)
      | .error _ => false) = true := by
  decide +kernel

/-- `get_features()` with no window (and equally `start=0`, `stop=len(self)`) queries the db with
exactly the retained parent segment. -/
theorem query_window_default (v : View) (h : UnitView v) (hl : 0 < len v) (hoff : 0 ≤ v.offset) :
    queryWindow v none none = .ok (segStart v, segStart v + len v) := by
  have e1 : orDefault (some 0) 0 = orDefault none 0 := by simp [orDefault]
  have e2 : orDefault (some (len v)) (len v) = orDefault none (len v) := by simp [orDefault]
  have e : queryWindow v none none = queryWindow v (some 0) (some (len v)) := by
    simp only [queryWindow, e1, e2]
  rw [e, query_window_exact v h 0 (len v) (by omega) hl (by omega) hoff]
  split <;> simp

example : queryWindow { start := -3, stop := -9, step := -1, offset := 5, seqLen := 10 } none none = .ok (7, 13) := by
  decide +kernel

/-- a window written with negative indices denotes the same absolute window as its non-negative spelling -/
theorem query_window_negative (v : View) (a b : Int) (ha : 0 ≤ a) (hab : a < b) (hb : b < len v) :
    queryWindow v (some (a - len v)) (some (b - len v)) = queryWindow v (some a) (some b) := by
  have h1 : a - len v ≠ 0 := by omega
  have h2 : b - len v ≠ 0 := by omega
  have h3 : b ≠ 0 := by omega
  have h4 : a - len v < 0 := by omega
  have h5 : b - len v < 0 := by omega
  have h6 : ¬ b < 0 := by omega
  have h7 : ¬ a < 0 := by omega
  have h8 : a - len v + len v = a := by omega
  have h9 : b - len v + len v = b := by omega
  have hA : (if a = 0 then (0 : Int) else a) = a := by split <;> omega
  simp only [queryWindow, orDefault, hA, if_neg h1, if_neg h2, if_neg h3, if_pos h4, if_pos h5, if_neg h6,
    if_neg h7, h8, h9]

example : queryWindow { start := -3, stop := -9, step := -1, offset := 5, seqLen := 10 } (some (-5)) (some (-2)) =
    queryWindow { start := -3, stop := -9, step := -1, offset := 5, seqLen := 10 } (some 1) (some 4) := by decide +kernel

/-- `get_features(start=b, stop=a)` with the bounds the wrong way round is the window `[a, b)` -/
theorem query_window_swapped (v : View) (a b : Int) (ha : 0 < a) (hab : a < b) :
    queryWindow v (some b) (some a) = queryWindow v (some a) (some b) := by
  have h1 : a ≠ 0 := by omega
  have h2 : b ≠ 0 := by omega
  have h3 : ¬ a < 0 := by omega
  have h4 : ¬ b < 0 := by omega
  have h5 : ¬ b < a := by omega
  simp only [queryWindow, orDefault, if_neg h1, if_neg h2, if_neg h3, if_neg h4, if_neg h5, if_pos hab]

example : queryWindow { start := -3, stop := -9, step := -1, offset := 5, seqLen := 10 } (some 4) (some 1) = .ok (9, 12) := by
  decide +kernel

/-! ## Strided views (`|step| > 1`)

What `get_features` does there: every db coordinate `c` becomes `ceil((c - p0)/k)` (`relative_position`
rounds up), so a span `[s, e)` becomes the range of view indices `i` with `s ≤ p0 + i·k < e` — exactly
the SHOWN positions that lie in the span.  So on a strided view a feature denotes the shown residues
inside its spans, read on the feature's strand; never an exception. -/

/-- Forward views of ANY stride `k ≥ 1` (no further invariant needed). -/
theorem feature_on_strided_forward_view (v : View) (hk : 0 < v.step) (hl : 0 < len v) (minus : Bool)
    (spans : List (Int × Int)) (hsp : ∀ sp ∈ spans, 0 ≤ sp.1 ∧ sp.1 < sp.2)
    (hsorted : spans.Pairwise (fun a b => a.1 ≤ b.1)) :
    ∃ f, featureOnView v minus spans = .ok f ∧
      slicePositionsAny v f = denoteShown (shownFwd (v.offset + v.start) v.step (len v)) spans minus := by
  have e : shown v = shownFwd (v.offset + v.start) v.step (len v) := by
    unfold shown shownFwd viewPosAny
    rw [if_neg (by omega), if_pos hk]
  exact ⟨_, featureOnView_eq v hl minus spans hsp hsorted, e ▸ built_shown v (by omega) minus spans⟩

-- parent[2:11:3] at offset 5 shows absolute 7, 10, 13; feature (6,8),(9,14) on the minus strand
example :
    (match featureOnView { start := 2, stop := 11, step := 3, offset := 5, seqLen := 12 } true [(6, 8), (9, 14)] with
      | .ok f => slicePositionsAny { start := 2, stop := 11, step := 3, offset := 5, seqLen := 12 } f == ([13, 10, 7], true)
      | .error _ => false) = true ∧
    denoteShown (shownFwd 7 3 3) [(6, 8), (9, 14)] true = ([13, 10, 7], true) := by
  decide +kernel

/-- Reversed views of any stride (`step = -k`, e.g. `rc` of a strided view): `shownRev v` are the shown
positions in plus-strand order. -/
theorem feature_on_strided_reversed_view (v : View) (hk : v.step < 0) (hl : 0 < len v) (minus : Bool)
    (spans : List (Int × Int)) (hsp : ∀ sp ∈ spans, 0 ≤ sp.1 ∧ sp.1 < sp.2)
    (hsorted : spans.Pairwise (fun a b => a.1 ≤ b.1)) :
    ∃ f, featureOnView v minus spans = .ok f ∧
      slicePositionsAny v f = denoteShown (shownRev v) spans minus :=
  have e : shown v = shownRev v := if_pos hk
  ⟨_, featureOnView_eq v hl minus spans hsp hsorted, e ▸ built_shown v (by omega) minus spans⟩

-- the same three positions shown by the reversed view (start -2, stop -11, step -3 on a 12-mer at offset 5)
example :
    shownRev { start := -2, stop := -11, step := -3, offset := 5, seqLen := 12 } = [9, 12, 15] ∧
    (match featureOnView { start := -2, stop := -11, step := -3, offset := 5, seqLen := 12 } false [(6, 10), (11, 14)] with
      | .ok f => slicePositionsAny { start := -2, stop := -11, step := -3, offset := 5, seqLen := 12 } f == ([9, 12], false)
      | .error _ => false) = true := by
  decide +kernel

/-- `Sequence.copy()` (sliced: the view is re-created over the truncated parent with
`annotation_offset = parent_start`) keeps unit stride, orientation, the retained segment — and hence the
positions EVERY feature denotes.  `copy(sliced=False)` and `copy.deepcopy` keep the slice record itself, so
for them this is `feature_positions_on_view` on the same record. -/
theorem copy_preserves_features (v : View) (h : UnitView v) (hl : 0 < len v) (minus : Bool)
    (spans : List (Int × Int)) (hsp : ∀ sp ∈ spans, 0 ≤ sp.1 ∧ sp.1 < sp.2)
    (hsorted : spans.Pairwise (fun a b => a.1 ≤ b.1)) :
    ∃ w f f', copyView v = .ok w ∧ UnitView w ∧ segStart w = segStart v ∧ len w = len v ∧ w.step = v.step ∧
      featureOnView v minus spans = .ok f ∧ featureOnView w minus spans = .ok f' ∧
      slicePositions w f' = slicePositions v f := by
  obtain ⟨w, hw, hu, hseg, hlw, hst⟩ := copyView_spec v h hl
  obtain ⟨f, hf, hp⟩ := feature_positions_on_view v h hl minus spans hsp hsorted
  obtain ⟨f', hf', hp'⟩ := feature_positions_on_view w hu (by omega) minus spans hsp hsorted
  exact ⟨w, f, f', hw, hu, hseg, hlw, hst, hf, hf', by rw [hp, hp', hseg, hlw]⟩

example : copyView { start := -3, stop := -8, step := -1, offset := 5, seqLen := 8 }
    = .ok { start := -1, stop := -6, step := -1, offset := 6, seqLen := 5 } := by decide +kernel

/-- **Degapping the own-row slice of an alignment feature.**  Reading the aligned row `A` at the columns of
the projected feature (`readRow`: the sequence position shown in a column, nothing for a gap) gives back
exactly the positions of the sequence feature, in order, lost parts staying lost: the degapped own-row slice
of `aln.get_features(seqid=…)` is the sequence feature's residues.  (`Sequence.degap()` on a plain sequence
is a different operation and is NOT correct: open finding C04-degap-detaches-the-sequence-from-its-annotations.) -/
theorem degapped_own_row_denotes (A fm : FMap.FM) (hA : FMap.SortedFwd A) (hpl : 0 < A.parentLength)
    (hfm : ∀ x ∈ fm.spans, x.idxIn A.parentLength)
    (hcov : ∀ (j : Nat) (p : Int), (FMap.cover fm)[j]? = some (some p) → ∃ k : Nat, (FMap.cover A)[k]? = some (some p)) :
    ∃ r, FMap.project A fm = .ok r ∧ (FMap.cover r).map (FMap.readRow A) = FMap.cover fm := by
  obtain ⟨I, r, hr, -, hrc, hinv⟩ := FMap.project_cover A fm hA hpl hfm
  refine ⟨r, hr, ?_⟩
  rw [hrc, List.map_map]
  conv => rhs; rw [← List.map_id (FMap.cover fm)]
  apply List.map_congr_left
  intro o ho
  cases o with
  | none => rfl
  | some p =>
    obtain ⟨j, hj, hjj⟩ := List.mem_iff_getElem.mp ho
    obtain ⟨k, hk⟩ := hcov j p (by rw [List.getElem?_eq_getElem hj, hjj])
    -- column `k` of the row shows `p`, and the inverse sends `p` to `k`
    show FMap.readRow A (FMap.compose (FMap.cover I) (some p)) = some p
    rw [hinv k p hk, FMap.readRow, FMap.coverAt, if_neg (by omega), Int.toNat_natCast, hk]
    rfl

example :
    let A : FMap.FM := ⟨[.span 0 2 false, .lost 2, .span 2 4 false, .lost 1, .span 4 5 false], 5⟩
    let fm : FMap.FM := ⟨[.span 4 5 true, .span 1 3 true], 5⟩
    ((FMap.project A fm).toOption.map fun r => (FMap.cover r).map (FMap.readRow A)) = some (FMap.cover fm) := by
  decide +kernel

/-- **New-style `_mapped`.**  `get_slice()` on a new-style sequence raises `ValueError('cannot set offset …')`
exactly when the retained part of the feature is ONE span that does not start at view index 0 and the view
carries an offset (open finding C04-new-sequence-feature-slice-offset-guard); in every other case it
returns the residues of `getSlice`, i.e. those of `feature_on_view`. -/
theorem new_mapped_guard_exact (comp : Char → Char) (s : Seq) (f : Feat) :
    (getSliceNew comp s f = .error .valueError ↔
      ∃ a b, realOf f.spans = [(a, b)] ∧ a ≠ 0 ∧ s.v.offset ≠ 0) ∧
    ((¬ ∃ a b, realOf f.spans = [(a, b)] ∧ a ≠ 0 ∧ s.v.offset ≠ 0) →
      getSliceNew comp s f = .ok (getSlice comp s f)) := by
  refine ⟨⟨?_, ?_⟩, getSliceNew_ok comp s f⟩
  · intro he
    by_cases h : ∃ a b, realOf f.spans = [(a, b)] ∧ a ≠ 0 ∧ s.v.offset ≠ 0
    · exact h
    · rw [getSliceNew_ok comp s f h] at he; cases he
  · rintro ⟨a, b, h1, h2, h3⟩
    exact getSliceNew_err comp s f a b h1 h2 h3

/-- … in particular a new-style sequence WITHOUT offset behaves as `feature_on_view` says. -/
theorem feature_on_new_style_view_without_offset (comp : Char → Char) (hcomp : ∀ x, comp (comp x) = x) (s : Seq)
    (hw : WF s) (hn : s.nucleic = true) (hu : UnitView s.v) (hl : 0 < len s.v) (hoff : s.v.offset = 0)
    (minus : Bool) (spans : List (Int × Int)) (hsp : ∀ sp ∈ spans, 0 ≤ sp.1 ∧ sp.1 < sp.2)
    (hsorted : spans.Pairwise (fun a b => a.1 ≤ b.1)) :
    ∃ f, featureOnView s.v minus spans = .ok f ∧
      getSliceNew comp s f = .ok ((denote spans minus (segStart s.v) (segStart s.v + len s.v)).1.map
          (fun p => (if minus then comp else id) (s.parent[(p - s.v.offset).toNat]!))) := by
  obtain ⟨f, hf, hs⟩ := feature_on_view comp hcomp s hw hn hu hl minus spans hsp hsorted
  refine ⟨f, hf, ?_⟩
  rw [getSliceNew_ok comp s f (by rintro ⟨a, b, _, _, h3⟩; exact h3 hoff), hs]

example :
    let s : Seq := { parent := "ACGTACGTAC".toList, v := { start := 0, stop := 10, step := 1, offset := 3, seqLen := 10 }, nucleic := true }
    (match featureOnView s.v false [(5, 8)] with
      | .ok f => getSliceNew id s f == .error .valueError
      | .error _ => false) = true := by
  decide +kernel

/-! ## Features ADDED on a view, and the lost-span bookkeeping (code as of 0c76d24f6 / dea246735) -/

/-- **added_feature_denotes_view_spans.**  `v.add_feature(spans, strand)` on any unit-stride view (forward or
reverse complemented, sliced, with offset) writes a db record which, asked for again on the same view,
gives a feature whose real spans are exactly the spans given — `get_slice()` reads `str(v)[a:b]` over them —
and which is reversed iff the strand given (as seen on the view) is `-`. -/
theorem added_feature_denotes_view_spans (v : View) (h : UnitView v) (hl : 0 < len v) (hoff : 0 ≤ v.offset)
    (minus : Bool) (spans : List (Int × Int)) (hs : ViewSpans (len v) spans) :
    ∃ db dm f, addFeatureRecord v spans minus = .ok (db, dm) ∧ featureOnView v dm db = .ok f ∧
      sliceIdx f = spans.flatMap (fun sp => seg sp.1 sp.2) ∧ f.reversed = minus := by
  obtain ⟨db, dm, f, h1, h2, h3, h4, -⟩ := added_feature_spec_full v h hl hoff minus spans hs
  exact ⟨db, dm, f, h1, h2, by rw [sliceIdx_realOf, h3], h4⟩

-- `s[3:11].rc()` of a 15-mer: spans (1,3) as seen on the view are stored as plus-strand (8,10), strand flipped
example : addFeatureRecord { start := -5, stop := -13, step := -1, offset := 0, seqLen := 15 } [(1, 3)] false
    = .ok ([(8, 10)], true) := by decide +kernel

/-- The lost spans of a single-span feature add up: left overhang, retained part, right overhang — once each —
so `len(feature)` is the feature's length however it overhangs a forward view. -/
theorem single_span_lost_spans_add_up (L s e : Int) (minus : Bool) (hL : 0 < L) (hse : s < e)
    (hi : max s 0 < min e L) :
    makeFeature L false minus [(s, e)] =
      .ok { spans := (if s < 0 then [MSpan.lost (-s)] else []) ++ [MSpan.span (max s 0) (min e L)] ++
                     (if e > L then [MSpan.lost (e - L)] else []),
            reversed := minus } := by
  rw [makeFeature_eq L false minus _ hL (fun sp h => by cases List.mem_singleton.mp h; exact Int.le_of_lt hse)
    (List.pairwise_singleton _ _)]
  simp only [cutMap, spanOf, List.filterMap_cons, List.filterMap_nil, clipped, if_pos hi, List.map_cons, List.map_nil,
    minOfSpans, maxOfSpans, Int.min_eq_left (Int.le_of_lt hse), Int.max_eq_right (Int.le_of_lt hse), Bool.false_eq_true,
    if_false, Bool.bne_false]

-- feature (2,12) on the view [4:9] is [-2-, 0:5, -3-]
example : makeFeature 5 false false [(-2, 8)] = .ok { spans := [.lost 2, .span 0 5, .lost 3], reversed := false } := by
  decide +kernel

/-- `feature.get_slice(allow_gaps=True)` (the contiguous form, `parent[fmap.start : fmap.end]`): for a feature with ONE
retained span it is the same residues as `get_slice()`, on either strand, on any view. -/
theorem contiguous_slice_single_span (comp : Char → Char) (s : SeqWrap.Seq) (f : Feat) (a b : Int)
    (h : realOf f.spans = [(a, b)]) : getSliceContig comp s f = getSlice comp s f := by
  unfold getSliceContig getSlice
  rw [sliceIdx_realOf, contigIdx, h]
  simp [mapStart, mapEnd, irange_eq_seg]

/-- The contiguous form reads the view from the start of the FIRST retained span to the end of the LAST one (spans as
`make_feature` leaves them: non-empty, ordered, disjoint). -/
theorem contiguous_slice_hull (f : Feat) (p : Int × Int) (r : List (Int × Int)) (h : realOf f.spans = p :: r)
    (hs : (p :: r).Pairwise (fun a b => a.2 ≤ b.1)) (hp : ∀ q ∈ p :: r, q.1 < q.2) :
    contigIdx f = irange p.1 ((p :: r).getLast (List.cons_ne_nil _ _)).2 :=
  contigIdx_disjoint f (p :: r) h (List.cons_ne_nil _ _) ⟨hs, hp⟩

/-- The contiguous form is read on the feature's strand: for a feature reversed relative to its view it is the reverse
complement of what the same map gives un-reversed (`_do_seq_slice` applies to both forms of `get_slice`). -/
theorem contiguous_slice_on_feature_strand (comp : Char → Char) (s : SeqWrap.Seq) (m : List MSpan) :
    getSliceContig comp s { spans := m, reversed := true } =
      ((getSliceContig comp s { spans := m, reversed := false }).reverse).map comp :=
  rfl

example :
    let s : SeqWrap.Seq := { parent := "ACGTACGTACGTACGT".toList, v := { start := 4, stop := 9, step := 1, offset := 0, seqLen := 16 }, nucleic := true }
    let comp : Char → Char := fun c => if c = 'A' then 'T' else if c = 'T' then 'A' else if c = 'C' then 'G' else if c = 'G' then 'C' else c
    (match featureOnView s.v true [(1, 6), (7, 12)] with
      | .ok f => getSlice comp s f == "TAGT".toList && getSliceContig comp s f == "TACGT".toList
      | .error _ => false) = true := by
  decide +kernel

/-- **contiguous_positions_on_view.**  For every unit-stride view satisfying C01's invariant and every feature as the db
stores it (spans non-empty, ordered and pairwise DISJOINT, either strand): `get_features` builds the feature without
exception and the contiguous form `get_slice(allow_gaps=True)` reads exactly `denoteContig` — every parent position from
the FIRST to the LAST retained position of the feature (introns and clipped-away spans in between included), in reading
order on the feature's strand; nothing when no position of the feature is retained. -/
theorem contiguous_positions_on_view (v : View) (h : UnitView v) (hl : 0 < len v) (minus : Bool)
    (spans : List (Int × Int)) (hsp : ∀ sp ∈ spans, 0 ≤ sp.1 ∧ sp.1 < sp.2)
    (hdis : spans.Pairwise (fun a b => a.2 ≤ b.1)) :
    ∃ f, featureOnView v minus spans = .ok f ∧
      contigPositions v f = denoteContig spans minus (segStart v) (segStart v + len v) :=
  have hd : FeatureView.Disjoint spans := ⟨hdis, fun q hq => (hsp q hq).2⟩
  ⟨_, featureOnView_eq v hl minus spans hsp hd.sorted, built_contigPositions v h minus spans hd⟩

-- reversed view of parent positions [5, 10) at offset 5; feature (5,7),(8,9),(11,14): retained 5,6,8 -> hull 5..8
example : (match featureOnView { start := -4, stop := -9, step := -1, offset := 5, seqLen := 8 } true [(5, 7), (8, 9), (11, 14)] with
      | .ok f => contigPositions { start := -4, stop := -9, step := -1, offset := 5, seqLen := 8 } f
                   == denoteContig [(5, 7), (8, 9), (11, 14)] true 5 10
                 && (denoteContig [(5, 7), (8, 9), (11, 14)] true 5 10).1 == [8, 7, 6, 5]
      | .error _ => false) = true := by
  decide +kernel

/-- **contiguous_feature_on_view.**  The same at the level of residues, on C01's well-formed Sequence wrapper:
`feature.get_slice(allow_gaps=True)` returns exactly the parent residues at `denoteContig`, complemented iff the feature
is on the minus strand (the residue-level companion of `feature_on_view` for the contiguous form). -/
theorem contiguous_feature_on_view (comp : Char → Char) (hcomp : ∀ x, comp (comp x) = x) (s : Seq) (hw : WF s)
    (hn : s.nucleic = true) (hu : UnitView s.v) (hl : 0 < len s.v) (minus : Bool) (spans : List (Int × Int))
    (hsp : ∀ sp ∈ spans, 0 ≤ sp.1 ∧ sp.1 < sp.2) (hdis : spans.Pairwise (fun a b => a.2 ≤ b.1)) :
    ∃ f, featureOnView s.v minus spans = .ok f ∧
      getSliceContig comp s f =
        (denoteContig spans minus (segStart s.v) (segStart s.v + len s.v)).1.map
          (fun p => (if minus then comp else id) (s.parent[(p - s.v.offset).toNat]!)) := by
  have hd : FeatureView.Disjoint spans := ⟨hdis, fun q hq => (hsp q hq).2⟩
  have hpos := built_contigPositions s.v hu minus spans hd
  rw [contigPositions, ← funext (viewPosAny_unit s.v hu.2)] at hpos
  exact ⟨_, featureOnView_eq s.v hl minus spans hsp hd.sorted, residues_of_positions comp hcomp s hw (fun _ => hn) _
    (contigIdx_bounds _ _ (Int.le_of_lt hl) (built_inView s.v minus spans)) _ _ hpos⟩

-- ACGTACGTACGTACGT[4:9], minus-strand feature (1,6),(7,12): retained 4,5 and 7,8 -> contiguous 4..8 = "ACGTA" read as rc = "TACGT"
example :
    let s : SeqWrap.Seq := { parent := "ACGTACGTACGTACGT".toList, v := { start := 4, stop := 9, step := 1, offset := 0, seqLen := 16 }, nucleic := true }
    let comp : Char → Char := fun c => if c = 'A' then 'T' else if c = 'T' then 'A' else if c = 'C' then 'G' else if c = 'G' then 'C' else c
    WF s ∧ UnitView s.v ∧
    ((denoteContig [(1, 6), (7, 12)] true 4 9).1.map (fun p => comp (s.parent[(p - s.v.offset).toNat]!))) = "TACGT".toList := by
  decide +kernel

/-- The Feature `add_feature` RETURNS is the feature a later `get_features` on the same view builds from the record it
wrote (the whole of `add_feature`, model `addFeature`; translated whole in Props/C04Gen.lean). -/
theorem added_feature_returned_is_requeried (v : View) (h : UnitView v) (hl : 0 < len v) (hoff : 0 ≤ v.offset)
    (minus : Bool) (spans : List (Int × Int)) (hs : ViewSpans (len v) spans) :
    ∃ db dm f, addFeature v spans minus = .ok ((db, dm), f) ∧ featureOnView v dm db = .ok f ∧
      sliceIdx f = spans.flatMap (fun sp => seg sp.1 sp.2) ∧ f.reversed = minus := by
  obtain ⟨db, dm, f, h1, h2, h3, h4, h5⟩ := added_feature_spec_full v h hl hoff minus spans hs
  refine ⟨db, dm, f, ?_, h2, by rw [sliceIdx_realOf, h3], h4⟩
  unfold addFeature
  rw [h1]
  simp only [liftErr, h5]

example : addFeature { start := -5, stop := -13, step := -1, offset := 0, seqLen := 15 } [(1, 3), (5, 8)] false
    = .ok (([(3, 6), (8, 10)], true), { spans := [.span 1 3, .span 5 8], reversed := false }) := by decide +kernel

end CogentModel.C04
