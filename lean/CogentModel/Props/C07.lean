import CogentModel.Model.Calculator
import CogentModel.Proofs.CalcInv
import CogentModel.Model.Controller
import CogentModel.Proofs.CtlInv
import CogentModel.Model.ParamRules
import CogentModel.Proofs.ParamRules
/-! # C07 — incrementally recalculated values equal a fresh calculation (property theorems)

`Model/Calculator.lean` mirrors `Calculator.change` (two buffers, `_switch`, `last_values`,
`last_undo`, `spare`, recycled arrays in a heap, the `CalculationInterupted` path).
`evalFresh g x` is the specification: evaluate every cell from scratch at optimiser vector `x`.
Histories are arbitrary finite lists of `change` calls whose change lists are those
`testoptparvector` can produce (`ValidCh`: optimiser-parameter indices, each at most once);
cell values, calc functions and the cell graph are arbitrary. -/
namespace CogentModel.C07
open CogentModel.Calc

variable {V : Type} [Inhabited V] [DecidableEq V]

/-- the representation invariant holds after `__init__` and is preserved by every `change`
(succeeding, undoing, or failing with `CalculationInterupted`) -/
theorem inv_reachable (g : Graph V) (hwf : g.WF) (x0 : Nat → V) (s0 : St V)
    (h0 : init g x0 = some s0) (hist : List (List (Nat × V))) (hv : ∀ c, c ∈ hist → ValidCh g c) :
    Inv g (runHist g s0 hist) := by
  have h := init_inv g hwf x0 s0 h0
  clear h0
  induction hist generalizing s0 with
  | nil => exact h
  | cons c cs ih =>
    simp only [runHist]
    apply ih
    · intro c' hc'; exact hv c' (by simp [hc'])
    · exact (change_spec g hwf s0 c h (hv c (by simp))).1

/-- **calc_consistent**: after every finite history of `change` calls (single, multiple, reverting,
failing) the current buffer — all cells, not only the result — equals a fresh evaluation at the
vector the calculator reports (`last_values`). -/
theorem calc_consistent (g : Graph V) (hwf : g.WF) (x0 : Nat → V) (s0 : St V)
    (h0 : init g x0 = some s0) (hist : List (List (Nat × V))) (hv : ∀ c, c ∈ hist → ValidCh g c) :
    evalFresh g (runHist g s0 hist).lastValues = some (curValues g (runHist g s0 hist)) :=
  coh_evalFresh g hwf _ _ (inv_reachable g hwf x0 s0 h0 hist hv).cur

/-- the value a `change` call returns is the last cell of a fresh evaluation at the vector the
calculator reports afterwards -/
theorem calc_return_fresh (g : Graph V) (hwf : g.WF) (x0 : Nat → V) (s0 : St V)
    (h0 : init g x0 = some s0) (hist : List (List (Nat × V))) (hv : ∀ c, c ∈ hist → ValidCh g c)
    (hpos : 0 < g.n) (c : List (Nat × V)) (hc : ValidCh g c) (v : V)
    (hr : (change g (runHist g s0 hist) c).2 = some v) :
    (evalFresh g (change g (runHist g s0 hist) c).1.lastValues).map (fun l => l.getD (g.n - 1) default)
      = some v := by
  have hI := inv_reachable g hwf x0 s0 h0 hist hv
  obtain ⟨hI', hret, _⟩ := change_spec g hwf _ c hI hc
  rw [coh_evalFresh g hwf _ _ hI'.cur, (hret v hr).2]
  simp only [Option.map_some, Option.some.injEq]
  exact ListGetD.getD_map_range_of_lt (by omega)

/-- `testoptparvector` only ever produces change lists covered by these theorems -/
theorem call_changes_valid (g : Graph V) (s : St V) (values : List V) : ValidCh g (diffVec g s values) :=
  diffVec_valid g s values

/-- after a successful `change` the calculator is at the requested point: `last_values` is the old
vector with exactly the requested assignments applied (also when the call began by undoing the
previous step) -/
theorem change_reaches_request (g : Graph V) (hwf : g.WF) (x0 : Nat → V) (s0 : St V)
    (h0 : init g x0 = some s0) (hist : List (List (Nat × V))) (hv : ∀ c, c ∈ hist → ValidCh g c)
    (c : List (Nat × V)) (hc : ValidCh g c) (v : V)
    (hr : (change g (runHist g s0 hist) c).2 = some v) (j : Nat) :
    (change g (runHist g s0 hist) c).1.lastValues j = patch (runHist g s0 hist).lastValues c j :=
  congrFun ((change_spec g hwf _ c (inv_reachable g hwf x0 s0 h0 hist hv) hc).2.1 v hr).1 j

/-- **`calculator(x)` returns `f(x)`**: after any history, a successful `testoptparvector(values)`
leaves `last_values = values` and returns the last cell of a fresh evaluation at `values`. -/
theorem call_correct (g : Graph V) (hwf : g.WF) (x0 : Nat → V) (s0 : St V)
    (h0 : init g x0 = some s0) (hist : List (List (Nat × V))) (hv : ∀ c, c ∈ hist → ValidCh g c)
    (hpos : 0 < g.n) (values : List V) (v : V)
    (hr : (call g (runHist g s0 hist) values).2 = some v) :
    (∀ j, j < g.nOpt → (call g (runHist g s0 hist) values).1.lastValues j = values.getD j default) ∧
    (evalFresh g (call g (runHist g s0 hist) values).1.lastValues).map (fun l => l.getD (g.n - 1) default)
      = some v := by
  have hc := call_changes_valid g (runHist g s0 hist) values
  refine ⟨fun j hj => ?_, calc_return_fresh g hwf x0 s0 h0 hist hv hpos _ hc v hr⟩
  have := change_reaches_request g hwf x0 s0 h0 hist hv _ hc v hr j
  exact this.trans (patch_diffVec g _ values j hj)

/-- a call that fails (`CalculationInterupted` → the original exception is re-raised) leaves the
calculator consistent with the vector it reports, which is the vector left by the call's own
optional undo step (not necessarily the pre-call one), and `last_undo` empty -/
theorem calc_failure_consistent (g : Graph V) (hwf : g.WF) (x0 : Nat → V) (s0 : St V)
    (h0 : init g x0 = some s0) (hist : List (List (Nat × V))) (hv : ∀ c, c ∈ hist → ValidCh g c)
    (c : List (Nat × V)) (hc : ValidCh g c)
    (hr : (change g (runHist g s0 hist) c).2 = none) :
    evalFresh g (change g (runHist g s0 hist) c).1.lastValues
        = some (curValues g (change g (runHist g s0 hist) c).1) ∧
    (change g (runHist g s0 hist) c).1.lastValues = (afterUndo (runHist g s0 hist) c).1.lastValues ∧
    (change g (runHist g s0 hist) c).1.lastUndo = [] := by
  have hI := inv_reachable g hwf x0 s0 h0 hist hv
  obtain ⟨hI', _, hf⟩ := change_spec g hwf _ c hI hc
  exact ⟨coh_evalFresh g hwf _ _ hI'.cur, (hf hr).1, (hf hr).2.1⟩

/-- the `assert data[cell.rank] is not base[cell.rank]` in `change` can never fire: a recycled
cell about to be recomputed never shares its array with the buffer kept for undo -/
theorem spare_assert_never_fails (g : Graph V) (hwf : g.WF) (x0 : Nat → V) (s0 : St V)
    (h0 : init g x0 = some s0) (hist : List (List (Nat × V))) (hv : ∀ c, c ∈ hist → ValidCh g c)
    (c : List (Nat × V)) (hc : ValidCh g c) :
    assertOK g (flipped (afterUndo (runHist g s0 hist) c).1)
      (program g ((afterUndo (runHist g s0 hist) c).2.map (·.1))) = true := by
  have hI := inv_reachable g hwf x0 s0 h0 hist hv
  obtain ⟨_, h2, _⟩ := afterUndo_spec g _ c hI hc
  have hp := (prepare_ptr g (flipped (afterUndo (runHist g s0 hist) c).1)
    (program g ((afterUndo (runHist g s0 hist) c).2.map (·.1))) h2).2
  unfold assertOK
  rw [List.all_eq_true]
  intro r hr
  by_cases hrec : g.isRec r = true
  · have := hp r hr hrec
    simp [hrec, this]
  · simp [hrec]

/-! ### non-vacuity: a concrete graph with a recycled cell and a failing calc, a history with an
exact reversal and a failing call -/

def exG : Graph Int :=
  { cells := [.opt id, .opt (· + 1),
              .eval false [0, 1] (fun l => some (l.foldl (· + ·) 0)),
              .eval true [2, 0] (fun l => if l.getD 0 0 = 7 then none else some (2 * l.getD 0 0 + l.getD 1 0)),
              .eval false [3, 1] (fun l => some (l.getD 0 0 * l.getD 1 0))],
    nOpt := 2 }

theorem exG_wf : exG.WF := by
  unfold Graph.WF
  decide

def exX0 : Nat → Int := fun _ => 1
/-- change p0 (result 32), revert it (undo path), change both, then a call that makes cell 3 raise (p0+p1+1 = 7) -/
def exHist : List (List (Nat × Int)) := [[(0, 4)], [(0, 1)], [(1, 2), (0, 3)], [(0, 4)], [(1, 0)]]

example : ∃ s0, init exG exX0 = some s0 := ⟨_, rfl⟩
example : ∀ c, c ∈ exHist → ValidCh exG c := by
  unfold ValidCh
  decide
example : (init exG exX0).map (fun s0 => curValues exG (runHist exG s0 exHist)) = some [3, 1, 4, 11, 11] := by
  decide +kernel
example : (init exG exX0).map (fun s0 => (change exG (runHist exG s0 (exHist.take 3)) [(0, 4)]).2) = some none := by
  decide +kernel
example : (init exG exX0).map (fun s0 => (change exG (runHist exG s0 (exHist.take 1)) [(0, 1)]).2) = some (some 14) := by
  decide +kernel
example : (init exG exX0).map (fun s0 => diffVec exG s0 [1, 2]) = some [(1, 2)] := by decide +kernel

/-! ### histories of `testoptparvector` calls (what an optimiser actually issues) -/

/-- a whole history of `calculator(values)` calls; each call's change list depends on the state it meets -/
def runCalls (g : Graph V) : St V → List (List V) → St V
  | s, [] => s
  | s, v :: vs => runCalls g (call g s v).1 vs

/-- every history of `testoptparvector` calls is a history of valid `change` calls, so every theorem
above stated for `runHist` applies to optimiser-driven histories -/
theorem calls_are_valid_changes (g : Graph V) (s0 : St V) (vs : List (List V)) :
    ∃ hist, (∀ c, c ∈ hist → ValidCh g c) ∧ runCalls g s0 vs = runHist g s0 hist := by
  induction vs generalizing s0 with
  | nil => exact ⟨[], by simp, rfl⟩
  | cons v vs ih =>
    obtain ⟨h, hv, he⟩ := ih (call g s0 v).1
    refine ⟨diffVec g s0 v :: h, ?_, ?_⟩
    · intro c hc
      rcases List.mem_cons.1 hc with rfl | hc
      · exact call_changes_valid g s0 v
      · exact hv c hc
    · simp only [runCalls, runHist]
      exact he

/-- **calls_consistent**: after ANY history of `calculator(x)` calls (succeeding, exactly reverting,
raising) every cell of the current buffer equals a fresh evaluation at the vector the calculator
reports; no hypothesis on the vectors at all -/
theorem calls_consistent (g : Graph V) (hwf : g.WF) (x0 : Nat → V) (s0 : St V)
    (h0 : init g x0 = some s0) (vs : List (List V)) :
    evalFresh g (runCalls g s0 vs).lastValues = some (curValues g (runCalls g s0 vs)) := by
  obtain ⟨hist, hv, he⟩ := calls_are_valid_changes g s0 vs
  rw [he]
  exact calc_consistent g hwf x0 s0 h0 hist hv

/-- **calls_last_correct**: if the last call of a history of calls succeeds, the calculator is at the
requested vector and the value returned is `f(values)` computed from scratch -/
theorem calls_last_correct (g : Graph V) (hwf : g.WF) (x0 : Nat → V) (s0 : St V)
    (h0 : init g x0 = some s0) (vs : List (List V)) (hpos : 0 < g.n) (values : List V) (v : V)
    (hr : (call g (runCalls g s0 vs) values).2 = some v) :
    (∀ j, j < g.nOpt → (call g (runCalls g s0 vs) values).1.lastValues j = values.getD j default) ∧
    (evalFresh g (call g (runCalls g s0 vs) values).1.lastValues).map (fun l => l.getD (g.n - 1) default)
      = some v := by
  obtain ⟨hist, hv, he⟩ := calls_are_valid_changes g s0 vs
  rw [he] at hr ⊢
  exact call_correct g hwf x0 s0 h0 hist hv hpos values v hr

/-- non-vacuity: the same walk as `exHist` issued as calls: (4,1), back to (1,1) (undo path), (3,2),
(4,2) raises, (3,0); then a successful call to (2,5) returns f(2,5) = 2*8+2 times 6 = 108 -/
def exCalls : List (List Int) := [[4, 1], [1, 1], [3, 2], [4, 2], [3, 0]]
example : (init exG exX0).map (fun s0 => curValues exG (runCalls exG s0 exCalls)) = some [3, 1, 4, 11, 11] := by
  decide +kernel
example : (init exG exX0).map (fun s0 => (call exG (runCalls exG s0 (exCalls.take 3)) [4, 2]).2) = some none := by
  decide +kernel
example : (init exG exX0).map (fun s0 => (call exG (runCalls exG s0 exCalls) [2, 5]).2) = some (some 108) := by
  decide +kernel
example : (init exG exX0).map (fun s0 => lastVec exG (call exG (runCalls exG s0 exCalls) [2, 5]).1) = some [2, 5] := by
  decide +kernel

/-! ## the ParameterController layer (dirty set, `updates_postponed`) -/
section controller
open CogentModel.Ctl

/-- **controller_consistent**: after ANY history of `assign` and arbitrarily nested
`updates_postponed` blocks — left normally or by an exception (`Op.xexit`; the context manager's
`finally:` restores the flag and propagates) — whenever no block is open, updates are not
suspended, nothing is marked dirty and every definition's value is what its rule gives from the
current settings / argument values. -/
theorem controller_consistent (g : Ctl.Graph V) (hwf : Ctl.WF g) (setting : Nat → V)
    (hist : List (Op V)) :
    Ctl.Inv g (Ctl.run g (Ctl.init g setting) hist) ∧
    ((Ctl.run g (Ctl.init g setting) hist).stack = [] →
      (Ctl.run g (Ctl.init g setting) hist).suspended = false ∧
      (Ctl.run g (Ctl.init g setting) hist).changed = [] ∧
      ∀ k, k < g.length → LocalOK g (Ctl.run g (Ctl.init g setting) hist) k) := by
  have hI : Ctl.Inv g (Ctl.run g (Ctl.init g setting) hist) := by
    have h0 := init_inv g hwf setting
    generalize Ctl.init g setting = s0 at h0
    induction hist generalizing s0 with
    | nil => exact h0
    | cons o os ih => exact ih _ (step_inv g hwf s0 o h0)
  exact ⟨hI, hI.idle⟩

/-- the settings the values are consistent with are the last assigned ones: `assign k v` stores
`v`, no other operation touches a setting -/
theorem controller_setting_last_assigned (g : Ctl.Graph V) (s : Ctl.St V) (k : Nat) (v : V) :
    (Ctl.step g s (.assign k v)).setting k = v ∧
    (∀ j, j ≠ k → (Ctl.step g s (.assign k v)).setting j = s.setting j) ∧
    (Ctl.step g s .enter).setting = s.setting ∧ (Ctl.step g s .exit).setting = s.setting ∧
    (Ctl.step g s .xexit).setting = s.setting := by
  have hui : ∀ t : Ctl.St V, (Ctl.updateIntermediate g t).setting = t.setting :=
    fun t => (updateIntermediate_fields g t).1
  refine ⟨?_, ?_, rfl, ?_, ?_⟩
  · show (Ctl.updateIntermediate g _).setting k = v
    rw [hui]; simp [Ctl.upd]
  · intro j hj
    show (Ctl.updateIntermediate g _).setting j = _
    rw [hui]; simp [Ctl.upd, hj]
  all_goals
    unfold Ctl.step
    cases s.stack with
    | nil => rfl
    | cons o r => exact hui _

/-- values are determined by the settings: two states with the same leaf settings in which every
definition is locally consistent hold the same values -/
theorem localOK_unique (g : Ctl.Graph V) (hwf : Ctl.WF g) (s t : Ctl.St V)
    (hset : ∀ k, k < g.length → t.setting k = s.setting k)
    (hs : ∀ k, k < g.length → LocalOK g s k) (ht : ∀ k, k < g.length → LocalOK g t k) :
    ∀ k, k < g.length → t.values k = s.values k := by
  intro k
  induction k using Nat.strongRecOn with
  | _ k ih =>
    intro hk
    have h1 := hs k hk
    have h2 := ht k hk
    unfold LocalOK at h1 h2
    cases hd : Ctl.defn g k with
    | leaf =>
      simp only [hd] at h1 h2
      rw [h1, h2, hset k hk]
    | derived args f =>
      simp only [hd] at h1 h2
      rw [h1, h2]
      congr 1
      apply List.map_congr_left
      intro a ha
      have hak : a < k := hwf k hk a (by simp [hd, Defn.args, ha])
      exact ih a hak (by omega)

theorem values_eq_init (g : Ctl.Graph V) (hwf : Ctl.WF g) (s : Ctl.St V)
    (hs : ∀ k, k < g.length → LocalOK g s k) :
    ∀ k, k < g.length → s.values k = (Ctl.init g s.setting).values k := by
  obtain ⟨hset, _, hstack⟩ := updateIntermediate_fields g (Ctl.init0 g s.setting)
  have hinit := ((init_inv g hwf s.setting).idle hstack).2.2
  intro k hk
  exact (localOK_unique g hwf s _ (fun j _ => congrFun hset j) hs hinit k hk).symm

/-- **controller_equals_fresh** (the property as worded, for the controller model): after ANY
history, whenever no block is open, every definition's value equals the value in a NEWLY BUILT
controller (`Ctl.init`) given the same final settings -/
theorem controller_equals_fresh (g : Ctl.Graph V) (hwf : Ctl.WF g) (setting : Nat → V)
    (hist : List (Op V)) (hst : (Ctl.run g (Ctl.init g setting) hist).stack = []) :
    ∀ k, k < g.length →
      (Ctl.run g (Ctl.init g setting) hist).values k
        = (Ctl.init g (Ctl.run g (Ctl.init g setting) hist).setting).values k :=
  values_eq_init g hwf _ ((controller_consistent g hwf setting hist).2 hst).2.2

/-- non-vacuity, including a block left by an exception followed by a further assignment: the
derived values follow (without the `try/finally` in `updates_postponed` this history leaves
`_update_suspended` set for ever) -/
example :
    let g : Ctl.Graph Int := [.leaf, .derived [0] (fun l => l.getD 0 0 + 1)]
    let s := Ctl.run g (Ctl.init g (fun _ => 1)) [.enter, .assign 0 5, .xexit, .assign 0 7]
    s.stack = [] ∧ s.suspended = false ∧ s.setting 0 = 7 ∧ s.values 1 = 8 := by
  decide +kernel

example : Ctl.WF ([.leaf, .leaf, .derived [0, 1] (fun l => l.foldl (· + ·) 0), .derived [2, 0] (fun l => l.foldl (· * ·) 1)] : Ctl.Graph Int) := by
  unfold Ctl.WF
  decide
example :
    let g : Ctl.Graph Int := [.leaf, .leaf, .derived [0, 1] (fun l => l.foldl (· + ·) 0), .derived [2, 0] (fun l => l.foldl (· * ·) 1)]
    let s := Ctl.run g (Ctl.init g (fun _ => 1)) [.enter, .assign 0 5, .enter, .assign 1 2, .exit, .assign 0 3, .exit]
    s.stack = [] ∧ (List.range 4).map s.values = [3, 2, 5, 15] := by
  decide +kernel

/-- non-vacuity of `controller_equals_fresh`: nested blocks, then compared with a newly built controller -/
example :
    let g : Ctl.Graph Int := [.leaf, .leaf, .derived [0, 1] (fun l => l.foldl (· + ·) 0), .derived [2, 0] (fun l => l.foldl (· * ·) 1)]
    let s := Ctl.run g (Ctl.init g (fun _ => 1)) [.enter, .assign 0 5, .enter, .assign 1 2, .exit, .assign 0 3, .exit]
    s.stack = [] ∧ (List.range 4).map s.values = (List.range 4).map (Ctl.init g s.setting).values ∧
      (List.range 4).map (Ctl.init g s.setting).values = [3, 2, 5, 15] := by
  decide +kernel

end controller

/-! ## rule export / import (`get_param_rules` → `apply_param_rules`) for one scalar parameter -/
section rules
open CogentModel.Rules

/-- a history of `set_param_rule` calls on one parameter; calls that raise leave the state as it was -/
def runRules (d : Rules.Defn) : Rules.St → List RuleArgs → Rules.St
  | s, [] => s
  | s, r :: rs =>
    match setRule d s r with
    | .ok s' => runRules d s' rs
    | .error _ => runRules d s rs

/-- **rules_roundtrip**: for every parameter definition (any number of edges, any class defaults
`lower ≤ default ≤ upper`, `independent_by_default` or not) and after EVERY history of
`set_param_rule` calls (any scopes, constant / free, values, bounds, independent or not, failing
calls included), exporting the rules and applying them in order to a newly built function
succeeds and gives every edge the same setting (value, constness, bounds), the same sharing of
setting objects between edges, and the same number of free parameters. -/
theorem rules_roundtrip (d : Rules.Defn) (hd : d.dLo ≤ d.dVal ∧ d.dVal ≤ d.dHi) (hist : List RuleArgs) :
    ∃ s', applyRules d (Rules.fresh d) (exportRules d (runRules d (Rules.fresh d) hist)) = .ok s' ∧
      (∀ e, e < d.nEdges → s'.setting e = (runRules d (Rules.fresh d) hist).setting e) ∧
      (∀ e1 e2, e1 < d.nEdges → e2 < d.nEdges →
        (s'.asg e1 = s'.asg e2 ↔ (runRules d (Rules.fresh d) hist).asg e1 = (runRules d (Rules.fresh d) hist).asg e2)) ∧
      Rules.nfp d s' = Rules.nfp d (runRules d (Rules.fresh d) hist) := by
  have hI : Inv2 d (runRules d (Rules.fresh d) hist) := by
    have h0 := fresh_inv d hd
    generalize Rules.fresh d = s0 at h0
    induction hist generalizing s0 with
    | nil => exact h0
    | cons r rs ih =>
      simp only [runRules]
      cases hs : setRule d s0 r with
      | ok s1 => exact ih s1 (setRule_inv d s0 s1 r hs h0)
      | error e => exact ih s0 h0
  exact roundtrip d _ hI.2

/-- non-vacuity: 4 edges, lengths-like parameter (independent by default): an edge subset made one
shared constant, another edge re-bounded and clamped, a failing call in between; the export has
three rules and re-importing reproduces 2 free parameters -/
def exD : Rules.Defn := { nEdges := 4, dLo := 0, dVal := 1, dHi := 10, indepDefault := true }
def exRules : List RuleArgs :=
  [ { edges := some [0, 2], isIndependent := some false, isConstant := true, value := some 2, init := none, lower := none, upper := none },
    { edges := some [1], isIndependent := none, isConstant := true, value := none, init := some 3, lower := none, upper := none },
    { edges := some [1], isIndependent := none, isConstant := false, value := none, init := some 7, lower := some 1, upper := some 4 } ]
example : (exportRules exD (runRules exD (Rules.fresh exD) exRules)).length = 3 ∧
    Rules.nfp exD (runRules exD (Rules.fresh exD) exRules) = 2 ∧
    (runRules exD (Rules.fresh exD) exRules).setting 1 = .var 1 4 4 ∧
    (runRules exD (Rules.fresh exD) exRules).setting 2 = .const 2 := by decide +kernel
example : exD.dLo ≤ exD.dVal ∧ exD.dVal ≤ exD.dHi := by decide +kernel

/-- the failing calls of a history: an edge named twice and an edge that is not in
the tree raise `InvalidScopeError` (as the current `interpret_scope` does), `upper < lower` raises
`ValueError`, a constant with a bound raises `AssertionError`; none of them changes the state -/
def exBad : List RuleArgs :=
  [ { edges := some [1, 1], isIndependent := none, isConstant := false, value := none, init := some 2, lower := none, upper := none },
    { edges := some [0, 4], isIndependent := none, isConstant := false, value := none, init := some 2, lower := none, upper := none },
    { edges := some [3], isIndependent := none, isConstant := false, value := none, init := none, lower := some 5, upper := some 2 },
    { edges := some [3], isIndependent := none, isConstant := true, value := some 1, init := none, lower := some 5, upper := none } ]
example : exBad.map (fun r => match setRule exD (runRules exD (Rules.fresh exD) exRules) r with
    | .error e => e
    | .ok _ => "ok") = ["InvalidScopeError", "InvalidScopeError", "ValueError", "AssertionError"] := by decide +kernel
example : (exportRules exD (runRules exD (Rules.fresh exD) (exRules ++ exBad))).length = 3 ∧
    Rules.nfp exD (runRules exD (Rules.fresh exD) (exRules ++ exBad)) = 2 := by decide +kernel

/- NOT covered by rules_roundtrip (exercised by the likelihood-function differential only): that equal
settings on every edge give an equal log-likelihood (that is C02), non-scalar parameters (motif
probabilities, which exports floor at 1e-6 by design), bin / locus dimensions (edge × locus:
`rules_roundtrip_2d` in `Props/C07Rules2.lean`), and the interaction of several parameters (rules of
different parameters touch disjoint definitions). -/
end rules

end CogentModel.C07
