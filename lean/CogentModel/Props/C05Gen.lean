import CogentModel.Proofs.C05GenLemmas
import CogentModel.Proofs.AlphabetLemmas
/-!
  C05 — the TRANSLATED decision logic equals the hand model, for all arguments.

  `Gen/C05Inst.lean` is rewritten on every run by `translator/c05_inst2lean.py` from the CURRENT source of
  `_ContinuousSubstitutionModel._is_instantaneous / _is_any_indel`, `_Codon._is_instantaneous`, the class constants
  `long_indels_are_instantaneous`, `ExpDefn.calc` and `_EigenPade.__call__`.  The theorems below are the proof
  obligations that connect that text to the definitions every other C05 theorem is about (`instMask`, and the
  back-end selection `backendFor` / `runBackend`): a semantic edit of one of those Python functions changes the
  generated definition and the corresponding `gen_*` theorem stops checking.
  The last three theorems are the property-level consequences for the selection of the exponentiator.
-/
namespace CogentModel.C05
open CogentModel.C05Gen CogentModel.Gen.C05Inst CogentModel.RateMatrix CogentModel.C05GenProofs

/-- `sum([X != Y for (X, Y) in zip(x, y)])` is the hand model's number of differing positions -/
theorem gen_countDiffs_eq (x y : List Nat) : countZip (fun X Y => X != Y) x y = nDiffs x y := by
  induction x generalizing y with
  | nil => rfl
  | cons a xs ih => cases y with
    | nil => rfl
    | cons b ys => simp only [countZip, nDiffs, ih, bne_iff_ne]

example : countZip (fun X Y => X != Y) [0, 1, 2] [0, 2, 1] = 2 := by decide +kernel

/-- translated `_is_any_indel` (for-loop with three None-able state variables) = hand `isAnyIndel`, for every pair of
motifs, whenever the gap motif carries the gap character `g` at every position of `x` (cogent3: `gapmotif = "-" * L`) -/
theorem gen_isAnyIndel_eq (g : Nat) (li : Bool) (gm x y : List Nat) (hg : ∀ k, k < x.length → charAt gm k = g) :
    Gen.C05Inst.isAnyIndel li gm x y = RateMatrix.isAnyIndel g x y := by
  unfold Gen.C05Inst.isAnyIndel RateMatrix.isAnyIndel
  by_cases h : x = y
  · simp [h]
  · have := loop_eq g li gm x y 0 none none none 0 (by simpa using hg) (by simp)
    simp [h, this]

example : Gen.C05Inst.isAnyIndel true [4, 4, 4] [0, 4, 4] [0, 1, 2] = true := by decide +kernel
example : Gen.C05Inst.isAnyIndel true [4, 4, 4] [4, 1, 4] [0, 1, 2] = false := by decide +kernel

/-- translated `_ContinuousSubstitutionModel._is_instantaneous` with the class constant as found in the source = hand
`isInstWord` (which hard-wires `long_indels_are_instantaneous = True`): turning the flag off breaks this theorem -/
theorem gen_isInstantaneous_eq (g : Nat) (gm x y : List Nat) (hg : ∀ k, k < x.length → charAt gm k = g) :
    isInstantaneous longIndels gm x y = isInstWord g x y := by
  unfold isInstantaneous isInstWord
  simp [gen_countDiffs_eq, longIndels, gen_isAnyIndel_eq g true gm x y hg, Bool.beq_eq_decide_eq]

example : isInstantaneous longIndels [4, 4] [0, 1] [4, 4] = true := by decide +kernel
example : isInstantaneous longIndels [4, 4] [0, 1] [1, 0] = false := by decide +kernel

/-- translated `_Codon._is_instantaneous` = hand `isInstCodon`, the gap motif being `g` repeated `len(x)` times -/
theorem gen_codonIsInstantaneous_eq (g : Nat) (li : Bool) (x y : List Nat) :
    codonIsInstantaneous li (List.replicate x.length g) x y = isInstCodon g x y := by
  unfold codonIsInstantaneous isInstCodon
  rw [gen_countDiffs_eq, List.map_const']
  generalize List.replicate x.length g = gm
  by_cases h1 : x = gm <;> by_cases h2 : y = gm <;> simp [h1, h2, Bool.beq_eq_decide_eq, bne]

example : codonIsInstantaneous true [4, 4, 4] [4, 4, 4] [0, 1, 2] = true := by decide +kernel
example : codonIsInstantaneous true [4, 4, 4] [0, 4, 4] [0, 1, 2] = false := by decide +kernel

/-- hence every cell of the hand model's instantaneous mask is the value of the translated predicate on the two words
(all words of length `L`, gap motif `g^L`) -/
theorem gen_instMask_eq (codon : Bool) (g L : Nat) (words : Array (Array Nat)) (hL : ∀ i, i < words.size → (wordAt words i).length = L)
    (i j : Nat) (hi : i < words.size) (hj : j < words.size) :
    bget (instMask codon g words) i j =
      (if codon then codonIsInstantaneous codonLongIndels (List.replicate L g) (wordAt words i) (wordAt words j)
       else isInstantaneous longIndels (List.replicate L g) (wordAt words i) (wordAt words j)) := by
  rw [bget_instMask codon g words hi hj]
  have hLi := hL i hi
  cases codon with
  | true =>
    simp only [if_true]
    rw [← hLi, gen_codonIsInstantaneous_eq]
  | false =>
    simp only [Bool.false_eq_true, if_false]
    rw [gen_isInstantaneous_eq g]
    intro k hk
    simp [charAt, List.getD_eq_getElem?_getD, hLi ▸ hk]

/-- translated `ExpDefn.calc` = the hand table, for EVERY string (`none` = `KeyError`) -/
theorem gen_expSelect_eq (expm : String) : expSelect expm = backendFor expm := by
  -- the hand table is `ExpDefn.calc`'s if-chain applied to each row of its dict
  let ifChain : Bool × Bool × Bool → Backend := fun q =>
    if !q.1 then .pade else
      if !q.2.2 then (if q.2.1 then .checked else .fast) else .eigenPade (if q.2.1 then .checked else .fast)
  have htab : backendTable = expTable.map fun p => (p.1, ifChain p.2) := rfl
  unfold expSelect backendFor
  rw [htab, lookup_map_snd ifChain]
  cases expTable.lookup expm <;> rfl

example : expSelect "either" = some (.eigenPade .checked) := expSelect_either
example : expSelect "taylor" = none := by decide +kernel

/-- translated `_EigenPade.__call__` (try / except (ArithmeticError, LinAlgError) -> PadeExponentiator) = the hand
`runBackend` on `eigenPade`, for every outcome of the inner constructor -/
theorem gen_eigenPadeCall_eq {E : Type} (fast checked : Except ErrKind E) (pade : E) (e : Backend) :
    eigenPadeCall (runBackend fast checked pade e) (runBackend fast checked pade eigenPadeFallback)
      = runBackend fast checked pade (.eigenPade e) := by
  simp only [eigenPadeCall, tryExcept, eigenPadeCaught, eigenPadeFallback, runBackend]
  cases runBackend fast checked pade e with
  | ok r => rfl
  | error k => cases k <;> simp

example : eigenPadeCall (E := Nat) (.error .arithmetic) (.ok 7) = .ok 7 := rfl
example : eigenPadeCall (E := Nat) (.error .other) (.ok 7) = .error .other := rfl
example : eigenPadeCall (E := Nat) (.ok 3) (.ok 7) = .ok 3 := rfl

/-! ## what the selection guarantees ("agree across all exponentiation back-ends") -/

/-- only `expm = "eigen"` can hand out the UNCHECKED eigen exponentiator: under every other accepted setting the
exponentiator used for `Q` is either the one that passed `CheckedExponentiator`'s reconstruction test or Pade's -/
theorem selection_never_unchecked {E : Type} (expm : String) (b : Backend) (h : expSelect expm = some b) (hne : expm ≠ "eigen")
    (fast checked : Except ErrKind E) (pade r : E) (hr : runBackend fast checked pade b = .ok r) :
    checked = .ok r ∨ r = pade := by
  rw [gen_expSelect_eq] at h
  have hmem := mem_of_lookup_eq_some h
  simp only [backendTable, List.mem_cons, Prod.mk.injEq, List.not_mem_nil, or_false] at hmem
  rcases hmem with ⟨rfl, _⟩ | ⟨_, rfl⟩ | ⟨_, rfl⟩ | ⟨_, rfl⟩
  · exact absurd rfl hne
  · exact Or.inl hr
  · exact Or.inr (Except.ok.inj hr).symm
  · simp only [runBackend] at hr
    cases hc : checked with
    | ok r' => rw [hc] at hr; exact Or.inl hr
    | error k =>
      rw [hc] at hr
      dsimp only at hr
      by_cases hk : k = .arithmetic ∨ k = .linalg
      · rw [if_pos hk] at hr; exact Or.inr (Except.ok.inj hr).symm
      · rw [if_neg hk] at hr; exact absurd hr nofun

example : ∃ b, expSelect "either" = some b ∧ runBackend (E := Nat) (.ok 1) (.error .arithmetic) 2 b = .ok 2 :=
  ⟨_, expSelect_either, rfl⟩

/-- `expm = "either"` never fails for an `ArithmeticError` / `LinAlgError` of the eigen route: it then uses Pade -/
theorem either_falls_back {E : Type} (fast checked : Except ErrKind E) (pade : E) (hc : ∀ k, checked = .error k → k ≠ .other) :
    ∃ b r, expSelect "either" = some b ∧ runBackend fast checked pade b = .ok r ∧ (checked = .ok r ∨ (r = pade ∧ ∃ k, checked = .error k)) := by
  cases hk : checked with
  | ok r' => exact ⟨_, r', expSelect_either, rfl, Or.inl rfl⟩
  | error k =>
    refine ⟨_, pade, expSelect_either, ?_, Or.inr ⟨rfl, k, rfl⟩⟩
    cases k with
    | other => exact absurd rfl (hc _ hk)
    | arithmetic => rfl
    | linalg => rfl

example : ∃ b r, expSelect "either" = some b ∧ runBackend (E := Nat) (.error .other) (.error .linalg) 5 b = .ok r ∧ r = 5 :=
  ⟨_, 5, expSelect_either, rfl, rfl⟩

/-- the accepted settings are exactly the four documented ones -/
theorem expSelect_defined_iff (expm : String) :
    (expSelect expm).isSome = true ↔ expm = "eigen" ∨ expm = "checked" ∨ expm = "pade" ∨ expm = "either" := by
  rw [gen_expSelect_eq, backendFor, List.lookup_isSome_iff]
  simp [backendTable]

example : (expSelect "pade").isSome = true := by decide +kernel

end CogentModel.C05
