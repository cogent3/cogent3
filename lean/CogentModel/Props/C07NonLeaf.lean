import CogentModel.Gen.C07Rules
import CogentModel.Proofs.RulesGen
/-! # C07 — `_NonLeafDefn.update` TRANSLATED from the current source (`Gen/C07Rules.lean`, namespace
`Gen.C07NonLeaf`, regenerated on every run by `translator/c07_rules2lean.py`)

The translated statements compute the hand model `NonLeaf.updateSpec` (Model/NonLeaf.lean), in which nothing of the
previous scope → input-ordinal mapping, grouping or values survives. -/
namespace CogentModel.C07NL
open CogentModel.NonLeaf CogentModel.Gen.C07NonLeaf
open CogentModel.Gen.C07Rules (forIn_of_step)

variable {V : Type}

/-- the first loop of `update` as a fold -/
theorem foldl_setAssignment (F : Nat → List Nat) (l : List Nat) (s : St V) :
    l.foldl (fun s t => Prim.setAssignment s t (F t)) s =
      { s with asg := fun t => if l.contains t then F t else s.asg t } := by
  induction l generalizing s with
  | nil => simp
  | cons a l ih =>
    rw [List.foldl_cons, ih]
    simp only [Prim.setAssignment]
    congr 1
    funext t
    by_cases h1 : l.contains t = true <;> by_cases h2 : t = a <;> simp_all [upd]

/-- **gen_update_eq**: GENERATED `_NonLeafDefn.update` = the hand model `updateSpec`, for all arguments -/
theorem gen_update_eq (args : List (Arg V)) (f : List V → V) (s : St V) :
    update args f s = .ok (updateSpec args f s) := by
  unfold update
  simp only []
  rw [forIn_of_step (fun t (s : St V) => Prim.setAssignment s t (inputNums args t))]
  · simp only [pure, Except.pure, bind, Except.bind, foldl_setAssignment, Prim.keys, Prim.updateFromAssignments,
      Prim.setValues, Prim.uniq, Prim.nullorCall, Prim.makeCalcFunction, Prim.argValue, updateSpec, callArgs]
  · intro t acc
    simp [Prim.scopeDict, Prim.outputOrdinalFor, Prim.pyTuple, inputNums, pure, Except.pure]

/-- **gen_update_ignores_cache**: whatever mapping (on their scopes), groups, index and values two states with the
same scopes held before, the translated `update()` leaves them identical (`ha`: the model's `asg` is a total function,
python's dict has no entries off the scopes).  This is what an edit that keeps the mapping until some summary of the
inputs changes violates. -/
theorem gen_update_ignores_cache (args : List (Arg V)) (f : List V → V) (s s' : St V) (h : s.scopes = s'.scopes)
    (ha : ∀ t, ¬ t ∈ s.scopes → s.asg t = s'.asg t) :
    update args f s = update args f s' := by
  rw [gen_update_eq, gen_update_eq]
  have : (fun t => if s.scopes.contains t then inputNums args t else s.asg t) =
      (fun t => if s'.scopes.contains t then inputNums args t else s'.asg t) := by
    funext t
    rw [← h]
    by_cases ht : t ∈ s.scopes
    · simp [ht]
    · simp [ht, ha t ht]
  simp only [updateSpec]
  rw [this, h]

/-- the group a key points at holds the key's value -/
def good (asg : Nat → List Nat) (acc : List (List Nat) × (Nat → Nat)) (t : Nat) : Prop :=
  acc.1[acc.2 t]? = some (asg t)

theorem step_good_self (asg : Nat → List Nat) (acc) (a : Nat) : good asg (indexedStep asg acc a) a := by
  unfold good indexedStep
  split
  · rename_i h
    have hm : asg a ∈ acc.1 := by simpa using h
    simp [upd, List.getElem?_eq_getElem (List.idxOf_lt_length_of_mem hm)]
  · simp [upd]

theorem step_good_other (asg : Nat → List Nat) (acc) (a t : Nat) (hne : t ≠ a) (hg : good asg acc t) :
    good asg (indexedStep asg acc a) t := by
  unfold good indexedStep at *
  split
  · simp [upd, hne, hg]
  · simp only [upd, hne, if_false]
    have hlt : acc.2 t < acc.1.length := by
      rcases List.getElem?_eq_some_iff.mp hg with ⟨hl, _⟩; exact hl
    rw [List.getElem?_append_left hlt]; exact hg

/-- `_indexed`: every key met so far points at a group holding its value -/
theorem foldl_good (asg : Nat → List Nat) (l : List Nat) : ∀ acc t, (good asg acc t ∨ t ∈ l) →
    good asg (l.foldl (indexedStep asg) acc) t := by
  induction l with
  | nil => intro acc t h; rcases h with h | h; exact h; cases h
  | cons a l ih =>
    intro acc t h
    rw [List.foldl_cons]
    apply ih
    by_cases hta : t = a
    · left; subst hta; exact step_good_self asg acc t
    · rcases h with h | h
      · left; exact step_good_other asg acc a t hta h
      · right; simpa [hta] using h

/-- **gen_update_value_fresh**: after the translated `update()`, whatever the definition held before, every scope is
mapped to the CURRENT ordinals of its inputs, the group its index names is that tuple, and the value held for it is the
calc function applied to the inputs' current values for that scope (`Undefined` if one of them is missing) -/
theorem gen_update_value_fresh (args : List (Arg V)) (f : List V → V) (s r : St V) (h : update args f s = .ok r)
    (t : Nat) (ht : t ∈ s.scopes) :
    r.asg t = inputNums args t ∧ r.uniq[r.index t]? = some (inputNums args t) ∧
    r.values[r.index t]? = some (nullor f (callArgs args (inputNums args t))) := by
  rw [gen_update_eq] at h
  cases h
  have hg := foldl_good (fun t => if s.scopes.contains t then inputNums args t else s.asg t) s.scopes ([], fun _ => 0) t (Or.inr ht)
  unfold good at hg
  have hc : s.scopes.contains t = true := by simpa using ht
  simp only [hc, if_true] at hg
  refine ⟨by simp [updateSpec, ht], by simpa [updateSpec, indexed] using hg, ?_⟩
  simp only [updateSpec, indexed, List.getElem?_map, hg, Option.map_some]

end CogentModel.C07NL
