/- C10: collection / alignment level rich dict = per-row round trips (old-style classes). -/
import CogentModel.Model.CollRich
import CogentModel.Props.C10
import CogentModel.Proofs.ListFacts
namespace CogentModel.C10Coll
open CogentModel.CollRich CogentModel.TreeRich CogentModel.View CogentModel.RichDict

theorem dictSet_fresh {β} (d : List (String × β)) (k : String) (v : β) (h : k ∉ d.map Prod.fst) :
    dictSet d k v = d ++ [(k, v)] := by
  induction d with
  | nil => rfl
  | cons p d ih =>
    obtain ⟨k', v'⟩ := p
    simp only [List.map_cons, List.mem_cons, not_or] at h
    have hne : ¬ k' = k := fun e => h.1 e.symm
    simp [dictSet, hne, ih h.2]

theorem foldl_seqsDict {α ρ} (name : α → String) (exp : α → ρ) (rows : List α) (acc : List (String × ρ))
    (hnd : (acc.map Prod.fst ++ rows.map name).Nodup) :
    rows.foldl (fun d s => dictSet d (name s) (exp s)) acc = acc ++ rows.map (fun s => (name s, exp s)) := by
  have h := List.nodup_append.1 hnd
  have e : (rows.map fun s => (name s, exp s)).map Prod.fst = rows.map name := by rw [List.map_map]; rfl
  rw [← AssocFold.foldl_set_fresh dictSet dictSet_fresh _ acc (e ▸ h.2.1) (e ▸ fun k hk hk' => h.2.2 k hk' k hk rfl), List.foldl_map]

/-- with unique row names (enforced by the collection constructors) the `seqs` dict is the list of rows, in order, each
    under its own name: nothing is overwritten -/
theorem seqsDict_of_nodup {α ρ} (name : α → String) (exp : α → ρ) (rows : List α) (hnd : (rows.map name).Nodup) :
    seqsDict name exp rows = rows.map (fun s => (name s, exp s)) := by
  unfold seqsDict
  rw [foldl_seqsDict name exp rows [] (by simpa using hnd)]; simp

example : seqsDict (fun (p : String × Nat) => p.1) (fun p => p.2) [("b", 1), ("a", 2), ("c", 3)] = [("b", 1), ("a", 2), ("c", 3)] := by decide

theorem fromSeqsDict_forall2 {α ρ ε σ} (name : α → String) (exp : α → ρ) (imp : ρ → Except ε σ) (R : α → σ → Prop) (rows : List α)
    (hrow : ∀ s ∈ rows, ∃ s', imp (exp s) = .ok s' ∧ R s s') :
    ∃ out, fromSeqsDict imp (rows.map (fun s => (name s, exp s))) = .ok out ∧ Rows R rows out := by
  induction rows with
  | nil => exact ⟨[], rfl, Rows.nil⟩
  | cons s rows ih =>
    obtain ⟨s', hs, hR⟩ := hrow s (by simp)
    obtain ⟨out, ho, hF⟩ := ih (fun x hx => hrow x (List.mem_cons_of_mem _ hx))
    exact ⟨s' :: out, by simp [fromSeqsDict, hs, ho], Rows.cons hR hF⟩

/-- COLLECTION LEVEL = PER ROW: for every collection with unique row names, any per-row exporter / importer and any relation `R`
    ("observationally equal"): if every row round-trips to an `R`-related row, the collection's rich dict deserialises to the same
    number of rows, in the same order, each `R`-related to its original -/
theorem coll_roundtrip_rows {α ρ ε σ} (name : α → String) (exp : α → ρ) (imp : ρ → Except ε σ) (R : α → σ → Prop) (rows : List α)
    (hnd : (rows.map name).Nodup) (hrow : ∀ s ∈ rows, ∃ s', imp (exp s) = .ok s' ∧ R s s') :
    ∃ out, collRoundtrip name exp imp rows = .ok out ∧ Rows R rows out := by
  unfold collRoundtrip
  rw [seqsDict_of_nodup name exp rows hnd]
  exact fromSeqsDict_forall2 name exp imp R rows hrow

/-- identity version: rows that round-trip to themselves give back the same list of rows -/
theorem coll_roundtrip_id {α ρ ε} (name : α → String) (exp : α → ρ) (imp : ρ → Except ε α) (rows : List α)
    (hnd : (rows.map name).Nodup) (hrow : ∀ s ∈ rows, imp (exp s) = .ok s) :
    collRoundtrip name exp imp rows = .ok rows := by
  obtain ⟨out, ho, hF⟩ := coll_roundtrip_rows name exp imp (fun a b => a = b) rows hnd (fun s hs => ⟨s, hrow s hs, rfl⟩)
  have : ∀ (xs ys : List α), Rows (fun a b => a = b) xs ys → xs = ys := by
    intro xs ys h
    induction h with
    | nil => rfl
    | cons h _ ih => rw [h, ih]
  rw [ho, this rows out hF]

example : collRoundtrip (ε := Unit) (fun (p : String × Nat) => p.1) (fun p => p) (fun p => .ok p) [("b", 1), ("a", 2)] = .ok [("b", 1), ("a", 2)] :=
  coll_roundtrip_id _ _ _ _ (by decide) (fun _ _ => rfl)

/-- the uniqueness hypothesis is needed: two rows with one name collapse into ONE row (the second row's content at the first row's
    position) -/
theorem coll_duplicate_names_counter :
    collRoundtrip (ε := Unit) (fun (p : String × Nat) => p.1) (fun p => p) (fun p => .ok p) [("a", 1), ("b", 2), ("a", 3)]
      = .ok [("a", 3), ("b", 2)] := by rfl

/-- a row of an old-style collection: name, parent string, view left by the history -/
structure SeqRow (α : Type) where
  name : String
  parent : List α
  view : View

/-- INSTANCE (old-style SequenceCollection of Sequence rows, Sequence.to_rich_dict -> deserialise_seq per row): for every collection with
    unique names whose rows are in ANY view state satisfying the invariant (any history of slices / rc / strides per row), the rich
    dict deserialises, row count and order are kept and every row is observationally its original (string, strand, parent
    coordinates, invariant) -/
theorem coll_view_rows_roundtrip {α} [Inhabited α] (rows : List (SeqRow α)) (hnd : (rows.map (·.name)).Nodup)
    (hinv : ∀ s ∈ rows, Inv s.view ∧ s.view.seqLen = s.parent.length) :
    ∃ out, collRoundtrip (·.name) (fun s => s) (fun s => seqRoundtripOld s.parent s.view) rows = .ok out ∧
      Rows (fun s r => RebaseOK s.parent s.view r) rows out :=
  coll_roundtrip_rows _ _ _ _ rows hnd (fun s hs => C10.view_rebase_roundtrip s.parent s.view (hinv s hs).1 (hinv s hs).2)

end CogentModel.C10Coll
