import CogentModel.Model.Clustal
import CogentModel.Spec.ClustalRecords
import CogentModel.Proofs.Clustal
import CogentModel.Props.C06
/-! # C06 — Clustal: `clustal_from_alignment` followed by `ClustalParser` (format/clustal.py, parse/clustal.py)

The model (`Model/Clustal.lean`) mirrors the writer's `while curr_ix < aln_len` loop and the parser's pipeline
`filter(is_clustal_seq_line) -> delete_trailing_number -> last_space -> LabelLineParser` (an insertion-ordered dict of
label -> pieces).  The theorems are for ALL record lists, ALL wrap widths and ALL cuttings of the file. -/
namespace CogentModel.C06
open CogentModel.Splitlines CogentModel.SeqFormats CogentModel.SeqSpec CogentModel.ClustalSpec CogentModel.Clustal

/-- the hypotheses of the Clustal round trip: distinct labels the format can carry, residues without blank or digit,
one common length `L` -/
def ClustalRecs (L : Nat) (recs : List Rec) : Prop :=
  (recs.map Prod.fst).Nodup ∧ ∀ r ∈ recs, clustalName r.1 = true ∧ clustalSeq r.2 = true ∧ r.2.length = L

/-- **Clustal round-trip** in one statement: the text is written, has `'\n'` as its only line boundary, and parses back
to the records (`clustal_roundtrip`, `clustal_text_nlOnly` and `clustal_streamed_roundtrip` are its corollaries). -/
theorem clustal_core (wrap : Option Nat) (hw : ∀ w, wrap = some w → 0 < w) (recs : List Rec) (hne : recs ≠ [])
    (L : Nat) (h : ClustalRecs L recs) :
    ∃ text, clustalFormat wrap recs = .ok text ∧ NlOnly text ∧ clustalParse text = .ok recs := by
  obtain ⟨r0, hr0⟩ := List.exists_mem_of_ne_nil recs hne
  have hLpos : 0 < L := by
    rw [← (h.2 r0 hr0).2.2]
    exact List.length_pos_iff.mpr (clustalSeq_facts (h.2 r0 hr0).2.1).1.1
  -- the pieces written per block: one block, or the slices of width `w`; at least one as `L > 0`
  obtain ⟨h1, h2⟩ := parse_blocks h.1 (fun r hr => (h.2 r hr).1) (wrapFns wrap L) (wrapFns_ne_nil wrap hw hLpos)
    (wrapFns_good wrap hw fun r hr => (h.2 r hr).2)
  refine ⟨_, clustalFormat_eq wrap hne fun r hr => (h.2 r hr).2.2, h1, h2.trans ?_⟩
  rw [map_rebuild fun r hr => wrapFns_flatten wrap hw r (h.2 r hr).2.2]

/-- **Clustal round-trip, every wrap width.**  For every non-empty list of records with distinct labels the format can
carry (printable, no blank, not starting with `CLUSTAL`/`MUSCLE`), residues without blank or digit and one common
length, and for `wrap = None` as well as every `wrap ≥ 1`: `ClustalParser` applied to the lines of the text
`clustal_from_alignment` writes returns exactly the labels, the order and the sequences. -/
theorem clustal_roundtrip (wrap : Option Nat) (hw : ∀ w, wrap = some w → 0 < w) (recs : List Rec) (hne : recs ≠ [])
    (L : Nat) (h : ClustalRecs L recs) :
    ∃ text, clustalFormat wrap recs = .ok text ∧ clustalParse text = .ok recs := by
  obtain ⟨t, h1, _, h3⟩ := clustal_core wrap hw recs hne L h
  exact ⟨t, h1, h3⟩

-- non-vacuity: two records, three blocks (wrap 2 on length 5), labels of different lengths, `-` and `*` as residues
example : ClustalRecs 5 [(['s', '1'], ['A', 'C', '-', 'G', 'T']), (['l', 'o', 'n', 'g', '|', 'x'], ['A', '*', 'G', 'T', 'N'])] :=
  ⟨by decide +kernel, by decide +kernel⟩
example : clustalFormat (some 2) [(['s'], ['A', 'C', 'G']), (['t', 'u'], ['T', 'T', '-'])] =
    .ok ("CLUSTAL\n\ns     AC\ntu    TT\n\ns     G\ntu    -\n").toList := by
  -- the literal as a character list first: the kernel would otherwise decode its bytes character by character
  rw [String.toList_ofList]
  decide +kernel
example : clustalParse ("CLUSTAL\n\ns     AC\ntu    TT\n\ns     G\ntu    -\n").toList =
    .ok [(['s'], ['A', 'C', 'G']), (['t', 'u'], ['T', 'T', '-'])] := by
  rw [String.toList_ofList]
  decide +kernel

/-- what the Clustal writer writes has `'\n'` as its only line boundary -/
theorem clustal_text_nlOnly (wrap : Option Nat) (hw : ∀ w, wrap = some w → 0 < w) (recs : List Rec) (hne : recs ≠ [])
    (L : Nat) (h : ClustalRecs L recs) (text : Str) (ht : clustalFormat wrap recs = .ok text) : NlOnly text := by
  obtain ⟨t, h1, h2, _⟩ := clustal_core wrap hw recs hne L h
  rw [ht] at h1
  cases h1
  exact h2

/-- **Clustal, every chunk size and every wrap width** (the registry's `LineBasedParser(ClustalParser)`, i.e.
`ClustalParser(iter_splitlines(path))`): for every cutting of the written file into non-empty reads the streamed parse
returns the records. -/
theorem clustal_streamed_roundtrip (wrap : Option Nat) (hw : ∀ w, wrap = some w → 0 < w) (recs : List Rec)
    (hne : recs ≠ []) (L : Nat) (h : ClustalRecs L recs) :
    ∃ text, clustalFormat wrap recs = .ok text ∧
      ∀ chunks : List (List Char), (∀ ch ∈ chunks, ch ≠ []) → chunks.flatten = text →
        clustalParser true (iterSplitlines chunks) = .ok recs := by
  obtain ⟨t, h1, h2, h3⟩ := clustal_core wrap hw recs hne L h
  refine ⟨t, h1, fun chunks hch hcat => ?_⟩
  rw [streamed_parse_eq (clustalParser true) t h2 chunks hch hcat]
  exact h3

-- non-vacuity: read boundaries inside the header, inside the padding and right before a blank line
example : [("CLUS").toList, ("TAL\n\ns  ").toList, ("  A\n").toList, ("\ns    C\n").toList].flatten
    = ("CLUSTAL\n\ns    A\n\ns    C\n").toList := by
  repeat rw [String.toList_ofList]
  rfl
example : clustalFormat (some 1) [(['s'], ['A', 'C'])] = .ok ("CLUSTAL\n\ns    A\n\ns    C\n").toList := by
  rw [String.toList_ofList]
  decide +kernel
example : clustalParser true (iterSplitlines [("CLUS").toList, ("TAL\n\ns  ").toList, ("  A\n").toList, ("\ns    C\n").toList])
    = .ok [(['s'], ['A', 'C'])] := by
  repeat rw [String.toList_ofList]
  decide +kernel

/-- The "no digit" hypothesis is needed: a block that consists of digits only is read as a residue count by
`delete_trailing_number` and the line then has no residues (`RecordError` in strict mode).  Digits are not residue
characters of any cogent3 alphabet, so this is a documented limit of the format, not a defect. -/
theorem clustal_digit_block_counter :
    clustalFormat none [(['a'], ['1', '2'])] = .ok ("CLUSTAL\n\na    12\n").toList ∧
    clustalParse ("CLUSTAL\n\na    12\n").toList = .error .recordError := by
  rw [String.toList_ofList]
  decide +kernel

end CogentModel.C06
