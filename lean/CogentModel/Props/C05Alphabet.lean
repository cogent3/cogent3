import CogentModel.Props.C05
import CogentModel.Proofs.AlphabetLemmas
/-!
# C05 — the instantaneous-change mask over every gap-free word alphabet

Closes the structural hypotheses of `reversible_detailed_balance_conditional` / `_monomer`: for **every** alphabet of
words of a common length `L` over any monomer alphabet that does not contain the gap code `g` (all named models:
`model_gaps=False`), both `_is_instantaneous` variants (`isInstWord`, `isInstCodon`) select exactly the pairs that
differ at one position.
-/
namespace CogentModel.C05
open CogentModel.RateMatrix

/-- the mask is "exactly one differing position" -/
theorem instMask_iff_one_difference (codon : Bool) (g : Nat) (words : Array (Array Nat)) (L : Nat)
    (hlen : ∀ i, i < words.size → (wordAt words i).length = L) (hgap : ∀ i, i < words.size → g ∉ wordAt words i)
    (i j : Nat) (hi : i < words.size) (hj : j < words.size) :
    bget (instMask codon g words) i j = true ↔ nDiffs (wordAt words i) (wordAt words j) = 1 := by
  rw [bget_instMask codon g words hi hj]
  cases codon with
  | true => exact isInstCodon_gapfree g _ _ (hgap i hi) (hgap j hj) ((hlen i hi).trans (hlen j hj).symm)
  | false => exact isInstWord_gapfree g _ _ (hgap i hi) (hgap j hj)

/-- it is symmetric -/
theorem instMask_symmetric (codon : Bool) (g : Nat) (words : Array (Array Nat)) (L : Nat)
    (hlen : ∀ i, i < words.size → (wordAt words i).length = L) (hgap : ∀ i, i < words.size → g ∉ wordAt words i)
    (i j : Nat) (hi : i < words.size) (hj : j < words.size) :
    bget (instMask codon g words) i j = bget (instMask codon g words) j i := by
  rw [Bool.eq_iff_iff, instMask_iff_one_difference codon g words L hlen hgap i j hi hj,
    instMask_iff_one_difference codon g words L hlen hgap j i hj hi, nDiffs_comm]

/-- and instantaneous pairs share their context at the changed position (both forms used downstream) -/
theorem instMask_pairs_differ_at_one_position (codon : Bool) (g : Nat) (words : Array (Array Nat)) (L : Nat)
    (hlen : ∀ i, i < words.size → (wordAt words i).length = L) (hgap : ∀ i, i < words.size → g ∉ wordAt words i)
    (i j : Nat) (hi : i < words.size) (hj : j < words.size) (hb : bget (instMask codon g words) i j = true) :
    sameContext (firstDiff (wordAt words i) (wordAt words j)) 0 (wordAt words i) (wordAt words j) = true ∧
    firstDiff (wordAt words i) (wordAt words j) < L ∧
    ∀ k, k < L → k ≠ firstDiff (wordAt words i) (wordAt words j) →
      (words.getD i #[]).getD k 0 = (words.getD j #[]).getD k 0 := by
  obtain ⟨h1, h2, h3⟩ := nDiffs_one _ _ ((hlen i hi).trans (hlen j hj).symm)
    ((instMask_iff_one_difference codon g words L hlen hgap i j hi hj).mp hb)
  rw [hlen i hi] at h1
  exact ⟨h2 0, h1, fun k _ hk => by rw [wordAt_getD, wordAt_getD]; exact h3 k hk⟩

/-- the sense-codon style alphabet {00,01,10,11} minus nothing, gap code 2: hypotheses hold -/
example : (∀ i, i < 4 → (wordAt #[#[0, 0], #[0, 1], #[1, 0], #[1, 1]] i).length = 2) ∧
    (∀ i, i < 4 → 2 ∉ wordAt #[#[0, 0], #[0, 1], #[1, 0], #[1, 1]] i) := by
  constructor <;> decide

variable {K : Type*} [Field K]

/-- **Detailed balance for the conditional motif-prob model over every gap-free alphabet** (GTR, CNFGTR, CNFHKY, and any
user model with `mprob_model="conditional"`), with the model's own mask: only symmetry of `R` and `R = 0` off the mask
remain as hypotheses (both are `parametric_symmetric` / the mask factor of `exchParametric`). -/
theorem conditional_detailed_balance_gapfree [DecidableEq K] (codon : Bool) (g : Nat) (words : Array (Array Nat)) (L : Nat)
    (hlen : ∀ i, i < words.size → (wordAt words i).length = L) (hgap : ∀ i, i < words.size → g ∉ wordAt words i)
    (pi : Vec K) (R : Mat K)
    (hR : ∀ i j, i < words.size → j < words.size → mget R i j = mget R j i)
    (hzero : ∀ i j, i < words.size → j < words.size → bget (instMask codon g words) i j = false → mget R i j = 0)
    (i j : Nat) (hi : i < words.size) (hj : j < words.size) :
    vget pi i * mget (calcQStationary words.size R (weightConditional words L (instMask codon g words) pi) pi) i j =
      vget pi j * mget (calcQStationary words.size R (weightConditional words L (instMask codon g words) pi) pi) j i :=
  reversible_detailed_balance_conditional words L _ pi R hR hzero
    (fun a b ha hb => instMask_symmetric codon g words L hlen hgap a b ha hb)
    (fun a b ha hb h => (instMask_pairs_differ_at_one_position codon g words L hlen hgap a b ha hb h).1) i j hi hj

/-- **Detailed balance for the monomer / position-specific monomer models over every gap-free alphabet** (MG94HKY, MG94GTR). -/
theorem monomer_detailed_balance_gapfree (codon : Bool) (g : Nat) (words : Array (Array Nat)) (L : Nat)
    (hlen : ∀ i, i < words.size → (wordAt words i).length = L) (hgap : ∀ i, i < words.size → g ∉ wordAt words i)
    (mp : Nat → Vec K) (R : Mat K)
    (hR : ∀ i j, i < words.size → j < words.size → mget R i j = mget R j i)
    (hzero : ∀ i j, i < words.size → j < words.size → bget (instMask codon g words) i j = false → mget R i j = 0)
    (i j : Nat) (hi : i < words.size) (hj : j < words.size) :
    vget (wordProbsMonomer words L mp) i *
        mget (calcQStationary words.size R (weightMonomer words (instMask codon g words) mp) (wordProbsMonomer words L mp)) i j =
      vget (wordProbsMonomer words L mp) j *
        mget (calcQStationary words.size R (weightMonomer words (instMask codon g words) mp) (wordProbsMonomer words L mp)) j i :=
  reversible_detailed_balance_monomer words L _ mp R hR hzero
    (fun a b ha hb => instMask_symmetric codon g words L hlen hgap a b ha hb)
    (fun a b ha hb h => (instMask_pairs_differ_at_one_position codon g words L hlen hgap a b ha hb h).2) i j hi hj

/-- `exchParametric` from the model's own 0/1 mask vanishes off the mask (the `hzero` hypothesis above) -/
theorem parametric_zero_off_mask (n : Nat) (inst : Mat Bool) (preds : List (List (Nat × Nat))) (params : List K) (R : Mat K)
    (h : exchParametric n (maskF n inst) preds params = some R) (i j : Nat) (hi : i < n) (hj : j < n)
    (hb : bget inst i j = false) : mget R i j = 0 := by
  rw [mget_exchParametric h hi hj]
  unfold maskF
  rw [mget_tab _ hi hj, hb, if_neg Bool.false_ne_true, zero_mul]

example : exchParametric 2 (maskF 2 #[#[false, true], #[true, false]] : Mat ℚ) [[(0, 1), (1, 0)]] [5] = some #[#[0, 5], #[5, 0]] := by
  decide +kernel

end CogentModel.C05
