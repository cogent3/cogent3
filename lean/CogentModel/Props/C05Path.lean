import CogentModel.Proofs.PathLemmas
import CogentModel.Props.C05
/-!
  C05 — processes that are not a single exp(tQ): products of transition matrices along a path of the tree
  (time-heterogeneous and discrete-time models; `LikelihoodFunction._nodeMotifProbs`) and rate-class mixtures.

  All statements are for an arbitrary field `K` (ordered where signs are involved), any dimension `n`, and ANY list of
  matrices (any path length, any mixture of models / lengths / discrete psubs along it) — nothing is assumed about
  where the matrices come from.
-/
namespace CogentModel.C05
open CogentModel.RateMatrix CogentModel.Expm CogentModel.PathProcess Finset Matrix

section field
variable {K : Type*} [Field K] {n : Nat}

/-- Chapman–Kolmogorov along a path: propagating the root distribution edge by edge (`numpy.dot(mprobs, psub)`,
recursively) is the same as multiplying it with the product of the transition matrices of the path -/
theorem path_chapman_kolmogorov (mp : Vec K) (Ps : List (Mat K)) (j : Nat) (hj : j < n) :
    vget (pathDist n mp Ps) j = vget (vecMat n mp (pathProduct n Ps)) j := by
  have h : toV n (pathDist n mp Ps) = toV n (vecMat n mp (pathProduct n Ps)) := by
    rw [toV_pathDist, toV_vecMat, toM_pathProduct]
  exact congrFun h ⟨j, hj⟩

example : vget (pathDist 2 (#[1/4, 3/4] : Vec ℚ) [#[#[1/2, 1/2], #[1/3, 2/3]], #[#[9/10, 1/10], #[1/5, 4/5]]]) 0 =
    vget (vecMat 2 (#[1/4, 3/4] : Vec ℚ) (pathProduct 2 [#[#[1/2, 1/2], #[1/3, 2/3]], #[#[9/10, 1/10], #[1/5, 4/5]]])) 0 :=
  path_chapman_kolmogorov _ _ 0 (by decide)

/-- the transition matrix of a concatenated path is the product of the two (`P(path₁ ++ path₂) = P(path₁) P(path₂)`) -/
theorem path_product_append (Ps Qs : List (Mat K)) (i j : Nat) (hi : i < n) (hj : j < n) :
    mget (pathProduct n (Ps ++ Qs)) i j = mget (matMul n (pathProduct n Ps) (pathProduct n Qs)) i j :=
  (entryEq_iff n _ _).mpr (by
    rw [toM_matMul, toM_pathProduct, toM_pathProduct, toM_pathProduct, List.map_append, List.prod_append]) i j hi hj

/-- a product of matrices with unit row sums has unit row sums (any number of factors) -/
theorem path_product_rowsum_one (Ps : List (Mat K)) (h : ∀ P ∈ Ps, ∀ i, i < n → sumTo n (fun j => mget P i j) = 1)
    (i : Nat) (hi : i < n) : sumTo n (fun j => mget (pathProduct n Ps) i j) = 1 :=
  List.foldlRecOn (motive := RowsOne n) Ps (matMul n) (rowsOne_ident n) (fun A hA P hP => rowsOne_matMul n A P hA (h P hP)) i hi

example : sumTo 2 (fun j => mget (pathProduct 2 ([#[#[1/2, 1/2], #[1/3, 2/3]], #[#[9/10, 1/10], #[1/5, 4/5]]] : List (Mat ℚ))) 1 j) = 1 := by
  decide +kernel

/-- the distribution at the end of a path sums to one when the root distribution does and every matrix on the way has
unit row sums -/
theorem path_dist_total_one (mp : Vec K) (Ps : List (Mat K)) (hmp : sumTo n (vget mp) = 1)
    (h : ∀ P ∈ Ps, ∀ i, i < n → sumTo n (fun j => mget P i j) = 1) : sumTo n (vget (pathDist n mp Ps)) = 1 :=
  List.foldlRecOn (motive := fun v => sumTo n (vget v) = 1) Ps (vecMat n) hmp
    fun _ hv P hP => (total_vecMat _ P (h P hP)).trans hv

/-- stationarity along a path: if the root distribution is stationary for EVERY matrix on the path (`π P_e = π`), it is
the distribution at the end of the path — for heterogeneous paths too (different Q, different lengths, discrete psubs) -/
theorem path_stationary (pi : Vec K) (Ps : List (Mat K))
    (h : ∀ P ∈ Ps, ∀ j, j < n → vget (vecMat n pi P) j = vget pi j) (j : Nat) (hj : j < n) :
    vget (pathDist n pi Ps) j = vget pi j :=
  List.foldlRecOn (motive := fun v => ∀ j, j < n → vget v j = vget pi j) Ps (vecMat n) (fun _ _ => rfl)
    (fun _ hv P hP j hj => (vecMat_congr hv P hj).trans (h P hP j hj)) j hj

example : ∀ j, j < 2 → vget (vecMat 2 (#[2/5, 3/5] : Vec ℚ) #[#[1/4, 3/4], #[1/2, 1/2]]) j = vget (#[2/5, 3/5] : Vec ℚ) j := by
  decide +kernel

/-- … and at every node met on the way (what `_nodeMotifProbs` records) -/
theorem path_stationary_everywhere (pi : Vec K) (Ps : List (Mat K))
    (h : ∀ P ∈ Ps, ∀ j, j < n → vget (vecMat n pi P) j = vget pi j) :
    ∀ d ∈ pathDists n pi Ps, ∀ j, j < n → vget d j = vget pi j := by
  intro d hd
  rw [pathDists_eq_inits, List.mem_map] at hd
  obtain ⟨Qs, hQs, rfl⟩ := hd
  exact path_stationary pi Qs fun P hP => h P (((List.mem_inits _ _).mp hQs).subset hP)

/-! ## rate-class mixtures -/

/-- the expected substitution rate is linear in the generator -/
theorem ens_rate_scale (pi : Vec K) (Q : Mat K) (c : K) : ensRate n pi (matScale n c Q) = c * ensRate n pi Q := by
  unfold ensRate
  rw [sumTo_congr fun i hi => by rw [mget_matScale n c Q hi hi, mul_left_comm], ← sumTo_const_mul, zero_sub, zero_sub, mul_neg]

/-- calibration of a rate-heterogeneity mixture: if Q is calibrated (`-∑ π_i Q_ii = 1`) and the rate-class multipliers
average to one under the bin probabilities, the expected number of substitutions of the mixture over a branch of
length `t` is `t` -/
theorem mixture_ens_calibrated (pi : Vec K) (Q : Mat K) (t : K) (w r : Vec K) (hcal : ensRate n pi Q = 1)
    (hmean : sumTo r.size (fun b => vget w b * vget r b) = 1) : mixtureENS n pi Q t w r = t := by
  unfold mixtureENS
  rw [sumTo_congr (g := fun b => t * (vget w b * vget r b)) fun b _ => by rw [ens_rate_scale, hcal, mul_one, mul_comm (vget r b), mul_left_comm]]
  rw [← sumTo_const_mul, hmean, mul_one]

/-- end to end for the code's constructions: `calcQ` + `WeightedPartitionDefn.calc` rate classes -/
theorem mixture_ens_weighted (R : Mat K) (pi : Vec K) (t : K) (w v : Vec K) (hdiag : ∀ i, i < n → mget R i i = 0)
    (hnorm : sumTo n (fun i => vget pi i * sumTo n (fun j => mget R i j)) ≠ 0)
    (hscale : sumTo v.size (fun b => vget w b * vget v b) ≠ 0) :
    mixtureENS n pi (calcQGeneral n R pi) t w (ratesWeighted w v) = t := by
  apply mixture_ens_calibrated
  · have := calcQ_calibrated n R pi hdiag hnorm
    unfold ensRate; rw [zero_sub]; exact this
  · rw [show (ratesWeighted w v).size = v.size from size_vtab _]
    exact rate_classes_mean_one w v hscale

example : mixtureENS 2 (#[1/4, 3/4] : Vec ℚ) (calcQGeneral 2 (#[#[0, 2], #[3, 0]] : Mat ℚ) #[1/4, 3/4]) (1/2) #[1/4, 3/4]
    (ratesWeighted #[1/4, 3/4] #[1, 3]) = 1/2 := by decide +kernel

end field

section ordered
variable {K : Type*} [Field K] [LinearOrder K] [IsStrictOrderedRing K] {n : Nat}

/-- entrywise non-negativity is preserved by products: with `path_product_rowsum_one`, a product of row-stochastic
matrices is row-stochastic -/
theorem path_product_nonneg (Ps : List (Mat K)) (h : ∀ P ∈ Ps, ∀ i j, i < n → j < n → 0 ≤ mget P i j)
    (i j : Nat) (hi : i < n) (hj : j < n) : 0 ≤ mget (pathProduct n Ps) i j := by
  refine List.foldlRecOn (motive := fun A => ∀ i j, i < n → j < n → 0 ≤ mget A i j) Ps (matMul n) (fun a b ha hb => ?_)
    (fun A hA P hP => matMul_entries_nonneg A P hA (h P hP)) i j hi hj
  rw [mget_ident n ha hb]
  exact ite_nonneg zero_le_one (le_refl 0)

/-- … and so is the non-negativity of the distribution carried along the path -/
theorem path_dist_nonneg (mp : Vec K) (Ps : List (Mat K)) (hmp : ∀ i, i < n → 0 ≤ vget mp i)
    (h : ∀ P ∈ Ps, ∀ i j, i < n → j < n → 0 ≤ mget P i j) (j : Nat) (hj : j < n) : 0 ≤ vget (pathDist n mp Ps) j :=
  List.foldlRecOn (motive := fun v => ∀ i, i < n → 0 ≤ vget v i) Ps (vecMat n) hmp (fun v hv P hP => vecMat_entries_nonneg v P hv (h P hP)) j hj

end ordered
end CogentModel.C05
