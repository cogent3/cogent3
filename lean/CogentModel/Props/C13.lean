import CogentModel.Proofs.DataStoreSim
import CogentModel.Proofs.DataStoreSqlSim
import CogentModel.Model.DataStoreSqlite
import CogentModel.Gen.C13Names
/-! # C13 — data stores hold exactly what was written, record by record

The store models (`Model/DataStore.lean`: DataStoreDirectory over an abstract file system, string handling
mirrored character by character; `Model/DataStoreSqlite.lean`) refine a pair of dictionaries
(`Spec/DataStoreDict.lean`).  The model follows the code after the repairs 5d49b05d8 (exact-name match in
`drop_not_completed`), fce82c149 (read-only check there) and 0dec94369 (a rewritten
not-completed record is listed once).  `cfg : Cfg` selects the code before (`Cfg.asIs`) or after
(`Cfg.repaired`) the repairs 780d5be60 (a read-only store creates no directory) and 8ee96b6d1 (`_write`
puts the md5 side file in place before the record); the refinement theorems hold for every `cfg`.
-/
namespace CogentModel.C13
open CogentModel.KV CogentModel.DataStore CogentModel.DataStoreDict

variable {D : Type}

/-- **Directory store refines the dictionary (partial).**  For EVERY finite history `ops`, any
store suffix, any opening mode, any checksum function `H`, and any
identifier set `ids` that is name-hygienic (`hyg`, a decidable condition on the names only): if
every operation is `safe` in the dictionary state it is applied to, then what the store shows
after the history — having read its member lists (`populate`) — is what the dictionary holds:
completed / not-completed ids are exactly the dictionary keys, each listed once; `read()` of every
member is the dictionary value; every not-completed member's md5 is `H` of its content; every
completed member's md5 is `H` of its content, except — exactly — for the records in the ghost list
`lostRun` (those whose write retired a live not-completed record of the same identifier: `write`
deletes the shared md5 side file), whose md5 is missing; the log records are the dictionary's.
(A freshly re-opened store is the case
`ops ++ [reopen m]`, see `reopened_store_refines_dict_partial`.) -/
theorem store_refines_dict_partial (cfg : Cfg) (H : D → D) (sfx : Str) (ids : List Str) (mode : Mode)
    (ops : List (Op D)) (hy : hyg sfx ids = true)
    (hs : safeHist sfx ids (Dict.empty mode) ops = true) :
    let s := populate (run cfg H (Dir.create mode sfx) ops)
    let d := specRun .directory sfx (Dict.empty mode) ops
    let lost := lostRun sfx (Dict.empty mode) [] ops
    s.cCache.Nodup ∧ (∀ n, n ∈ s.cCache ↔ n ∈ keys d.completed) ∧
    s.ncCache.Nodup ∧ (∀ n, n ∈ s.ncCache ↔ n ∈ keys d.notCompleted) ∧
    (∀ n, get s.root n = get d.completed n) ∧ (∀ n, get s.nc n = get d.notCompleted n) ∧
    obsLogs s = d.logs ∧
    (∀ n v, get d.notCompleted n = some v → get s.md5 (md5Lookup s.sfx n) = some (H v)) ∧
    (∀ n v, get d.completed n = some v →
      get s.md5 (md5Lookup s.sfx n) = if n ∈ lost then none else some (H v)) :=
  obs_of_sim hy (sim_of_history hy hs)

/-- **Every call returns / raises what the dictionary model says (partial).**  After any safe
history, a safe operation `op` returns the member id the dictionary model names, raises `IOError`
exactly when the dictionary model rejects it (read-only store; append mode and the record exists),
and `drop_not_completed()` raises `FileNotFoundError` exactly when `not_completed/` is absent. -/
theorem store_results_match_dict_partial (cfg : Cfg) (H : D → D) (sfx : Str) (ids : List Str) (mode : Mode)
    (ops : List (Op D)) (op : Op D) (hy : hyg sfx ids = true)
    (hs : safeHist sfx ids (Dict.empty mode) ops = true)
    (ho : safe sfx ids (specRun .directory sfx (Dict.empty mode) ops) op = true) :
    (step cfg H (run cfg H (Dir.create mode sfx) ops) op).2 =
      expectRes sfx (specRun .directory sfx (Dict.empty mode) ops) (run cfg H (Dir.create mode sfx) ops).ncDir op :=
  (step_sim hy (sim_of_history hy hs) op ho).2

/- FULL STATEMENT (not proved): `store_refines_dict` — the same conclusion, with the last clause
   strengthened to `get s.md5 … = some (H v)` (i.e. `lost = []`), for every history and every identifier set, i.e.
   without `hyg` and `safeHist`.  It is FALSE for the code as it is; each hypothesis is
   forced by a concrete behaviour of `DataStoreDirectory`, exhibited below by a `_counter` theorem
   and replayed on the real store by the harness:
   * the `lost` exception in the md5 clause and `safe (.writeNc)` "OVERWRITE mode: no completed record": the completed
     and the not-completed record of one identifier share the md5 side file, and `write` deletes it
     when it retires the not-completed record (`md5_lost_on_retire_counter`);
   * `safe (.write)`: OVERWRITE mode silently keeps the old record (`rewrite_ignored_counter`);
   * `safe (.writeNc)` "APPEND mode: no second not-completed record": append mode overwrites an
     existing not-completed record (`append_overwrites_not_completed_counter`);
   * `hyg` per-identifier clauses: `str.replace(suffix, …)` / `suffix in item` act on the whole
     identifier, so identifiers that merely contain the suffix are stored under other names
     (`suffix_substring_counter`); the pairwise clauses only ask that distinct records have
     distinct md5 side-file names; `safe (.writeLog)` asks the same kind of hygiene of the log identifier;
   * the last clause of `safe (.writeNc)` (the not-completed file name is no completed member's name; it can fail
     for the suffix `json`, finding C13-json-store-not-completed-ignored) has no `_counter` theorem here.
   Not among the hypotheses, because the code was repaired: "no not-completed name is
   a suffix-match of another identifier" (5d49b05d8, `drop_matches_exact_name`), "no drop on a
   read-only store" (fce82c149, `readonly_drop_refused`), "no second not-completed write of one
   identifier" in OVERWRITE mode (0dec94369, `not_completed_rewrite_listed_once`). -/

def fasta : Str := ['f','a','s','t','a']
def idA : Str := ['a']
def idBA : Str := ['b','a']
def idAfasta : Str := ['a','.','f','a','s','t','a']
def idB : Str := ['b']
def baJson : Str := ['b','a','.','j','s','o','n']
def aJson : Str := ['a','.','j','s','o','n']
def aFasta : Str := ['a','.','f','a','s','t','a']

/-- `write_nc('ba'); write_nc('a'); write('a.fasta')` -/
def witness : List (Op Nat) := [.writeNc idBA 1, .writeNc idA 2, .write idAfasta 3]

-- the hypotheses of `store_refines_dict_partial` are met by non-trivial histories, including
-- names that are suffixes of one another and a rewritten not-completed record
example : hyg fasta [idA, idBA, idAfasta] = true ∧
    safeHist fasta [idA, idBA, idAfasta] (Dict.empty .w) witness = true := ⟨hyg_suffix_related, by decide +kernel⟩
example : hyg fasta [idA, idBA, idAfasta] = true ∧
    safeHist fasta [idA, idBA, idAfasta] (Dict.empty .a)
      [.writeNc idBA 1, .writeNc idA 2, .write idAfasta 3, .reopen .w, .writeNc idBA 4, .writeNc idBA 5, .drop idBA,
       .reopen .r, .drop []] = true := ⟨hyg_suffix_related, by decide +kernel⟩

/-- on the witness history `write('a.fasta')` retires `a.json` only: since 5d49b05d8 the record name is
    matched exactly, so the store keeps `ba`'s record, as the dictionary does -/
theorem drop_matches_exact_name :
    (populate (run Cfg.asIs id (Dir.create .w fasta) witness)).ncCache = [baJson] ∧
    keys (specRun .directory fasta (Dict.empty .w) witness).notCompleted = [baJson] := by decide +kernel

/-- `write_nc('a'); write('a')`: the completed record ends up without md5 -/
theorem md5_lost_on_retire_counter :
    let s := populate (run Cfg.asIs (· + 100) (Dir.create .a fasta) [.writeNc idA 1, .write idA 2])
    s.cCache = [aFasta] ∧ get s.root aFasta = some 2 ∧ get s.md5 (md5Lookup fasta aFasta) = none ∧
    lostRun fasta (Dict.empty .a) [] [.writeNc idA (1 : Nat), .write idA 2] = [aFasta] := by decide +kernel

/-- `write('a', 1); write('a', 2)` in OVERWRITE mode keeps `1` -/
theorem rewrite_ignored_counter :
    get (run Cfg.asIs id (Dir.create .w fasta) [.write idA 1, .write idA 2]).root aFasta = some 1 ∧
    get (specRun .directory fasta (Dict.empty .w) [.write idA 1, .write idA 2]).completed aFasta = some 2 := by
  decide +kernel

/-- `write_nc('a', 1); write_nc('a', 2)` in APPEND mode overwrites the record (listed once since 0dec94369) -/
theorem append_overwrites_not_completed_counter :
    let s := run Cfg.asIs id (Dir.create .a fasta) [.writeNc idA 1, .writeNc idA 2]
    s.ncCache = [aJson] ∧ get s.nc aJson = some 2 ∧
    get (specRun .directory fasta (Dict.empty .a) [.writeNc idA 1, .writeNc idA 2]).notCompleted aJson = some 1 := by
  decide +kernel

/-- the same two writes in OVERWRITE mode: the record is replaced and listed once, as in the dictionary -/
theorem not_completed_rewrite_listed_once :
    let s := run Cfg.asIs id (Dir.create .w fasta) [.writeNc idA 1, .writeNc idA 2]
    s.ncCache = [aJson] ∧ get s.nc aJson = some 2 ∧
    get (specRun .directory fasta (Dict.empty .w) [.writeNc idA 1, .writeNc idA 2]).notCompleted aJson = some 2 := by
  decide +kernel

/-- since fce82c149 a read-only store refuses `drop_not_completed` -/
theorem readonly_drop_refused :
    keys (run Cfg.asIs id (Dir.create .w fasta) [.writeNc idA (1 : Nat), .reopen .r, .drop []]).nc = [aJson] ∧
    (step Cfg.asIs id (run Cfg.asIs id (Dir.create .w fasta) [.writeNc idA (1 : Nat), .reopen .r]) (.drop [])).2 = .err .ioError := by
  decide +kernel

/-- an identifier containing the suffix: `write_nc('sofasta.fasta')` is stored as `sojson.json`
    with its md5 under `sotxt.txt` -/
theorem suffix_substring_counter :
    let s := run Cfg.asIs id (Dir.create .w fasta) [.writeNc ['s','o','f','a','s','t','a','.','f','a','s','t','a'] 1]
    keys s.nc = [['s','o','j','s','o','n','.','j','s','o','n']] ∧
    keys s.md5 = [['s','o','t','x','t','.','t','x','t']] ∧
    hygId fasta ['s','o','f','a','s','t','a','.','f','a','s','t','a'] = false := by decide +kernel

/-- closing and re-opening in any mode shows the same records (same statement as
    `store_refines_dict_partial` for the history followed by a re-open). -/
theorem reopened_store_refines_dict_partial (cfg : Cfg) (H : D → D) (sfx : Str) (ids : List Str) (mode m : Mode)
    (ops : List (Op D)) (hy : hyg sfx ids = true)
    (hs : safeHist sfx ids (Dict.empty mode) ops = true) :
    let s := populate (run cfg H (Dir.create mode sfx) (ops ++ [.reopen m]))
    let d := specRun .directory sfx (Dict.empty mode) ops
    let lost := lostRun sfx (Dict.empty mode) [] ops
    s.cCache.Nodup ∧ (∀ n, n ∈ s.cCache ↔ n ∈ keys d.completed) ∧
    s.ncCache.Nodup ∧ (∀ n, n ∈ s.ncCache ↔ n ∈ keys d.notCompleted) ∧
    (∀ n, get s.root n = get d.completed n) ∧ (∀ n, get s.nc n = get d.notCompleted n) ∧
    obsLogs s = d.logs ∧
    (∀ n v, get d.notCompleted n = some v → get s.md5 (md5Lookup s.sfx n) = some (H v)) ∧
    (∀ n v, get d.completed n = some v →
      get s.md5 (md5Lookup s.sfx n) = if n ∈ lost then none else some (H v)) := by
  -- re-opening keeps the relation, with the dictionary's mode set to `m`
  rw [run_append]
  exact obs_of_sim hy (d := { specRun .directory sfx (Dict.empty mode) ops with mode := m })
    (reopen_sim (cfg := cfg) (sim_of_history hy hs) m)

example : safeHist fasta [idA, idBA, idAfasta] (Dict.empty .w) (witness ++ [.reopen .r]) = true := by decide +kernel

/-- the identifier an operation names (`none`: drop-all, log, re-open, observe, unlock) -/
def opId : Op D → Option Str
  | .write i _ => some i
  | .writeNc i _ => some i
  | .drop i => if i.isEmpty then none else some i
  | _ => none

theorem specStep_completed (k : Kind) (sfx : Str) (d : Dict D) (op : Op D) :
    (specStep k sfx d op).completed = d.completed ∨
    ∃ i data, op = .write i data ∧ rejects k sfx d op = false ∧
      (specStep k sfx d op).completed = put d.completed (cName k sfx i) data := by
  unfold specStep
  split
  · exact .inl rfl
  · rename_i hrej
    cases op with
    | write i data => exact .inr ⟨i, data, rfl, by simpa using hrej, rfl⟩
    | drop i => simp only [DataStoreDict.apply]; split <;> exact .inl rfl
    | _ => exact .inl rfl

theorem specStep_notCompleted (k : Kind) (sfx : Str) (d : Dict D) (op : Op D) :
    (specStep k sfx d op).notCompleted = d.notCompleted ∨
    (∃ i, opId op = some i ∧ (specStep k sfx d op).notCompleted = del d.notCompleted (ncName k i)) ∨
    (∃ i data, op = .writeNc i data ∧ rejects k sfx d op = false ∧
      (specStep k sfx d op).notCompleted = put d.notCompleted (ncName k i) data) ∨
    (opId op = none ∧ (specStep k sfx d op).notCompleted = []) := by
  unfold specStep
  split
  · exact .inl rfl
  · rename_i hrej
    cases op with
    | write i data => exact .inr (.inl ⟨i, rfl, rfl⟩)
    | writeNc i data => exact .inr (.inr (.inl ⟨i, data, rfl, by simpa using hrej, rfl⟩))
    | drop i =>
      simp only [DataStoreDict.apply, opId]
      split
      · exact .inr (.inr (.inr ⟨rfl, rfl⟩))
      · exact .inr (.inl ⟨i, rfl, rfl⟩)
    | _ => exact .inl rfl

theorem spec_op_local (k : Kind) (sfx : Str) (d : Dict D) (op : Op D) (i : Str) (hi : opId op = some i) (n : Str)
    (hc : n ≠ cName k sfx i) (hn : n ≠ ncName k i) :
    get (specStep k sfx d op).completed n = get d.completed n ∧
    get (specStep k sfx d op).notCompleted n = get d.notCompleted n := by
  constructor
  · rcases specStep_completed k sfx d op with e | ⟨j, data, rfl, -, e⟩
    · rw [e]
    · cases hi; rw [e, get_put, if_neg hc]
  · rcases specStep_notCompleted k sfx d op with e | ⟨j, hj, e⟩ | ⟨j, data, rfl, -, e⟩ | ⟨hj, -⟩
    · rw [e]
    · cases hi.symm.trans hj; rw [e, get_del, if_neg hn]
    · cases hi; rw [e, get_put, if_neg hn]
    · cases hi.symm.trans hj

/-- **An operation on one identifier never changes any other record (partial).**  In any state
related to a dictionary state by the simulation (so: after any safe history), a safe operation
naming `i` leaves every completed and not-completed record file other than `i`'s two, and every log
file, unchanged — in the store itself, not only in the dictionary.  (The md5 side files are not spoken of.) -/
theorem op_on_id_is_local_partial (cfg : Cfg) (H : D → D) (sfx : Str) (ids lost : List Str) (s : Dir D) (d : Dict D)
    (hy : hyg sfx ids = true) (h : Sim H sfx ids lost s d) (op : Op D) (hs : safe sfx ids d op = true)
    (i : Str) (hi : opId op = some i) (n : Str) (hc : n ≠ cN sfx i) (hn : n ≠ ncN i) :
    get (step cfg H s op).1.root n = get s.root n ∧ get (step cfg H s op).1.nc n = get s.nc n ∧
    (step cfg H s op).1.logs = s.logs := by
  have h' := (step_sim (cfg := cfg) hy h op hs).1
  have hl : (specStep .directory sfx d op).logs = d.logs :=
    specStep_logs _ _ _ (by rintro j x rfl; cases hi)
  obtain ⟨e1, e2⟩ := spec_op_local .directory sfx d op i hi n hc hn
  rw [h'.root, h'.nc, h'.logs, h.root, h.nc, h.logs]
  exact ⟨e1, e2, hl⟩

/- FULL STATEMENT (not proved): `op_on_id_is_local` without `hyg`/`safe`/`Sim` — false for the code
   as it is: `suffix_substring_counter` (identifiers containing the suffix collide: `fasta_x` and
   `json_x` both become `json_x.json`), `md5_lost_on_retire_counter` (md5 side file shared). -/

example : opId (.write idAfasta 3 : Op Nat) = some idAfasta ∧ baJson ≠ cN fasta idAfasta ∧ baJson ≠ ncN idAfasta := by
  decide +kernel

theorem spec_append_never_overwrites (k : Kind) (sfx : Str) (d : Dict D) (op : Op D) (hm : d.mode = .a)
    (hop : ∀ m, op ≠ .reopen m) (n : Str) (v : D) :
    (get d.completed n = some v → get (specStep k sfx d op).completed n = some v) ∧
    (get d.notCompleted n = some v →
      get (specStep k sfx d op).notCompleted n = some v ∨
      get (specStep k sfx d op).notCompleted n = none) := by
  -- append mode accepts a write only if the identifier has no record of that kind yet
  constructor
  · intro hg
    rcases specStep_completed k sfx d op with e | ⟨j, data, rfl, hrej, e⟩
    · rw [e]; exact hg
    · have hj := (fresh_of_append_write hm hrej).1
      rw [e, get_put, if_neg (fun e' => by rw [has, ← e', hg] at hj; cases hj)]; exact hg
  · intro hg
    rcases specStep_notCompleted k sfx d op with e | ⟨j, -, e⟩ | ⟨j, data, rfl, hrej, e⟩ | ⟨-, e⟩
    · rw [e]; exact .inl hg
    · rw [e, get_del]
      split
      · exact .inr rfl
      · exact .inl hg
    · have hj := (fresh_of_append_writeNc hm hrej).2
      rw [e, get_put, if_neg (fun e' => by rw [has, ← e', hg] at hj; cases hj)]; exact .inl hg
    · rw [e]; exact .inr rfl

/-- **Append mode never overwrites (partial).**  In append mode a safe operation leaves every
stored completed file's content unchanged and every not-completed file unchanged or removed —
in the store itself. -/
theorem append_never_overwrites_partial (cfg : Cfg) (H : D → D) (sfx : Str) (ids lost : List Str) (s : Dir D) (d : Dict D)
    (hy : hyg sfx ids = true) (h : Sim H sfx ids lost s d) (op : Op D) (hs : safe sfx ids d op = true)
    (hm : s.mode = .a) (hop : ∀ m, op ≠ .reopen m) (n : Str) (v : D) :
    (get s.root n = some v → get (step cfg H s op).1.root n = some v) ∧
    (get s.nc n = some v → get (step cfg H s op).1.nc n = some v ∨ get (step cfg H s op).1.nc n = none) := by
  have h' := (step_sim (cfg := cfg) hy h op hs).1
  rw [h'.root, h'.nc, h.root, h.nc]
  exact spec_append_never_overwrites .directory sfx d op (h.hmode ▸ hm) hop n v

/- FULL STATEMENT (not proved): `append_never_overwrites` without `hyg`/`safe`/`Sim` — false for the
   code as it is: `append_overwrites_not_completed_counter`. -/

example : (Dict.empty .a : Dict Nat).mode = .a ∧ safe fasta [idA] (Dict.empty .a) (.write idA (1 : Nat)) = true := by
  decide +kernel

def files (s : Dir D) : KV D × KV D × KV D × KV D := (s.root, s.nc, s.logs, s.md5)

def dirs (s : Dir D) : Bool × Bool := (s.ncDir, s.logsDir)

/-- **Read-only mode never mutates (files).**  NO operation on a read-only store changes any file,
for every identifier and every state (no hygiene or history hypothesis) and every `cfg`. -/
theorem readonly_never_mutates (cfg : Cfg) (H : D → D) (s : Dir D) (op : Op D) (hm : s.mode = .r) :
    files (step cfg H s op).1 = files s := by
  cases op with
  | write i data => simp [step, write, writeCore, hm, files]
  | writeNc i data =>
    simp only [step, writeNc]
    by_cases hc : (cfg.roWriteNoMkdir && decide (s.mode = .r)) = true
    · rw [if_pos hc]; rw [writeCore_ro hm]
    · rw [if_neg hc]; rw [writeCore_ro (s := { s with ncDir := true }) hm]; rfl
  | writeLog i data =>
    simp only [step, writeLog]
    by_cases hc : (cfg.roWriteNoMkdir && decide (s.mode = .r)) = true
    · rw [if_pos hc]; rw [writeCore_ro hm]
    · rw [if_neg hc]; rw [writeCore_ro (s := { s with logsDir := true }) hm]; rfl
  | drop i => simp [step, dropNc, hm, files]
  | reopen m => simp [step, reopen, files]
  | observe => simp [step, populate_eq, files]
  | unlock => simp [step, files]

/-- **Read-only mode never mutates (files AND directories).**  Since the repair 780d5be60
(`Cfg.repaired`: the constructor and `write_not_completed` / `write_log` create no directory on a
read-only store), no operation on a read-only store — including closing and re-opening it
read-only — changes any file or creates / removes any sub-directory. -/
theorem readonly_never_mutates_dirs (H : D → D) (s : Dir D) (op : Op D) (hm : s.mode = .r)
    (hop : ∀ m, op = .reopen m → m = .r) :
    files (step Cfg.repaired H s op).1 = files s ∧ dirs (step Cfg.repaired H s op).1 = dirs s := by
  refine ⟨readonly_never_mutates _ H s op hm, ?_⟩
  cases op with
  | write i data => simp [step, write, writeCore, hm, dirs]
  | writeNc i data => simp [step, writeNc, writeCore, hm, dirs, Cfg.repaired]
  | writeLog i data => simp [step, writeLog, writeCore, hm, dirs, Cfg.repaired]
  | drop i => simp [step, dropNc, hm, dirs]
  | reopen m =>
    have := hop m rfl
    subst this
    simp [step, reopen, dirs, Cfg.repaired]
  | observe => simp [step, populate_eq, dirs]
  | unlock => simp [step, dirs]

/- For `Cfg.asIs` (the code before 780d5be60) the statement is false:
   `readonly_creates_directory_counter` (the constructor with `mode="r"` and
   `write_not_completed` on a read-only store create `not_completed/`). -/

/-- the code before 780d5be60 (`Cfg.asIs`): re-opening read-only (mode given as the string "r") after `drop_not_completed()`
    re-creates `not_completed/`; so does `write_not_completed` on a read-only store that lacks it
    (it raises `IOError` only after the `mkdir`) -/
theorem readonly_creates_directory_counter :
    let s0 : Dir Nat := run Cfg.asIs id (Dir.create .w fasta) [.writeNc idA 1, .drop []]
    s0.ncDir = false ∧ (step Cfg.asIs id s0 (.reopen .r)).1.ncDir = true ∧
    (step Cfg.repaired id s0 (.reopen .r)).1.ncDir = false ∧
    (let s : Dir Nat := { (Dir.create .r fasta : Dir Nat) with ncDir := false }
     (step Cfg.asIs id s (.writeNc idA 1)).2 = .err .ioError ∧ (step Cfg.asIs id s (.writeNc idA 1)).1.ncDir = true ∧
     (step Cfg.repaired id s (.writeNc idA 1)).1.ncDir = false) := by decide +kernel

example : (reopen Cfg.asIs (run Cfg.asIs id (Dir.create .w fasta) [.writeNc idA (1 : Nat)]) .r).mode = .r := by decide +kernel

/-- the abstract file system keeps one entry per path: `put` / `del` preserve distinct keys -/
theorem fs_no_duplicate_paths (m : KV D) (k : Str) (v : D) (h : (keys m).Nodup) :
    (keys (put m k v)).Nodup ∧ (keys (del m k)).Nodup :=
  ⟨nodup_put m k v h, nodup_del m k h⟩

example : (keys (put (put ([] : KV Nat) idA 1) idA 2)).Nodup := by decide +kernel

/-- the `Sim` hypothesis of `op_on_id_is_local_partial` / `append_never_overwrites_partial` is
    inhabited by a non-trivial state: the store after the witness history (two not-completed records
    with suffix-related names written, one retired by a completed write), with a further safe
    operation naming `ba` -/
example : Sim (id : Nat → Nat) fasta [idA, idBA, idAfasta] (lostRun fasta (Dict.empty .w) [] witness)
      (run Cfg.asIs id (Dir.create .w fasta) witness) (specRun .directory fasta (Dict.empty .w) witness) ∧
    safe fasta [idA, idBA, idAfasta] (specRun .directory fasta (Dict.empty .w) witness) (.write idBA (7 : Nat)) = true ∧
    opId (.write idBA 7 : Op Nat) = some idBA ∧ aFasta ≠ cN fasta idBA ∧ aFasta ≠ ncN idBA :=
  ⟨sim_of_history hyg_suffix_related (by decide +kernel), by decide +kernel⟩

/-- … and in APPEND mode with stored records of both kinds (`append_never_overwrites_partial`) -/
example : Sim (id : Nat → Nat) fasta [idA, idBA, idAfasta] (lostRun fasta (Dict.empty .a) [] witness)
      (run Cfg.asIs id (Dir.create .a fasta) witness) (specRun .directory fasta (Dict.empty .a) witness) ∧
    (run Cfg.asIs id (Dir.create .a fasta) witness : Dir Nat).mode = .a ∧
    get (run Cfg.asIs id (Dir.create .a fasta) witness : Dir Nat).root aFasta = some 3 ∧
    get (run Cfg.asIs id (Dir.create .a fasta) witness : Dir Nat).nc baJson = some 1 ∧
    safe fasta [idA, idBA, idAfasta] (specRun .directory fasta (Dict.empty .a) witness) (.write idBA (7 : Nat)) = true :=
  ⟨sim_of_history hyg_suffix_related (by decide +kernel), by decide +kernel⟩

open CogentModel.DataStoreSqlite in
/-- stronger form of `sqlite_readonly_never_mutates`: every PERSISTENT component of the database —
the two tables, the `state.lock_pid` cell and the existence of the file — is unchanged by any
operation on a read-only SQLite store (only the in-memory connection flag and caches may change). -/
theorem sqlite_readonly_never_mutates_db (H : D → D) (s : Sql D) (op : Op D) (hm : s.mode = .r) :
    (DataStoreSqlite.step H s op).1.rows = s.rows ∧ (DataStoreSqlite.step H s op).1.logRows = s.logRows ∧
    (DataStoreSqlite.step H s op).1.locked = s.locked ∧ (DataStoreSqlite.step H s op).1.fileExists = s.fileExists :=
  step_readonly H s op hm

open CogentModel.DataStoreSqlite in
/-- No operation changes the `results` table or the `logs` table of a read-only SQLite store
(any identifier, any cache state, connected or not). -/
theorem sqlite_readonly_never_mutates (H : D → D) (s : Sql D) (op : Op D) (hm : s.mode = .r) :
    (DataStoreSqlite.step H s op).1.rows = s.rows ∧ (DataStoreSqlite.step H s op).1.logRows = s.logRows :=
  have h := sqlite_readonly_never_mutates_db H s op hm
  ⟨h.1, h.2.1⟩

example : (DataStoreSqlite.reopen (DataStoreSqlite.run id (DataStoreSqlite.Sql.create .w) [.write idA (1 : Nat)]) .r).mode = .r := by
  decide +kernel

-- a read-only store on a LOCKED database with a completed and a not-completed row
example : let s := DataStoreSqlite.reopen (DataStoreSqlite.run id (DataStoreSqlite.Sql.create .w) [.write idA (1 : Nat), .writeNc idB 2]) .r
    s.mode = .r ∧ s.locked = true ∧ s.fileExists = true ∧ s.rows.length = 2 := by decide +kernel

/-- `write(unique_id="logs/x.fasta")`: with the record written first (`Cfg.asIs`, the code before 8ee96b6d1) the call
    fails on the md5 file and leaves the record as a stray file under `logs/`; with the md5 file written first
    (`Cfg.repaired`, fixes/C19-datastore-atomic-record.patch) it fails before anything is written.  Both raise
    `FileNotFoundError`; for identifiers without a directory part the two orders are indistinguishable
    (the refinement theorems hold for every `cfg`). -/
theorem write_order_only_matters_for_directory_ids :
    let uid : Str := ['l','o','g','s','/','x','.','f','a','s','t','a']
    (step Cfg.asIs id (Dir.create .w fasta : Dir Nat) (.write uid 1)).2 = .err .fileNotFound ∧
    keys (step Cfg.asIs id (Dir.create .w fasta : Dir Nat) (.write uid 1)).1.logs = [['x','.','f','a','s','t','a']] ∧
    (step Cfg.repaired id (Dir.create .w fasta : Dir Nat) (.write uid 1)).2 = .err .fileNotFound ∧
    (step Cfg.repaired id (Dir.create .w fasta : Dir Nat) (.write uid 1)).1.logs = [] := by decide +kernel

open CogentModel.DataStoreSqlite in
/-- **SQLite store refines the dictionary (partial).**  For EVERY finite history of write /
write_not_completed / write_log / drop_not_completed (one, all) / close+re-open(mode) / unlock /
observation over ANY identifiers (incl. the `results/<id>` and `logs/<id>` spellings), any opening
mode and checksum function: if the connection is never refused (`connOk`: no OVERWRITE of a locked
database) and every operation is `safeS` — which excludes exactly the two open SQLite findings
(a not-completed write in OVERWRITE mode over an existing record) and two degenerate spellings —
then the `results` table holds exactly the dictionary's records: the completed / not-completed member
lists (`populate`) are the dictionary keys, each listed once; every completed key has the row
`(data, md5 = H data, is_completed = 1)`, every not-completed key the row `(data, H data, 0)`, and
there is no other row. -/
theorem sqlite_store_refines_dict_partial (H : D → D) (mode : Mode) (ops : List (Op D))
    (hs : safeHistS H (Sql.create mode) (Dict.empty mode) ops = true) :
    let s := DataStoreSqlite.populate (DataStoreSqlite.run H (Sql.create mode) ops)
    let d := specRun .sqlite [] (Dict.empty mode) ops
    s.cCache.Nodup ∧ (∀ n, n ∈ s.cCache ↔ n ∈ keys d.completed) ∧
    s.ncCache.Nodup ∧ (∀ n, n ∈ s.ncCache ↔ n ∈ keys d.notCompleted) ∧
    (∀ n v, get d.completed n = some v → get s.rows n = some ⟨v, H v, true⟩) ∧
    (∀ n v, get d.notCompleted n = some v → get s.rows n = some ⟨v, H v, false⟩) ∧
    (∀ n, get d.completed n = none → get d.notCompleted n = none → get s.rows n = none) := by
  have h := run_simS ops _ _ (simS_create (H := H) mode) hs
  obtain ⟨hp, hc, hn⟩ := simS_populate h
  exact ⟨hc.1, hc.2, hn.1, hn.2, fun n v hg => (hp.rows n).trans (rowOf_of_completed hg),
    fun n v hg => (hp.rows n).trans (rowOf_of_nc hp hg),
    fun n h1 h2 => by rw [hp.rows n, rowOf, h1, h2]; rfl⟩

/- FULL STATEMENT (not proved): `sqlite_store_refines_dict` without `safeS` — false for the code as it
   is: `sqlite_nc_over_completed_counter` (OVERWRITE mode: `write_not_completed` on an existing
   completed record UPDATEs its data, keeps `is_completed = 1` and lists the id in both member
   lists) and `sqlite_nc_twice_counter` (the member is listed twice). -/

def sqlHist : List (Op Nat) :=
  [.writeNc idBA 1, .writeNc idA 2, .write (sResults ++ '/' :: idA) 3, .writeLog idB 9, .drop idBA, .unlock, .reopen .a,
   .write idBA 4, .writeNc idB 5, .observe, .reopen .r, .observe, .drop []]

open CogentModel.DataStoreSqlite in
example : safeHistS id (Sql.create .w) (Dict.empty .w) sqlHist = true ∧
    keys (specRun .sqlite [] (Dict.empty .w) sqlHist).completed = [idBA, idA] ∧
    keys (specRun .sqlite [] (Dict.empty .w) sqlHist).notCompleted = [idB] := by decide +kernel

open CogentModel.DataStoreSqlite in
/-- OVERWRITE mode, `write('a', 1); write_not_completed('a', 2)`: the completed record then holds 2 and
    the id is listed as completed AND not completed; the dictionary keeps 1 and adds a separate record -/
theorem sqlite_nc_over_completed_counter :
    let s := DataStoreSqlite.run id (Sql.create .w) [.write idA (1 : Nat), .writeNc idA 2]
    (get s.rows idA).map (fun r => (r.data, r.completed)) = some (2, true) ∧ s.cCache = [idA] ∧ s.ncCache = [idA] ∧
    get (specRun .sqlite [] (Dict.empty .w) [.write idA (1 : Nat), .writeNc idA 2]).completed idA = some 1 := by
  decide +kernel

open CogentModel.DataStoreSqlite in
/-- OVERWRITE mode, two `write_not_completed('a')`: listed twice -/
theorem sqlite_nc_twice_counter :
    (DataStoreSqlite.run id (Sql.create .w) [.writeNc idA (1 : Nat), .writeNc idA 2]).ncCache = [idA, idA] := by
  decide +kernel

open CogentModel.DataStoreSqlite in
/-- **SQLite: an operation on one identifier never changes any other record (partial).** -/
theorem sqlite_op_on_id_is_local_partial (H : D → D) (s : Sql D) (d : Dict D) (h : SimS H s d) (op : Op D)
    (hc : connOk s = true) (hs : safeS d op = true) (i : Str) (hi : opId op = some i) (n : Str) (hn : n ≠ sN i) :
    get (DataStoreSqlite.step H s op).1.rows n = get s.rows n := by
  have h' := step_simS h op hc hs
  obtain ⟨e1, e2⟩ := spec_op_local .sqlite [] d op i hi n hn hn
  rw [h'.rows n, h.rows n]
  simp [rowOf, e1, e2]

open CogentModel.DataStoreSqlite in
/-- **SQLite: append mode never overwrites (partial).**  In append mode a safe operation leaves every
completed row unchanged (data, md5, flag) and every not-completed row unchanged or removed. -/
theorem sqlite_append_never_overwrites_partial (H : D → D) (s : Sql D) (d : Dict D) (h : SimS H s d) (op : Op D)
    (hc : connOk s = true) (hs : safeS d op = true) (hm : s.mode = .a) (hop : ∀ m, op ≠ .reopen m)
    (n : Str) (r : Row D) (hr : get s.rows n = some r) :
    (r.completed = true → get (DataStoreSqlite.step H s op).1.rows n = some r) ∧
    (r.completed = false → get (DataStoreSqlite.step H s op).1.rows n = some r ∨
      get (DataStoreSqlite.step H s op).1.rows n = none) := by
  have h' := step_simS h op hc hs
  rw [h.rows n] at hr
  rw [h'.rows n]
  cases hcd : get d.completed n with
  | some v =>
    obtain ⟨e1, _⟩ := spec_append_never_overwrites .sqlite [] d op (h.hmode ▸ hm) hop n v
    simp only [rowOf, hcd, Option.some.injEq] at hr
    subst hr
    refine ⟨fun _ => ?_, fun hf => (by cases hf)⟩
    simp [rowOf, e1 hcd]
  | none =>
    cases hnd : get d.notCompleted n with
    | none => simp [rowOf, hcd, hnd] at hr
    | some v =>
      simp only [rowOf, hcd, hnd, Option.map_some, Option.some.injEq] at hr
      subst hr
      refine ⟨fun hf => (by cases hf), fun _ => ?_⟩
      -- the completed side stays empty for `n`: in append mode an accepted write cannot name `n`, which has a not-completed record
      obtain ⟨_, e2⟩ := spec_append_never_overwrites .sqlite [] d op (h.hmode ▸ hm) hop n v
      have hc' : get (specStep .sqlite [] d op).completed n = none := by
        rcases specStep_completed .sqlite [] d op with e | ⟨j, data, rfl, hrej, e⟩
        · rw [e]; exact hcd
        · have hj := (fresh_of_append_write (h.hmode ▸ hm) hrej).2 rfl
          rw [e, get_put, if_neg (fun e' => by rw [has, ← show n = ncName .sqlite j from e', hnd] at hj; cases hj)]
          exact hcd
      rcases e2 hnd with e | e
      · left; simp [rowOf, hc', e]
      · right; simp [rowOf, hc', e]

open CogentModel.DataStoreSqlite in
example : SimS (id : Nat → Nat) (DataStoreSqlite.run id (Sql.create .a) [.write idA 1, .writeNc idBA 2])
      (specRun .sqlite [] (Dict.empty .a) [.write idA (1 : Nat), .writeNc idBA 2]) ∧
    safeS (specRun .sqlite [] (Dict.empty .a) [.write idA (1 : Nat), .writeNc idBA 2]) (.write idBA (7 : Nat)) = true :=
  ⟨run_simS _ _ _ (simS_create .a) (by decide +kernel), by decide +kernel⟩

/-- **`validate()` reports what the dictionary predicts (partial).**  Under the hypotheses of
`store_refines_dict_partial`, after ANY history: no member has an incorrect md5; the members whose md5 is missing are
exactly the listed completed records of the ghost list `lostRun` (shared md5 side file deleted by the retiring write);
every other member counts as correct; `Has log` is true iff the dictionary holds a log record. -/
theorem validate_matches_dict_partial [DecidableEq D] (cfg : Cfg) (H : D → D) (sfx : Str) (ids : List Str) (mode : Mode)
    (ops : List (Op D)) (hy : hyg sfx ids = true)
    (hs : safeHist sfx ids (Dict.empty mode) ops = true) :
    let s := populate (run cfg H (Dir.create mode sfx) ops)
    let d := specRun .directory sfx (Dict.empty mode) ops
    let lost := lostRun sfx (Dict.empty mode) [] ops
    let v := validateDir H s
    v.incorrect = 0 ∧
    v.missing = (s.cCache.filter (· ∈ lost)).length ∧
    v.correct + v.missing = s.cCache.length + s.ncCache.length ∧
    v.hasLog = !d.logs.isEmpty :=
  validate_of_sim hy (sim_of_history hy hs)

/-- the counts on a concrete history with one `lost` record (append mode, `a` retires its not-completed record) -/
example : validateDir (id : Nat → Nat) (populate (run Cfg.asIs id (Dir.create .a fasta)
      [.writeNc idA 1, .write idA 2, .writeNc idBA 3, .write idAfasta 4, .writeLog ['r','u','n'] 5])) = ⟨1, 0, 1, true⟩ := by decide +kernel
example : validateDir (id : Nat → Nat) (populate (run Cfg.asIs id (Dir.create .w ['f','a','.','g','z'])
      [.write idA 2, .writeNc idBA 3])) = ⟨2, 0, 0, false⟩ := by decide +kernel

-- `md5()` reads the store suffix as a regular expression (`sfxReMatch`); on the member names the store itself
-- produces, the side-file name it computes is nevertheless the intended one
theorem sfxReMatch_self (sfx : Str) : sfxReMatch sfx sfx = true := by
  induction sfx with
  | nil => rfl
  | cons c cs ih => by_cases hd : c = '.' <;> simp [sfxReMatch, hd, ih]

theorem endsWithSfxRe_canonical (sfx stem : Str) : endsWithSfxRe (stem ++ '.' :: sfx) sfx = true := by
  have hl : (stem ++ '.' :: sfx).length - (sfx.length + 1) = stem.length := by simp
  simp only [endsWithSfxRe, hl, List.drop_left']
  simp [sfxReMatch_self sfx]

/-- `md5()` finds the side file of the canonical member name for EVERY store suffix (two-part ones included) -/
theorem md5Lookup_canonical (sfx stem : Str) :
    md5Lookup sfx (stem ++ '.' :: sfx) = stem ++ '.' :: sTxt := by
  simp [md5Lookup, reSubDotAltEnd, List.find?, Alt.endsMatch, endsWithSfxRe_canonical sfx stem, Alt.len]

theorem md5Lookup_json (sfx stem : Str) (h : endsWithSfxRe (stem ++ '.' :: sJson) sfx = false) :
    md5Lookup sfx (stem ++ '.' :: sJson) = stem ++ '.' :: sTxt := by
  have he : endsWith (stem ++ '.' :: sJson) ('.' :: sJson) = true := by simp [endsWith]
  simp [md5Lookup, reSubDotAltEnd, List.find?, Alt.endsMatch, h, he, Alt.len]

example : md5Lookup ['f','a','.','g','z'] (['b','a'] ++ '.' :: ['f','a','.','g','z']) = ['b','a','.','t','x','t'] :=
  md5Lookup_canonical _ _

/-- the refinement theorem is not vacuous for a store that keeps its records compressed (suffix `fa.gz`): in append mode
    with re-opens -/
example : hyg ['f','a','.','g','z'] [['a'], ['b','a'], ['x','1']] = true ∧
    safeHist ['f','a','.','g','z'] [['a'], ['b','a'], ['x','1']] (Dict.empty .a)
      [.writeNc ['b','a'] (1 : Nat), .write ['a'] 2, .reopen .w, .write ['b','a'] 3, .writeNc ['x','1'] 4,
       .drop ['x','1'], .reopen .r, .observe] = true := by decide +kernel

/-! ## The naming layer, TRANSLATED from the current source

`Gen/C13Names.lean` is regenerated on every run by `translator/c13_names2lean.py` from `app/data_store.py`
(`_special_suffixes`, `DataStoreDirectory.__contains__`, `_write`, `drop_not_completed`, `md5`, the glob patterns of
`completed` / `not_completed`, `DataStoreABC._check_writable`).  The theorems below prove every generated definition equal
to the hand model used by the refinement theorems, for ALL arguments; the event lists tie the ORDER of the effect
statements (writability check, 'already stored' early return, writes; unlink record / unlink md5 / cache removal). -/
section Translated
open CogentModel

theorem gen_special_eq (item : Str) : Gen.C13Names.special item = special item := by
  simp [Gen.C13Names.special, reSearchDotAltEnd, Alt.endsMatch, special, sLog, sJson]

theorem gen_contains_item_eq (sfx item : Str) : Gen.C13Names.contains_item sfx item = containsItem sfx item := by
  simp only [Gen.C13Names.contains_item, containsItem, gen_special_eq]
  cases special item <;> cases isInfix sfx item <;> simp

theorem gen_check_writable_eq (ro ap m : Bool) : Gen.C13Names.check_writable_rejects ro ap m = (ro || (m && ap)) := rfl

theorem gen_skip_guard_eq (sfx subdir suffix : Str) : Gen.C13Names.skip_guard sfx subdir suffix = (suffix != sLog) := rfl

theorem gen_resolve_eq (sfx suffix uid : Str) : Gen.C13Names.resolve sfx suffix uid = resolve sfx suffix uid := by
  simp only [Gen.C13Names.resolve, resolve, gen_contains_item_eq]
  by_cases h : (getFormatSuffixes uid).1 = some suffix
  · simp [h, sTxt]
    cases (getFormatSuffixes uid).2 <;> simp
  · simp [h, sTxt]
    cases (getFormatSuffixes (pathStem uid ++ '.' :: suffix)).2 <;> simp

theorem gen_drop_key_eq (sfx uid : Str) : Gen.C13Names.drop_key sfx uid = dropKey sfx uid := by
  simp only [Gen.C13Names.drop_key, dropKey]
  have h : (['.'] ++ sfx : Str) = '.' :: sfx := rfl
  rw [h]
  generalize replaceAll uid ('.' :: sfx) [] = u
  cases u <;> simp [sJson]

theorem gen_drop_loop_eq (key m : Str) :
    Gen.C13Names.drop_skip key m = (!key.isEmpty && !dropMatch key (pathName m)) ∧
    Gen.C13Names.drop_file m = pathName m ∧
    Gen.C13Names.drop_md5 m = dropMd5 (pathName m) := by
  simp [Gen.C13Names.drop_skip, Gen.C13Names.drop_file, Gen.C13Names.drop_md5, dropMatch, dropMd5, sTxt, bne]

theorem gen_md5_lookup_eq (sfx uid : Str) : Gen.C13Names.md5_lookup sfx uid = md5Lookup sfx (pathName uid) := by
  simp [Gen.C13Names.md5_lookup, md5Lookup, sJson, sTxt]

theorem gen_glob_eq (sfx : Str) :
    Gen.C13Names.glob_completed sfx = '*' :: '.' :: sfx ∧ Gen.C13Names.glob_not_completed = '*' :: '.' :: sJson := by
  simp [Gen.C13Names.glob_completed, Gen.C13Names.glob_not_completed, sJson]

theorem gen_event_order :
    Gen.C13Names.write_events.take 3 = ["check_writable", "skip_if_member", "write_record_logbranch"] ∧
    (Gen.C13Names.write_events.drop 3 = ["write_md5", "write_record", "return"] ∨
     Gen.C13Names.write_events.drop 3 = ["write_record", "write_md5", "return"]) ∧
    Gen.C13Names.drop_events = ["raise_if_readonly", "loop_over_snapshot", "continue_if_other", "unlink_record", "unlink_md5",
      "cache_remove", "rmdir_if_all", "cache_reset_if_all"] :=
  ⟨rfl, by decide +kernel, rfl⟩

example : Gen.C13Names.resolve ['f','a','.','g','z'] ['f','a','.','g','z'] ['a'] =
    ⟨['a','.','f','a','.','g','z'], ['a','.','f','a','.','g','z'], ['a','.','f','a','.','g','z'], ['a','.','t','x','t']⟩ := by decide +kernel
example : Gen.C13Names.resolve fasta sJson ['a','.','t','x','t'] =
    ⟨['a','.','t','x','t','.','f','a','s','t','a'], ['a','.','j','s','o','n'], ['a','.','j','s','o','n'], ['a','.','t','x','t']⟩ := by decide +kernel
example : Gen.C13Names.drop_key fasta aFasta = ['a','.','j','s','o','n'] ∧
    Gen.C13Names.drop_skip ['a','.','j','s','o','n'] (ncPrefix ++ ['b','a','.','j','s','o','n']) = true ∧
    Gen.C13Names.drop_md5 (ncPrefix ++ ['b','a','.','j','s','o','n']) = ['b','a','.','t','x','t'] := by decide +kernel
example : Gen.C13Names.md5_lookup ['f','a','.','g','z'] ['a','.','f','a','.','g','z'] = ['a','.','t','x','t'] ∧
    Gen.C13Names.md5_lookup ['f','a','.','g','z'] ['a','.','f','a','_','g','z'] = ['a','.','t','x','t'] ∧
    Gen.C13Names.md5_lookup fasta (ncPrefix ++ ['a','.','j','s','o','n']) = ['a','.','t','x','t'] := by decide +kernel

end Translated

end CogentModel.C13
