import CogentModel.Model.Splitlines
import CogentModel.Model.SeqFormats
import CogentModel.Spec.SeqRecords
import CogentModel.Proofs.Splitlines
import CogentModel.Proofs.SeqFormats
import CogentModel.Proofs.Paml
import CogentModel.Proofs.PhylipSequential
import CogentModel.Spec.FastaText
import CogentModel.Proofs.FastaGeneral
import CogentModel.Model.Suffixes
import CogentModel.Proofs.Suffixes
import CogentModel.Gen.C06Dispatch
import CogentModel.Model.GenBankLoc
import CogentModel.Proofs.GenBankLoc
/-! # C06 — property theorems (sequence formats round-trip, parsers agree, chunking is invisible) -/
namespace CogentModel.C06
open CogentModel.Splitlines CogentModel.SeqFormats CogentModel.SeqSpec CogentModel.FastaText

/-- **Every chunk size yields the same lines.**  For every text and *every* way of cutting it
into non-empty chunks (hence every `chunk_size ≥ 1` of `iter_splitlines`, and every sequence of
short reads), the streamed lines are exactly `text.splitlines()`.  Hypothesis: `'\n'` is the
only line-boundary character of the text (no VT/FF/FS/GS/RS/NEL/LS/PS; `'\r'` never reaches
the loop because the file is opened with universal newlines). -/
theorem splitlines_chunk_independent (chunks : List (List Char))
    (hne : ∀ ch ∈ chunks, ch ≠ []) (hnl : NlOnly chunks.flatten) :
    iterSplitlines chunks = pySplitlines chunks.flatten := by
  unfold iterSplitlines
  rw [iterGo_eq chunks [] hne (by simpa using hnl), pySplitlines_eq_core hnl]
  simp

-- non-vacuity: a text whose chunk boundaries fall inside a line, right after and right before a newline
example : NlOnly (['a', 'b', '\n', 'c'] ++ ['d', '\n'] ++ ['\n', 'x']) := by decide +kernel
example : iterSplitlines [['a', 'b', '\n', 'c'], ['d', '\n'], ['\n', 'x']] = [['a', 'b'], ['c', 'd'], [], ['x']] := by decide +kernel

/-- The hypothesis of `splitlines_chunk_independent` is needed: with a form feed in the text the
real carry-over logic *is* chunk dependent (`"a\x0cb\n"` read 2 characters at a time gives
`["ab"]`, read at once gives `["a", "b"]`). Such a file is not well-formed sequence data. -/
theorem splitlines_formfeed_counter :
    ∃ chunks : List (List Char), (∀ ch ∈ chunks, ch ≠ []) ∧
      iterSplitlines chunks ≠ pySplitlines chunks.flatten :=
  ⟨[['a', Char.ofNat 12], ['b', '\n']], by decide, by decide⟩

/-- **FASTA round-trip, any wrapping.**  For every list of records whose names are well formed
(non-empty printable ASCII, no leading/trailing blank — `>`, `|`, inner blanks allowed) and whose
sequences have been wrapped *in any way whatsoever* into non-empty lines of residue characters,
both line based parsers applied to the text `seqs_to_fasta` writes return exactly the names, the
order and the sequences. -/
theorem fasta_roundtrip (recs : List (Str × List Str)) (hwf : WfRecs ['>'] recs) :
    fastaFaster (fastaFormat recs) = expected recs ∧
    (recs ≠ [] → fastaStrict (fastaFormat recs) = .ok (expected recs)) := by
  unfold fastaFaster fastaStrict
  rw [fastaFormat_eq]
  exact lineParsers_recLines (by decide) (by decide) hwf

/-- **FASTA round-trip for every block size ≥ 1** with the code's own block slicing
(`slice_string_in_blocks`; `textwrap.wrap` coincides with it on gap-free sequences and is
covered by `fasta_roundtrip` otherwise). -/
theorem fasta_roundtrip_blocks (bs : Nat) (hbs : 0 < bs) (recs : List Rec) (hne : recs ≠ [])
    (hwf : ∀ r ∈ recs, wfName r.1 = true ∧ wfSeq ['>'] r.2 = true) :
    fastaStrict (fastaFormatW (chunkWrap bs) recs) = .ok recs ∧
    fastaFaster (fastaFormatW (chunkWrap bs) recs) = recs := by
  have := fasta_roundtrip _ (blocked_wf hbs hwf)
  rw [expected_blocked hbs] at this
  exact ⟨this.2 (by simpa [blocked] using hne), this.1⟩

-- non-vacuity at the wrap boundary: length = block, block + 1, block - 1, 2 * block, names with `>` and blanks
example : (∀ r ∈ [(['a', '>', 'b', ' ', 'c'], ['A', 'C', 'G', 'T']), (['x', '|', 'y'], ['A', 'C', 'G', 'T', '-']),
    (['z'], ['A', 'C', 'G']), (['w', ' ', '2'], ['A', 'C', 'G', 'T', 'A', 'C', 'G', 'T'])],
    wfName r.1 = true ∧ wfSeq ['>'] r.2 = true) := by decide +kernel
example : chunkWrap 4 ['A', 'C', 'G', 'T', 'A', 'C', 'G', 'T'] = [['A', 'C', 'G', 'T'], ['A', 'C', 'G', 'T']] ∧
    chunkWrap 4 ['A', 'C', 'G', 'T', '-'] = [['A', 'C', 'G', 'T'], ['-']] ∧ chunkWrap 4 ['A', 'C', 'G'] = [['A', 'C', 'G']] := by
  decide +kernel

/-- **The parsers of the format agree, labels verbatim** (bytes based `iter_fasta_records` — the parser behind
`load_aligned_seqs` / `load_unaligned_seqs` — vs line based `MinimalFastaParser` strict / non-strict) on every
text `seqs_to_fasta` can write: label line, then ≥ 1 non-empty residue lines in any wrapping. Labels are any
well-formed printable-ASCII names, **`>` inside a label included**; residues upper case (the bytes parser
upper-cases; `fasta_general_agree` states the lower-case behaviour exactly). Record splitting on `>` anywhere,
a defect of earlier cogent3 versions, is a regression witness in `known_findings.d/C06.json`. -/
theorem fasta_parsers_agree (recs : List (Str × List Str)) (hne : recs ≠ [])
    (hwf : WfRecs ['>'] recs) (hlow : ∀ r ∈ recs, noLower r.2.flatten = true) :
    fastaStrict (fastaFormat recs) = .ok (fastaBytes (fastaFormat recs)) ∧
    fastaFaster (fastaFormat recs) = fastaBytes (fastaFormat recs) ∧
    fastaBytes (fastaFormat recs) = expected recs := by
  have hb : fastaBytes (fastaFormat recs) = expected recs := by
    rw [fastaFormat_eq]; exact fastaBytes_recs recs hwf hlow
  have := fasta_roundtrip recs hwf
  rw [hb]
  exact ⟨this.2 hne, this.1, rfl⟩

example : fastaBytes (fastaFormat [(['a', '>', 'b', ' ', 'c'], [['A', 'C', 'G', 'T']])]) =
    [(['a', '>', 'b', ' ', 'c'], ['A', 'C', 'G', 'T'])] := by decide +kernel

/-- **GDE round-trip** for every block size ≥ 1: `MinimalGdeParser` (label characters `%#`, strict
and non-strict) applied to what `GDEFormatter.format` writes returns the records. -/
theorem gde_roundtrip (bs : Nat) (hbs : 0 < bs) (recs : List Rec) (hne : recs ≠ [])
    (hwf : ∀ r ∈ recs, wfName r.1 = true ∧ wfSeq ['%', '#'] r.2 = true) :
    gdeStrict (gdeFormat bs recs) = .ok recs ∧
    fasterParser ['%', '#'] (pySplitlines (gdeFormat bs recs)) = recs := by
  have := lineParsers_recLines (lc := ['%', '#']) (l0 := '%') (by decide) (by decide) (blocked_wf hbs hwf)
  rw [expected_blocked hbs, ← gdeFormat_eq hbs recs fun r hr => (hwf r hr).2] at this
  exact ⟨this.2 (by simpa [blocked] using hne), this.1⟩

example : (∀ r ∈ [(['s', '>', '1'], ['A', 'C', 'G', 'T', 'A']), (['t', ' ', '2'], ['A', '-', 'G', 'T', '?'])],
    wfName r.1 = true ∧ wfSeq ['%', '#'] r.2 = true) := by decide +kernel

/-- **PAML round-trip** for every block size ≥ 1: every alignment (all sequences of one length
`L ≥ 1`, upper case — the parser upper-cases) written by `PamlFormatter.format` is parsed back
by `PamlParser` to exactly the same names, order and sequences. -/
theorem paml_roundtrip (bs : Nat) (hbs : 0 < bs) (recs : List Rec) (hne : recs ≠ []) (L : Nat)
    (hwf : ∀ r ∈ recs, wfName r.1 = true ∧ wfSeq [] r.2 = true ∧ noLower r.2 = true ∧ r.2.length = L) :
    ∃ text, pamlFormat bs recs = .ok text ∧ pamlParse text = .ok recs := by
  obtain ⟨r0, rest, rfl⟩ := List.exists_cons_of_ne_nil hne
  obtain rfl : r0.2.length = L := (hwf r0 List.mem_cons_self).2.2.2
  have hw : WfRecs [] (blocked bs (r0 :: rest)) := blocked_wf hbs fun r hr => ⟨(hwf r hr).1, (hwf r hr).2.1⟩
  refine ⟨_, pamlFormat_eq hbs r0 rest fun r hr => (hwf r hr).2.1, ?_⟩
  rw [pamlParse, pySplitlines_unlines (noBreak_cons (header_noBreak _ _) (plainLines_noBreak hw)), pamlParser_header,
    pamlGo_recs _ _ 0 _ hw ?_ (by simp [blocked]), expected_blocked hbs, map_rebuild fun r hr => upper_id (hwf r hr).2.2.1]
  intro r hr
  obtain ⟨x, hx, rfl⟩ := List.mem_map.mp hr
  exact (congrArg List.length (chunkWrap_flatten hbs x.2)).trans (hwf x hx).2.2.2

example : (∀ r ∈ [(['s', ' ', '1', '>'], ['A', 'C', 'G', 'T', '-']), (['l', 'o', 'n', 'g', 'e', 'r', '_', 'n', 'a', 'm', 'e'],
    ['A', '?', 'G', 'T', 'N'])], wfName r.1 = true ∧ wfSeq [] r.2 = true ∧ noLower r.2 = true ∧ r.2.length = 5) := by decide +kernel
example : pamlFormat 2 [(['s'], ['A', 'C', 'G'])] =
    .ok ['1', ' ', ' ', '3', '\n', 's', '\n', 'A', 'C', '\n', 'G', '\n'] := by decide +kernel

/-- **PHYLIP round-trip** for every block size ≥ 1: every alignment written by
`PhylipFormatter.format` is parsed back by `MinimalPhylipParser` to the same order and sequences
and to the names cut to the documented 9 characters (`truncName`: trailing blanks of the cut
name are indistinguishable from the column padding). Distinctness of the cut names is the
caller's business (the parser does not need it). -/
theorem phylip_roundtrip (bs : Nat) (hbs : 0 < bs) (recs : List Rec) (hne : recs ≠ []) (L : Nat)
    (hwf : ∀ r ∈ recs, wfName r.1 = true ∧ wfSeq [] r.2 = true ∧ r.2.length = L) :
    ∃ text, phylipFormat bs recs = .ok text ∧
      phylipParse text = .ok (recs.map (fun r => (truncName r.1, r.2))) := by
  obtain ⟨r0, rest, rfl⟩ := List.exists_cons_of_ne_nil hne
  obtain rfl : r0.2.length = L := (hwf r0 List.mem_cons_self).2.2
  have hw : WfRecs [] (blocked bs (r0 :: rest)) := blocked_wf hbs fun r hr => ⟨(hwf r hr).1, (hwf r hr).2.1⟩
  have hpos : r0.2.length ≠ 0 := fun e => (wfSeq_chars (hwf r0 List.mem_cons_self).2.1).1 (List.length_eq_zero_iff.mp e)
  refine ⟨_, phylipFormat_eq hbs r0 rest fun r hr => (hwf r hr).2.2, ?_⟩
  rw [phylipParse, pySplitlines_unlines (noBreak_cons (header_noBreak _ _) (phyLines_noBreak hw)),
    phylipParser_header (Nat.succ_ne_zero _) hpos, phySeqGo_recs _ none hw, expected_blocked hbs]
  rfl

/-- names of at most 9 characters survive PHYLIP exactly -/
theorem phylip_short_names_exact (n : Str) (hn : wfName n = true) (hl : n.length ≤ 9) : truncName n = n := by
  rw [truncName, List.take_of_length_le hl, dropWhile_id_of_head (p := (· = ' ')), List.reverse_reverse]
  intro c hc
  rw [List.head?_reverse] at hc
  have : c ≠ ' ' := fun e => (wfName_ends hn).2 (e ▸ hc)
  simpa using this

example : truncName ['a', 'b', 'c', 'd', 'e', 'f', 'g', 'h', 'i'] = ['a', 'b', 'c', 'd', 'e', 'f', 'g', 'h', 'i'] ∧
    truncName ['a', 'b', 'c', 'd', 'e', 'f', 'g', 'h', 'i', 'j'] = ['a', 'b', 'c', 'd', 'e', 'f', 'g', 'h', 'i'] ∧
    truncName ['a', 'b', 'c', 'd', 'e', 'f', 'g', 'h', ' ', 'j', 'k'] = ['a', 'b', 'c', 'd', 'e', 'f', 'g', 'h'] := by decide +kernel
example : phylipFormat 2 [(['a', 'b', 'c', 'd', 'e', 'f', 'g', 'h', 'i', 'j', 'k'], ['A', 'C', 'G'])] =
    .ok (['1', ' ', ' ', '3', '\n'] ++ ['a', 'b', 'c', 'd', 'e', 'f', 'g', 'h', 'i', ' ', 'A', 'C', '\n'] ++
      [' ', ' ', ' ', ' ', ' ', ' ', ' ', ' ', ' ', ' ', 'G', '\n']) := by decide +kernel

/-! ## Chunked streaming composed with the parsers

`parse/sequence.py` registers the PHYLIP, PAML and GDE parsers as `LineBasedParser(parser)`, i.e.
`parser(iter_splitlines(path))`.  The theorems below compose `splitlines_chunk_independent` with the round-trip
theorems: **for every chunk size (every cutting of the written file into non-empty reads) the streamed parse
returns the records** — the clause "every chunk size used when streaming lines produces identical records". -/

/-- parsing the streamed lines = parsing `text.splitlines()`, for any parser `f` and any `'\n'`-only text -/
theorem streamed_parse_eq {β} (f : List Str → β) (text : Str) (hnl : NlOnly text) (chunks : List (List Char))
    (hne : ∀ ch ∈ chunks, ch ≠ []) (hcat : chunks.flatten = text) :
    f (iterSplitlines chunks) = f (pySplitlines text) := by
  rw [splitlines_chunk_independent chunks hne (by rw [hcat]; exact hnl), hcat]

/-- what `seqs_to_fasta` writes for well-formed records has `'\n'` as its only line boundary -/
theorem fasta_text_nlOnly (recs : List (Str × List Str)) (hwf : WfRecs ['>'] recs) : NlOnly (fastaFormat recs) := by
  rw [fastaFormat_eq]
  exact unlines_nlOnly (recLines_noBreak (l0 := '>') (by decide) hwf)

/-- the same for the GDE writer -/
theorem gde_text_nlOnly (bs : Nat) (hbs : 0 < bs) (recs : List Rec)
    (hwf : ∀ r ∈ recs, wfName r.1 = true ∧ wfSeq ['%', '#'] r.2 = true) : NlOnly (gdeFormat bs recs) := by
  rw [gdeFormat_eq hbs recs (fun r hr => (hwf r hr).2)]
  exact unlines_nlOnly (recLines_noBreak (l0 := '%') (by decide) (blocked_wf hbs hwf))

/-- the same for the PAML writer -/
theorem paml_text_nlOnly (bs : Nat) (hbs : 0 < bs) (recs : List Rec) (text : Str)
    (hwf : ∀ r ∈ recs, wfName r.1 = true ∧ wfSeq [] r.2 = true)
    (h : pamlFormat bs recs = .ok text) : NlOnly text := by
  cases recs with
  | nil => cases h
  | cons r0 rest =>
    rw [pamlFormat_eq hbs r0 rest fun r hr => (hwf r hr).2] at h
    cases h
    exact unlines_nlOnly (noBreak_cons (header_noBreak _ _) (plainLines_noBreak (blocked_wf hbs hwf)))

/-- the same for the PHYLIP writer -/
theorem phylip_text_nlOnly (bs : Nat) (hbs : 0 < bs) (recs : List Rec) (text : Str) (L : Nat)
    (hwf : ∀ r ∈ recs, wfName r.1 = true ∧ wfSeq [] r.2 = true ∧ r.2.length = L)
    (h : phylipFormat bs recs = .ok text) : NlOnly text := by
  cases recs with
  | nil => cases h
  | cons r0 rest =>
    obtain rfl : r0.2.length = L := (hwf r0 List.mem_cons_self).2.2
    rw [phylipFormat_eq hbs r0 rest fun r hr => (hwf r hr).2.2] at h
    cases h
    exact unlines_nlOnly (noBreak_cons (header_noBreak _ _)
      (phyLines_noBreak (blocked_wf hbs fun r hr => ⟨(hwf r hr).1, (hwf r hr).2.1⟩)))

/-- **FASTA, line based parsers, every chunk size**: `MinimalFastaParser(iter_splitlines(path))` on a written file -/
theorem fasta_streamed_roundtrip (recs : List (Str × List Str)) (hwf : WfRecs ['>'] recs)
    (chunks : List (List Char)) (hne : ∀ ch ∈ chunks, ch ≠ []) (hcat : chunks.flatten = fastaFormat recs) :
    fasterParser ['>'] (iterSplitlines chunks) = expected recs ∧
    (recs ≠ [] → strictParser ['>'] (iterSplitlines chunks) = .ok (expected recs)) := by
  have hnl := fasta_text_nlOnly recs hwf
  rw [streamed_parse_eq (fasterParser ['>']) _ hnl chunks hne hcat,
    streamed_parse_eq (strictParser ['>']) _ hnl chunks hne hcat]
  exact fasta_roundtrip recs hwf

/-- **GDE, every chunk size and every block size** (the registry's `LineBasedParser(MinimalGdeParser)`) -/
theorem gde_streamed_roundtrip (bs : Nat) (hbs : 0 < bs) (recs : List Rec) (hne : recs ≠ [])
    (hwf : ∀ r ∈ recs, wfName r.1 = true ∧ wfSeq ['%', '#'] r.2 = true)
    (chunks : List (List Char)) (hch : ∀ ch ∈ chunks, ch ≠ []) (hcat : chunks.flatten = gdeFormat bs recs) :
    strictParser ['%', '#'] (iterSplitlines chunks) = .ok recs ∧
    fasterParser ['%', '#'] (iterSplitlines chunks) = recs := by
  have hnl := gde_text_nlOnly bs hbs recs hwf
  rw [streamed_parse_eq (strictParser ['%', '#']) _ hnl chunks hch hcat,
    streamed_parse_eq (fasterParser ['%', '#']) _ hnl chunks hch hcat]
  exact gde_roundtrip bs hbs recs hne hwf

example : [['%', 's', '>'], ['1', '\n', 'A'], ['C', '\n'], ['G', 'T', '\n', 'A', '\n']].flatten
    = gdeFormat 2 [(['s', '>', '1'], ['A', 'C', 'G', 'T', 'A'])] := by decide +kernel
example : strictParser ['%', '#'] (iterSplitlines [['%', 's', '>'], ['1', '\n', 'A'], ['C', '\n'], ['G', 'T', '\n', 'A', '\n']])
    = .ok [(['s', '>', '1'], ['A', 'C', 'G', 'T', 'A'])] := by decide +kernel

/-- **PAML, every chunk size and every block size** (the registry's `LineBasedParser(PamlParser)`) -/
theorem paml_streamed_roundtrip (bs : Nat) (hbs : 0 < bs) (recs : List Rec) (hne : recs ≠ []) (L : Nat)
    (hwf : ∀ r ∈ recs, wfName r.1 = true ∧ wfSeq [] r.2 = true ∧ noLower r.2 = true ∧ r.2.length = L) :
    ∃ text, pamlFormat bs recs = .ok text ∧
      ∀ chunks : List (List Char), (∀ ch ∈ chunks, ch ≠ []) → chunks.flatten = text →
        pamlParser (iterSplitlines chunks) = .ok recs := by
  obtain ⟨text, hfmt, hparse⟩ := paml_roundtrip bs hbs recs hne L hwf
  refine ⟨text, hfmt, fun chunks hch hcat => ?_⟩
  have hnl := paml_text_nlOnly bs hbs recs text (fun r hr => ⟨(hwf r hr).1, (hwf r hr).2.1⟩) hfmt
  rw [streamed_parse_eq pamlParser text hnl chunks hch hcat]
  exact hparse

example : pamlParser (iterSplitlines [['1', ' ', ' '], ['3', '\n', 's'], ['\n'], ['A', 'C', '\n', 'G'], ['\n']])
    = .ok [(['s'], ['A', 'C', 'G'])] := by decide +kernel

/-- **PHYLIP, every chunk size and every block size** (the registry's `LineBasedParser(MinimalPhylipParser)`) -/
theorem phylip_streamed_roundtrip (bs : Nat) (hbs : 0 < bs) (recs : List Rec) (hne : recs ≠ []) (L : Nat)
    (hwf : ∀ r ∈ recs, wfName r.1 = true ∧ wfSeq [] r.2 = true ∧ r.2.length = L) :
    ∃ text, phylipFormat bs recs = .ok text ∧
      ∀ chunks : List (List Char), (∀ ch ∈ chunks, ch ≠ []) → chunks.flatten = text →
        phylipParser (iterSplitlines chunks) = .ok (recs.map (fun r => (truncName r.1, r.2))) := by
  obtain ⟨text, hfmt, hparse⟩ := phylip_roundtrip bs hbs recs hne L hwf
  refine ⟨text, hfmt, fun chunks hch hcat => ?_⟩
  have hnl := phylip_text_nlOnly bs hbs recs text L hwf hfmt
  rw [streamed_parse_eq phylipParser text hnl chunks hch hcat]
  exact hparse

example : phylipParser (iterSplitlines [['1', ' ', ' ', '3'], ['\n', 'a', 'b'],
    [' ', ' ', ' ', ' ', ' ', ' ', ' ', ' ', 'A', 'C', '\n', ' '], [' ', ' ', ' ', ' ', ' ', ' ', ' ', ' ', ' ', 'G', '\n']])
    = .ok [(['a', 'b'], ['A', 'C', 'G'])] := by decide +kernel

/-! ## Parser agreement on well-formed FASTA that is not writer shaped -/

/-- **All three FASTA parsers agree on every well-formed text, labels verbatim** — not only on what the writer
produces. `wfFile` (Spec/FastaText.lean) admits: blanks / tabs around the label, an empty label, labels containing
`>`, blank and blank-only lines inside and between records, blanks / tabs inside and around residue lines,
lower-case residues, `"\n"` or `"\r\n"` per line (mixed), and a missing terminator on the last line.
The line based parsers return the residues in the case they were written; the bytes based parser returns exactly
their upper-casing (`minimal_converter`), so all three are identical on upper-case data
(`fasta_general_agree_upper`). Not admitted — the parsers of the code genuinely disagree, see
`known_findings.d/C06.json`: text before the first label line, `#` comment lines, records without a non-empty
body line. -/
theorem fasta_general_agree (gs : List GRec) (h : wfFile gs = true) :
    fastaFaster (fileRaw gs) = records gs ∧
    (gs ≠ [] → fastaStrict (fileRaw gs) = .ok (records gs)) ∧
    fastaBytes (fileRaw gs) = (records gs).map (fun r => (r.1, upper r.2)) := by
  have hl := pySplitlines_fileRaw gs h
  have hf := wfFile_facts h
  unfold fastaFaster fastaStrict
  rw [hl]
  exact ⟨fasterParser_grecs gs hf, fun hne => strictParser_grecs gs hne hf, fastaBytes_grecs gs h⟩

/-- on upper-case residues the three parsers return identical records -/
theorem fasta_general_agree_upper (gs : List GRec) (h : wfFile gs = true) (hne : gs ≠ [])
    (hup : ∀ g ∈ gs, noLower (residues g) = true) :
    fastaStrict (fileRaw gs) = .ok (fastaBytes (fileRaw gs)) ∧ fastaFaster (fileRaw gs) = fastaBytes (fileRaw gs) ∧
    fastaBytes (fileRaw gs) = records gs := by
  obtain ⟨h1, h2, h3⟩ := fasta_general_agree gs h
  have : (records gs).map (fun r => (r.1, upper r.2)) = records gs := map_rebuild fun r hr => by
    obtain ⟨g, hg, rfl⟩ := List.mem_map.mp hr
    exact upper_id (hup g hg)
  rw [h3, this]
  exact ⟨h2 hne, h1, rfl⟩

-- non-vacuity: `> a>b \r\n` `\r\n` `AC g\r\n` `\n` `>\n` ` \tT-\n` `\n` `NN` (CRLF + LF mixed, blank lines, blanks around
-- label and residues, `>` in a label, empty label, lower case, no final newline)
example : wfFile [⟨[' '], ['a', '>', 'b'], [' '], true, [⟨[], .crlf⟩, ⟨['A', 'C', ' ', 'g'], .crlf⟩, ⟨[], .lf⟩]⟩,
                  ⟨[], [], [], false, [⟨[' ', '\t', 'T', '-'], .lf⟩, ⟨[], .lf⟩, ⟨['N', 'N'], .eof⟩]⟩] = true := by decide +kernel
example : fileRaw [⟨[' '], ['a', '>', 'b'], [' '], true, [⟨[], .crlf⟩, ⟨['A', 'C', ' ', 'g'], .crlf⟩, ⟨[], .lf⟩]⟩,
                   ⟨[], [], [], false, [⟨[' ', '\t', 'T', '-'], .lf⟩, ⟨[], .lf⟩, ⟨['N', 'N'], .eof⟩]⟩] =
    ['>', ' ', 'a', '>', 'b', ' ', '\r', '\n', '\r', '\n', 'A', 'C', ' ', 'g', '\r', '\n', '\n',
     '>', '\n', ' ', '\t', 'T', '-', '\n', '\n', 'N', 'N'] := by decide +kernel
example : fastaBytes ['>', ' ', 'a', '>', 'b', ' ', '\r', '\n', '\r', '\n', 'A', 'C', ' ', 'g', '\r', '\n', '\n',
     '>', '\n', ' ', '\t', 'T', '-', '\n', '\n', 'N', 'N'] = [(['a', '>', 'b'], ['A', 'C', 'G']), ([], ['T', '-', 'N', 'N'])] := by
  decide +kernel

/-! ## Compression: what can be said in the model — the suffix dispatch

gzip / bz2 / zip themselves are externals (exercised by the real round trips). What the code decides is WHICH
opener handles a file, and it decides it from the file name only (`open_` -> `_get_compression_open` ->
`get_format_suffixes` -> `Path.suffixes`). Writing goes through `atomic_write`, which (outside a zip archive)
writes a temporary file named `uuid + "".join(path.suffixes)` with `open_` and renames it; reading calls `open_`
on the destination. -/

/-- **Writer and reader are always paired by the same suffixes**: for every destination name and every dot-free
stem, the temporary file `atomic_write` writes has exactly the destination's `suffixes`; hence (for either value
of `bool(path.suffix)`) `get_format_suffixes` returns the same (format, compression) pair and
`_get_compression_open` the same opener for the file being written and for the file later read: compress and
decompress are only ever composed with matching suffixes. Tables generated from util/io.py on every run. -/
theorem suffix_dispatch_consistent (u name : List Char) (hu : u ≠ []) (hdot : '.' ∉ u) :
    Suffixes.suffixesOf (Suffixes.tmpName u name) = Suffixes.suffixesOf name ∧
    ∀ hasSuffix : Bool,
      Suffixes.formatSuffixes Gen.C06Dispatch.compressionSuffixes hasSuffix (Suffixes.suffixesOf (Suffixes.tmpName u name)) =
        Suffixes.formatSuffixes Gen.C06Dispatch.compressionSuffixes hasSuffix (Suffixes.suffixesOf name) ∧
      (Suffixes.formatSuffixes Gen.C06Dispatch.compressionSuffixes hasSuffix
          (Suffixes.suffixesOf (Suffixes.tmpName u name))).map (fun p => Suffixes.codecOf Gen.C06Dispatch.codecTable p.2) =
        (Suffixes.formatSuffixes Gen.C06Dispatch.compressionSuffixes hasSuffix
          (Suffixes.suffixesOf name)).map (fun p => Suffixes.codecOf Gen.C06Dispatch.codecTable p.2) := by
  have h := Suffixes.suffixesOf_tmpName u name hu hdot
  refine ⟨h, fun b => ?_⟩
  rw [h]
  exact ⟨rfl, rfl⟩

/-- **The generated dispatch table is total, exact and injective**: every suffix `get_format_suffixes` classifies
as compression has an opener, every opener's key is such a suffix, and no two suffixes share an opener
(so a file is never written by one codec and read by another, nor silently read as plain text). -/
theorem suffix_dispatch_table_sound :
    (∀ c ∈ Gen.C06Dispatch.compressionSuffixes, (Suffixes.codecOf Gen.C06Dispatch.codecTable (some c)).isSome = true) ∧
    (∀ p ∈ Gen.C06Dispatch.codecTable, p.1 ∈ Gen.C06Dispatch.compressionSuffixes) ∧
    (Gen.C06Dispatch.codecTable.map (·.1)).Nodup ∧ (Gen.C06Dispatch.codecTable.map (·.2)).Nodup := by
  decide

example : Suffixes.suffixesOf ['x', '.', 'F', 'a', '.', 'g', 'z'] = [['.', 'F', 'a'], ['.', 'g', 'z']] ∧
    Suffixes.tmpName ['u', '1'] ['x', '.', 'F', 'a', '.', 'g', 'z'] = ['u', '1', '.', 'F', 'a', '.', 'g', 'z'] ∧
    Suffixes.formatSuffixes Gen.C06Dispatch.compressionSuffixes true [['.', 'F', 'a'], ['.', 'g', 'z']] =
      .ok (some ['f', 'a'], some ['g', 'z']) ∧
    Suffixes.codecOf Gen.C06Dispatch.codecTable (some ['g', 'z']) = some ['g', 'z', 'i', 'p', '_', 'o', 'p', 'e', 'n'] := by
  decide +kernel

/-! ## GenBank: the location machinery shared by `minimal_parser` and `rich_parser` -/

/-- **Location strings parse to the parts written**, for every single span `a..b`, `complement(a..b)`,
`join(a..b,c..d,…)` and `complement(join(…))` with arbitrary natural coordinates and any number of parts:
the tokenizer + stack machine of `parse_location_line` returns the parts in GenBank order with the right strand
(`complement` reverses the order and flips every strand). -/
theorem genbank_location_roundtrip (l : GenBank.GbLoc) (h : l.wf) :
    GenBank.parseLocation (GenBank.render l) = .ok (GenBank.eval l) :=
  GenBank.parseLocation_denotes (GenBank.denotes_render l h)

/-- **`minimal_parser` and `rich_parser` agree on feature coordinates**: both views are functions of the one
parse above — `minimal_parser` exposes the `Location` parts (`start`, `stop + 1`, `strand` in part order),
`rich_parser` stores `get_coordinates()` (the same pairs, sorted) and `LocationList.strand` in its annotation db —
so for the four shapes: the parts are the written `(a-1, b)` pairs (reversed under `complement`), the stored spans
are those pairs sorted, and the stored strand is `+1` without and `-1` with `complement`. -/
theorem genbank_minimal_rich_agree (l : GenBank.GbLoc) (h : l.wf) :
    ∃ parts, GenBank.parseLocation (GenBank.render l) = .ok parts ∧
      GenBank.pyCoords parts = (GenBank.eval l).map (fun s => (s.first - 1, s.second)) ∧
      GenBank.getCoordinates parts = GenBank.sortPairs ((GenBank.eval l).map (fun s => (s.first - 1, s.second))) ∧
      GenBank.listStrand parts = .ok (match l with
        | .span _ => 1
        | .join _ => 1
        | .comp _ => -1
        | .compJoin _ => -1) := by
  refine ⟨GenBank.eval l, genbank_location_roundtrip l h, rfl, rfl, ?_⟩
  cases l with
  | span p => exact GenBank.listStrand_fwd [p] (by simp)
  | comp p => exact GenBank.listStrand_flip [p] (by simp)
  | join ps => exact GenBank.listStrand_fwd ps h
  | compJoin ps => exact GenBank.listStrand_flip ps h

example : GenBank.render (.compJoin [(3, 8), (12, 20)]) = "complement(join(3..8,12..20))".toList := by
  -- the literal as a character list first: the kernel would otherwise decode its bytes character by character
  rw [String.toList_ofList]
  decide +kernel
example : GenBank.parseLocation (GenBank.render (.compJoin [(3, 8), (12, 20)])) = .ok [⟨12, 20, -1⟩, ⟨3, 8, -1⟩] := by decide +kernel
example : GenBank.getCoordinates [⟨12, 20, -1⟩, ⟨3, 8, -1⟩] = [(2, 8), (11, 20)] := by decide +kernel

end CogentModel.C06
