import CogentModel.Model.AlnPred
import CogentModel.Proofs.AlnSimPred
import CogentModel.Proofs.AlnWindows
import CogentModel.Props.C03
/-! # C03 — filtering with the predicate INSIDE the model, and sliding windows

`Props/C03.lean` proves the history theorem with the per-column verdict of `filtered` / `no_degenerates` /
`omit_gap_pos` given as an input (`AOp.filterMask`).  Here the verdict is computed by the model from the rows the
alignment displays (`Model/AlnPred.lean`: motif grouping, `zip(*seqs)`, `AllowedCharacters`, `GapsOk` with the
binary64 quotient, the `kept` toggle, the `drop_remainder` refusal), and the theorems hold for EVERY predicate. -/
namespace CogentModel.C03F
open CogentModel.IndelMap CogentModel.Aln

/-- The `kept` toggle of `Alignment.filtered` over motif positions (appending `position * motif_length` to `gv` at
every change) produces exactly the run-length blocks of the column mask in which every motif verdict is repeated
`motif_length` times. -/
theorem filter_toggle_eq_blocks (ml : Nat) (hml : 0 < ml) (vs : List Bool) :
    motifRuns ml 0 none vs = maskRuns 0 none (expandMask ml vs) := by
  have := motifRuns_eq ml hml vs 0 none
  simpa using this

example : motifRuns 3 0 none [true, false, true, true] = [(0, 3), (6, 12)] := by decide +kernel

/-- **`filtered` refines motif-wise filtering of the strings, for every predicate, motif length and
`drop_remainder`**: on well-formed rows, if `Alignment.filtered(pred, ml, drop)` returns an alignment, then the dense /
string operation (evaluate `pred` on the tuples of `ml`-character motifs of the displayed strings, join the kept
motifs of every string; refuse when the length is not a multiple of `ml` and `drop` is off; `None` when nothing is
kept) returns exactly the rows it displays, and the rows are still well formed. -/
theorem filtered_refines (pred : List (List Char) → Bool) (ml : Nat) (drop dna : Bool) (a : AlnA) (hwf : AllWF a)
    (a' : AlnA) (dna' : Bool) (h : stepA2 dna a (.filtered pred ml drop) = .ok (a', dna')) :
    AllWF a' ∧ stepD2 dna (showA a) (.filtered pred ml drop) = some (.ok (showA a', dna')) :=
  step2_refines dna a (.filtered pred ml drop) trivial hwf a' dna' h

example : (stepA2 true (ofStrings [("s0", "G-ANTC".toList), ("s1", "A-CGTA".toList)])
      (.noDegenerates "ACGT".toList 2)).toOption.map (fun r => showA r.1)
    = some [("s0", "TC".toList), ("s1", "TA".toList)] := by decide +kernel

/-- **History theorem with the predicates inside the model**: every finite sequence of the operations of
`aln_refines` AND `filtered(pred, ml, drop)` / `no_degenerates(ml, allow_gap)` / `omit_gap_pos(frac, ml)` with the
predicate evaluated on the current alignment: if the annotatable class completes the history, it displays the rows
the same history gives on the plain gapped strings. -/
theorem aln_refines_pred (ops : List AOp2) (dna : Bool) (a : AlnA) (hops : ∀ op ∈ ops, Op2OK op) (hwf : AllWF a)
    (a' : AlnA) (dna' : Bool) (h : runA2 dna a ops = .ok (a', dna')) :
    AllWF a' ∧ runD2 dna (showA a) ops = some (.ok (showA a', dna')) :=
  run2_refines ops dna a hops hwf a' dna' h

/-- … and from named gapped strings: the two classes agree after every such history. -/
theorem classes_agree_history_pred (ops : List AOp2) (dna : Bool) (d : AlnD) (hops : ∀ op ∈ ops, Op2OK op)
    (a' : AlnA) (dna' : Bool) (h : runA2 dna (ofStrings d) ops = .ok (a', dna')) :
    runD2 dna d ops = some (.ok (showA a', dna')) := by
  have := (run2_refines ops dna (ofStrings d) hops (allWF_ofStrings d) a' dna' h).2
  rwa [C03.array_annotatable_agree] at this

example : (∀ op ∈ [AOp2.base (.slice (some 1) none), AOp2.base .rc, AOp2.noDegenerates "ACGT-".toList 1,
    AOp2.filtered (fun col => col.length > 1) 3 false], Op2OK op) := by
  simp only [List.forall_mem_cons, Op2OK, OpOK, AOp2.noDegenerates, and_self, List.not_mem_nil, false_imp_iff, implies_true]
example : (runA2 true (ofStrings [("s0", "TG-ANTC".toList), ("s1", "TA-CGTA".toList)])
      [.base (.slice (some 1) none), .noDegenerates "ACGT".toList 2, .base .rc]).toOption.map (fun r => showA r.1)
    = some [("s0", "GA".toList), ("s1", "TA".toList)] := by decide +kernel

/-- `no_degenerates` does what its name says: every character of every row of the result is one of the allowed
(non-degenerate, plus the gap when `allow_gap`) characters. -/
theorem no_degenerates_sound (chars : List Char) (ml : Nat) (dna : Bool) (d d' : AlnD) (dna' : Bool)
    (h : stepD2 dna d (.noDegenerates chars ml) = some (.ok (d', dna'))) :
    ∀ p ∈ d', ∀ c ∈ p.2, c ∈ chars := by
  simp only [AOp2.noDegenerates, stepD2] at h
  split at h
  · cases h
  split at h
  · cases h
  split at h
  · cases h
  simp only [Option.some.injEq, Except.ok.injEq, Prod.mk.injEq] at h
  obtain ⟨rfl, _⟩ := h
  intro p hp c hc
  obtain ⟨q, hq, rfl⟩ := List.mem_map.mp hp
  -- `c` stands in a motif of a column whose every motif holds allowed characters only
  obtain ⟨col, hv, m, hm, hcm⟩ := keepMotifs_verdicts _ ml _ _ q.2 (List.mem_map.mpr ⟨q, hq, rfl⟩) c hc
  exact List.contains_iff_mem.mp (List.all_eq_true.mp (List.all_eq_true.mp hv m hm) c hcm)

example : stepD2 true [("s0", "GNA".toList), ("s1", "A-C".toList)] (.noDegenerates "ACGT".toList 1)
    = some (.ok ([("s0", "GA".toList), ("s1", "AC".toList)], true)) := rfl

/-- Rows stay equally long under motif-wise filtering: every row that holds the `vs.length` motifs keeps
`ml × (number of positive verdicts)` characters. -/
theorem filtered_rows_equal_length (ml : Nat) (vs : List Bool) : ∀ (s : List Char), ml * vs.length ≤ s.length →
    (keepMotifs ml vs s).length = ml * (vs.filter id).length := by
  induction vs with
  | nil => intro s _; simp [keepMotifs]
  | cons v r ih =>
    intro s hs
    simp only [List.length_cons, Nat.mul_succ] at hs
    simp only [keepMotifs, List.length_append]
    rw [ih (s.drop ml) (by rw [List.length_drop]; omega)]
    cases v with
    | true =>
      rw [if_pos rfl, List.length_take, Nat.min_eq_left (by omega), List.filter_cons_of_pos rfl, List.length_cons,
        Nat.mul_succ, Nat.add_comm]
    | false => rw [if_neg Bool.false_ne_true, List.filter_cons_of_neg Bool.false_ne_true]; exact Nat.zero_add _

example : (keepMotifs 2 [true, false, true] "ACGTTG".toList).length = 2 * 2 := by decide +kernel

/-- **`sliding_windows` yields in-range slices and each refines the string window**: for a well-formed row of an
alignment of length `n`, `0 ≤ start`, `1 ≤ step`, `0 ≤ window`: every yielded `self[pos : pos + window]` succeeds,
displays `s[pos : pos + window]`, which has exactly `window` characters. -/
theorem windows_refine (r : Row) (h : RowWF r) (window step : Int) (start stop : Option Int) (hstep : 0 < step)
    (hw : 0 ≤ window) (hstart : ∀ x, start = some x → 0 ≤ x) :
    ∀ p ∈ windowBounds (len r.map) window step start stop,
      ∃ r', rowSlice r (some p.1) (some p.2) = .ok r' ∧ RowWF r' ∧
        gapped r' = PySlice.slice (gapped r) (some p.1) (some p.2) 1 ∧ ((gapped r').length : Int) = window := by
  intro p hp
  obtain ⟨h0, h1, h2⟩ := windowBounds_in_range _ window step start stop hstep hstart p hp
  have hlen := C03.len_eq_display r h
  obtain ⟨r', hr, hwf', hg⟩ := C03.slice_total r h (some p.1) (some p.2)
    (by intro x hx; cases hx; omega) (by intro y hy; cases hy; omega)
  refine ⟨r', hr, hwf', hg, ?_⟩
  rw [hg, PySlice.window_length _ _ _ h0 (by omega) (by omega)]
  omega

example : windowBounds 10 3 2 none none = [(0, 3), (2, 5), (4, 7), (6, 9)] := by decide +kernel
example : windowBounds 10 3 4 (some 1) (some 7) = [(1, 4), (5, 8)] := by decide +kernel

/-- The gap-fraction verdict of `omit_gap_pos` depends on the column only through its number of gap characters
(and the number of rows): two columns of equally many rows with equally many gap characters get the same verdict. -/
theorem gaps_ok_by_count (gaps : List Char) (frac : Rat) (ml : Nat) (c1 c2 : List (List Char))
    (hl : c1.length = c2.length) (hc : gapCount gaps c1 = gapCount gaps c2) :
    gapsOk gaps frac ml c1 = gapsOk gaps frac ml c2 := by
  unfold gapsOk; rw [hl, hc]

example : gapCount "-?".toList ["A-".toList, "?-".toList] = 3 := by decide +kernel

end CogentModel.C03F
