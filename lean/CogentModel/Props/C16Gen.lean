import CogentModel.Proofs.OptGen
import CogentModel.Props.C16
import CogentModel.Props.C16Clamp
/-! # C16 — the optimiser stack as translated from the source, and the likelihood-function level

`Gen/C16Opt.lean` is printed by `translator/c16_opt2lean.py` from the source text of `limited_use`,
`bounded_function`, `bounds_exception_catching_function`, `maximise` (`maths/optimisers.py`), `Calculator.optimise`
(`recalculation/calculation.py`) and `ParameterController.optimise` (`recalculation/scope.py`).  The hand models are
`Model/Optimiser.lean` and, for the likelihood-function level (`limit_action`, the `finally:
update_from_calculator`), `Model/OptimiserLf.lean`.

In every statement the optimisers are an adversary: `env.qsG` / `env.qsL` (resp. `qs`) are ANY finite lists of
query points, the objective `env.f` may raise or return NaN anywhere. -/
namespace CogentModel.C16
open CogentModel.Optimiser CogentModel.OptGen CogentModel.OptGenProofs CogentModel.Gen

variable {X Y : Type}

/-! ## the generated definitions are the hand model -/

/-- `limited_use.wrapped_f` (translated) = `limitedCall`: limit test before the count, count before the call,
record only on `>`, the state change survives a raise. -/
theorem translated_wrapped_f_is_model (env : Env X Y) (b : Option (X × X)) (maxE : Option Nat) (s : St X Y)
    (a : Aux X Y) (x : X) :
    C16Opt.limited_use.wrapped_f env (callObj env) maxE x (embed s a)
      = (embed (limitedCall (toCfg env b maxE) s x).1 a, outRes (limitedCall (toCfg env b maxE) s x).2) :=
  wrapped_f_eq env b maxE s a x

/-- `bounded_function._wrapper(limited_use.wrapped_f)` (translated) = `boundedCall` -/
theorem translated_bounded_is_model (env : Env X Y) (maxE : Option Nat) (lo hi : X) (s : St X Y) (a : Aux X Y) (x : X) :
    C16Opt.bounded_function._wrapper env (C16Opt.limited_use.wrapped_f env (callObj env) maxE) lo hi x (embed s a)
      = (embed (boundedCall (toCfg env (some (lo, hi)) maxE) s x).1 a,
         outRes (boundedCall (toCfg env (some (lo, hi)) maxE) s x).2) :=
  impl_bounded env maxE lo hi s a x

/-- `bounds_exception_catching_function._wrapper` (translated) = `seen`: `ArithmeticError` /
`ParameterOutOfBoundsError` / NaN / +inf become `-inf`, everything else propagates -/
theorem translated_catching_is_model (env : Env X Y) (b : Option (X × X)) (maxE : Option Nat)
    (g : X → PM X Y (PyF Y)) (hneg : ∀ y, env.fin y = false → env.isneginf y = true → y = env.negInf)
    (hg : Impl g (toCfg env b maxE)) (s : St X Y) (a : Aux X Y) (x : X) :
    C16Opt.bounds_exception_catching_function._wrapper env g x (embed s a)
      = (embed (boundedCall (toCfg env b maxE) s x).1 (a.warn (warns env (boundedCall (toCfg env b maxE) s x).2)),
         match seen (toCfg env b maxE) (boundedCall (toCfg env b maxE) s x).2 with
         | .stop e => .error (stopExc e)
         | .ret y => .ok (.val y)) :=
  catching_eq env b maxE g hneg hg s a x

/-- `limited_use.get_best` (translated) = `getBest`: the objective is called once more AT the best point, then
`(best_fval, best_x, evals)` is returned -/
theorem translated_get_best_is_model (env : Env X Y) (b : Option (X × X)) (maxE : Option Nat) (s : St X Y) (a : Aux X Y)
    (h : BestOk (toCfg env b maxE) s) :
    C16Opt.limited_use.get_best env (callObj env) maxE (embed s a)
      = match s.bestX with
        | some xb => (embed { s with calls := xb :: s.calls } a, .ok (.val s.bestF, some xb, s.evals))
        | none => (embed s a, .error .fatal) :=
  get_best_eq env b maxE s a h

/-- **the translated `maximise` is the hand model `maximise`**, for every objective, start, bounds argument
(`None`, or a pair with `None` sides), `local` (None/True/False), evaluation limit, `return_eval_count`, `warn`,
every behaviour of the two optimisers and every incoming state whose call log is empty: same final closure cells,
same sequence of objective calls (incl. the `get_best` call), same values shown to the optimisers, same
result / exception. -/
theorem translated_maximise_is_model (env : Env X Y)
    (hneg : ∀ y, env.fin y = false → env.isneginf y = true → y = env.negInf)
    (x0 : X) (bounds : Option (Option X × Option X)) (local_ : Option Bool) (maxE : Option Nat) (rec warn : Bool)
    (g : GSt X Y) (hcalls : g.calls = []) :
    ∃ w, C16Opt.maximise env (callObj env) x0 bounds local_ maxE rec warn g
      = (embed (Optimiser.maximise (toCfg env (boundsOf env bounds) maxE)
                  (if env.multi x0 then x0 else env.atleast1d x0) (queriesFor local_ env.qsG env.qsL)).st
           { shown := ((Optimiser.maximise (toCfg env (boundsOf env bounds) maxE)
                  (if env.multi x0 then x0 else env.atleast1d x0) (queriesFor local_ env.qsG env.qsL)).shown.map PyF.val).reverse ++ g.shown,
             warned := w, updates := g.updates, optimised := g.optimised },
         finalRes env (env.multi x0) rec (Optimiser.maximise (toCfg env (boundsOf env bounds) maxE)
                  (if env.multi x0 then x0 else env.atleast1d x0) (queriesFor local_ env.qsG env.qsL)).final) :=
  maximise_eq env hneg x0 bounds local_ maxE rec warn g hcalls

/-- the translated `Calculator.optimise` = hand `maximise` on the calculator, started at the clamped value array,
with the bounds `(low, high)` in THIS order, `local` and `max_evaluations` passed through; `optimised` is set
exactly when `maximise` returns -/
theorem translated_calculator_optimise_is_model (env : Env X Y)
    (hneg : ∀ y, env.fin y = false → env.isneginf y = true → y = env.negInf)
    (local_ : Option Bool) (maxE : Option Nat) (g : GSt X Y) (hcalls : g.calls = []) :
    ∃ w, C16Opt.Calculator.optimise env local_ maxE g
      = (embed (Optimiser.maximise (toCfg env (some (env.boundsLow, env.boundsHigh)) maxE) (startOf env)
                  (queriesFor local_ env.qsG env.qsL)).st
           { shown := ((Optimiser.maximise (toCfg env (some (env.boundsLow, env.boundsHigh)) maxE) (startOf env)
                  (queriesFor local_ env.qsG env.qsL)).shown.map PyF.val).reverse ++ g.shown,
             warned := w, updates := g.updates,
             optimised := (Optimiser.maximise (toCfg env (some (env.boundsLow, env.boundsHigh)) maxE) (startOf env)
                  (queriesFor local_ env.qsG env.qsL)).final.exc.isNone || g.optimised },
         calcRes (Optimiser.maximise (toCfg env (some (env.boundsLow, env.boundsHigh)) maxE) (startOf env)
                  (queriesFor local_ env.qsG env.qsL)).final.exc) :=
  calc_optimise_eq env hneg local_ maxE g hcalls

/-- **`start_clamp_in_bounds` for the TRANSLATED code.**  In any environment whose array operations are numpy's
boolean-mask operations on vectors (`C16Clamp.MaskLaws`; `C16Clamp.listEnv_laws` is one), the vector the translated
`Calculator.optimise` hands to `maximise` (`clampX env`, see `translated_calculator_optimise_is_model`) is `clampStart` of the
calculator's values and bounds (`C16Clamp.gen_clampX_is_clampStart`); so, under the hypotheses of `start_clamp_in_bounds`,
it passes `bounded_function`'s test against the very bounds that are passed on, and a vector already within bounds is
handed on unchanged. -/
theorem translated_start_clamp_in_bounds {R : Type} [LinearOrder R] (env : Env X Y) (rep : X → List R) (repM : X → List Bool)
    (close : R → R → Bool) (L : C16Clamp.MaskLaws env rep repM (fun a b => decide (a < b)) close) (v : List (Coord R))
    (hx : rep env.valueArray = v.map (·.x)) (hlo : rep env.boundsLow = v.map (·.lo)) (hhi : rep env.boundsHigh = v.map (·.hi))
    (hlohi : ∀ c ∈ v, c.lo ≤ c.hi)
    (hL : v.all (fun c => !(decide (c.x < c.lo)) || close c.x c.lo) = true)
    (hH : (clampLow (fun a b => decide (a < b)) close v).all (fun c => !(decide (c.hi < c.x)) || close c.x c.hi) = true) :
    ∃ w : List (Coord R), rep (clampX env) = w.map (·.x) ∧ w.map (·.lo) = rep env.boundsLow ∧ w.map (·.hi) = rep env.boundsHigh ∧
      inBounds (fun a b => decide (a < b)) w = true ∧
      (inBounds (fun a b => decide (a < b)) v = true → rep (clampX env) = rep env.valueArray) := by
  have hX := C16Clamp.gen_clampX_is_clampStart env rep repM _ close L v hx hlo hhi
  obtain ⟨hB, hI⟩ := start_clamp_in_bounds close v hlohi hL hH
  obtain ⟨bl, bh⟩ := C16Clamp.clampStart_bounds (fun a b => decide (a < b)) close v
  exact ⟨_, hX, bl.trans hlo.symm, bh.trans hhi.symm, hB, fun hin => by rw [hX, hI hin, hx]⟩

/-- the same, evaluated: the translated clamp on the list environment, `allclose` = "differs by at most 1" -/
example : (clampX (OptGenClamp.listEnv (fun a b : Int => decide (a < b)) (fun a b => decide (a - b ≤ 1 ∧ b - a ≤ 1))
    [4, 11, 7] [5, 0, 0] [9, 10, 9])).rep = [5, 10, 7] := by decide +kernel
/-- one coordinate too far below: the `low` clamp is skipped as a whole, the `high` clamp still applies -/
example : (clampX (OptGenClamp.listEnv (fun a b : Int => decide (a < b)) (fun a b => decide (a - b ≤ 1 ∧ b - a ≤ 1))
    [4, 11, 1] [5, 0, 5] [9, 10, 9])).rep = [4, 10, 1] := by decide +kernel

/-- **the translated `ParameterController.optimise` is the hand model `lfOptimise`**: `local`,
`max_evaluations` are forwarded, `MaximumEvaluationsReached` is turned into nothing / a warning /
`ArithmeticError` by `limit_action`, every other exception propagates, and `update_from_calculator` runs exactly once,
after everything else, whatever happened. -/
theorem translated_lf_optimise_is_model (env : Env X Y)
    (hneg : ∀ y, env.fin y = false → env.isneginf y = true → y = env.negInf)
    (local_ : Option Bool) (limitAction : String) (maxE : Option Nat) (rc : Option Bool)
    (g : GSt X Y) (hcalls : g.calls = []) :
    ∃ w, C16Opt.ParameterController.optimise env local_ limitAction maxE rc g
      = (embed (lfOptimise (toCfg env (some (env.boundsLow, env.boundsHigh)) maxE) limitAction (startOf env)
                  (queriesFor local_ env.qsG env.qsL)).run.st
           { shown := ((lfOptimise (toCfg env (some (env.boundsLow, env.boundsHigh)) maxE) limitAction (startOf env)
                  (queriesFor local_ env.qsG env.qsL)).run.shown.map PyF.val).reverse ++ g.shown,
             warned := w + (if (lfOptimise (toCfg env (some (env.boundsLow, env.boundsHigh)) maxE) limitAction (startOf env)
                  (queriesFor local_ env.qsG env.qsL)).outcome = .warned then 1 else 0),
             updates := (lfOptimise (toCfg env (some (env.boundsLow, env.boundsHigh)) maxE) limitAction (startOf env)
                  (queriesFor local_ env.qsG env.qsL)).applied :: g.updates,
             optimised := (lfOptimise (toCfg env (some (env.boundsLow, env.boundsHigh)) maxE) limitAction (startOf env)
                  (queriesFor local_ env.qsG env.qsL)).optimised || g.optimised },
         lfRes rc (lfOptimise (toCfg env (some (env.boundsLow, env.boundsHigh)) maxE) limitAction (startOf env)
                  (queriesFor local_ env.qsG env.qsL)).outcome) :=
  lf_optimise_eq env hneg local_ limitAction maxE rc g hcalls

/-! ## the likelihood-function level (hand model `lfOptimise`) -/

/-- **lf_optimise_takes_back_best**.  For every objective, every in-bounds start with a finite value `y0`, every
evaluation limit ≥ 1, EVERY optimiser behaviour and EVERY `limit_action` string — also when the run ends with the
"FORCED EXIT" `ArithmeticError` or any other exception out of the optimiser — the point `update_from_calculator`
takes back in the `finally` is the best point `xb` ever evaluated: `f xb = fb ≥ y0`, `xb` within bounds. -/
theorem lf_optimise_takes_back_best [LinearOrder Y] (c : Cfg X Y) (hg : ∀ a b, c.gt a b = decide (b < a))
    (limitAction : String) (x0 : X) (y0 : Y) (h0 : c.f x0 = .val y0) (hb : c.inB x0 = true)
    (hfin : c.fin y0 = true) (hbot : c.negInf < y0) (hmax : c.maxEvals ≠ some 0) (qs : List X) :
    ∃ fb xb, (lfOptimise c limitAction x0 qs).applied = some xb ∧ c.f xb = .val fb ∧ y0 ≤ fb ∧ c.inB xb = true ∧
      (∀ x ∈ (lfOptimise c limitAction x0 qs).run.st.calls, ∀ y, c.f x = .val y → y ≤ fb) ∧
      (lfOptimise c limitAction x0 qs).outcome ≠ .valueError := by
  obtain ⟨t, xb, k, hbx, hf, hm⟩ := maximise_ok hg h0 hb hfin hbot hmax qs
  unfold lfOptimise
  rw [hm]
  exact ⟨_, xb, rfl, hf, k.maxi x0 k.start y0 h0, k.inb xb (k.bestMem xb hbx),
    List.forall_mem_cons.mpr ⟨k.maxi xb (k.bestMem xb hbx), k.maxi⟩, lfEnd_done_ne_valueError limitAction _ xb _ _⟩

/-- **lf_limit_action**.  What `limit_action` does, for every run: `MaximumEvaluationsReached` never leaves
`lf.optimise`; `"ignore"` neither warns nor raises the forced-exit error; `"warn"` never raises it; a forced-exit
error or warning occurs only when the evaluation limit really cut the run short; `Calculator.optimised` is set
exactly on a run that was not cut short by anything. -/
theorem lf_limit_action (c : Cfg X Y) (limitAction : String) (x0 : X) (qs : List X) :
    ((lfOptimise c limitAction x0 qs).outcome = .forcedExit →
        limitAction ≠ "ignore" ∧ limitAction ≠ "warn" ∧ ∃ n, (maximise c x0 qs).final.exc = some (.maxEvals n)) ∧
    ((lfOptimise c limitAction x0 qs).outcome = .warned →
        limitAction = "warn" ∧ ∃ n, (maximise c x0 qs).final.exc = some (.maxEvals n)) ∧
    ((∃ n, (maximise c x0 qs).final.exc = some (.maxEvals n)) →
        (lfOptimise c limitAction x0 qs).outcome
          = if limitAction == "ignore" then .returned else if limitAction == "warn" then .warned else .forcedExit) ∧
    ((lfOptimise c limitAction x0 qs).optimised = true ↔ (maximise c x0 qs).final.exc = none) :=
  ⟨(lfEnd_spec limitAction _).1, (lfEnd_spec limitAction _).2,
    fun ⟨n, h⟩ => (congrArg (lfEnd limitAction) h).trans (lfEnd_maxEvals limitAction n),
    Option.isNone_iff_eq_none⟩

/-- non-vacuity: on `exA` (start value 1, the limit of 4 evaluations cuts the optimiser short after it found 10),
`limit_action="raise"` ends in the forced-exit error, `"warn"` warns, `"ignore"` returns — and the point taken back is
the best one (5, value 10); without the cut-off the run returns and `optimised` is set -/
example : (lfOptimise exA "raise" 2 [1, 9, 3, 5, 6, 7]).outcome = .forcedExit ∧
    (lfOptimise exA "warn" 2 [1, 9, 3, 5, 6, 7]).outcome = .warned ∧
    (lfOptimise exA "ignore" 2 [1, 9, 3, 5, 6, 7]).outcome = .returned ∧
    (lfOptimise exA "raise" 2 [1, 9, 3, 5, 6, 7]).applied = some 5 ∧
    (lfOptimise exA "raise" 2 [1, 9, 3, 5, 6, 7]).optimised = false ∧
    (lfOptimise exA "raise" 2 [1, 9]).outcome = .returned ∧ (lfOptimise exA "raise" 2 [1, 9]).optimised = true := by decide +kernel

/-- the hypotheses of `lf_optimise_takes_back_best` are satisfiable (start 2 with value 1 on `exA`) -/
example := lf_optimise_takes_back_best exA (fun _ _ => rfl) "raise" 2 1 (by decide +kernel) (by decide +kernel) (by decide +kernel)
  (by decide +kernel) (by decide +kernel) [1, 9, 3, 5, 6, 7]

/-! ## the property, stated about the translated code -/

/-- **translated_lf_optimise_never_lowers**.  Run the TRANSLATED `ParameterController.optimise` (→
`Calculator.optimise` → `maximise` → wrapper stack) on any calculator objective `env.f`,
from a clamped start that is within `(low, high)` and has the finite value `y0`, with an evaluation limit ≠ 0, any
`local`, any `limit_action`, any behaviour of the two optimisers.  Then, whatever it returns or raises:
`update_from_calculator` ran exactly once and last; at that moment the calculator stood at `xb` (the last objective
call), which is the recorded best point, `env.f xb = fb` with `y0 ≤ fb`, `low ≤ xb ≤ high`;
`MaximumEvaluationsReached` and `ValueError` do not come out; `ArithmeticError` only with a `limit_action`
other than "ignore"/"warn". -/
theorem translated_lf_optimise_never_lowers [LinearOrder Y] (env : Env X Y)
    (hgt : ∀ a b, env.gt a b = decide (b < a))
    (hneg : ∀ y, env.fin y = false → env.isneginf y = true → y = env.negInf)
    (local_ : Option Bool) (limitAction : String) (maxE : Option Nat) (rc : Option Bool)
    (g : GSt X Y) (hcalls : g.calls = [])
    (y0 : Y) (h0 : env.f (startOf env) = .val y0)
    (hlo : env.vle env.boundsLow (startOf env) = true) (hhi : env.vle (startOf env) env.boundsHigh = true)
    (hfin : env.fin y0 = true) (hbot : env.negInf < y0) (hmax : maxE ≠ some 0) :
    ∃ xb fb, (C16Opt.ParameterController.optimise env local_ limitAction maxE rc g).1.updates = some xb :: g.updates ∧
      (C16Opt.ParameterController.optimise env local_ limitAction maxE rc g).1.calls.head? = some xb ∧
      (C16Opt.ParameterController.optimise env local_ limitAction maxE rc g).1.best_x = some xb ∧
      (C16Opt.ParameterController.optimise env local_ limitAction maxE rc g).1.best_fval = .val fb ∧
      env.f xb = .val fb ∧ y0 ≤ fb ∧
      env.vle env.boundsLow xb = true ∧ env.vle xb env.boundsHigh = true ∧
      (∀ n, (C16Opt.ParameterController.optimise env local_ limitAction maxE rc g).2 ≠ .error (.maxEvals n)) ∧
      (C16Opt.ParameterController.optimise env local_ limitAction maxE rc g).2 ≠ .error .valueError ∧
      ((C16Opt.ParameterController.optimise env local_ limitAction maxE rc g).2 = .error .arith →
          limitAction ≠ "ignore" ∧ limitAction ≠ "warn") := by
  obtain ⟨w, h⟩ := lf_optimise_eq env hneg local_ limitAction maxE rc g hcalls
  rw [h]
  have hb : (toCfg env (some (env.boundsLow, env.boundsHigh)) maxE).inB (startOf env) = true := by
    show (env.vle _ _ && env.vle _ _) = true
    rw [hlo, hhi]; rfl
  obtain ⟨t, xb, k, hbx, hf, hm⟩ := maximise_ok (c := toCfg env (some (env.boundsLow, env.boundsHigh)) maxE) hgt h0 hb
    hfin hbot hmax (queriesFor local_ env.qsG env.qsL)
  have hin : (env.vle env.boundsLow xb && env.vle xb env.boundsHigh) = true := k.inb xb (k.bestMem xb hbx)
  rw [Bool.and_eq_true] at hin
  unfold lfOptimise
  rw [hm]
  refine ⟨xb, t.st.bestF, rfl, rfl, hbx, rfl, hf, k.maxi _ k.start y0 h0, hin.1, hin.2, ?_, ?_, ?_⟩
  · exact fun m hm => (lfRes_error hm).1 m rfl
  · exact fun hv => lfEnd_done_ne_valueError limitAction _ xb _ _ ((lfRes_error hv).2.1 rfl)
  · intro ha
    have hf := (lfEnd_spec limitAction _).1 ((lfRes_error ha).2.2 rfl)
    exact ⟨hf.1, hf.2.1⟩

/-- a concrete calculator for the examples: one parameter, value array 2, bounds [0, 8], objective
`10 - (x - 5)^2` raising `ArithmeticError` at 3; the global optimiser asks for 1, 9 (out of bounds), the local one for
3, 5, 6, 7 -/
def exEnv : Env Int Int :=
  { f := fun x => if x = 3 then .arith else .val (10 - (x - 5) ^ 2),
    vle := fun a b => decide (a ≤ b), gt := fun a b => decide (b < a), ge := fun a b => decide (b ≤ a), fin := fun y => decide (-100 < y),
    isneginf := fun y => decide (y = -100), negInf := -100, posInfX := 1000, negInfX := -1000,
    multi := fun _ => true, atleast1d := id, squeeze := id, qsG := [1, 9], qsL := [3, 5, 6, 7],
    valueArray := 2, boundsLow := 0, boundsHigh := 8,
    maskGt := fun a b => if b < a then 1 else 0, maskLt := fun a b => if a < b then 1 else 0,
    sel := fun x m => if m = 1 then x else 0, put := fun x m v => if m = 1 then v else x,
    allclose := fun a b => decide (a = b) }

def exG0 : GSt Int Int :=
  { evals := 7, best_fval := .nan, best_x := some 99, calls := [], shown := [], warned := 0, updates := [], optimised := false }

/-- non-vacuity, by evaluating the TRANSLATED code: global + local under a limit of 4 evaluations,
`limit_action="warn"`: objective calls 2, 1, (9 is out of bounds), 3 (raises), 5, then the limit, then `get_best`
calls 5 again; one warning; the parameter controller takes back 5; `False` is returned.  With `"raise"` the
`ArithmeticError` comes out and 5 is taken back all the same; without a limit the run ends normally at 5. -/
example :
    (C16Opt.ParameterController.optimise exEnv none "warn" (some 4) none exG0).2 = .ok false ∧
    (C16Opt.ParameterController.optimise exEnv none "warn" (some 4) none exG0).1.calls = [5, 5, 3, 1, 2] ∧
    (C16Opt.ParameterController.optimise exEnv none "warn" (some 4) none exG0).1.updates = [some 5] ∧
    (C16Opt.ParameterController.optimise exEnv none "warn" (some 4) none exG0).1.warned = 1 ∧
    (C16Opt.ParameterController.optimise exEnv none "warn" (some 4) none exG0).1.best_fval = .val 10 ∧
    (C16Opt.ParameterController.optimise exEnv none "raise" (some 4) none exG0).2 = .error .arith ∧
    (C16Opt.ParameterController.optimise exEnv none "raise" (some 4) none exG0).1.updates = [some 5] ∧
    (C16Opt.ParameterController.optimise exEnv none "raise" (some 4) none exG0).1.optimised = false ∧
    (C16Opt.ParameterController.optimise exEnv (some true) "raise" none (some true) exG0).2 = .ok true ∧
    (C16Opt.ParameterController.optimise exEnv (some true) "raise" none (some true) exG0).1.calls = [5, 7, 6, 5, 3, 2] ∧
    (C16Opt.ParameterController.optimise exEnv (some true) "raise" none (some true) exG0).1.optimised = true := by
  decide +kernel

/-- the hypotheses of `translated_lf_optimise_never_lowers` are satisfiable: instantiated on `exEnv` -/
example := translated_lf_optimise_never_lowers exEnv (fun _ _ => rfl)
  (by intro y h1 h2; simpa [exEnv] using h2) none "raise" (some 4) none exG0 rfl 1 (by decide +kernel) (by decide +kernel) (by decide +kernel)
  (by decide +kernel) (by decide +kernel) (by decide +kernel)

/-! ## optimiser-side parameter transform (`OptPar` / `LogOptPar`) -/

/-- **transform_within_bounds**.  If `transform_from_optimiser` is monotone and inverts
`transform_to_optimiser` (identity; `exp`/`log` in exact arithmetic), then every optimiser vector coordinate within
the optimiser bounds `get_optimiser_bounds() = (to(lower), to(upper))` maps back to a parameter value within the
declared `[lower, upper]`. -/
theorem transform_within_bounds {V O : Type} [Preorder V] [Preorder O] (t : Transform V O)
    (hmono : ∀ a b, a ≤ b → t.fromOpt a ≤ t.fromOpt b) (hinv : ∀ v, t.fromOpt (t.toOpt v) = v)
    (lower upper : V) (x : O) (h1 : (t.optBounds lower upper).1 ≤ x) (h2 : x ≤ (t.optBounds lower upper).2) :
    lower ≤ t.fromOpt x ∧ t.fromOpt x ≤ upper := by
  constructor
  · have := hmono _ _ h1
    rwa [Transform.optBounds, hinv] at this
  · have := hmono _ _ h2
    rwa [Transform.optBounds, hinv] at this

/-- **transform_start_in_opt_bounds**: the start value handed to the optimiser maps back to the parameter value, and a
value within the declared bounds is within the optimiser bounds when `transform_to_optimiser` is monotone -/
theorem transform_start_in_opt_bounds {V O : Type} [Preorder V] [Preorder O] (t : Transform V O)
    (hmono : ∀ a b, a ≤ b → t.toOpt a ≤ t.toOpt b) (hinv : ∀ v, t.fromOpt (t.toOpt v) = v)
    (lower upper v : V) (h1 : lower ≤ v) (h2 : v ≤ upper) :
    (t.optBounds lower upper).1 ≤ t.toOpt v ∧ t.toOpt v ≤ (t.optBounds lower upper).2 ∧ t.fromOpt (t.toOpt v) = v :=
  ⟨hmono _ _ h1, hmono _ _ h2, hinv v⟩

/-- non-vacuity: the identity transform on `Int` (an `OptPar`), and a strictly increasing pair `v ↦ 2v`, `x ↦ x / 2`
(floor) standing in for `log`/`exp`: `fromOpt ∘ toOpt = id`, monotone, bounds `[1, 5]` ↦ `[2, 10]`, `x = 7 ↦ 3` -/
example : (⟨fun v => 2 * v, fun x => x / 2⟩ : Transform Int Int).optBounds 1 5 = (2, 10) ∧
    (1 : Int) ≤ (⟨fun v => 2 * v, fun x => x / 2⟩ : Transform Int Int).fromOpt 7 ∧
    (⟨fun v => 2 * v, fun x => x / 2⟩ : Transform Int Int).fromOpt 7 ≤ 5 := by decide +kernel

end CogentModel.C16
