/-
  C08, translator tie: every definition GENERATED from the current python source of the pure span algebra of
  core/location.py (`_norm_index`, `_norm_slice`, `span_and_span`, `Span.__init__/_new_init/__getitem__/__mul__/
  __truediv__/reversed/reversed_relative_to/__contains__/overlaps/__len__`, `SpanI.starts_*/ends_*`, the `_LostSpan`
  methods, `FeatureMap.__mul__/__truediv__/__add__/without_gaps/get_coordinates`) by translator/c08_span2lean.py
  (Gen/C08Span.lean) equals the hand model (`Model/FMap.lean`, `Model/FMapOps.lean`, `Model/IndelMap.lean`) FOR ALL
  ARGUMENTS, so the theorems of Props/C08FMap.lean and Props/C08Ops.lean are theorems about the translated code.  A
  semantic edit of one of these python functions changes the generated text and one of these proofs stops checking.
  Hypotheses `s ≤ e` / `0 ≤ length` are the class invariant `Span.__init__` establishes (it swaps the ends).
-/
import CogentModel.Gen.C08Span
import CogentModel.Model.FMapOps
import CogentModel.Model.IndelMap
import CogentModel.Proofs.FMapCover
namespace CogentModel.C08
open CogentModel CogentModel.FMap

theorem gen_normIndex_some (i L d : Int) : C08Gen.normIndex (some i) L d = normIndex i L := by
  simp only [C08Gen.normIndex, normIndex]; split <;> rfl

theorem gen_normIndex_none (L d : Int) : C08Gen.normIndex none L d = min (max d 0) L := rfl

theorem gen_spanNewInit (s e : Int) (r : Bool) :
    C08Gen.spanNewInit s (some e) r = if s > e then (e, s, r) else (s, e, r) := by
  simp only [C08Gen.spanNewInit]

theorem gen_spanInit (s e : Int) (r : Bool) : C08Gen.spanInit s (some e) r = .ok (mkSpan s e r) := by
  simp only [C08Gen.spanInit, mkSpan, gen_spanNewInit]
  by_cases h : s > e
  · simp only [if_pos h]; rw [if_pos (by omega)]
  · simp only [if_neg h]; rw [if_pos (by omega)]

theorem gen_lostInit (n : Int) : C08Gen.lostInit n = .lost n := rfl

theorem pyOr_none : C08Gen.pyOr none 1 = 1 := rfl
theorem pyOr_one : C08Gen.pyOr (some 1) 1 = 1 := rfl

theorem normIndex_none_zero (L : Int) (h : 0 ≤ L) : C08Gen.normIndex none L 0 = 0 := by
  simp only [C08Gen.normIndex, Int.max_self, Int.min_eq_left h]
theorem normIndex_none_len (L : Int) (h : 0 ≤ L) : C08Gen.normIndex none L L = L := by
  simp only [C08Gen.normIndex, Int.max_eq_left h, Int.min_self]

theorem gen_normSliceSlice (a b step : Option Int) (L : Int) (h : 0 ≤ L) :
    C08Gen.normSliceSlice a b step L =
      ((match a with | none => 0 | some i => normIndex i L), (match b with | none => L | some i => normIndex i L), step) := by
  simp only [C08Gen.normSliceSlice]
  cases a <;> cases b <;> simp [gen_normIndex_some, normIndex_none_zero, normIndex_none_len, h]

theorem getitem_core (s e st en : Int) (r : Bool) :
    (if st ≤ en then
      (if r = true then (Except.ok (mkSpan (e - en) (e - st) true) : Except FErr FSp) else .ok (mkSpan (s + st) (s + en) false))
     else .error .assertionError) =
    (if st > en then .error .assertionError
     else if r then .ok (mkSpan (e - en) (e - st) true) else .ok (mkSpan (s + st) (s + en) false)) := by
  by_cases hle : st ≤ en
  · rw [if_pos hle, if_neg (Int.not_lt.mpr hle)]
  · rw [if_neg hle, if_pos (Int.not_le.mp hle)]

theorem gen_spanGetitem (s e : Int) (r : Bool) (a b : Option Int) (h : s ≤ e) :
    C08Gen.spanGetitem s e r a b none = spanSlice (.span s e r) a b := by
  simp only [C08Gen.spanGetitem, spanSlice, FSp.length]
  rw [gen_normSliceSlice _ _ _ _ (by omega)]
  simp only [pyOr_none, if_true, gen_spanInit]
  exact getitem_core ..

theorem lost_core (st en : Int) :
    (Except.ok (FSp.lost (C08Gen.pyAbs (en - st))) : Except FErr FSp) = .ok (.lost (if en - st < 0 then st - en else en - st)) := by
  simp only [C08Gen.pyAbs, Int.neg_sub]

theorem gen_lostGetitem (n : Int) (a b : Option Int) (h : 0 ≤ n) :
    C08Gen.lostGetitem n a b none = spanSlice (.lost n) a b := by
  simp only [C08Gen.lostGetitem, spanSlice, FSp.length]
  rw [gen_normSliceSlice _ _ _ _ h]
  simp only [pyOr_none, if_true, gen_lostInit]
  exact lost_core ..

theorem gen_fspGetitem (sp : FSp) (a b : Option Int) (h : 0 ≤ sp.length) :
    C08Gen.fspGetitem sp a b none = spanSlice sp a b := by
  cases sp with
  | span s e r => exact gen_spanGetitem s e r a b (by simp [FSp.length] at h; omega)
  | lost n => exact gen_lostGetitem n a b h

theorem gen_getitem_step (s e : Int) (r : Bool) (a b : Option Int) (k : Int) (hk : k ≠ 1) (hk0 : k ≠ 0) :
    C08Gen.spanGetitem s e r a b (some k) = .error .assertionError := by
  simp only [C08Gen.spanGetitem, C08Gen.normSliceSlice, C08Gen.pyOr, if_neg hk0, if_neg hk]

/-- `_norm_slice` of an integer index: the two sign branches of the source do the same after the shift -/
theorem normSliceInt_eq (i L : Int) :
    C08Gen.normSliceInt i L =
      if (if i < 0 then i + L else i) ≥ L then .error .indexError
      else .ok ((if i < 0 then i + L else i), (if i < 0 then i + L else i) + 1, some 1) := by
  unfold C08Gen.normSliceInt
  by_cases h0 : i < 0
  · simp only [if_pos h0]
  · simp only [if_neg h0]

theorem gen_spanGetitemInt (s e : Int) (r : Bool) (i : Int) :
    C08Gen.spanGetitemInt s e r i = spanAt (.span s e r) i := by
  simp only [C08Gen.spanGetitemInt, normSliceInt_eq, spanAt, FSp.length]
  obtain ⟨st, hst⟩ : ∃ st, st = if i < 0 then i + (e - s) else i := ⟨_, rfl⟩
  simp only [← hst]
  by_cases h1 : st ≥ e - s
  · simp only [if_pos h1]
  · simp only [if_neg h1, pyOr_one, if_true, gen_spanInit, if_pos (Int.le_add_one (Int.le_refl st))]

theorem gen_lostGetitemInt (n i : Int) : C08Gen.lostGetitemInt n i = spanAt (.lost n) i := by
  simp only [C08Gen.lostGetitemInt, normSliceInt_eq, spanAt, FSp.length]
  obtain ⟨st, hst⟩ : ∃ st, st = if i < 0 then i + n else i := ⟨_, rfl⟩
  simp only [← hst]
  by_cases h1 : st ≥ n
  · simp only [if_pos h1]
  · have : C08Gen.pyAbs (st + 1 - st) = 1 := by rw [Int.add_comm, Int.add_sub_cancel]; rfl
    simp only [if_neg h1, pyOr_one, if_true, gen_lostInit, this]

theorem gen_fspMul (sp : FSp) (k : Int) : C08Gen.fspMul sp k = .ok (sp.mul k) := by
  cases sp <;> simp [C08Gen.fspMul, C08Gen.spanMul, C08Gen.lostMul, gen_spanInit, gen_lostInit, FSp.mul]

theorem gen_fspTruediv (sp : FSp) (k : Int) : C08Gen.fspTruediv sp k = sp.truediv k := by
  cases sp <;> simp [C08Gen.fspTruediv, C08Gen.spanTruediv, C08Gen.lostTruediv, gen_spanInit, gen_lostInit, FSp.truediv]

theorem gen_fspReversed (sp : FSp) (h : 0 ≤ sp.length) : C08Gen.fspReversed sp = .ok sp.reversed := by
  cases sp with
  | lost n => rfl
  | span s e r =>
    simp only [C08Gen.fspReversed, C08Gen.spanReversed, gen_spanInit, FSp.reversed, mkSpan]
    simp [FSp.length] at h
    rw [if_neg (by omega)]

theorem gen_fspReversedRelativeTo (sp : FSp) (L : Int) :
    C08Gen.fspReversedRelativeTo sp L = sp.reversedRelativeTo L := by
  cases sp <;> simp [C08Gen.fspReversedRelativeTo, C08Gen.spanReversedRelativeTo, C08Gen.lostReversedRelativeTo,
    gen_spanInit, FSp.reversedRelativeTo]

theorem gen_lostRemapWith (n : Int) : C08Gen.lostRemapWith n = [.lost n] := rfl

theorem gen_spanContainsInt (s e : Int) (r : Bool) (x : Int) : C08Gen.spanContainsInt s e r x = containsInt s e x := by
  simp [C08Gen.spanContainsInt, containsInt]
theorem gen_spanContainsSpan (s e : Int) (r : Bool) (os oe : Int) (or_ : Bool) :
    C08Gen.spanContainsSpan s e r os oe or_ = containsSpan s e os oe := by
  simp [C08Gen.spanContainsSpan, containsSpan]
theorem gen_spanOverlapsSpan (s e : Int) (r : Bool) (os oe : Int) (or_ : Bool) :
    C08Gen.spanOverlapsSpan s e r os oe or_ = overlapsSpan s e os oe := by
  simp [C08Gen.spanOverlapsSpan, gen_spanContainsInt, overlapsSpan]
  
theorem gen_starts_ends (s e : Int) (r : Bool) (os oe x : Int) (or_ : Bool) :
    C08Gen.spanStartsBeforeInt s e r x = decide (s < x) ∧ C08Gen.spanStartsBeforeSpan s e r os oe or_ = decide (s < os) ∧
    C08Gen.spanStartsAfterInt s e r x = decide (s > x) ∧ C08Gen.spanStartsAfterSpan s e r os oe or_ = decide (s > os) ∧
    C08Gen.spanStartsAtInt s e r x = decide (s = x) ∧ C08Gen.spanStartsAtSpan s e r os oe or_ = decide (s = os) ∧
    C08Gen.spanStartsInsideInt s e r x = false ∧ C08Gen.spanStartsInsideSpan s e r os oe or_ = containsInt os oe s ∧
    C08Gen.spanEndsBeforeInt s e r x = decide (e < x) ∧ C08Gen.spanEndsBeforeSpan s e r os oe or_ = decide (e < oe) ∧
    C08Gen.spanEndsAfterInt s e r x = decide (e > x) ∧ C08Gen.spanEndsAfterSpan s e r os oe or_ = decide (e > oe) ∧
    C08Gen.spanEndsAtInt s e r x = decide (e = x) ∧ C08Gen.spanEndsAtSpan s e r os oe or_ = decide (e = oe) ∧
    C08Gen.spanEndsInsideInt s e r x = false ∧ C08Gen.spanEndsInsideSpan s e r os oe or_ = containsInt os oe e ∧
    C08Gen.spanLen s e r = e - s ∧ C08Gen.lostLen x = x := by
  simp [C08Gen.spanStartsBeforeInt, C08Gen.spanStartsBeforeSpan, C08Gen.spanStartsAfterInt, C08Gen.spanStartsAfterSpan,
    C08Gen.spanStartsAtInt, C08Gen.spanStartsAtSpan, C08Gen.spanStartsInsideInt, C08Gen.spanStartsInsideSpan,
    C08Gen.spanEndsBeforeInt, C08Gen.spanEndsBeforeSpan, C08Gen.spanEndsAfterInt, C08Gen.spanEndsAfterSpan,
    C08Gen.spanEndsAtInt, C08Gen.spanEndsAtSpan, C08Gen.spanEndsInsideInt, C08Gen.spanEndsInsideSpan,
    C08Gen.spanLen, C08Gen.lostLen, gen_spanContainsInt]

theorem gen_spanAndSpan (a1 a2 b1 b2 : Int) :
    C08Gen.spanAndSpan a1 a2 b1 b2 =
      match IndelMap.spanAndSpan a1 a2 b1 b2 with
      | none => .error .valueError
      | some r => .ok r := by
  -- the two are the same chain of tests; push the `match` through the `if`s of the model
  simp only [C08Gen.spanAndSpan, IndelMap.spanAndSpan,
    apply_ite (fun o : Option (Option (Int × Int)) => match o with | none => Except.error FErr.valueError | some r => .ok r)]

theorem mapE_eq (f g : FSp → Except FErr FSp) (h : ∀ x, f x = g x) (l : List FSp) : C08Gen.mapE f l = mapSpans g l := by
  induction l with
  | nil => rfl
  | cons x xs ih =>
    simp only [C08Gen.mapE, mapSpans, h, ih]
    cases g x with
    | error => rfl
    | ok y => cases mapSpans g xs <;> rfl

theorem mapSpans_ok (f : FSp → FSp) (l : List FSp) : mapSpans (fun x => .ok (f x)) l = .ok (l.map f) := by
  induction l with
  | nil => rfl
  | cons x xs ih => simp only [mapSpans, ih, List.map]

theorem gen_fmMul (m : FM) (k : Int) : C08Gen.fmMul m.spans m.parentLength k = .ok (fmMul m k) := by
  simp only [C08Gen.fmMul, fmMul]
  rw [mapE_eq _ (fun x => .ok (x.mul k)) (fun x => gen_fspMul x k), mapSpans_ok]

theorem gen_fmTruediv (m : FM) (k : Int) : C08Gen.fmTruediv m.spans m.parentLength k = fmTruediv m k := by
  simp only [C08Gen.fmTruediv, fmTruediv]
  rw [mapE_eq _ (fun x => x.truediv k) (fun x => gen_fspTruediv x k)]
  cases mapSpans (fun x => x.truediv k) m.spans <;> rfl

theorem gen_fmAdd (a b : FM) : C08Gen.fmAdd a.spans a.parentLength b.spans b.parentLength = fmAdd a b := rfl

theorem gen_fmWithoutGaps (m : FM) : C08Gen.fmWithoutGaps m.spans m.parentLength = withoutGaps m := rfl

theorem gen_fmGetCoordinates (m : FM) : C08Gen.fmGetCoordinates m.spans m.parentLength = getCoordinates m := by
  simp only [C08Gen.fmGetCoordinates, getCoordinates]
  induction m.spans with
  | nil => rfl
  | cons x xs ih =>
    cases x with
    | span s e r => simpa only [List.filter_cons, FSp.isLost, Bool.not_false, if_true, List.map_cons, List.filterMap_cons,
        C08Gen.fspStart, C08Gen.fspEnd, List.cons.injEq, true_and] using ih
    | lost n => simpa only [List.filter_cons, FSp.isLost, Bool.not_true, Bool.false_eq_true, if_false,
        List.filterMap_cons] using ih

/-! non-vacuity: the generated definitions evaluated on concrete, non-trivial arguments -/
example : C08Gen.normIndex (some (-2)) 10 0 = 8 ∧ C08Gen.normIndex (some 15) 10 0 = 10 ∧ C08Gen.normIndex none 10 10 = 10 := by decide +kernel
example : C08Gen.spanInit 9 (some 4) true = .ok (.span 4 9 true) := by decide +kernel
example : C08Gen.spanGetitem 10 20 true (some 2) (some (-3)) none = .ok (.span 13 18 true) := by decide +kernel
example : C08Gen.spanGetitem 10 20 false (some 7) (some 3) none = .error .assertionError := by decide +kernel
example : C08Gen.spanGetitemInt 10 20 false (-1) = .ok (.span 19 20 false) ∧ C08Gen.spanGetitemInt 10 20 false 10 = .error .indexError := by decide +kernel
example : C08Gen.spanAndSpan 2 9 5 12 = .ok (some (5, 9)) ∧ C08Gen.spanAndSpan 2 3 5 12 = .ok none ∧
    C08Gen.spanAndSpan 3 3 5 12 = .error .valueError := by decide +kernel
example : C08Gen.fmMul [.span 2 5 true, .lost 2] 10 3 = .ok ⟨[.span 6 15 true, .lost 6], 30⟩ := by decide +kernel
example : C08Gen.fmTruediv [.span 6 15 true, .lost 6] 30 3 = .ok ⟨[.span 2 5 true, .lost 2], 10⟩ ∧
    C08Gen.fmTruediv [.span 7 15 false] 30 3 = .error .assertionError := by decide +kernel
example : C08Gen.fmAdd [.span 2 5 false] 10 [.lost 1, .span 7 9 true] 10 = .ok ⟨[.span 2 5 false, .lost 1, .span 7 9 true], 10⟩ ∧
    C08Gen.fmAdd [] 10 [] 11 = .error .valueError := by decide +kernel
example : C08Gen.spanOverlapsSpan 2 5 false 4 9 true = true ∧ C08Gen.spanOverlapsSpan 2 5 false 5 9 true = false := by decide +kernel
example : C08Gen.spanReversedRelativeTo 2 5 false 10 = .ok (.span 5 8 true) ∧
    C08Gen.spanReversedRelativeTo 2 5 false 4 = .error .assertionError := by decide +kernel

end CogentModel.C08
