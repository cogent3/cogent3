import CogentModel.Model.GeneticCode
import CogentModel.Spec.GeneticCode
import CogentModel.Proofs.GeneticCodeStops
import CogentModel.Proofs.GeneticCodeComplement
import CogentModel.Spec.NCBITables
/-!
# C12 — property theorems: translation and complementing follow the genetic-code tables

`newCodes`/`oldCodes` and the IUPAC tables are regenerated from the repository on every run
(`Gen/C12Tables.lean`), so every `decide +kernel` below is checked against the tables of the current source.
A code is a triple `(ID, code_sequence, start_codon_map)`; `code.2.1` is its 64-character table.
-/
namespace CogentModel.C12
open CogentModel.GC CogentModel.C12Tables

/-- Every genetic code ID present in both modules carries the same table and the same start-codon map. -/
theorem tables_agree : ∀ c ∈ oldCodes, ∀ d ∈ newCodes, c.1 = d.1 → c.2 = d.2 := by
  -- both lists are the NCBI list (`tables_eq_ncbi`), in which no ID occurs twice
  rw [tables_eq_ncbi.1, tables_eq_ncbi.2]
  intro c hc d hd h
  have hn : (NCBI.tables.map Prod.fst).Nodup := by decide +kernel
  exact Option.some.inj ((find_of_mem hn hc).symm.trans (h ▸ find_of_mem hn hd))

/-- Both modules define the same code IDs, in the same order, and more than twenty of them. -/
theorem tables_same_ids : oldCodes.map (·.1) = newCodes.map (·.1) ∧ 20 < newCodes.length :=
  ⟨by rw [tables_eq_ncbi.2, ← tables_eq_ncbi.1], by decide⟩

/-- Every table and start-codon map has exactly 64 entries (one per codon of `TCAG³`). -/
theorem tables_wellformed : ∀ c ∈ oldCodes ++ newCodes, c.2.1.length = 64 ∧ c.2.2.length = 64 :=
  tables_length

example : ∃ c ∈ newCodes, c.1 = 1 := by decide

/-- For every code and every canonical codon the modelled k-mer-index converters give the table entry:
plus-strand converter on the codon, minus-strand (anticodon) converter on the codon = entry of the
reverse-complemented codon; likewise `__getitem__` of both implementations. (64 × #codes each.) -/
theorem converter_is_table :
    (∀ code ∈ newCodes, ∀ a ∈ GCSpec.bases, ∀ b ∈ GCSpec.bases, ∀ c ∈ GCSpec.bases,
      plusOf code.2.1 a b c = GCSpec.aa code.2.1 [a, b, c]) ∧
    (∀ code ∈ newCodes, ∀ a ∈ GCSpec.bases, ∀ b ∈ GCSpec.bases, ∀ c ∈ GCSpec.bases,
      minusOf code.2.1 a b c = GCSpec.aa code.2.1 [GCSpec.wc c, GCSpec.wc b, GCSpec.wc a]) ∧
    (∀ code ∈ newCodes, ∀ a ∈ GCSpec.bases, ∀ b ∈ GCSpec.bases, ∀ c ∈ GCSpec.bases,
      newGetItem newDna code.2.1 [a, b, c] = GCSpec.aa code.2.1 [a, b, c]) ∧
    (∀ code ∈ oldCodes, ∀ a ∈ GCSpec.bases, ∀ b ∈ GCSpec.bases, ∀ c ∈ GCSpec.bases,
      oldGetItem code.2.1 [a, b, c] = GCSpec.aa code.2.1 [a, b, c]) :=
  ⟨fun _ hc => plus_codon (len_new hc), fun _ hc => minus_codon (len_new hc),
    fun _ hc => new_getitem_codon (len_new hc), fun _ hc => old_codon (len_old hc)⟩

example : ['A', 'T', 'G'] ∈ GCSpec.codons := by decide

/-- New implementation, plus strand, FULL strength: for every code, every canonical sequence of any
length and every start offset, `translate` is the table mapped over the successive codons.
(No bound on the length: the k-mer index array is one byte wide whatever the number of codons, `byteWidth_words`.) -/
theorem translate_plus_spec (code : Nat × List Char × List Char) (hc : code ∈ newCodes)
    (s : List Char) (start : Nat) (hs : Canon s) :
    newTranslate newDna code.2.1 s start false = GCSpec.translate code.2.1 (s.drop start) :=
  new_translate_plus (len_new hc) s start hs

example : Canon ['A', 'T', 'G', 'A', 'A', 'A', 'T', 'A'] := by decide

/-- Old implementation: for every code, canonical sequence and start offset inside the sequence,
`translate` is the table mapped over the successive codons (no length restriction). -/
theorem old_translate_spec (code : Nat × List Char × List Char) (hc : code ∈ oldCodes)
    (s : List Char) (start : Nat) (hs : Canon s) (hstart : start < s.length) :
    oldTranslate code.2.1 s start = .ok (GCSpec.translate code.2.1 (s.drop start)) :=
  old_translate_plus (len_old hc) s start hs hstart

example : Canon ['A', 'T', 'G', 'A'] ∧ 2 < ['A', 'T', 'G', 'A'].length := by decide

/-- Old and new `translate` agree on the plus strand for every code ID present in both modules, every
canonical sequence and every start offset inside it. -/
theorem old_new_translate_agree (c d : Nat × List Char × List Char) (hc : c ∈ oldCodes) (hd : d ∈ newCodes)
    (hid : c.1 = d.1) (s : List Char) (start : Nat) (hs : Canon s) (hstart : start < s.length) :
    oldTranslate c.2.1 s start = .ok (newTranslate newDna d.2.1 s start false) := by
  rw [translate_plus_spec d hd s start hs, old_translate_spec c hc s start hs hstart,
    tables_agree c hc d hd hid]

example : ∃ c ∈ oldCodes, ∃ d ∈ newCodes, c.1 = d.1 := by decide

/-- What the new `translate(rc=True)` computes for every canonical sequence and start offset:
the translation of the reverse complement of the slice *after* it has been cut to a multiple of three
on the plus strand. -/
theorem translate_minus_actual (code : Nat × List Char × List Char) (hc : code ∈ newCodes)
    (s : List Char) (start : Nat) (hs : Canon s) :
    newTranslate newDna code.2.1 s start true =
      GCSpec.translate code.2.1 (GCSpec.rc (trunc3 (s.drop start))) :=
  new_translate_minus (len_new hc) s start hs

/-- … which, for a frame offset `k < 3`, is reverse-strand frame `(len - k) % 3`, not frame `k`. -/
theorem translate_minus_frame (code : Nat × List Char × List Char) (hc : code ∈ newCodes)
    (s : List Char) (k : Nat) (hk : k < 3) (hs : Canon s) :
    newTranslate newDna code.2.1 s k true = GCSpec.frame code.2.1 s true ((s.length - k) % 3) := by
  rw [translate_minus_actual code hc s k hs, rc_trunc_frame code.2.1 s k hk]
  rfl

/-- Reverse strand = translation of the explicit reverse complement from `start` on — proved under the
extra hypothesis `(len - start) % 3 = start` (e.g. `start = 0` and a length divisible by three). -/
theorem translate_minus_spec_partial (code : Nat × List Char × List Char) (hc : code ∈ newCodes)
    (s : List Char) (start : Nat) (hs : Canon s)
    (hframe : (s.length - start) % 3 = start) :
    newTranslate newDna code.2.1 s start true = GCSpec.translate code.2.1 ((GCSpec.rc s).drop start) := by
  rw [translate_minus_frame code hc s start (by omega) hs, hframe]
  rfl

example : Canon ['A', 'T', 'G', 'A', 'A', 'A', 'T', 'A'] ∧ (8 - 1) % 3 = 1 := by decide

/- FULL STATEMENT (not proved): `translate_minus_spec` = the statement above without `hframe` .
   It is false for the code as written (`translate_minus_counter`): `translate`
   drops `start` characters and the incomplete codon from the PLUS strand before reversing, so the
   reading frame on the minus strand is `(len - start) % 3`.  `GeneticCode.sixframes` of the old module
   (and the docstring "returns the translation of the reverse complement sequence") use frame `start`. -/

/-- Witness: `ATGAAATA` (length 8), code 1, start 0: the code as written gives `FH`, the reverse
complement `TATTTCAT` translates to `YF`. -/
theorem translate_minus_counter : ∃ code ∈ newCodes,
    newTranslate newDna code.2.1 ['A', 'T', 'G', 'A', 'A', 'A', 'T', 'A'] 0 true ≠
      GCSpec.translate code.2.1 ((GCSpec.rc ['A', 'T', 'G', 'A', 'A', 'A', 'T', 'A']).drop 0) := by
  decide +kernel

/-- New `sixframes` on any canonical sequence: the three plus frames are right; the minus frame labelled
`k` is reverse-strand frame `(len - k) % 3` (a relabelling of the three correct minus-strand frames). -/
theorem sixframes_spec_partial (code : Nat × List Char × List Char) (hc : code ∈ newCodes)
    (s : List Char) (hs : Canon s) :
    newSixframes newDna code.2.1 s =
      [(false, 0, GCSpec.frame code.2.1 s false 0), (false, 1, GCSpec.frame code.2.1 s false 1),
       (false, 2, GCSpec.frame code.2.1 s false 2),
       (true, 0, GCSpec.frame code.2.1 s true ((s.length - 0) % 3)),
       (true, 1, GCSpec.frame code.2.1 s true ((s.length - 1) % 3)),
       (true, 2, GCSpec.frame code.2.1 s true ((s.length - 2) % 3))] := by
  have p := fun k => translate_plus_spec code hc s k hs
  have m := fun k (hk : k < 3) => translate_minus_frame code hc s k hk hs
  simp only [newSixframes, List.flatMap_cons, List.flatMap_nil, List.map_cons, List.map_nil,
    List.append_nil, List.cons_append, List.nil_append]
  rw [p 0, p 1, p 2, m 0 (by omega), m 1 (by omega), m 2 (by omega)]
  rfl

example : Canon ['A', 'T', 'G', 'G', 'G', 'G', 'T', 'A', 'A', 'C', 'A', 'T'] := by decide

/- FULL STATEMENT (not proved): `sixframes_spec`: `newSixframes … s = GCSpec.sixframes code.2.1 s`.
   False for every length ≥ 4 or so: at least two of the three minus-strand labels are permuted
   (`sixframes_counter`); equal only as a set of translations. -/

theorem sixframes_counter : ∃ code ∈ newCodes,
    newSixframes newDna code.2.1 ['A', 'T', 'G', 'A', 'A', 'A', 'T', 'A'] ≠
      GCSpec.sixframes code.2.1 ['A', 'T', 'G', 'A', 'A', 'A', 'T', 'A'] := by
  -- the fourth entry of either list is the minus strand from offset 0: the witness of `translate_minus_counter`
  obtain ⟨code, hc, h⟩ := translate_minus_counter
  exact ⟨code, hc, fun e => h (congrArg (fun l => (l.getD 3 default).2.2) e)⟩

/-- the three minus-strand translations of the new `sixframes` are the three correct minus-strand frames, as a multiset -/
theorem sixframes_same_translations (code : Nat × List Char × List Char) (hc : code ∈ newCodes)
    (s : List Char) (hs : Canon s) (h2 : 2 ≤ s.length) :
    ((newSixframes newDna code.2.1 s).map (·.2.2)).Perm ((GCSpec.sixframes code.2.1 s).map (·.2.2)) := by
  -- the labels `(len - k) % 3`, k = 0, 1, 2, are a permutation of 0, 1, 2 that depends on `len % 3` only
  have hp : [(s.length - 0) % 3, (s.length - 1) % 3, (s.length - 2) % 3].Perm [0, 1, 2] := by
    rw [show (s.length - 0) % 3 = (s.length % 3 + 3 - 0) % 3 by omega,
      show (s.length - 1) % 3 = (s.length % 3 + 3 - 1) % 3 by omega,
      show (s.length - 2) % 3 = (s.length % 3 + 3 - 2) % 3 by omega]
    exact (by decide : ∀ m < 3, [(m + 3 - 0) % 3, (m + 3 - 1) % 3, (m + 3 - 2) % 3].Perm [0, 1, 2]) _
      (Nat.mod_lt _ (by decide))
  rw [sixframes_spec_partial code hc s hs]
  exact (hp.map (GCSpec.frame code.2.1 s true)).append_left
    [GCSpec.frame code.2.1 s false 0, GCSpec.frame code.2.1 s false 1, GCSpec.frame code.2.1 s false 2]

-- the witness of `sixframes_counter` (length 8): the labelled lists differ, the translations are a permutation
example : Canon ['A', 'T', 'G', 'A', 'A', 'A', 'T', 'A'] ∧ 2 ≤ ['A', 'T', 'G', 'A', 'A', 'A', 'T', 'A'].length := by decide

/-- Old `sixframes` is the specification's six frames for every canonical sequence of length ≥ 3
(shorter non-empty sequences raise `ValueError` in `translate`). -/
theorem old_sixframes_spec (code : Nat × List Char × List Char) (hc : code ∈ oldCodes)
    (s : List Char) (hs : Canon s) (hlen : 3 ≤ s.length) :
    oldSixframes oldDna code.2.1 s = .ok ((GCSpec.sixframes code.2.1 s).map (·.2.2)) := by
  have hr : Canon (GCSpec.rc s) := canon_rc hs
  have hrl : (GCSpec.rc s).length = s.length := spec_rc_length s
  have p := fun k (h : k < s.length) => old_translate_spec code hc s k hs h
  have m := fun k (h : k < (GCSpec.rc s).length) => old_translate_spec code hc (GCSpec.rc s) k hr h
  unfold oldSixframes
  rw [old_rc_spec s hs]
  simp only [List.mapM_cons, List.mapM_nil]
  rw [p 0 (by omega), p 1 (by omega), p 2 (by omega), m 0 (by omega), m 1 (by omega), m 2 (by omega)]
  rfl

example : Canon ['A', 'T', 'G'] ∧ 3 ≤ ['A', 'T', 'G'].length := by decide

/-- New `Sequence.get_translation`: for every code, every non-empty canonical sequence and all
eight combinations of `incomplete_ok`, `include_stop`, `trim_stop`, the result is the specification's:
a terminal stop is trimmed iff `trim_stop`, remaining stops are kept iff `include_stop` and rejected
otherwise (a length not divisible by three is rejected when trimming with `incomplete_ok=False`). -/
theorem get_translation_stop_rules (code : Nat × List Char × List Char) (hc : code ∈ newCodes)
    (s : List Char) (hs : Canon s) (hne : s ≠ []) (io is_ ts : Bool) :
    newSeqGetTranslation newDna code.2.1 s io is_ ts =
      outcomeToExcept (GCSpec.getTranslation code.2.1 s io is_ ts) :=
  new_stop_rules (len_new hc) (tables_no_gap_x code hc).1 (tables_no_gap_x code hc).2 s hs hne io is_ ts

example : Canon ['A', 'T', 'G', 'T', 'A', 'A'] ∧ ['A', 'T', 'G', 'T', 'A', 'A'] ≠ [] := by decide

/-- Old `Sequence.get_translation`: the same, for every combination except
`include_stop = trim_stop = True`. -/
theorem old_get_translation_stop_rules_partial (code : Nat × List Char × List Char) (hc : code ∈ oldCodes)
    (s : List Char) (hs : Canon s) (hne : s ≠ []) (io is_ ts : Bool) (hopt : ¬ (is_ = true ∧ ts = true)) :
    oldSeqGetTranslation code.2.1 s io is_ ts =
      outcomeToExcept (GCSpec.getTranslation code.2.1 s io is_ ts) :=
  old_stop_rules (len_old hc) s hs hne io is_ ts hopt

example : ¬ (false = true ∧ true = true) := by decide

/- FULL STATEMENT (not proved): `old_get_translation_stop_rules` = the statement above without `hopt`.
   False for the code as written: `if include_stop or not trim_stop:` skips the trimming, so with
   `include_stop=True, trim_stop=True` the terminal stop stays (`old_get_translation_counter`), where the
   new implementation trims it. -/

/-- Witness: `ATGAAATAA`, `include_stop = trim_stop = True`: old gives `MK*`, the specification `MK`. -/
theorem old_get_translation_counter : ∃ code ∈ oldCodes,
    oldSeqGetTranslation code.2.1 ['A', 'T', 'G', 'A', 'A', 'A', 'T', 'A', 'A'] false true true ≠
      outcomeToExcept (GCSpec.getTranslation code.2.1 ['A', 'T', 'G', 'A', 'A', 'A', 'T', 'A', 'A'] false true true) := by
  decide +kernel

/-- The code tables and start-codon maps extracted from both modules are exactly the NCBI genetic codes written
down independently in `Spec/NCBITables.lean` (standard code by amino acid + NCBI's "differences from the standard
code" + initiation codons), for every transl_table id the library offers, in the same order. -/
theorem tables_are_ncbi : newCodes = NCBI.tables ∧ oldCodes = NCBI.tables := tables_eq_ncbi

example : NCBI.tables.length = 27 ∧ (NCBI.tableOf [("TGA", 'W')]).length = 64 := by decide

/-- New `translate` (plus strand) on ANY text of plain characters (the six alphabet characters or any other ASCII
character with code point ≥ 6), every code, every start: a canonical codon gives its table entry, a codon of
`T C A G -` with at least one gap gives `'-'`, anything else — ambiguity codes, `?`, `U`, lower case — gives `'X'`. -/
theorem translate_general_spec (code : Nat × List Char × List Char) (hc : code ∈ newCodes)
    (s : List Char) (start : Nat) (hp : Plain s) :
    newTranslate newDna code.2.1 s start false = GCSpec.translateNew code.2.1 (s.drop start) :=
  new_translate_plus_general (len_new hc) s start hp

example : Plain ['A', 'T', 'G', 'A', '-', '-', 'a', 'U', 'G', 'N', 'N', 'N', '?', 'A', 'T'] := by decide

/-- Old `translate` on ANY text (model assumption: ASCII), every code: the empty text gives the empty string, a start
at or beyond the end raises ValueError, otherwise every codon is normalised (upper case, `U → T`) and gives its table
entry if it is then canonical and `'X'` if not (RNA and lower case are translated; gaps, ambiguity codes → `'X'`). -/
theorem old_translate_general_spec (code : Nat × List Char × List Char) (hc : code ∈ oldCodes)
    (s : List Char) (start : Nat) (_hascii : ∀ c ∈ s, c.toNat < 128) :
    oldTranslate code.2.1 s start =
      if s = [] then .ok []
      else if s.length ≤ start then .error .valueError
      else .ok (GCSpec.translateOld code.2.1 (s.drop start)) := by
  rw [oldTranslate, old_chunks_general (len_old hc)]
  cases s <;> simp [Nat.lt_iff_add_one_le]

example : GCSpec.translateOld (NCBI.tableOf []) ['a', 'u', 'g', 'A', 'A', 'R', '-', '-', '-'] = ['M', 'X', 'X'] := by
  rw [standard_table]
  decide +kernel

/-! ## collections and alignments, row by row (rows: canonical, non-empty, length a multiple of three) -/

/-- `has_terminal_stop` and `trim_stop_codons` of a collection (old and new `SequenceCollection`) and
`AlignmentI.trim_stop_codons`, with the genetic code passed through: the answer is "some row's translation ends in a
stop"; every row whose translation ends in a stop loses its last codon (collections) / has it replaced by three gaps
(alignments), all other rows are unchanged. -/
theorem collection_trim_rowwise (rows : List (List Char)) (h : CodonRows rows) (strict : Bool) :
    (∀ code ∈ oldCodes,
      collHasTerminalStop (oldGetItem code.2.1) rows strict = .ok (rows.any (endsWithStop code.2.1)) ∧
      collTrimStopCodons (oldGetItem code.2.1) rows strict = .ok (rows.map (specTrimRow code.2.1)) ∧
      alnTrimStopCodons (oldGetItem code.2.1) rows strict = .ok (rows.map (specAlnTrimRow code.2.1))) ∧
    (∀ code ∈ newCodes,
      collHasTerminalStop (newGetItem newDna code.2.1) rows strict = .ok (rows.any (endsWithStop code.2.1)) ∧
      collTrimStopCodons (newGetItem newDna code.2.1) rows strict = .ok (rows.map (specTrimRow code.2.1))) :=
  ⟨fun _ hc => ⟨coll_has_terminal_stop (old_codon (len_old hc)) strict rows h,
      coll_trim (old_codon (len_old hc)) strict rows h, aln_trim (old_codon (len_old hc)) strict rows h⟩,
   fun _ hc => ⟨coll_has_terminal_stop (new_getitem_codon (len_new hc)) strict rows h,
      coll_trim (new_getitem_codon (len_new hc)) strict rows h⟩⟩

example : CodonRows [['A', 'T', 'G', 'T', 'A', 'A'], ['A', 'T', 'G', 'C', 'C', 'C']] := by decide

/-- New `SequenceCollection.get_translation` is the sequence-level specification mapped over the rows, for every
code, all eight option combinations and any canonical non-empty rows (any lengths); the first rejected row rejects
the call. -/
theorem collection_translation_rowwise (code : Nat × List Char × List Char) (hc : code ∈ newCodes)
    (rows : List (List Char)) (h : ∀ r ∈ rows, Canon r ∧ r ≠ []) (io is_ ts : Bool) :
    newCollGetTranslation newDna code.2.1 rows io is_ ts = specCollTranslation code.2.1 rows io is_ ts :=
  new_coll_rowwise (len_new hc) (tables_no_gap_x code hc).1 (tables_no_gap_x code hc).2 rows h io is_ ts

example : ∀ r ∈ [['A', 'T', 'G', 'T', 'A', 'A'], ['A', 'T', 'G', 'C']], Canon r ∧ r ≠ [] := by decide

/-- Old `SequenceCollection.get_translation` (pre-pass `trim_stop_codons`, then `Sequence.get_translation` per row with
`trim_stop and seqs is self`, as repaired in 8fbe3611a) is row-wise the specification, rows ending in TWO stop codons
included (the remaining stop is rejected) — except for `include_stop = trim_stop = True` (known finding) and for a row that
is nothing but a stop codon (it would become empty). -/
theorem old_collection_translation_rowwise_partial (code : Nat × List Char × List Char) (hc : code ∈ oldCodes)
    (rows : List (List Char)) (h : CodonRows rows) (io is_ ts : Bool) (hopt : ¬ (is_ = true ∧ ts = true))
    (hlen : ∀ r ∈ rows, endsWithStop code.2.1 r = true → 3 < r.length) :
    oldCollGetTranslation code.2.1 rows io is_ ts = specCollTranslation code.2.1 rows io is_ ts :=
  old_coll_rowwise (len_old hc) rows h io is_ ts hopt

example : ¬ (false = true ∧ true = true) ∧ CodonRows [['A', 'T', 'G', 'T', 'A', 'A', 'T', 'A', 'A']] := by decide

/- FULL STATEMENT (not proved): `old_collection_translation_rowwise` = the statement above without `hopt`.
   False for the code as written: see `old_get_translation_counter` (`include_stop` overrides `trim_stop`). -/

/-- No double trimming (pre-pass and per-row call both trimming would turn `ATGTAATAA` into `M`): the single row
`ATGTAATAA` with the default options is rejected, as the sequence-level call and the specification do. -/
theorem old_collection_double_stop_rejected : ∀ code ∈ oldCodes, code.1 = 1 →
    oldCollGetTranslation code.2.1 [['A', 'T', 'G', 'T', 'A', 'A', 'T', 'A', 'A']] false false true = .error .alphabetError := by
  decide +kernel

example : ∃ code ∈ oldCodes, code.1 = 1 := by decide

/-- the IUPAC symbols of a molecular type: canonical characters, gap, degenerate symbols, missing -/
def symbols (mt : MT) : List Char := newDegenGapped mt
/-- canonical and degenerate symbols -/
def degenSymbols (mt : MT) : List Char := mt.chars ++ mt.ambig.map (·.1)
def baseSetOf (mt : MT) : Char → List Char := GCSpec.baseSet mt.chars mt.gap mt.missing mt.ambig

/-- Complement is an involution on every IUPAC symbol (DNA and RNA, old and new molecular types). -/
theorem complement_involutive :
    (∀ c ∈ symbols oldDna, oldComplChar oldDna (oldComplChar oldDna c) = c) ∧
    (∀ c ∈ symbols oldRna, oldComplChar oldRna (oldComplChar oldRna c) = c) ∧
    (∀ c ∈ symbols newDna, newComplChar newDna (newComplChar newDna c) = c) ∧
    (∀ c ∈ symbols newRna, newComplChar newRna (newComplChar newRna c) = c) :=
  ⟨fun c _ => compl_invol_all.1 c, fun c _ => compl_invol_all.2.1 c, fun c _ => compl_invol_all.2.2.1 c,
    fun c _ => compl_invol_all.2.2.2 c⟩

example : 'R' ∈ symbols newDna ∧ '?' ∈ symbols oldRna := by decide

/-- Reverse complement is an involution on every sequence of IUPAC symbols (all four molecular types). -/
theorem rc_involutive (s : List Char) :
    ((∀ c ∈ s, c ∈ symbols oldDna) → oldRc oldDna (oldRc oldDna s) = s) ∧
    ((∀ c ∈ s, c ∈ symbols oldRna) → oldRc oldRna (oldRc oldRna s) = s) ∧
    ((∀ c ∈ s, c ∈ symbols newDna) → newRc newDna (newRc newDna s) = s) ∧
    ((∀ c ∈ s, c ∈ symbols newRna) → newRc newRna (newRc newRna s) = s) :=
  ⟨fun _ => rc_rc_of_invol fun c _ => compl_invol_all.1 c, fun _ => rc_rc_of_invol fun c _ => compl_invol_all.2.1 c,
    fun _ => rc_rc_of_invol fun c _ => compl_invol_all.2.2.1 c, fun _ => rc_rc_of_invol fun c _ => compl_invol_all.2.2.2 c⟩

example : ∀ c ∈ ['A', 'R', '-', 'N', '?'], c ∈ symbols newDna := by decide

/-- Complement maps each IUPAC symbol to the symbol of the complemented base set. -/
theorem complement_is_set_complement :
    (∀ c ∈ symbols oldDna, baseSetOf oldDna (oldComplChar oldDna c) =
      GCSpec.toSet ((baseSetOf oldDna c).map (GCSpec.wcBase 'T'))) ∧
    (∀ c ∈ symbols oldRna, baseSetOf oldRna (oldComplChar oldRna c) =
      GCSpec.toSet ((baseSetOf oldRna c).map (GCSpec.wcBase 'U'))) ∧
    (∀ c ∈ symbols newDna, baseSetOf newDna (newComplChar newDna c) =
      GCSpec.toSet ((baseSetOf newDna c).map (GCSpec.wcBase 'T'))) ∧
    (∀ c ∈ symbols newRna, baseSetOf newRna (newComplChar newRna c) =
      GCSpec.toSet ((baseSetOf newRna c).map (GCSpec.wcBase 'U'))) := by decide +kernel

example : baseSetOf newDna 'R' = ['A', 'G'] ∧ baseSetOf newDna 'Y' = ['C', 'T'] := by decide

/-- Resolving a (canonical or degenerate) symbol and re-encoding the resulting set gives the symbol
back; encoding a non-empty set of bases and resolving the code gives the set back. Old molecular types
(`resolve_ambiguity` / `what_ambiguity`) and new ones (`resolve_ambiguity` / `degenerate_from_seq`). -/
theorem resolve_what_inverse :
    (∀ mt ∈ [oldDna, oldRna], ∀ c ∈ degenSymbols mt,
      (oldResolve mt c).map (oldWhatAmbiguity mt) = .ok c) ∧
    (∀ mt ∈ [newDna, newRna], ∀ c ∈ degenSymbols mt,
      (newResolve mt c).map (newDegenerateFromSeq mt) = .ok c) ∧
    (∀ mt ∈ [oldDna, oldRna], ∀ S ∈ subsets mt.chars, S ≠ [] →
      (oldResolve mt (oldWhatAmbiguity mt S)).map toSet = .ok (toSet S)) ∧
    (∀ mt ∈ [newDna, newRna], ∀ S ∈ subsets mt.chars, S ≠ [] →
      newResolve mt (newDegenerateFromSeq mt S) = .ok (toSet S)) := by decide +kernel

example : ['C', 'A'] ∈ subsets newDna.chars ∧ 'M' ∈ degenSymbols newDna := by decide

/-! ## sequence objects: `rc()` on any view (C01's wrapper model, instantiated with the real complement tables) -/

/-- For the complement tables of all four molecular types and every well-formed nucleic-acid sequence object
(`Model/SeqWrap.lean`: a parent string with a view — sliced, strided, already reversed), the string displayed by
`seq.rc()` is the molecular type's reverse complement of the string displayed by `seq`, and `seq.rc().rc()` displays
the same string as `seq`.  (The tables are involutions on EVERY character: closed on their keys, identity elsewhere.) -/
theorem seq_rc_displayed (s : SeqWrap.Seq) (h : SeqWrap.WF s) (hn : s.nucleic = true) :
    (SeqWrap.str (oldComplChar oldDna) (SeqWrap.rc s) = oldRc oldDna (SeqWrap.str (oldComplChar oldDna) s) ∧
     SeqWrap.str (oldComplChar oldDna) (SeqWrap.rc (SeqWrap.rc s)) = SeqWrap.str (oldComplChar oldDna) s) ∧
    (SeqWrap.str (oldComplChar oldRna) (SeqWrap.rc s) = oldRc oldRna (SeqWrap.str (oldComplChar oldRna) s) ∧
     SeqWrap.str (oldComplChar oldRna) (SeqWrap.rc (SeqWrap.rc s)) = SeqWrap.str (oldComplChar oldRna) s) ∧
    (SeqWrap.str (newComplChar newDna) (SeqWrap.rc s) = newRc newDna (SeqWrap.str (newComplChar newDna) s) ∧
     SeqWrap.str (newComplChar newDna) (SeqWrap.rc (SeqWrap.rc s)) = SeqWrap.str (newComplChar newDna) s) ∧
    (SeqWrap.str (newComplChar newRna) (SeqWrap.rc s) = newRc newRna (SeqWrap.str (newComplChar newRna) s) ∧
     SeqWrap.str (newComplChar newRna) (SeqWrap.rc (SeqWrap.rc s)) = SeqWrap.str (newComplChar newRna) s) :=
  ⟨seq_rc_of_invol _ compl_invol_all.1 s h hn, seq_rc_of_invol _ compl_invol_all.2.1 s h hn,
    seq_rc_of_invol _ compl_invol_all.2.2.1 s h hn, seq_rc_of_invol _ compl_invol_all.2.2.2 s h hn⟩

example : SeqWrap.WF (SeqWrap.ofString ['A', 'C', 'G', 'G', 'T', 'R', '-'] true) := SeqWrap.wf_ofString _ _

end CogentModel.C12
