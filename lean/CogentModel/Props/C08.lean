import CogentModel.Proofs.ExceptDecEq
import CogentModel.Model.IndelMap
import CogentModel.Spec.Gapped
import CogentModel.Proofs.IndelMapInv
import CogentModel.Proofs.AlnInv
import CogentModel.Proofs.IndelMapGetitem
import CogentModel.Proofs.IndelMapReversed
import CogentModel.Proofs.IndelMapAlignSpec
import CogentModel.Proofs.IndelMapAdd
import CogentModel.Proofs.IndelMapMul
import CogentModel.Proofs.IndelMapJoined
import CogentModel.Proofs.IndelMapFromSegments
import CogentModel.Proofs.IndelMapGlen
/-! # C08 — property theorems (gapped-coordinate maps agree with the gapped string)

`abs m : List (Option Nat)` is the gapped string (column ↦ sequence index or gap) a map stands
for; `WF` is the representation invariant (gap positions strictly increasing and inside the
parent, cumulative lengths strictly increasing and positive). -/
namespace CogentModel.C08
open CogentModel.IndelMap CogentModel.Gapped

/-- The map built from any gapped string (`parse_out_gaps`) satisfies the representation invariant. -/
theorem fromGapped_wf (s : List Bool) : WF (fromGapped s) := fromGapped_wf' s

example : fromGapped [false, true, true, false, true] = ⟨[1, 2], [2, 3], 2⟩ := by decide +kernel
example : WF ⟨[1, 2], [2, 3], 2⟩ := by decide +kernel

/-- The map built from a gapped string describes exactly that string: column by column the same
gaps, and the residues numbered 0, 1, 2, … (all layouts: leading, trailing, adjacent, all-gap, no-gap). -/
theorem abs_fromGapped (s : List Bool) : abs (fromGapped s) = ofPattern s := abs_fromGapped' s

example : abs (fromGapped [true, false, true, true, false]) = [none, some 0, none, none, some 1] := by decide +kernel

/-- `len(map)` is the number of columns of the gapped string it stands for (any well-formed map). -/
theorem len_eq (m : IMap) (h : WF m) : ((abs m).length : Int) = len m := len_eq' m h

example : WF ⟨[0, 2], [1, 4], 3⟩ ∧ len ⟨[0, 2], [1, 4], 3⟩ = 7 := by decide +kernel

/-- `len` of the map of a string is the length of the string. -/
theorem fromGapped_len (s : List Bool) : len (fromGapped s) = s.length := fromGapped_len' s

example : len (fromGapped [true, false, true]) = 3 := by decide +kernel

/-- What a sequence displays through a well-formed map (`gapped_by_map`: the expansion of the
`spans` property, with its special cases for a leading gap, the first span and the tail) is the
gapped string `abs m`. -/
theorem spans_expand_eq_abs (m : IMap) (h : WF m) : absSpans m = abs m := absSpans_eq_abs m h

example : absSpans ⟨[0, 2], [1, 4], 3⟩ = [none, some 0, some 1, none, none, none, some 2] := by decide +kernel

/-- Consequently the spans of the map of a string rebuild that string, for every layout. -/
theorem spans_of_fromGapped (s : List Bool) : absSpans (fromGapped s) = ofPattern s := by
  rw [absSpans_eq_abs _ (fromGapped_wf s), abs_fromGapped]

example : absSpans (fromGapped [true, true, false]) = [none, none, some 0] := by decide +kernel

/-- Regression anchor for the repaired clamp: the map of `G--` sliced by `[0:4]` is the map of the
string slice `G--` (1 residue, 3 columns). -/
theorem getitem_clamps_stop_example :
    (getitem (fromGapped [false, true, true]) (some 0) (some 4) none).toOption = some (fromGapped [false, true, true]) ∧
    Gapped.slice (ofPattern [false, true, true]) (some 0) (some 4) = [some 0, none, none] := by decide +kernel

/-- **`get_seq_index` agrees with scanning the string**: for a well-formed map and any column
`0 ≤ i ≤ len`, the searchsorted/index arithmetic returns the number of residues before column `i`. -/
theorem seq_index_spec (m : IMap) (h : WF m) (i : Int) (h0 : 0 ≤ i) (h1 : i ≤ len m) :
    seqIndexNN m i = (Gapped.seqIndex (abs m) i.toNat : Int) := seq_index_spec' m h i h0 h1

example : seqIndexNN ⟨[1, 3], [2, 3], 4⟩ 4 = 2 ∧ Gapped.seqIndex (abs ⟨[1, 3], [2, 3], 4⟩) 4 = 2 := by decide +kernel

/-- negative alignment indices are converted like Python indices, anything below `-len` raises -/
theorem get_seq_index_spec (m : IMap) (h : WF m) (i : Int) (h0 : -len m ≤ i) (h1 : i ≤ len m) :
    getSeqIndex m i = .ok (Gapped.seqIndex (abs m) (if i < 0 then len m + i else i).toNat : Int) := by
  unfold getSeqIndex
  by_cases hi : i < 0
  · simp only [hi, if_true]
    rw [if_neg (by omega), seq_index_spec m h _ (by omega) (by omega)]
  · simp only [hi, if_false]
    rw [seq_index_spec m h _ (by omega) (by omega)]

example : getSeqIndex ⟨[1, 3], [2, 3], 4⟩ (-1) = .ok 3 := by rfl

/-- **`IndelMap.__getitem__` agrees with slicing the gapped string**, for EVERY `start`/`stop`
(`None`, negative, beyond the end, reversed, inside / at the edge of gap runs — the full start-case ×
stop-case × layout product): whenever the call returns a map, that map denotes `s[a:b]` with the
residues renumbered. -/
theorem getitem_spec (m : IMap) (h : WF m) (a b : Option Int) (r : IMap)
    (hr : getitem m a b none = .ok r) : abs r = Gapped.slice (abs m) a b :=
  (getitem_spec' m h a b r hr).2

example : (getitem (fromGapped [false, true, true, false, true]) (some 2) (some (-1)) none).toOption.map abs
    = some (Gapped.slice (ofPattern [false, true, true, false, true]) (some 2) (some (-1))) := by decide +kernel

/-- Slicing preserves the representation invariant (so every map reachable by slicing is well formed). -/
theorem getitem_wf (m : IMap) (h : WF m) (a b : Option Int) (r : IMap)
    (hr : getitem m a b none = .ok r) : WF r :=
  (getitem_spec' m h a b r hr).1

example : (getitem ⟨[1, 3], [2, 3], 4⟩ (some 2) (some 6) none).toOption = some ⟨[0, 2], [1, 2], 2⟩ := by decide +kernel

/-- **Slicing never raises in range**: for a well-formed map and bounds that are `None` or `≥ -len`
(anything above `len` is clamped), `__getitem__` returns a map — the `__post_init__` check
`gap_pos[-1] ≤ parent_length` always passes.  Together with `getitem_spec` this gives total
correctness of slicing. -/
theorem getitem_total (m : IMap) (h : WF m) (a b : Option Int)
    (ha : ∀ x, a = some x → -len m ≤ x) (hb : ∀ y, b = some y → -len m ≤ y) :
    ∃ r, getitem m a b none = .ok r ∧ WF r ∧ abs r = Gapped.slice (abs m) a b :=
  getitem_total' m h a b ha hb

example : ∃ r, getitem ⟨[1, 3], [2, 3], 4⟩ (some (-7)) (some 99) none = .ok r := ⟨_, rfl⟩

/-- **A stop at or beyond the end is the same as no stop** (the clamp of `stop` to `len`, cogent3 commit 52439bb91;
the general form of `getitem_clamps_stop_example`): for a well-formed map and every `start`, `m[a:b]` with
`b ≥ len(m)` is literally `m[a:]` — as for a Python string. -/
theorem getitem_stop_clamped (m : IMap) (h : WF m) (a : Option Int) (b : Int) (hb : len m ≤ b) :
    getitem m a (some b) none = getitem m a none none := by
  have hl : (0 : Int) ≤ len m := by rw [← len_eq m h]; omega
  have hb0 : ¬ b < 0 := by omega
  have hl0 : ¬ len m < 0 := by omega
  simp only [getitem, ge_iff_le, if_pos (Int.le_trans hl hb), if_pos hl, hb0, hl0, Int.min_eq_right hb, Int.min_self]

example : WF ⟨[1, 3], [2, 3], 4⟩ ∧ len ⟨[1, 3], [2, 3], 4⟩ ≤ 99 ∧
    getitem ⟨[1, 3], [2, 3], 4⟩ (some 2) (some 99) none = .ok ⟨[0, 2], [1, 2], 3⟩ ∧
    getitem ⟨[1, 3], [2, 3], 4⟩ (some 2) none none = .ok ⟨[0, 2], [1, 2], 3⟩ := by decide +kernel

/-- integer indexing `m[i]` is the one-column slice -/
theorem getitem_int_spec (m : IMap) (h : WF m) (i : Int) (r : IMap) (hr : getitemInt m i = .ok r) :
    WF r ∧ abs r = Gapped.slice (abs m) (some i) (some (i + 1)) :=
  getitem_spec' m h (some i) (some (i + 1)) r hr

example : (getitemInt ⟨[1, 3], [2, 3], 4⟩ 1).toOption.map abs = some [none] := by decide +kernel

/-- **`get_align_index` agrees with scanning the string**: residue `k` is displayed in the column
where the `k`-th residue of the gapped string stands. -/
theorem align_index_spec (m : IMap) (h : WF m) (k : Int) (h0 : 0 ≤ k) (h1 : k < m.parentLength) :
    getAlignIndex m k false = .ok (Gapped.alignIndex (abs m) k.toNat : Int) := by
  rw [getAlignIndex_nn m h k h0 false, if_neg Bool.false_ne_true, ← col_abs m h k.toNat (by omega),
    Int.toNat_of_nonneg h0]

example : getAlignIndex ⟨[1, 3], [2, 3], 4⟩ 3 false = .ok 6 ∧ Gapped.alignIndex (abs ⟨[1, 3], [2, 3], 4⟩) 3 = 6 := by
  constructor <;> rfl

/-- `get_align_index(k, slice_stop=True)` is one past the column of residue `k - 1` (0 for `k = 0`):
the end of an alignment slice that stops before residue `k` does not include a gap run inserted at `k`. -/
theorem align_index_stop_spec (m : IMap) (h : WF m) (k : Int) (h0 : 0 ≤ k) (h1 : k ≤ m.parentLength) :
    getAlignIndex m k true =
      .ok (if k = 0 then 0 else (Gapped.alignIndex (abs m) (k - 1).toNat : Int) + 1) := by
  rw [getAlignIndex_nn m h k h0 true, if_pos rfl]
  by_cases hk : k = 0
  · rw [hk, if_pos rfl, col_neg_one m h]; rfl
  · rw [if_neg hk, ← col_abs m h (k - 1).toNat (by omega), Int.toNat_of_nonneg (by omega)]

example : getAlignIndex ⟨[1, 3], [2, 3], 4⟩ 1 true = .ok 1 ∧ getAlignIndex ⟨[1, 3], [2, 3], 4⟩ 1 false = .ok 3 := by
  constructor <;> rfl

/-- **`nucleic_reversed` gives the map of the reversed string** (leading gaps become trailing gaps,
etc.), never raises on a well-formed map, and the result is well formed. -/
theorem reversed_spec (m : IMap) (h : WF m) :
    ∃ r, nucleicReversed m = .ok r ∧ WF r ∧ abs r = Gapped.reversed (abs m) := by
  refine ⟨_, nucleicReversed_ok m h, ?_⟩
  exact reversed_spec' m h _ (nucleicReversed_ok m h)

example : (nucleicReversed (fromGapped [true, false, false, true, true, false])).toOption.map abs
    = some (Gapped.reversed (ofPattern [true, false, false, true, true, false])) := by decide +kernel

/-- **`IndelMap.__add__` gives the map of the concatenated string** for any two well-formed maps
(a trailing gap of the left operand meeting a leading gap of the right one becomes ONE gap), it
never raises, and the result is well formed. -/
theorem add_spec (a b : IMap) (ha : WF a) (hb : WF b) :
    ∃ r, add a b = .ok r ∧ WF r ∧ abs r = Gapped.concat (abs a) (abs b) := add_spec' a b ha hb

example : (add (fromGapped [false, true]) (fromGapped [true, true, false])).toOption
    = some (fromGapped [false, true, true, true, false]) := by decide +kernel

/-- **`IndelMap.__mul__`** (amino-acid alignment → codon alignment): for every scale `k ≥ 1` the
result is the map of the string with each column repeated `k` times; total, well formed. -/
theorem mul_spec (m : IMap) (h : WF m) (k : Nat) (hk : 0 < k) :
    ∃ r, mul m k = .ok r ∧ WF r ∧ abs r = Gapped.scaled (abs m) k := by
  open List in
  have hkz : (0 : Int) < k := by omega
  have hmono : ∀ a b : Int, a < b → a * k < b * k := fun a b hab => Int.mul_lt_mul_of_pos_right hab hkz
  have hwf : WF ⟨m.gapPos.map (· * k), m.cumLens.map (· * k), m.parentLength * k⟩ := by
    refine ⟨Int.mul_nonneg h.pl_nonneg (by omega), by simp [h.len_eq], h.pos_sorted.map _ hmono, ?_, ?_⟩
    · simpa only [map_cons, Int.zero_mul] using h.cum_sorted.map (· * (k : Int)) hmono
    · intro q hq
      obtain ⟨p, hp, rfl⟩ := mem_map.mp hq
      have := h.pos_range p hp
      exact ⟨Int.mul_nonneg this.1 (by omega), Int.mul_le_mul_of_nonneg_right this.2 (by omega)⟩
  refine ⟨_, ?_, hwf, ?_⟩
  · exact wf_mk_ok _ hwf
  · rw [abs_eq_ofPattern _ hwf]
    unfold Gapped.scaled
    congr 1
    rw [pattern_abs_G, pattern_abs_G m]
    have h1 := diffsFrom_scale m.cumLens k 0
    simp only [Int.zero_mul] at h1
    have h2 := patG_scale k (zip m.gapPos (diffsFrom 0 m.cumLens)) 0 m.parentLength
    simp only [Int.zero_mul] at h2
    rw [← h2]
    simp only [h1]
    congr 1
    rw [zip_map]; rfl

example : (mul (fromGapped [false, true, false]) 3).toOption
    = some (fromGapped [false, false, false, true, true, true, false, false, false]) := by decide +kernel

/-- **`joined_segments(coords)`** (used when an alignment row is sliced by a multi-span feature map,
e.g. by `filtered()`): the segments are sorted by start, each is sliced out of the map, and the
dictionary of accumulated gaps is the map of the slices `s[a₁:b₁] s[a₂:b₂] …` joined together —
gap runs meeting at a junction become one gap; the result is well formed. -/
theorem joined_spec (m : IMap) (h : WF m) (coords : List (Int × Int)) (r : IMap)
    (hr : joinedSegments m coords = .ok r) :
    WF r ∧ abs r = ofPattern (joinedPattern (abs m) (sortPairs coords)) := joined_spec' m h coords r hr

example : (joinedSegments (fromGapped [false, true, false, true, true, false]) [(3, 5), (0, 2)]).toOption
    = some (fromGapped [false, true, true, true]) := by decide +kernel

/-- **`IndelMap.from_aligned_segments`**: given the ungapped segments of a well-formed map in
alignment coordinates (what `nongap()` lists) and the aligned length, it rebuilds exactly that map —
for every layout: leading / trailing gaps (the `(0, 0)` and `(L, L)` sentinels), the all-gap row
(no segment at all), the gapless row (single full segment or empty string). -/
theorem from_aligned_segments_spec (m : IMap) (h : WF m) :
    fromAlignedSegments (nongap m) (len m) = .ok m := by
  open List in
  obtain ⟨gp, cum, pl⟩ := m
  have hinc := h.inc
  cases gp with
  | nil =>
    obtain rfl : cum = [] := cum_nil_of_gp_nil _ h rfl
    have hlen : len ⟨[], [], pl⟩ = pl := Int.add_zero pl
    rw [fas_eq, hlen]
    unfold nongap
    rw [if_pos rfl]
    by_cases hp : pl ≠ 0
    · rw [if_pos hp]
      simp only [decide_eq_true_eq, and_self, or_true, if_true, emptyMap]
    · rw [if_neg hp, Classical.not_not.mp hp]
      simp [emptyMap]
  | cons p ps =>
    cases cum with
    | nil => simp [Inc] at hinc
    | cons c cs =>
      obtain ⟨hp1, hc1, hinc'⟩ := hinc
      obtain ⟨f1, f2, f3⟩ := mids_facts (trips c ps cs) (p + c) (trips_sorted ps cs p c hinc')
      have hlE := lastE_trips ps cs p c (by simpa using h.len_eq)
      have hlen : len ⟨p :: ps, c :: cs, pl⟩ = pl + lastD (c :: cs) := rfl
      have hlastp : lastD (p :: ps) ≤ pl := (h.pos_range _ (lastD_mem _ (cons_ne_nil _ _))).2
      have hcle : c ≤ lastD (c :: cs) := pairwise_le_lastD _ (pairwise_cons.mp h.cum_sorted).2 c mem_cons_self
      have hple : p ≤ pl := (h.pos_range p mem_cons_self).2
      have hps := (pairwise_cons.mp h.pos_sorted).1
      rw [nongap_cons p c pl ps cs (by simpa using h.len_eq) (by omega) (fun q hq => by have := hps q hq; omega),
        fas_nongap p (lastE (p + c) (trips c ps cs)) _ (midsFrom (p + c) (trips c ps cs))
        (by omega) (by rw [hlen]; omega)
        (fun x hx => by have := (f1 x hx).1; omega)
        (fun x hx => by have := f2 x hx; rw [hlE] at this; rw [hlen]; omega)
        (by omega) (by rw [hlE, hlen]; omega)]
      exact fasArrays_mids ⟨p :: ps, c :: cs, pl⟩ h p c ps cs rfl rfl

example : nongap (fromGapped [true, false, false, true]) = [(1, 3)] ∧
    (fromAlignedSegments [(1, 3)] 4).toOption = some (fromGapped [true, false, false, true]) ∧
    (fromAlignedSegments [] 2).toOption = some (fromGapped [true, true]) := by decide +kernel

/-- **`gap_coords_to_map`**: from the `{gap position: gap length}` dictionary of a well-formed map,
whatever the insertion order of its items, and the sequence length, the map itself is rebuilt. -/
theorem gap_coords_to_map_spec (m : IMap) (h : WF m) (items : List (Int × Int))
    (hp : items.Perm (getGapCoordinates m)) : gapCoordsToMap items m.parentLength = .ok m := by
  open List in
  unfold gapCoordsToMap getGapCoordinates at *
  have hl : m.gapPos.length = (gapLengths m.cumLens).length := by
    simp [gapLengths, diffsFrom_length, h.len_eq]
  have hkeys : ((zip m.gapPos (gapLengths m.cumLens)).map (·.1)).Pairwise (· < ·) := by
    rw [map_fst_zip (by omega)]; exact h.pos_sorted
  simp only []
  rw [sortPairs_of_perm _ _ hp hkeys, map_fst_zip (by omega), map_snd_zip (by omega)]
  unfold mkLengths cumsum gapLengths
  rw [cumsumFrom_diffsFrom]
  exact wf_mk_ok m h

example : (gapCoordsToMap [(3, 1), (1, 2)] 4).toOption = some ⟨[1, 3], [2, 3], 4⟩ ∧
    getGapCoordinates ⟨[1, 3], [2, 3], 4⟩ = [(1, 2), (3, 1)] := by decide +kernel

/-- The gap length a well-formed map holds at sequence position `p` (what `get_gap_coordinates`
reports) is the gap run standing immediately before residue `p` of its string (trailing run for
`p = parent_length`). -/
theorem gap_lengths_spec (m : IMap) (h : WF m) (p : Int) (h0 : 0 ≤ p) (h1 : p ≤ m.parentLength) :
    glen m p = (Gapped.gapsBefore (abs m) p.toNat : Int) := by
  -- the stored length separates the columns of residues `p - 1` and `p`, and so does the gap run of the string
  obtain ⟨k, rfl⟩ := Int.eq_ofNat_of_zero_le h0
  have hp := glen_eq m h k
  rw [col_abs m h k h1] at hp
  rw [Int.toNat_natCast]
  cases k with
  | zero =>
    rw [Int.natCast_zero] at hp ⊢
    rw [col_neg_one m h] at hp
    rw [gapsBefore_zero]
    omega
  | succ j =>
    have := gapsBefore_succ (abs m) j (by have := seqLen_abs m h; omega)
    rw [show ((j + 1 : Nat) : Int) - 1 = j by omega, col_abs m h j (by omega)] at hp
    omega

example : glen ⟨[1, 3], [2, 3], 4⟩ 3 = 1 ∧ Gapped.gapsBefore (abs ⟨[1, 3], [2, 3], 4⟩) 3 = 1 := by decide +kernel

/-- **`merge_maps`**: for two well-formed maps over the same sequence, the merged map never raises,
is well formed, and its string has before every residue (and at the end) the gap runs of both
strings added up. -/
theorem merge_spec (a b : IMap) (ha : WF a) (hb : WF b) (hpl : a.parentLength = b.parentLength) :
    ∃ r, mergeMaps a b none = .ok r ∧ WF r ∧ r.parentLength = a.parentLength ∧
      ∀ p : Nat, (p : Int) ≤ a.parentLength →
        Gapped.gapsBefore (abs r) p = Gapped.gapsBefore (abs a) p + Gapped.gapsBefore (abs b) p := by
  obtain ⟨r, hr, hw, hp, hg⟩ := merge_spec' a b ha hb hpl
  refine ⟨r, hr, hw, hp, ?_⟩
  intro p hple
  have key : ∀ x : IMap, WF x → (p : Int) ≤ x.parentLength → glen x p = Gapped.gapsBefore (abs x) p := fun x hx hx' => by
    simpa only [Int.toNat_natCast] using gap_lengths_spec x hx p (Int.natCast_nonneg p) hx'
  have := hg p
  rw [key r hw (hp ▸ hple), key a ha hple, key b hb (hpl ▸ hple)] at this
  exact_mod_cast this

example : (mergeMaps (fromGapped [false, true, false]) (fromGapped [true, false, true, true, false]) none).toOption
    = some (fromGapped [true, false, true, true, true, false]) := by decide +kernel

/- `shared_gaps` and `minus_gaps` are stated over gap runs in alignment coordinates, in `Props/C08Gaps.lean`
   (`shared_gaps_cols`, `shared_gaps_total`, `minus_gaps_closed`).  That `minus_gaps` returns a well-formed map,
   and what string that map denotes, is not proved. -/

end CogentModel.C08
