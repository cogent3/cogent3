import CogentModel.Gen.C15Dist
import CogentModel.Proofs.DistanceGen
import CogentModel.Proofs.DistanceRun
import CogentModel.Proofs.DistanceFormulaLemmas
import Mathlib.Tactic.SplitIfs
import Mathlib.Analysis.SpecialFunctions.Pow.Real
/-! # C15 — the TRANSLATED estimator source equals the hand model, for all arguments

`Gen/C15Dist.lean` is rewritten on every run by `translator/c15_dist2lean.py` from the current text of
`evolve/fast_distance.py` (`_hamming`, `_jc69_from_matrix`, `_tn93_from_matrix`, `_logdetcommon`, `_paralinear`,
`_logdet`, `get_matrix_diff_coords`) and `evolve/pairwise_distance_numba.py` (`fill_diversity_matrix`), numpy
operation by numpy operation.  The theorems below prove every generated definition equal to the hand model of
`Model/Distance.lean` (about which the C15 / C15Spec theorems are stated) for ALL count matrices / index arrays,
so a semantic edit of any of these functions breaks a proof obligation here.

A result tuple is compared with `Res.Same`: both the all-`None` tuple, or equal `total`, equal `p` and equal
distance for EVERY function `L` standing for `numpy.log` (`ofStat` spells out the final distance formula that a
`Stat` of the hand model stands for). -/
namespace CogentModel.C15
open CogentModel.Distance CogentModel.DistNp CogentModel.Gen
open CogentModel.DistanceFormulas (exCounts exEmpty exSaturated exIdentical)

/-- the loop body of the numba kernel `fill_diversity_matrix` is the model's `fillStep`, and the whole kernel on
a zeroed matrix is the model's `fill` of the zipped columns — for all pairs of index arrays -/
theorem gen_fill_eq (s1 s2 : List Int) :
    C15Dist.fill_diversity_matrix_step = fillStep ∧
      C15Dist.fill_diversity_matrix (fun _ _ => 0) s1 s2 = fill (s1.zip s2) := by
  have hs : C15Dist.fill_diversity_matrix_step = fillStep := by
    funext m c
    unfold C15Dist.fill_diversity_matrix_step fillStep bumpBy bump
    rfl
  refine ⟨hs, ?_⟩
  unfold C15Dist.fill_diversity_matrix fill
  rw [hs]

example : C15Dist.fill_diversity_matrix (fun _ _ => 0) [0, 1, -9, 2, 0] [0, 2, 1, -9, 0] 0 0 = 2 ∧
    C15Dist.fill_diversity_matrix (fun _ _ => 0) [0, 1, -9, 2, 0] [0, 2, 1, -9, 0] 1 2 = 1 ∧
    C15Dist.fill_diversity_matrix (fun _ _ => 0) [0, 1, -9, 2, 0] [0, 2, 1, -9, 0] (-9) 1 = 0 := by decide

/-- `get_matrix_diff_coords`: exactly the ordered pairs of distinct members — for all index lists -/
theorem gen_diff_coords_mem (xs : List Nat) (i j : Nat) :
    (i, j) ∈ C15Dist.get_matrix_diff_coords xs ↔ i ∈ xs ∧ j ∈ xs ∧ i ≠ j := by
  unfold C15Dist.get_matrix_diff_coords
  simp [List.mem_flatMap, List.mem_map, List.mem_filter]

/-- the coordinate constants the model uses are what `TN93Pair.__init__` derives from the purine / pyrimidine
indices with this function (flattened `i * 4 + j`) -/
example : (C15Dist.get_matrix_diff_coords [2, 3]).map (fun c => c.1 * 4 + c.2) = [11, 14] ∧
    (C15Dist.get_matrix_diff_coords [1, 0]).map (fun c => c.1 * 4 + c.2) = [4, 1] ∧
    (((C15Dist.get_matrix_diff_coords [0, 1, 2, 3]).filter fun c =>
        !(C15Dist.get_matrix_diff_coords [2, 3] ++ C15Dist.get_matrix_diff_coords [1, 0]).contains c).map
      (fun c => c.1 * 4 + c.2)) = [2, 3, 6, 7, 8, 9, 12, 13] := by decide

/-- `_hamming` -/
theorem gen_hamming_eq (m : M4) : Res.Same (C15Dist.hamming m) (ofStat (hammingStat m)) := by
  unfold C15Dist.hamming hammingStat
  simp only [msum_eq, vsum_mdiag]
  exact .guard fun _ => ⟨rfl, rfl, fun _ => rfl⟩

example : (C15Dist.hamming exCounts).isSome = true ∧ (C15Dist.hamming exEmpty).isSome = false := by decide +kernel

/-- `_jc69_from_matrix`: same validity test (`total == 0`, `p >= 0.75`), same p, and the distance
`-3.0 * log(1 - (4/3) p) / 4` -/
theorem gen_jc69_eq (m : M4) : Res.Same (C15Dist.jc69_from_matrix m) (ofStat (jc69Stat m)) := by
  unfold C15Dist.jc69_from_matrix jc69Stat
  simp only [msum_eq, vsum_mdiag, ge_iff_le]
  exact .guard fun _ => .guard fun _ => ⟨rfl, rfl, fun L => by ring⟩

example : (C15Dist.jc69_from_matrix exCounts).isSome = true ∧
    (C15Dist.jc69_from_matrix exSaturated).isSome = false := by decide +kernel

/-- `_tn93_from_matrix` called with the constants of `TN93Pair` (purines [2,3], pyrimidines [1,0], flattened
coordinates; the pyrimidine pair listed as [1, 4] — `__init__` produces [4, 1], the case of `gen_tn93_eq_init`), whenever no denominator of the formula is zero (with a zero denominator numpy computes 0/0 = nan,
which exact rationals do not have; the hand model's `nan` branch covers it and is tied by the differential):
same validity test `term1 <= 0 or term2 <= 0 or term3 <= 0`, same three coefficients and log arguments -/
theorem gen_tn93_eq (m : M4) (fr : V4)
    (h1 : tnFreq m 2 * tnFreq m 3 ≠ 0) (h2 : tnFreq m 1 * tnFreq m 0 ≠ 0)
    (h3 : tnFreq m 2 + tnFreq m 3 ≠ 0) (h4 : tnFreq m 1 + tnFreq m 0 ≠ 0) :
    Res.Same (C15Dist.tn93_from_matrix m fr [2, 3] [1, 0] [11, 14] [1, 4] [2, 3, 6, 7, 8, 9, 12, 13])
      (ofStat (tn93Stat m)) :=
  tn93_from_matrix_eq m fr [1, 4] (take_pyr m) h1 h2 h3 h4

example : tnFreq exCounts 2 * tnFreq exCounts 3 ≠ 0 ∧ tnFreq exCounts 1 * tnFreq exCounts 0 ≠ 0 ∧
    tnFreq exCounts 2 + tnFreq exCounts 3 ≠ 0 ∧ tnFreq exCounts 1 + tnFreq exCounts 0 ≠ 0 ∧
    (C15Dist.tn93_from_matrix exCounts vzero [2, 3] [1, 0] [11, 14] [1, 4] [2, 3, 6, 7, 8, 9, 12, 13]).isSome = true := by
  decide +kernel

/-- `TN93Pair.__init__` as translated (`get_matrix_diff_coords` of the purine / pyrimidine indices, the `remove` loop that leaves
the transversion coordinates, the `i * 4 + j` flattening, the order of `_func_args`), on the index lists of DNA/RNA
(`get_purine_indices` = [2, 3], `get_pyrimidine_indices` = [1, 0], compared with the real ones on every run) and `_dim` = 4,
yields exactly these constants -/
theorem gen_tn93_func_args :
    C15Dist.tn93_func_args [2, 3] [1, 0] 4 = ([2, 3], [1, 0], [11, 14], [4, 1], [2, 3, 6, 7, 8, 9, 12, 13]) := by decide +kernel

example : (C15Dist.tn93_func_args [2, 3] [1, 0] 4).2.2.2.2.length = 8 := by decide +kernel

/-- `gen_tn93_eq` with the arguments `TN93Pair.__init__` itself computes (`self.func(matrix, *self._func_args)`): the translated
constructor composed with the translated `_tn93_from_matrix` is the hand model `tn93Stat` -/
theorem gen_tn93_eq_init (m : M4) (fr : V4)
    (h1 : tnFreq m 2 * tnFreq m 3 ≠ 0) (h2 : tnFreq m 1 * tnFreq m 0 ≠ 0)
    (h3 : tnFreq m 2 + tnFreq m 3 ≠ 0) (h4 : tnFreq m 1 + tnFreq m 0 ≠ 0) :
    Res.Same (C15Dist.tn93_from_matrix m fr (C15Dist.tn93_func_args [2, 3] [1, 0] 4).1 (C15Dist.tn93_func_args [2, 3] [1, 0] 4).2.1
        (C15Dist.tn93_func_args [2, 3] [1, 0] 4).2.2.1 (C15Dist.tn93_func_args [2, 3] [1, 0] 4).2.2.2.1
        (C15Dist.tn93_func_args [2, 3] [1, 0] 4).2.2.2.2)
      (ofStat (tn93Stat m)) := by
  rw [gen_tn93_func_args]
  exact tn93_from_matrix_eq m fr [4, 1] (take_pyr' m) h1 h2 h3 h4

example : (C15Dist.tn93_from_matrix exCounts vzero (C15Dist.tn93_func_args [2, 3] [1, 0] 4).1 (C15Dist.tn93_func_args [2, 3] [1, 0] 4).2.1
    (C15Dist.tn93_func_args [2, 3] [1, 0] 4).2.2.1 (C15Dist.tn93_func_args [2, 3] [1, 0] 4).2.2.2.1
    (C15Dist.tn93_func_args [2, 3] [1, 0] 4).2.2.2.2).isSome = true := by decide +kernel

/-- `_PairwiseDistance._expand` as translated (the `redundants` dict built by the two nested loops over `self.duplicated`, the loops over
`redundants.items()` and the names, `continue`, the literal 0, `pwise.get(.., None)`, the chained store) is the model's `expand`:
for EVERY dictionary of distances, every number of names and every `duplicated` whose entries list each duplicate once (an index enters
`dupes` once and is skipped afterwards), with the model's flat `duped` list being the entries of `duplicated` in insertion order -/
theorem gen_expand_eq (duplicated : List (Nat × List Nat)) (n : Nat) (st : RunState)
    (hd : st.duped = flatPairs duplicated) (hn : (duplicated.flatMap (·.2)).Nodup) :
    C15Dist.expand_ duplicated (List.range' 0 n) st.dists = expand n st := by
  rw [expand_eq_fold, hd]
  unfold C15Dist.expand_
  by_cases h : duplicated.isEmpty
  · rw [if_pos h, List.isEmpty_iff.1 h]; rfl
  · simp only [if_neg h]
    rw [redundants_fold duplicated hn, List.foldl_map]
    -- the body of the two loops is `expandOne`, and of the inner one `expandName`
    congr 1
    funext pw p
    unfold expandOne
    congr 1
    funext pw' name
    unfold expandName
    split_ifs <;> rfl

example : flatPairs [(0, [2, 3]), (1, [4])] = [(0, 2), (0, 3), (1, 4)] ∧ ([(0, [2, 3]), (1, [4])].flatMap (·.2)).Nodup := by decide
example : (cell (C15Dist.expand_ [(0, [2])] (List.range' 0 3) (dictSet (dictSet ⟨fun _ _ => none⟩ (0, 1) (.hamming 4 (1 / 4) 1)) (1, 0) (.hamming 4 (1 / 4) 1))) 2 1 =
    .hamming 4 (1 / 4) 1) ∧ cell (C15Dist.expand_ [(0, [2])] (List.range' 0 3) ⟨fun _ _ => none⟩) 2 0 = .zero := by decide +kernel

/-- `_logdetcommon` (the part shared by paralinear and LogDet: validity, the 0.5 pseudo-count on empty diagonal
cells, normalisation, `det(frequency) <= 0`) is the model's `logdetCommon`, for every continuation `k` -/
theorem gen_logdetcommon_eq (m : M4) (k : Rat → Rat → M4 → Stat) :
    logdetCommon m k =
      match C15Dist.logdetcommon m with
      | none => .invalid
      | some (tot, p, f, _) => k tot p f := by
  rw [logdetCommon_ite, logdetcommon_eq]
  split_ifs <;> rfl

example : (C15Dist.logdetcommon exCounts).isSome = true ∧ (C15Dist.logdetcommon exSaturated).isSome = false ∧
    (C15Dist.logdetcommon exIdentical).isSome = false := by decide +kernel

/-- the fourth component returned by `_logdetcommon` (`freqs`) is `[column sums, row sums]` of the third (`frequency`) -/
theorem gen_logdetcommon_freqs (m : M4) (tot p : Rat) (f : M4) (fs : List V4)
    (h : C15Dist.logdetcommon m = some (tot, p, f, fs)) : fs = [axis0 f, axis1 f] := by
  rw [logdetcommon_eq] at h
  split at h <;> cases h
  rfl

example : ∃ tot p f fs, C15Dist.logdetcommon exCounts = some (tot, p, f, fs) :=
  ⟨_, _, _, _, (logdetcommon_eq exCounts).trans (if_neg (by decide +kernel))⟩

/-- `_paralinear`: `-log(det(F) / sqrt(prod of the marginals)) / r` -/
theorem gen_paralinear_eq (m : M4) : Res.Same (C15Dist.paralinear m) (ofStat (paralinearStat m)) := by
  unfold C15Dist.paralinear paralinearStat
  rw [logdetCommon_ite, logdetcommon_eq]
  split_ifs
  · exact trivial
  · simp only [ofStat, Res.Same, List.getD_cons_zero, List.getD_cons_succ, prod_eq, det, true_and, implies_true]

example : (C15Dist.paralinear exCounts).isSome = true := by decide +kernel

/-- `_logdet`, with and without the Tamura–Kumar adjustment -/
theorem gen_logdet_eq (m : M4) (tk : Bool) : Res.Same (C15Dist.logdet m tk) (ofStat (logdetStat tk m)) := by
  unfold C15Dist.logdet logdetStat
  rw [logdetCommon_ite, logdetcommon_eq]
  by_cases h : total m = 0 ∨ total m - diagSum m = 0 ∨ det4 (freqMatrix m) ≤ 0
  · rw [if_pos h, if_pos h]; exact trivial
  · rw [if_neg h, if_neg h]
    cases tk <;>
      simp only [ofStat, Res.Same, List.getD_cons_zero, List.getD_cons_succ, prod_eq, sq_eq, det, if_true,
        Bool.false_eq_true, if_false, true_and, implies_true]

example : (C15Dist.logdet exCounts true).isSome = true ∧ (C15Dist.logdet exCounts false).isSome = true ∧
    (C15Dist.logdet exEmpty true).isSome = false := by decide +kernel

/-- the one algebraic rewrite the translator performs on a logarithm, `log(a / sqrt(b))` ↦ `L a - (1/2) * L b`,
is an identity of the real logarithm for positive `a`, `b` (the code only takes the log after `det(frequency) > 0`) -/
theorem log_div_sqrt_rule (a b : ℝ) (ha : 0 < a) (hb : 0 < b) :
    Real.log (a / Real.sqrt b) = Real.log a - (1 / 2) * Real.log b := by
  rw [Real.log_div ha.ne' (Real.sqrt_pos.mpr hb).ne', Real.log_sqrt hb.le]; ring

example : Real.log (3 / Real.sqrt 5) = Real.log 3 - (1 / 2) * Real.log 5 :=
  log_div_sqrt_rule 3 5 (by norm_num) (by norm_num)

end CogentModel.C15
