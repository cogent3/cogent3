import CogentModel.Model.Aln
import CogentModel.Proofs.AlnSim
import CogentModel.Proofs.AlnViewSim
/-! # C03 — property theorems (alignment operations equal the operations on the gapped strings)

`gapped r` is the string a row `Aligned(map, data)` displays; `rowOfString` is how `Alignment`
builds a row from a gapped string; `AlnD` rows are the dense `ArrayAlignment` rows (the strings
themselves). -/
namespace CogentModel.C03
open CogentModel.IndelMap CogentModel.Aln

/-- A row built from a gapped string (`parse_out_gaps`) displays exactly that string: no character
is altered, for every gap layout and every alphabet. -/
theorem row_roundtrip (s : List Char) : gapped (rowOfString s) = s := gapped_rowOfString s

example : gapped (rowOfString "-AC--G-".toList) = "-AC--G-".toList := by decide +kernel

/-- Class conversion / construction: the annotatable alignment built from named gapped strings shows
the same named rows as the array-backed alignment holding those strings (`to_type` both ways). -/
theorem array_annotatable_agree (d : AlnD) : showA (ofStrings d) = d := by
  unfold showA ofStrings
  induction d with
  | nil => rfl
  | cons p r ih => simp only [List.map_cons, List.map_map] at ih ⊢; rw [row_roundtrip]; simp [ih]

example : showA (ofStrings [("s0", "G--".toList), ("s1", "A-C".toList)]) = [("s0", "G--".toList), ("s1", "A-C".toList)] := by decide +kernel

/-- Rows of a freshly built alignment have equal length: if all the strings have length `n`, every
row's `len(map)` is `n`. -/
theorem rows_equal_length (d : AlnD) (n : Nat) (h : ∀ p ∈ d, p.2.length = n) :
    ∀ q ∈ ofStrings d, len q.2.map = n := by
  intro q hq
  obtain ⟨p, hp, rfl⟩ := List.mem_map.mp hq
  show len (fromGapped (p.2.map isGap)) = n
  rw [C08len, List.length_map, h p hp]
where
  /-- C08: the map parsed from a gap pattern is as long as the pattern -/
  C08len {s : List Char} : len (fromGapped (s.map isGap)) = ((s.map isGap).length : Int) := fromGapped_len' _

example : ∀ q ∈ ofStrings [("a", "A-C".toList), ("b", "---".toList)], len q.2.map = 3 := by decide +kernel

/-- `take_seqs` (either polarity) commutes with display: selecting rows of the annotatable alignment
and then reading them equals selecting the named strings. -/
theorem take_seqs_refines (a : AlnA) (names : List String) (negate : Bool) :
    showA (takeSeqs a names negate) = takeSeqs (showA a) names negate := takeSeqs_show a names negate

example : showA (takeSeqs (ofStrings [("s0", "G-".toList), ("s1", "AC".toList)]) ["s1"] false) = [("s1", "AC".toList)] := by decide +kernel

/-- Regression anchor for the repaired clamp: slicing the row of `G--` by `[0:4]` and reverse
complementing shows `--C`, what the string operations give. -/
theorem slice_beyond_len_then_rc_example :
    ((rowSlice (rowOfString "G--".toList) (some 0) (some 4)).toOption.bind fun r => (rowRc true r).toOption.map gapped)
      = some "--C".toList := by decide +kernel

/-- **Row slicing refines string slicing** for every `start`/`stop` (`None`, negative, beyond the
end, inside gap runs): on a well-formed row, `Aligned.__getitem__(slice)` — new map from
`IndelMap.__getitem__`, data sliced at the two sequence indices — displays `s[a:b]`, and the
result is again well formed (map and data stay consistent). -/
theorem slice_refines (r r' : Row) (h : RowWF r) (a b : Option Int) (hr : rowSlice r a b = .ok r') :
    RowWF r' ∧ gapped r' = PySlice.slice (gapped r) a b 1 := rowSlice_spec r r' h a b hr

example : (rowSlice (rowOfString "-AC--G-".toList) (some 1) (some (-2))).toOption.map gapped
    = some (PySlice.slice "-AC--G-".toList (some 1) (some (-2)) 1) := by decide +kernel

/-- **Row slicing is total in range**: on a well-formed row, `Aligned.__getitem__(slice)` returns a
row (no ValueError / TypeError from the map constructor or the `seq_start > seq_end` branch) for
all bounds that are `None` or `≥ -len`; with `slice_refines` this is total correctness. -/
theorem slice_total (r : Row) (h : RowWF r) (a b : Option Int)
    (ha : ∀ x, a = some x → -len r.map ≤ x) (hb : ∀ y, b = some y → -len r.map ≤ y) :
    ∃ r', rowSlice r a b = .ok r' ∧ RowWF r' ∧ gapped r' = PySlice.slice (gapped r) a b 1 := by
  obtain ⟨r', hr⟩ := rowSlice_total r h a b ha hb
  exact ⟨r', hr, rowSlice_spec r r' h a b hr⟩

example : ∃ r', rowSlice (rowOfString "A--CG".toList) (some (-5)) (some 40) = .ok r' := ⟨_, rfl⟩

/-- Integer indexing of a row follows Python index semantics (negative indices, IndexError when out
of range) and shows the character of that column. -/
theorem int_refines (r r' : Row) (h : RowWF r) (i : Int) (hr : rowInt r i = .ok r') :
    RowWF r' ∧ ∃ c, PySlice.index (gapped r) i = some c ∧ gapped r' = [c] := rowInt_spec r r' h i hr

example : (rowInt (rowOfString "A-C".toList) (-1)).toOption.map gapped = some ['C'] := by decide +kernel

/-- `take_positions(cols)` (repeated / unsorted / negative columns) shows the selected columns. -/
theorem take_positions_refines (r r' : Row) (h : RowWF r) (cols : List Int)
    (hr : rowTakePositions r cols = .ok r') :
    RowWF r' ∧ denseTake (gapped r) cols = .ok (gapped r') := rowTakePositions_spec r r' h cols hr

example : (rowTakePositions (rowOfString "A-CG".toList) [3, 0, 0, -3]).toOption.map gapped = some "GAA-".toList := by decide +kernel

/-- A well-formed row's `len` is the length of the string it displays (so rows that display
equally long strings have equal `len`). -/
theorem len_eq_display (r : Row) (h : RowWF r) : len r.map = (gapped r).length :=
  (length_gapped r h).symm

example : RowWF (rowOfString "A--C".toList) := rowWF_ofString _

/-- Reverse-complementing a row (`nucleic_reversed` of the map, `rc` of the sequence) shows the
reverse complement of the string it displayed, and keeps the row well formed. -/
theorem rc_refines (dna : Bool) (r r' : Row) (h : RowWF r) (hr : rowRc dna r = .ok r') :
    RowWF r' ∧ gapped r' = (gapped r).reverse.map (comp dna) := rowRc_spec dna r r' h hr

example : (rowRc true (rowOfString "-AC--G".toList)).toOption.map gapped = some "C--GT-".toList := by decide +kernel

/-- **History theorem** (`aln_refines`): for every alignment with well-formed rows and every finite
sequence of slice / int / rc / take_seqs / take_positions (both polarities) / to_rna / to_dna / `+` /
get_degapped_relative_to / sample with given locations and motif length / to_type round trip /
keep-blocks (`gapped_by_map` with a run-length FeatureMap: single span via `IndelMap.__getitem__`,
several spans via `joined_segments`) / filtered-by-column-mask (`filtered`, `no_degenerates`,
`omit_gap_pos`: the predicate's verdict per column is given, the classes' handling of the kept
columns is what is proved equal) operations, if the
annotatable class completes the history, the rows it then shows are exactly the rows obtained by
running the same history on the plain gapped strings (which is what the dense class does), and all
rows are still well formed.  By induction over the operation list. -/
theorem aln_refines (ops : List AOp) (dna : Bool) (a : AlnA) (hops : ∀ op ∈ ops, OpOK op) (hwf : AllWF a)
    (a' : AlnA) (dna' : Bool) (h : runA dna a ops = .ok (a', dna')) :
    AllWF a' ∧ runD dna (showA a) ops = some (.ok (showA a', dna')) :=
  run_refines ops dna a hops hwf a' dna' h

example : (runA true (ofStrings [("s0", "G-A-T".toList), ("s1", "A-CNT".toList)])
      [.slice (some 1) none, .rc, .takePositions [3, 0] false, .toRna]).toOption.map (fun r => showA r.1)
    = some [("s0", "-A".toList), ("s1", "-A".toList)] := by decide +kernel

/-- **The two classes agree after every history**: starting from the same named gapped strings,
whatever the annotatable class shows after a history is what the dense class holds. -/
theorem array_annotatable_agree_history (ops : List AOp) (dna : Bool) (d : AlnD)
    (hops : ∀ op ∈ ops, OpOK op) (a' : AlnA) (dna' : Bool)
    (h : runA dna (ofStrings d) ops = .ok (a', dna')) :
    runD dna d ops = some (.ok (showA a', dna')) := by
  have := (run_refines ops dna (ofStrings d) hops (allWF_ofStrings d) a' dna' h).2
  rwa [array_annotatable_agree] at this

example : (∀ op ∈ [AOp.slice (some 0) (some 9), AOp.int (-1), AOp.rc, AOp.takePositions [2, 0] true, AOp.degap "s0",
    AOp.sample [2, 0, 2] 3, AOp.reparse], OpOK op) := by
  simp only [List.forall_mem_cons, OpOK, and_self, List.not_mem_nil, false_imp_iff, implies_true]
example : (runA true (ofStrings [("s0", "G-A-TT".toList), ("s1", "A-CNT-".toList)])
      [.degap "s0", .sample [1, 0] 2]).toOption.map (fun r => showA r.1)
    = some [("s0", "TTGA".toList), ("s1", "T-AC".toList)] := by decide +kernel

/-- **Through the real view arithmetic (C01)**: keep each row's data as the C01 sequence model
(parent string + slice record `start/stop/step`, complemented on display when reversed) instead of
its displayed string.  Then for every history of slices (any bounds) and reverse complements —
e.g. slice, rc, slice — the row finally displays what the same history gives on the plain gapped
string.  Uses `C01`'s `str_getitem` / `str_rc` for the sequence and `C08`'s `getitem_spec` /
`reversed_spec` for the map; `cf` is any involutive complement that fixes the gap character. -/
theorem view_history_refines (cf : Char → Char) (hcf : ∀ x, cf (cf x) = x) (hgap : cf '-' = '-')
    (ops : List VOp) (rv rv' : RowV) (h : RowVWF cf rv) (hr : runV rv ops = .ok rv') :
    RowVWF cf rv' ∧ gapped (rv'.toRow cf) = runStr cf (gapped (rv.toRow cf)) ops :=
  runV_refines cf hcf hgap ops rv rv' h hr

example : ∃ cf : Char → Char, (∀ x, cf (cf x) = x) ∧ cf '-' = '-' := ⟨id, fun _ => rfl, rfl⟩
example : (runV ⟨fromGapped ("A-CG-T".toList.map isGap), SeqWrap.ofString "ACGT".toList true⟩
      [.slice (some 1) (some 9), .rc, .slice (some 1) none]).toOption.map (fun r => gapped (r.toRow (comp true)))
    = some "-CG-".toList := by decide +kernel

/-- Keeping blocks of columns (`Aligned.__getitem__(FeatureMap)`): for blocks sorted by start, the
row displays the blocks of its string joined together. -/
theorem keep_refines (r r' : Row) (h : RowWF r) (locs : List (Int × Int)) (hs : sortPairs locs = locs)
    (hr : rowKeep r locs = .ok r') : RowWF r' ∧ gapped r' = denseKeep (gapped r) locs :=
  rowKeep_spec r r' h locs hs hr

example : (rowKeep (rowOfString "A--CG-T".toList) [(1, 3), (4, 7)]).toOption.map gapped = some "--G-T".toList := by decide +kernel

/-- The run-length blocks `filtered()` builds from the per-column verdicts select exactly the columns
with a positive verdict (so the annotatable class, going through blocks and `joined_segments`, and
the dense class, taking columns, agree). -/
theorem filter_blocks_eq_columns (s : List Char) (mask : List Bool) :
    denseKeep s (maskRuns 0 none mask) = denseFilter s mask := denseKeep_maskRuns s mask

example : (runA true (ofStrings [("s0", "G-ANT".toList), ("s1", "A-CNT".toList)])
      [.filterMask [true, false, true, false, true], .keep [(0, 1), (2, 3)]]).toOption.map (fun r => showA r.1)
    = some [("s0", "GT".toList), ("s1", "AT".toList)] := by decide +kernel

/-! ## Totality of `rc` and of integer indexing (the two are conditional above) -/

/-- `Aligned.rc()` never raises on a well-formed row; with `rc_refines` this is total correctness. -/
theorem rc_total (dna : Bool) (r : Row) (h : RowWF r) :
    ∃ r', rowRc dna r = .ok r' ∧ RowWF r' ∧ gapped r' = (gapped r).reverse.map (comp dna) := by
  cases hm : nucleicReversed r.map with
  | error e =>
    rw [nucleicReversed_ok r.map h.1] at hm
    cases hm
  | ok m =>
    have hr : rowRc dna r = .ok ⟨m, (r.data.reverse).map (comp dna)⟩ := by
      unfold rowRc
      rw [hm]
    exact ⟨_, hr, rowRc_spec dna r _ h hr⟩

example : ∃ r', rowRc true (rowOfString "-AC--G".toList) = .ok r' ∧ gapped r' = "C--GT-".toList := ⟨_, rfl, by decide⟩

/-- Integer indexing returns a row for every index Python accepts (`-len ≤ i < len`) and shows that
column's character; outside that range it is an IndexError, as for a string. -/
theorem int_total (r : Row) (h : RowWF r) (i : Int) (h0 : -len r.map ≤ i) (h1 : i < len r.map) :
    ∃ r', rowInt r i = .ok r' ∧ RowWF r' ∧ ∃ c, PySlice.index (gapped r) i = some c ∧ gapped r' = [c] := by
  have hin := (wrapIdx_in_range (len r.map) i).mpr ⟨h0, h1⟩
  obtain ⟨r', hr, _⟩ := slice_total r h (some (View.wrapIdx i (len r.map))) (some (View.wrapIdx i (len r.map) + 1))
    (by intro x hx; cases hx; omega) (by intro y hy; cases hy; omega)
  have hr : rowInt r i = .ok r' := by rw [rowInt_eq, if_pos hin]; exact hr
  exact ⟨r', hr, int_refines r r' h i hr⟩

theorem int_out_of_range (r : Row) (i : Int) (h : i < -len r.map ∨ len r.map ≤ i) :
    rowInt r i = .error .indexError := by
  rw [rowInt_eq, if_neg fun hin => by have := (wrapIdx_in_range _ _).mp hin; omega]

example : ∃ r', rowInt (rowOfString "A-C".toList) (-3) = .ok r' ∧ gapped r' = ['A'] := ⟨_, rfl, by decide⟩
example : rowInt (rowOfString "A-C".toList) 3 = .error .indexError := rfl

/- Not proved: the error clause of the history theorem (both classes raise IndexError together; a negative slice
   bound below -len is refused by the annotatable class but clamped by the dense one).  In `AOp.filterMask` the
   verdict per column is an input; histories in which the model evaluates the predicate (`AllowedCharacters`,
   `GapsOk`) are in `Props/C03Filter.lean`. -/

end CogentModel.C03
