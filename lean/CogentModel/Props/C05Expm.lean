import CogentModel.Proofs.ExpmLemmas
import CogentModel.Proofs.EigenLemmas
/-!
# C05 — the rational exponentiators as Markov kernels (Padé, Taylor) and the `solve` model

Everything here is about the executable definitions of `Model/Expm.lean`, over an arbitrary field, for every
dimension, every Padé order `q`, every scaling `j`, every Taylor starting order and amount of lengthening.
-/
namespace CogentModel.C05
open CogentModel.RateMatrix CogentModel.Expm Finset

variable {K : Type*} [Field K]

section
variable [DecidableEq K]

/-! ## `solve` -/

/-- The Gauss–Jordan model of `numpy.linalg.solve` is **correct**: whenever it returns `X`, `D·X = N` entrywise, and `X`
is the only solution. -/
theorem solve_correct (n : Nat) (D N X : Mat K) (h : solve n D N = some X) :
    (∀ i j, i < n → j < n → sumTo n (fun k => mget D i k * mget X k j) = mget N i j) ∧
    ∀ Y : Mat K, (∀ i j, i < n → j < n → sumTo n (fun k => mget D i k * mget Y k j) = mget N i j) →
      ∀ i j, i < n → j < n → mget Y i j = mget X i j := by
  obtain ⟨h1, h2⟩ := Expm.solve_correct n D N X h
  exact ⟨fun i j hi hj => (mget_matMul_sumTo n D X hi hj).symm.trans (h1 i j hi hj),
    fun Y hY => h2 Y fun i j hi hj => (mget_matMul_sumTo n D Y hi hj).trans (hY i j hi hj)⟩

example : solve 2 (#[#[2, 1], #[1, 1]] : Mat ℚ) #[#[1, 0], #[0, 1]] = some #[#[1, -1], #[-1, 2]] := by decide +kernel

/-- … and **complete**: it succeeds exactly when `D` is non-singular (`D·Y = 0` only for `Y = 0`); i.e. it fails only when
some pivot column is entirely zero, and then a non-trivial kernel element exists. The right-hand side plays no role. -/
theorem solve_succeeds_iff_nonsingular (n : Nat) (D N : Mat K) :
    (solve n D N).isSome = true ↔
      ∀ Y : Mat K, (∀ i j, i < n → j < n → sumTo n (fun k => mget D i k * mget Y k j) = 0) →
        ∀ i j, i < n → j < n → mget Y i j = 0 := by
  rw [solve_isSome_iff]
  exact ⟨fun h Y hY => h Y fun i j hi hj => (mget_matMul_sumTo n D Y hi hj).trans (hY i j hi hj),
    fun h Y hY => h Y fun i j hi hj => (mget_matMul_sumTo n D Y hi hj).symm.trans (hY i j hi hj)⟩

example : solve 2 (#[#[1, 2], #[2, 4]] : Mat ℚ) #[#[1, 0], #[0, 1]] = none := by decide +kernel

/-- in Mathlib terms: success ⇒ `det D ≠ 0` and the result is `D⁻¹·N` -/
theorem solve_eq_inv_mul (n : Nat) (D N X : Mat K) (h : solve n D N = some X) :
    (toM n D).det ≠ 0 ∧ toM n X = (toM n D)⁻¹ * toM n N := by
  obtain ⟨u, hu, hX⟩ := toM_solve n D N X h
  exact ⟨((Matrix.isUnit_iff_isUnit_det _).mp ⟨u, hu⟩).ne_zero, by rw [hX, Matrix.coe_units_inv, hu]⟩

/-! ## Padé (scaling, `solve`, squarings), every order `q` and scaling `j` -/

/-- `P·Q = Q·P` -/
theorem pade_commutes_with_Q (n : Nat) (Q : Mat K) (t : K) (q j : Nat) (P : Mat K) (h : padeCore n Q t q j = some P)
    (a b : Nat) (ha : a < n) (hb : b < n) :
    sumTo n (fun k => mget P a k * mget Q k b) = sumTo n (fun k => mget Q a k * mget P k b) := by
  rw [sumTo_mul_eq n P Q ha hb, sumTo_mul_eq n Q P ha hb, ((padeCore_ratVal Q t q j P h).commute (Commute.refl _)).eq]

/-- stationarity is inherited: `πQ = 0 ⇒ πP = π` -/
theorem pade_stationary (n : Nat) (Q : Mat K) (pi : Vec K) (t : K) (q j : Nat) (P : Mat K)
    (hpi : ∀ b, b < n → sumTo n (fun a => vget pi a * mget Q a b) = 0) (h : padeCore n Q t q j = some P)
    (b : Nat) (hb : b < n) : sumTo n (fun a => vget pi a * mget P a b) = vget pi b :=
  leftvec_concl n P pi ((padeCore_ratVal Q t q j P h).left_fixed (leftvec_hyp n Q pi hpi)) b hb

/-- detailed balance is inherited: `π_a Q_ab = π_b Q_ba ⇒ π_a P_ab = π_b P_ba` -/
theorem pade_detailed_balance (n : Nat) (Q : Mat K) (pi : Vec K) (t : K) (q j : Nat) (P : Mat K)
    (hdb : ∀ a b, a < n → b < n → vget pi a * mget Q a b = vget pi b * mget Q b a) (h : padeCore n Q t q j = some P)
    (a b : Nat) (ha : a < n) (hb : b < n) : vget pi a * mget P a b = vget pi b * mget P b a :=
  (diag_iff n P pi).mpr ((padeCore_ratVal Q t q j P h).reversible ((diag_iff n Q pi).mp hdb)) a b ha hb

/-- the value: `P = (D⁻¹ N)^(2^j)` with `N`, `D` the numerator / denominator polynomials at `tQ/2^j` -/
theorem pade_eq_pow (n : Nat) (Q : Mat K) (t : K) (q j : Nat) (P : Mat K) (h : padeCore n Q t q j = some P) :
    toM n P = ((toM n (padeND n (padeArg n Q t j) q).2)⁻¹ * toM n (padeND n (padeArg n Q t j) q).1) ^ (2 ^ j) := by
  obtain ⟨u, hu, hP⟩ := padeCore_unit Q t q j P h
  rw [hP, Matrix.coe_units_inv, hu]

example : (padeCore 2 (#[#[-1, 1], #[2, -2]] : Mat ℚ) (1/2) 3 1).isSome = true := by decide +kernel
example : ∀ b, b < 2 → sumTo 2 (fun a => vget (#[2/3, 1/3] : Vec ℚ) a * mget (#[#[-1, 1], #[2, -2]] : Mat ℚ) a b) = 0 := by
  decide +kernel
end

/-! ## Taylor, every starting order and every amount of lengthening -/
section taylor
variable [LT K] [DecidableLT K] [LE K] [DecidableLE K]

theorem taylor_commutes_with_Q (n : Nat) (rtol atol : K) (Q : Mat K) (t : K) (q fuel : Nat)
    (a b : Nat) (ha : a < n) (hb : b < n) :
    sumTo n (fun k => mget (taylor n rtol atol Q t q fuel).1 a k * mget Q k b) =
      sumTo n (fun k => mget Q a k * mget (taylor n rtol atol Q t q fuel).1 k b) := by
  rw [sumTo_mul_eq n _ Q ha hb, sumTo_mul_eq n Q _ ha hb, ((taylor_ratVal rtol atol Q t q fuel).commute (Commute.refl _)).eq]

theorem taylor_stationary (n : Nat) (rtol atol : K) (Q : Mat K) (pi : Vec K) (t : K) (q fuel : Nat)
    (hpi : ∀ b, b < n → sumTo n (fun a => vget pi a * mget Q a b) = 0) (b : Nat) (hb : b < n) :
    sumTo n (fun a => vget pi a * mget (taylor n rtol atol Q t q fuel).1 a b) = vget pi b :=
  leftvec_concl n _ pi ((taylor_ratVal rtol atol Q t q fuel).left_fixed (leftvec_hyp n Q pi hpi)) b hb

theorem taylor_detailed_balance (n : Nat) (rtol atol : K) (Q : Mat K) (pi : Vec K) (t : K) (q fuel : Nat)
    (hdb : ∀ a b, a < n → b < n → vget pi a * mget Q a b = vget pi b * mget Q b a)
    (a b : Nat) (ha : a < n) (hb : b < n) :
    vget pi a * mget (taylor n rtol atol Q t q fuel).1 a b = vget pi b * mget (taylor n rtol atol Q t q fuel).1 b a :=
  (diag_iff n _ pi).mpr ((taylor_ratVal rtol atol Q t q fuel).reversible ((diag_iff n Q pi).mp hdb)) a b ha hb
end taylor

example : ∀ a b, a < 2 → b < 2 → vget (#[2/3, 1/3] : Vec ℚ) a * mget (#[#[-1, 1], #[2, -2]] : Mat ℚ) a b =
    vget (#[2/3, 1/3] : Vec ℚ) b * mget (#[#[-1, 1], #[2, -2]] : Mat ℚ) b a :=
  fun a b ha hb => (by decide +kernel : ∀ a, a < 2 → ∀ b, b < 2 → vget (#[2/3, 1/3] : Vec ℚ) a * mget (#[#[-1, 1], #[2, -2]] : Mat ℚ) a b =
    vget (#[2/3, 1/3] : Vec ℚ) b * mget (#[#[-1, 1], #[2, -2]] : Mat ℚ) b a) a ha b hb

/-! ## the eigen back-ends (`eigen`, `checked`, and `either` when it does not fall back)

`EigenExponentiator.__call__` computes `inner(evT * exp(t*roots), evI)`.  The theorems take the stored matrices as
given and assume the decomposition is **exact** — `evIᵀ·evT = I` and `CheckedExponentiator`'s reconstruction `reQ`
equals `Q` (its precision test with zero tolerance) — and an abstract exponential `f` with `f 0 = 1`,
`f (x+y) = f x · f y`.  What LAPACK and float `exp` do to these hypotheses is *not* modelled. -/
section eigen
variable (n : Nat) (Q evT evI : Mat K) (roots : Vec K)
  (hinv : ∀ i j, i < n → j < n → sumTo n (fun k => mget evI k i * mget evT k j) = if i = j then 1 else 0)
  (hdec : ∀ i j, i < n → j < n → mget (eigenReQ n evT evI roots) i j = mget Q i j)
include hinv hdec

/-- `P(0) = I` -/
theorem eigen_zero (f : K → K) (hf0 : f 0 = 1) (a b : Nat) (ha : a < n) (hb : b < n) :
    mget (eigenP n evT evI roots f 0) a b = if a = b then 1 else 0 := by
  have := congrFun (congrFun (eigenP_zero (isEigenDecomp_of Q evT evI roots hinv hdec) f hf0) ⟨a, ha⟩) ⟨b, hb⟩
  rwa [toM_apply, Matrix.one_apply, if_congr Fin.ext_iff rfl rfl] at this

/-- `P(s)·P(t) = P(s+t)` -/
theorem eigen_semigroup (f : K → K) (hf : ∀ x y, f (x + y) = f x * f y) (s t : K) (a b : Nat) (ha : a < n) (hb : b < n) :
    sumTo n (fun k => mget (eigenP n evT evI roots f s) a k * mget (eigenP n evT evI roots f t) k b) =
      mget (eigenP n evT evI roots f (s + t)) a b := by
  rw [sumTo_mul_eq n _ _ ha hb, ← eigenP_add (isEigenDecomp_of Q evT evI roots hinv hdec) f hf s t, toM_apply]

/-- unit row sums: `Q·1 = 0 ⇒ P(t)·1 = 1` -/
theorem eigen_rowsum_one (f : K → K) (hf0 : f 0 = 1) (t : K)
    (hQ : ∀ a, a < n → sumTo n (fun k => mget Q a k) = 0) (a : Nat) (ha : a < n) :
    sumTo n (fun k => mget (eigenP n evT evI roots f t) a k) = 1 :=
  rowsOne_iff_mul_ones.mpr (eigenP_right_fixed (isEigenDecomp_of Q evT evI roots hinv hdec) f hf0 t _
    (RowsZero.mul_ones (n := n) (A := Q) hQ)) a ha

/-- stationarity: `πQ = 0 ⇒ πP(t) = π` -/
theorem eigen_stationary (f : K → K) (hf0 : f 0 = 1) (t : K) (pi : Vec K)
    (hpi : ∀ b, b < n → sumTo n (fun a => vget pi a * mget Q a b) = 0) (b : Nat) (hb : b < n) :
    sumTo n (fun a => vget pi a * mget (eigenP n evT evI roots f t) a b) = vget pi b :=
  leftvec_concl n _ pi (eigenP_left_fixed (isEigenDecomp_of Q evT evI roots hinv hdec) f hf0 t _ (leftvec_hyp n Q pi hpi)) b hb

/-- `P(t)·Q = Q·P(t)` -/
theorem eigen_commutes_with_Q (f : K → K) (t : K) (a b : Nat) (ha : a < n) (hb : b < n) :
    sumTo n (fun k => mget (eigenP n evT evI roots f t) a k * mget Q k b) =
      sumTo n (fun k => mget Q a k * mget (eigenP n evT evI roots f t) k b) := by
  rw [sumTo_mul_eq n _ Q ha hb, sumTo_mul_eq n Q _ ha hb,
    (eigenP_commute (isEigenDecomp_of Q evT evI roots hinv hdec) f t).eq]
end eigen

/-- a concrete exact decomposition (`Q = [[-1,1],[2,-2]]`, eigenvalues `0, -3`) satisfying both hypotheses -/
example : (∀ i, i < 2 → ∀ j, j < 2 →
      sumTo 2 (fun k => mget (#[#[2/3, 1/3], #[1/3, -1/3]] : Mat ℚ) k i * mget (#[#[1, 1], #[1, -2]] : Mat ℚ) k j) = if i = j then 1 else 0) ∧
    (∀ i, i < 2 → ∀ j, j < 2 → mget (eigenReQ 2 (#[#[1, 1], #[1, -2]] : Mat ℚ) #[#[2/3, 1/3], #[1/3, -1/3]] #[0, -3]) i j =
      mget (#[#[-1, 1], #[2, -2]] : Mat ℚ) i j) := by
  constructor <;> decide +kernel

end CogentModel.C05
