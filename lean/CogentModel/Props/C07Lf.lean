import CogentModel.Model.ControllerLf
import CogentModel.Proofs.CtlLf
import CogentModel.Proofs.CalcPure
import CogentModel.Model.ControllerFail
import CogentModel.Proofs.CtlFail
import CogentModel.Props.C07
/-! # C07 — likelihood-function level operations on the controller model

`set_param_rule`, `set_motif_probs`, `set_alignment` (its own `updates_postponed` block, per-locus
alignment leaf + motif probs counted from the data) and user `updates_postponed` blocks (left
normally or by an exception) are compiled to `assign` / `enter` / `exit` / `xexit` histories
(`Model/ControllerLf.lean`), so `controller_consistent` and `controller_equals_fresh` cover them. -/
namespace CogentModel.C07
open CogentModel.Ctl

variable {V : Type} [Inhabited V] [DecidableEq V]

/-- **lf_ops_consistent**: after ANY history of `set_param_rule` / `set_motif_probs` /
`set_alignment` (new leaf data for every locus, optionally with motif probs recounted from it,
inside its own postponed block) / user `updates_postponed` blocks around them (left normally or by
an exception), no block is open, nothing is suspended or marked dirty, every definition holds its
rule applied to the current values — in particular everything downstream of a replaced alignment
or motif-prob vector has been recomputed — and all values equal those of a controller newly built
from the current settings. -/
theorem lf_ops_consistent (g : Ctl.Graph V) (hwf : Ctl.WF g) (setting : Nat → V) (hist : List (LfOp V)) :
    (runLf g (Ctl.init g setting) hist).stack = [] ∧
    (runLf g (Ctl.init g setting) hist).suspended = false ∧
    (runLf g (Ctl.init g setting) hist).changed = [] ∧
    (∀ k, k < g.length → LocalOK g (runLf g (Ctl.init g setting) hist) k) ∧
    (∀ k, k < g.length → (runLf g (Ctl.init g setting) hist).values k
        = (Ctl.init g (runLf g (Ctl.init g setting) hist).setting).values k) := by
  have h0 : (Ctl.init g setting).stack = [] := (updateIntermediate_fields g _).2.2
  have hst : (runLf g (Ctl.init g setting) hist).stack = [] := by
    unfold runLf
    rw [(frame_flatMap g compileLf hist (fun o _ => frame_lf g o) _).1, h0]
  obtain ⟨a, b, c⟩ := (controller_consistent g hwf setting (hist.flatMap compileLf)).2 hst
  exact ⟨hst, a, b, c, controller_equals_fresh g hwf setting (hist.flatMap compileLf) hst⟩

/-- non-vacuity: leaves 0 = alignment, 1 = motif probs, 2 = kappa; 3 = Q(mprobs, kappa),
4 = lnL(alignment, Q). A rule, a new alignment that also recounts the motif probs, then a user
block that raises after setting motif probs, then another rule: lnL follows every time. -/
def exLfG : Ctl.Graph Int :=
  [.leaf, .leaf, .leaf, .derived [1, 2] (fun l => l.getD 0 0 * 10 + l.getD 1 0),
   .derived [0, 3] (fun l => l.getD 0 0 * 1000 + l.getD 1 0)]

example : Ctl.WF exLfG := by
  unfold Ctl.WF
  decide

example :
    let s := runLf exLfG (Ctl.init exLfG (fun _ => 1))
      [.simple (.setParam 2 5), .simple (.setAlignment [(0, 7, some (1, 3))]),
       .postponedRaises [.setMotifProbs [(1, 4)]], .simple (.setParam 2 6)]
    (List.range 5).map s.values = [7, 4, 6, 46, 7046] ∧ s.stack = [] ∧ s.suspended = false := by
  decide +kernel

/-! ## definitions whose `update()` raises part way through the walk -/
section failing

/-- **controller_dirty_never_lost**: with definitions whose `update()` may raise (an alignment that
cannot be converted, a calc that fails), after ANY history of assignments and nested blocks in which
any number of recalculations were cut short by the exception (at an assignment, or in the
`finally:` at the end of a block), every definition that is NOT marked dirty holds its rule applied
to the current values, and the block stack / suspension flag are intact.  Hence as soon as one
recalculation completes (`changed = []`), EVERY definition is consistent with the current settings —
whatever failed before, the caller only has to repair the offending input. -/
theorem controller_dirty_never_lost (g : CtlF.Graph V) (hwf : CtlF.WF g) (s0 : Ctl.St V)
    (h0 : CtlF.Inv g s0) (hist : List (Op V)) :
    CtlF.Inv g (CtlF.run g s0 hist) ∧
    ((CtlF.run g s0 hist).changed = [] → ∀ k, k < g.length → CtlF.LocalOK g (CtlF.run g s0 hist) k) := by
  have hI : CtlF.Inv g (CtlF.run g s0 hist) := by
    induction hist generalizing s0 with
    | nil => exact h0
    | cons o os ih =>
      simp only [CtlF.run]
      exact ih _ (CtlF.step_inv g hwf s0 o h0).1
  refine ⟨hI, fun hc k hk => hI.j k hk ?_⟩
  rw [hc]; simp

/-- a recalculation that completes (at an assignment outside every block, or at the end of the
outermost block) clears the dirty set — so the situation of the theorem above is reached by any
single operation that returns normally -/
theorem completed_walk_cleans (g : CtlF.Graph V) (hwf : CtlF.WF g) (s : Ctl.St V) (hI : CtlF.Inv g s)
    (o : Op V) (hok : (CtlF.step g s o).2 = true) (hns : (CtlF.step g s o).1.suspended = false)
    (hwalk : s.stack ≠ [] ∧ o ≠ Op.enter ∨ ∃ k v, o = Op.assign k v) :
    (CtlF.step g s o).1.changed = [] :=
  (CtlF.step_inv g hwf s o hI).2 hok hns hwalk

/-- non-vacuity: leaves 0 (alignment), 1 (kappa); 2 = f(alignment) raises when the alignment is 9;
3 = g(kappa); 4 = h(2, 3).  In one block kappa := 5 and alignment := 9: the end-of-block walk raises
at definition 2 (3 and 4 are still dirty); the caller repairs ONLY the alignment: everything,
including what depends on kappa, is recomputed. -/
def exFailG : CtlF.Graph Int :=
  [.leaf, .leaf, .derived [0] (fun l => if l.getD 0 0 = 9 then none else some (l.getD 0 0 + 100)),
   .derived [1] (fun l => some (l.getD 0 0 * 10)), .derived [2, 3] (fun l => some (l.getD 0 0 + l.getD 1 0))]

def exFailS0 : Ctl.St Int :=
  { values := fun k => [1, 2, 101, 20, 121].getD k 0, setting := fun k => [1, 2].getD k 0,
    changed := [], suspended := false, stack := [] }

example : (CtlF.step exFailG (CtlF.run exFailG exFailS0 [.enter, .assign 1 5, .assign 0 9]) .exit).2 = false ∧
    (CtlF.run exFailG exFailS0 [.enter, .assign 1 5, .assign 0 9, .exit]).suspended = false ∧
    (CtlF.run exFailG exFailS0 [.enter, .assign 1 5, .assign 0 9, .exit]).changed ≠ [] ∧
    (List.range 5).map (CtlF.run exFailG exFailS0 [.enter, .assign 1 5, .assign 0 9, .exit, .assign 0 3]).values
      = [3, 5, 103, 50, 153] ∧
    (CtlF.run exFailG exFailS0 [.enter, .assign 1 5, .assign 0 9, .exit, .assign 0 3]).changed = [] := by
  decide +kernel

end failing

/-! ## the calculator is a pure function of the vector, whatever its history -/
section pure
open CogentModel.Calc

theorem runCalls_append (g : Calc.Graph V) (s : Calc.St V) (a b : List (List V)) :
    runCalls g s (a ++ b) = runCalls g (runCalls g s a) b := by
  induction a generalizing s with
  | nil => rfl
  | cons v a ih => simp only [List.cons_append, runCalls]; exact ih _

/-- **calculator_is_pure**: after ANY history of `calculator(x)` calls (succeeding, reverting,
raising), the next call `calculator(values)` returns exactly what a calculation from scratch at
`values` gives — the same value, and it raises if and only if the fresh calculation raises
(`objective g values`).  The two-buffer / undo / recycling machinery is unobservable. -/
theorem calculator_is_pure (g : Calc.Graph V) (hwf : g.WF) (x0 : Nat → V) (s0 : Calc.St V)
    (h0 : Calc.init g x0 = some s0) (hpos : 0 < g.n) (vs : List (List V)) (values : List V) :
    (call g (runCalls g s0 vs) values).2 = objective g values := by
  obtain ⟨hist, hv, he⟩ := calls_are_valid_changes g s0 vs
  rw [he]
  exact call_eq_objective g hwf hpos _ (inv_reachable g hwf x0 s0 h0 hist hv) values

example : (Calc.init exG exX0).map (fun s0 => (call exG (runCalls exG s0 exCalls) [4, 2]).2) = some (objective exG [4, 2]) ∧
    objective exG [4, 2] = none ∧ objective exG [2, 5] = some 108 := by decide +kernel

end pure

end CogentModel.C07
