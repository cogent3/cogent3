import CogentModel.Props.C17
import CogentModel.Proofs.AnnotDbX
import CogentModel.Proofs.AnnotDbLike
/-! # C17 (extension) — rows without a location, alignment features, GenBank record loading

`featuresTables`, `recordsTables`, `countTables`, `featuresKeepOa`, `recordsKeepOa`, `countKeepOa`, `mixinChildPattern`, `mixinChildColumn`, `subsetStart`, `subsetStop`, `attrWrapRecords`, `attrWrapCount`,
`childSkip`, `parentSkip` are **generated** from the current source of `core/annotation_db.py`
(`Gen/C17Query.lean`, `translator/c17_query2lean.py`); the theorems up to `parent_keep_iff`, and
`mixin_child_pattern`, re-prove on every run that they mean what the hand model and the spec say, for all
arguments. -/
namespace CogentModel.C17X
open CogentModel.AnnotDb CogentModel.AnnotDbSpec CogentModel.Gen.C17Sql CogentModel.Gen.C17Query CogentModel.C17

/-- Which tables a query visits: only `user` when alignment features are asked for, else all. -/
theorem tables_choice (oa : Option Bool) (names : List String) :
    featuresTables oa names = (if oa = some true then ["user"] else names) ∧
    recordsTables oa names = (if oa = some true then ["user"] else names) ∧
    countTables oa names = (if oa = some true then ["user"] else names) := by
  unfold featuresTables recordsTables countTables
  rcases oa with _ | _ | _ <;> simp

example : featuresTables (some true) ["gff", "user"] = ["user"] ∧ featuresTables (some false) ["gff", "user"] = ["gff", "user"] := by
  decide +kernel

/-- **Per-table argument copying.**  In all three query methods the copy of the arguments made for the table
called `n` still holds `on_alignment` exactly when `n` is the `user` table (the only one with such a column). -/
theorem oa_kept_only_for_user (n : String) :
    featuresKeepOa n = decide (n = "user") ∧ recordsKeepOa n = decide (n = "user") ∧ countKeepOa n = decide (n = "user") := by
  unfold featuresKeepOa recordsKeepOa countKeepOa
  by_cases h : n = "user" <;> simp [h]

example : featuresKeepOa "user" = true ∧ recordsKeepOa "gff" = false ∧ countKeepOa "gb" = false := by decide +kernel

/-- … so no gff / gb table is ever asked for a column it does not have -/
theorem oa_never_reaches_main (oa : Option Bool) (names : List String) :
    oaReachesMain featuresKeepOa oa names = false ∧ oaReachesMain recordsKeepOa oa names = false ∧
    oaReachesMain countKeepOa oa names = false := by
  have h : ∀ keep : String → Bool, (∀ n, keep n = decide (n = "user")) → oaReachesMain keep oa names = false := by
    intro keep hk
    unfold oaReachesMain
    have : (names.any fun n => n != "user" && keep n) = false := by
      rw [List.any_eq_false]
      intro n _
      rw [hk n]
      by_cases h : n = "user" <;> simp [h]
    rw [this, Bool.and_false]
  exact ⟨h _ fun n => (oa_kept_only_for_user n).1, h _ fun n => (oa_kept_only_for_user n).2.1,
    h _ fun n => (oa_kept_only_for_user n).2.2⟩

/-- `subset()` hands its window bounds on unchanged — in particular a bound of 0 stays a bound. -/
theorem subset_bounds_identity (x : Option Int) : subsetStart x = x ∧ subsetStop x = x := by
  unfold subsetStart subsetStop
  cases x <;> simp

example : subsetStart (some 0) = some 0 ∧ subsetStop none = none := by decide +kernel

/-- Both `_get_records_matching` and `num_matches` wrap the `attributes` text exactly when the model's
`prepAttr` does (non-empty, no `%%`). -/
theorem attr_wrap_is_prepAttr (a : String) :
    (if attrWrapRecords (some a) then "%" ++ a ++ "%" else a) = prepAttr a ∧
    (if attrWrapCount (some a) then "%" ++ a ++ "%" else a) = prepAttr a ∧
    attrWrapRecords none = false ∧ attrWrapCount none = false := by
  unfold attrWrapRecords attrWrapCount prepAttr hasSub
  have e : "%%".toList = ['%', '%'] := by decide +kernel
  simp only [Option.getD_some, e, hasSubL_pp]
  by_cases h1 : a = "" <;> cases h2 : hasDoublePercent a.toList <;> simp [h1]

example : attrWrapRecords (some "zq") = true ∧ attrWrapRecords (some "%%zq") = false ∧ attrWrapCount (some "") = false := by
  decide +kernel

/-- GenBank children: a candidate row `[cs, ce)` is kept for the window `[a, b)` iff it starts inside
the window and ends inside it; for a proper row that is containment. -/
theorem child_keep_iff (a b cs ce : Int) :
    (childSkip a b cs ce = false ↔ (a ≤ cs ∧ cs < b ∧ a < ce ∧ ce ≤ b)) ∧
    (cs < ce → (childSkip a b cs ce = false ↔ within cs ce a b)) := by
  unfold childSkip within
  simp only [Bool.not_eq_false', Bool.and_eq_true, decide_eq_true_eq]
  constructor
  · omega
  · intro h; omega

/-- GenBank parent: a candidate row is kept iff its extent contains the window. -/
theorem parent_keep_iff (a b cs ce : Int) : parentSkip a b cs ce = false ↔ within a b cs ce := by
  unfold parentSkip within
  simp only [Bool.or_eq_false_iff, decide_eq_false_iff_not]
  omega

example : childSkip 0 10 2 10 = false ∧ childSkip 0 10 2 11 = true ∧ parentSkip 3 5 3 5 = false ∧ parentSkip 3 5 4 9 = true := by
  decide +kernel

/-- a row without coordinates is selected by no query that has a window, whatever else is asked -/
theorem no_location_never_in_window (q : Query) (oa : Option Bool) (r : XRec) (hr : r.located = false)
    (hq : q.start.isSome ∨ q.stop.isSome) : xRowMatches q oa r = false := by
  have hb : (q.start.isSome || q.stop.isSome) = true := Bool.or_eq_true _ _ ▸ hq
  rw [xRowMatches, xWindow_eq, hb, hr, if_pos rfl, Bool.false_and, Bool.and_false]

/-- any of the three table loops, once the generated pieces are replaced by their plain reading -/
theorem tableQuery_plain (keep : String → Bool) (hk : ∀ n, keep n = decide (n = "user")) (db : XDb) (q : Query) (oa : Option Bool) :
    tableQuery keep db q oa = fun n => (db.table n).filter (xRowMatches q (if n = "user" then oa else none)) := by
  funext n
  unfold tableQuery
  rw [hk n]
  by_cases h : n = "user" <;> simp [h]

/-- visiting `["user"] if on_alignment else table_names`, every table with its own copy of the arguments
(`on_alignment` kept for `user` only), selects exactly the rows of the linear scan -/
theorem table_loop_is_scan (db : XDb) (q : Query) (oa : Option Bool) (hdb : db.WF)
    (hw : ∀ r ∈ db.records, XWinHyp q r) :
    ((if oa = some true then ["user"] else tableNames db.kind).flatMap fun n =>
      (db.table n).filter (xRowMatches q (if n = "user" then oa else none))) = xLinearScan db.records q oa := by
  unfold xLinearScan XDb.records
  rw [List.filter_flatMap]
  by_cases hoa : oa = some true
  · -- only `user` is visited, and nothing in the gff / gb table is an alignment feature
    subst hoa
    have hu : db.user.filter (xRowMatches q (some true)) = db.user.filter (xSpecMatch q (some true)) :=
      List.filter_congr fun r hr => xRow_user clauses_ok q _ r (hdb.user r hr) (hw r (by
        unfold XDb.records; cases db.kind <;> simp [tableNames, XDb.table, hr]))
    have hm : db.main.filter (xSpecMatch q (some true)) = [] :=
      List.filter_eq_nil_iff.mpr fun r hr => by simp [xRow_main_aln q r (hdb.main r hr)]
    cases db.kind <;> simp [tableNames, XDb.table, hm, hu]
  · rw [if_neg hoa]
    refine flatMap_congr_mem fun n hn => List.filter_congr fun r hr => ?_
    have hwr := hw r (List.mem_flatMap.mpr ⟨n, hn, hr⟩)
    unfold XDb.table at hr
    by_cases hu : n = "user"
    · rw [if_pos hu] at hr ⊢
      exact xRow_user clauses_ok q oa r (hdb.user r hr) hwr
    · rw [if_neg hu] at hr ⊢
      exact xRow_main clauses_ok q oa r (hdb.main r hr) hoa hwr

/-- the rows `get_features_matching` selects (before the feature dicts are built) are exactly the rows
of the linear scan: tables in `table_names` order, each with its own copy of the arguments -/
theorem features_selection_is_scan (db : XDb) (q : Query) (oa : Option Bool) (hdb : db.WF)
    (hw : ∀ r ∈ db.records, XWinHyp q r) :
    selectFeaturesX db q oa = xLinearScan db.records q oa := by
  unfold selectFeaturesX
  rw [(tables_choice oa _).1, tableQuery_plain _ (fun n => (oa_kept_only_for_user n).1)]
  exact table_loop_is_scan db q oa hdb hw

/-- **get_features_matching = linear scan, on_alignment included.**  For every db class, every subset
of the column arguments, every window mode, and `on_alignment` not passed / `False` / `True`: when all
selected rows have a location, the call returns exactly the multiset the scan selects. -/
theorem features_matching_is_scan (db : XDb) (q : Query) (oa : Option Bool) (hdb : db.WF)
    (hw : ∀ r ∈ db.records, XWinHyp q r) (hl : ∀ r ∈ xLinearScan db.records q oa, r.located = true) :
    ∃ l, getFeaturesMatchingX db q oa = .ok l ∧ l.Perm (xLinearScan db.records q oa) := by
  unfold getFeaturesMatchingX
  simp only [features_selection_is_scan db q oa hdb hw, (oa_never_reaches_main oa _).1, Bool.false_eq_true, if_false]
  rw [if_pos (List.all_eq_true.mpr fun r hr => by simpa using hl r hr)]
  exact ⟨_, rfl, List.Perm.refl _⟩

/- FULL STATEMENT (not proved): the same without `hl`.  False of the mirrored model and of the code (open
   finding C17-genbank-row-without-location-breaks-feature-queries): a selected row with NULL spans makes the
   call raise TypeError instead of returning the selection. -/
theorem features_matching_no_location_counter :
    let g : XRec := { row := mkUserRec "s1" "gene" "ab" (some "+") none [(0, 5)], located := true, onAln := none }
    let b : XRec := { row := { (mkUserRec "s1" "cds" "b" none none []) with spans := [] }, located := false, onAln := none }
    let db : XDb := { kind := .genbank, main := [g, b], user := [] }
    getFeaturesMatchingX db { biotype := some "cds" } none = .error .typeError ∧
    xLinearScan db.records { biotype := some "cds" } none = [b] ∧
    getFeaturesMatchingX db { biotype := some "cds", start := some 0, stop := some 9 } none = .ok [] := by
  decide +kernel

-- alignment features on a two-table db: `False` keeps the loaded row and the ordinary user row,
-- `True` only the alignment feature, no argument all three
example :
    let g : XRec := { row := mkUserRec "s1" "gene" "ga" (some "+") none [(0, 6)], located := true, onAln := none }
    let u : XRec := { row := mkUserRec "s1" "gene" "u0" (some "+") none [(0, 4)], located := true, onAln := some false }
    let a : XRec := { row := mkUserRec "s1" "gene" "aln0" (some "+") none [(3, 9)], located := true, onAln := some true }
    let db : XDb := { kind := .gff, main := [g], user := [u, a] }
    getFeaturesMatchingX db { seqid := some "s1" } (some false) = .ok [g, u] ∧
    getFeaturesMatchingX db { seqid := some "s1" } (some true) = .ok [a] ∧
    getFeaturesMatchingX db { seqid := some "s1" } none = .ok [g, u, a] := by
  decide +kernel

/-- **get_records_matching = linear scan, on_alignment included** (code as repaired by 26f741b86): for every db
class, argument subset, window mode and `on_alignment` not passed / `False` / `True` the call returns exactly the
multiset the scan selects — rows without a location included, no exception. -/
theorem records_matching_is_scan (db : XDb) (q : Query) (oa : Option Bool) (hdb : db.WF)
    (hw : ∀ r ∈ db.records, XWinHyp q r) :
    ∃ l, getRecordsMatchingX db q oa = .ok l ∧ l.Perm (xLinearScan db.records q oa) := by
  unfold getRecordsMatchingX
  simp only [(oa_never_reaches_main oa _).2.1, Bool.false_eq_true, if_false]
  refine ⟨_, rfl, ?_⟩
  rw [(tables_choice oa _).2.1, tableQuery_plain _ (fun n => (oa_kept_only_for_user n).2.1),
    table_loop_is_scan db q oa hdb hw]

-- `on_alignment` passed to a two-table db (the input of finding C17-on-alignment-argument-no-such-column,
-- repaired by 26f741b86), and a record without location
example :
    let g : XRec := { row := mkUserRec "s1" "gene" "ab0" (some "+") none [(0, 5)], located := true, onAln := none }
    let b : XRec := { row := { (mkUserRec "s1" "cds" "b" none none []) with spans := [] }, located := false, onAln := none }
    let a : XRec := { row := mkUserRec "s1" "gene" "aln0" (some "+") none [(3, 9)], located := true, onAln := some true }
    let db : XDb := { kind := .genbank, main := [g, b], user := [a] }
    getRecordsMatchingX db {} (some false) = .ok [g, b] ∧ numMatchesX db {} (some true) = .ok 1 ∧
    numMatchesX db {} (some false) = .ok 2 ∧ getRecordsMatchingX db { biotype := some "cds" } none = .ok [b] ∧
    getRecordsMatchingX db {} (some true) = .ok [a] := by
  decide +kernel

/-- **num_matches = length of the scan** (no window), for every db class, argument subset and `on_alignment`
not passed / `False` / `True` (code as repaired by 26f741b86). -/
theorem num_matches_x_is_scan_count (db : XDb) (q : Query) (oa : Option Bool) (hdb : db.WF) :
    numMatchesX db q oa = .ok (xLinearScan db.records { q with start := none, stop := none } oa).length := by
  have hw : ∀ r ∈ db.records, XWinHyp { q with start := none, stop := none } r := fun r _ => Or.inl (Or.inr (Or.inl rfl))
  unfold numMatchesX
  simp only [(oa_never_reaches_main oa _).2.2, Bool.false_eq_true, if_false, countMatches_eq]
  -- what is counted is the table loop of the query without bounds
  rw [← table_loop_is_scan db _ oa hdb hw, (tables_choice oa _).2.2,
    ← tableQuery_plain _ (fun n => (oa_kept_only_for_user n).2.2)]
  rfl

/-- `subset(**query)` holds exactly the rows the scan selects (rows without location included when no
window is asked), for every query; the bounds reach the WHERE clause unchanged. -/
theorem subset_x_is_scan (db : XDb) (q : Query) (hdb : db.WF) (hw : ∀ r ∈ db.records, XWinHyp q r) :
    (subsetX db q).kind = db.kind ∧ (subsetX db q).records.Perm (xLinearScan db.records q none) := by
  have hq : ({ q with start := subsetStart q.start, stop := subsetStop q.stop } : Query) = q := by
    rw [(subset_bounds_identity _).1, (subset_bounds_identity _).2]
  have key := table_loop_is_scan db q none hdb hw
  simp only [reduceCtorEq, if_false, ite_self] at key
  unfold subsetX
  rw [hq]
  split
  · rename_i h0
    refine ⟨rfl, ?_⟩
    rw [List.eq_nil_of_length_eq_zero h0]
    cases db.kind <;> exact .refl _
  · exact ⟨rfl, by rw [XDb.records_filter, key]⟩

example :
    let g : XRec := { row := mkUserRec "s1" "gene" "ga" (some "+") none [(0, 6)], located := true, onAln := none }
    let b : XRec := { row := { (mkUserRec "s1" "cds" "b" none none []) with spans := [] }, located := false, onAln := none }
    let u : XRec := { row := mkUserRec "s1" "gene" "u0" (some "+") none [(2, 4)], located := true, onAln := some true }
    let db : XDb := { kind := .genbank, main := [g, b], user := [u] }
    (subsetX db { start := some 0, stop := some 6 }).records = [g, u] ∧ (subsetX db { seqid := some "s1" }).records = [g, b, u] := by
  decide +kernel

/-! ### to_json / from_dict of rows without a location (code as repaired by 26f741b86) -/

/-- **One stored row survives `to_rich_dict` → `from_dict` unchanged** whichever optional columns are NULL —
including a row with NO location (no spans / start / stop key in the dict) and the `on_alignment` flag. -/
theorem richdict_x_row_roundtrip (r : XRec) (hn : r.normal = true) : richToXRec (xrecToRich r) = r :=
  richToXRec_xrecToRich r hn

/-- `deserialise_object(db.to_json())` of an in-memory db of any class holds exactly the same rows, table by
table — records without a location and alignment features included. -/
theorem to_json_x_roundtrip (db : XDb) (hn : ∀ r ∈ db.main ++ db.user, r.normal = true) : jsonRoundTripX db = db := by
  have hm : ∀ l : List XRec, (∀ r ∈ l, r.normal = true) → (l.map fun r => richToXRec (xrecToRich r)) = l :=
    fun l hl => (List.map_congr_left fun r hr => richdict_x_row_roundtrip r (hl r hr)).trans (List.map_id' l)
  obtain ⟨k, m, u⟩ := db
  unfold jsonRoundTripX
  simp only [hm m fun r hr => hn r (List.mem_append_left _ hr), hm u fun r hr => hn r (List.mem_append_right _ hr)]

example :
    let g : XRec := { row := mkUserRec "s1" "gene" "ga" (some "+") none [(0, 6)], located := true, onAln := none }
    let b : XRec := { row := { (mkUserRec "s1" "cds" "b" none none []) with spans := [] }, located := false, onAln := none }
    let u : XRec := { row := mkUserRec "s1" "gene" "u0" (some "+") none [(2, 4)], located := true, onAln := some true }
    let db : XDb := { kind := .genbank, main := [g, b], user := [u] }
    (jsonRoundTripX db).main = [g, b] ∧ (jsonRoundTripX db).user = [u] ∧ (xrecToRich b).lookup "spans" = none ∧
    (∀ r ∈ db.main ++ db.user, r.normal = true) := by
  decide +kernel

/-! ### GenbankAnnotationDb.add_records -/

/-- what ONE feature determines of its row: whether it has coordinates, and if so which spans, hull and strand -/
def featPart (f : GbFeature) : Bool × List (Int × Int) × Int × Int × Option String × Option String :=
  match f.loc with
  | none => (false, [], 0, 0, none, some f.biotype)
  | some l =>
    if l.flat.isEmpty then (false, [], 0, 0, none, some f.biotype)
    else (true, gbCoords l, spanStart (gbCoords l), spanStop (gbCoords l), gbStrand l, some f.biotype)

def rowPart (r : XRec) : Bool × List (Int × Int) × Int × Int × Option String × Option String :=
  (r.located, r.row.spans, r.row.start, r.row.stop, r.row.strand, r.row.biotype)

/-- **Every stored GenBank row has the coordinates and strand of its OWN feature**, whatever precedes or
follows it in the feature table and wherever the made-up-name counter stands: one row per feature, in
order; a feature without usable location gets no spans and no strand, a join over both strands no strand. -/
theorem gb_add_records_rowwise (seqid : String) (n : Nat) (fs : List GbFeature) :
    (gbAddRecords seqid n fs).1.map rowPart = fs.map featPart := by
  induction fs generalizing n with
  | nil => rfl
  | cons f fs ih =>
    simp only [gbAddRecords, List.map_cons, ih]
    congr 1
    unfold gbRow rowPart featPart
    cases f.loc with
    | none => cases f.names <;> rfl
    | some l => cases f.names <;> by_cases h : l.flat.isEmpty <;> simp [h]

/-- … in particular loading is compositional: the rows of a longer table are the rows of its parts. -/
theorem gb_add_records_append (seqid : String) (n : Nat) (fs gs : List GbFeature) :
    (gbAddRecords seqid n (fs ++ gs)).1 =
      (gbAddRecords seqid n fs).1 ++ (gbAddRecords seqid (gbAddRecords seqid n fs).2 gs).1 := by
  induction fs generalizing n with
  | nil => rfl
  | cons f fs ih => simp only [List.cons_append, gbAddRecords, ih]

/-- a located GenBank row covers exactly the residues its location expression names (1-based closed
segments → 0-based half-open spans), and its `start`/`stop` columns bound them -/
theorem gb_row_positions (seqid : String) (n : Nat) (f : GbFeature) (l : Loc) (hf : f.loc = some l)
    (hne : l.flat.isEmpty = false) (hl : ∀ seg ∈ l.flat, seg.1 ≤ seg.2.1) (p0 : Int) :
    ((gbRow seqid n f).1.located = true) ∧
    (covers (gbRow seqid n f).1.row.spans p0 ↔ ∃ seg ∈ l.flat, covers1 seg.1 seg.2.1 (p0 + 1)) ∧
    (covers (gbRow seqid n f).1.row.spans p0 → (gbRow seqid n f).1.row.start ≤ p0 ∧ p0 < (gbRow seqid n f).1.row.stop) := by
  have e : (gbRow seqid n f).1.row.spans = gbCoords l ∧ (gbRow seqid n f).1.located = true ∧
      (gbRow seqid n f).1.row.start = spanStart (gbCoords l) ∧ (gbRow seqid n f).1.row.stop = spanStop (gbCoords l) := by
    unfold gbRow
    cases f.names <;> simp [hf, hne]
  refine ⟨e.2.1, ?_, ?_⟩
  · rw [e.1]; exact gbCoords_positions l hl p0
  · rw [e.1, e.2.2.1, e.2.2.2]; exact hull_of_covers _ p0

example :
    ((gbAddRecords "s1" 0 [⟨"gene", some (.complement (.seg 10 50)), some ["abc"], ""⟩, ⟨"variation", none, some ["site"], ""⟩,
        ⟨"CDS", some (.join [.complement (.seg 60 70), .seg 80 90]), none, ""⟩, ⟨"CDS", some (.seg 7 7), none, ""⟩]).1.map
      fun r => (r.row.name, r.located, r.row.spans, r.row.strand)) =
    [(some "abc", true, [(9, 50)], some "-"), (some "site", false, [], none),
     (some "CDS-0", true, [(59, 70), (79, 90)], none), (some "CDS-1", true, [(6, 7)], some "+")] := by
  decide +kernel

/-! ### GenbankAnnotationDb.get_feature_children / get_feature_parent -/

/-- children of `name` inside `[a, b)`: when every row called `name` has a location, the call returns
the rows called `name` (of the asked biotype, not of the excluded one) that start and end inside the window -/
theorem gb_children_is_scan (db : XDb) (name : String) (biotype exclude : Option String) (a b : Int)
    (hl : ∀ r ∈ familyCandidates db name biotype, r.located = true) :
    gbChildrenX db name biotype exclude a b = .ok ((familyCandidates db name biotype).filter fun r =>
      !(r.row.biotype == exclude) && (decide (a ≤ r.row.start) && decide (r.row.start < b) && decide (a < r.row.stop) && decide (r.row.stop ≤ b))) := by
  unfold gbChildrenX
  rw [if_pos (List.all_eq_true.mpr fun r hr => by simpa using hl r hr)]
  congr 1
  refine List.filter_congr fun r _ => ?_
  unfold familyKeep
  congr 1
  rw [Bool.eq_iff_iff, Bool.not_eq_true', (child_keep_iff a b r.row.start r.row.stop).1]
  simp only [Bool.and_eq_true, decide_eq_true_eq, and_assoc]

/-- parents of `name` for `[a, b)`: the rows called `name` (not of the excluded biotype) whose extent contains the window -/
theorem gb_parent_is_scan (db : XDb) (name : String) (exclude : Option String) (a b : Int)
    (hl : ∀ r ∈ familyCandidates db name none, r.located = true) :
    gbParentX db name exclude a b = .ok ((familyCandidates db name none).filter fun r =>
      !(r.row.biotype == exclude) && (decide (r.row.start ≤ a) && decide (b ≤ r.row.stop))) := by
  unfold gbParentX
  rw [if_pos (List.all_eq_true.mpr fun r hr => by simpa using hl r hr)]
  congr 1
  refine List.filter_congr fun r _ => ?_
  unfold familyKeep
  congr 1
  rw [Bool.eq_iff_iff, Bool.not_eq_true', parent_keep_iff]
  simp only [within, Bool.and_eq_true, decide_eq_true_eq]

example :
    let g : XRec := { row := mkUserRec "s1" "gene" "abc" (some "-") none [(9, 50)], located := true, onAln := none }
    let c : XRec := { row := mkUserRec "s1" "CDS" "abc" (some "-") none [(12, 20), (30, 50)], located := true, onAln := none }
    let db : XDb := { kind := .genbank, main := [g, c], user := [] }
    gbChildrenX db "abc" none (some "gene") 9 50 = .ok [c] ∧ gbParentX db "abc" (some "CDS") 12 50 = .ok [g] ∧
    gbChildrenX db "abc" none none 10 50 = .ok [c] := by
  decide +kernel

/-! ### substring searches: `attributes=` and the mixin's `get_feature_children` -/

/-- text without the LIKE wildcards -/
def Plain (s : String) : Prop := ∀ c ∈ s.toList, c ≠ '%' ∧ c ≠ '_'

/-- `a` occurs in `t` as a contiguous piece, ASCII letter case ignored -/
def ContainsCI (a t : String) : Prop :=
  ∃ pre m post, t.toList = pre ++ m ++ post ∧ m.map lowerAscii = a.toList.map lowerAscii

theorem wrapped_like (a : String) (ha : Plain a) (col : Option String) :
    colCond (.one ("%" ++ a ++ "%")) col = true ↔ ∃ t, col = some t ∧ ContainsCI a t := by
  cases col with
  | none => simp [colCond]
  | some t =>
    have e : ("%" ++ a ++ "%").toList = '%' :: (a.toList ++ ['%']) := by
      simp [String.toList_append]
    simp only [colCond, e, List.contains_cons, BEq.rfl, Bool.true_or, if_true, Option.some.injEq, exists_eq_left']
    exact like_substring a.toList ha t.toList

/-- **The `attributes` search is the documented substring search**: for a non-empty text without `%` / `_`
the condition `_get_records_matching` / `num_matches` put on the attributes column holds exactly when the text
occurs in the stored attributes (ASCII case ignored); a NULL attributes column matches nothing. -/
theorem attributes_search_is_substring (a : String) (hne : a ≠ "") (ha : Plain a) (col : Option String) :
    colCond (.one (prepAttr a)) col = true ↔ ∃ t, col = some t ∧ ContainsCI a t := by
  have : prepAttr a = "%" ++ a ++ "%" := by
    unfold prepAttr
    rw [if_pos ⟨hne, by simp [hasDoublePercent_of_not_mem a.toList fun c hc => (ha c hc).1]⟩]
  rw [this]
  exact wrapped_like a ha col

example : colCond (.one (prepAttr "zq")) (some "note=ZQ;k0") = true ∧ colCond (.one (prepAttr "zq")) (some "note=z_q") = false ∧
    colCond (.one (prepAttr "zq")) none = false := by decide +kernel

/-- the mixin's `get_feature_children` searches the `parent_id` column for `%name%` (generated, re-proved each run) -/
theorem mixin_child_pattern (name : String) :
    mixinChildPattern name = "%" ++ name ++ "%" ∧ mixinChildColumn = "parent_id" := ⟨rfl, rfl⟩

/-- **Children by `parent_id` (GffAnnotationDb / BasicAnnotationDb)**: for a name without `%` / `_`, when every
selected row has a location, `get_feature_children(name, biotype)` returns exactly the rows whose `parent_id`
mentions `name` (substring, ASCII case ignored) and that have the asked biotype — whatever window is passed. -/
theorem mixin_children_is_scan (rows : List PRec) (name : String) (hn : Plain name) (biotype : Option String) (l : List PRec)
    (h : mixinChildren rows name biotype = .ok l) :
    ∀ r, r ∈ l ↔ (r ∈ rows ∧ (∃ t, r.parent = some t ∧ ContainsCI name t) ∧
      btCond biotype r.x.row = true) := by
  unfold mixinChildren at h
  split at h
  · rw [← Except.ok.inj h]
    intro r
    unfold childSel
    have hc : ∀ r : PRec, r.col mixinChildColumn = r.parent := fun r => by
      rw [(mixin_child_pattern name).2]; simp [PRec.col]
    simp only [List.mem_filter, Bool.and_eq_true, (mixin_child_pattern name).1, hc, wrapped_like name hn]
  · exact absurd h (by simp)

example :
    let g : PRec := ⟨{ row := mkUserRec "s1" "gene" "ab0" (some "+") none [(0, 9)], located := true, onAln := none }, none⟩
    let c : PRec := ⟨{ row := mkUserRec "s1" "cds" "c1" (some "+") none [(2, 4)], located := true, onAln := none }, some "AB0"⟩
    let d : PRec := ⟨{ row := mkUserRec "s1" "exon" "e1" (some "+") none [(5, 7)], located := true, onAln := none }, some "x,ab01"⟩
    let e : PRec := ⟨{ row := mkUserRec "s1" "exon" "e2" (some "+") none [(5, 7)], located := true, onAln := none }, some "a_b0"⟩
    mixinChildren [g, c, d, e] "ab0" none = .ok [c, d] ∧ mixinChildren [g, c, d, e] "ab0" (some "exon") = .ok [d] := by
  decide +kernel

end CogentModel.C17X
