import CogentModel.Model.ScopeModel
import CogentModel.Gen.C11Scope
/-! # C11 — scope of a parameter rule: translated code = hand model, and what the hand model guarantees

`Gen/C11Scope.lean` is generated on every run from the current source of `TreeNode.get_edge_names` and
`_LikelihoodParameterController._process_scope_info`.  The `gen_*` theorems prove the generated definitions equal to
the import-free hand model `Model/ScopeModel.lean` for ALL arguments and ALL tree primitives; the remaining theorems are
about the hand model (hence about the translated code).  Why this matters for C11: a likelihood function on a re-rooted
tree has the same likelihood only if every edge-scoped rule selects the same edges as before. -/
namespace CogentModel.C11
open CogentModel.Scope CogentModel.C11Gen

theorem foldl_append_flatMap {α : Type} (f : α → List String) (l : List α) (init : List String) :
    l.foldl (fun acc c => acc ++ f c) init = init ++ l.flatMap f := by
  induction l generalizing init with
  | nil => simp
  | cons x xs ih => simp [List.foldl_cons, ih, List.flatMap_cons, List.append_assoc]

/-- translated `TreeNode.get_edge_names` = hand model `edgeNames` (flags by their Python truth value) -/
theorem gen_get_edge_names_eq {T : Type} (ops : TreeOps T) (t : T) (a b : String) (clade stem : Option Bool)
    (og : Option String) :
    get_edge_names ops t a b clade stem og = edgeNames ops t a b (truthyB clade) (truthyB stem) og := by
  unfold get_edge_names edgeNames
  cases og with
  | none =>
    simp only [Option.isSome_none, viewFrom]
    cases ops.connectingNode t a b with
    | none => simp
    | some j =>
      simp only [foldl_append_flatMap, cladeNames]
      cases truthyB stem <;> cases truthyB clade <;> simp
  | some o =>
    simp only [Option.isSome_some, viewFrom, Option.getD_some]
    cases ops.nodeMatching t o with
    | none => simp
    | some n =>
      cases hT : ops.isTip n
      · simp [hT]
      · simp only [hT, foldl_append_flatMap, cladeNames, Bool.not_true, Bool.false_eq_true, if_false, if_true]
        cases ops.connectingNode (ops.unrootedDeepcopy n) a b with
        | none => simp
        | some j =>
          cases truthyB stem <;> cases truthyB clade <;> simp

/-- translated `_process_scope_info` = hand model `scopeEdges` -/
theorem gen_process_scope_info_eq {T : Type} (ops : TreeOps T) (tree : T) (edge : Option String)
    (tipNames edges : Option (List String)) (clade stem : Option Bool) (og : Option String) :
    process_scope_info ops tree edge tipNames edges clade stem og
      = scopeEdges ops tree edge tipNames edges clade stem og := by
  unfold process_scope_info scopeEdges
  simp only [gen_get_edge_names_eq]
  cases edges with
  | some es => simp
  | none =>
    cases edge with
    | some e => simp
    | none =>
      cases tipNames with
      | none => simp
      | some l =>
        match l with
        | [] => simp [lenO]
        | [_] => simp [lenO]
        | [x, y] =>
          cases stem <;> cases clade <;> simp [lenO, truthyB] <;>
            (cases edgeNames ops tree x y _ _ og <;> simp)
        | _ :: _ :: _ :: _ => simp [lenO]

/-- the translated defaults of the flags: `get_edge_names(clade=True, stem=False)`, `_process_scope_info(clade=None, stem=None)` -/
theorem gen_defaults :
    default_get_edge_names_clade = some true ∧ default_get_edge_names_stem = some false ∧
    default_process_scope_info_clade = none ∧ default_process_scope_info_stem = none := ⟨rfl, rfl, rfl, rfl⟩

/-! ## what the hand model guarantees -/

/-- **With an outgroup the selected edges do not depend on where the tree is rooted.**  `t` and `t'` are two trees
(e.g. two rootings of one topology) in which the outgroup name is found; if the tree seen from the outgroup tip
(`unrooted_deepcopy`) is the same, a `tip_names=` rule selects the same edges — or is refused alike — whatever the
flags.  (That `unrooted_deepcopy` from a tip does not depend on the old root is `rooted_at_is_reroot`'s subject and is
run against cogent3 by the driver command `reroot`.) -/
theorem scope_with_outgroup_root_independent {T : Type} (ops : TreeOps T) (t t' o o' : T) (og : String)
    (h : ops.nodeMatching t og = some o) (h' : ops.nodeMatching t' og = some o')
    (htip : ops.isTip o = ops.isTip o') (hview : ops.unrootedDeepcopy o = ops.unrootedDeepcopy o')
    (tips : Option (List String)) (clade stem : Option Bool) :
    scopeEdges ops t none tips none clade stem (some og) = scopeEdges ops t' none tips none clade stem (some og) := by
  -- the tree enters `scopeEdges` only through `viewFrom`
  have hv : viewFrom ops t (some og) = viewFrom ops t' (some og) := by
    simp only [viewFrom, h, h', htip, hview]
  simp only [scopeEdges, edgeNames, hv]

/-- … the same statement for the TRANSLATED function. -/
theorem gen_scope_with_outgroup_root_independent {T : Type} (ops : TreeOps T) (t t' o o' : T) (og : String)
    (h : ops.nodeMatching t og = some o) (h' : ops.nodeMatching t' og = some o')
    (htip : ops.isTip o = ops.isTip o') (hview : ops.unrootedDeepcopy o = ops.unrootedDeepcopy o')
    (tips : Option (List String)) (clade stem : Option Bool) :
    process_scope_info ops t none tips none clade stem (some og)
      = process_scope_info ops t' none tips none clade stem (some og) := by
  rw [gen_process_scope_info_eq, gen_process_scope_info_eq]
  exact scope_with_outgroup_root_independent ops t t' o o' og h h' htip hview tips clade stem

/-- Without an outgroup the answer is read off the tree AS ROOTED: it depends on the tree only through the LCA the
rooted tree reports.  (So two rootings with different LCAs may select different edges: the reason the check runs every
`tip_names` rule under every root placement.) -/
theorem scope_without_outgroup_reads_rooted_lca {T : Type} (ops : TreeOps T) (t t' : T) (a b : String)
    (h : ops.connectingNode t a b = ops.connectingNode t' a b) (clade stem : Option Bool) :
    scopeEdges ops t none (some [a, b]) none clade stem none
      = scopeEdges ops t' none (some [a, b]) none clade stem none := by
  simp [scopeEdges, edgeNames, viewFrom, h]

/-- flags left out: the clade below the join node, without its stem -/
theorem scope_default_is_clade_only {T : Type} (ops : TreeOps T) (t : T) (a b : String) (og : Option String) :
    scopeEdges ops t none (some [a, b]) none none none og
      = (match edgeNames ops t a b true false og with | .error e => .error e | .ok l => .ok (some l)) := by
  simp only [scopeEdges, Option.getD_none, Bool.not_false]
  cases edgeNames ops t a b true false og <;> rfl

/-- `stem=True` alone means the stem edge ONLY (clade defaults to `not stem`) -/
theorem scope_stem_alone_is_stem_only {T : Type} (ops : TreeOps T) (t : T) (a b : String) (og : Option String) :
    scopeEdges ops t none (some [a, b]) none none (some true) og
      = (match edgeNames ops t a b false true og with | .error e => .error e | .ok l => .ok (some l)) := by
  simp only [scopeEdges, Option.getD_some, Bool.not_true]
  cases edgeNames ops t a b false true og <;> rfl

/-- stem + clade = the stem edge followed by the clade's edges, each as selected on its own -/
theorem edge_names_stem_then_clade {T : Type} (ops : TreeOps T) (t : T) (a b : String) (og : Option String)
    (l : List String) (h : edgeNames ops t a b true true og = .ok l) :
    ∃ s c, edgeNames ops t a b false true og = .ok s ∧ edgeNames ops t a b true false og = .ok c ∧ l = s ++ c := by
  unfold edgeNames at h ⊢
  cases hv : viewFrom ops t og with
  | error e => simp [hv] at h
  | ok v =>
    simp only [hv] at h ⊢
    cases hj : ops.connectingNode v a b with
    | none => simp [hj] at h
    | some j =>
      simp only [hj] at h ⊢
      cases hr : ops.isRoot j
      · simp [hr] at h ⊢; exact h.symm
      · simp [hr] at h

/-- a clade-only rule is never refused for "no stem" (the refusal of a stem rule whose join node is the root) -/
theorem clade_only_never_no_stem {T : Type} (ops : TreeOps T) (t : T) (a b : String) (cl : Bool) (og : Option String) :
    edgeNames ops t a b cl false og ≠ .error .noStem := by
  unfold edgeNames
  cases hv : viewFrom ops t og with
  | error e =>
    -- `viewFrom` refuses with `prim` or `outgroupNotTip` only
    rintro ⟨rfl⟩
    unfold viewFrom at hv
    split at hv
    · cases hv
    · split at hv
      · cases hv
      · split at hv <;> cases hv
  | ok v =>
    simp only
    cases ops.connectingNode v a b <;> simp

/-- only ONE way of giving a scope: `edges=` with a non-empty `tip_names=` or `edge=` is refused, `edge=` with
`tip_names=` too; nothing given = every edge -/
theorem scope_exclusive {T : Type} (ops : TreeOps T) (t : T) (es : List String) (e : String) (x y : String)
    (l : List String) (clade stem : Option Bool) (og : Option String) :
    scopeEdges ops t none (some (x :: l)) (some es) clade stem og = .error .onlyOne ∧
    scopeEdges ops t (some e) (some (x :: l)) none clade stem og = .error .onlyOne ∧
    scopeEdges ops t none none none clade stem og = .ok none ∧
    scopeEdges ops t none none (some es) clade stem og = .ok (some es) ∧
    scopeEdges ops t none (some (x :: y :: z :: l)) none clade stem og = .error .twoSpecies := by
  simp [scopeEdges, truthyL, truthyS]

end CogentModel.C11
