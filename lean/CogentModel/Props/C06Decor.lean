import CogentModel.Proofs.ClustalDecor
import CogentModel.Proofs.ClustalDecorCheck
import CogentModel.Props.C06Clustal
/-! # C06 — Clustal / MUSCLE files that are NOT writer shaped

`Spec/ClustalDecorated.lean` describes a *decorated* file: any interleaving of decoration lines (everything
`is_clustal_seq_line` rejects: `CLUSTAL ...` / `MUSCLE ...` headers anywhere, empty lines, consensus lines led by a
blank or a tab) with sequence lines `label <ws> residues [<ws> count] <ws>` where `<ws>` is any white space (blanks,
tabs, the `\r` of a CRLF file) and `count` any token `int()` accepts.  The theorems are for ALL such files, both values
of `strict`, any number of blocks and any (also unequal) block widths. -/
namespace CogentModel.C06
open CogentModel.Splitlines CogentModel.SeqFormats CogentModel.SeqSpec CogentModel.ClustalSpec CogentModel.Clustal

/-- the (label, residues) pairs of the sequence lines of a file with blocks `cs` over the records `recs`, in file order -/
def blockPairs (recs : List Rec) (cs : List (Rec → Str)) : List (Str × Str) :=
  cs.flatMap (fun c => recs.map (fun r => (r.1, c r)))

/-- **Decorated Clustal files parse to their records** (`ClustalParser`, strict and non-strict).  For every record list
with distinct labels the format can carry, every non-empty list of blocks `cs` (block `c` shows the residues `c r` of
record `r`; residues without blank or digit) and EVERY decorated file whose sequence lines carry these pairs in block
order: the parser returns the labels in first-block order, each with the concatenation of its pieces. -/
theorem clustal_decorated_parse (strict : Bool) (recs : List Rec) (hn : (recs.map Prod.fst).Nodup)
    (hl : ∀ r ∈ recs, clustalName r.1 = true) (c : Rec → Str) (cs : List (Rec → Str))
    (hc : ∀ d ∈ c :: cs, ∀ r ∈ recs, clustalSeq (d r) = true) (lines : List Str)
    (hd : Decorated (blockPairs recs (c :: cs)) lines) :
    clustalParser strict lines = .ok (recs.map (fun r => (r.1, ((c :: cs).map (fun d => d r)).flatten))) :=
  clustalParser_decorated strict hn hl c cs hc hd

/-- **Decorated round trip**: if the blocks cut every sequence into its pieces (`(cs.map (· r)).flatten = r.2`), every
decorated rendering of the records parses back to exactly the records (names verbatim, order, sequences). -/
theorem clustal_decorated_roundtrip (strict : Bool) (recs : List Rec) (hn : (recs.map Prod.fst).Nodup)
    (hl : ∀ r ∈ recs, clustalName r.1 = true) (c : Rec → Str) (cs : List (Rec → Str))
    (hc : ∀ d ∈ c :: cs, ∀ r ∈ recs, clustalSeq (d r) = true)
    (hcut : ∀ r ∈ recs, ((c :: cs).map (fun d => d r)).flatten = r.2) (lines : List Str)
    (hd : Decorated (blockPairs recs (c :: cs)) lines) :
    clustalParser strict lines = .ok recs := by
  rw [clustal_decorated_parse strict recs hn hl c cs hc lines hd, map_rebuild hcut]

/-- **Decorations never matter**: two line lists with the same sequence lines (whatever else they contain, in whatever
position) parse to the same result, errors included. -/
theorem clustal_decoration_invariant (strict : Bool) (l1 l2 : List Str)
    (h : l1.filter isSeqLine = l2.filter isSeqLine) : clustalParser strict l1 = clustalParser strict l2 := by
  -- only the sequence lines of a file are looked at
  rw [clustalParser, minimalClustalParser, h]
  rfl

/-- a residue count or other white space after the residues never matters: any two renderings of the same pair list
parse alike (consequence of `clustal_decorated_parse`, stated for the writer's own text): the text the WRITER produces
and any decorated file over the same blocks give the same records. -/
theorem clustal_decorated_eq_written (wrap : Option Nat) (hw : ∀ w, wrap = some w → 0 < w) (recs : List Rec)
    (hne : recs ≠ []) (L : Nat) (h : ClustalRecs L recs) (c : Rec → Str) (cs : List (Rec → Str))
    (hc : ∀ d ∈ c :: cs, ∀ r ∈ recs, clustalSeq (d r) = true)
    (hcut : ∀ r ∈ recs, ((c :: cs).map (fun d => d r)).flatten = r.2) (lines : List Str)
    (hd : Decorated (blockPairs recs (c :: cs)) lines) :
    ∃ text, clustalFormat wrap recs = .ok text ∧ clustalParse text = clustalParser true lines := by
  obtain ⟨t, h1, h2⟩ := clustal_roundtrip wrap hw recs hne L h
  refine ⟨t, h1, ?_⟩
  rw [h2, clustal_decorated_roundtrip true recs h.1 (fun r hr => (h.2 r hr).1) c cs hc hcut lines hd]

/-- the executable recogniser the driver runs on every generated decorated file is sound: `true` means the file has the
shape the theorems above quantify over (so the generator's files are inside the theorems' domain, checked each run) -/
theorem checkDecorated_sound (ps : List (Str × Str)) (lines : List Str) (h : checkDecorated ps lines = true) :
    Decorated ps lines := by
  fun_induction checkDecorated ps lines with
  | case1 => exact .nil
  | case2 => cases h
  | case3 ps l ls hl ih => exact .deco l (by simpa using hl) (ih h)
  | case4 l ls hl => cases h
  | case5 l ls hl p ps' ih =>
    rw [Bool.and_eq_true] at h
    exact .seq p l (isSeqLineOf_sound h.1) (ih h.2)

-- non-vacuity: a MUSCLE file with a header, a blank line, tab padding, a running residue count, a consensus line led by
-- a tab, a second header in the middle, trailing blanks and a CR; two records, two blocks of different widths
private def exRecs : List Rec := [(['s', '1'], ['A', 'C', '-']), (['t'], ['G', 'G', 'T'])]
private def exLines : List Str :=
  ["MUSCLE (3.8)".toList, [], "s1\tAC 2".toList, "t   GG\t2 \r".toList, "\t**".toList, "CLUSTAL".toList,
   "s1  -  ".toList, "t \t T\r".toList, "   ".toList]
theorem exLines_checked :
    checkDecorated (blockPairs exRecs [fun r => r.2.take 2, fun r => r.2.drop 2]) exLines = true := by
  unfold exLines
  -- the literals as character lists first: the kernel would otherwise decode their bytes character by character
  repeat rw [String.toList_ofList]
  decide +kernel
example : Decorated (blockPairs exRecs [fun r => r.2.take 2, fun r => r.2.drop 2]) exLines :=
  checkDecorated_sound _ _ exLines_checked
example : checkDecorated (blockPairs exRecs [fun r => r.2.take 2, fun r => r.2.drop 2]) exLines = true := exLines_checked
example : clustalParser true exLines = .ok exRecs := by
  unfold exLines
  repeat rw [String.toList_ofList]
  decide +kernel
example : clustalParser false exLines = .ok exRecs := by
  unfold exLines
  repeat rw [String.toList_ofList]
  decide +kernel
example : clustalParser true (['x'] :: exLines) ≠ clustalParser true exLines := by
  unfold exLines
  repeat rw [String.toList_ofList]
  decide +kernel

end CogentModel.C06
