import CogentModel.Gen.C06Str
import CogentModel.Gen.C06Dispatch
import CogentModel.Model.Suffixes
/-! # C06 — `get_format_suffixes` (util/io.py) as TRANSLATED equals the hand model `Suffixes.formatSuffixes`

The decision logic that turns a file name's suffixes into (format suffix, compression suffix) is re-translated from the
current source on every run (translator/c06_str2lean.py -> Gen/C06Str.lean `get_format_suffixes`); the theorem states it is
the hand model the dispatch theorems (`suffix_dispatch_consistent`, …) are about, for every value of `filename.suffix` and
every list `filename.suffixes`, with the compression suffixes of the generated table. -/
namespace CogentModel.C06
open CogentModel.Suffixes

theorem normSuffix_eq (s : Str) : PyStr.lower (PyStr.woutPeriod s) = normSuffix s := rfl

/-- the tuple literal `compression_suffixes` inside the function is the table the dispatch translator extracts -/
theorem gen_compression_suffixes_eq :
    ([['b', 'z', '2'], ['g', 'z'], ['z', 'i', 'p']] : List Str) = Gen.C06Dispatch.compressionSuffixes := rfl

/-- **`get_format_suffixes` as translated = the hand model**, for every `filename.suffix` and `filename.suffixes`:
the model's `IndexError` (a non-empty `suffix` with an empty `suffixes` list — impossible for a `pathlib` path) is the only
case outside the translation (convention T2) -/
theorem gen_get_format_suffixes_eq (sfx : Str) (sfxs : List Str) :
    formatSuffixes Gen.C06Dispatch.compressionSuffixes (PyStr.truthy sfx) sfxs =
      if PyStr.truthy sfx = true ∧ sfxs = [] then .error .indexError
      else .ok (Gen.C06Str.get_format_suffixes sfx sfxs) := by
  unfold formatSuffixes Gen.C06Str.get_format_suffixes
  by_cases h : PyStr.truthy sfx = true
  · simp only [h, Bool.not_true, Bool.false_eq_true, if_false, true_and]
    have hl : Suffixes.lastTwo sfxs = PyStr.lastTwo sfxs := rfl
    have hm : (PyStr.lastTwo sfxs).map (fun s => PyStr.lower (PyStr.woutPeriod s)) = (PyStr.lastTwo sfxs).map normSuffix :=
      List.map_congr_left (fun s _ => normSuffix_eq s)
    rw [hl, hm, ← gen_compression_suffixes_eq]
    cases hs : sfxs with
    | nil => simp [PyStr.lastTwo]
    | cons a as =>
      have hne : (PyStr.lastTwo (a :: as)).map normSuffix ≠ [] := by
        simp only [PyStr.lastTwo, ne_eq, List.map_eq_nil_iff, List.drop_eq_nil_iff, List.length_cons]
        omega
      generalize (PyStr.lastTwo (a :: as)).map normSuffix = sx at hne
      obtain ⟨last, hlast⟩ : ∃ l, sx.getLast? = some l := ⟨_, List.getLast?_eq_some_getLast hne⟩
      have hld : PyStr.lastD sx = last := by simp [PyStr.lastD, hlast]
      rw [hld]
      simp only [hlast]
      generalize ([['b', 'z', '2'], ['g', 'z'], ['z', 'i', 'p']] : List Str).contains last = cb
      have hhd : sx.head? = some (PyStr.headD sx) := by
        cases sx with
        | nil => exact absurd rfl hne
        | cons x xs => rfl
      rw [hhd]
      cases cb <;> by_cases h2 : sx.length = 2 <;> simp [h2]
  · simp [h]

-- non-vacuity: the translated function on the usual shapes
example : Gen.C06Str.get_format_suffixes ".gz".toList [".fasta".toList, ".GZ".toList] = (some "fasta".toList, some "gz".toList) := by
  -- the literal as a character list first: the kernel would otherwise decode its bytes character by character
  repeat rw [String.toList_ofList]
  decide +kernel
example : Gen.C06Str.get_format_suffixes ".fa".toList [".a".toList, ".b".toList, ".fa".toList] = (some "fa".toList, none) := by decide +kernel
example : Gen.C06Str.get_format_suffixes ".gz".toList [".gz".toList] = (none, some "gz".toList) := by decide +kernel
example : Gen.C06Str.get_format_suffixes [] [] = (none, none) := by decide +kernel

end CogentModel.C06
