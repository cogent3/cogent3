import CogentModel.Model.TreeRich
import CogentModel.Proofs.TreeRich
/-! # C10 — tree rich dict (`TreeNode.to_rich_dict` → `deserialise_tree`)

The rich dict of a tree is the newick (topology + every node name, the root's printed as "") plus a dict of node
attributes KEYED BY NODE NAME; the deserialiser re-parses the newick (names pass through the builder's
`_unique_name`, an unlabelled root is called "root") and looks every node's attributes up by its name.
A tree is its postorder list of node records (`Model/TreeRich.lean`). -/
namespace CogentModel.C10Tree
open CogentModel.TreeRich

/-- For EVERY tree (any topology, any lengths / params, any size) whose node names are unique, are not one of the
builder's reserved spellings ("" / "edge") and whose root is called "root", `deserialise_object(t.to_rich_dict())`
has the same topology, names, lengths and params. -/
theorem tree_rich_roundtrip_partial {V} (t : List (NodeRec V)) (h : WF t) : roundtrip t = t := by
  simp only [roundtrip, fromRich, toRich, parseNames_printed t h]
  exact zipRebuild_id _ t (foldl_attrs t [] h.1).1

-- non-vacuity: `((a:1,b:2):3,c:4):7;` as parsed (auto-named internal node, root with a length and a param)
example : WF ([⟨"a", some 1, [], 0⟩, ⟨"b", some 2, [("kappa", 5)], 0⟩, ⟨"edge.0", some 3, [], 2⟩, ⟨"c", some 4, [], 0⟩,
    ⟨"root", some 7, [("support", 9)], 2⟩] : List (NodeRec Int)) := by
  refine ⟨by decide, ?_, by decide⟩
  intro n hn
  simp only [names, List.map_cons, List.map_nil, List.mem_cons, List.not_mem_nil, or_false] at hn
  rcases hn with rfl | rfl | rfl | rfl | rfl <;> decide +kernel
example : roundtrip ([⟨"a", some 1, [], 0⟩, ⟨"b", some 2, [("kappa", 5)], 0⟩, ⟨"edge.0", some 3, [], 2⟩, ⟨"c", some 4, [], 0⟩,
    ⟨"root", some 7, [("support", 9)], 2⟩] : List (NodeRec Int))
    = [⟨"a", some 1, [], 0⟩, ⟨"b", some 2, [("kappa", 5)], 0⟩, ⟨"edge.0", some 3, [], 2⟩, ⟨"c", some 4, [], 0⟩,
    ⟨"root", some 7, [("support", 9)], 2⟩] := by decide +kernel

/- FULL STATEMENT (not proved): `∀ t, roundtrip t = t`. False for the mirrored model and for the code, in three ways
   (each a kernel-checked witness below; the first is the open findings C10-tree-root-name-lost /
   C10-tree-named-root-attrs-lost, the second is excluded by the documented assumption "name: label for the node,
   assumed to be unique", the third is a node a user NAMED "edge"). -/

/-- a root with a label of its own: `((a:1,b:2)n1:3,c:4)n0:7;` comes back with root "root", length None -/
theorem tree_rich_named_root_counter :
    roundtrip ([⟨"a", some 1, [], 0⟩, ⟨"b", some 2, [], 0⟩, ⟨"n1", some 3, [], 2⟩, ⟨"c", some 4, [], 0⟩, ⟨"n0", some 7, [], 2⟩] : List (NodeRec Int))
    = [⟨"a", some 1, [], 0⟩, ⟨"b", some 2, [], 0⟩, ⟨"n1", some 3, [], 2⟩, ⟨"c", some 4, [], 0⟩, ⟨"root", none, [], 2⟩] := by decide +kernel

/-- two nodes with the same name (only reachable by renaming a node in place): the later attributes overwrite the
earlier ones in the dict, and the parser renames the second node `a.2`, which finds nothing -/
theorem tree_rich_duplicate_names_counter :
    roundtrip ([⟨"a", some 1, [], 0⟩, ⟨"a", some 2, [], 0⟩, ⟨"edge.0", some 3, [], 2⟩, ⟨"c", some 4, [], 0⟩, ⟨"root", none, [], 2⟩] : List (NodeRec Int))
    = [⟨"a", some 2, [], 0⟩, ⟨"a.2", none, [], 0⟩, ⟨"edge.0", some 3, [], 2⟩, ⟨"c", some 4, [], 0⟩, ⟨"root", none, [], 2⟩] := by decide +kernel

/-- a node literally called "edge" collides with the builder's counter for unnamed nodes -/
theorem tree_rich_reserved_name_counter :
    roundtrip ([⟨"a", some 1, [], 0⟩, ⟨"b", some 2, [], 0⟩, ⟨"edge", some 3, [], 2⟩, ⟨"c", some 4, [], 0⟩, ⟨"root", some 7, [], 2⟩] : List (NodeRec Int))
    = [⟨"a", some 1, [], 0⟩, ⟨"b", some 2, [], 0⟩, ⟨"edge.0", none, [], 2⟩, ⟨"c", some 4, [], 0⟩, ⟨"root", some 7, [], 2⟩] := by decide +kernel

/-- what survives for EVERY tree, whatever its names: the topology (arity sequence) and the number of nodes -/
theorem tree_rich_topology {V} (t : List (NodeRec V)) : (roundtrip t).map (·.arity) = t.map (·.arity) := by
  simp only [roundtrip, fromRich, toRich]
  exact zipRebuild_arity _ _ _ (by simp [parseNames_length, printedNames_length])

example : (roundtrip ([⟨"x", some 1, [], 0⟩, ⟨"x", some 2, [], 0⟩, ⟨"x", none, [], 2⟩] : List (NodeRec Int))).map (·.arity) = [0, 0, 2] := by decide +kernel

end CogentModel.C10Tree
