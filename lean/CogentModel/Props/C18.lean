import CogentModel.Model.PairHMM
import CogentModel.Spec.PairHMM
import CogentModel.Model.GapMerge
import CogentModel.Proofs.PairHMMRows
import CogentModel.Proofs.PairHMMLocal
import CogentModel.Model.Hirschberg
import CogentModel.Proofs.HirschCorrect
import CogentModel.Model.ClassicHMM
import CogentModel.Proofs.ClassicHMM
import CogentModel.Proofs.GapSingle
import CogentModel.Proofs.GapRepaired
import CogentModel.Proofs.Progressive
/-! # C18 — property theorems: aligners preserve their inputs and are optimal for their own model

`S` is any score type with `+` and a strict total order respected by `+` (`ScoreLaws`; instances `Int`, `Rat`);
`Option S` adds `-inf`.  `h : HMM S` is an arbitrary pair HMM (any number of states with any `(dx, dy)` directions,
any log transition matrix incl. BEGIN/END rows, any emission scores) without silent states, as `adapt_pair_tm`
guarantees.  `n`, `m` are arbitrary sequence lengths. -/
namespace CogentModel.C18
open CogentModel.PairHMM CogentModel.GapMerge

variable {S : Type} [Add S] [LT S] [DecidableLT S] [ScoreLaws S]

/-- **No other path scores higher, and the optimum is attained.**  The value the Viterbi kernel model reports for a
global alignment is `≥` the spec score of *every* state path that emits exactly the two sequences, and (when finite)
it *is* the score of one of them.  (The bound by induction along the path over the cell recurrence, attainment by
induction along the pointer walk; no bound on lengths or states.) -/
theorem viterbi_optimal (h : HMM S) (hns : NoSilent h) (n m : Nat) :
    (∀ p, IsGlobalPath h n m p → ele (globalScore h p) (viterbiGlobal h n m).score) ∧
    (∀ v, (viterbiGlobal h n m).score = some v → ∃ p, IsGlobalPath h n m p ∧ globalScore h p = some v) :=
  ⟨global_upper h n m,
   fun v hv => let ⟨p, _, hp, hs⟩ := (viterbiGlobal_solves h hns n m).attained v hv; ⟨p, hp, hs⟩⟩

/-- the maximum is unique as a value: any path that is as good as all others has exactly the reported score -/
theorem viterbi_value_unique (h : HMM S) (hns : NoSilent h) (n m : Nat) (p : List Nat) (hp : IsGlobalPath h n m p)
    (hbest : ∀ q, IsGlobalPath h n m q → ele (globalScore h q) (globalScore h p)) :
    globalScore h p = (viterbiGlobal h n m).score :=
  -- `p` is optimal by hypothesis, the reported score by the theorem; the optimum is unique
  IsOpt.unique (W := fun _ => True) ⟨hbest, fun _ hv => ⟨p, trivial, hp, hv⟩⟩ (viterbiGlobal_solves h hns n m)

/-- **The traceback returns a genuine path**: whenever the reported score is finite the pointer walk succeeds and
yields the `(state, i, j)` annotation of a state path that starts at `(0, 0)` and emits exactly `n` and `m` residues. -/
theorem traceback_path_valid (h : HMM S) (hns : NoSilent h) (n m : Nat) (v : S)
    (hv : (viterbiGlobal h n m).score = some v) :
    ∃ p, (viterbiGlobal h n m).path = some (annotate h 0 0 p) ∧ IsGlobalPath h n m p :=
  let ⟨p, hpath, hp, _⟩ := (viterbiGlobal_solves h hns n m).attained v hv; ⟨p, hpath, hp⟩

/-- **Reported score = independently recomputed score of the returned path** (the spec's `globalScore` knows
nothing about the DP). -/
theorem traceback_score (h : HMM S) (hns : NoSilent h) (n m : Nat) (v : S)
    (hv : (viterbiGlobal h n m).score = some v) :
    ∃ p, (viterbiGlobal h n m).path = some (annotate h 0 0 p) ∧ globalScore h p = (viterbiGlobal h n m).score :=
  let ⟨p, hpath, _, hs⟩ := (viterbiGlobal_solves h hns n m).attained v hv; ⟨p, hpath, by rw [hs, hv]⟩

/-- **Local alignment: no other local path scores higher, and the optimum is attained.**  Local paths are all state
paths over *any contiguous sub-pair* `s1[i0:i1]`, `s2[j0:j1]` that start and end in a match state (the kernel's restart and
best-cell rules); their score has the BEGIN transition and no END transition. -/
theorem viterbi_optimal_local (h : HMM S) (hns : NoSilent h) (n m : Nat) :
    (∀ i0 j0 p, IsLocalPath h n m i0 j0 p → ele (prefixScore h i0 j0 p) (viterbiLocal h n m).score) ∧
    (∀ v, (viterbiLocal h n m).score = some v →
      ∃ p i0 j0, IsLocalPath h n m i0 j0 p ∧ prefixScore h i0 j0 p = some v) :=
  ⟨fun i0 j0 p hp => local_upper h n m i0 j0 p hp,
   fun v hv => let ⟨p, i0, j0, _, hp, hs⟩ := local_attained h hns n m v hv; ⟨p, i0, j0, hp, hs⟩⟩

/-- **Local traceback**: the returned path is a local path of the inputs, its independently recomputed score is the
reported score, and its rows degap to the contiguous parts `s1[i0:i1]`, `s2[j0:j1]` it covers. -/
theorem traceback_score_local (h : HMM S) (hns : NoSilent h) {α : Type} (s1 s2 : List α) (v : S)
    (hv : (viterbiLocal h s1.length s2.length).score = some v) :
    ∃ p i0 j0, (viterbiLocal h s1.length s2.length).path = some (annotate h i0 j0 p) ∧
      IsLocalPath h s1.length s2.length i0 j0 p ∧
      prefixScore h i0 j0 p = (viterbiLocal h s1.length s2.length).score ∧
      (rowsOfPath h s1 s2 (annotate h i0 j0 p)).1.filterMap id = (s1.drop i0).take ((consumedFrom h i0 j0 p).1 - i0) ∧
      (rowsOfPath h s1 s2 (annotate h i0 j0 p)).2.filterMap id = (s2.drop j0).take ((consumedFrom h i0 j0 p).2 - j0) := by
  obtain ⟨p, i0, j0, hpath, hp, hs⟩ := local_attained h hns s1.length s2.length v hv
  have hd := rows_degap h s1 s2 p i0 j0 hp.2.2.2.2.1 hp.2.2.2.2.2
  exact ⟨p, i0, j0, hpath, hp, by rw [hs, hv], hd.1, hd.2⟩

/-- **Rows degap to the inputs**: the gapped rows built from the returned path contain, in order, exactly the
residues of the two input sequences (any alphabet `α`). -/
theorem rows_degap_to_inputs (h : HMM S) (hns : NoSilent h) {α : Type} (s1 s2 : List α) (v : S)
    (hv : (viterbiGlobal h s1.length s2.length).score = some v) :
    ∃ steps, (viterbiGlobal h s1.length s2.length).path = some steps ∧
      (rowsOfPath h s1 s2 steps).1.filterMap id = s1 ∧ (rowsOfPath h s1 s2 steps).2.filterMap id = s2 := by
  obtain ⟨p, hpath, hp, _⟩ := (viterbiGlobal_solves h hns s1.length s2.length).attained v hv
  exact ⟨_, hpath, rows_degap_global h s1 s2 p hp⟩

/-- for a path anywhere inside the sequences (local alignment): the rows degap to the contiguous parts
`s1[i0:i1]`, `s2[j0:j1]` the path covers -/
theorem rows_degap_to_contiguous_part (h : HMM S) {α : Type} (s1 s2 : List α) (p : List Nat) (i0 j0 : Nat)
    (h1 : (consumedFrom h i0 j0 p).1 ≤ s1.length) (h2 : (consumedFrom h i0 j0 p).2 ≤ s2.length) :
    (rowsOfPath h s1 s2 (annotate h i0 j0 p)).1.filterMap id = (s1.drop i0).take ((consumedFrom h i0 j0 p).1 - i0) ∧
    (rowsOfPath h s1 s2 (annotate h i0 j0 p)).2.filterMap id = (s2.drop j0).take ((consumedFrom h i0 j0 p).2 - j0) :=
  rows_degap h s1 s2 p i0 j0 h1 h2

/-- **Rows have equal length** (one column per step of the path), for every path whatsoever. -/
theorem rows_equal_length (h : HMM S) {α : Type} (s1 s2 : List α) (steps : List (Nat × Nat × Nat)) :
    (rowsOfPath h s1 s2 steps).1.length = (rowsOfPath h s1 s2 steps).2.length := by
  rw [(rows_len h s1 s2 steps).1, (rows_len h s1 s2 steps).2]

/-- **Merging keeps the pairwise alignment — partial**: for a single well-formed pairwise alignment (any gap
layout, any lengths) `pairwise_to_multiple` returns rows whose common-gap-free projection is that alignment;
holds for `_gaps_for_injection` as it is in /repo and for the repaired one. -/
theorem merge_keeps_pairwise_partial (fixed : Bool) (reflen : Int) (rg og : Gaps) (len : Int)
    (hv : pairValid reflen (rg, og, len) = true) : keepsAll fixed reflen [(rg, og, len)] = true :=
  keepsAll_single fixed reflen rg og len hv

/-- **…and fails for the code as written** on three well-formed pairwise alignments: reference `CTAA` with
`(C-TAA-, ACTCTC)`, `(CTAA-, -TCCA)`, `(CTAA, --CA)` (gap dicts below); the model of the code in /repo does not keep
the third pairwise alignment. -/
theorem merge_keeps_pairwise_counter :
    let pw : List (Gaps × Gaps × Int) := [([(1,1),(4,1)], [], 6), ([(4,1)], [(0,1)], 4), ([], [(0,2)], 2)]
    (pw.all (pairValid 4)) = true ∧ keepsAll false 4 pw = false := by decide +kernel

/-- **Merging keeps every pairwise alignment — for the PROPOSED REPAIR.**  This is a theorem about the model variant
`fixed = true`, i.e. `pairwise_to_multiple` with `_gaps_for_injection` replaced by `fixes/C18-p2m-gap-injection.patch`
(`seq_position`: alignment column → number of residues before it, a column inside a gap belongs to that gap); all other
functions (`_GapOffset`, `_gap_union`/`_merged_gaps`, `_gap_difference`, `_subset_gaps_to_align_coords`,
`_combined_refseq_gaps`, the injection loop) are the code in /repo.  For EVERY reference length and EVERY list (any number
≥ 0) of well-formed pairwise alignments to that reference (any gap layouts), the merge succeeds and, for every input
pair, the merged reference row and the merged row of that sequence with their common-gap columns removed are exactly the
pairwise alignment, and the rows have equal length.  The code in /repo does NOT satisfy this
(`merge_keeps_pairwise_counter`, known finding C18-p2m-injected-gap-inside-other-gap); the harness ties the repaired
variant to the real `pairwise_to_multiple` with the patched function swapped in. -/
theorem merge_keeps_pairwise_repaired (reflen : Int) (hreflen : 0 ≤ reflen) (pw : List (Gaps × Gaps × Int))
    (hv : ∀ x ∈ pw, pairValid reflen x = true) : keepsAll true reflen pw = true :=
  keepsAll_repaired reflen hreflen pw hv

/-- the pieces of the code in /repo the previous theorem rests on, stated on their own: the sequence→alignment
`_GapOffset` returns, for EVERY query, the total length of the gaps at smaller positions -/
theorem gapoffset_seq2aln_spec (g : Gaps) (hnd : (keys g).Nodup) (x : Int) :
    (GapOffset.mk' g false).get x = sumLt g x := s2a_get g hnd x


/-- **Linear-space (Hirschberg) alignment = full dynamic programming.**  `hirsch` mirrors
`PairEmissionProbs.hirschberg` as the code does it (forward half to the split row, backward half on the reversed
problem, `argmax` over `(column, state)` of the middle row, first half pinned to END in the anchor state, second half
started from the anchor state, recursion until the size test fails, base case = full DP).  For EVERY pair HMM without
silent states, every pair of lengths, every `HIRSCHBERG_LIMIT`, every recursion fuel and every choice of split row
`1 ≤ split n ≤ n` (the code uses `n / 2`): the reported value is the full-DP optimum, and when it is finite the
concatenated traceback is the annotation of ONE state path that emits exactly the two sequences, whose independently
recomputed score is that value and which no other global path beats.  Needs `+` associative/commutative
(`ScoreLawsAC`: `Int`, `Rat`) and `z` = the score of probability 1 (`x + z = x`).  The heart is the cut lemma
(`globalScore_cut`, `split_isOpt`, `bwd_isOpt` in `Proofs/Hirsch*.lean`): max over paths = max over
(cell, state) of the split row of (best prefix ending there) + (best continuation from there). -/
theorem hirschberg_eq_full [ScoreLawsAC S] (z : S) (hz : ∀ x : S, x + z = x) (split : Nat → Nat)
    (hsplit : ∀ n, 3 ≤ n → 1 ≤ split n ∧ split n ≤ n) (limit fuel : Nat) (h : HMM S) (hns : NoSilent h) (n m : Nat) :
    (hirsch z split limit fuel h n m).score = (viterbiGlobal h n m).score ∧
    ∀ v, (hirsch z split limit fuel h n m).score = some v →
      ∃ p, (hirsch z split limit fuel h n m).path = some (annotate h 0 0 p) ∧ IsGlobalPath h n m p ∧
        globalScore h p = some v ∧ ∀ q, IsGlobalPath h n m q → ele (globalScore h q) (globalScore h p) := by
  have hR := hirsch_correct z hz split hsplit limit fuel h hns n m
  -- both answer the same problem, and its optimum is unique
  refine ⟨hR.unique (viterbiGlobal_solves h hns n m), fun v hv => ?_⟩
  obtain ⟨p, hpath, hgp, hsc⟩ := hR.attained v hv
  exact ⟨p, hpath, hgp, hsc, fun q hq => by rw [hsc, ← hv]; exact hR.ge q hq⟩

/-- the rows of the Hirschberg alignment degap to the inputs (same statement as for the full DP) -/
theorem hirschberg_rows_degap [ScoreLawsAC S] (z : S) (hz : ∀ x : S, x + z = x) (split : Nat → Nat)
    (hsplit : ∀ n, 3 ≤ n → 1 ≤ split n ∧ split n ≤ n) (limit fuel : Nat) (h : HMM S) (hns : NoSilent h)
    {α : Type} (s1 s2 : List α) (v : S) (hv : (hirsch z split limit fuel h s1.length s2.length).score = some v) :
    ∃ steps, (hirsch z split limit fuel h s1.length s2.length).path = some steps ∧
      (rowsOfPath h s1 s2 steps).1.filterMap id = s1 ∧ (rowsOfPath h s1 s2 steps).2.filterMap id = s2 := by
  obtain ⟨p, hpath, hgp, _⟩ := (hirsch_correct z hz split hsplit limit fuel h hns s1.length s2.length).attained v hv
  exact ⟨_, hpath, rows_degap_global h s1 s2 p hgp⟩

/-! ## from the caller's score matrix and gap costs to optimality -/

theorem logHMM_noSilent {P : Type} [Add P] [Mul P] [Div P] [OfNat P 0] [OfNat P 1] [NatCast P]
    (lg : P → Option S) (n : Nat) (ed ee : P) (es : Nat → Nat → P) (x y : Nat → Nat) :
    NoSilent (ClassicHMM.logHMM lg n ed ee es x y) := by
  intro s h1 h2
  have h2' : s ≤ 3 := h2
  have : s = 1 ∨ s = 2 ∨ s = 3 := by omega
  rcases this with rfl | rfl | rfl <;> rfl

/-- **The chain from the user's parameters to optimality.**  `ClassicHMM.logHMM` is the pair HMM that
`classic_align_pairwise` builds, as a function of `ed = exp(-d)`, `ee = exp(-e)`, `es a b = exp(Sd[a, b])` (any
positive elements of any ordered field) and of the log `lg` (any map): (1) its transition part is a genuine affine-gap
model — every row a probability distribution with extension `ee/(ee+1)`, open `ed/(2ed+1)`, **no X↔Y**, END weight 1,
BEGIN a distribution; (2) a match of s1 motif `a` with s2 motif `b` emits `lg (n · exp(Sd[a, b]))`, gaps emit `lg 1`;
(3) for that HMM the Viterbi value bounds every global path over the two sequences and is attained by the returned
path.  (The harness checks on every run that the real code builds exactly this HMM from the caller's matrix.) -/
theorem classic_alignment_optimal {P : Type} [Field P] [LinearOrder P] [IsStrictOrderedRing P]
    (lg : P → Option S) (n : Nat) (hn : 0 < n) (ed ee : P) (hd : 0 < ed) (he : 0 < ee) (es : Nat → Nat → P)
    (x y : Nat → Nat) (hx : ∀ i, x i < n) (hy : ∀ j, y j < n) (len1 len2 : Nat) :
    (ClassicHMM.IsStochastic (ClassicHMM.gapT ed ee) ∧
      ClassicHMM.stationary (ClassicHMM.gapT ed ee) 0 + ClassicHMM.stationary (ClassicHMM.gapT ed ee) 1 +
        ClassicHMM.stationary (ClassicHMM.gapT ed ee) 2 = 1) ∧
    ((ClassicHMM.logHMM lg n ed ee es x y).T 1 2 = lg 0 ∧ (ClassicHMM.logHMM lg n ed ee es x y).T 2 1 = lg 0 ∧
      (ClassicHMM.logHMM lg n ed ee es x y).T 1 1 = lg (ee / (ee + 1)) ∧
      (ClassicHMM.logHMM lg n ed ee es x y).T 3 1 = lg (ed / (2 * ed + 1)) ∧
      (ClassicHMM.logHMM lg n ed ee es x y).T 3 3 = lg (1 / (2 * ed + 1)) ∧
      (ClassicHMM.logHMM lg n ed ee es x y).T 3 4 = lg 1) ∧
    (∀ i j, (ClassicHMM.logHMM lg n ed ee es x y).em 3 i j = lg ((n : P) * es (x i) (y j)) ∧
      (ClassicHMM.logHMM lg n ed ee es x y).em 1 i j = lg 1 ∧ (ClassicHMM.logHMM lg n ed ee es x y).em 2 i j = lg 1) ∧
    (∀ p, IsGlobalPath (ClassicHMM.logHMM lg n ed ee es x y) len1 len2 p →
      ele (globalScore (ClassicHMM.logHMM lg n ed ee es x y) p)
        (viterbiGlobal (ClassicHMM.logHMM lg n ed ee es x y) len1 len2).score) ∧
    (∀ v, (viterbiGlobal (ClassicHMM.logHMM lg n ed ee es x y) len1 len2).score = some v →
      ∃ p, (viterbiGlobal (ClassicHMM.logHMM lg n ed ee es x y) len1 len2).path =
          some (annotate (ClassicHMM.logHMM lg n ed ee es x y) 0 0 p) ∧
        IsGlobalPath (ClassicHMM.logHMM lg n ed ee es x y) len1 len2 p ∧
        globalScore (ClassicHMM.logHMM lg n ed ee es x y) p = some v) := by
  obtain ⟨e12, e21, eEnd, -, e11, -, e31, -, e33⟩ := ClassicHMM.fullMatrix_shape ed ee
  refine ⟨⟨ClassicHMM.gapT_stochastic ed ee hd he, (ClassicHMM.begin_is_distribution ed ee hd he).1⟩, ?_, ?_, ?_, ?_⟩
  · exact ⟨congrArg lg e12, congrArg lg e21, congrArg lg e11, congrArg lg e31, congrArg lg e33,
      congrArg lg (eEnd 3 (by decide))⟩
  · exact fun i j => ⟨congrArg lg (ClassicHMM.matchProb_eq n hn es (x i) (y j) (hx i) (hy j)), rfl, rfl⟩
  · exact global_upper _ len1 len2
  · exact (viterbiGlobal_solves _ (logHMM_noSilent lg n ed ee es x y) len1 len2).attained

/-! ## the whole pairwise clause about ONE returned alignment

The theorems above each produce their own `∃ p`.  The two below state, about the single path the model returns,
everything the property asks of a pairwise alignment at once. -/

/-- **Global alignment, all clauses together**: when the reported score is finite, the returned steps are the
annotation of ONE state path `p` that (1) emits exactly the two sequences, (2) has independently recomputed score =
the reported score, (3) is not beaten by ANY other global path, and the rows built from it (4) have equal length and
(5) degap to the two inputs. -/
theorem global_alignment_sound (h : HMM S) (hns : NoSilent h) {α : Type} (s1 s2 : List α) (v : S)
    (hv : (viterbiGlobal h s1.length s2.length).score = some v) :
    ∃ p, (viterbiGlobal h s1.length s2.length).path = some (annotate h 0 0 p) ∧
      IsGlobalPath h s1.length s2.length p ∧
      globalScore h p = (viterbiGlobal h s1.length s2.length).score ∧
      (∀ q, IsGlobalPath h s1.length s2.length q → ele (globalScore h q) (globalScore h p)) ∧
      (rowsOfPath h s1 s2 (annotate h 0 0 p)).1.length = (rowsOfPath h s1 s2 (annotate h 0 0 p)).2.length ∧
      (rowsOfPath h s1 s2 (annotate h 0 0 p)).1.filterMap id = s1 ∧
      (rowsOfPath h s1 s2 (annotate h 0 0 p)).2.filterMap id = s2 := by
  obtain ⟨p, hpath, hp, hs⟩ := (viterbiGlobal_solves h hns s1.length s2.length).attained v hv
  refine ⟨p, hpath, hp, by rw [hs, hv], ?_, rows_equal_length h s1 s2 _, rows_degap_global h s1 s2 p hp⟩
  intro q hq
  rw [hs, ← hv]
  exact global_upper h s1.length s2.length q hq

/-- **Local alignment, all clauses together**: the returned steps annotate ONE local path `p` starting at
`(i0, j0)` whose recomputed score is the reported score, that no local path over ANY contiguous sub-pair beats,
and whose rows have equal length and degap to contiguous parts of the inputs. -/
theorem local_alignment_sound (h : HMM S) (hns : NoSilent h) {α : Type} (s1 s2 : List α) (v : S)
    (hv : (viterbiLocal h s1.length s2.length).score = some v) :
    ∃ p i0 j0, (viterbiLocal h s1.length s2.length).path = some (annotate h i0 j0 p) ∧
      IsLocalPath h s1.length s2.length i0 j0 p ∧
      prefixScore h i0 j0 p = (viterbiLocal h s1.length s2.length).score ∧
      (∀ a b q, IsLocalPath h s1.length s2.length a b q → ele (prefixScore h a b q) (prefixScore h i0 j0 p)) ∧
      (rowsOfPath h s1 s2 (annotate h i0 j0 p)).1.length = (rowsOfPath h s1 s2 (annotate h i0 j0 p)).2.length ∧
      (rowsOfPath h s1 s2 (annotate h i0 j0 p)).1.filterMap id = (s1.drop i0).take ((consumedFrom h i0 j0 p).1 - i0) ∧
      (rowsOfPath h s1 s2 (annotate h i0 j0 p)).2.filterMap id = (s2.drop j0).take ((consumedFrom h i0 j0 p).2 - j0) := by
  -- the returned path of `traceback_score_local`; having the reported score, it is beaten by no local path
  obtain ⟨p, i0, j0, hpath, hp, hs, hd⟩ := traceback_score_local h hns s1 s2 v hv
  exact ⟨p, i0, j0, hpath, hp, hs, fun a b q hq => hs ▸ local_upper h _ _ a b q hq, rows_equal_length h s1 s2 _, hd⟩

/-! ## progressive alignment: the column merge on an arbitrary guide tree (`Model/Progressive.lean`) -/
section progressive
open CogentModel.Progressive

/-- **Progressive alignment, column completion (`pog_traceback`).**  For every pair of child widths and every
`aligned_positions` a DP can return (columns strictly increasing inside each child; columns may be jumped over),
the completed list contains every column of the left child and every column of the right child exactly once and
in order, and keeps the DP's aligned columns as a sub-list. -/
theorem pog_traceback_complete (n1 n2 : Nat) (ap : List Pos) (h : apValid n1 n2 ap 0 0 = true) :
    (pogTraceback n1 n2 ap).filterMap (·.1) = List.range n1 ∧
    (pogTraceback n1 n2 ap).filterMap (·.2) = List.range n2 ∧
    ap.Sublist (pogTraceback n1 n2 ap) := by
  rw [List.range_eq_range', List.range_eq_range']
  have c := pogTraceback_complete n1 n2 ap h
  exact ⟨c.1, c.2, pogLoop_sublist n1 n2 ap 0 0⟩

/-- **Progressive alignment returns equal-length rows that degap to the inputs — for ANY guide tree.**  For every
binary guide tree (any shape, any number of leaves, any sequences) and any DP outcome at every internal node, the
rows produced by the column merge — the code in /repo since the repair 0eea0ba09 (`fixed = true`, the variant the harness
probes and ties on every run) and the code before it (`fixed = false`) — degap to the leaf sequences, in leaf order, and
all have the length of the root's completed position list.  (Structural induction on the tree.) -/
theorem progressive_rows_degap {α : Type} (fixed : Bool) (t : GTree α) (h : t.valid = true) :
    (t.rows fixed).map degap = t.leaves ∧ ∀ r ∈ t.rows fixed, r.length = t.width :=
  GTree.rows_spec fixed t h

/-- **The repaired column merge keeps every sub-alignment** (all guide trees, all DP outcomes): at every internal
node the rows of the result that belong to the left (right) subtree, restricted to the columns that come from that
child, are exactly the child's alignment; the removed columns are gaps in all of these rows by construction
(`specMerge`).  So the columns the DP aligned are columns of the returned alignment.  This is the theorem about the
code AS IT IS in /repo: the repair `fixes/C18-progressive-column-merge.patch` was applied there as commit 0eea0ba09
(`_calcAligneds` converts the parent's column gaps to sequence positions of each row before `merge_maps`), the harness
probes the variant under test on every run and ties the real rows to `fixed = true`.  The name keeps `_repaired` because
the counterexample below documents the code before that commit. -/
theorem progressive_keeps_children_repaired {α : Type} (l r : GTree α) (ap : List Pos)
    (h : (GTree.node l r ap).valid = true) :
    (((GTree.node l r ap).rows true).take (l.rows true).length).map (project false (GTree.node l r ap).full) = l.rows true ∧
    (((GTree.node l r ap).rows true).drop (l.rows true).length).map (project true (GTree.node l r ap).full) = r.rows true :=
  GTree.keeps_children l r ap h

def exInner : GTree Char := .node (.leaf ['C', 'A']) (.leaf ['A']) [(some 0, none), (some 1, some 0)]
def exTree : GTree Char := .node (.leaf ['G', 'A']) exInner [(none, some 0), (some 0, none), (some 1, some 1)]

/-- **Progressive alignment, everything about the rows in one statement, for the code in /repo** (`fixed = true`):
at every internal node of every valid guide tree the rows degap to the leaves below it in leaf order, have the width of
the node, and restricted to a child's columns are that child's alignment. -/
theorem progressive_alignment_sound {α : Type} (l r : GTree α) (ap : List Pos)
    (h : (GTree.node l r ap).valid = true) :
    ((GTree.node l r ap).rows true).map degap = l.leaves ++ r.leaves ∧
    (∀ row ∈ (GTree.node l r ap).rows true, row.length = (GTree.node l r ap).width) ∧
    (((GTree.node l r ap).rows true).take (l.rows true).length).map (project false (GTree.node l r ap).full) = l.rows true ∧
    (((GTree.node l r ap).rows true).drop (l.rows true).length).map (project true (GTree.node l r ap).full) = r.rows true :=
  ⟨(GTree.rows_spec true _ h).1, (GTree.rows_spec true _ h).2, GTree.keeps_children l r ap h⟩

-- hypotheses satisfiable: the 3-sequence tree (GA,(CA,A)) with a gap column inserted between the inner columns
example : exTree.valid = true ∧ (exTree.rows true).map degap = [['G', 'A'], ['C', 'A'], ['A']] := by decide +kernel

/-- **REGRESSION NOTE — the code BEFORE commit 0eea0ba09 did NOT keep sub-alignments** (variant `fixed = false`;
finding C18-progressive-merge-applies-column-gaps-at-sequence-positions, now fixed; its witness is re-checked on every
run).  Kernel-evaluated witness, 3 sequences GA, CA, A on the guide
tree (GA,(CA,A))): the inner node aligns `CA / -A`; the root inserts a gap column between the inner columns; the
third row becomes `-A-` (its `A` under the `G`) instead of `--A`: the parent gap at COLUMN 1 is applied at
SEQUENCE position 1. -/
theorem progressive_keeps_children_counter :
    exTree.valid = true ∧
    exInner.rows false = [[some 'C', some 'A'], [none, some 'A']] ∧
    exTree.rows false = [[none, some 'G', some 'A'], [some 'C', none, some 'A'], [none, some 'A', none]] ∧
    exTree.rows true = [[none, some 'G', some 'A'], [some 'C', none, some 'A'], [none, none, some 'A']] ∧
    ((exTree.rows false).drop 1).map (project true exTree.full) ≠ exInner.rows false := by decide +kernel

end progressive

/-! ## non-vacuity: a concrete 3-state affine-gap HMM over `Int` (X = 1, Y = 2, M = 3) -/

def exHMM : HMM Int where
  dirs := [(true, false), (false, true), (true, true)]
  T := fun a b =>
    if b = 0 ∨ a = 4 then none
    else if a = 1 ∧ b = 2 then none else if a = 2 ∧ b = 1 then none     -- no X<->Y
    else if b = 4 then some 0
    else if b = 3 then some 0 else if a = b then some (-1) else some (-3)
  em := fun s i j => if s = 3 then (if (i + j) % 2 = 0 then some 2 else some (-1)) else some 0

def exHMM_noSilent : NoSilent exHMM := by
  intro s h1 h2
  have h2' : s ≤ 3 := h2
  have : s = 1 ∨ s = 2 ∨ s = 3 := by omega
  rcases this with rfl | rfl | rfl <;> rfl

example : (viterbiGlobal exHMM 3 2).score = some 1 := by decide +kernel
example : (viterbiGlobal exHMM 3 2).path = some [(3, 1, 1), (3, 2, 2), (1, 3, 2)] := by decide +kernel
example : IsGlobalPath exHMM 3 2 [3, 3, 1] ∧ globalScore exHMM [3, 3, 1] = some 1 := by
  refine ⟨⟨?_, by decide⟩, by decide⟩
  intro s hs
  have : s = 3 ∨ s = 1 := by simpa using hs
  rcases this with rfl | rfl <;> exact ⟨by decide, by decide, by decide⟩
example : rowsOfPath exHMM "ACG".toList "AC".toList [(3, 1, 1), (3, 2, 2), (1, 3, 2)] =
    ([some 'A', some 'C', some 'G'], [some 'A', some 'C', none]) := by decide +kernel
example : (viterbiLocal exHMM 3 2).score = some 4 ∧ (viterbiLocal exHMM 3 2).path = some [(3, 1, 1), (3, 2, 2)] := by decide +kernel
-- hypotheses of `global_alignment_sound` / `local_alignment_sound` on real strings, with the rows they speak about
example : (viterbiGlobal exHMM "ACG".toList.length "AC".toList.length).score = some 1 := by decide +kernel
example : (viterbiLocal exHMM "ACG".toList.length "AC".toList.length).score = some 4 ∧
    rowsOfPath exHMM "ACG".toList "AC".toList [(3, 1, 1), (3, 2, 2)] = ([some 'A', some 'C'], [some 'A', some 'C']) := by decide +kernel
example : (hirsch (0 : Int) (· / 2) 0 5 exHMM 5 3).score = (viterbiGlobal exHMM 5 3).score ∧
    (hirsch (0 : Int) (· / 2) 0 5 exHMM 5 3).score = some 2 ∧
    (hirsch (0 : Int) (· / 2) 0 5 exHMM 5 3).path =
      some [(1, 1, 0), (1, 2, 0), (3, 3, 1), (3, 4, 2), (3, 5, 3)] ∧
    (viterbiGlobal exHMM 5 3).path = some [(3, 1, 1), (3, 2, 2), (3, 3, 3), (1, 4, 3), (1, 5, 3)] := by decide +kernel
example : pairValid 4 ([(1,1),(4,1)], [], 6) = true :=
  List.all_eq_true.mp merge_keeps_pairwise_counter.1 _ List.mem_cons_self
example : keepsAll true 4 [([(1,1),(4,1)], [], 6), ([(4,1)], [(0,1)], 4), ([], [(0,2)], 2)] = true := by decide +kernel
example : ∀ x ∈ ([([(1,1),(4,1)], [], 6), ([(4,1)], [(0,1)], 4), ([], [(0,2)], 2)] : List (Gaps × Gaps × Int)),
    pairValid 4 x = true := List.all_eq_true.mp merge_keeps_pairwise_counter.1
-- progressive column merge
open CogentModel.Progressive in
example : apValid 3 2 [(some 0, some 0), (some 2, none)] 0 0 = true ∧
    pogTraceback 3 2 [(some 0, some 0), (some 2, none)] =
      [(some 0, some 0), (some 1, none), (some 2, none), (none, some 1)] := by decide +kernel
open CogentModel.Progressive in
example : exTree.valid = true ∧ exTree.leaves = [['G', 'A'], ['C', 'A'], ['A']] ∧ exTree.width = 3 := by decide +kernel

end CogentModel.C18
