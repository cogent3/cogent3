import Mathlib.Analysis.Normed.Algebra.MatrixExponential
import CogentModel.Proofs.C05RealLemmas
import Mathlib.Tactic.NormNum
/-!
# C05 — the *true* matrix exponential over ℝ

`P Q t = exp (t • Q)` with Mathlib's `NormedSpace.exp` on `Matrix n n ℝ` (any finite index type `n`).
These are the statements the float back-ends (eigen / Padé / Taylor) approximate; the rational
exponentiators themselves are covered in `Props/C05.lean`.
-/
namespace CogentModel.C05Real
open Matrix NormedSpace

variable {n : Type*} [Fintype n] [DecidableEq n]
attribute [local instance] Matrix.linftyOpNormedRing Matrix.linftyOpNormedAlgebra

/-- the transition matrix of the process with generator `Q` at length `t` -/
noncomputable def P (Q : Matrix n n ℝ) (t : ℝ) : Matrix n n ℝ := exp (t • Q)

theorem P_zero (Q : Matrix n n ℝ) : P Q 0 = 1 := by
  unfold P; rw [zero_smul, exp_zero]

theorem P_add (Q : Matrix n n ℝ) (s t : ℝ) : P Q (s + t) = P Q s * P Q t := by
  unfold P
  rw [add_smul]
  exact Matrix.exp_add_of_commute _ _ ((Commute.refl Q).smul_left s |>.smul_right t)

/-- semiconjugation passes from the generators to the transition matrices; stationarity below is the case of `S` with
all rows `π` (against the zero generator), detailed balance the case `S = diag π` (against `Qᵀ`) -/
theorem P_semiconj {S Q Q' : Matrix n n ℝ} (h : SemiconjBy S Q Q') (t : ℝ) : SemiconjBy S (P Q t) (P Q' t) :=
  (h.smul_right t).exp_right

theorem P_of_zero (t : ℝ) : P (0 : Matrix n n ℝ) t = 1 := by
  unfold P; rw [smul_zero, exp_zero]

/-- `π Q = 0 ⇒ π P(t) = π` : stationary motif probabilities stay stationary for every length -/
theorem P_stationary (Q : Matrix n n ℝ) (t : ℝ) (pi : n → ℝ) (hpi : ∀ j, ∑ i, pi i * Q i j = 0) (j : n) :
    ∑ i, pi i * P Q t i j = pi j := by
  have hPQ : (Matrix.of fun _ k => pi k : Matrix n n ℝ) * Q = 0 := by
    ext a b
    rw [Matrix.mul_apply, Matrix.zero_apply, ← hpi b]
    exact Finset.sum_congr rfl fun k _ => by rw [Matrix.of_apply]
  have h := (P_semiconj (show SemiconjBy (Matrix.of fun _ k => pi k : Matrix n n ℝ) Q 0 by rw [SemiconjBy, zero_mul, hPQ]) t).eq
  have := congrFun (congrFun h j) j
  rw [P_of_zero, one_mul, Matrix.of_apply, Matrix.mul_apply] at this
  rw [← this]
  exact Finset.sum_congr rfl fun k _ => by rw [Matrix.of_apply]

/-- `Q·1 = 0 ⇒ P(t)·1 = 1` : every transition matrix has unit row sums (the all-ones vector is stationary for `Qᵀ`) -/
theorem P_rowsum_one (Q : Matrix n n ℝ) (t : ℝ) (hQ : ∀ i, ∑ j, Q i j = 0) (i : n) : ∑ j, P Q t i j = 1 := by
  have := P_stationary Qᵀ t (fun _ => 1) (fun j => by simp only [one_mul, Matrix.transpose_apply]; exact hQ j) i
  unfold P at this ⊢
  simpa only [one_mul, exp_smul_transpose, Matrix.transpose_apply] using this

/-- detailed balance is inherited by every transition matrix: `π_i Q_ij = π_j Q_ji ⇒ π_i P_ij = π_j P_ji` -/
theorem P_detailed_balance (Q : Matrix n n ℝ) (t : ℝ) (pi : n → ℝ) (hdb : ∀ i j, pi i * Q i j = pi j * Q j i)
    (i j : n) : pi i * P Q t i j = pi j * P Q t j i := by
  refine (detailed_iff_semiconj pi (P Q t)).mpr ?_ i j
  rw [P, ← exp_smul_transpose]
  exact P_semiconj ((detailed_iff_semiconj pi Q).mp hdb) t

/-- a concrete two-state generator used to show the hypotheses are satisfiable -/
noncomputable def Qex : Matrix (Fin 2) (Fin 2) ℝ := !![-1, 1; 2, -2]
noncomputable def piex : Fin 2 → ℝ := ![2/3, 1/3]

example : ∀ i, ∑ j, Qex i j = 0 := by
  simp only [Fin.forall_fin_two, Fin.sum_univ_two, Qex]
  norm_num
example : ∀ j, ∑ i, piex i * Qex i j = 0 := by
  simp only [Fin.forall_fin_two, Fin.sum_univ_two, Qex, piex]
  norm_num
example : ∀ i j, piex i * Qex i j = piex j * Qex j i := by
  simp only [Fin.forall_fin_two, Qex, piex]
  norm_num

/-- Entrywise non-negativity of every transition matrix of a generator with non-negative off-diagonal
entries (a Metzler matrix): together with `P_rowsum_one`, `P Q t` is row-stochastic for `t ≥ 0`. -/
theorem P_nonneg (Q : Matrix n n ℝ) (t : ℝ) (ht : 0 ≤ t) (hQ : ∀ i j, i ≠ j → 0 ≤ Q i j) (i j : n) :
    0 ≤ P Q t i j :=
  exp_metzler_entry_nonneg (t • Q) (fun a b hab => by rw [Matrix.smul_apply]; exact mul_nonneg ht (hQ a b hab)) i j

example : ∀ i j, i ≠ j → 0 ≤ Qex i j := by
  simp only [Fin.forall_fin_two, Qex]
  norm_num

end CogentModel.C05Real
