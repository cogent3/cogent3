import CogentModel.Model.Csv
import CogentModel.Model.TableOps
import CogentModel.Spec.TableRows
import CogentModel.Proofs.CsvRoundtrip
import CogentModel.Proofs.TableRowsOf
import CogentModel.Proofs.TableJoinSel
import CogentModel.Proofs.TableDictSet
import CogentModel.Proofs.TableSortOrder
import CogentModel.Proofs.TableSortedKeys
import CogentModel.Proofs.TableNamed
import CogentModel.Proofs.CastStr
import CogentModel.Proofs.TableArgs
import CogentModel.Proofs.TableLoad
/-! # C20 — property theorems

Tables follow the list-of-rows model (`rowsOf` is the abstraction from the column store to the list
of row tuples; `TableRows.*` are the operations on a plain list of rows) and delimited text
round-trips through the csv writer / reader.  All statements are for **all** column stores
(any cell type `α`, any number of rows and columns, duplicate keys, …); side conditions
(`WF`: columns have equal length; selected positions exist) are what `Table`'s constructor
guarantees. -/
namespace CogentModel.C20
open CogentModel.Csv CogentModel.TableOps

/-! ## delimited text -/

/-- For ALL lists of records of ALL cells — any character, including the delimiter, the quote character,
blanks, and CR / LF as far as they are characters of the lineterminator (so that QUOTE_MINIMAL quotes the
cell); empty cells, empty records, the lone-empty-field record — and for both lineterminators "\n" (what
`Table.write` passes) and "\r\n": reading back what the writer wrote returns exactly the records.
The reader is the character-level state machine of `_csv.c` fed the lines of a `newline=''` stream;
CR / LF inside quoted fields span lines.  (Induction over characters, fields, records.) -/
theorem csv_roundtrip (d : Dialect) (g : GoodDialect d) (rows : List Row)
    (hn : ∀ r ∈ rows, ∀ f ∈ r, Quotable d f) :
    csvRead d.delim (csvWrite d rows) = .ok rows :=
  csv_roundtrip_general g rows hn

/-- with the excel default lineterminator "\r\n" there is no restriction on the cells at all -/
theorem csv_roundtrip_crlf (delim : Char) (hq : delim ≠ quoteCh) (hnl : isNL delim = false) (rows : List Row) :
    csvRead delim (csvWrite ⟨delim, ['\r', '\n']⟩ rows) = .ok rows := by
  apply csv_roundtrip_general (d := ⟨delim, ['\r', '\n']⟩) ⟨Or.inr rfl, hq, hnl⟩
  intro r _ f _ c _ hc
  simp [isNL] at hc
  rcases hc with rfl | rfl <;> simp

/-- … and with "\n" every cell without a bare CR is covered (LF inside cells is quoted) -/
theorem csv_roundtrip_lf (delim : Char) (hq : delim ≠ quoteCh) (hnl : isNL delim = false) (rows : List Row)
    (hcr : ∀ r ∈ rows, ∀ f ∈ r, '\r' ∉ f) :
    csvRead delim (csvWrite ⟨delim, ['\n']⟩ rows) = .ok rows := by
  apply csv_roundtrip_general (d := ⟨delim, ['\n']⟩) ⟨Or.inl rfl, hq, hnl⟩
  intro r hr f hf c hc hn
  simp [isNL] at hn
  rcases hn with rfl | rfl
  · simp
  · exact absurd hc (hcr r hr f hf)

/- FULL STATEMENT (not proved): `csv_roundtrip_lf` without `hcr`.  It is false for the writer as CPython 3.12
   implements it (and as the model mirrors it): QUOTE_MINIMAL quotes a field only for the delimiter, the quote
   character and the characters OF THE LINETERMINATOR, so with lineterminator "\n" a cell "a\rb" is written
   unquoted and read back as two records (`csv_cr_counter`).  Cells with CR are outside the property (printable
   ASCII); `Table`'s loader additionally opens files with universal newlines, which rewrites CR. -/
theorem csv_cr_counter :
    (csvRead '\t' (csvWrite ⟨'\t', ['\n']⟩ [[['a', '\r', 'b']]])).toOption = some [[['a']], [['b']]] := by decide +kernel

example : GoodDialect ⟨'\t', ['\n']⟩ := ⟨Or.inl rfl, by decide, by decide⟩
example : GoodDialect ⟨',', ['\r', '\n']⟩ := ⟨Or.inr rfl, by decide, by decide⟩
example : ∀ r ∈ [[['a', '\t', 'b'], [], ['q', '"', 'r'], ['x', '\n', 'y']], [[]], [], [[], []]],
    ∀ f ∈ r, Quotable ⟨'\t', ['\n']⟩ f := by
  unfold Quotable
  decide
example : csvWrite ⟨'\t', ['\n']⟩ [[['a', '\t', 'b'], [], ['q', '"', 'r'], ['x', '\n', 'y']], [[]], [], [[], []]]
    = "\"a\tb\"\t\t\"q\"\"r\"\t\"x\ny\"\n\"\"\n\n\t\n".toList := by decide +kernel
example : (csvRead '\t' "\"a\tb\"\t\t\"q\"\"r\"\t\"x\ny\"\n\"\"\n\n\t\n".toList).toOption
    = some [[['a', '\t', 'b'], [], ['q', '"', 'r'], ['x', '\n', 'y']], [[]], [], [[], []]] := by decide +kernel

/-- `Table.write` (title row, header, rows, legend row) followed by `load_delimited` returns the
header, the cell text, the title and the legend unchanged. -/
theorem table_text_roundtrip (d : Dialect) (g : GoodDialect d) (title legend : Str) (header : Row)
    (rows : List Row) (ht : Quotable d title) (hl : Quotable d legend) (hh : ∀ f ∈ header, Quotable d f)
    (hn : ∀ r ∈ rows, ∀ f ∈ r, Quotable d f) :
    loadDelimited d.delim (title ≠ []) (legend ≠ []) (tableWrite d title header rows legend)
      = .ok (header, rows, title, legend) := by
  unfold loadDelimited
  rw [csvRead_tableWrite g title legend header rows ht hl hh hn]
  by_cases h1 : title = [] <;> by_cases h2 : legend = [] <;> simp [h1, h2, dropLast_eq]

example : tableWrite ⟨',', ['\n']⟩ ['T'] [['a'], ['b', ',']] [[[], ['"']]] [] = "T\na,\"b,\"\n,\"\"\"\"\n".toList := by
  decide +kernel

/-- `to_csv()` / `to_tsv()` / `to_string(format="csv"|"tsv")` (= the csv writer on header :: rows, final
newline dropped — `separator_format` since commit 4196fd381): the text reads back as header :: rows, for all
tables with at least one column, cells as in `csv_roundtrip` -/
theorem to_csv_reads_back (d : Dialect) (g : GoodDialect d) (hlt : d.lt = ['\n']) (header : Row) (rows : List Row)
    (hne : ∀ r ∈ header :: rows, r ≠ []) (hn : ∀ r ∈ header :: rows, ∀ f ∈ r, Quotable d f) :
    csvRead d.delim (toCsvText d header rows) = .ok (header :: rows) := by
  unfold toCsvText csvRead
  -- the records before the last keep their terminator, the last record loses it
  obtain ⟨rs, last, e⟩ : ∃ rs last, header :: rows = rs ++ [last] :=
    ⟨_, _, (List.dropLast_concat_getLast (List.cons_ne_nil _ _)).symm⟩
  rw [e] at hn hne ⊢
  have et : (csvWrite d (rs ++ [last])).dropLast = csvWrite d rs ++ rowText d last := by
    rw [csvWrite_append]
    simp only [csvWrite, writeRow, hlt, List.append_nil]
    rw [← List.append_assoc, List.dropLast_concat]
  rw [et, readChars_rows_then g rs (fun r hr => hn r (by simp [hr])),
    readChars_row_eof g last (hne _ (by simp)) (hn last (by simp))]

example : toCsvText ⟨',', ['\n']⟩ [['x', ',', 'y']] [[['q', '"', 'r', ',', 's']], [[]]]
    = "\"x,y\"\n\"q\"\"r,s\"\n\"\"".toList := by decide +kernel

/-! ## numeric columns are restored as numbers (`cast_str_to_array`) -/

/-- `int(str(z)) == z` in the model of the loader's integer grammar -/
theorem int_text_roundtrip (z : Int) : CastStr.parseInt (CastStr.showInt z) = some z :=
  CastStr.parseInt_showInt z

/-- a column of ints written as `str(n)`, a column of floats written as `repr(x)`: the loader's decision
procedure (all cells int → ints, else all float → floats, else text) gives back exactly those numbers.
The float half is relative to the two trusted facts about float64 text (`float(repr(x)) == x`, `repr(x)` is
never an integer literal). -/
theorem load_restores_numeric_columns {F : Type} (parseFloat : CastStr.Str → Option F) (reprF : F → CastStr.Str)
    (hrt : ∀ x, parseFloat (reprF x) = some x) (hni : ∀ x, CastStr.parseInt (reprF x) = none) :
    (∀ ns : List Int, ns ≠ [] → CastStr.castColumn parseFloat (ns.map CastStr.showInt) = .ints ns) ∧
    (∀ xs : List F, xs ≠ [] → CastStr.castColumn parseFloat (xs.map reprF) = .floats xs) :=
  ⟨fun ns h => CastStr.castColumn_ints parseFloat ns h,
   fun xs h => CastStr.castColumn_floats parseFloat reprF hrt hni xs h⟩

/-- … and a column with a cell that is neither keeps its text (up to the `eval()` pass, the open finding
C20-load-eval-changes-text) -/
theorem load_keeps_text_columns {F : Type} (parseFloat : CastStr.Str → Option F) (cells : List CastStr.Str)
    (h1 : cells.mapM CastStr.parseInt = none) (h2 : cells.mapM parseFloat = none) :
    CastStr.castColumn parseFloat cells = .text cells := by
  unfold CastStr.castColumn
  by_cases hc : cells = []
  · simp [hc]
  · simp [hc, h1, h2]

example : CastStr.parseInt (CastStr.showInt (-1099511627776)) = some (-1099511627776) := int_text_roundtrip _
example : CastStr.parseInt " 1_0 ".toList = some 10 ∧ CastStr.parseInt "1.5".toList = none ∧
    CastStr.parseInt "01".toList = some 1 := by decide +kernel

/-! ## joins -/

/-- **The hash join is the nested-loop join**, for all row lists, including duplicate keys on either
side, in the nested loop's order: selecting rows by the two index lists the dictionary-based
algorithm of `inner_join` produces gives `[out r s for r in R for s in S if key r == key s]`. -/
theorem hash_join_eq_nested_loop {ρ σ τ κ : Type} [DecidableEq κ] (R : List ρ) (S : List σ)
    (kr : ρ → κ) (ks : σ → κ) (out : ρ → σ → τ) (dr : ρ) (ds : σ) :
    List.zipWith (fun i j => out (R.getD i dr) (S.getD j ds))
        (hashJoinSel (R.map kr) (S.map ks)).1 (hashJoinSel (R.map kr) (S.map ks)).2
      = R.flatMap (fun r => S.filterMap (fun s => if kr r = ks s then some (out r s) else none)) := by
  -- both lists through their row numbers, then `hashJoinSel_zipWith`
  have eR : R.map kr = (List.range R.length).map fun i => kr (R.getD i dr) :=
    (congrArg _ (ListGetD.map_getD_range_self dr R)).symm.trans List.map_map
  have eS : S.map ks = (List.range S.length).map fun j => ks (S.getD j ds) :=
    (congrArg _ (ListGetD.map_getD_range_self ds S)).symm.trans List.map_map
  rw [eR, eS, hashJoinSel_zipWith, ← ListGetD.flatMap_range_getD R dr]
  simp only [← ListGetD.filterMap_range_getD S ds]

example : hashJoinSel ["a", "b", "a"] ["a", "c", "a"] = ([0, 0, 2, 2], [0, 2, 0, 2]) := by decide +kernel

/-- `inner_join` on the column store gives the rows of the nested-loop join of the two row lists
(key columns `kS`/`kO`, kept columns of other `keep`; python `==` on keys through `key`). -/
theorem inner_join_rows_eq {α κ : Type} [DecidableEq κ] (dflt : α) (key : α → κ) (kS kO keep : List Nat)
    (self other : List (List α)) (hs : self ≠ []) (hwS : WF self) (hwO : WF other)
    (hkS : kS ≠ []) (hkO : kO ≠ [])
    (hbS : ∀ j ∈ kS, j < self.length) (hbO : ∀ j ∈ kO, j < other.length) :
    rowsOf dflt (innerJoinCols dflt key kS kO keep self other)
      = TableRows.innerJoin dflt key kS kO keep (rowsOf dflt self) (rowsOf dflt other) := by
  unfold innerJoinCols TableRows.innerJoin
  simp only
  rw [keys_selectCols dflt key kS self hwS hkS hbS, keys_selectCols dflt key kO other hwO hkO hbO,
    rowsOf_hstack_take dflt self _ _ _ hs (hashJoinSel_length _ _)]
  -- the rows are `rowAt` over the row numbers, and so are the key tuples
  unfold rowsOf
  rw [List.map_map, List.map_map, hashJoinSel_zipWith, List.flatMap_map]
  simp only [List.filterMap_map, rowAt_selectCols]
  rfl

example : rowsOf 0 (innerJoinCols 0 id [0] [0] [1] [[1, 2, 1], [10, 20, 30]] [[1, 1, 3], [7, 8, 9]])
    = [[1, 10, 7], [1, 10, 8], [1, 30, 7], [1, 30, 8]] := by decide +kernel

/-- `cross_join` gives `[r + s for r in R for s in S]` (itertools.product order). -/
theorem cross_join_is_product {α : Type} (dflt : α) (self other : List (List α)) (hs : self ≠ []) :
    rowsOf dflt (crossJoinCols dflt self other) = TableRows.crossJoin (rowsOf dflt self) (rowsOf dflt other) := by
  unfold crossJoinCols TableRows.crossJoin
  simp only
  rw [rowsOf_hstack_take dflt self other _ _ hs (crossSel_length _ _)]
  unfold crossSel
  simp only
  rw [crossSel_zipWith]
  unfold rowsOf
  rw [List.flatMap_map]
  simp only [List.map_map]
  rfl

example : rowsOf 0 (crossJoinCols 0 [[1, 2]] [[7, 8, 9]]) = [[1, 7], [1, 8], [1, 9], [2, 7], [2, 8], [2, 9]] := by
  decide +kernel

/-! ## sorting -/

/-- `sorted`: for every transitive, total record comparison `le` (numpy's `argsort` on the record
array; any sorting permutation — the model uses a merge sort), the result's rows are a permutation
of the table's rows and are in order under `le` on the (transformed) key records. -/
theorem sorted_is_sorted_perm {α κ : Type} (dflt : α) (le : κ → κ → Bool)
    (ht : ∀ a b c, le a b = true → le b c = true → le a c = true)
    (htot : ∀ a b, (le a b || le b a) = true)
    (keyOf : List α → κ) (cols : List (List α)) :
    (rowsOf dflt (sortedCols dflt le keyOf cols)).Perm (rowsOf dflt cols) ∧
    TableRows.SortedBy le keyOf (rowsOf dflt (sortedCols dflt le keyOf cols)) := by
  have hp := sortIdx_perm le ((rowsOf dflt cols).map keyOf)
  have hlen : ((rowsOf dflt cols).map keyOf).length = nrows cols := by simp [rowsOf]
  rw [hlen] at hp
  -- every position the sort returns is a row number
  have hb : ∀ i ∈ sortIdx le ((rowsOf dflt cols).map keyOf), i < nrows cols := fun i hi =>
    List.mem_range.1 (hp.mem_iff.1 hi)
  unfold sortedCols
  rw [rowsOf_takeRows dflt _ cols hb]
  refine ⟨hp.map (rowAt dflt cols), ?_⟩
  unfold TableRows.SortedBy
  rw [List.pairwise_map]
  -- … so its key is the key of that row
  have key : ∀ i ∈ sortIdx le ((rowsOf dflt cols).map keyOf),
      ((rowsOf dflt cols).map keyOf)[i]? = some (keyOf (rowAt dflt cols i)) := fun i hi => by
    simp [rowsOf, hb i hi]
  refine (sortIdx_sorted le ht htot ((rowsOf dflt cols).map keyOf)).imp_of_mem fun hi hj hij => ?_
  rwa [key _ hi, key _ hj] at hij

/-- … in particular for the field-by-field comparison of key records the model of `Table.sorted` uses. -/
theorem sorted_lex_is_sorted_perm (keyOf : List Cell → List SKey) (cols : List (List Cell)) :
    (rowsOf dfl (sortedCols dfl lexLe keyOf cols)).Perm (rowsOf dfl cols) ∧
    TableRows.SortedBy lexLe keyOf (rowsOf dfl (sortedCols dfl lexLe keyOf cols)) :=
  sorted_is_sorted_perm dfl lexLe lexLe_trans lexLe_total keyOf cols

example : lexLe [.num 1, .str [97]] [.num 1, .str [97, 98]] = true := by decide +kernel

/-- `_reverse_num` (`x * -1`) reverses the order of numbers exactly. -/
theorem reverse_num_antitone (a b : Rat) : a ≤ b ↔ reverseNum b ≤ reverseNum a :=
  reverseNum_le_iff a b

example : reverseNum 2 = -2 := by rw [reverseNum, Rat.mul_neg, Rat.mul_one]

/-- Reversal of a non-numeric key column (str, bool, …) by negated dense ranks
(`numpy.unique(col, return_inverse=True)` in `Table.sorted`): for ALL values `x`, `y` occurring in the
column — including strings one of which is a prefix of the other — the transformed fields compare in
exactly the opposite order. -/
theorem reverse_str_antitone (D : List SKey) (x y : SKey) (hx : x ∈ D) (hy : y ∈ D) :
    SKey.le (.num (-((denseRank SKey.le D x : Nat) : Rat))) (.num (-((denseRank SKey.le D y : Nat) : Rat)))
      = SKey.le y x :=
  negRank_le_iff D x y hx

-- 'a' < 'ab' < 'b' (a string and a proper prefix of it) get ranks 0, 1, 2
example : [SKey.str [97], .str [97, 98], .str [98]].map
    (denseRank SKey.le [SKey.str [98], .str [97], .str [97, 98]]) = [0, 1, 2] := by decide +kernel

/-- **Multi-key sorting with mixed directions** (`sorted(columns=[…], reverse=[…])`): let the key record of a
row be its key fields `fields r`, field `i` passed through transform `T_i` — the identity for an ascending column,
the negated dense rank among the column's distinct values for a reversed non-numeric column, `x * -1` for a reversed
numeric column (each is `FieldOK` for its direction: `fieldOK_asc`, `fieldOK_descRank`, `fieldOK_descNum`).  Then for
ALL column stores the result is a permutation of the rows in which every earlier row precedes every later row in the
order the caller asked for: the FIRST differing key field decides, ascending or descending as requested
(`mixedLe`).  Nothing is claimed about the relative order of rows with equal keys (numpy's argsort on records is
not stable). -/
theorem sorted_mixed_keys_order {α : Type} (dflt : α) (sp : List (Bool × (SKey → SKey)))
    (fields : List α → List SKey) (cols : List (List α))
    (hok : ∀ r ∈ rowsOf dflt cols, ∀ s ∈ rowsOf dflt cols, AllOK sp (fields r) (fields s)) :
    (rowsOf dflt (sortedCols dflt lexLe (fun r => keyT sp (fields r)) cols)).Perm (rowsOf dflt cols) ∧
    (rowsOf dflt (sortedCols dflt lexLe (fun r => keyT sp (fields r)) cols)).Pairwise
      (fun r s => mixedLe (sp.map (·.1)) (fields r) (fields s) = true) := by
  obtain ⟨hperm, hsorted⟩ := sorted_is_sorted_perm dflt lexLe lexLe_trans lexLe_total
    (fun r => keyT sp (fields r)) cols
  refine ⟨hperm, ?_⟩
  unfold TableRows.SortedBy at hsorted
  refine hsorted.imp_of_mem ?_
  intro r s hr hs h
  rw [← lexLe_keyT sp (fields r) (fields s) (hok r ((hperm.mem_iff).1 hr) s ((hperm.mem_iff).1 hs))]
  exact h

-- first key ascending (numbers), second key descending by rank over {'a', 'ab'}: the hypothesis is satisfiable and
-- (1, 'ab') comes before (1, 'a')
example : AllOK [(false, id), (true, fun k => .num (-((denseRank SKey.le [.str [97], .str [97, 98]] k : Nat) : Rat)))]
    [.num 1, .str [97, 98]] [.num 1, .str [97]] :=
  ⟨fieldOK_asc _ _, fieldOK_descRank _ _ _ (by decide) (by decide), trivial⟩
example : mixedLe [false, true] [.num 1, .str [97, 98]] [.num 1, .str [97]] = true ∧
    mixedLe [false, true] [.num 1, .str [97]] [.num 1, .str [97, 98]] = false ∧
    mixedLe [false, true] [.num 0, .str [97]] [.num 1, .str [97, 98]] = true := by decide +kernel

/-- `sorted(reverse=<one non-numeric column>)` is a descending sort of the rows, for ALL column stores. -/
theorem sorted_reverse_descending {α : Type} (dflt : α) (keyOf : List α → SKey) (cols : List (List α)) :
    let D := setOfList [] ((rowsOf dflt cols).map keyOf)
    (rowsOf dflt (sortedCols dflt lexLe
        (fun r => [SKey.num (-((denseRank SKey.le D (keyOf r) : Nat) : Rat))]) cols)).Pairwise
      (fun r s => SKey.le (keyOf s) (keyOf r) = true) := by
  intro D
  have hD : ∀ r ∈ rowsOf dflt cols, keyOf r ∈ D := fun r hr =>
    (mem_setOfList _ _ _).2 (Or.inr (List.mem_map_of_mem hr))
  refine (sorted_mixed_keys_order dflt [(true, fun k => .num (-((denseRank SKey.le D k : Nat) : Rat)))]
    (fun r => [keyOf r]) cols fun r hr s hs => ⟨fieldOK_descRank D _ _ (hD r hr) (hD s hs), trivial⟩).2.imp
    fun {r s} h => ?_
  simp only [List.map, mixedLe, if_true] at h
  split at h
  · rename_i e
    rw [e]
    simpa using SKey.le_total (keyOf s) (keyOf s)
  · exact h

example : SKey.le (.str [97]) (.str [97, 98]) = true ∧ SKey.le (.bool false) (.bool true) = true := by decide +kernel

/-! ## row-wise operations -/

/-- `filtered`: rows kept by the callback on the selected fields, in order. -/
theorem filtered_eq {α : Type} (dflt : α) (p : List α → Bool) (sel : List Nat) (cols : List (List α)) :
    rowsOf dflt (filteredCols dflt p sel cols) = TableRows.filtered dflt p sel (rowsOf dflt cols) :=
  filteredCols_rows dflt p sel cols

example : rowsOf 0 (filteredCols 0 (fun r => decide (r.getD 0 0 > 1)) [1] [[1, 2, 3], [5, 0, 7]]) = [[1, 5], [3, 7]] := by
  decide +kernel

/-- `count_unique`: the count stored for a key tuple is the number of rows projecting onto it. -/
theorem count_unique_eq {α κ : Type} [DecidableEq κ] (dflt : α) (key : α → κ) (sel : List Nat)
    (cols : List (List α)) (hw : WF cols) (hs : sel ≠ []) (hb : ∀ j ∈ sel, j < cols.length) (k : List κ) :
    countLookup k (countUniqueCols dflt key sel cols) = TableRows.countOf dflt key sel (rowsOf dflt cols) k := by
  unfold countUniqueCols TableRows.countOf
  rw [countLookup_countAll, keys_selectCols dflt key sel cols hw hs hb]
  exact Nat.zero_add _

example : countUniqueCols 0 id [0] [[1, 2, 1], [5, 5, 5]] = [([1], 2), ([2], 1)] := by decide +kernel

/-- `distinct_values`: exactly the key tuples that occur among the rows, each once. -/
theorem distinct_eq {α κ : Type} [DecidableEq κ] (dflt : α) (key : α → κ) (sel : List Nat)
    (cols : List (List α)) (hw : WF cols) (hs : sel ≠ []) (hb : ∀ j ∈ sel, j < cols.length) (k : List κ) :
    (k ∈ distinctCols dflt key sel cols ↔ TableRows.isDistinctValue dflt key sel (rowsOf dflt cols) k) ∧
    (distinctCols dflt key sel cols).Nodup := by
  unfold distinctCols TableRows.isDistinctValue
  rw [mem_setOfList, keys_selectCols dflt key sel cols hw hs hb]
  exact ⟨by simp, nodup_setOfList _ _ List.nodup_nil⟩

example : distinctCols 0 id [0] [[1, 2, 1], [5, 5, 5]] = [[1], [2]] := by decide +kernel

/-- column selection (`get_columns`, `table[:, columns]`): every row restricted to the positions. -/
theorem select_columns_eq {α : Type} (dflt : α) (sel : List Nat) (cols : List (List α)) (hw : WF cols)
    (hs : sel ≠ []) (hb : ∀ j ∈ sel, j < cols.length) :
    rowsOf dflt (selectCols sel cols) = TableRows.select dflt sel (rowsOf dflt cols) :=
  rowsOf_selectCols dflt sel cols hw hs hb

example : WF [[1, 2], [3, 4]] := by intro c hc; simp at hc; rcases hc with rfl | rfl <;> rfl

/-- `with_new_column`: every row gets the callback's value on its selected fields appended. -/
theorem with_new_column_eq {α : Type} (dflt : α) (f : List α → α) (sel : List Nat) (cols : List (List α))
    (h : cols ≠ []) :
    rowsOf dflt (withNewColumnCols dflt f sel cols) = TableRows.withNewColumn dflt f sel (rowsOf dflt cols) := by
  unfold withNewColumnCols TableRows.withNewColumn rowsOf
  rw [nrows_append _ _ h, List.map_map]
  apply List.map_congr_left
  intro i hi
  have hi' : i < nrows cols := by simpa using hi
  rw [rowAt_append]
  simp only [Function.comp]
  rw [← rowAt_selectCols]
  simp [rowAt, List.getD_eq_getElem?_getD, hi']

example : rowsOf 0 (withNewColumnCols 0 List.sum [0, 1] [[1, 2], [3, 4]]) = [[1, 3, 4], [2, 4, 6]] := by decide +kernel

/-- `appended` (any number of tables whose columns are aligned with `self`'s): the rows are the
concatenation of the tables' rows, and the result is again well formed. -/
theorem appended_eq {α : Type} (dflt : α) (ts : List (List (List α))) (L : Nat)
    (hw : ∀ t ∈ ts, WF t) (hL : ∀ t ∈ ts, t.length = L) (hne : ts ≠ []) :
    rowsOf dflt (appendCols ts) = TableRows.appended (ts.map (rowsOf dflt)) ∧ WF (appendCols ts) :=
  ⟨(appendCols_rows dflt ts L hw hL hne).1, (appendCols_rows dflt ts L hw hL hne).2.1⟩

example : rowsOf 0 (appendCols [[[1, 2], [3, 4]], [[5], [6]], [[], []]]) = [[1, 3], [2, 4], [5, 6]] := by decide +kernel

/-- transposing a (well-formed, non-empty) column store twice gives it back. -/
theorem transposed_involutive {α : Type} (dflt : α) (cols : List (List α)) (hw : WF cols) (hn : nrows cols ≠ 0) :
    transposeCols dflt (transposeCols dflt cols) = cols := by
  show rowsOf dflt (rowsOf dflt cols) = cols
  rw [rowsOf, nrows_rowsOf dflt cols hn]
  exact transpose_rowsOf dflt cols hw

example : transposeCols 0 [[1, 2, 3], [4, 5, 6]] = [[1, 4], [2, 5], [3, 6]] := by decide +kernel

/-- `transposed` (data part): the rows of the transposed store are `list(zip(*rows))` of the original rows. -/
theorem transposed_rows_are_zip {α : Type} (dflt : α) (cols : List (List α)) (hw : WF cols) (hn : nrows cols ≠ 0) :
    rowsOf dflt (transposeCols dflt cols) = TableRows.transpose dflt cols.length (rowsOf dflt cols) :=
  (transposed_involutive dflt cols hw hn).trans (transpose_rowsOf dflt cols hw).symm

example : TableRows.transpose 0 2 (rowsOf 0 [[1, 2, 3], [4, 5, 6]]) = [[1, 2, 3], [4, 5, 6]] ∧
    rowsOf 0 (transposeCols 0 [[1, 2, 3], [4, 5, 6]]) = [[1, 2, 3], [4, 5, 6]] := by decide +kernel

/-! ## the NAMED layer (what the driver runs against the real `Table`)

`Table.*` below are the functions with column names, `columns=` resolution, `right_` prefix, title column,
index_name.  `Table.WFT`: one column per header name, equally long columns, the index_name names a column.
`IndexOK t names`: the index column is absent from `names` or is its first entry — under this hypothesis
`table[:, columns]` returns the columns in the requested order; otherwise the code (and the model) puts the
index column first and the callers mis-address the cells: `index_column_first_counter`, the open finding
C20-index-column-moved-first-in-subtables. -/

/-- `columns=` resolution: when it succeeds every name is a column, and the positions found carry those names -/
theorem named_resolution (t : Table) (names : List String) (sel : List Nat) (h : t.idxsOf names = .ok sel) :
    sel.map t.name = names ∧ (∀ j ∈ sel, j < t.header.length) ∧ sel.length = names.length :=
  idxsOf_ok t names sel h

example : (cexT.idxsOf ["a", "k"]).toOption = some [1, 0] := by decide +kernel

/-- `filtered(callback, columns)`: no rows → `self`; otherwise same header and index_name, and the rows the callback
accepts on the fields `columns` -/
theorem named_filtered_eq (t : Table) (p : List Cell → Bool) (names : List String) (r : Table)
    (hi : IndexOK t names) (h : t.filtered p names = .ok r) :
    (nrows t.cols = 0 ∧ r = t) ∨
    ∃ sel, t.idxsOf names = .ok sel ∧ r.header = t.header ∧ r.index = t.index ∧
      r.rows = TableRows.filtered dfl p sel t.rows := by
  unfold Table.filtered at h
  split at h
  · exact Or.inl ⟨‹_›, by cases h; rfl⟩
  · obtain ⟨sel, e, h⟩ := resolved hi h
    cases h
    exact Or.inr ⟨sel, e, rfl, rfl, filteredCols_rows dfl p sel t.cols⟩

/-- `count(callback, columns)`: the number of rows `filtered` would keep -/
theorem named_count_eq (t : Table) (p : List Cell → Bool) (names : List String) (n : Nat)
    (hi : IndexOK t names) (h : t.count p names = .ok n) :
    (nrows t.cols = 0 ∧ n = 0) ∨
    ∃ sel, t.idxsOf names = .ok sel ∧ n = (TableRows.filtered dfl p sel t.rows).length := by
  unfold Table.count at h
  split at h
  · exact Or.inl ⟨‹_›, by cases h; rfl⟩
  · obtain ⟨sel, e, h⟩ := resolved hi h
    cases h
    exact Or.inr ⟨sel, e, by rw [Table.rows, ← filteredCols_rows, filteredCols, length_rowsOf,
      nrows_takeRows dfl _ t.cols fun e0 => ‹¬ nrows t.cols = 0› (e0 ▸ rfl)]⟩

/-- `get_row_indices(callback, columns, negate)`: the mask holds, row by row, the callback's verdict on the fields
`columns`, negated on request -/
theorem named_row_indices_eq (t : Table) (p : List Cell → Bool) (names : List String) (negate : Bool)
    (m : List Bool) (hi : IndexOK t names) (h : t.rowIndices p names negate = .ok m) :
    ∃ sel, t.idxsOf names = .ok sel ∧ m = t.rows.map (fun row => p (TableRows.proj dfl sel row) != negate) := by
  obtain ⟨sel, e, h⟩ := resolved hi h
  cases h
  exact ⟨sel, e, by simp [Table.rows, rowsOf, rowAt_selectCols]⟩

/-- the witness of the open finding on the model: table (k*, a) with index k, `filtered(r[0]=='y', columns=[a, k])`:
the row oracle keeps row (q, y), the code (and the model) keeps nothing because the callback sees (k, a) -/
theorem index_column_first_counter :
    ¬ IndexOK cexT ["a", "k"] ∧
    (cexT.filtered cexP ["a", "k"]).toOption.map Table.rows = some [] ∧
    (cexT.idxsOf ["a", "k"]).toOption = some [1, 0] ∧
    TableRows.filtered dfl cexP [1, 0] cexT.rows = [[.str "q", .str "y"]] := by
  refine ⟨?_, by decide +kernel, by decide +kernel, by decide +kernel⟩
  intro h
  simp [IndexOK, cexT] at h

example : IndexOK cexT ["k", "a"] := Or.inr ⟨["a"], rfl, by simp⟩

/-- `distinct_values(columns)`: exactly the key tuples of the fields `columns` that occur among the rows, each once -/
theorem named_distinct_values_eq (t : Table) (names : List String) (res : List (List Key)) (hw : t.WFT)
    (hne : names ≠ []) (hi : IndexOK t names) (h : t.distinctValues names = .ok res) :
    ∃ sel, t.idxsOf names = .ok sel ∧ res.Nodup ∧
      ∀ k, k ∈ res ↔ TableRows.isDistinctValue dfl Cell.key sel t.rows k := by
  obtain ⟨sel, e, h⟩ := resolved hi h
  cases h
  have hd := distinct_eq dfl Cell.key sel t.cols hw.wf (idxsOf_ne_nil t names sel e hne) (idxsOf_lt_cols hw e)
  exact ⟨sel, e, (hd []).2, fun k => (hd k).1⟩

/-- `with_new_column(new_column, callback, columns)` with a name that is not yet a column: the header gains the name
at the end, every row the callback's value on its fields `columns`; the index_name stays -/
theorem named_with_new_column_eq (t : Table) (newName : String) (f : List Cell → Cell) (names : List String)
    (r : Table) (hw : t.WFT) (hc : t.cols ≠ []) (hnew : newName ∉ t.header) (hi : IndexOK t names)
    (h : t.withNewColumn newName f names = .ok r) :
    ∃ sel, t.idxsOf names = .ok sel ∧ r.header = t.header ++ [newName] ∧ r.index = t.index ∧
      r.rows = TableRows.withNewColumn dfl f sel t.rows := by
  obtain ⟨sel, e, h⟩ := resolved hi h
  cases h
  -- no column is called `newName`: nothing is dropped
  have hk : (List.range t.header.length).filter (fun j => decide (t.name j ≠ newName)) = List.range t.header.length :=
    List.filter_eq_self.2 fun j hj =>
      decide_eq_true fun e2 => hnew (e2 ▸ name_mem_header t j (List.mem_range.1 hj))
  have hsel : selectCols (List.range t.header.length) t.cols = t.cols :=
    hw.ncols ▸ ListGetD.map_getD_range_self [] t.cols
  have hnames : (List.range t.header.length).map t.name = t.header := ListGetD.map_getD_range_self "" t.header
  refine ⟨sel, e, ?_, ?_, ?_⟩
  · simp only [hk, hnames]
  · simp only [hk, hnames]
    cases hx : t.index with
    | none => rfl
    | some k => simp [hw.idx k hx]
  · simp only [hk, hsel]
    exact with_new_column_eq dfl f sel t.cols hc

/-- column selection: the index column is shown FIRST if selected (`subNames`, stated explicitly) -/
theorem named_take_cols_eq (t : Table) (names : List String) (r : Table) (hw : t.WFT) (hne : names ≠ [])
    (h0 : nrows t.cols ≠ 0) (h : t.takeCols names = .ok r) :
    ∃ sel, t.idxsOf (t.subNames names) = .ok sel ∧ r.header = t.subNames names ∧
      r.rows = TableRows.select dfl sel t.rows := by
  unfold Table.takeCols at h
  obtain ⟨sel, e, h⟩ := bind_eq_ok h
  simp only [h0, if_false] at h
  cases h
  exact ⟨sel, e, rfl, rows_selectCols hw e (subNames_ne_nil t names hne)⟩

example : cexT.subNames ["a", "k"] = ["k", "a"] := by decide +kernel

/-- `inner_join` / `joined` on named tables: header = self's header ++ prefixed non-key columns of other, rows =
nested-loop join of the row lists on the named key columns, index_name = self's or none -/
theorem named_inner_join_eq (t u : Table) (ks ko : List String) (pre : String) (r : Table)
    (hwt : t.WFT) (hwu : u.WFT) (hc : t.cols ≠ []) (hks : ks ≠ []) (hko : ko ≠ [])
    (hit : IndexOK t ks) (hiu : IndexOK u ko) (h : t.innerJoin u ks ko pre = .ok r) :
    ∃ kS kO, t.idxsOf ks = .ok kS ∧ u.idxsOf ko = .ok kO ∧
      r.header = t.header ++ (u.header.filter (fun c => !ko.contains c)).map (pre ++ ·) ∧
      r.rows = TableRows.innerJoin dfl Cell.key kS kO
        ((List.range u.header.length).filter fun j => !(ko.contains (u.name j))) t.rows u.rows ∧
      (r.index = none ∨ r.index = t.index) := by
  obtain ⟨kS, e1, h⟩ := resolved hit h
  obtain ⟨kO, e2, h⟩ := resolved hiu h
  split at h
  · cases h
  cases h
  refine ⟨kS, kO, e1, e2, ?_, ?_, keepIndexIfUnique_cases _ _ _⟩
  · rw [← filter_range_getD u.header "" (fun c => !ko.contains c), List.map_map]
    rfl
  · exact inner_join_rows_eq dfl Cell.key kS kO _ t.cols u.cols hc hwt.wf hwu.wf (idxsOf_ne_nil t ks kS e1 hks)
      (idxsOf_ne_nil u ko kO e2 hko) (idxsOf_lt_cols hwt e1) (idxsOf_lt_cols hwu e2)

/-- `joined(other)` without key columns joins BY NAME on the shared columns (same list for both tables) -/
theorem natural_join_keys_by_name (t u : Table) :
    (t.naturalKeys u).1 = (t.naturalKeys u).2 ∧
    ∀ c, c ∈ (t.naturalKeys u).1 ↔ c ∈ t.header ∧ c ∈ u.header := by
  refine ⟨rfl, ?_⟩
  intro c
  simp [Table.naturalKeys]

example : ({ header := ["x", "y"], cols := [[], []] } : Table).naturalKeys { header := ["y", "w", "x"], cols := [[], [], []] }
    = (["x", "y"], ["x", "y"]) := by decide +kernel

/-- `appended` on named tables, with and without the title column; columns matched by name -/
theorem named_appended_eq (t : Table) (newCol : Option String) (others : List Table) (r : Table)
    (hw : ∀ u ∈ t :: others, u.WFT) (hh : t.header ≠ []) (h : t.appended newCol others = .ok r) :
    ∃ Rs : List (List (List Cell)),
      Rs.length = (t :: others).length ∧
      (∀ i (h1 : i < (t :: others).length) (h2 : i < Rs.length), ∃ sel,
        ((t :: others)[i]).idxsOf t.header = .ok sel ∧ Rs[i] = TableRows.select dfl sel ((t :: others)[i]).rows) ∧
      (r.index = none ∨ r.index = t.index) ∧
      match newCol with
      | none => r.header = t.header ∧ r.rows = TableRows.appended Rs
      | some n => r.header = n :: t.header ∧
          r.rows = TableRows.appendedWithTitle ((t :: others).map fun u => Cell.str u.title) Rs := by
  unfold Table.appended at h
  obtain ⟨aligned, e, h⟩ := bind_eq_ok h
  obtain ⟨hlen0, hget⟩ := mapM_ok_get t.alignTo (t :: others) aligned e
  have key : ∀ i (h1 : i < (t :: others).length) (h2 : i < aligned.length), ∃ sel,
      ((t :: others)[i]).idxsOf t.header = .ok sel ∧
      rowsOf dfl aligned[i] = TableRows.select dfl sel ((t :: others)[i]).rows ∧ WF aligned[i] ∧
      aligned[i].length = t.header.length :=
    fun i h1 h2 => alignTo_rows t _ _ (hw _ (List.getElem_mem h1)) hh (hget i h1 h2)
  have hal : ∀ a ∈ aligned, WF a ∧ a.length = t.header.length := by
    intro a ha
    obtain ⟨i, hi, rfl⟩ := List.getElem_of_mem ha
    obtain ⟨_, _, _, h4, h5⟩ := key i (hlen0 ▸ hi) hi
    exact ⟨h4, h5⟩
  have hne : aligned ≠ [] := by
    rintro rfl
    cases hlen0
  refine ⟨aligned.map (rowsOf dfl), by simp [hlen0], ?_, ?_⟩
  · intro i h1 h2
    obtain ⟨sel, a1, a3, _⟩ := key i h1 (by simpa using h2)
    exact ⟨sel, a1, by simp [a3]⟩
  cases newCol with
  | none =>
    cases h
    exact ⟨keepIndexIfUnique_cases _ _ _, rfl,
      (appendCols_rows dfl aligned _ (fun a ha => (hal a ha).1) (fun a ha => (hal a ha).2) hne).1⟩
  | some n =>
    dsimp only at h
    split at h
    · cases h
    · cases h
      refine ⟨keepIndexIfUnique_cases _ _ _, rfl, ?_⟩
      exact appended_with_title_rows dfl _ aligned _ (by simp [hlen0]) (fun a ha => (hal a ha).1)
        (fun a ha => (hal a ha).2) hne

/-- `sorted` on named tables: column-list logic, names resolved, the model's key record is `keyT` of the
requested transforms (`sortKeyOf_eq_keyT`), hence: same header and index_name, a permutation of the rows,
ordered by the requested keys in the requested directions -/
theorem named_sorted_order (t : Table) (columns : Option (List String)) (reverse : List String) (r : Table)
    (hw : t.WFT) (h2 : 2 ≤ nrows t.cols) (h : t.sorted columns reverse = .ok r) :
    ∃ sel, t.idxsOf (sortColumns t.header columns reverse) = .ok sel ∧ r.header = t.header ∧ r.index = t.index ∧
      r.rows.Perm t.rows ∧
      r.rows.Pairwise (fun a b =>
        mixedLe ((sortColumns t.header columns reverse).map (reverse.contains ·)) (rowFields sel a) (rowFields sel b) = true) := by
  unfold Table.sorted at h
  simp only at h
  cases e1 : t.idxsOf (sortColumns t.header columns reverse) with
  | error x => simp [e1] at h
  | ok sel =>
    simp only [e1] at h
    split at h
    · cases h
    simp only [show ¬ nrows t.cols ≤ 1 by omega, if_false] at h
    cases e3 : checkKinds (sel.map fun j => colKind (t.cols.getD j [])) with
    | error x => rw [e3] at h; cases h
    | ok _ =>
      simp only [e3, Except.ok.injEq] at h
      subst h
      have hl : ((sortColumns t.header columns reverse).map (reverse.contains ·)).length = sel.length := by
        simp [(idxsOf_ok t _ sel e1).2.2]
      -- every row lies inside the key columns, which are homogeneous
      have hcols : ∀ row ∈ rowsOf dfl t.cols, ∃ i, row = rowAt dfl t.cols i ∧ KeyCols t.cols sel i := by
        intro row hrow
        simp only [rowsOf, List.mem_map, List.mem_range] at hrow
        obtain ⟨i, hi, rfl⟩ := hrow
        refine ⟨i, rfl, fun j hj => ⟨checkKinds_ok _ e3 _ (List.mem_map_of_mem hj), ?_⟩⟩
        rw [length_getD hw.wf (idxsOf_lt_cols hw e1 j hj)]
        exact hi
      refine ⟨sel, rfl, rfl, rfl, ?_⟩
      show (rowsOf dfl (sortedCols dfl lexLe _ t.cols)).Perm (rowsOf dfl t.cols) ∧
        (rowsOf dfl (sortedCols dfl lexLe _ t.cols)).Pairwise _
      -- on the rows of the table the model's key is `keyT` of the requested transforms
      rw [sortedCols_congr dfl lexLe _ (fun row => keyT (List.zipWith (colSpec t.cols) sel _) (rowFields sel row)) t.cols fun row hrow => by
        obtain ⟨i, rfl, hk⟩ := hcols row hrow
        exact sortKeyOf_eq_keyT t.cols i sel _ hk]
      have := sorted_mixed_keys_order dfl (List.zipWith (colSpec t.cols) sel _) (rowFields sel) t.cols fun a ha b hb => by
        obtain ⟨i, rfl, hk⟩ := hcols a ha
        obtain ⟨i', rfl, hk'⟩ := hcols b hb
        exact allOK_colSpec t.cols i i' sel _ hl hk hk'
      rwa [map_fst_colSpec _ sel _ hl] at this

example : ({ header := ["s", "n"], cols := [[.str "a", .str "ab", .str "b"], [.int 1, .int 2, .int 3]] } : Table).WFT :=
  ⟨rfl, by intro c hc; simp at hc; rcases hc with rfl | rfl <;> rfl, by simp⟩
example : sortColumns ["s", "n", "x"] (some ["n"]) ["s"] = ["n", "s"] := by decide +kernel
example : mixedLe [false, true] [.num 1, .str [97, 98]] [.num 1, .str [97]] = true := by decide +kernel

/-- `Table.transposed` on the NAMED layer, whatever the index column: the positions are those of `subNames` (index
column first), which is where the open finding C20-index-column-moved-first-in-subtables shows in `transposed` -/
theorem named_transposed_any_index (t : Table) (newName : String) (selectAs : Option String) (r : Table) (hw : t.WFT)
    (h : t.transposed newName selectAs = .ok r) :
    let sname := selectAs.getD (t.header.headD "")
    let columns := t.subNames (sname :: t.header.filter (· ≠ sname))
    ∃ s sel names, t.idxsOf columns = .ok (s :: sel) ∧ (s :: sel).map t.name = columns ∧
      t.rows.mapM (fun row => match (row.getD s dfl).pyStr with | some x => pure x | none => throw "unmodelled") = Except.ok names ∧
      r.header = newName :: names ∧
      r.cols = (sname :: t.header.filter (· ≠ sname)).tail.map Cell.str :: t.rows.map (TableOps.proj dfl sel) := by
  intro sname columns
  unfold Table.transposed at h
  obtain ⟨si, _, h⟩ := bind_eq_ok h
  dsimp only at h
  split at h
  · cases h
  obtain ⟨sel0, e2, h⟩ := bind_eq_ok h
  obtain ⟨names, e3, h⟩ := bind_eq_ok h
  cases h
  have hne := subNames_ne_nil t (sname :: t.header.filter (· ≠ sname)) (List.cons_ne_nil _ _)
  obtain ⟨s, sel, rfl⟩ := List.exists_cons_of_ne_nil (idxsOf_ne_nil t _ sel0 e2 hne)
  rw [rows_selectCols hw e2 hne, TableRows.select, List.mapM_map] at e3
  refine ⟨s, sel, names, e2, (idxsOf_ok t _ _ e2).1, e3, rfl, ?_⟩
  simp [rows_selectCols hw e2 hne, TableRows.select, proj_eq, TableRows.proj, sname]

/-- `Table.transposed(new_column_name, select_as_header)` on the NAMED layer (what the driver runs against the real
Table), index column absent or selected as the header column: the result's header is the new column name followed
by `str()` of the selected column's cells in row order; its first column holds the other column names in header
order; the column made from a row holds that row's other cells in the same order. -/
theorem named_transposed_eq (t : Table) (newName : String) (selectAs : Option String) (r : Table) (hw : t.WFT)
    (hi : IndexOK t (selectAs.getD (t.header.headD "") :: t.header.filter (· ≠ selectAs.getD (t.header.headD ""))))
    (h : t.transposed newName selectAs = .ok r) :
    ∃ s sel names, t.name s = selectAs.getD (t.header.headD "") ∧
      sel.map t.name = t.header.filter (· ≠ selectAs.getD (t.header.headD "")) ∧
      t.rows.mapM (fun row => match (row.getD s dfl).pyStr with | some x => pure x | none => throw "unmodelled") = Except.ok names ∧
      r.header = newName :: names ∧
      r.cols = (sel.map fun j => Cell.str (t.name j)) :: t.rows.map (TableOps.proj dfl sel) := by
  obtain ⟨s, sel, names, _, hn, hm, hh, hc⟩ := named_transposed_any_index t newName selectAs r hw h
  rw [subNames_of_indexOK t _ hi] at hn
  simp only [List.map_cons, List.cons.injEq] at hn
  refine ⟨s, sel, names, hn.1, hn.2, hm, hh, ?_⟩
  rw [hc, List.tail_cons, ← hn.2, List.map_map]; rfl

example : (Table.transposed { header := ["a", "k", "n"], cols := [[.str "x", .str "y"], [.str "p", .str "q"], [.int 1, .int 2]], index := none }
    "names" (some "k")).toOption.map (fun r => (r.header, r.cols))
    = some (["names", "p", "q"], [[.str "a", .str "n"], [.str "x", .int 1], [.str "y", .int 2]]) := by decide +kernel

/-- index_name rule of `inner_join` / `appended` results: they never fail on first use -/
theorem result_index_is_usable (idx : Option String) (header : List String) (cols : List (List Cell)) (title : String)
    (hw : WF cols) (hn : cols.length = header.length) :
    ∃ r, Table.observe { header := header, cols := cols, title := title,
                         index := keepIndexIfUnique idx header cols } = .ok r := by
  unfold Table.observe
  cases e : keepIndexIfUnique idx header cols with
  | none => exact ⟨_, rfl⟩
  | some k =>
    obtain ⟨_, i, e1, e2⟩ := keepIndexIfUnique_eq_some e
    have hi : i < cols.length := hn ▸ (List.idxOf?_eq_some_iff.1 e1).1
    have hlen := length_getD hw hi
    simp only [e1, List.length_map, e2, hlen, ne_eq, not_true_eq_false, if_false]
    exact ⟨_, rfl⟩

example : keepIndexIfUnique (some "k") ["k"] [[.str "a", .str "a"]] = none := by decide +kernel

/-! ## argument resolution, TRANSLATED from the source text (`Gen/C20Args.lean`, rewritten from cogent3's current
`util/table.py` by `translator/c20_args2lean.py` on every run)

`TableArgs.PV` = None | one name | list | tuple of names.  The generated definitions are the statements of
`Table.sorted` / `Table.inner_join` up to the point where the key columns are fixed, and the whole of `Table.joined`. -/
section Args
open CogentModel.TableArgs CogentModel.Gen

/-- `Table.sorted`: for ALL headers, keyword names and `columns` / `reverse` arguments (None, a name, a list, a tuple)
the translated statements compute the hand model `sortArgs` (TypeError for the keyword `reversed`) -/
theorem sorted_args_translated (header kwargs : List String) (columns reverse : PV) :
    C20Args.sortedColumns header kwargs columns reverse =
      if kwargs.contains "reversed" then .error "TypeError"
      else .ok (PV.list (sortArgs header columns reverse).1, (sortArgs header columns reverse).2) :=
  gen_sortedColumns_eq header kwargs columns reverse

example : C20Args.sortedColumns ["s", "n", "x"] [] (.str "n") (.tup ["s"]) = .ok (.list ["n", "s"], .tup ["s"]) := by rfl
example : C20Args.sortedColumns ["s", "n", "x"] ["reversed"] .none .none = .error "TypeError" := by rfl

/-- … and `sortArgs` is the column-list logic `sortColumns` of the table model (the one `named_sorted_order` is
about) on the normalised arguments, for every `reverse` that names no column twice, except `columns=None` with the
empty tuple -/
theorem sort_args_are_sort_columns (header : List String) (columns reverse : PV)
    (hn : ((reverse.names?).getD []).Nodup) (ht : ¬ (columns = .none ∧ reverse = .tup [])) :
    (sortArgs header columns reverse).1 = sortColumns header columns.names? ((reverse.names?).getD []) := by
  rw [sortArgs_fst]
  unfold sortColumns
  simp only [fun cols => appendMissing_eq_filter cols _ hn]
  generalize (reverse.names?).getD [] = rv
  simp only [Bool.not_eq_true', List.isEmpty_eq_false_iff]
  rcases columns with _ | _ | _ | _
  case none =>
    simp only [PV.names?, show reverse ≠ .tup [] from fun e => ht ⟨rfl, e⟩, or_false]
    rfl
  all_goals rfl

example : ((PV.tup ["s", "n"]).names?.getD []).Nodup ∧ ¬ (PV.str "n" = .none ∧ PV.tup ["s", "n"] = .tup []) := by decide +kernel

/-- the excluded corner on the code: `sorted(reverse=())` ends with NO key column (`() != []`), where `reverse=[]`
sorts by all columns; a repeated name in `reverse` is appended once by the loop (twice by `sortColumns`) -/
theorem sort_args_empty_tuple_counter :
    (sortArgs ["a", "b"] .none (.tup [])).1 = [] ∧ sortColumns ["a", "b"] none [] = ["a", "b"] ∧
    (sortArgs ["a", "b"] (.list ["b"]) (.list ["a", "a"])).1 = ["b", "a"] ∧
    sortColumns ["a", "b"] (some ["b"]) ["a", "a"] = ["b", "a", "a"] := by decide +kernel

/-- `Table.inner_join`: for ALL argument forms the translated statements resolve the key columns and `output_mask`
exactly as the hand model `joinKeysH` (compared on the names; same exception) -/
theorem join_keys_translated (sc oc : List String) (si oi : Option String) (cs co : PV) (ui : Bool) :
    (C20Args.joinKeys sc oc si oi cs co ui).map (fun r => (r.1.iter, r.2.1.iter, r.2.2))
      = joinKeysH sc oc si oi cs co ui :=
  gen_joinKeys_eq sc oc si oi cs co ui

example : C20Args.joinKeys ["k", "a"] ["b", "k"] none none (.str "k") .none true
    = .ok (.list ["k"], .list ["k"], ["b"]) := by rfl

/-- what `joinKeysH` decides, case by case: (1) no columns, `use_index=False` (what `joined` passes): the natural
join keys `naturalKeys` of the table model — the shared names in `self`'s order, for both tables; (2) no columns,
`use_index=True`: the two index columns; (3) only one side given: the same labels for both tables; (4) both given:
as given, RuntimeError when the dimensions differ.  In every case `output_mask` = the columns of other that are not
key columns. -/
theorem join_keys_cases (sc oc : List String) (si oi : Option String) (ui : Bool) :
    (joinKeysH sc oc si oi .none .none false
        = .ok ((Table.naturalKeys { header := sc, cols := [] } { header := oc, cols := [] }).1,
               (Table.naturalKeys { header := sc, cols := [] } { header := oc, cols := [] }).2,
               oc.filter fun c => !(sc.filter (oc.contains ·)).contains c)) ∧
    (∀ a b, a ≠ "" → b ≠ "" →
      joinKeysH sc oc (some a) (some b) .none .none true = .ok ([a], [b], oc.filter fun c => !([b] : List String).contains c)) ∧
    (si = none ∨ oi = none → joinKeysH sc oc si oi .none .none true = .error "ValueError") ∧
    (∀ co o, co.names? = some o →
      joinKeysH sc oc si oi .none co ui = .ok (o, o, oc.filter fun c => !o.contains c)) ∧
    (∀ cs s, cs.names? = some s → s ≠ [] →
      joinKeysH sc oc si oi cs .none ui = .ok (s, s, oc.filter fun c => !s.contains c)) ∧
    (∀ cs co s o, cs.names? = some s → co.names? = some o →
      joinKeysH sc oc si oi cs co ui =
        if s.length = o.length then .ok (s, o, oc.filter fun c => !o.contains c) else .error "RuntimeError") := by
  refine ⟨?_, ?_, ?_, ?_, ?_, ?_⟩
  · simp [joinKeysH, PV.names?, Table.naturalKeys]
  · intro a b ha hb; simp [joinKeysH, PV.names?, ha, hb]
  · rintro (rfl | rfl)
    · rfl
    · cases si <;> rfl
  · intro co o h
    simp [joinKeysH, h, show (PV.none).names? = none from rfl]
  · intro cs s h hs
    simp [joinKeysH, h, hs, show (PV.none).names? = none from rfl]
  · intro cs co s o h1 h2; simp only [joinKeysH, h1, h2]; split <;> simp_all

example : (PV.tup ["k", "n"]).names? = some ["k", "n"] ∧ (PV.str "k").names? = some ["k"] := by decide +kernel

/-- the asymmetry of the code, mirrored: an EMPTY `columns_self` alone raises TypeError (`len(None)`), an empty
`columns_other` alone joins on the empty key (and returns no row: the sub-table of no columns has no rows) -/
theorem join_keys_empty_side_counter :
    joinKeysH ["a"] ["b"] none none (.list []) .none false = .error "TypeError" ∧
    joinKeysH ["a"] ["b"] none none .none (.list []) false = .ok ([], [], ["b"]) := ⟨by rfl, by rfl⟩

/-- `Table.joined` forwards to `inner_join(use_index=False)` with its columns and prefix, or — `inner_join=False`
— to `cross_join` WITHOUT the prefix, AssertionError if columns were given; translated = hand model -/
theorem joined_call_translated (cs co : PV) (ij : Bool) (p : String) :
    C20Args.joinedCall cs co ij p = joinedCallH cs co ij p :=
  gen_joinedCall_eq cs co ij p

example : C20Args.joinedCall .none .none false "x_" = .ok { name := "cross_join", pos := [.other], kw := [("**", .kwargs)] } := by
  rfl

end Args

/-! ## the row logic of `load_delimited`, TRANSLATED from the current source of parse/table.py -/
section Load
open CogentModel.TableLoad CogentModel.Gen

/-- `load_delimited`'s handling of the records the csv reader yields — `limit` (+1 for the header line), the title
line (`next(reader)`, StopIteration on an empty file), the reading loop with its `break`, `rows.pop(0)` for the
header, `rows.pop(-1)` for the legend — as generated from the source text equals the hand model, for ALL record
lists and ALL arguments (`header`, `with_title`, `with_legend`, `limit` incl. None, 0 and negative values). -/
theorem load_delimited_translated (recs : List Row) (header withTitle withLegend : Bool) (limit : Option Int) :
    C20Load.loadDelimitedRows recs header withTitle withLegend limit
      = loadRowsH recs header withTitle withLegend limit :=
  gen_loadDelimitedRows_eq recs header withTitle withLegend limit

example : C20Load.loadDelimitedRows [["T".toList], ["a".toList, "b".toList], ["1".toList, "2".toList], ["3".toList, "4".toList]]
    true true false (some 1) = .ok (some ["a".toList, "b".toList], [["1".toList, "2".toList]], "T".toList, []) := by rfl

/-- the model used by `table_text_roundtrip` (`header=True`, no limit) is the csv reader followed by the translated
row logic -/
theorem load_delimited_default_is_translated (delim : Char) (wt wl : Bool) (text : Str) :
    (loadDelimited delim wt wl text).map (fun r => ((some r.1 : Option Row), r.2))
      = (csvRead delim text).bind fun recs => C20Load.loadDelimitedRows recs true wt wl none := by
  simp only [load_delimited_translated]
  exact loadDelimited_eq_loadRowsH delim wt wl text

/-- `limit`: with a header line and without a legend line the loader returns the header and exactly the FIRST
`limit` data rows (all of them when there are fewer), for every `limit >= 0`, with and without a title line -/
theorem load_limit_takes_first_rows (title : Option Row) (hdr : Row) (rows : List Row) (l : Int) (hl : 0 ≤ l) :
    C20Load.loadDelimitedRows (title.toList ++ hdr :: rows) true title.isSome false (some l)
      = .ok (some hdr, rows.take l.toNat, (title.getD []).flatten, []) := by
  rw [load_delimited_translated]
  have e : (max 1 (l + 1)).toNat = l.toNat + 1 := by omega
  cases title <;> simp [loadRowsH, keepCount, takeOpt, e]

example : C20Load.loadDelimitedRows [["h".toList], ["1".toList], ["2".toList], ["3".toList]] true false false (some 2)
    = .ok (some ["h".toList], [["1".toList], ["2".toList]], [], []) := by rfl

/-- `header=False`: nothing is taken off, the header is None -/
theorem load_without_header (recs : List Row) :
    C20Load.loadDelimitedRows recs false false false none = .ok (none, recs, [], []) := by
  rw [load_delimited_translated]; simp [loadRowsH, keepCount, takeOpt]

/-- `Table.write` then `load_delimited(limit=l)`: header, title and the first `l` rows of cell text come back -/
theorem table_text_roundtrip_limit (d : Dialect) (g : GoodDialect d) (title : Str) (header : Row)
    (rows : List Row) (l : Int) (hl : 0 ≤ l) (ht : Quotable d title) (hh : ∀ f ∈ header, Quotable d f)
    (hn : ∀ r ∈ rows, ∀ f ∈ r, Quotable d f) :
    ((csvRead d.delim (tableWrite d title header rows [])).bind fun recs =>
        C20Load.loadDelimitedRows recs true (title ≠ []) false (some l))
      = .ok (some header, rows.take l.toNat, title, []) := by
  rw [csvRead_tableWrite g title [] header rows ht (fun _ h => nomatch h) hh hn]
  by_cases h1 : title = []
  · simpa [h1, Except.bind] using load_limit_takes_first_rows none header rows l hl
  · simpa [h1, Except.bind] using load_limit_takes_first_rows (some [title]) header rows l hl

/-- mirrored, not judged: the loop tests the limit AFTER appending, so `header=False, limit=0` still returns one
row (and a negative limit with a header returns the header and no rows) -/
theorem load_limit_zero_counter :
    loadRowsH [["1".toList], ["2".toList]] false false false (some 0) = .ok (none, [["1".toList]], [], []) ∧
    loadRowsH [["h".toList], ["2".toList]] true false false (some (-5)) = .ok (some ["h".toList], [], [], []) := by
  exact ⟨by rfl, by rfl⟩

end Load

end CogentModel.C20
