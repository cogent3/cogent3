import CogentModel.Proofs.ParamRules2
/-!
# C07 — rule export / import (`get_param_rules` → `apply_param_rules`) for one scalar parameter with TWO
scope dimensions (edge × locus)

The ONE-dimension theorem `rules_roundtrip` (Props/C07.lean) holds unconditionally because the scopes of
different setting objects are disjoint edge sets.  With two dimensions `get_param_rules` names, per
dimension, the categories a scope USES, i.e. the smallest RECTANGLE containing the scope; rectangles of
different objects overlap, `apply_param_rules` applies them in export order (order of first appearance
in the sorted keys `(edge, bin, locus)`), and a later rectangle overwrites an earlier one.  `OrderSound`
is the exact condition under which that order is right (open finding
`C07-param-rules-order-multidim-scopes` = the states where it is false).
-/
namespace CogentModel.C07
open CogentModel.Rules2

/-- a history of `set_param_rule` calls on one parameter; calls that raise leave the state as it was -/
def runRules2 (d : Rules2.Defn) : Rules2.St → List Rules2.RuleArgs → Rules2.St
  | s, [] => s
  | s, r :: rs =>
    match Rules2.setRule d s r with
    | .ok s' => runRules2 d s' rs
    | .error _ => runRules2 d s rs

/-- the state after a history on a newly built function -/
def after2 (d : Rules2.Defn) (hist : List Rules2.RuleArgs) : Rules2.St := runRules2 d (Rules2.fresh d) hist

/-- **the exact boundary** (computable, `Bool`): for every cell (edge, locus), the LAST exported rule — in
the order `get_param_rules` emits them — whose rectangle contains the cell is the rule of the cell's own
setting object.  (`Rules2.orderSound`: `(cells d).all fun c => ownsLast s c (lastCover d s c (firsts s (cells d)))`.) -/
def OrderSound (d : Rules2.Defn) (s : Rules2.St) : Bool := Rules2.orderSound d s

theorem reachable_inv (d : Rules2.Defn) (hd : d.dLo ≤ d.dVal ∧ d.dVal ≤ d.dHi) (hist : List Rules2.RuleArgs) :
    Inv2 d (after2 d hist) := by
  unfold after2
  have h0 := fresh_inv d hd
  generalize Rules2.fresh d = s0 at h0
  induction hist generalizing s0 with
  | nil => exact h0
  | cons r rs ih =>
    simp only [runRules2]
    cases hs : Rules2.setRule d s0 r with
    | ok s1 => exact ih s1 (setRule_inv d s0 s1 r hs h0)
    | error e => exact ih s0 h0

/-- non-vacuity of `reachable_inv` (and the running example): HKY85-like `kappa` (not independent by
default) on 3 edges × 2 loci; one locus column re-bounded, one cell of the other column made constant,
one failing call in between -/
def exD2 : Rules2.Defn := { nEdges := 3, nLoci := 2, dLo := 0, dVal := 1, dHi := 10, indepDefault := false }
def exHist2 : List Rules2.RuleArgs :=
  [ { edges := none, loci := some [1], isIndependent := none, isConstant := false, value := none, init := some 7,
      lower := some 1, upper := some 4 },
    { edges := some [1, 1], loci := some [0], isIndependent := none, isConstant := false, value := none,
      init := some 2, lower := none, upper := none },
    { edges := some [1], loci := some [0], isIndependent := none, isConstant := true, value := some 2, init := none,
      lower := none, upper := none } ]
example : exD2.dLo ≤ exD2.dVal ∧ exD2.dVal ≤ exD2.dHi := by decide +kernel
example : (Rules2.cells exD2).map (after2 exD2 exHist2).cid = [0, 1, 2, 1, 0, 1] ∧
    (after2 exD2 exHist2).setting (1, 1) = .var 1 4 4 ∧ (after2 exD2 exHist2).setting (1, 0) = .const 2 ∧
    Rules2.nfp exD2 (after2 exD2 exHist2) = 2 := by decide +kernel

/-- **rules_roundtrip_2d**: for every definition (any number of edges and loci, any class defaults
`lower ≤ default ≤ upper`, `independent_by_default` or not) and every state reached by ANY history of
`set_param_rule` calls (any edge / locus lists, constant / free, values, bounds, independent or not; failing
calls leave the state) that satisfies `OrderSound`: applying the exported rules in export order to a newly
built function succeeds and gives every cell the same setting (value, constness, bounds), the same sharing
of setting objects between cells, and the same number of free parameters. -/
theorem rules_roundtrip_2d (d : Rules2.Defn) (hd : d.dLo ≤ d.dVal ∧ d.dVal ≤ d.dHi) (hist : List Rules2.RuleArgs)
    (hos : OrderSound d (after2 d hist) = true) :
    ∃ s', Rules2.applyRules d (Rules2.fresh d) (Rules2.exportRules d (after2 d hist)) = .ok s' ∧
      (∀ c, c ∈ Rules2.cells d → s'.setting c = (after2 d hist).setting c) ∧
      (∀ c1 c2, c1 ∈ Rules2.cells d → c2 ∈ Rules2.cells d →
        (s'.cid c1 = s'.cid c2 ↔ (after2 d hist).cid c1 = (after2 d hist).cid c2)) ∧
      Rules2.nfp d s' = Rules2.nfp d (after2 d hist) :=
  roundtrip d _ (reachable_inv d hd hist).2 hos

/-- non-vacuity: cell (edge 1, locus 0) carved out, then edge 2 made constant over both loci: the default
group {(0,0),(0,1),(1,1)} is NOT a rectangle (its rectangle also holds (1,0)), three rules are exported, two
of them overlap, and the order is sound -/
def exSound2 : List Rules2.RuleArgs :=
  [ { edges := some [1], loci := some [0], isIndependent := none, isConstant := false, value := none, init := some 3,
      lower := none, upper := none },
    { edges := some [2], loci := none, isIndependent := none, isConstant := true, value := some 2, init := none,
      lower := none, upper := none } ]
example : OrderSound exD2 (after2 exD2 exSound2) = true ∧ Rules2.allRect exD2 (after2 exD2 exSound2) = false ∧
    (Rules2.cells exD2).map (after2 exD2 exSound2).cid = [0, 0, 1, 0, 2, 2] ∧
    (Rules2.exportRules exD2 (after2 exD2 exSound2)).map (fun r => (r.edges, r.loci)) =
      [(some [0, 1], some [0, 1]), (some [1], some [0]), (some [2], some [0, 1])] ∧
    Rules2.nfp exD2 (after2 exD2 exSound2) = 2 := by decide +kernel
example : OrderSound exD2 (after2 exD2 exHist2) = true := by decide +kernel

/-- the model's re-import, for statements closed by `decide` -/
def reimport2 (d : Rules2.Defn) (s : Rules2.St) : Option Rules2.St :=
  match Rules2.applyRules d (Rules2.fresh d) (Rules2.exportRules d s) with
  | .ok s' => some s'
  | .error _ => none

/-- **rules_roundtrip_2d_iff**: `OrderSound` is also NECESSARY, so it is the exact boundary.  For every
reachable state the exported rules import without raising, and the re-imported function shares setting
objects between cells exactly as the original did IF AND ONLY IF `OrderSound` holds.  (Equality of the
sharing pattern alone already forces `OrderSound`; by `rules_roundtrip_2d` it then also gives equal
settings and `nfp`.) -/
theorem rules_roundtrip_2d_iff (d : Rules2.Defn) (hd : d.dLo ≤ d.dVal ∧ d.dVal ≤ d.dHi) (hist : List Rules2.RuleArgs) :
    ∃ s', Rules2.applyRules d (Rules2.fresh d) (Rules2.exportRules d (after2 d hist)) = .ok s' ∧
      (OrderSound d (after2 d hist) = true ↔
        ∀ c1 c2, c1 ∈ Rules2.cells d → c2 ∈ Rules2.cells d →
          (s'.cid c1 = s'.cid c2 ↔ (after2 d hist).cid c1 = (after2 d hist).cid c2)) := by
  have hwf := (reachable_inv d hd hist).2
  obtain ⟨s', hs'⟩ := applyRules_ok d _ hwf
  refine ⟨s', hs', ?_, fun h => sharing_orderSound d _ hwf s' hs' h⟩
  intro hos
  obtain ⟨s'', h1, _, h3, _⟩ := roundtrip d _ hwf hos
  have : s'' = s' := Except.ok.inj (h1.symm.trans hs')
  subst this
  exact h3

/-- non-vacuity: both sides occur.  Carving edge 1 out of locus 0 is order-sound and re-imports the same
sharing pattern; carving edge 0 (the FIRST key) out is not, and the re-import merges everything -/
def cutCell (e l : Nat) : Rules2.RuleArgs :=
  { edges := some [e], loci := some [l], isIndependent := none, isConstant := false, value := none, init := some 3,
    lower := none, upper := none }
example : OrderSound exD2 (after2 exD2 [cutCell 1 0]) = true ∧
    (Rules2.cells exD2).map (after2 exD2 [cutCell 1 0]).cid = [0, 0, 1, 0, 0, 0] ∧
    (reimport2 exD2 (after2 exD2 [cutCell 1 0])).map (fun s' => (Rules2.cells exD2).map s'.cid) = some [1, 1, 2, 1, 1, 1] := by
  decide +kernel

/-- **order_sound_spec**: `OrderSound` without the search function, for ANY state: it holds iff no rule that is
exported AFTER a cell's own rule (the rule of the cell's setting object, `f`) covers the cell.  `pos` is the
position in the export order (`firsts`: setting objects in order of their first key `(edge, locus)`). -/
theorem order_sound_spec (d : Rules2.Defn) (s : Rules2.St) : OrderSound d s = true ↔
    ∀ x f g, x ∈ Rules2.cells d → f ∈ Rules2.firsts s (Rules2.cells d) → g ∈ Rules2.firsts s (Rules2.cells d) →
      s.cid f = s.cid x → Rules2.covers d (Rules2.ruleOf d s g) x = true →
      Rules2.pos (Rules2.firsts s (Rules2.cells d)) g ≤ Rules2.pos (Rules2.firsts s (Rules2.cells d)) f :=
  orderSound_spec d s

/-- non-vacuity (the right-hand side can fail): in the counter-example below the offending cell is (0, 0); its
own rule is exported first (position 0), but the rule at position 1 (the rest, first cell (0, 1)) covers it too -/
example : (0, 0) ∈ Rules2.firsts (after2 exD2 [cutCell 0 0]) (Rules2.cells exD2) ∧
    (0, 1) ∈ Rules2.firsts (after2 exD2 [cutCell 0 0]) (Rules2.cells exD2) ∧
    Rules2.covers exD2 (Rules2.ruleOf exD2 (after2 exD2 [cutCell 0 0]) (0, 1)) (0, 0) = true ∧
    Rules2.pos (Rules2.firsts (after2 exD2 [cutCell 0 0]) (Rules2.cells exD2)) (0, 1) = 1 ∧
    Rules2.pos (Rules2.firsts (after2 exD2 [cutCell 0 0]) (Rules2.cells exD2)) (0, 0) = 0 := by decide +kernel

/-- **rect_scopes_order_sound**: a simple sufficient condition, for ANY state: if every setting object's
scope IS a rectangle — every cell whose edge is among the edges the scope uses and whose locus is among the
loci it uses belongs to the scope — then `OrderSound` holds (rectangles of different objects are then
disjoint, so no order can go wrong).  E.g. per-locus or per-edge settings, or any partition into blocks. -/
theorem rect_scopes_order_sound (d : Rules2.Defn) (s : Rules2.St)
    (h : ∀ f c, f ∈ Rules2.cells d → c ∈ Rules2.cells d → c.1 ∈ Rules2.projE d s f → c.2 ∈ Rules2.projL d s f →
      s.cid c = s.cid f) :
    OrderSound d s = true := by
  refine orderSound_of_exact d s fun f hf c hc hcov => ?_
  have hfc := firsts_sub s _ f hf
  have := (covers_iff d s f hfc c).1 hcov
  exact h f c hfc hc this.1 this.2

/-- non-vacuity: locus 1 gets its own setting, then edges {0,1} of locus 1 are split off as a constant block:
every scope is a rectangle (three objects: column 0, the block, the cell (2,1)) -/
def exRect2 : List Rules2.RuleArgs :=
  [ { edges := none, loci := some [1], isIndependent := none, isConstant := false, value := none, init := some 2,
      lower := none, upper := none },
    { edges := some [0, 1], loci := some [1], isIndependent := none, isConstant := true, value := some 5, init := none,
      lower := none, upper := none } ]
example : Rules2.allRect exD2 (after2 exD2 exRect2) = true ∧ OrderSound exD2 (after2 exD2 exRect2) = true ∧
    (Rules2.cells exD2).map (after2 exD2 exRect2).cid = [0, 2, 0, 2, 0, 1] := by decide +kernel
example : ∀ f c, f ∈ Rules2.cells exD2 → c ∈ Rules2.cells exD2 → c.1 ∈ Rules2.projE exD2 (after2 exD2 exRect2) f →
    c.2 ∈ Rules2.projL exD2 (after2 exD2 exRect2) f → (after2 exD2 exRect2).cid c = (after2 exD2 exRect2).cid f := by
  intro f c hf hc
  revert c
  revert f
  decide +kernel

/-- **rules_roundtrip_2d_counter**: the model-level witness of the open finding
`C07-param-rules-order-multidim-scopes` (HKY85 with loci a, b on (Dog,Cat,Horse);
`lf.set_param_rule('kappa', edge='Cat', locus='a', init=3.0)`; nfp 4 instead of 5).  3 edges × 2 loci (edges
in sorted-name order: Cat = 0, Dog = 1, Horse = 2), not independent by default, one rule `edge = 0,
locus = 0, init = 3`: the carved-out cell holds the FIRST key, so its rule is exported first and the rest —
whose rectangle is everything — last: `OrderSound` is false, the original has two setting objects
(nfp 2), the re-imported function one (nfp 1). -/
theorem rules_roundtrip_2d_counter :
    OrderSound exD2 (after2 exD2 [cutCell 0 0]) = false ∧
    (Rules2.exportRules exD2 (after2 exD2 [cutCell 0 0])).map (fun r => (r.edges, r.loci, r.init)) =
      [(some [0], some [0], some 3), (some [0, 1, 2], some [0, 1], some 1)] ∧
    (Rules2.cells exD2).map (after2 exD2 [cutCell 0 0]).cid = [1, 0, 0, 0, 0, 0] ∧
    Rules2.nfp exD2 (after2 exD2 [cutCell 0 0]) = 2 ∧
    (reimport2 exD2 (after2 exD2 [cutCell 0 0])).map (fun s' => (Rules2.cells exD2).map s'.cid) = some [2, 2, 2, 2, 2, 2] ∧
    (reimport2 exD2 (after2 exD2 [cutCell 0 0])).map (Rules2.nfp exD2) = some 1 := by
  decide +kernel

/-- the same rule on any other edge is harmless (`edge='Dog'` round-trips on the real code): the finding
needs the carved-out cell to sort before the cells it was carved from -/
example : OrderSound exD2 (after2 exD2 [cutCell 1 0]) = true ∧ OrderSound exD2 (after2 exD2 [cutCell 2 1]) = true ∧
    OrderSound exD2 (after2 exD2 [cutCell 0 1]) = true := by decide +kernel

/-- the failing calls of a history: a locus named twice while only ONE edge is selected, an unknown locus, an
edge named three times (two loci: twice would be accepted, as the real `interpret_scope` does), `upper < lower`,
a constant with a bound; none of them changes the state -/
def exBad2 : List Rules2.RuleArgs :=
  [ { cutCell 1 0 with loci := some [0, 0] }, { cutCell 1 0 with loci := some [2] },
    { cutCell 1 0 with edges := some [1, 1, 1], loci := none },
    { cutCell 1 0 with lower := some 5, upper := some 2 },
    { cutCell 1 0 with isConstant := true, init := none, value := some 1, upper := some 2 } ]
example : exBad2.map (fun r => match Rules2.setRule exD2 (after2 exD2 exHist2) r with
    | .error e => e
    | .ok _ => "ok") = ["InvalidScopeError", "InvalidScopeError", "InvalidScopeError", "ValueError", "AssertionError"] := by
  decide +kernel
example : (match Rules2.setRule exD2 (after2 exD2 exHist2) { cutCell 1 0 with edges := some [1, 1], loci := none } with
    | .error e => e
    | .ok _ => "ok") = "ok" := by decide +kernel

/- NOT covered: more than two scope dimensions with several categories (bins × loci × edges — the same
argument applies to rectangles of any arity, but is not stated), several parameters at once, that equal
settings give an equal log-likelihood (C02), `EACH`/`ALL` wrappers, tip_names / clade scopes (they reduce to
an edge list before `assign_all`). -/
end CogentModel.C07
