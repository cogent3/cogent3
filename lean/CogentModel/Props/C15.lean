import CogentModel.Model.Distance
import CogentModel.Proofs.DistancePair
import CogentModel.Proofs.DistanceRun
import Mathlib.Tactic.NormNum.Ineq
import Mathlib.Algebra.Order.Field.Rat
/-! # C15 — property theorems: distance estimators -/
namespace CogentModel.C15
open CogentModel.Distance

/-- Column order is irrelevant: permuting the columns of a pair leaves the count matrix, hence every
pre-log quantity of every estimator, unchanged. -/
theorem counts_perm_invariant (cols₁ cols₂ : List Col) (h : cols₁.Perm cols₂) (c : Calc) :
    fill cols₁ = fill cols₂ ∧ stat c (memo (ofCounts (fill cols₁))) = stat c (memo (ofCounts (fill cols₂))) := by
  have : fill cols₁ = fill cols₂ := by
    funext x y; rw [fill_eq_cnt, fill_eq_cnt]; exact h.countP_eq _
  exact ⟨this, by rw [this]⟩

example : [((2 : Int), (3 : Int)), (1, 1), (-9, 0)].Perm [(-9, 0), (2, 3), (1, 1)] := by decide

/-- Non-canonical columns (a negative index in either sequence) are ignored: the count matrix of the
columns equals the count matrix of the canonical columns only. -/
theorem noncanonical_ignored (cols : List Col) :
    fill cols = fill (cols.filter fun c => decide (0 ≤ c.1 ∧ 0 ≤ c.2)) := by
  funext x y
  rw [fill_eq_cnt, fill_eq_cnt, cnt, cnt, List.countP_filter]
  refine List.countP_congr fun c _ => ?_
  simp only [Bool.and_eq_true, decide_eq_true_eq]
  exact ⟨fun h => ⟨h, h.1, h.2.1⟩, And.left⟩

example : fill [((2 : Int), (3 : Int)), (-9, 0), (1, 1), (2, -9)] 2 3 = 1 := by decide

/-- Swapping the two sequences transposes the count matrix. -/
theorem counts_swap (cols : List Col) (i j : Nat) :
    ofCounts (fill (cols.map Prod.swap)) i j = tr (ofCounts (fill cols)) i j := by
  rw [ofCounts_fill_swap]

example : ofCounts (fill ([((2 : Int), (3 : Int)), (2, 3), (1, 0)].map Prod.swap)) 3 2 = 2 := by decide +kernel

/-- Every estimator's pre-log quantities, and the matrix half `hasOffDiag` of the duplicate test, are invariant under transposing the
count matrix; with `counts_swap` this makes every distance symmetric. -/
theorem stat_symmetric (c : Calc) (m : M4) :
    stat c (tr m) = stat c m ∧ hasOffDiag (tr m) = hasOffDiag m :=
  ⟨stat_tr c m, hasOffDiag_tr m⟩

example : stat .tn93 (countsOf [2, 1, 3, 0, 2, 2, 1, 0, 3, 3] [2, 1, 3, 0, 3, 2, 0, 0, 3, 1]) =
    .tn93 10 (3/10) (3/11) (2/9) (4951/19800) (179/330) (79/180) (79/99) := by decide +kernel

/-- Identical canonical content gives distance zero (before the logarithm: p = 0, JC69 factor = 1):
if two index arrays agree on every column where both are canonical, the count matrix is diagonal,
no difference is observed (`hasOffDiag = false`, the half of the duplicate test that reads the matrix; the other
half is equality of the index arrays), the Hamming distance and proportion are 0 and the JC69 log
argument is exactly 1. -/
theorem zero_on_identical (cols : List Col) (hs : ∀ c ∈ cols, c.1 = c.2 ∨ c.1 < 0 ∨ c.2 < 0)
    (hne : total (memo (ofCounts (fill cols))) ≠ 0) :
    let m := memo (ofCounts (fill cols))
    hasOffDiag m = false ∧ hammingStat m = .hamming (total m) 0 0 ∧ jc69Stat m = .jc69 (total m) 0 1 := by
  intro m
  have hd : Diagonal m := countsOf_diagonal cols hs
  have ht : total m - diagSum m = 0 := sub_eq_zero.2 (diag_total m hd)
  refine ⟨hasOffDiag_of_diagonal m hd, ?_, ?_⟩
  · simp only [hammingStat, ht, zero_div]
    exact if_neg hne
  · have : ¬(3 / 4 : Rat) ≤ 0 := by norm_num
    simp only [jc69Stat, ht, zero_div, if_neg this, mul_zero, sub_zero]
    exact if_neg hne

example : total (memo (ofCounts (fill ([2, 1, -9, 0].zip [2, 1, 3, 0])))) = 3 := by decide +kernel

/-- swapping the two sequences of a pair transposes the (tabulated) count matrix -/
theorem countsOf_swap (s₁ s₂ : List Int) : countsOf s₂ s₁ = tr (countsOf s₁ s₂) :=
  Distance.countsOf_swap s₁ s₂

/-- **Every estimator is symmetric on a pair, end to end**: index arrays in, pre-log statistic out
(`counts_swap` + `stat_symmetric` composed through the tabulation). -/
theorem direct_symmetric (c : Calc) (s₁ s₂ : List Int) : direct c s₂ s₁ = direct c s₁ s₂ := by
  rw [direct, Distance.countsOf_swap, stat_tr]; rfl

example : direct .tn93 [2, 1, 3, 0, 2, 2, 1, 0, 3, 3] [2, 1, 3, 0, 3, 2, 0, 0, 3, 1] =
    .tn93 10 (3/10) (3/11) (2/9) (4951/19800) (179/330) (79/180) (79/99) := by decide +kernel

/-- What the code reports for a pair taken alone (`pairReport`: the estimator when a difference was observed;
the literal 0 for equal arrays and for unequal arrays without an observed difference; "invalid" when unequal
arrays share no canonical column) is symmetric in the two sequences. -/
theorem pairReport_symmetric (c : Calc) (s₁ s₂ : List Int) : pairReport c s₂ s₁ = pairReport c s₁ s₂ :=
  pairReport_symm c s₁ s₂

-- the three non-trivial branches: a difference observed; 'AAAA----' vs '----CCCC' (nothing shared: invalid);
-- 'ACGTNN' vs 'ACGTAC' (no difference observed, arrays differ: 0 without aliasing)
example : pairReport .pdist [2, 1, 3, 0, 2, 1] [2, 1, 3, 2, 0, 0] = .hamming 6 (1/2) 3 := by decide +kernel
example : pairReport .jc69 [2, 2, 2, 2, -9, -9, -9, -9] [-9, -9, -9, -9, 1, 1, 1, 1] = .invalid := by decide +kernel
example : pairReport .pdist [2, 1, 3, 0, -9, -9] [2, 1, 3, 0, 2, 1] = .zero := by decide +kernel

/-- **`expand_matches_direct` (n sequences, the code as it stands)**: for EVERY alignment (any number of
sequences, any duplicates, gaps, ambiguity codes) and every estimator, every off-diagonal cell (a,b) of
`calc.run(); calc.get_pairwise_distances()` — the two nested loops with the duplicate shortcut, the
removal of keys that mention a duplicate, and `_expand` — is exactly what the code reports for the pair
(a,b) taken alone.  Hence each distance depends only on its two sequences (no dependence on the order or
presence of other sequences), and the duplicate shortcut is a pure optimisation. -/
theorem expand_matches_direct (c : Calc) (seqs : List (List Int)) (a b : Nat)
    (ha : a < seqs.length) (hb : b < seqs.length) (hab : a ≠ b) :
    ((distanceMatrix c seqs).getD a []).getD b .absent = pairReport c (seqs.getD a []) (seqs.getD b []) := by
  rw [distanceMatrix_cell c seqs a b ha hb, if_neg hab]

/-- the diagonal of the returned matrix is the literal zero -/
theorem matrix_zero_diagonal (c : Calc) (seqs : List (List Int)) (a : Nat) (ha : a < seqs.length) :
    ((distanceMatrix c seqs).getD a []).getD a .absent = .zero := by
  rw [distanceMatrix_cell c seqs a a ha ha, if_pos rfl]

/-- the whole n×n matrix is symmetric -/
theorem matrix_symmetric (c : Calc) (seqs : List (List Int)) (a b : Nat)
    (ha : a < seqs.length) (hb : b < seqs.length) :
    ((distanceMatrix c seqs).getD a []).getD b .absent = ((distanceMatrix c seqs).getD b []).getD a .absent := by
  rw [distanceMatrix_cell c seqs a b ha hb, distanceMatrix_cell c seqs b a hb ha]
  exact if_congr eq_comm rfl (pairReport_symm c _ _)

/-- a sequence and its copy anywhere in an alignment are at distance zero, for every estimator (including
paralinear/LogDet whose formula functions return "invalid" for identical sequences) -/
theorem zero_on_identical_run (c : Calc) (seqs : List (List Int)) (a b : Nat)
    (ha : a < seqs.length) (hb : b < seqs.length) (heq : seqs.getD a [] = seqs.getD b []) :
    ((distanceMatrix c seqs).getD a []).getD b .absent = .zero := by
  rw [distanceMatrix_cell c seqs a b ha hb, heq, pairReport_self, ite_self]

-- ('ACGTNN', 'ACGTAC', 'ACGATT'): the first two show no difference where both are canonical and are still not
-- aliased; every cell is the pair's own value
example : distanceMatrix .pdist [[2, 1, 3, 0, -9, -9], [2, 1, 3, 0, 2, 1], [2, 1, 3, 2, 0, 0]] =
      [[.zero, .zero, .hamming 4 (1/4) 1], [.zero, .zero, .hamming 6 (1/2) 3],
       [.hamming 4 (1/4) 1, .hamming 6 (1/2) 3, .zero]] := by decide +kernel
-- duplicates are aliased and expanded: rows 0, 2 and 3 are the same array
example : distanceMatrix .pdist [[2, 1, 3, 0], [2, 1, 3, 2], [2, 1, 3, 0], [2, 1, 3, 0]] =
      [[.zero, .hamming 4 (1/4) 1, .zero, .zero], [.hamming 4 (1/4) 1, .zero, .hamming 4 (1/4) 1, .hamming 4 (1/4) 1],
       [.zero, .hamming 4 (1/4) 1, .zero, .zero], [.zero, .hamming 4 (1/4) 1, .zero, .zero]] := by decide +kernel

end CogentModel.C15
