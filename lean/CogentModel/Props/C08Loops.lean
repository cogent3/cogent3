/-
  C08, translator tie for the LOOPS of core/location.py: translator/c08_span2lean.py turns a python `for` loop into a
  function defined by structural recursion over the list (state = the variables the body assigns that exist before the
  loop; the end of the body and `continue` recurse on the tail, `break` returns the state, `raise` is the error).  Every
  generated loop (Gen/C08Span.lean, regenerated from the CURRENT source on every run) is proved equal to the hand model
  FOR ALL ARGUMENTS, so the theorems about the hand model are theorems about the translated code and a semantic edit of
  one of these loops breaks a proof obligation.
-/
import CogentModel.Props.C08Gen
import CogentModel.Model.FMapPos
namespace CogentModel.C08
open CogentModel CogentModel.FMap

/-- error classes of the two hand models -/
def errMap : IndelMap.Err → FErr
  | .valueError => .valueError
  | .indexError => .indexError
  | .notImplemented => .runtimeError
  | .assertionError => .assertionError
  | .runtimeError => .runtimeError

def liftE {α : Type} : Except IndelMap.Err α → Except FErr α
  | .error e => .error (errMap e)
  | .ok x => .ok x

theorem pyOr_zero (x : Option Int) : C08Gen.pyOr x 0 = x.getD 0 := by
  cases x with
  | none => rfl
  | some v =>
    simp only [C08Gen.pyOr, Option.getD]
    by_cases h : v = 0
    · rw [if_pos h, h]
    · rw [if_neg h]

theorem gen_minusInner (a1 a2 : Int) (tot : Option Int) (c2 : List (Int × Int)) :
    C08Gen.coordsMinusCoords_loop2 a1 a2 tot c2 = liftE (IndelMap.minusInner a1 a2 tot c2) := by
  induction c2 generalizing tot with
  | nil => rfl
  | cons b r ih =>
    obtain ⟨b1, b2⟩ := b
    simp only [C08Gen.coordsMinusCoords_loop2, IndelMap.minusInner, gen_spanAndSpan, pyOr_zero, apply_ite liftE, ih]
    cases IndelMap.spanAndSpan a1 a2 b1 b2 with
    | none => rfl
    | some o => cases o <;> rfl

theorem gen_coordsMinus_loop (c2 acc c1 : List (Int × Int)) :
    C08Gen.coordsMinusCoords_loop1 c2 acc c1 =
      match IndelMap.coordsMinusCoords c1 c2 with
      | .error e => .error (errMap e)
      | .ok x => .ok (acc ++ x) := by
  induction c1 generalizing acc with
  | nil => simp only [C08Gen.coordsMinusCoords_loop1, IndelMap.coordsMinusCoords, List.append_nil]
  | cons a r ih =>
    obtain ⟨a1, a2⟩ := a
    simp only [C08Gen.coordsMinusCoords_loop1, IndelMap.coordsMinusCoords, gen_minusInner, pyOr_zero, ih]
    cases IndelMap.minusInner a1 a2 none c2 with
    | error e => rfl
    | ok tot =>
      simp only [liftE]
      by_cases h1 : a2 - tot.getD 0 < 0
      · simp only [if_pos h1]; rfl
      · simp only [if_neg h1]
        by_cases h2 : some (a2 - a1) ≠ tot <;> cases IndelMap.coordsMinusCoords r c2 <;>
          simp only [if_pos h2, if_neg h2, List.append_assoc, List.singleton_append]

/-- `coords_minus_coords` as translated from the source = the hand model, for all coordinate lists -/
theorem gen_coordsMinusCoords (c1 c2 : List (Int × Int)) :
    C08Gen.coordsMinusCoords c1 c2 = liftE (IndelMap.coordsMinusCoords c1 c2) := by
  simp only [C08Gen.coordsMinusCoords, gen_coordsMinus_loop]
  cases IndelMap.coordsMinusCoords c1 c2 <;> simp [liftE]

theorem gen_intersectInner (a1 a2 : Int) (acc c2 : List (Int × Int)) :
    C08Gen.coordsIntersect_loop2 a1 a2 acc c2 =
      match IndelMap.intersectInner a1 a2 c2 with
      | .error e => .error (errMap e)
      | .ok x => .ok (acc ++ x) := by
  induction c2 generalizing acc with
  | nil => simp [C08Gen.coordsIntersect_loop2, IndelMap.intersectInner]
  | cons b r ih =>
    obtain ⟨b1, b2⟩ := b
    simp only [C08Gen.coordsIntersect_loop2, IndelMap.intersectInner, gen_spanAndSpan, ih]
    split
    · cases IndelMap.spanAndSpan a1 a2 b1 b2 with
      | none => rfl
      | some o =>
        cases o with
        | none => rfl
        | some p => cases IndelMap.intersectInner a1 a2 r <;> simp
    · split
      · simp
      · rfl

theorem gen_coordsIntersect_loop (c2 acc c1 : List (Int × Int)) :
    C08Gen.coordsIntersect_loop1 c2 acc c1 =
      match IndelMap.coordsIntersect c1 c2 with
      | .error e => .error (errMap e)
      | .ok x => .ok (acc ++ x) := by
  induction c1 generalizing acc with
  | nil => simp [C08Gen.coordsIntersect_loop1, IndelMap.coordsIntersect]
  | cons a r ih =>
    obtain ⟨a1, a2⟩ := a
    simp only [C08Gen.coordsIntersect_loop1, IndelMap.coordsIntersect, gen_intersectInner]
    cases IndelMap.intersectInner a1 a2 c2 with
    | error e => rfl
    | ok x =>
      simp only [ih]
      cases IndelMap.coordsIntersect r c2 <;> simp

/-- `coords_intersect` as translated from the source = the hand model -/
theorem gen_coordsIntersect (c1 c2 : List (Int × Int)) :
    C08Gen.coordsIntersect c1 c2 = liftE (IndelMap.coordsIntersect c1 c2) := by
  simp only [C08Gen.coordsIntersect, gen_coordsIntersect_loop]
  cases IndelMap.coordsIntersect c1 c2 <;> simp [liftE]

example : C08Gen.coordsIntersect [(0, 3), (5, 9)] [(2, 6), (8, 12)] = .ok [(2, 3), (5, 6), (8, 9)] := by decide +kernel
example : C08Gen.coordsMinusCoords [(0, 3), (5, 9), (10, 12)] [(2, 6), (10, 12)] = .ok [(0, 2), (5, 8)] := by decide +kernel

/-! ### `FeatureMap.__post_init__` (the loop that fills offsets / useful / complete / _start / _end / length), `start`, `end`,
`absolute_position`, `relative_position` -/

/-- one step of the `_start` / `_end` bookkeeping (the lambda of `FMap.startEnd`) -/
def seStep (acc : Option (Int × Int)) (s : FSp) : Option (Int × Int) :=
  match s with
  | .lost _ => acc
  | .span a b _ => match acc with
    | none => some (a, b)
    | some (x, y) => some (min x a, max y b)

theorem startEnd_eq (m : FM) : startEnd m = m.spans.foldl seStep none := rfl

theorem gen_fmPost_loop (spans : List FSp) (offs : List Int) (posn : Int) (compl : Bool) (acc : Option (Int × Int)) :
    C08Gen.fmPost_loop1 offs posn compl acc.isSome (acc.map (·.1)) (acc.map (·.2)) spans =
      (offs ++ offsetsFrom posn spans, (spans.map FSp.length).foldl (· + ·) posn,
        compl && spans.all (fun s => !s.isLost), (spans.foldl seStep acc).isSome,
        (spans.foldl seStep acc).map (·.1), (spans.foldl seStep acc).map (·.2)) := by
  induction spans generalizing offs posn compl acc with
  | nil => simp [C08Gen.fmPost_loop1, offsetsFrom]
  | cons s r ih =>
    -- one step of the loop is the state of the hand model after `s`; the rest is the induction hypothesis
    have step : C08Gen.fmPost_loop1 offs posn compl acc.isSome (acc.map (·.1)) (acc.map (·.2)) (s :: r) =
        C08Gen.fmPost_loop1 (offs ++ [posn]) (posn + s.length) (compl && !s.isLost) (seStep acc s).isSome
          ((seStep acc s).map (·.1)) ((seStep acc s).map (·.2)) r := by
      cases s with
      | lost n => simp only [C08Gen.fmPost_loop1, FSp.isLost, if_true, seStep, Bool.not_true, Bool.and_false]
      | span a b rv =>
        cases acc with
        | none => simp [C08Gen.fmPost_loop1, FSp.isLost, seStep, C08Gen.fspStart, C08Gen.fspEnd]
        | some p => simp [C08Gen.fmPost_loop1, FSp.isLost, seStep, C08Gen.fspStart, C08Gen.fspEnd, C08Gen.optMin, C08Gen.optMax]
    rw [step, ih]
    simp only [offsetsFrom, List.append_assoc, List.singleton_append, List.map, List.foldl, List.all_cons, Bool.and_assoc]

theorem isSome_foldl_seStep (spans : List FSp) (acc : Option (Int × Int)) :
    (spans.foldl seStep acc).isSome = (acc.isSome || spans.any (fun s => !s.isLost)) := by
  induction spans generalizing acc with
  | nil => simp
  | cons s r ih =>
    cases s with
    | lost n => simp [seStep, ih, FSp.isLost]
    | span a b rv => cases acc <;> simp [seStep, ih, FSp.isLost]

/-- `FeatureMap.__post_init__` as translated from the source computes exactly the fields of the hand model -/
theorem gen_fmPost (spans : List FSp) (pl : Int) :
    C08Gen.fmPost spans pl =
      { offsets := offsets ⟨spans, pl⟩, useful := useful ⟨spans, pl⟩, complete := complete ⟨spans, pl⟩,
        start_ := (startEnd ⟨spans, pl⟩).map (·.1), end_ := (startEnd ⟨spans, pl⟩).map (·.2), length := len ⟨spans, pl⟩ } := by
  have := gen_fmPost_loop spans [] 0 true none
  simp only [Option.isSome_none, Option.map_none] at this
  simp [C08Gen.fmPost, this, offsets, useful, complete, len, startEnd_eq, isSome_foldl_seStep]

theorem gen_fmStart (spans : List FSp) (pl : Int) : C08Gen.fmStart spans pl = fmStart ⟨spans, pl⟩ := by
  simp only [C08Gen.fmStart, gen_fmPost, fmStart, pyOr_zero]
  cases startEnd ⟨spans, pl⟩ <;> simp

theorem gen_fmEnd (spans : List FSp) (pl : Int) : C08Gen.fmEnd spans pl = fmEnd ⟨spans, pl⟩ := by
  simp only [C08Gen.fmEnd, gen_fmPost, fmEnd, pyOr_zero]
  cases startEnd ⟨spans, pl⟩ <;> simp

theorem gen_fmAbsolutePosition (spans : List FSp) (pl p : Int) :
    C08Gen.fmAbsolutePosition spans pl p = absolutePosition ⟨spans, pl⟩ p := by
  simp only [C08Gen.fmAbsolutePosition, absolutePosition, gen_fmPost, gen_fmStart]

theorem gen_fmRelativePosition (spans : List FSp) (pl p : Int) :
    C08Gen.fmRelativePosition spans pl p = relativePosition ⟨spans, pl⟩ p := by
  simp only [C08Gen.fmRelativePosition, relativePosition, gen_fmStart]

example : C08Gen.fmPost [.span 4 7 false, .lost 2, .span 1 3 true] 9 =
    { offsets := [0, 3, 5], useful := true, complete := false, start_ := some 1, end_ := some 7, length := 7 } := by decide +kernel

/-! ### meaning of `absolute_position` / `relative_position` / `zeroed` (hand model `Model/FMapPos.lean`) -/

/-- `relative_position` undoes `absolute_position` on a map that is not as long as its parent -/
theorem relative_absolute (m : FM) (p : Int) (hp : 0 ≤ p) (hs : 0 ≤ fmStart m) (hl : len m ≠ m.parentLength) :
    ∃ q, absolutePosition m p = .ok q ∧ relativePosition m q = .ok p := by
  refine ⟨fmStart m + p, ?_, ?_⟩
  · simp only [absolutePosition]; rw [if_neg (by omega), if_neg hl]
  · simp only [relativePosition]; rw [if_neg (by omega)]; congr 1; omega

example : absolutePosition ⟨[.span 4 7 false, .lost 2], 9⟩ 2 = .ok 6 ∧ relativePosition ⟨[.span 4 7 false, .lost 2], 9⟩ 6 = .ok 2 := by decide +kernel

/-- ... and `hl` is needed: a map as long as its parent is taken to be the whole parent by `absolute_position` only -/
theorem relative_absolute_needs_shorter :
    absolutePosition ⟨[.lost 2, .span 2 5 false], 5⟩ 1 = .ok 1 ∧ relativePosition ⟨[.lost 2, .span 2 5 false], 5⟩ 1 = .ok (-1) := by
  decide +kernel

/-- a negative position is refused by both -/
theorem position_negative_refused (m : FM) (p : Int) (hp : p < 0) :
    absolutePosition m p = .error .valueError ∧ relativePosition m p = .error .valueError := by
  simp [absolutePosition, relativePosition, hp]

example : absolutePosition ⟨[.span 4 7 false], 9⟩ (-1) = .error .valueError := by decide +kernel

theorem coverSp_shift (k : Int) (s : FSp) : coverSp (s.shift k) = (coverSp s).map (Option.map (· - k)) := by
  cases s with
  | lost n => simp only [FSp.shift, coverSp, List.map_replicate, Option.map_none]
  | span a b r =>
    have hf : (fun i : Nat => some (a - k + (i : Int))) = Option.map (· - k) ∘ fun i : Nat => some (a + (i : Int)) :=
      funext fun i => congrArg some (show a - k + (i : Int) = a + i - k by omega)
    simp only [FSp.shift, coverSp, show b - k - (a - k) = b - a by omega, hf, apply_ite (List.map _),
      List.map_reverse, List.map_map]

/-- `zeroed()`: position by position the same map, every parent coordinate moved down by `min(start, end)`;
same length -/
theorem zeroed_spec (m z : FM) (h : zeroed m = .ok z) :
    cover z = (cover m).map (Option.map (· - min (fmStart m) (fmEnd m))) ∧ z.spans.length = m.spans.length := by
  simp only [zeroed] at h
  split at h
  · cases h
  · cases h
    simp only [cover, List.flatMap_map, List.length_map, and_true, coverSp_shift]
    induction m.spans with
    | nil => rfl
    | cons s r ih => simp only [List.flatMap_cons, List.map_append, ih]

example : zeroed ⟨[.span 4 7 false, .lost 2, .span 1 3 true], 9⟩ = .ok ⟨[.span 3 6 false, .lost 2, .span 0 2 true], 6⟩ := by decide +kernel

/-! ### the loops of `FeatureMap.gaps`, `nongap` and `inverse` (two loops and `list.sort()`) -/

theorem gen_locs_loop_gaps (spans : List FSp) (locs : List (Int × Int)) (off : Int) :
    C08Gen.fmGaps_loop1 locs off spans = .ok (locs ++ locsOf true off spans, (spans.map FSp.length).foldl (· + ·) off) := by
  induction spans generalizing locs off with
  | nil => simp [C08Gen.fmGaps_loop1, locsOf]
  | cons s r ih =>
    simp only [C08Gen.fmGaps_loop1, locsOf, List.map, List.foldl]
    split <;> simp [ih]

theorem gen_locs_loop_nongap (spans : List FSp) (locs : List (Int × Int)) (off : Int) :
    C08Gen.fmNongap_loop1 locs off spans = .ok (locs ++ locsOf false off spans, (spans.map FSp.length).foldl (· + ·) off) := by
  induction spans generalizing locs off with
  | nil => simp [C08Gen.fmNongap_loop1, locsOf]
  | cons s r ih =>
    simp only [C08Gen.fmNongap_loop1, locsOf, List.map, List.foldl]
    split <;> rename_i h <;> simp at h <;> simp [ih, h]

/-- `FeatureMap.gaps` as translated from the source = the hand model -/
theorem gen_fmGaps (spans : List FSp) (pl : Int) : C08Gen.fmGaps spans pl = gaps ⟨spans, pl⟩ := by
  simp [C08Gen.fmGaps, gen_locs_loop_gaps, gen_fmPost, gaps]

/-- `FeatureMap.nongap` as translated from the source = the hand model -/
theorem gen_fmNongap (spans : List FSp) (pl : Int) : C08Gen.fmNongap spans pl = nongap ⟨spans, pl⟩ := by
  simp [C08Gen.fmNongap, gen_locs_loop_nongap, gen_fmPost, nongap]

theorem gen_inverse_loop1 (spans : List FSp) (temp : List Q) (cum : Int) :
    C08Gen.fmInverse_loop1 temp cum spans = .ok (temp ++ invTemp cum spans, (spans.map FSp.length).foldl (· + ·) cum) := by
  induction spans generalizing temp cum with
  | nil => simp [C08Gen.fmInverse_loop1, invTemp]
  | cons s r ih =>
    cases s with
    | lost n => simp [C08Gen.fmInverse_loop1, invTemp, FSp.isLost, FSp.length, ih]
    | span a b rv =>
      cases rv <;> simp [C08Gen.fmInverse_loop1, invTemp, FSp.isLost, FSp.length, C08Gen.fspReverse, C08Gen.fspStart, C08Gen.fspEnd, ih]

theorem gen_inverse_loop2 (temp : List Q) (ns : List FSp) (last : Int) :
    C08Gen.fmInverse_loop2 ns last temp =
      match invLoop last temp with
      | .error e => .error e
      | .ok (rest, ls) => .ok (ns ++ rest, ls) := by
  induction temp generalizing ns last with
  | nil => simp [C08Gen.fmInverse_loop2, invLoop]
  | cons q r ih =>
    obtain ⟨s, e, cs, ce⟩ := q
    simp only [C08Gen.fmInverse_loop2, invLoop, gen_spanInit, gen_lostInit, ih]
    by_cases h2 : s < last
    · rw [if_neg (by omega), if_pos h2, if_pos h2]
    · rw [if_neg h2, if_neg h2]
      cases invLoop e r with
      | error er => simp
      | ok p => by_cases h1 : s > last <;> simp [h1]

/-- `FeatureMap.inverse` as translated from the source (two loops and a sort) = the hand model -/
theorem gen_fmInverse (spans : List FSp) (pl : Int) : C08Gen.fmInverse spans pl = inverse ⟨spans, pl⟩ := by
  simp only [C08Gen.fmInverse, gen_inverse_loop1, gen_inverse_loop2, gen_fmPost, gen_lostInit, inverse, C08Gen.sortQ,
    if_false, List.nil_append]
  cases invLoop 0 (List.foldr insertQ [] (invTemp 0 spans)) with
  | error er => rfl
  | ok p =>
    obtain ⟨rest, ls⟩ := p
    simp only []
    split <;> simp

example : C08Gen.fmInverse [.span 4 7 false, .lost 2, .span 1 3 true] 9 =
    .ok ⟨[.lost 1, .span 5 7 true, .lost 1, .span 0 3 false, .lost 2], 7⟩ := by decide +kernel
example : C08Gen.fmGaps [.span 4 7 false, .lost 2, .span 1 3 true] 9 = .ok ⟨[.span 3 5 false], 7⟩ := by decide +kernel

/-! ### set-theoretic meaning of `coords_intersect` (the core of `shared_gaps`), for the translated code -/

/-- column `x` lies in one of the half-open segments of a coordinate list -/
def Cov (c : List (Int × Int)) (x : Int) : Prop := ∃ p ∈ c, p.1 ≤ x ∧ x < p.2

theorem cov_nil (x : Int) : ¬ Cov [] x := by simp [Cov]
theorem cov_cons (p : Int × Int) (c : List (Int × Int)) (x : Int) : Cov (p :: c) x ↔ (p.1 ≤ x ∧ x < p.2) ∨ Cov c x := by
  simp only [Cov, List.mem_cons, exists_eq_or_imp]
theorem cov_append (a b : List (Int × Int)) (x : Int) : Cov (a ++ b) x ↔ Cov a x ∨ Cov b x := by
  simp only [Cov, List.mem_append, or_and_right, exists_or]

/-- `span_and_span` of two proper segments is their set intersection `[max starts, min ends)` (or nothing) -/
theorem spanAndSpan_spec (a1 a2 b1 b2 : Int) (ha : a1 < a2) (hb : b1 < b2) :
    IndelMap.spanAndSpan a1 a2 b1 b2 =
      if max a1 b1 < min a2 b2 then some (some (max a1 b1, min a2 b2)) else some none := by
  -- every branch returns the larger start and the smaller end under its own test: a case check on the order of the four ends
  unfold IndelMap.spanAndSpan
  grind

theorem intersectInner_spec (a1 a2 : Int) (ha : a1 < a2) (c2 : List (Int × Int)) (h2 : ∀ p ∈ c2, p.1 < p.2)
    (hs : c2.Pairwise (fun p q => p.1 ≤ q.1)) :
    ∃ r, IndelMap.intersectInner a1 a2 c2 = .ok r ∧ ∀ x, Cov r x ↔ (a1 ≤ x ∧ x < a2 ∧ Cov c2 x) := by
  induction c2 with
  | nil => exact ⟨[], rfl, fun x => by simp [cov_nil]⟩
  | cons b rest ih =>
    obtain ⟨b1, b2⟩ := b
    obtain ⟨hb, h2'⟩ := List.forall_mem_cons.mp h2
    have hs' := List.pairwise_cons.mp hs
    obtain ⟨r', hr', hc'⟩ := ih h2' hs'.2
    -- `[max a1 b1, min a2 b2)` is the intersection of the two segments; from here on the two ends are opaque
    have hseg : ∀ x, (max a1 b1 ≤ x ∧ x < min a2 b2) ↔ (a1 ≤ x ∧ x < a2) ∧ (b1 ≤ x ∧ x < b2) := fun x => by
      rw [Int.max_le, Int.lt_min]
      exact ⟨fun ⟨⟨p, q⟩, r, s⟩ => ⟨⟨p, r⟩, q, s⟩, fun ⟨⟨p, r⟩, q, s⟩ => ⟨⟨p, q⟩, r, s⟩⟩
    simp only [IndelMap.intersectInner, spanAndSpan_spec a1 a2 b1 b2 ha hb]
    generalize max a1 b1 = M at *
    generalize min a2 b2 = N at *
    by_cases hm : M < N
    · have := (hseg M).mp ⟨Int.le_refl M, hm⟩
      rw [if_pos (by omega)]
      simp only [if_pos hm, hr']
      refine ⟨_, rfl, fun x => ?_⟩
      rw [cov_cons, cov_cons, hc' x, hseg x, and_assoc, ← and_or_left, ← and_or_left]
    · -- `(b1, b2)` shares no column with `[a1, a2)`: the answer is that for `rest` (or empty, at the `break`)
      have hno : ∀ x, a1 ≤ x → x < a2 → ¬ (b1 ≤ x ∧ x < b2) := fun x p q r => by
        have := (hseg x).mpr ⟨⟨p, q⟩, r⟩; omega
      have hrest : ∀ x, (a1 ≤ x ∧ x < a2 ∧ Cov ((b1, b2) :: rest) x) ↔ (a1 ≤ x ∧ x < a2 ∧ Cov rest x) := fun x => by
        rw [cov_cons]
        exact ⟨fun ⟨p, q, r⟩ => ⟨p, q, r.resolve_left (hno x p q)⟩, fun ⟨p, q, r⟩ => ⟨p, q, Or.inr r⟩⟩
      simp only [if_neg hm, hrest]
      by_cases hbk : a2 < b1
      · rw [if_neg (by omega), if_pos hbk]
        refine ⟨[], rfl, fun x => ?_⟩
        simp only [cov_nil, false_iff]
        rintro ⟨_, _, q, hq, hq1, _⟩
        have := hs'.1 q hq; simp only at this; omega
      · rw [if_neg hbk, ite_self]; exact ⟨r', hr', hc'⟩

/-- `coords_intersect` (hand model): for proper segments and a second list sorted by start, the call returns and the
columns covered by the result are exactly the columns covered by both lists -/
theorem coordsIntersect_model_spec (c1 c2 : List (Int × Int)) (h1 : ∀ p ∈ c1, p.1 < p.2) (h2 : ∀ p ∈ c2, p.1 < p.2)
    (hs : c2.Pairwise (fun p q => p.1 ≤ q.1)) :
    ∃ r, IndelMap.coordsIntersect c1 c2 = .ok r ∧ ∀ x, Cov r x ↔ (Cov c1 x ∧ Cov c2 x) := by
  induction c1 with
  | nil => exact ⟨[], rfl, fun x => by simp [cov_nil]⟩
  | cons a rest ih =>
    obtain ⟨a1, a2⟩ := a
    obtain ⟨ha, h1'⟩ := List.forall_mem_cons.mp h1
    obtain ⟨r1, hr1, hc1⟩ := intersectInner_spec a1 a2 ha c2 h2 hs
    obtain ⟨r2, hr2, hc2⟩ := ih h1'
    refine ⟨r1 ++ r2, by simp [IndelMap.coordsIntersect, hr1, hr2], fun x => ?_⟩
    rw [cov_append, cov_cons, hc1 x, hc2 x, ← and_assoc, or_and_right]

/-- the same for the code TRANSLATED from the python source: `coords_intersect` returns, and a column is covered by
the result iff it is covered by both coordinate lists (set intersection) -/
theorem coords_intersect_spec (c1 c2 : List (Int × Int)) (h1 : ∀ p ∈ c1, p.1 < p.2) (h2 : ∀ p ∈ c2, p.1 < p.2)
    (hs : c2.Pairwise (fun p q => p.1 ≤ q.1)) :
    ∃ r, C08Gen.coordsIntersect c1 c2 = .ok r ∧ ∀ x, Cov r x ↔ (Cov c1 x ∧ Cov c2 x) := by
  obtain ⟨r, hr, hc⟩ := coordsIntersect_model_spec c1 c2 h1 h2 hs
  exact ⟨r, by rw [gen_coordsIntersect, hr]; rfl, hc⟩

example : C08Gen.coordsIntersect [(0, 3), (5, 9)] [(2, 6), (8, 12)] = .ok [(2, 3), (5, 6), (8, 9)] := by decide +kernel

/-! ### closed form of `coords_minus_coords` (the core of `minus_gaps`), for the translated code -/

/-- number of columns two half-open segments share -/
def ovl (a1 a2 : Int) (q : Int × Int) : Int := max 0 (min a2 q.2 - max a1 q.1)

/-- total overlap of `[a1, a2)` with the segments of a coordinate list -/
def sumOvl (a1 a2 : Int) : List (Int × Int) → Int
  | [] => 0
  | q :: r => ovl a1 a2 q + sumOvl a1 a2 r

/-- what `coords_minus_coords` computes, in closed form: every segment of the first list is shortened FROM ITS END by
the number of columns it shares with the second list, and dropped when nothing is left -/
def minusClosed (c1 c2 : List (Int × Int)) : List (Int × Int) :=
  c1.filterMap fun a => if sumOvl a.1 a.2 c2 = a.2 - a.1 then none else some (a.1, a.2 - sumOvl a.1 a.2 c2)

theorem sumOvl_zero_of_after (a1 a2 : Int) (l : List (Int × Int)) (h : ∀ q ∈ l, a2 ≤ q.1) : sumOvl a1 a2 l = 0 := by
  induction l with
  | nil => rfl
  | cons q r ih =>
    have hq : min a2 q.2 - max a1 q.1 ≤ 0 :=
      Int.sub_nonpos_of_le (Int.le_trans (Int.min_le_left a2 q.2) (Int.le_trans (h q List.mem_cons_self) (Int.le_max_right a1 q.1)))
    simp only [sumOvl, ovl, ih (fun q hq => h q (List.mem_cons_of_mem _ hq)), Int.max_eq_left hq, Int.add_zero]

theorem minusInner_spec (a1 a2 : Int) (ha : a1 < a2) (c2 : List (Int × Int)) (h2 : ∀ p ∈ c2, p.1 < p.2)
    (hs : c2.Pairwise (fun p q => p.1 ≤ q.1)) (tot : Option Int) :
    ∃ t, IndelMap.minusInner a1 a2 tot c2 = .ok t ∧ t.getD 0 = tot.getD 0 + sumOvl a1 a2 c2 := by
  induction c2 generalizing tot with
  | nil => exact ⟨tot, rfl, by simp [sumOvl]⟩
  | cons b rest ih =>
    obtain ⟨b1, b2⟩ := b
    obtain ⟨hb, h2'⟩ := List.forall_mem_cons.mp h2
    have hs' := List.pairwise_cons.mp hs
    have ih' := ih h2' hs'.2
    -- all that is used of the two ends of the intersection; from here on they are opaque
    have hM := Int.le_max_left a1 b1
    have hM' := Int.le_max_right a1 b1
    have hN := Int.min_le_left a2 b2
    have hN' := Int.min_le_right a2 b2
    simp only [IndelMap.minusInner, spanAndSpan_spec a1 a2 b1 b2 ha hb, sumOvl, ovl]
    generalize max a1 b1 = M at *
    generalize min a2 b2 = N at *
    by_cases hm : M < N
    · rw [if_neg (by omega), if_neg (by omega), Int.max_eq_right (show 0 ≤ N - M by omega)]
      simp only [if_pos hm]
      obtain ⟨t, ht, hg⟩ := ih' (some (N - M + tot.getD 0))
      exact ⟨t, ht, by rw [hg, Option.getD_some]; omega⟩
    · simp only [if_neg hm, Int.max_eq_left (show N - M ≤ 0 by omega), Int.zero_add]
      by_cases hbk : a2 ≤ b1
      · rw [if_neg (by omega), if_pos hbk,
          sumOvl_zero_of_after a1 a2 rest (fun q hq => by have := hs'.1 q hq; simp only at this; omega)]
        exact ⟨tot, rfl, (Int.add_zero _).symm⟩
      · rw [if_neg hbk, ite_self]; exact ih' tot

/-- `coords_minus_coords` (hand model) in closed form, for proper segments and a second list sorted by start -/
theorem coordsMinusCoords_model_spec (c1 c2 r : List (Int × Int)) (h1 : ∀ p ∈ c1, p.1 < p.2) (h2 : ∀ p ∈ c2, p.1 < p.2)
    (hs : c2.Pairwise (fun p q => p.1 ≤ q.1)) (h : IndelMap.coordsMinusCoords c1 c2 = .ok r) : r = minusClosed c1 c2 := by
  induction c1 generalizing r with
  | nil => simp only [IndelMap.coordsMinusCoords] at h; cases h; rfl
  | cons a rest ih =>
    obtain ⟨a1, a2⟩ := a
    obtain ⟨ha, hrest⟩ := List.forall_mem_cons.mp h1
    obtain ⟨t, ht, hg⟩ := minusInner_spec a1 a2 ha c2 h2 hs none
    rw [Option.getD_none, Int.zero_add] at hg
    -- the source compares `a2 - a1` with a total that is `None` when nothing was shared; `a1 < a2` makes that the same
    have key : (some (a2 - a1) ≠ t) ↔ sumOvl a1 a2 c2 ≠ a2 - a1 := by
      rw [← hg]
      cases t with
      | none => simp; omega
      | some v => simp; omega
    simp only [IndelMap.coordsMinusCoords, ht, hg, key] at h
    by_cases hneg : a2 - sumOvl a1 a2 c2 < 0
    · rw [if_pos hneg] at h; cases h
    · rw [if_neg hneg] at h
      cases hr : IndelMap.coordsMinusCoords rest c2 with
      | error e => rw [hr] at h; cases h
      | ok rr =>
        simp only [hr, ih rr hrest hr] at h
        simp only [minusClosed, List.filterMap_cons]
        by_cases hk : sumOvl a1 a2 c2 = a2 - a1
        · rw [if_neg (not_not_intro hk)] at h; rw [if_pos hk]; exact (Except.ok.inj h).symm
        · rw [if_pos hk] at h; rw [if_neg hk]; exact (Except.ok.inj h).symm

/-- the same for the code TRANSLATED from the python source -/
theorem coords_minus_coords_spec (c1 c2 r : List (Int × Int)) (h1 : ∀ p ∈ c1, p.1 < p.2) (h2 : ∀ p ∈ c2, p.1 < p.2)
    (hs : c2.Pairwise (fun p q => p.1 ≤ q.1)) (h : C08Gen.coordsMinusCoords c1 c2 = .ok r) : r = minusClosed c1 c2 := by
  rw [gen_coordsMinusCoords] at h
  cases hm : IndelMap.coordsMinusCoords c1 c2 with
  | error e => rw [hm] at h; cases h
  | ok rr => rw [hm] at h; cases h; exact coordsMinusCoords_model_spec c1 c2 _ h1 h2 hs hm

example : C08Gen.coordsMinusCoords [(0, 3), (5, 9), (10, 12)] [(2, 6), (10, 12)] = .ok (minusClosed [(0, 3), (5, 9), (10, 12)] [(2, 6), (10, 12)]) := by decide +kernel
end CogentModel.C08
