import CogentModel.Model.FMap
import CogentModel.Proofs.FMapReversed
import CogentModel.Proofs.FMapGetitem
import CogentModel.Proofs.FMapCovered
import CogentModel.Proofs.FMapInvolution
/-! # C08 (feature maps) — property theorems about `FeatureMap` / `Span` algebra

`cover m : List (Option Int)` is the abstraction: map position ↦ parent position or lost.
`Within m` : every real span has `0 ≤ s ≤ e ≤ parentLength`; `Fwd m` : no span is reversed
(defined in `Proofs/FMapCover.lean` and `Proofs/FMapReversed.lean`). -/
namespace CogentModel.C08
open CogentModel.FMap

/-! ## 1. no operation yields coordinates outside the parent -/

/-- `FeatureMap.from_locations` (every branch, including the end-clipping one that emits a
    trailing lost span) only produces spans with `0 ≤ start ≤ end ≤ parent_length`. -/
theorem coords_within_parent (locs : List (Int × Int)) (pl : Int) (m : FM)
    (h : fromLocations locs pl = .ok m) : Within m ∧ m.parentLength = pl :=
  fromLocations_within locs pl m h

-- the end-clipping branch is reached
example : fromLocations [(2, 5), (7, 14)] 10 = .ok ⟨[.span 2 5 false, .span 7 10 false, .lost 4], 10⟩ := by decide

/-- `covered()` stays inside the parent (no hypothesis on the input map) -/
theorem coords_within_parent_covered (m c : FM) (h : covered m = .ok c) :
    Within c ∧ c.parentLength = m.parentLength := by
  obtain ⟨locs, _, h⟩ := covered_eq_ok h
  exact fromLocations_within _ _ _ h

example : covered ⟨[.span 10 20 false, .span 15 25 true, .lost 3, .span 80 90 false], 100⟩
    = .ok ⟨[.span 10 25 false, .span 80 90 false], 100⟩ := by decide

/-- `gaps()` stays inside its parent, which is the map's own coordinate system `[0, len m]` -/
theorem coords_within_parent_gaps (m g : FM) (h : gaps m = .ok g) :
    Within g ∧ g.parentLength = len m :=
  gaps_within m g h

example : gaps ⟨[.span 2 5 false, .lost 4, .span 7 9 true, .lost 1], 10⟩
    = .ok ⟨[.span 3 7 false, .span 9 10 false], 10⟩ := by decide

/-- `nucleic_reversed()` of a map inside its parent stays inside the parent -/
theorem coords_within_parent_reversed (m r : FM) (hw : Within m) (h : nucleicReversed m = .ok r) :
    Within r ∧ r.parentLength = m.parentLength :=
  nucleicReversed_within m r hw h

example : Within ⟨[.span 2 5 false, .lost 4, .span 7 9 true], 10⟩ ∧
    nucleicReversed ⟨[.span 2 5 false, .lost 4, .span 7 9 true], 10⟩
      = .ok ⟨[.span 1 3 false, .lost 4, .span 5 8 false], 10⟩ := by decide

/-- `nucleic_reversed()` never fails on a map inside its parent -/
theorem fm_reversed_total (m : FM) (hw : Within m) : ∃ r, nucleicReversed m = .ok r :=
  ⟨_, nucleicReversed_total m hw⟩

example : Within ⟨[.span 2 5 false, .lost 4, .span 7 9 true], 10⟩ := by decide

/-- `m[n]` of a map inside its parent stays inside the parent (whatever the index map `n` is) -/
theorem coords_within_parent_getitem (m n r : FM) (hw : Within m) (h : getitem m n = .ok r) :
    Within r ∧ r.parentLength = m.parentLength := by
  unfold getitem at h
  split at h
  · cases h
  · rename_i sp hs
    injection h with h; subst h
    exact ⟨getitem_go_within m hw n.spans sp hs, rfl⟩

example : Within ⟨[.span 2 5 false, .lost 2, .span 7 9 true], 10⟩ ∧
    getitem ⟨[.span 2 5 false, .lost 2, .span 7 9 true], 10⟩ ⟨[.span 1 4 false, .lost 1, .span 3 9 true], 7⟩
      = .ok ⟨[.span 3 5 false, .lost 1, .lost 1, .lost 2, .span 7 9 false, .lost 2], 10⟩ := by decide

/-- `inverse()` stays inside its parent, which is the map's own coordinate system `[0, len m]`
    (any map with non-negative span lengths: reversed, unsorted, with lost spans) -/
theorem coords_within_parent_inverse (m i : FM) (hN : NonNeg m) (h : inverse m = .ok i) :
    Within i ∧ i.parentLength = len m :=
  inverse_within m i hN h

example : NonNeg ⟨[.span 7 9 true, .lost 2, .span 2 5 false], 10⟩ ∧
    inverse ⟨[.span 7 9 true, .lost 2, .span 2 5 false], 10⟩
      = .ok ⟨[.lost 2, .span 4 7 false, .lost 2, .span 0 2 true, .lost 1], 7⟩ := by decide

/-- `shadow()` stays inside its parent (no hypothesis) -/
theorem coords_within_parent_shadow (m s : FM) (h : shadow m = .ok s) : Within s := by
  unfold shadow at h
  split at h
  · cases h
  · exact (gaps_within _ _ h).1

example : shadow ⟨[.span 7 9 true, .lost 2, .span 2 5 false], 10⟩
    = .ok ⟨[.span 0 2 false, .span 5 7 false, .span 9 10 false], 10⟩ := by decide

/-! ## 2. `nucleic_reversed` -/

/-- reversal: the reversed map reads the parent's mirror image back to front -/
theorem fm_reversed_spec (m r : FM) (hw : Within m) (hf : Fwd m) (h : nucleicReversed m = .ok r) :
    cover r = (cover m).reverse.map (Option.map (fun p => m.parentLength - 1 - p)) ∧ len r = len m := by
  rw [nucleicReversed_total m hw] at h
  cases h
  have := cover_map_revSp m.parentLength m.spans hw hf
  exact ⟨this.1, by rw [len_eq_lenL, len_eq_lenL, lenL_reverse, this.2]⟩

example : Within ⟨[.span 2 5 false, .lost 4, .span 7 9 false], 10⟩ ∧ Fwd ⟨[.span 2 5 false, .lost 4, .span 7 9 false], 10⟩ ∧
    (nucleicReversed ⟨[.span 2 5 false, .lost 4, .span 7 9 false], 10⟩).toOption.map cover
      = some [some 1, some 2, none, none, none, none, some 5, some 6, some 7] := by decide

/-- on forward maps inside their parent, reversing twice gives the map back -/
theorem fm_reversed_involutive (m r : FM) (hw : Within m) (hf : Fwd m) (h : nucleicReversed m = .ok r) :
    nucleicReversed r = .ok m := by
  rw [nucleicReversed_total r (nucleicReversed_within m r hw h).1]
  rw [nucleicReversed_total m hw] at h
  cases h
  simp only [List.map_reverse, List.reverse_reverse, List.map_map]
  rw [List.map_congr_left (f := revSp _ ∘ revSp _) (g := id) fun x hx => revSp_revSp _ x (hw x hx) (hf x hx), List.map_id]

example : nucleicReversed ⟨[.span 2 5 false, .lost 4, .span 7 9 false], 10⟩ = .ok ⟨[.span 1 3 false, .lost 4, .span 5 8 false], 10⟩ ∧
    nucleicReversed ⟨[.span 1 3 false, .lost 4, .span 5 8 false], 10⟩ = .ok ⟨[.span 2 5 false, .lost 4, .span 7 9 false], 10⟩ := by decide

/-- a reversed span is NOT mirrored correctly: `nucleic_reversed` "discards the reverse attribute"
    (documented in the docstring), so `fm_reversed_spec` genuinely needs `Fwd m`. -/
theorem fm_reversed_spec_needs_fwd :
    ∃ m r, Within m ∧ nucleicReversed m = .ok r ∧
      cover r ≠ (cover m).reverse.map (Option.map (fun p => m.parentLength - 1 - p)) :=
  ⟨⟨[.span 2 5 true], 10⟩, ⟨[.span 5 8 false], 10⟩, by decide, by decide, by decide⟩

/-- at the level of covered SETS the mirror property holds for every map inside its parent,
    reversed spans included -/
theorem fm_reversed_set_spec (m r : FM) (hw : Within m) (h : nucleicReversed m = .ok r) :
    ∀ p, some p ∈ cover r ↔ some (m.parentLength - 1 - p) ∈ cover m := by
  intro p
  rw [nucleicReversed_total m hw] at h
  cases h
  simp only [cover, List.mem_flatMap, List.mem_reverse, List.mem_map]
  constructor
  · rintro ⟨_, ⟨x, hx, rfl⟩, h⟩; exact ⟨x, hx, (mem_coverSp_revSp (hw x hx) p).1 h⟩
  · rintro ⟨x, hx, h⟩; exact ⟨_, ⟨x, hx, rfl⟩, (mem_coverSp_revSp (hw x hx) p).2 h⟩

example : Within ⟨[.span 2 5 true, .lost 4, .span 7 9 false], 10⟩ ∧
    nucleicReversed ⟨[.span 2 5 true, .lost 4, .span 7 9 false], 10⟩
      = .ok ⟨[.span 1 3 false, .lost 4, .span 5 8 false], 10⟩ := by decide

/-! ## 3. `__getitem__` is composition -/

/-- `Span(s, e, rev).remap_with(m)`: the span that contains map position `z` is found by
    `bisect_right(offsets, z) - 1`, the pieces are trimmed with `Span.__getitem__`, and lost spans are
    added where the span pokes outside `[0, len m)`.  Position by position the result is `m`'s cover
    read at the span's own positions (`compose c (some j) = c[j]` if `0 ≤ j < len`, else lost).
    Holds for forward and reversed index spans, with zero-length spans anywhere in `m`. -/
theorem remap_with_spec (m : FM) (hN : NonNeg m) (hne : m.spans ≠ []) (s e : Int) (rv : Bool)
    (h1 : s ≤ e) :
    ∃ parts, remapSpan s e rv m = .ok parts ∧
      parts.flatMap coverSp = (coverSp (.span s e rv)).map (compose (cover m)) :=
  remapSpan_spec m hN hne s e rv h1

example : NonNeg ⟨[.span 2 5 false, .lost 2, .span 7 7 false, .span 7 9 true], 10⟩ ∧
    remapSpan (-2) 9 true ⟨[.span 2 5 false, .lost 2, .span 7 7 false, .span 7 9 true], 10⟩
      = .ok [.lost 2, .span 7 9 false, .span 7 7 true, .lost 2, .span 2 5 true, .lost 2] := by decide

/-- `m[n]`: the cover of the result is the composition of the covers — for EVERY index map `n`
    whose spans are ordered (`idxOK`: `start ≤ end`, which `Span.__init__` enforces): forward or
    reversed, poking outside or lying entirely outside `[0, len m]` (those positions become lost),
    and every `m` with non-negative span lengths and at least one span.  The call never fails. -/
theorem getitem_is_composition (m n : FM) (hN : NonNeg m) (hne : m.spans ≠ [])
    (hn : ∀ x ∈ n.spans, x.idxOK (len m)) :
    ∃ r, getitem m n = .ok r ∧ r.parentLength = m.parentLength ∧
      cover r = (cover n).map (compose (cover m)) :=
  getitem_spec m n hN hne hn

example : NonNeg ⟨[.span 2 5 false, .lost 2, .span 7 9 true], 10⟩ ∧
    (∀ x ∈ [FSp.span (-1) 4 false, .lost 1, .span 3 9 true], x.idxOK (len ⟨[.span 2 5 false, .lost 2, .span 7 9 true], 10⟩)) ∧
    (getitem ⟨[.span 2 5 false, .lost 2, .span 7 9 true], 10⟩ ⟨[.span (-1) 4 false, .lost 1, .span 3 9 true], 7⟩).toOption.map cover
      = some [none, some 2, some 3, some 4, none, none, none, none, some 7, some 8, none, none] := by decide

/-- the same with the index map inside `[0, len m]`: plain list indexing of `cover m` -/
theorem getitem_is_composition_inrange (m n : FM) (hN : NonNeg m) (hne : m.spans ≠ [])
    (hn : ∀ x ∈ n.spans, x.idxIn (len m)) :
    ∃ r, getitem m n = .ok r ∧ r.parentLength = m.parentLength ∧
      cover r = (cover n).map (fun | none => none | some j => ((cover m)[j.toNat]?).join) := by
  obtain ⟨r, hr, hp, hc⟩ := getitem_spec m n hN hne fun x hx => (hn x hx).idxOK
  exact ⟨r, hr, hp, hc.trans (compose_eq_getElem? _ hn)⟩

example : (∀ x ∈ [FSp.span 1 4 false, .lost 1, .span 3 7 true], x.idxIn (len ⟨[.span 2 5 false, .lost 2, .span 7 9 true], 10⟩)) := by decide

/-- an index span lying entirely outside the map (`e < 0`, or `s > len m`) is remapped to a lost
    span of its own length (regression anchor for `remap_with` as of cogent3 commit b86b50a25: before it
    `Span(-5, -2)` gave `LostSpan(5)`, and `Span(7, 9)` on a map of length 5 `[9:9, LostSpan(4)]`); in
    general `m[n]` has as many positions as `n` -/
theorem getitem_preserves_positions (m n : FM) (hN : NonNeg m) (hne : m.spans ≠ [])
    (hn : ∀ x ∈ n.spans, x.idxOK (len m)) :
    ∃ r, getitem m n = .ok r ∧ (cover r).length = (cover n).length := by
  obtain ⟨r, hr, _, hc⟩ := getitem_spec m n hN hne hn
  exact ⟨r, hr, by rw [hc, List.length_map]⟩

example : getitem ⟨[.span 2 5 false, .span 7 9 false], 10⟩ ⟨[.span (-5) (-2) false, .span 7 9 false], 5⟩
    = .ok ⟨[.lost 3, .lost 2], 10⟩ := by decide

/-! ## 4. `covered()` is the union -/

/-- `covered()` (delta dict, sorted keys, sweep, `from_locations`): a parent position is covered by
    the result iff it is covered by some span of the map (overlapping, nested, touching, reversed and
    zero-length spans included) -/
theorem covered_is_union (m c : FM) (hw : Within m) (h : covered m = .ok c) :
    ∀ p, some p ∈ cover c ↔ some p ∈ cover m := by
  intro p
  obtain ⟨locs, hsw, h⟩ := covered_eq_ok h
  have hord : ∀ x ∈ m.spans, ∀ s e rv, x = FSp.span s e rv → s ≤ e := by
    intro x hx s e rv hxe; subst hxe
    have := hw _ hx; simp only [FSp.within] at this; omega
  -- the sweep emits the positions of non-zero depth, and the depth at `p` is the number of spans over `p`
  rw [fromLocations_mem locs m.parentLength p c h,
    sweep_spec p _ 0 none locs (ssorted_sortedDelta _) (fun _ h0 => nomatch h0) (fun h0 => absurd rfl h0) (fun _ => rfl)
      (by rw [dsum_sortedDelta, cntP_true]; rfl) hsw,
    depth_sortedDelta p _ hord, ← cover_eq_coverL]
  -- and a position that `m` covers lies inside the parent
  refine and_iff_left_of_imp fun h1 => ?_
  obtain ⟨s, e, rv, hx, _, h2⟩ := (mem_coverL _ p).1 h1
  have := hw _ hx; simp only [FSp.within] at this; omega

example : Within ⟨[.span 10 20 false, .span 15 25 true, .lost 3, .span 25 30 false, .span 40 40 false, .span 80 90 false, .span 12 14 false], 100⟩ ∧
    covered ⟨[.span 10 20 false, .span 15 25 true, .lost 3, .span 25 30 false, .span 40 40 false, .span 80 90 false, .span 12 14 false], 100⟩
      = .ok ⟨[.span 10 30 false, .span 80 90 false], 100⟩ := by decide

/-- `covered()`: the spans of the result are forward, non-empty, sorted, pairwise disjoint and
    non-adjacent (each ends strictly before the next starts); there are no lost spans -/
theorem covered_is_sorted_disjoint (m c : FM) (hw : Within m) (h : covered m = .ok c) :
    ∃ locs : List (Int × Int), c.spans = locs.map (fun ab => FSp.span ab.1 ab.2 false) ∧
      (∀ ab ∈ locs, ab.1 < ab.2) ∧ locs.Pairwise (fun a b => a.2 < b.1) := by
  obtain ⟨locs, hsw, h⟩ := covered_eq_ok h
  obtain ⟨A, B, C⟩ := sweep_sep _ 0 none locs (ssorted_sortedDelta _) (fun s0 h0 => nomatch h0) (fun h0 => absurd rfl h0) hsw
  obtain ⟨rfl, _⟩ := fromLocations_eq_ok h
  -- every interval ends at a key, which is an end point of a span of `m`, so `from_locations` clips nothing
  refine ⟨locs, flatMap_clip_of_le fun ab hab => ?_, A, B⟩
  obtain ⟨s, e, rv, hm, hj⟩ := mem_keys_sortedDelta (C ab hab).2
  have := hw _ hm
  simp only [FSp.within] at this
  rcases hj with hj | hj <;> omega

example : Within ⟨[.span 80 90 false, .span 10 20 false, .span 20 25 true, .span 40 40 false], 100⟩ ∧
    covered ⟨[.span 80 90 false, .span 10 20 false, .span 20 25 true, .span 40 40 false], 100⟩
      = .ok ⟨[.span 10 25 false, .span 80 90 false], 100⟩ := by decide

/-! ## 5. `inverse()` and `shadow()`

`SortedFwd m` : the real spans of `m` are forward, sorted and non-overlapping in parent
coordinates (touching allowed, zero-length allowed), inside `[0, parentLength]`; lost spans
(anywhere) have non-negative length. -/

/-- `inverse()` swaps the roles of map position and parent position: it has one position per
    parent position, its parent is the map's own coordinate system, and `j ↦ p` in `m` iff
    `p ↦ j` in the inverse.  Never fails on such maps. -/
theorem inverse_is_converse (m : FM) (h : SortedFwd m) :
    ∃ i, inverse m = .ok i ∧ i.parentLength = len m ∧ len i = m.parentLength ∧
      (∀ (k : Nat) (j : Int), (cover i)[k]? = some (some j) ↔
        (0 ≤ j ∧ (cover m)[j.toNat]? = some (some (k : Int)))) ∧
      (∀ (j : Nat) (p : Int), (cover m)[j]? = some (some p) → (cover i)[p.toNat]? = some (some (j : Int))) := by
  obtain ⟨hN, hw, hd, hpl⟩ := h.invertible
  obtain ⟨i, hi, hp, hlen, _, hcov⟩ := inverse_general_spec m hN hw hd hpl
  exact ⟨i, hi, hp, hlen, getElem?_of_converse hcov, fun _ _ hj => (getElem?_of_converse_symm hcov hj).2⟩

example : SortedFwd ⟨[.lost 1, .span 2 5 false, .lost 2, .span 5 5 false, .span 7 9 false], 10⟩ ∧
    inverse ⟨[.lost 1, .span 2 5 false, .lost 2, .span 5 5 false, .span 7 9 false], 10⟩
      = .ok ⟨[.lost 2, .span 1 4 false, .span 6 6 false, .lost 2, .span 6 8 false, .lost 1], 8⟩ := by decide

/-- `shadow()` (= `inverse().gaps()`) is the complement inside the parent -/
theorem shadow_is_complement (m s : FM) (h : SortedFwd m) (hs : shadow m = .ok s) :
    ∀ p, some p ∈ cover s ↔ (0 ≤ p ∧ p < m.parentLength ∧ some p ∉ cover m) := by
  obtain ⟨hN, hw, hd, hpl⟩ := h.invertible
  exact (shadow_general_spec m s hN hw hd hpl hs).2

example : SortedFwd ⟨[.lost 1, .span 2 5 false, .lost 2, .span 7 9 false], 10⟩ ∧
    shadow ⟨[.lost 1, .span 2 5 false, .lost 2, .span 7 9 false], 10⟩
      = .ok ⟨[.span 0 2 false, .span 5 7 false, .span 9 10 false], 10⟩ := by decide

/-- `inverse()` for ANY map whose real spans are pairwise non-overlapping (touching allowed), inside
    the parent and of non-negative length — spans in any order and any direction (reverse-strand
    features), lost spans anywhere: same converse property.  Goes through `temp.sort()` (insertion
    sort on the 4-tuples, shown sorted and a permutation) and the overlap check (never fires). -/
theorem inverse_is_converse_any_order (m : FM) (hN : NonNeg m) (hw : Within m) (hd : NoOverlap m)
    (hpl : 0 ≤ m.parentLength) :
    ∃ i, inverse m = .ok i ∧ i.parentLength = len m ∧ len i = m.parentLength ∧
      (∀ (k : Nat) (j : Int), (cover i)[k]? = some (some j) ↔
        (0 ≤ j ∧ (cover m)[j.toNat]? = some (some (k : Int)))) := by
  obtain ⟨i, hi, hp, hlen, _, hcov⟩ := inverse_general_spec m hN hw hd hpl
  exact ⟨i, hi, hp, hlen, getElem?_of_converse hcov⟩

example : NonNeg ⟨[.span 7 9 true, .lost 2, .span 2 5 true, .span 5 7 false], 10⟩ ∧
    Within ⟨[.span 7 9 true, .lost 2, .span 2 5 true, .span 5 7 false], 10⟩ ∧
    NoOverlap ⟨[.span 7 9 true, .lost 2, .span 2 5 true, .span 5 7 false], 10⟩ ∧
    inverse ⟨[.span 7 9 true, .lost 2, .span 2 5 true, .span 5 7 false], 10⟩
      = .ok ⟨[.lost 2, .span 4 7 true, .span 7 9 false, .span 0 2 true, .lost 1], 9⟩ := by decide

/-- `shadow()` is the complement inside the parent for any such map -/
theorem shadow_is_complement_any_order (m s : FM) (hN : NonNeg m) (hw : Within m) (hd : NoOverlap m)
    (hpl : 0 ≤ m.parentLength) (hs : shadow m = .ok s) :
    s.parentLength = m.parentLength ∧
    ∀ p, some p ∈ cover s ↔ (0 ≤ p ∧ p < m.parentLength ∧ some p ∉ cover m) :=
  shadow_general_spec m s hN hw hd hpl hs

example : NoOverlap ⟨[.span 7 9 true, .lost 2, .span 2 5 true], 10⟩ ∧
    shadow ⟨[.span 7 9 true, .lost 2, .span 2 5 true], 10⟩
      = .ok ⟨[.span 0 2 false, .span 5 7 false, .span 9 10 false], 10⟩ := by decide

/-- `inverse()` refuses overlapping spans, so the sortedness/non-overlap hypothesis is about the
    domain of the operation, not a proof convenience -/
theorem inverse_overlap_rejected :
    inverse ⟨[.span 2 6 false, .span 5 9 false], 10⟩ = .error .valueError := by decide

/-- on complete maps (no lost spans) that are sorted, non-overlapping and forward,
    `inverse` is an involution -/
theorem inverse_involutive_on_complete (m i : FM) (h : SortedFwd m) (hC : Complete m.spans)
    (hi : inverse m = .ok i) : inverse i = .ok m := by
  obtain ⟨hN, hw, hd, hpl0⟩ := h.invertible
  obtain ⟨hc, hle⟩ := h
  obtain ⟨i', hi', hpl, hlen, _, _⟩ := inverse_general_spec m hN hw hd hpl0
  rw [hi] at hi'; injection hi' with hi'; subst hi'
  rw [inverse_chain m hc] at hi
  injection hi with hi
  subst hi
  have hci : Chain 0 (invC 0 0 m.spans ++ gap (lastEnd 0 m.spans) m.parentLength) :=
    chain_invC_append _ _ _ _ _ hc (Int.le_refl 0) fun c _ => by
      rw [← List.append_nil (gap _ _), chain_gap_append]; trivial
  rw [inverse_chain _ hci, hlen]
  simp only []
  -- inverting the closed form gives the spans back; the trailing gap of the inverse brings the parent position to
  -- `parentLength`, and no gap is left at the end
  rw [invC_invC m.spans 0 0 _ hc hC, lastEnd_invC m.spans 0 0 _ _ hc hC, ← List.append_nil (gap _ _),
    invC_gap_append hle, invC, List.append_nil, Int.zero_add, ← len_eq_lenL, gap_self, List.append_nil]

example : SortedFwd ⟨[.span 2 5 false, .span 5 5 false, .span 7 9 false], 10⟩ ∧
    Complete [FSp.span 2 5 false, .span 5 5 false, .span 7 9 false] ∧
    inverse ⟨[.span 2 5 false, .span 5 5 false, .span 7 9 false], 10⟩
      = .ok ⟨[.lost 2, .span 0 3 false, .span 3 3 false, .lost 2, .span 3 5 false, .lost 1], 5⟩ ∧
    inverse ⟨[.lost 2, .span 0 3 false, .span 3 3 false, .lost 2, .span 3 5 false, .lost 1], 5⟩
      = .ok ⟨[.span 2 5 false, .span 5 5 false, .span 7 9 false], 10⟩ := by decide

/-- with lost spans the round trip is not the identity in general: adjacent lost spans are merged
    and zero-length lost spans disappear, so `Complete` (or a normal form) is needed -/
theorem inverse_involutive_needs_complete :
    ∃ m i i2, SortedFwd m ∧ inverse m = .ok i ∧ inverse i = .ok i2 ∧ i2 ≠ m :=
  ⟨⟨[.span 0 2 false, .lost 1, .lost 1, .span 2 4 false], 4⟩, _, _, by decide, rfl, rfl, by decide⟩

/-- `inverse` is an involution up to denotation on EVERY invertible map (non-overlapping spans in
    any order and direction, lost spans anywhere): the double inverse exists and has the same
    cover and parent as `m` (its span list may differ: lost spans merged, spans re-sorted). -/
theorem inverse_involutive_cover (m : FM) (hN : NonNeg m) (hw : Within m) (hd : NoOverlap m)
    (hpl : 0 ≤ m.parentLength) :
    ∃ i i2, inverse m = .ok i ∧ inverse i = .ok i2 ∧ cover i2 = cover m ∧
      i2.parentLength = m.parentLength := by
  obtain ⟨i, hi, hip, hilen, hiN, hicov⟩ := inverse_general_spec m hN hw hd hpl
  obtain ⟨i2, hi2, hi2p, hi2len, hi2N, hi2cov⟩ := inverse_general_spec i hiN (inverse_within m i hN hi).1
    (inverse_nooverlap m i hN hi) (hip ▸ lenL_nonneg hN)
  refine ⟨i, i2, hi, hi2, ext_lookup ?_ fun k => Option.ext fun j => ?_, hi2p.trans hilen⟩
  · have h1 := coverL_length hi2N
    have h2 := coverL_length hN
    rw [← cover_eq_coverL, ← len_eq_lenL] at h1 h2
    omega
  · rw [hi2cov, hicov]

example : NonNeg ⟨[.span 7 9 true, .lost 1, .lost 1, .span 2 5 true], 10⟩ ∧
    Within ⟨[.span 7 9 true, .lost 1, .lost 1, .span 2 5 true], 10⟩ ∧
    NoOverlap ⟨[.span 7 9 true, .lost 1, .lost 1, .span 2 5 true], 10⟩ ∧
    inverse ⟨[.span 7 9 true, .lost 1, .lost 1, .span 2 5 true], 10⟩
      = .ok ⟨[.lost 2, .span 4 7 true, .lost 2, .span 0 2 true, .lost 1], 7⟩ ∧
    inverse ⟨[.lost 2, .span 4 7 true, .lost 2, .span 0 2 true, .lost 1], 7⟩
      = .ok ⟨[.span 7 9 true, .lost 2, .span 2 5 true], 10⟩ := by decide

/- Not proved: `inverse (inverse m) = m` for maps with lost spans.  For `SortedFwd m` in normal form (every lost
   span of positive length, no two lost spans adjacent) `inverse m = .ok i → inverse i = .ok m` should hold; for
   reversed / unsorted non-overlapping maps the double inverse is `m` with its spans re-sorted by parent position.
   Proved: the complete sorted forward case (`inverse_involutive_on_complete`), equality of covers in general
   (`inverse_involutive_cover`), and that the unrestricted statement is false (`inverse_involutive_needs_complete`).

   `m.spans ≠ []` in the `__getitem__` theorems: on a map without spans the code raises IndexError (`offsets[-1]`).

   `+`, `*`, `/`, `without_gaps`, `get_covering_span` are in `Props/C08Ops.lean`; `FeatureMap.nongap()` has no
   theorem about its meaning; tidy flags and `value` are not modelled. -/

end CogentModel.C08
