/- C10: `_get_class` of util/deserialise.py (TRANSLATED each run -> Gen/C10GetClass.lean) inverts `get_object_provenance`. -/
import CogentModel.Gen.C10GetClass
import CogentModel.Proofs.GetClassSplit
import CogentModel.Gen.C10Registry
namespace CogentModel.C10GetClass
open CogentModel.Registry
open CogentModel.Gen.C10GetClass (get_class)

def NC : Str := ['N', 'o', 't', 'C', 'o', 'm', 'p', 'l', 'e', 't', 'e', 'd']

theorem rfindChar_append (c : Char) (m cls : Str) (h : c ∉ cls) :
    rfindChar c (m ++ c :: cls) = m.length := by
  unfold rfindChar
  have hrev : (m ++ c :: cls).reverse = cls.reverse ++ c :: m.reverse := by simp
  have hidx : (cls.reverse ++ c :: m.reverse).findIdx? (· == c) = some cls.length := by
    simp [List.findIdx?_append, findIdx?_reverse_of_not_mem c cls h, List.findIdx?_cons]
  rw [hrev, hidx]
  simp only [List.length_append, List.length_cons]
  omega

/-- `_get_class(get_object_provenance(C))` hands `import_module` the module and `getattr` the class name, for EVERY module path and
    every class name (a Python identifier has no '.') that does not contain "NotCompleted" -/
theorem get_class_provenance (m cls : Str) (hm : m ≠ []) (hdot : '.' ∉ cls) (hnc : isInfix NC cls = false) :
    get_class (m ++ '.' :: cls) = .ok (m, cls) := by
  unfold NC at hnc
  simp [get_class, rfindChar_append '.' m cls hdot, sliceFrom_append_cons, sliceTo_append, hm, hnc]

example : get_class "cogent3.core.tree.PhyloNode".toList = .ok ("cogent3.core.tree".toList, "PhyloNode".toList) := by
  repeat rw [String.toList_ofList]
  rfl

/-- a name with "NotCompleted" in it is looked up as `NotCompleted` (old records were written with other class spellings) -/
theorem get_class_notcompleted (m cls : Str) (hm : m ≠ []) (hdot : '.' ∉ cls) (hnc : isInfix NC cls = true) :
    get_class (m ++ '.' :: cls) = .ok (m, NC) := by
  unfold NC at hnc ⊢
  simp [get_class, rfindChar_append '.' m cls hdot, sliceFrom_append_cons, sliceTo_append, hm, hnc]

example : get_class "cogent3.app.composable.NotCompletedResult".toList = .ok ("cogent3.app.composable".toList, NC) := by
  repeat rw [String.toList_ofList]
  rfl

/-- no module part (no '.', or nothing in front of the only '.'): the `assert index > 0` fails -/
theorem get_class_no_module (s : Str) (hdot : '.' ∉ s) :
    get_class s = .error "AssertionError" ∧ get_class ('.' :: s) = .error "AssertionError" := by
  constructor <;> simp [get_class, rfindChar, findIdx?_reverse_of_not_mem '.' s hdot]

example : get_class "Table".toList = .error "AssertionError" := (get_class_no_module _ (by decide)).1

/-- a module path, a dot, and a class name without a dot which, if it contains "NotCompleted", is `NotCompleted` -/
def splitsBack (t : Str) : Bool :=
  match splitLast '.' t with
  | some (m, cls) => !m.isEmpty && (!isInfix NC cls || cls == NC)
  | none => false

/-- every type string the package emits (Gen/C10Registry.emitted) is split back without loss: module ++ "." ++ name = the string -/
theorem get_class_emitted :
    ∀ e ∈ Gen.C10Registry.emitted,
      (match get_class e.typeStr with | .ok (m, c) => m ++ '.' :: c == e.typeStr | .error _ => false) = true := by
  have hall : ∀ e ∈ Gen.C10Registry.emitted, splitsBack e.typeStr = true := by decide +kernel
  intro e he
  have h := hall e he
  generalize e.typeStr = t at h ⊢
  have hs := splitLast_spec '.' t
  unfold splitsBack at h
  split at h
  · rename_i m cls hsp
    rw [hsp] at hs
    obtain ⟨rfl, hdot⟩ := hs
    simp only [Bool.and_eq_true, Bool.not_eq_true', List.isEmpty_eq_false_iff, Bool.or_eq_true, beq_iff_eq] at h
    obtain ⟨hm, hnc | rfl⟩ := h
    · simp [get_class_provenance m cls hm hdot hnc]
    · simp [get_class_notcompleted m NC hm hdot (by decide)]
  · cases h

end CogentModel.C10GetClass
