import CogentModel.Gen.C07Rules
import CogentModel.Model.GenRun
import CogentModel.Proofs.RulesGen
import CogentModel.Props.C07
/-! # C07 — the statements of scope.py / parameter_controller.py, TRANSLATED from the current source

`Gen/C07Rules.lean` is regenerated on every run by `translator/c07_rules2lean.py` from cogent3's current source
text (one python statement per line of a Lean `do` block).  The theorems below prove, for ALL arguments, states and
histories, that the translated statements compute what the hand models of `Model/ParamRules.lean` and
`Model/Controller.lean` compute, so `rules_roundtrip` / `controller_consistent` / `controller_equals_fresh` are
theorems about the translated code; any semantic edit of the translated python functions breaks one of them. -/
namespace CogentModel.C07
open CogentModel.Rules CogentModel.Rules.Prim CogentModel.Gen.C07Rules CogentModel.Gen.C07Ctl

/-! ### each translated definition equals the hand model (the proofs unfold the GENERATED text) -/

theorem get_current_bounds_fold (d : Defn) (self : St) (scope : List Nat) :
    get_current_bounds d self scope =
      .ok (let r := scope.foldl (fun acc s => bStep self s acc) (none, none)
           if r.1.isNone || r.2.isNone then (some d.dLo, some d.dHi) else r) := by
  unfold get_current_bounds
  simp only []
  rw [forIn_of_step (bStep self)]
  · simp only [pure, Except.pure, bind, Except.bind]
    generalize List.foldl _ (none, none) scope = r
    cases r.1.isNone || r.2.isNone <;> rfl
  · intro s acc
    unfold bStep
    rcases getBounds self s with ⟨lower, i, upper⟩
    simp only []
    cases pyEq upper lower <;> cases acc.1.isNone || pyLt lower acc.1 <;>
      cases acc.2.isNone || pyGt upper acc.2 <;> rfl

/-- **get_current_bounds_eq**: the translated `_LeafDefn.get_current_bounds` (a loop with `continue` over the
scope keeping `lowest` / `highest`, class defaults when nothing is left) is the hand model's `curBounds`, for every
definition, state and scope -/
theorem get_current_bounds_eq (d : Defn) (self : St) (scope : List Nat) :
    get_current_bounds d self scope =
      .ok (some (curBounds d self scope).1, some (curBounds d self scope).2) := by
  rw [get_current_bounds_fold, bStep_none, curBounds_entries]
  cases bEntries self scope <;> simp

/-- **get_mean_current_value_eq**: the translated `_LeafDefn.get_mean_current_value` (at warn=False) is `meanValue` -/
theorem get_mean_current_value_eq (d : Defn) (self : St) (scope : List Nat) :
    get_mean_current_value d self scope = .ok (some (meanValue self scope)) := by
  unfold get_mean_current_value meanValue
  match scope with
  | [] => simp [pyEq, pyLen, pyDiv, pySum, pure, Except.pure]
  | [e] => simp [pyEq, pyLen, pyIdx, getDefaultValue, pure, Except.pure]
  | e1 :: e2 :: es =>
    have hlen : ¬ (((es.length : Nat) : Rat) + 1 + 1 = 1) := by
      intro h
      have h0 : (0 : Rat) ≤ ((es.length : Nat) : Rat) := by exact_mod_cast Nat.zero_le _
      grind
    simp only [pyEq, pyLen, List.length_map, List.length_cons, pyDiv, pySum, pySum_values]
    simp [hlen, pure, Except.pure]

/-- GENERATED per-scope body of `_LeafDefn.assign_all` = hand `mkSetting` (python `const=None` is
`const_by_default`, False for a ParamDefn) -/
theorem assign_all_scope_eq (d : Defn) (self : St) (scope : List Nat) (value lower upper : PV) (c : Bool) :
    assign_all_scope d self scope value lower upper (some c) =
      (mkSetting d self scope value lower upper c).map lift := by
  cases c
  · -- once the three optional arguments are known to be given or not, the statements reduce to the chain of
    -- comparisons of `clampVar`
    cases value <;> cases lower <;> cases upper <;>
      simp [assign_all_scope, mkSetting, clampVar_map_lift, get_current_bounds_eq, get_mean_current_value_eq,
        truthyB, numeric, unwrapValue, orElse, checkSettingIsValid, pure, Except.pure, bind, Except.bind,
        pyGt, pyLt, throw, throwThe, MonadExceptOf.throw]
  · cases value <;>
      simp [assign_all_scope, mkSetting, get_mean_current_value_eq, truthyB, unwrapValue, orElse,
        checkSettingIsValid, pure, Except.pure, bind, Except.bind] <;> rfl

theorem assign_all_scope_default (d : Defn) (self : St) (scope : List Nat) (value lower upper : PV) :
    assign_all_scope d self scope value lower upper none =
      assign_all_scope d self scope value lower upper (some false) := by
  rfl

/-- **set_param_rule_tail_eq**: the hand model's `setRule` IS the translated tail of `set_param_rule` (the two asserts,
`value = init`, the argument list of the final `self.assign_all` call) followed by `assignAll` -/
theorem set_param_rule_tail_eq (d : Defn) (s : St) (r : RuleArgs) :
    setRule d s r =
      match set_param_rule_tail r.isIndependent r.isConstant r.value r.lower r.init r.upper with
      | .error e => .error e
      | .ok (v, lo, up, c, ind) => assignAll d s r.edges v lo up c (indepOf d ind) := by
  unfold setRule set_param_rule_tail pyAssert
  simp only []
  cases r.isConstant
  · cases r.init with
    | none => rfl
    | some i => cases truthy r.value <;> rfl
  · cases truthy r.init || truthy r.lower || truthy r.upper <;> rfl

/-- **gen_assign_all_scope**: the translated body of the per-scope loop of `_LeafDefn.assign_all` (mean current value
unless a value is given; ConstVal; current bounds overridden by the given ones; `ValueError` when upper < lower;
clamping) builds exactly the setting `mkSetting` builds and raises exactly when it does, for `const` given or left at
`const_by_default` -/
theorem gen_assign_all_scope (d : Defn) (s : Rules.St) (scope : List Nat) (value lower upper : PV) (c : Option Bool) :
    assign_all_scope d s scope value lower upper c =
      (mkSetting d s scope value lower upper (c.getD false)).map lift := by
  cases c with
  | none => rw [assign_all_scope_default]; exact assign_all_scope_eq d s scope value lower upper false
  | some b => exact assign_all_scope_eq d s scope value lower upper b

/-! ### the controller, run through the translated methods -/
open CogentModel.Ctl
variable {V : Type} [Inhabited V] [DecidableEq V]

/-- GENERATED `ParameterController._updateIntermediateValues` = hand `updateIntermediate` -/
theorem updateIntermediateValues_eq (g : Graph V) (s : St V) :
    updateIntermediateValues_ g s = .ok (updateIntermediate g s) := by
  unfold updateIntermediateValues_ updateIntermediate
  by_cases hs : s.suspended = true
  · simp [hs, pure, Except.pure]
  · simp only [hs]
    rw [forIn_of_step (uStep g)]
    · simp [pure, Except.pure, bind, Except.bind, foldl_uStep, Prim.defns, Prim.changedClear]
    · intro k st
      unfold uStep
      by_cases hc : st.changed.contains k = true
      · simp only [Prim.changedContains, hc, if_true]
        rw [forIn_of_step (fun c s => Prim.changedAdd s c)]
        · simp [pure, Except.pure, bind, Except.bind, foldl_changedAdd, Prim.defnUpdate, Prim.defnClients]
        · intro c st'; rfl
      · simp only [Prim.changedContains, hc]; rfl

/-- GENERATED `update_intermediate_values(changed)` -/
theorem update_intermediate_values_eq (g : Graph V) (s : St V) (ks : List Nat) :
    update_intermediate_values g s (some ks) =
      .ok (updateIntermediate g { s with changed := s.changed ++ ks }) := by
  unfold update_intermediate_values
  simp [updateIntermediateValues_eq, pure, Except.pure, bind, Except.bind, Prim.changedUpdate]

theorem update_intermediate_values_all (g : Graph V) (s : St V) :
    update_intermediate_values g s none =
      .ok (updateIntermediate g { s with changed := s.changed ++ List.range g.length }) := by
  unfold update_intermediate_values
  simp [updateIntermediateValues_eq, pure, Except.pure, bind, Except.bind, Prim.changedUpdate, Prim.defns]

/-- GENERATED `ParameterController.assign_all` = the hand model's `assign` step for a leaf definition, and raises
ValueError leaving the state alone for a derived one -/
theorem assign_all_eq (g : Graph V) (s : St V) (k : Nat) (v : V) :
    assign_all g s k v =
      if Prim.isLeaf g k then .ok (step g s (.assign k v)) else .error "ValueError" := by
  unfold assign_all
  cases hl : Prim.isLeaf g k <;>
    simp [update_intermediate_values_eq, step, pure, Except.pure, bind, Except.bind, Prim.defnAssign, throw,
      throwThe, MonadExceptOf.throw]

/-- GENERATED `updates_postponed`: the statements before the `yield` -/
theorem updates_postponed_enter_eq (g : Graph V) (s : St V) :
    updates_postponed_enter g s = .ok ({ s with suspended := true }, s.suspended) := by
  unfold updates_postponed_enter
  simp [pure, Except.pure, Prim.setSuspended]

/-- GENERATED `updates_postponed`: the `finally:` clause, given the `old` flag its frame holds -/
theorem updates_postponed_exit_eq (g : Graph V) (s : St V) (old : Bool) :
    updates_postponed_exit g s old = .ok (updateIntermediate g { s with suspended := old }) := by
  unfold updates_postponed_exit
  simp [updateIntermediateValues_eq, pure, Except.pure, bind, Except.bind, Prim.setSuspended]

theorem updates_postponed_xexit_eq (g : Graph V) (s : St V) (old : Bool) :
    updates_postponed_xexit g s old = .ok (updateIntermediate g { s with suspended := old }) := by
  unfold updates_postponed_xexit
  simp [updateIntermediateValues_eq, pure, Except.pure, bind, Except.bind, Prim.setSuspended]

/-- **update_from_calculator_eq**: the translated `ParameterController.update_from_calculator` (the hand-back at the
end of `optimise`: every leaf definition takes the calculator's value and is marked, then one propagation) is the hand
model `fromCalc`; in particular EVERY leaf is marked, user parameter or not -/
theorem update_from_calculator_eq (g : Graph V) (s : St V) (cv : Nat → V) :
    update_from_calculator g s cv = .ok (fromCalc g s cv) := by
  unfold update_from_calculator fromCalc
  simp only []
  rw [forIn_of_step (fcStep g cv)]
  · simp only [pure, Except.pure, bind, Except.bind, foldl_fcStep, Prim.defns, update_intermediate_values_eq,
      List.nil_append]
  · intro k acc
    unfold fcStep
    by_cases hl : Prim.isLeaf g k = true <;> simp [hl, pure, Except.pure]

/-- **gen_step_is_model**: each translated method is the hand model's transition: `assign_all` on a leaf is
`Op.assign` (and raises ValueError before touching anything on a derived definition), the three parts of the
`updates_postponed` generator are `Op.enter` / `Op.exit` / `Op.xexit` -/
theorem gen_step_is_model (g : Ctl.Graph V) (s : Ctl.St V) :
    (∀ k v, genStep g s (.assign k v) =
      if Prim.isLeaf g k then .ok (Ctl.step g s (.assign k v)) else .error "ValueError") ∧
    genStep g s .enter = .ok (Ctl.step g s .enter) ∧
    genStep g s .exit = .ok (Ctl.step g s .exit) ∧
    genStep g s .xexit = .ok (Ctl.step g s .xexit) := by
  refine ⟨fun k v => assign_all_eq g s k v, ?_, ?_, ?_⟩
  · simp [genStep, updates_postponed_enter_eq, Except.map, Ctl.step]
  · unfold genStep Ctl.step
    cases s.stack with
    | nil => rfl
    | cons old rest => exact updates_postponed_exit_eq g _ old
  · unfold genStep Ctl.step
    cases s.stack with
    | nil => rfl
    | cons old rest => exact updates_postponed_xexit_eq g _ old

/-- **make_calculator_fresh**: whatever the state (blocks open, updates suspended, any dirty set), after
`make_calculator()` has run `update()` over every definition, EVERY definition holds its rule applied to the current
settings: the calculator is always built from freshly computed values, and reading lnL after it gives the
recomputed value (the harness' oracle O0 relies on exactly this) -/
theorem make_calculator_fresh (g : Ctl.Graph V) (hwf : Ctl.WF g) (s : Ctl.St V) :
    ∀ k, k < g.length → LocalOK g (refreshAll g s) k := by
  intro k hk
  have hall := updateLoop_range g hwf { s with changed := List.range g.length }
    (fun _ hj hjc => absurd (List.mem_range.2 hj) hjc) k hk
  have hset := (updateLoop_fields g (List.range g.length) { s with changed := List.range g.length }).1
  exact hall.congr rfl (fun _ _ => rfl) (congrFun hset k).symm

theorem genStep_inv (g : Ctl.Graph V) (hwf : Ctl.WF g) (s : Ctl.St V) (o : GOp V) (hI : Ctl.Inv g s) :
    match genStep g s o with
    | .ok s' => Ctl.Inv g s'
    | .error _ => True := by
  obtain ⟨h1, h2, h3, h4⟩ := gen_step_is_model g s
  cases o with
  | assign k v =>
    rw [h1]
    by_cases hl : Prim.isLeaf g k = true
    · simp only [hl, if_true]; exact step_inv g hwf s (.assign k v) hI
    · simp only [hl]; trivial
  | enter => rw [h2]; exact step_inv g hwf s .enter hI
  | exit => rw [h3]; exact step_inv g hwf s .exit hI
  | xexit => rw [h4]; exact step_inv g hwf s .xexit hI
  | updateAll =>
    show match update_intermediate_values g s none with | .ok s' => Ctl.Inv g s' | .error _ => True
    rw [update_intermediate_values_all]
    exact Inv.propagate g hwf _ (hI.j.mark _ _ fun _ _ => rfl) hI.stack
  | makeCalc =>
    show Ctl.Inv g (refreshAll g s)
    exact ⟨fun j hj _ => make_calculator_fresh g hwf s j hj, hI.stack, hI.clean⟩
  | fromCalc cv =>
    show match update_from_calculator g s cv with | .ok s' => Ctl.Inv g s' | .error _ => True
    rw [update_from_calculator_eq]
    refine Inv.propagate g hwf _ (hI.j.mark _ _ fun j hj => ?_) hI.stack
    -- an unmarked definition below `g.length` is not a leaf, so its setting is kept
    by_cases hjn : j < g.length
    · have : ¬ Prim.isLeaf g j = true := fun hl => hj (List.mem_filter.2 ⟨List.mem_range.2 hjn, hl⟩)
      simp [this]
    · simp [hjn]

/-- **gen_controller_consistent**: after ANY history of operations executed by the TRANSLATED
`ParameterController.assign_all` / `updates_postponed` (entered, left normally, left by an exception, nested) /
`update_intermediate_values()` / `make_calculator()` / `update_from_calculator(calc)` (any calculator values) —
including `assign_all` calls that raise because the definition is derived — whenever no block is open nothing is
suspended, nothing is marked dirty, every definition holds its rule applied to the current settings, and all values
equal those of a NEWLY BUILT controller given the same settings -/
theorem gen_controller_consistent (g : Ctl.Graph V) (hwf : Ctl.WF g) (setting : Nat → V) (hist : List (GOp V)) :
    Ctl.Inv g (genRun g (Ctl.init g setting) hist) ∧
    ((genRun g (Ctl.init g setting) hist).stack = [] →
      (genRun g (Ctl.init g setting) hist).suspended = false ∧
      (genRun g (Ctl.init g setting) hist).changed = [] ∧
      (∀ k, k < g.length → LocalOK g (genRun g (Ctl.init g setting) hist) k) ∧
      (∀ k, k < g.length → (genRun g (Ctl.init g setting) hist).values k
          = (Ctl.init g (genRun g (Ctl.init g setting) hist).setting).values k)) := by
  have hI : Ctl.Inv g (genRun g (Ctl.init g setting) hist) := by
    have h0 := init_inv g hwf setting
    generalize Ctl.init g setting = s0 at h0
    induction hist generalizing s0 with
    | nil => exact h0
    | cons o os ih =>
      simp only [genRun]
      have := genStep_inv g hwf s0 o h0
      cases hs : genStep g s0 o with
      | ok s1 => rw [hs] at this; exact ih s1 this
      | error e => exact ih s0 h0
  refine ⟨hI, fun hst => ?_⟩
  obtain ⟨hsusp, hclean, hloc⟩ := hI.idle hst
  exact ⟨hsusp, hclean, hloc, values_eq_init g hwf _ hloc⟩

/-! ### non-vacuity -/

/-- the exception class a call raised -/
def errOf {α : Type} : Except String α → Option String
  | .error e => some e
  | .ok _ => none

/-- 3 edges sharing kappa-like defaults; edge 1 re-bounded to [2,5], edge 2 made constant -/
def exGD : Defn := { nEdges := 3, dLo := 0, dVal := 1, dHi := 10, indepDefault := false }
def exGS : Rules.St :=
  runRules exGD (Rules.fresh exGD)
    [ { edges := some [1], isIndependent := none, isConstant := false, value := none, init := some 3, lower := some 2, upper := some 5 },
      { edges := some [2], isIndependent := none, isConstant := true, value := some 4, init := none, lower := none, upper := none } ]

example : (get_current_bounds exGD exGS [0, 1, 2]).toOption = some (some 0, some 10) := by decide +kernel
example : (get_current_bounds exGD exGS [1, 2]).toOption = some (some 2, some 5) := by decide +kernel
example : (get_current_bounds exGD exGS [2]).toOption = some (some 0, some 10) := by decide +kernel  -- only constants: class defaults
example : (get_mean_current_value exGD exGS [0, 1, 2]).toOption = some (some (8 / 3)) := by decide +kernel
example : (assign_all_scope exGD exGS [1, 2] none (some 4) none none).toOption = some (.var (some 4) (some 4) (some 5)) := by
  decide +kernel  -- mean 7/2 raised to the new lower bound
example : errOf (assign_all_scope exGD exGS [1, 2] none (some 8) none none) = some "ValueError" := by decide +kernel
example : (set_param_rule_tail none false (some 0) none (some 2) none).toOption = some (some 2, none, none, false, none) := by
  decide +kernel  -- value=0.0 is falsy: the assert passes and init wins
example : errOf (set_param_rule_tail none true none none (some 2) none) = some "AssertionError" := by decide +kernel

/-- leaves 0, 1; 2 = f(0,1); 3 = f(2,0): a block left by an exception, an assignment to the DERIVED definition 2
(raises, nothing changes), update_intermediate_values() inside a block, then the block ends -/
def exGG : Ctl.Graph Int :=
  [.leaf, .leaf, .derived [0, 1] (fun l => l.foldl (· + ·) 0), .derived [2, 0] (fun l => l.foldl (· * ·) 1)]
def exGHist : List (GOp Int) :=
  [.enter, .assign 0 5, .xexit, .assign 2 9, .enter, .assign 1 7, .updateAll, .exit]
/-- inside a block: an assignment, make_calculator() (values refreshed although suspended), the hand-back of a
calculator at (4, 2) (nothing propagates yet), then the block ends -/
def exGHist2 : List (GOp Int) := [.enter, .assign 0 3, .makeCalc, .fromCalc (fun k => if k = 0 then 4 else 2), .exit]
example :
    let s := genRun exGG (Ctl.init exGG (fun _ => 1)) (exGHist2.take 3)
    s.suspended = true ∧ (List.range 4).map s.values = [3, 1, 4, 12] ∧ s.changed = [0] := by decide +kernel
example :
    let s := genRun exGG (Ctl.init exGG (fun _ => 1)) (exGHist2.take 4)
    (List.range 4).map s.values = [3, 1, 4, 12] ∧ (List.range 4).map s.setting = [4, 2, 1, 1] ∧ s.changed = [0, 0, 1] := by
  decide +kernel
example :
    let s := genRun exGG (Ctl.init exGG (fun _ => 1)) exGHist2
    s.stack = [] ∧ (List.range 4).map s.values = [4, 2, 6, 24] ∧ s.changed = [] := by decide +kernel
example : errOf (genStep exGG (genRun exGG (Ctl.init exGG (fun _ => 1)) (exGHist.take 3)) (.assign 2 9)) = some "ValueError" := by
  decide +kernel
example :
    let s := genRun exGG (Ctl.init exGG (fun _ => 1)) exGHist
    s.stack = [] ∧ (List.range 4).map s.values = [5, 7, 12, 60] ∧ s.changed = [] := by decide +kernel
example :
    let s := genRun exGG (Ctl.init exGG (fun _ => 1)) (exGHist.take 7)
    s.stack = [false] ∧ (List.range 4).map s.values = [5, 1, 6, 30] ∧ s.changed = [1, 0, 1, 2, 3] := by decide +kernel

end CogentModel.C07
