/-
  C08: `shared_gaps` / `minus_gaps` of IndelMap (the "subtracting gaps" clause), on top of the closed forms of
  `coords_intersect` / `coords_minus_coords` proved in Props/C08Loops.lean for the code translated from the python source.
  The gap runs of a well-formed map in alignment coordinates are proper segments sorted by start (`gapAlignCoords_ok`),
  which is what the `break` of the two loops needs.
  `Proofs/IndelMapGapSpans` has `sharedGaps_eq`, and is also where functional induction generates the matcher equations
  of `startsFrom`: two modules that generate them independently cannot be imported together.
-/
import CogentModel.Props.C08Loops
import CogentModel.Proofs.IndelMapInv
import CogentModel.Proofs.IndelMapGapSpans
namespace CogentModel.C08
open CogentModel CogentModel.FMap CogentModel.IndelMap

theorem gapCoords_lower (lb : Int) : ∀ (ps cs : List Int) (c : Int), (∀ p ∈ ps, lb ≤ p) → (c :: cs).Pairwise (· < ·) →
    ∀ q ∈ (startsFrom c ps cs).zip (gapEnds ps cs), lb + c ≤ q.1 := by
  intro ps cs c
  fun_induction startsFrom c ps cs with
  | case1 c p ps c' cs' ih =>
    intro hps hc
    have hc' := List.pairwise_cons.mp hc
    have hcc := hc'.1 c' List.mem_cons_self
    have hp := (List.forall_mem_cons.mp hps)
    exact List.forall_mem_cons.mpr ⟨Int.add_le_add_right hp.1 c, fun q hq =>
      Int.le_trans (Int.add_le_add_left (Int.le_of_lt hcc) lb) (ih hp.2 hc'.2 q hq)⟩
  | case2 => intro _ _ q hq; simp at hq

/-- the gap runs of a well-formed map in alignment coordinates are proper segments, sorted by start -/
theorem gapCoords_proper_sorted : ∀ (ps cs : List Int) (prev : Int), ps.Pairwise (· < ·) → (prev :: cs).Pairwise (· < ·) →
    (∀ q ∈ (startsFrom prev ps cs).zip (gapEnds ps cs), q.1 < q.2) ∧
    ((startsFrom prev ps cs).zip (gapEnds ps cs)).Pairwise (fun p q => p.1 ≤ q.1) := by
  intro ps cs prev
  fun_induction startsFrom prev ps cs with
  | case1 prev p ps c cs' ih =>
    intro hp hc
    have hp' := List.pairwise_cons.mp hp
    have hc' := List.pairwise_cons.mp hc
    obtain ⟨i1, i2⟩ := ih hp'.2 hc'.2
    have hpc := hc'.1 c List.mem_cons_self
    -- the later runs start at or after `p + c`, where this one ends
    have hlow := gapCoords_lower p ps cs' c (fun p' hp'' => Int.le_of_lt (hp'.1 p' hp'')) hc'.2
    exact ⟨List.forall_mem_cons.mpr ⟨Int.add_lt_add_left hpc p, i1⟩,
      List.pairwise_cons.mpr ⟨fun q hq => Int.le_trans (Int.add_le_add_left (Int.le_of_lt hpc) p) (hlow q hq), i2⟩⟩
  | case2 => intro _ _; simp

theorem gapAlignCoords_ok (m : IMap) (h : WF m) :
    (∀ q ∈ getGapAlignCoordinates m, q.1 < q.2) ∧ (getGapAlignCoordinates m).Pairwise (fun p q => p.1 ≤ q.1) :=
  gapCoords_proper_sorted m.gapPos m.cumLens 0 h.pos_sorted h.cum_sorted

theorem le_lastOr : ∀ (cs : List Int) (c : Int), (c :: cs).Pairwise (· < ·) → c ≤ lastOr c cs :=
  fun cs c h => lastD_cons c cs ▸ pairwise_le_lastD (c :: cs) h c List.mem_cons_self

theorem gapCoords_upper (pl : Int) : ∀ (ps cs : List Int) (prev : Int), (∀ p ∈ ps, p ≤ pl) → (prev :: cs).Pairwise (· < ·) →
    ∀ q ∈ (startsFrom prev ps cs).zip (gapEnds ps cs), q.2 ≤ pl + lastOr prev cs := by
  intro ps cs prev
  fun_induction startsFrom prev ps cs with
  | case1 prev p ps c cs' ih =>
    intro hps hc
    have hc' := (List.pairwise_cons.mp hc).2
    have hp := List.forall_mem_cons.mp hps
    exact List.forall_mem_cons.mpr ⟨Int.add_le_add hp.1 (le_lastOr cs' c hc'), ih hp.2 hc'⟩
  | case2 => intro _ _ q hq; simp at hq

/-- every gap run of a well-formed map ends inside the alignment -/
theorem gapAlignCoords_le_len (m : IMap) (h : WF m) : ∀ q ∈ getGapAlignCoordinates m, q.2 ≤ len m := by
  rw [len_eq_lastOr m h]
  exact gapCoords_upper m.parentLength m.gapPos m.cumLens 0 (fun p hp => (h.pos_range p hp).2) h.cum_sorted

/-- `shared_gaps(other)`: whenever it returns, a column lies in a returned interval iff it lies in a gap run of BOTH maps
(gap runs in alignment coordinates, `get_gap_align_coordinates`) -/
theorem shared_gaps_cols (a b : IMap) (ha : WF a) (hb : WF b) (r : List (Int × Int)) (h : sharedGaps a b = .ok r) :
    ∀ x, Cov r x ↔ (Cov (getGapAlignCoordinates a) x ∧ Cov (getGapAlignCoordinates b) x) := by
  obtain ⟨pa, _⟩ := gapAlignCoords_ok a ha
  obtain ⟨pb, sb⟩ := gapAlignCoords_ok b hb
  have hl : len a = len b := Classical.byContradiction fun hl => by
    rw [sharedGaps, if_pos hl] at h; cases h
  obtain ⟨r', hr', hc⟩ := coordsIntersect_model_spec _ _ pa pb sb
  rw [sharedGaps_eq a b hl fun q hq => hl ▸ gapAlignCoords_le_len b hb q hq, hr'] at h
  cases h
  exact hc

example : sharedGaps ⟨[1, 3], [2, 3], 4⟩ ⟨[0, 3], [1, 3], 4⟩ = .ok [(5, 6)] := by decide +kernel

/-- `shared_gaps(other)` between well-formed maps of the same alignment length always returns (neither assertion fires) -/
theorem shared_gaps_total (a b : IMap) (ha : WF a) (hb : WF b) (hl : len a = len b) : ∃ r, sharedGaps a b = .ok r := by
  obtain ⟨pa, _⟩ := gapAlignCoords_ok a ha
  obtain ⟨pb, sb⟩ := gapAlignCoords_ok b hb
  rw [sharedGaps_eq a b hl fun q hq => hl ▸ gapAlignCoords_le_len b hb q hq]
  exact (coordsIntersect_model_spec _ _ pa pb sb).imp fun _ h => h.1

example : WF ⟨[1, 3], [2, 3], 4⟩ ∧ WF ⟨[0, 3], [1, 3], 4⟩ ∧ len ⟨[1, 3], [2, 3], 4⟩ = len ⟨[0, 3], [1, 3], 4⟩ := by decide +kernel

/-- `minus_gaps(other)`: whenever it returns, the new gap list is the closed form `minusClosed` of the two lists of gap runs
(every run of `self` shortened from its end by the number of columns it shares with the runs of `other`, dropped when
nothing is left), re-expressed as gap position (`get_seq_index` of the run's start) and length -/
theorem minus_gaps_closed (a b : IMap) (ha : WF a) (hb : WF b) (m : IMap) (h : minusGaps a b = .ok m)
    (hne : getGapAlignCoordinates b ≠ []) :
    mkLengths ((minusClosed (getGapAlignCoordinates a) (getGapAlignCoordinates b)).map fun u => seqIndexNN a u.1)
      ((minusClosed (getGapAlignCoordinates a) (getGapAlignCoordinates b)).map fun u => u.2 - u.1) a.parentLength = .ok m := by
  obtain ⟨pa, _⟩ := gapAlignCoords_ok a ha
  obtain ⟨pb, sb⟩ := gapAlignCoords_ok b hb
  simp only [minusGaps] at h
  by_cases hl : len a ≠ len b
  · rw [if_pos hl] at h; cases h
  · rw [if_neg hl] at h
    cases hlast : (getGapAlignCoordinates b).getLast? with
    | none => exact absurd (List.getLast?_eq_none_iff.mp hlast) hne
    | some l =>
      simp only [hlast] at h
      by_cases hgt : l.2 > len a
      · rw [if_pos hgt] at h; cases h
      · rw [if_neg hgt] at h
        cases hm : coordsMinusCoords (getGapAlignCoordinates a) (getGapAlignCoordinates b) with
        | error e => simp only [hm] at h; cases h
        | ok uniq =>
          simp only [hm] at h
          rw [← coordsMinusCoords_model_spec _ _ uniq pa pb sb hm]
          exact h

example : minusGaps ⟨[1, 3], [2, 3], 4⟩ ⟨[0, 3], [1, 3], 4⟩ = .ok ⟨[1], [2], 4⟩ := by decide +kernel
end CogentModel.C08
