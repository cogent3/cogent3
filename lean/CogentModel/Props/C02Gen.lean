import CogentModel.Proofs.PruneGen
/-! # C02 — the TRANSLATED `_indexed` equals the hand model

`Gen/C02Indexed.lean` is regenerated on every run from the current `evolve/likelihood_tree.py` by
`translator/c02_indexed2lean.py` (Python dict → association list, pre-allocated numpy index array → `List.set`); a semantic
edit of `_indexed` changes the generated definition and this proof stops checking.  The hand model `Prune.indexed`
(position in `unique` via `idxOf`, index built by appending) is the one `compress_sum`, `full_length_expand`,
`compressed_prune_eq`, `gap_column_*` are proved about. -/
namespace CogentModel.C02G
open CogentModel.Prune CogentModel.PyAccum CogentModel.Gen.C02Indexed

/-- **For every list of keys** (any type with decidable equality — column tuples, motifs): what the real `_indexed`
returns (translated from the source) is `(unique, counts, index)` of the hand model `Prune.indexed`. -/
theorem gen_indexed_eq_model {κ : Type} [DecidableEq κ] (values : List κ) :
    indexedGen values = ((indexed values).uniq, (indexed values).counts, (indexed values).index) := by
  have h0 : Rel values.length ({ index := List.replicate values.length 0, unique := [], counts := [], seen := [] } : St κ)
      { uniq := [], counts := [], index := [] } := ⟨rfl, rfl, rfl, fun _ => rfl⟩
  obtain ⟨hu, hc, hi, _⟩ := loop_rel values _ _ h0
  simp only [indexedGen, indexed, List.length_nil] at hu hc hi ⊢
  rw [hu, hc, hi, List.replicate_zero, List.append_nil]

example : indexedGen ["a", "b", "c", "a", "a"] = (["a", "b", "c"], [3, 1, 1], [0, 1, 2, 0, 0]) := by decide +kernel

end CogentModel.C02G
