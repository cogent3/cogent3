import CogentModel.Model.AtomicWrite
import CogentModel.Model.Composable
import CogentModel.Proofs.AtomicFaultStates
import CogentModel.Proofs.AtomicTmpdirRoute
import CogentModel.Proofs.ApplyToLemmas
import CogentModel.Model.StoreWrite
import CogentModel.Proofs.StoreWriteLemmas
import CogentModel.Model.AtomicProg
import CogentModel.Proofs.AtomicProgLemmas
import CogentModel.Gen.C19Program
import CogentModel.Model.AtomicSite
import CogentModel.Proofs.AtomicSiteLemmas
import CogentModel.Gen.C19Writers
/-! # C19 — file writes are all-or-nothing; interrupted runs resume to the same result

`j.cfg` (`Job.cfg`) is THE model of `atomic_write` as it stands in /repo: one-call commit
(`src.replace(dest)`), cleanup in a `finally`, guarded `__enter__`, every writer inside a with-block.
The harness checks on every run that the real system-call traces, crash states and fault traces are
those of `j.cfg`.

`crashState c fs k`: the process died just before call `k` of the atomic_write program;
`faultState c fs k`: call `k` raised and the code's handler ran.  `WF c fs`: the destination's
directory exists, the destination is not a directory, and the name `mkdtemp` returns is fresh. -/
namespace CogentModel.C19
open CogentModel.AtomicWrite CogentModel.Composable

def exJob : Job := { dir := [0], name := 1, t := 2, u := 3, chunks := [[5], [6, 7]], closeInBody := false, zipMember := none }
def exCfg : Cfg := exJob.cfg
def exCfgCoded : Cfg :=
  { commit := .unlinkRename, guarded := false, withBlock := true, bodyUnlink := false, closeInBody := false,
    dir := [0], name := 1, t := 2, u := 3, chunks := [[5]], zipMember := none }
def exFS : FS := upd (upd (fun _ => none) [0] (some .dir)) [0, 1] (some (.file [9]))
def exFSzip : FS := upd (upd (fun _ => none) [0] (some .dir)) [0, 1] (some (.archive [(4, [1])] false))

example : WF exCfg exFS :=
  ⟨by decide, by decide, fun p hp => by
      have a : p ≠ [0, 1] := by intro e; subst e; revert hp; decide
      have b : p ≠ [0] := by intro e; subst e; revert hp; decide
      simp [exFS, upd, a, b], by decide⟩

/-- A complete run ends with exactly the new content at the destination, no temporary path left,
nothing else touched, and no call failing. -/
theorem write_completes (j : Job) (fs : FS) (h : WF j.cfg fs) (hz : j.zipMember = none) :
    crashState j.cfg fs (program j.cfg).length j.cfg.dest = some (.file j.cfg.newData) ∧
    (∀ p, under j.cfg.tmpdir p = true → crashState j.cfg fs (program j.cfg).length p = none) ∧
    (∀ p, p ≠ j.cfg.dest → under j.cfg.tmpdir p = false → crashState j.cfg fs (program j.cfg).length p = fs p) ∧
    (exec fs (program j.cfg)).2 = none := by
  have hfull := exec_program_replace j.cfg fs h hz rfl
  refine ⟨crash_replace_after _ fs h hz rfl _ (by rw [program_length_replace _ hz rfl]; omega), fun p hp => ?_,
    fun p hp hu => crash_others_unchanged _ fs _ p hp hu, by rw [hfull]⟩
  rw [crashState, List.take_length, hfull]
  exact if_pos hp

example : crashState exCfg exFS 7 [0, 1] = some (.file [5, 6, 7]) ∧ crashState exCfg exFS 7 [0, 2] = none := by decide +kernel

/-- **All-or-nothing at every crash point.** Whatever the initial file system (destination present
with any content, or absent), whatever the chunks, and wherever the process dies: up to and
including the point just before the rename the destination holds the old content (or is still
absent); from the rename on it holds the complete new content; nothing outside the temp dir is
ever touched. -/
theorem atomic_all_prefixes (j : Job) (fs : FS) (h : WF j.cfg fs) (hz : j.zipMember = none) (k : Nat) :
    (crashState j.cfg fs k j.cfg.dest = fs j.cfg.dest ∨ crashState j.cfg fs k j.cfg.dest = some (.file j.cfg.newData)) ∧
    (k ≤ renameIdx j.cfg → crashState j.cfg fs k j.cfg.dest = fs j.cfg.dest) ∧
    (renameIdx j.cfg < k → crashState j.cfg fs k j.cfg.dest = some (.file j.cfg.newData)) ∧
    (∀ p, p ≠ j.cfg.dest → under j.cfg.tmpdir p = false → crashState j.cfg fs k p = fs p) := by
  have hz' : j.cfg.zipMember = none := hz
  -- `renameIdx j.cfg` unfolds to `(pre j.cfg).length + 0` for the one-call commit
  have hold : k ≤ (pre j.cfg).length → _ := fun hk => crash_before_commit j.cfg fs h.hne k hk
  have hnew : (pre j.cfg).length < k → _ := fun hk => crash_replace_after j.cfg fs h hz' rfl k hk
  exact ⟨(Nat.lt_or_ge (pre j.cfg).length k).elim (Or.inr ∘ hnew) (Or.inl ∘ hold), hold, hnew,
    fun p hp hu => crash_others_unchanged _ fs k p hp hu⟩

example : crashState exCfg exFS 5 [0, 1] = some (.file [9]) ∧ crashState exCfg exFS 6 [0, 1] = some (.file [5, 6, 7]) := by decide +kernel

/-- **Handled failures.** Whichever call before the final `rmtree` raises (mkdtemp, the open in
`__enter__`, any data write, the close, the rename), after the code's handler the destination keeps
its previous content (or absence) and no path under the temp dir remains. -/
theorem fault_leaves_old_and_no_temp (j : Job) (fs : FS) (h : WF j.cfg fs) (hz : j.zipMember = none)
    (k : Nat) (hk : k + 1 < (program j.cfg).length) :
    faultState j.cfg fs k j.cfg.dest = fs j.cfg.dest ∧
    ∀ p, under j.cfg.tmpdir p = true → faultState j.cfg fs k p = none :=
  fault_guarded_replace j.cfg fs h hz rfl rfl rfl rfl k hk

example : faultState exCfg exFS 5 [0, 2] = none ∧ faultState exCfg exFS 5 [0, 1] = some (.file [9]) ∧
    faultState exCfg exFS 1 [0, 2] = none := by decide +kernel

/-- **zip-member target** (`in_zip`, append in place — unchanged by the fixes): outside the window
between appending the member data and writing the new central directory, the archive's readable
members are the old ones, plus the new member after the append… -/
theorem zip_member_prefixes_partial (j : Job) (fs : FS) (h : WF j.cfg fs) (m : Nat) (hz : j.zipMember = some m)
    (ms : List (Nat × Data)) (hold : fs j.cfg.dest = some (.archive ms false)) (k : Nat)
    (hk : k ≠ (pre j.cfg).length + 1) :
    readable (crashState j.cfg fs k j.cfg.dest) = some ms ∨
    readable (crashState j.cfg fs k j.cfg.dest) = some (ms ++ [(m, j.cfg.newData)]) := by
  by_cases hk' : k ≤ (pre j.cfg).length
  · left; rw [crash_before_commit _ fs h.hne k hk', hold]; rfl
  · right; exact zip_after _ fs h m hz ms hold k (by omega)

/- FULL STATEMENT (not proved): `zip_member_prefixes_partial` without `hk`.  False, see
   `zip_member_counter`: `_close_rename_zip` appends into the live archive. -/

/-- …and inside that window the archive is unreadable: every old member is lost with it. -/
theorem zip_member_counter (j : Job) (fs : FS) (h : WF j.cfg fs) (m : Nat) (hz : j.zipMember = some m)
    (ms : List (Nat × Data)) (hold : fs j.cfg.dest = some (.archive ms false)) :
    readable (crashState j.cfg fs ((pre j.cfg).length + 1) j.cfg.dest) = none :=
  zip_torn_window _ fs h m hz ms hold

example : readable (crashState { exJob with zipMember := some 8 }.cfg exFSzip 7 [0, 1])
    = some [(4, [1]), (8, [5, 6, 7])] ∧
    readable (crashState { exJob with zipMember := some 8 }.cfg exFSzip 6 [0, 1]) = none := by decide +kernel

/-- **Resume**: interrupt an `apply_to` run after any number `j` of written results (any
completion order), then run it again completely (again any completion order): every selected
input ends with exactly one record, equal to the app's result on that input alone — the same
store an uninterrupted run produces (`C14.apply_any_schedule`) — and an input whose completed
record was written before the interruption is not selected again. -/
theorem resume_same_store (idOf : Nat → Id) (app : Nat → Val) (s : Store) (inputs : List Nat)
    (sel : List (Id × Nat)) (hsel : select idOf s inputs [] = some sel)
    (results : List (Nat × Val)) (hperm : results.Perm (sel.map (wrapped app))) (j : Nat)
    (sel' : List (Id × Nat)) (hsel' : select idOf (writeAll idOf s (results.take j)) inputs [] = some sel')
    (results' : List (Nat × Val)) (hperm' : results'.Perm (sel'.map (wrapped app))) :
    (∀ p ∈ sel, entries (writeAll idOf (writeAll idOf s (results.take j)) results') p.1 = [(p.1, app p.2)]) ∧
    (∀ p ∈ sel, (p.2, app p.2) ∈ results.take j → (app p.2).isOk = true → ∀ q ∈ sel', q.1 ≠ p.1) :=
  resume_same_store' idOf app s inputs sel hsel results hperm j sel' hsel' results' hperm'

/-- the second run never fails with "non-unique identifier" when the first selection succeeded -/
theorem resume_selects (idOf : Nat → Id) (s s' : Store) (inputs : List Nat) (sel : List (Id × Nat))
    (hsel : select idOf s inputs [] = some sel) (hmono : ∀ i, hasDone s i = true → hasDone s' i = true) :
    ∃ sel', select idOf s' inputs [] = some sel' :=
  select_mono idOf s s' inputs sel hsel hmono

example : applyTo (fun m => m % 10) (fun m => .ok ⟨1, m, some m⟩) [] [11, 22, 33] [2, 0, 1]
    = some [(3, .ok ⟨1, 33, some 33⟩), (1, .ok ⟨1, 11, some 11⟩), (2, .ok ⟨1, 22, some 22⟩)] := by decide +kernel

-- `resume_same_store` with all hypotheses instantiated: three inputs, the second fails; results arrive as 33, 22, 11;
-- killed after two of them; the re-run selects 11 and 22 again, not 33
def exApp : Nat → Val := fun m => if m = 22 then .nc ⟨.error, 2, .exc 1, some 22⟩ else .ok ⟨1, m, some m⟩
example := resume_same_store (fun m => m % 10) exApp [] [11, 22, 33] [(1, 11), (2, 22), (3, 33)] (by decide)
    [(33, exApp 33), (22, exApp 22), (11, exApp 11)] (by decide) 2
    [(1, 11), (2, 22)] (by decide) [(22, exApp 22), (11, exApp 11)] (by decide)

/-- What IS guaranteed for `atomic_write(member, in_zip=archive)` when a call raises: no path under the
temp dir remains whichever call before the final `rmtree` it is; if the failing call comes before the append
(mkdtemp, open, any data write, close) the destination — the archive with all its members — is untouched. -/
theorem zip_member_fault (j : Job) (fs : FS) (h : WF j.cfg fs) (m : Nat) (hz : j.zipMember = some m)
    (ms : List (Nat × Data)) (hold : fs j.cfg.dest = some (.archive ms false)) (k : Nat)
    (hk : k ≤ (pre j.cfg).length + 1) :
    (∀ p, under j.cfg.tmpdir p = true → faultState j.cfg fs k p = none) ∧
    (k < (pre j.cfg).length → faultState j.cfg fs k j.cfg.dest = fs j.cfg.dest) := by
  by_cases h1 : k < (pre j.cfg).length
  · have := fault_before_commit j.cfg fs h rfl rfl rfl k h1
    exact ⟨this.2, fun _ => this.1⟩
  · by_cases h2 : k = (pre j.cfg).length
    · subst h2
      exact ⟨(fault_at_zipData j.cfg fs h m rfl hz ms hold).2, fun hh => absurd hh h1⟩
    · have : k = (pre j.cfg).length + 1 := by omega
      subst this
      exact ⟨(fault_at_zipDir j.cfg fs h m rfl hz ms hold).2, fun hh => absurd hh h1⟩

/- FULL STATEMENT (not proved): `faultState … dest = fs dest` for every `k` (as `fault_leaves_old_and_no_temp`
   says for plain targets).  False at the two calls of the append, see `zip_member_fault_counter`. -/

/-- …and what is NOT: an OSError while opening the archive for append is swallowed by `zipfile` itself,
which retries in mode 'w+b' — the write reports success with an archive holding ONLY the new member (all
previous members lost); an OSError while writing the central directory leaves the archive unreadable. -/
theorem zip_member_fault_counter (j : Job) (fs : FS) (h : WF j.cfg fs) (m : Nat) (hz : j.zipMember = some m)
    (ms : List (Nat × Data)) (hold : fs j.cfg.dest = some (.archive ms false)) :
    faultState j.cfg fs (pre j.cfg).length j.cfg.dest = some (.archive [(m, j.cfg.newData)] false) ∧
    readable (faultState j.cfg fs ((pre j.cfg).length + 1) j.cfg.dest) = none :=
  ⟨(fault_at_zipData j.cfg fs h m rfl hz ms hold).1, (fault_at_zipDir j.cfg fs h m rfl hz ms hold).1⟩

example : faultState { exJob with zipMember := some 8 }.cfg exFSzip 5 [0, 1] = some (.archive [(8, [5, 6, 7])] false) ∧
    faultState { exJob with zipMember := some 8 }.cfg exFSzip 3 [0, 1] = some (.archive [(4, [1])] false) ∧
    faultState { exJob with zipMember := some 8 }.cfg exFSzip 6 [0, 2] = none := by decide +kernel

/-- **`atomic_write(path, tmpdir=D)` as it is now** (after 9c9e074c9: only the temp FILE is removed when the
directory is the caller's — `programTmp … .unlinkFile` is THE model of this route): a complete write leaves
exactly the new content at the destination, no temp file, and every other path — in particular everything
else in the caller's directory — untouched. -/
theorem write_completes_tmpdir (j : Job) (fs : FS) (h : WFtmp j.cfg fs) :
    (exec fs (programTmp j.cfg .unlinkFile)).2 = none ∧
    (exec fs (programTmp j.cfg .unlinkFile)).1 j.cfg.dest = some (.file j.cfg.newData) ∧
    (exec fs (programTmp j.cfg .unlinkFile)).1 j.cfg.tmpfile = none ∧
    (∀ q, q ≠ j.cfg.dest → q ≠ j.cfg.tmpfile → (exec fs (programTmp j.cfg .unlinkFile)).1 q = fs q) := by
  rw [exec_programTmp_unlink j.cfg fs h]
  exact ⟨rfl, tmpCommitted_spec j.cfg fs⟩

/-- caller's directory `[0,2]` holding `precious = [0,2,7]` -/
def exFStmp : FS := upd (upd exFS [0, 2] (some .dir)) [0, 2, 7] (some (.file [4, 4]))
example : (exec exFStmp (programTmp exCfg .rmtreeDir)).1 [0, 2, 7] = none ∧
    (exec exFStmp (programTmp exCfg .unlinkFile)).1 [0, 2, 7] = some (.file [4, 4]) ∧
    (exec exFStmp (programTmp exCfg .unlinkFile)).1 [0, 1] = some (.file [5, 6, 7]) := by decide +kernel

open CogentModel.StoreWrite

/-- every prefix of the file-operation sequence of an `apply_to` run is one of the crash points `(j, p)`
(first `j` inputs processed completely, `p` file operations of the next one done) -/
theorem every_prefix_is_a_crash_point (var : Variant) (idOf : Nat → Id) (app : Nat → Val) (s0 : FStore)
    (inputs : List Nat) (k : Nat) :
    ∃ j p, (runOps var idOf app s0 inputs).take k = crashOps var idOf app s0 inputs j p :=
  take_runOps var idOf app s0 inputs k

/-- **The store write as it is now** (`DataStoreDirectory._write` after 8ee96b6d1: md5 file, then record file, each
put in place by one rename through `atomic_write`; `StoreWrite.Variant.atomicMd5First` is THE model): for
every initial store, every app, inputs with distinct identifiers, and EVERY crash point inside or between
record writes, interrupt + complete re-run ends with the same store (record, not-completed record and md5
file of every identifier) as an uninterrupted run.  Left out of the model: `DataStoreDirectory.write` calls
`drop_not_completed` after `_write`, which unlinks a not-completed record of the same identifier and the md5 file
they share; a kill between the record's rename and those unlinks is not among the crash points. -/
theorem resume_same_store_fine (idOf : Nat → Id) (app : Nat → Val) (s0 : FStore) (inputs : List Nat)
    (hn : (inputs.map idOf).Nodup) (j p : Nat) (i : Id) :
    resumed .atomicMd5First idOf app s0 inputs j p i = uninterrupted .atomicMd5First idOf app s0 inputs i :=
  resume_pointwise .atomicMd5First idOf app s0 inputs hn j p (fun c v t _ => cell_resume_atomic c v t) i

/-- …stated over every prefix `k` of the file-operation sequence of the run. -/
theorem resume_same_store_every_prefix (idOf : Nat → Id) (app : Nat → Val) (s0 : FStore) (inputs : List Nat)
    (hn : (inputs.map idOf).Nodup) (k : Nat) (i : Id) :
    let s1 := StoreWrite.exec s0 ((runOps .atomicMd5First idOf app s0 inputs).take k)
    StoreWrite.exec s1 (runOps .atomicMd5First idOf app s1 inputs) i = uninterrupted .atomicMd5First idOf app s0 inputs i := by
  obtain ⟨j, p, e⟩ := take_runOps .atomicMd5First idOf app s0 inputs k
  simp only [e]
  exact resume_same_store_fine idOf app s0 inputs hn j p i

example :
    let idOf : Nat → Id := fun m => m
    let app : Nat → Val := fun m => if m = 8 then .nc ⟨.error, 1, .exc 1, some 8⟩ else .ok ⟨1, m, some m⟩
    let s0 : FStore := fun _ => Cell.none
    resumed .atomicMd5First idOf app s0 [7, 8, 9] 1 1 8 = uninterrupted .atomicMd5First idOf app s0 [7, 8, 9] 8 ∧
    (uninterrupted .atomicMd5First idOf app s0 [7, 8, 9] 8).nc = .full (app 8) ∧
    (StoreWrite.exec s0 (crashOps .atomicMd5First idOf app s0 [7, 8, 9] 1 1) 8).nc = .absent := by decide +kernel

/-! ## the program TRANSLATED from the source (translator/c19_atomic2lean.py → Gen/C19Program.lean)

`Gen.C19Program.code` is rewritten on every run from the AST of util/io.py: the control structure (sequencing, try /
except-reraise, suppress, try / finally, the state tests) around the file-system calls of `atomic_write.__init__`,
`__enter__`, `__exit__` with the class's own method calls inlined.  `AtomicProg.runWith` is Python's with-statement
protocol over that code under one injected fault.  The theorems below connect it — for every job, every chunk
list, every fault position — to the flat `program` / `faultTrace` / handler table that the crash and fault theorems
above are about, so the handler table is not an independent hand-written input. -/
section translated
open CogentModel.AtomicProg

/-- the translated code IS the hand model of the class (any semantic edit of `__init__`, `_make_tmppath`, `__enter__`,
`_get_fileobj`, `_cleanup`, `_close_rename_*`, `__exit__` changes the left-hand side) -/
theorem translated_code_is_model : Gen.C19Program.code = AtomicProg.hand := rfl

/-- the translated write list of `DataStoreDirectory._write` is THE model of the store write (`atomicMd5First`:
md5 first, record last, each by one rename out of a private temp dir), for every result -/
theorem translated_store_write_is_model (v : Val) :
    blockOfWrites v Gen.C19Program.storeWrites = some (block .atomicMd5First v) := by
  cases h : v.isOk <;> simp [Gen.C19Program.storeWrites, blockOfWrites, opsOfWrite, block, h]

/-- **no fault**: the translated code issues exactly the flat program (plain and zip-member targets; every chunk list)
and returns normally -/
theorem translated_run_is_program (j : Job) :
    runWith Gen.C19Program.code j.cfg true none = ⟨program j.cfg, false, none⟩ := by
  rw [translated_code_is_model]; exact runWith_hand_none j.cfg rfl

/-- **the handler table is derived**: whichever call `k` of the program raises, the translated code issues exactly
`faultTrace j.cfg k` — the first `k` calls, the failing one, then the handler-table entry of its phase — and the
exception reaches the caller unless the failing call is the last one (`rmtree(…, ignore_errors=True)`). -/
theorem translated_fault_is_handler_table (j : Job) (hz : j.zipMember = none) (hcb : j.closeInBody = false)
    (k : Nat) (hk : k < (program j.cfg).length) :
    runWith Gen.C19Program.code j.cfg true (some k) =
      ⟨faultTrace j.cfg k, decide (k + 1 < (program j.cfg).length), none⟩ := by
  rw [translated_code_is_model]; exact runWith_hand_fault j.cfg hz rfl rfl rfl rfl hcb k hk

/-- the same for a zip-member target; the failing open of the archive (call `n + 3`) is swallowed by `zipfile`'s own
retry, the failing cleanup (call `n + 5`) by `ignore_errors` -/
theorem translated_fault_is_handler_table_zip (j : Job) (m : Nat) (hz : j.zipMember = some m) (hcb : j.closeInBody = false)
    (k : Nat) (hk : k < (program j.cfg).length) :
    runWith Gen.C19Program.code j.cfg true (some k) =
      ⟨faultTrace j.cfg k, decide (k ≠ j.chunks.length + 3 ∧ k ≠ j.chunks.length + 5), none⟩ := by
  rw [translated_code_is_model]; exact runWith_hand_fault_zip j.cfg m hz rfl rfl rfl hcb k hk

/-- the `tmpdir=` route of the translated code is `programTmp … unlinkFile` (no mkdtemp, only the temp file removed) -/
theorem translated_tmpdir_route (j : Job) (hz : j.zipMember = none) :
    runWith Gen.C19Program.code j.cfg false none = ⟨programTmp j.cfg .unlinkFile, false, none⟩ := by
  rw [translated_code_is_model]; exact runWith_hand_tmpdir_none j.cfg hz

/-- **OSError at EVERY call, including the final cleanup** (the fault theorem above stops before it): if the write
raises, the destination keeps its previous content (or absence) and nothing is left under the temp dir; if it
returns normally although a call failed, the destination holds the complete new content. -/
theorem fault_at_every_call_outcome (j : Job) (fs : FS) (h : WF j.cfg fs) (hz : j.zipMember = none)
    (hcb : j.closeInBody = false) (k : Nat) (hk : k < (program j.cfg).length) :
    ((runWith Gen.C19Program.code j.cfg true (some k)).raised = true →
      faultState j.cfg fs k j.cfg.dest = fs j.cfg.dest ∧ ∀ p, under j.cfg.tmpdir p = true → faultState j.cfg fs k p = none) ∧
    ((runWith Gen.C19Program.code j.cfg true (some k)).raised = false →
      faultState j.cfg fs k j.cfg.dest = some (.file j.cfg.newData)) := by
  rw [translated_fault_is_handler_table j hz hcb k hk]
  refine ⟨fun hr => fault_leaves_old_and_no_temp j fs h hz k (by simpa using hr), fun hr => ?_⟩
  have : ¬ (k + 1 < (program j.cfg).length) := by simpa using hr
  exact fault_at_cleanup_replace j.cfg fs h hz rfl k (by omega)

example : (runWith Gen.C19Program.code exCfg true (some 6)).raised = false ∧
    (runWith Gen.C19Program.code exCfg true (some 5)).raised = true ∧
    faultState exCfg exFS 6 [0, 1] = some (.file [5, 6, 7]) ∧ faultState exCfg exFS 5 [0, 1] = some (.file [9]) := by decide +kernel

/-- **formatting failure** (the writer's own code raises inside its with-block after any number `n` of chunks, no
file-system call fails): the translated code closes the temp file, does not commit and removes the temp dir; no call
fails, the destination and every path outside the temp dir are untouched, nothing under the temp dir remains. -/
theorem formatting_failure_leaves_old_and_no_temp (j : Job) (fs : FS) (h : WF j.cfg fs) (hcb : j.closeInBody = false) (n : Nat) :
    runWithBody Gen.C19Program.code j.cfg true (fmtFailBody j.cfg n) none = ⟨fmtFailTrace j.cfg n, true, none⟩ ∧
    (AtomicWrite.exec fs (fmtFailTrace j.cfg n)).2 = none ∧
    (AtomicWrite.exec fs (fmtFailTrace j.cfg n)).1 j.cfg.dest = fs j.cfg.dest ∧
    (∀ p, under j.cfg.tmpdir p = true → (AtomicWrite.exec fs (fmtFailTrace j.cfg n)).1 p = none) ∧
    (∀ p, under j.cfg.tmpdir p = false → (AtomicWrite.exec fs (fmtFailTrace j.cfg n)).1 p = fs p) := by
  rw [translated_code_is_model]
  exact ⟨runWith_hand_fmtfail j.cfg hcb n, fmtfail_state j.cfg fs h n⟩

example : (AtomicWrite.exec exFS (fmtFailTrace exCfg 1)).1 [0, 1] = some (.file [9]) ∧
    (AtomicWrite.exec exFS (fmtFailTrace exCfg 1)).1 [0, 2] = none ∧ (fmtFailTrace exCfg 1).length = 5 := by decide +kernel

end translated

section otherRoutes
open CogentModel.AtomicProg CogentModel.AtomicSite

/-- **`atomic_write(path, tmpdir=D)` killed at ANY point** (`crashStateTmp … k` = exactly the first `k` calls of the route
happened; open, the writes, close, rename, the unlink of the temp file): up to and including the point just before the rename
the destination holds its previous content (or absence), from the rename on the complete new content and the temp file is
gone; every path other than the destination and the temp file — everything the caller keeps in `D` — is untouched at every
prefix.  (A kill before the rename can leave the temp file in `D`; nothing can remove it then.) -/
theorem tmpdir_route_all_prefixes (j : Job) (fs : FS) (h : WFtmp j.cfg fs) (k : Nat) :
    (k ≤ j.chunks.length + 2 → crashStateTmp j.cfg fs k j.cfg.dest = fs j.cfg.dest) ∧
    (j.chunks.length + 2 < k → crashStateTmp j.cfg fs k j.cfg.dest = some (.file j.cfg.newData) ∧
      crashStateTmp j.cfg fs k j.cfg.tmpfile = none) ∧
    (∀ q, q ≠ j.cfg.dest → q ≠ j.cfg.tmpfile → crashStateTmp j.cfg fs k q = fs q) := by
  by_cases hk : k ≤ j.chunks.length + 2
  · exact ⟨fun _ => crashTmp_before j.cfg fs k hk _ (tmpfile_ne_dest j.cfg).symm, fun hk' => absurd hk (Nat.not_le.mpr hk'),
      fun q _ h2 => crashTmp_before j.cfg fs k hk q h2⟩
  · have ⟨s1, s2, s3⟩ := tmpCommitted_spec j.cfg fs
    rw [crashTmp_after j.cfg fs h k (show j.chunks.length + 3 ≤ k from Nat.lt_of_not_le hk)]
    exact ⟨fun hk' => absurd hk' hk, fun _ => ⟨s1, s2⟩, s3⟩

example : crashStateTmp exCfg exFStmp 3 [0, 1] = some (.file [9]) ∧ crashStateTmp exCfg exFStmp 3 [0, 2, 3] = some (.file [5, 6, 7]) ∧
    crashStateTmp exCfg exFStmp 5 [0, 1] = some (.file [5, 6, 7]) ∧ crashStateTmp exCfg exFStmp 5 [0, 2, 3] = none ∧
    crashStateTmp exCfg exFStmp 4 [0, 2, 7] = some (.file [4, 4]) := by decide +kernel

/-- **OSError at EVERY call of the `tmpdir=` route** (the translated code, with-statement protocol): the calls issued are
the first `k`, the failing one and `handlerTmp` (the close of `__exit__` when the block raised, then `suppress(OSError):
tmp.unlink()`); the exception reaches the caller unless the failing call is that final unlink; if it does, the destination
keeps its previous content, if it does not, the destination holds the complete new content; in both cases the temp file is
gone and every other path (the caller's directory and all it holds) is untouched. -/
theorem tmpdir_route_fault_at_every_call (j : Job) (fs : FS) (h : WFtmp j.cfg fs) (hz : j.zipMember = none)
    (hcb : j.closeInBody = false) (k : Nat) (hk : k < j.chunks.length + 4) :
    runWith Gen.C19Program.code j.cfg false (some k) = ⟨faultTraceTmp j.cfg k, decide (k < j.chunks.length + 3), none⟩ ∧
    (k < j.chunks.length + 3 → faultStateTmp j.cfg fs k j.cfg.dest = fs j.cfg.dest) ∧
    (k = j.chunks.length + 3 → faultStateTmp j.cfg fs k j.cfg.dest = some (.file j.cfg.newData)) ∧
    faultStateTmp j.cfg fs k j.cfg.tmpfile = none ∧
    (∀ q, q ≠ j.cfg.dest → q ≠ j.cfg.tmpfile → faultStateTmp j.cfg fs k q = fs q) := by
  refine ⟨by rw [translated_code_is_model]; exact runWith_hand_tmpdir_fault j.cfg hz hcb k hk, ?_⟩
  by_cases hk' : k < j.chunks.length + 3
  · have hb := faultTmp_before j.cfg fs (by rw [h.hfile]; trivial) k hk'
    exact ⟨fun _ => hb.2 _ (tmpfile_ne_dest j.cfg).symm, fun e => absurd hk' (by omega), hb.1, fun q _ h2 => hb.2 q h2⟩
  · obtain rfl : k = j.cfg.chunks.length + 3 := by show k = j.chunks.length + 3; omega
    have ⟨s1, s2, s3⟩ := tmpCommitted_spec j.cfg fs
    rw [faultTmp_last j.cfg fs h]
    exact ⟨fun hh => absurd hh hk', fun _ => s1, s2, s3⟩

example : faultStateTmp exCfg exFStmp 2 [0, 1] = some (.file [9]) ∧ faultStateTmp exCfg exFStmp 2 [0, 2, 3] = none ∧
    faultStateTmp exCfg exFStmp 4 [0, 1] = some (.file [9]) ∧ faultStateTmp exCfg exFStmp 5 [0, 1] = some (.file [5, 6, 7]) ∧
    faultStateTmp exCfg exFStmp 0 [0, 2, 7] = some (.file [4, 4]) ∧ (faultTraceTmp exCfg 1).length = 4 := by decide +kernel

/-- the three methods that drive a bare object, as translated -/
def genBare : BareCode := ⟨Gen.C19Program.init, Gen.C19Program.bareWrite, Gen.C19Program.bareClose⟩

/-- `atomic_write.write` (while no file is open: `_get_fileobj` opens the temp file, no guard) and `atomic_write.close`
(`__exit__(None, None, None)`) as translated ARE the hand model -/
theorem translated_bare_is_model : genBare = handBare := rfl

/-- **the bare-object protocol** `aw = atomic_write(p); aw.write(ch)+; aw.close()` (what `open_zip(…, "w")` hands out): without
a fault it issues exactly the flat program of the with-statement protocol — so `write_completes` and `atomic_all_prefixes`
(every kill point) hold for it unchanged. -/
theorem bare_object_run_is_program (j : Job) (hne : j.chunks ≠ []) :
    runBare genBare j.cfg true none = ⟨program j.cfg, false, none⟩ := by
  rw [translated_bare_is_model]; exact runBare_hand_none j.cfg rfl hne

/-- …and under an OSError at call `k`: from `close()` on (`k ≥ n + 2`: close, rename, cleanup) the calls and therefore the
outcome are those of the with-statement protocol (`fault_at_every_call_outcome`); BEFORE it (mkdtemp, the unguarded open in
the first `write`, any data write) the exception propagates and NO further call is issued — the destination is untouched, but
for `1 ≤ k` the temp dir stays behind (no `__enter__` guard, no `__exit__`): the "no temporary files after a handled failure"
clause needs the with-block, which every writer of cogent3 uses (`writer_call_sites_covered`). -/
theorem bare_object_fault_outcome (j : Job) (fs : FS) (h : WF j.cfg fs) (hz : j.zipMember = none) (hcb : j.closeInBody = false)
    (hne : j.chunks ≠ []) (k : Nat) (hk : k < (program j.cfg).length) :
    runBare genBare j.cfg true (some k) = ⟨bareFaultTrace j.cfg k, decide (k + 1 < (program j.cfg).length), none⟩ ∧
    (k < j.chunks.length + 2 → bareFaultTrace j.cfg k = (program j.cfg).take (k + 1) ∧
      crashState j.cfg fs k j.cfg.dest = fs j.cfg.dest ∧ (1 ≤ k → crashState j.cfg fs k j.cfg.tmpdir = some .dir)) ∧
    (j.chunks.length + 2 ≤ k → bareFaultTrace j.cfg k = faultTrace j.cfg k ∧
      (k + 1 < (program j.cfg).length → faultState j.cfg fs k j.cfg.dest = fs j.cfg.dest ∧
        ∀ p, under j.cfg.tmpdir p = true → faultState j.cfg fs k p = none) ∧
      (k + 1 = (program j.cfg).length → faultState j.cfg fs k j.cfg.dest = some (.file j.cfg.newData))) := by
  have hpre : (pre j.cfg).length = j.chunks.length + 3 := pre_length j.cfg
  refine ⟨by rw [translated_bare_is_model]; exact runBare_hand_fault j.cfg hz rfl rfl hcb hne k hk, fun hlt => ?_, fun hge => ?_⟩
  · exact ⟨if_pos hlt, crash_before_commit j.cfg fs h.hne k (by omega), fun h1 => crash_tmpdir_pre j.cfg fs h k h1 (by omega)⟩
  · exact ⟨if_neg (Nat.not_lt.mpr hge), fault_leaves_old_and_no_temp j fs h hz k, fault_at_cleanup_replace j.cfg fs h hz rfl k⟩

example : (runBare genBare exCfg true (some 2)).trace.length = 3 ∧ (runBare genBare exCfg true (some 2)).raised = true ∧
    crashState exCfg exFS 2 [0, 2] = some .dir ∧ crashState exCfg exFS 2 [0, 1] = some (.file [9]) ∧
    (runBare genBare exCfg true (some 4)).trace = faultTrace exCfg 4 ∧ faultState exCfg exFS 4 [0, 2] = none := by decide +kernel

/-- **every call site of `atomic_write` in cogent3** (Gen/C19Writers.lean, translated from all of src/cogent3 on every run): the
ONLY call that does not satisfy the hypotheses of the outcome theorems (`Site.covered`: inside a with-block, no `tmpdir=`, no
`in_zip=`, no file-system call in the writer's own handlers or block, no close of its own) is `open_zip`'s
`return atomic_write(filename, mode=mode, in_zip=True)` — the `*.zip`-suffix route, which is exercised by injection only. -/
theorem writer_call_sites_covered :
    Gen.C19Writers.sites.filter (fun s => !s.covered) =
      [⟨"util/io.py", "open_zip", .returned, false, true, false, false, false, "dynamic"⟩] := by
  decide

/-- …in particular every site used through a with-block or as a bare object (all the writers: alignments, collections, trees,
tables, dict-arrays, tree collections, the directory data store's md5 and record files) is covered -/
theorem writer_call_sites_all_with_block : ∀ s ∈ Gen.C19Writers.sites, s.protocol ≠ .returned → s.covered = true := by
  decide

/-- **a covered call site falls under the outcome theorems**: the configuration it induces for any write job is THE model
`Job.cfg` (plain target, own temp dir, with-block), so at every crash point the destination is old-or-complete-new (old up
to the rename, new after it, nothing outside the temp dir touched), and a fault at any call either raises with the old
content and no temp path left, or (the swallowed cleanup failure) returns with the complete new content. -/
theorem covered_call_site_all_or_nothing (s : Site) (hs : s.covered = true) (j : Job) (fs : FS) (h : WF (s.cfg j) fs) (k : Nat) :
    s.cfg j = (plainJob j).cfg ∧
    ((crashState (s.cfg j) fs k (s.cfg j).dest = fs (s.cfg j).dest ∨
        crashState (s.cfg j) fs k (s.cfg j).dest = some (.file (s.cfg j).newData)) ∧
      (k ≤ renameIdx (s.cfg j) → crashState (s.cfg j) fs k (s.cfg j).dest = fs (s.cfg j).dest) ∧
      (renameIdx (s.cfg j) < k → crashState (s.cfg j) fs k (s.cfg j).dest = some (.file (s.cfg j).newData)) ∧
      (∀ p, p ≠ (s.cfg j).dest → under (s.cfg j).tmpdir p = false → crashState (s.cfg j) fs k p = fs p)) ∧
    (k < (program (s.cfg j)).length →
      ((runWith Gen.C19Program.code (s.cfg j) s.own (some k)).raised = true →
        faultState (s.cfg j) fs k (s.cfg j).dest = fs (s.cfg j).dest ∧
          ∀ p, under (s.cfg j).tmpdir p = true → faultState (s.cfg j) fs k p = none) ∧
      ((runWith Gen.C19Program.code (s.cfg j) s.own (some k)).raised = false →
        faultState (s.cfg j) fs k (s.cfg j).dest = some (.file (s.cfg j).newData))) := by
  have e := covered_cfg s hs j
  have ho : s.own = true := by
    simp only [Site.covered, Bool.and_eq_true, Bool.not_eq_eq_eq_not, Bool.not_true] at hs
    simp [Site.own, hs.1.1.1.1.2]
  rw [e] at h ⊢
  rw [ho]
  exact ⟨rfl, atomic_all_prefixes (plainJob j) fs h rfl k, fun hk => fault_at_every_call_outcome (plainJob j) fs h rfl rfl k hk⟩

example : (Gen.C19Writers.sites.filter (·.covered)).length ≥ 8 ∧
    (∀ s ∈ Gen.C19Writers.sites.filter (·.covered), (s.cfg exJob).withBlock = true ∧ (s.cfg exJob).zipMember = none ∧
      (s.cfg exJob).bodyUnlink = false ∧ s.own = true) := by decide +kernel

end otherRoutes

/-! ## historical variants (NOT the current code)

What the same statements look like for the versions before the `fix:` commits.  The harness names
the variant when the real traces stop matching `Job.cfg`, so these say what such a regression means. -/

/-- unlink-then-rename (`_close_rename_standard` before 3deaff175): all-or-nothing holds at every
crash point except the one between the two calls… -/
theorem historical_unlink_rename_outside_window (c : Cfg) (fs : FS) (h : WF c fs) (hz : c.zipMember = none)
    (hc : c.commit = .unlinkRename) (k : Nat) (hk : k ≠ (pre c).length + 1) :
    (crashState c fs k c.dest = fs c.dest ∨ crashState c fs k c.dest = some (.file c.newData)) ∧
    (∀ p, p ≠ c.dest → under c.tmpdir p = false → crashState c fs k p = fs p) := by
  refine ⟨?_, fun p hp hu => crash_others_unchanged c fs k p hp hu⟩
  by_cases hk' : k ≤ (pre c).length
  · exact Or.inl (crash_before_commit c fs h.hne k hk')
  · exact Or.inr (crash_unlinkRename_after c fs h hz hc k (by omega))

/-- …and in that window the destination is absent, whatever it held. -/
theorem historical_unlink_rename_window (c : Cfg) (fs : FS) (h : WF c fs) (hz : c.zipMember = none)
    (hc : c.commit = .unlinkRename) :
    crashState c fs ((pre c).length + 1) c.dest = none := by
  rw [crash_after_first c fs h _ _ (post_unlinkRename c hz hc) _ (run_unlink c fs h)]
  simp [unlinkedState]

/-- concrete witness (dest `[0,1]` holding `[9]`, one chunk `[5]`, killed before call 5 = the rename) -/
theorem historical_unlink_rename_witness :
    exFS exCfgCoded.dest = some (.file [9]) ∧ crashState exCfgCoded exFS 5 exCfgCoded.dest = none ∧
    crashState exCfgCoded exFS 4 exCfgCoded.dest = some (.file [9]) ∧
    crashState exCfgCoded exFS 6 exCfgCoded.dest = some (.file [5]) := by
  decide

/-- handlers before 3deaff175 (no cleanup outside the with-block): only a failure inside the
writer's with-block was handled correctly (and not if the writer's own except-clause unlinked the
destination, `save_to_filename` before ff8d48a2e). -/
theorem historical_handlers_with_block_only (c : Cfg) (fs : FS) (h : WF c fs) (hw : c.withBlock = true)
    (hb : c.bodyUnlink = false) (j : Nat) (hj : j < c.chunks.length) :
    faultState c fs (j + 2) c.dest = fs c.dest ∧
    ∀ p, under c.tmpdir p = true → faultState c fs (j + 2) p = none := by
  refine fault_cleanup c fs h _ (Nat.le_add_left _ _) (by rw [pre_length]; omega) (Or.inr ?_)
  rw [phaseAt_body c j hj]; simp [handler, hw, hb]

/-- the failures of the historical handlers: `open` raising in `__enter__` leaked the temp dir
(k = 1); the rename raising after the unlink lost the destination and leaked the temp file
(k = 5); an unlink failure leaked the temp dir (k = 4); a bare `atomic_write` object
(`Table.write` before 5df264d66) leaked the temp dir when a data write failed (k = 2);
`save_to_filename`'s own except-clause removed the *destination* when a data write failed (k = 2). -/
theorem historical_handlers_witness :
    let c : Cfg := exCfgCoded
    let fs : FS := exFS
    faultState c fs 1 c.tmpdir = some .dir ∧
    (faultState c fs 5 c.dest = none ∧ faultState c fs 5 c.tmpfile = some (.file [5])) ∧
    (faultState c fs 4 c.dest = some (.file [5]) ∧ faultState c fs 4 c.tmpdir = some .dir) ∧
    faultState { c with withBlock := false } fs 2 c.tmpdir = some .dir ∧
    faultState { c with bodyUnlink := true, closeInBody := true } fs 2 c.dest = none := by
  decide


/-- `atomic_write(path, tmpdir=D)` before 9c9e074c9 ended with `shutil.rmtree(D)`: after a SUCCESSFUL write every
path under the caller's directory was gone — whatever the caller kept there. -/
theorem historical_tmpdir_route_removed_callers_dir (j : Job) (fs : FS) (h : WFtmp j.cfg fs) (q : Path)
    (hq : under j.cfg.tmpdir q = true) :
    (exec fs (programTmp j.cfg .rmtreeDir)).2 = none ∧ (exec fs (programTmp j.cfg .rmtreeDir)).1 q = none := by
  rw [exec_programTmp_rmtree j.cfg fs h]; simp [hq]

/-- the store write before 8ee96b6d1 (create the record file, fill it, create the md5 file, fill it — plain `open`):
interrupt + re-run gave the uninterrupted store only for crash points at record boundaries… -/
theorem historical_store_write_in_place_boundaries (idOf : Nat → Id) (app : Nat → Val) (s0 : FStore) (inputs : List Nat)
    (hn : (inputs.map idOf).Nodup) (j p : Nat) (hp : p = 0 ∨ 4 ≤ p) (i : Id) :
    resumed .inPlace idOf app s0 inputs j p i = uninterrupted .inPlace idOf app s0 inputs i :=
  -- a crash at a record boundary (`p = 0`, or `4 ≤ p`: no block is longer) leaves nothing or all of a block
  resume_pointwise .inPlace idOf app s0 inputs hn j p
    (fun c v t ht => cell_resume_inPlace_boundary c v t (by
      rcases ht with rfl | ht
      · exact hp.imp_right (Nat.le_trans (Bc_length_le .inPlace c v))
      · exact Or.inr ht)) i

/-- …and not inside a record write: killed after the record file was CREATED (p = 1) the empty
file counted as completed and stayed empty for ever; killed before the md5 file was created (p = 2) the md5 was never
written; the current variant is right at the same points. -/
theorem historical_store_write_in_place_witness :
    let idOf : Nat → Id := fun m => m
    let app : Nat → Val := fun m => .ok ⟨1, m, some m⟩
    let s0 : FStore := fun _ => Cell.none
    (resumed .inPlace idOf app s0 [7] 0 1 7).data = .empty ∧
    (uninterrupted .inPlace idOf app s0 [7] 7).data = .full (.ok ⟨1, 7, some 7⟩) ∧
    (resumed .inPlace idOf app s0 [7] 0 2 7).md5 = .absent ∧
    (uninterrupted .inPlace idOf app s0 [7] 7).md5 = .full (.ok ⟨1, 7, some 7⟩) ∧
    (resumed .atomicMd5First idOf app s0 [7] 0 1 7) = (uninterrupted .atomicMd5First idOf app s0 [7] 7) := by
  decide

end CogentModel.C19
