import CogentModel.Model.View
import CogentModel.Spec.PySlice
import CogentModel.Proofs.ViewInv
import CogentModel.Proofs.ViewSem
import CogentModel.Proofs.ViewParent
import CogentModel.Proofs.ViewSlice
import CogentModel.Proofs.SeqWrap
import CogentModel.Proofs.C01GenEq
import CogentModel.Proofs.SeqCoords
/-! # C01 — property theorems (views obey the slice algebra)

`Inv` is the representation invariant of slice records, `elems v` the list of
parent positions a view displays (`Proofs/ViewSem.lean`), `PySlice` the
language-level semantics of Python slicing (`Spec/PySlice.lean`). -/
namespace CogentModel.C01
open CogentModel.View

/-- Every constructor call (any `None`/negative/out-of-range arguments) yields a view
satisfying the representation invariant. -/
theorem mk_inv (n : Int) (hn : 0 ≤ n) (start stop step : Option Int) (offset : Int) (v : View)
    (h : mk n start stop step offset = .ok v) : Inv v :=
  mk_inv' n hn start stop step offset v h

example : Inv { start := -3, stop := -10, step := -2, offset := 0, seqLen := 10 } := by decide +kernel
example : mk 10 (some 7) (some 1) (some (-2)) 0 = .ok { start := -3, stop := -9, step := -2, offset := 0, seqLen := 10 } := by rfl

/-- Slicing (any start/stop/step, `None`, negative, out of range; both `_zero_slice`
flavours) preserves the invariant. -/
theorem getitem_inv (fl : Flavour) (v : View) (h : Inv v) (a b c : Option Int) (w : View)
    (hw : getitemSlice fl v a b c = .ok w) : Inv w :=
  getitemSlice_inv fl v h a b c w hw

/-- Integer indexing preserves the invariant. -/
theorem getitem_int_inv (v : View) (h : Inv v) (i : Int) (w : View)
    (hw : getitemInt v i = .ok w) : Inv w :=
  getitemInt_inv v h i w hw

example : getitemSlice .seqView { start := 1, stop := 8, step := 2, offset := 0, seqLen := 10 } none none (some (-1))
    = .ok { start := -3, stop := -10, step := -2, offset := 0, seqLen := 10 } := by rfl

/-- A chain of operations on a view. -/
inductive Op where
  | slice (a b c : Option Int)
  | index (i : Int)

def step1 (fl : Flavour) (v : View) : Op → Except Err View
  | .slice a b c => getitemSlice fl v a b c
  | .index i => getitemInt v i

def runOps (fl : Flavour) : View → List Op → Except Err View
  | v, [] => .ok v
  | v, op :: ops => match step1 fl v op with
    | .ok w => runOps fl w ops
    | .error e => .error e

/-- **Every reachable view satisfies the invariant**: any constructor call followed by
any finite chain of slice / index operations (of any depth). -/
theorem reachable_inv (fl : Flavour) (ops : List Op) (v w : View) (h : Inv v)
    (hw : runOps fl v ops = .ok w) : Inv w := by
  induction ops generalizing v with
  | nil => cases hw; exact h
  | cons op ops ih =>
    unfold runOps at hw
    cases hs : step1 fl v op with
    | error e => rw [hs] at hw; cases hw
    | ok u =>
      rw [hs] at hw
      refine ih u ?_ hw
      cases op with
      | slice a b c => exact getitemSlice_inv fl v h a b c u hs
      | index i => exact getitemInt_inv v h i u hs

/-- the assertions in `parent_start`/`parent_stop` never fire on a reachable view -/
theorem parent_coords_defined (v : View) (h : Inv v) :
    (∃ a, parentStart v = .ok a) ∧ (∃ b, parentStop v = .ok b) := by
  obtain ⟨_, _, _, a, b, _⟩ := window_spec v h
  exact ⟨⟨_, a⟩, ⟨_, b⟩⟩

/-- forward views: `len v` is the ceiling of `(stop - start) / step` -/
theorem len_kit_fwd (v : View) (h : Inv v) (hs : 0 < v.step) :
    0 ≤ len v ∧ v.stop - v.start ≤ len v * v.step ∧ len v * v.step < v.stop - v.start + v.step :=
  ⟨len_nonneg v, len_isCeil_fwd v hs (by rcases h with ⟨_, h | h⟩ <;> omega)⟩

example : Inv { start := 1, stop := 8, step := 3, offset := 0, seqLen := 10 } ∧
    len { start := 1, stop := 8, step := 3, offset := 0, seqLen := 10 } = 3 := by decide +kernel

/-- reversed views: `len v` is the ceiling of `(start - stop) / |step|` -/
theorem len_kit_rev (v : View) (h : Inv v) (hs : v.step < 0) :
    0 ≤ len v ∧ v.start - v.stop ≤ len v * (-v.step) ∧
      len v * (-v.step) < v.start - v.stop + (-v.step) :=
  ⟨len_nonneg v, len_isCeil_rev v hs (by rcases h with ⟨_, h | h⟩ <;> omega)⟩

example : Inv { start := -2, stop := -9, step := -3, offset := 0, seqLen := 10 } ∧
    len { start := -2, stop := -9, step := -3, offset := 0, seqLen := 10 } = 3 := by decide +kernel

/-- the ceiling is unique -/
theorem len_kit_unique (d k L L' : Int) (hk : 0 < k)
    (h1 : d ≤ L * k) (h2 : L * k < d + k) (h1' : d ≤ L' * k) (h2' : L' * k < d + k) : L = L' :=
  PySlice.IsCeil.unique ⟨h1, h2⟩ ⟨h1', h2'⟩ hk

example : (7 : Int) ≤ 3 * 3 ∧ (3 : Int) * 3 < 7 + 3 := by decide +kernel

/-- Python's own `seq[start:stop:step]` on the stored triple (what `.value` / `.str_value`
evaluate) visits exactly `elems v`. -/
theorem realise_eq (v : View) (h : Inv v) :
    PySlice.sliceIdx v.seqLen.toNat (some v.start) (some v.stop) v.step = elems v :=
  realise_eq' v h

example : elems { start := -3, stop := -10, step := -2, offset := 0, seqLen := 10 } = [7, 5, 3, 1] := by rfl
example : PySlice.sliceIdx 10 (some (-3)) (some (-10)) (-2) = [7, 5, 3, 1] := by rfl

/-- Slicing a view displays exactly the Python slice of what the view displayed
(any start/stop/step incl. `None`, negative, out of range; both `_zero_slice` flavours). -/
theorem getitem_spec (fl : Flavour) (v w : View) (a b c : Option Int) (h : Inv v) (hc : c ≠ some 0)
    (hw : getitemSlice fl v a b c = .ok w) :
    elems w = (PySlice.sliceIdx (len v).toNat a b (c.getD 1)).map (fun j => first v + j * v.step) :=
  getitemSlice_spec fl v w a b c h hc hw

example : getitemSlice .seqView { start := 1, stop := 8, step := 2, offset := 0, seqLen := 10 } (some (-1)) (some 0) (some (-2))
    = .ok { start := -3, stop := -9, step := -4, offset := 0, seqLen := 10 } := by rfl
example : elems { start := -3, stop := -9, step := -4, offset := 0, seqLen := 10 } = [7, 3] := by rfl
example : (PySlice.sliceIdx 4 (some (-1)) (some 0) (-2)).map (fun j => 1 + j * 2) = [7, 3] := by rfl

/-- the same, phrased as Python list slicing of the displayed list -/
theorem getitem_spec_list (fl : Flavour) (v w : View) (a b c : Option Int) (h : Inv v) (hc : c ≠ some 0)
    (hw : getitemSlice fl v a b c = .ok w) :
    elems w = PySlice.slice (elems v) a b (c.getD 1) := by
  rw [slice_elems v a b _ (sliceStep_ne_zero hc)]
  exact getitemSlice_spec fl v w a b c h hc hw

example : PySlice.slice [1, 3, 5, 7] (some (-1)) (some 0) (-2) = [7, 3] := by rfl

/-- with a non-zero step, slicing a reachable view never raises -/
theorem getitem_no_error (fl : Flavour) (v : View) (a b c : Option Int) (h : Inv v) (hc : c ≠ some 0) :
    ∃ w, getitemSlice fl v a b c = .ok w :=
  getitemSlice_isOk fl v a b c h hc

example : getitemSlice .seqView { start := 1, stop := 8, step := 2, offset := 0, seqLen := 10 } none none (some 0)
    = .error .valueError := by rfl

/-- Integer indexing returns the one-element view of the Python-indexed position, and raises
`IndexError` exactly when Python does. -/
theorem getitem_int_spec (v : View) (h : Inv v) (i : Int) :
    (∀ w, getitemInt v i = .ok w → ∃ x, PySlice.index (elems v) i = some x ∧ elems w = [x]) ∧
    (∀ e, getitemInt v i = .error e → PySlice.index (elems v) i = none) := by
  cases hx : PySlice.index (elems v) i with
  | none => rw [getitemInt_none v i hx]; exact ⟨nofun, fun _ _ => rfl⟩
  | some x =>
    obtain ⟨hg, x0, x1⟩ := getitemInt_single v h i x hx
    rw [hg]
    exact ⟨fun w hw => ⟨x, rfl, Except.ok.inj hw ▸ (single_spec v x x0 x1).2.1⟩, nofun⟩

example : getitemInt { start := -3, stop := -10, step := -2, offset := 0, seqLen := 10 } (-1)
    = .ok { start := -9, stop := -10, step := -1, offset := 0, seqLen := 10 } := by rfl
example : PySlice.index [7, 5, 3, 1] (-1) = some 1 := by rfl
example : getitemInt { start := -3, stop := -10, step := -2, offset := 0, seqLen := 10 } 4 = .error .indexError := by rfl

/-- The reported parent segment `parent[ps:pe]`, strided by the reported step (negative = read
backwards), is exactly what is displayed. -/
theorem parent_coords_exact (v : View) (h : Inv v) :
    ∃ ps pe : Int, parentStart v = .ok (v.offset + ps) ∧ parentStop v = .ok (v.offset + pe) ∧
      0 ≤ ps ∧ ps ≤ pe ∧ pe ≤ v.seqLen ∧
      elems v = (PySlice.sliceIdx (pe - ps).toNat none none v.step).map (· + ps) := by
  obtain ⟨c0, c1, c2, a, b, hw⟩ := window_spec v h
  exact ⟨_, _, a, b, c0, c1, c2, by rw [← realise_eq' v h, hw]⟩

example : parentStart { start := -3, stop := -10, step := -2, offset := 5, seqLen := 10 } = .ok (5 + 1) := by rfl
example : parentStop { start := -3, stop := -10, step := -2, offset := 5, seqLen := 10 } = .ok (5 + 8) := by rfl
example : (PySlice.sliceIdx 7 none none (-2)).map (· + 1) = [7, 5, 3, 1] := by rfl

/-- the operation has no zero slice step (`seq[::0]` raises `ValueError` in Python too) -/
def Op.stepOk : Op → Prop
  | .slice _ _ c => c ≠ some 0
  | .index _ => True

/-- the same operation applied to a plain Python list of positions -/
def specStep (xs : List Int) : Op → Option (List Int)
  | .slice a b c => some (PySlice.slice xs a b (c.getD 1))
  | .index i => (PySlice.index xs i).map fun x => [x]

def specRun : List Int → List Op → Option (List Int)
  | xs, [] => some xs
  | xs, op :: ops => (specStep xs op).bind fun ys => specRun ys ops

theorem step_spec (fl : Flavour) (v w : View) (op : Op) (h : Inv v) (hop : op.stepOk)
    (hw : step1 fl v op = .ok w) : specStep (elems v) op = some (elems w) := by
  cases op with
  | slice a b c =>
    simp only [specStep, Option.some.injEq]
    exact (getitem_spec_list fl v w a b c h hop hw).symm
  | index i =>
    obtain ⟨x, hx, hwx⟩ := (getitem_int_spec v h i).1 w hw
    simp only [specStep, hx, Option.map_some, hwx]

example : step1 .seqView { start := 1, stop := 8, step := 2, offset := 0, seqLen := 10 } (.slice none none (some (-1)))
    = .ok { start := -3, stop := -10, step := -2, offset := 0, seqLen := 10 } ∧
    specStep [1, 3, 5, 7] (.slice none none (some (-1))) = some [7, 5, 3, 1] := by decide +kernel

/-- a chain and the same chain of Python list operations on the displayed positions succeed together, with
matching results, and fail together -/
theorem runOps_spec (fl : Flavour) (ops : List Op) (v : View) (h : Inv v) (hops : ∀ op ∈ ops, op.stepOk) :
    (∀ w, runOps fl v ops = .ok w → specRun (elems v) ops = some (elems w)) ∧
    (∀ e, runOps fl v ops = .error e → specRun (elems v) ops = none) := by
  induction ops generalizing v with
  | nil => exact ⟨fun w hw => by cases hw; rfl, fun e hw => nomatch hw⟩
  | cons op ops ih =>
    rw [runOps, specRun]
    cases hs : step1 fl v op with
    | error e' =>
      refine ⟨fun w hw => (nomatch hw), fun _ _ => ?_⟩
      cases op with
      | slice a b c =>
        obtain ⟨w, hw⟩ := getitemSlice_isOk fl v a b c h (hops _ List.mem_cons_self)
        rw [step1, hw] at hs
        cases hs
      | index i => rw [specStep, (getitem_int_spec v h i).2 e' hs]; rfl
    | ok u =>
      rw [step_spec fl v u op h (hops op List.mem_cons_self) hs]
      exact ih u (reachable_inv fl [op] v u h (by rw [runOps, hs]; rfl)) fun o ho => hops o (List.mem_cons_of_mem _ ho)

/-- **Any chain of slice / index operations (any depth, no zero step) displays exactly what the
same chain of Python list operations yields on the displayed positions.** -/
theorem chain_spec (fl : Flavour) (ops : List Op) (v w : View) (h : Inv v)
    (hops : ∀ op ∈ ops, op.stepOk) (hw : runOps fl v ops = .ok w) :
    specRun (elems v) ops = some (elems w) :=
  (runOps_spec fl ops v h hops).1 w hw

example : runOps .seqDataView { start := 0, stop := 10, step := 1, offset := 3, seqLen := 10 }
    [.slice (some (-4)) none none, .slice none none (some (-3))]
    = .ok { start := -1, stop := -5, step := -3, offset := 3, seqLen := 10 } ∧
    specRun [0, 1, 2, 3, 4, 5, 6, 7, 8, 9] [.slice (some (-4)) none none, .slice none none (some (-3))]
    = some [9, 6] := by decide +kernel

/-- a chain raises only where Python raises `IndexError` on the list (slices never raise) -/
theorem chain_error_spec (fl : Flavour) (ops : List Op) (v : View) (e : Err) (h : Inv v)
    (hops : ∀ op ∈ ops, op.stepOk) (hw : runOps fl v ops = .error e) :
    specRun (elems v) ops = none :=
  (runOps_spec fl ops v h hops).2 e hw

example : runOps .seqView { start := 0, stop := 10, step := 1, offset := 0, seqLen := 10 }
    [.slice (some 1) (some 8) (some 2), .index 4] = .error .indexError ∧
    specRun [0, 1, 2, 3, 4, 5, 6, 7, 8, 9] [.slice (some 1) (some 8) (some 2), .index 4] = none := by decide +kernel

example : runOps .seqView { start := 0, stop := 10, step := 1, offset := 0, seqLen := 10 }
    [.slice (some 1) (some 8) (some 2), .slice none none (some (-1)), .slice (some 1) none none, .index (-1)]
    = .ok { start := -9, stop := -10, step := -1, offset := 0, seqLen := 10 } := by rfl
example : specRun [0, 1, 2, 3, 4, 5, 6, 7, 8, 9]
    [.slice (some 1) (some 8) (some 2), .slice none none (some (-1)), .slice (some 1) none none, .index (-1)]
    = some [1] := by rfl
example : ∀ op ∈ [Op.slice (some 1) (some 8) (some 2), .slice none none (some (-1)), .slice (some 1) none none, .index (-1)],
    op.stepOk := by simp [Op.stepOk]

/-! ## String level: the `Sequence` wrapper reads exactly as the plain string would

`SeqWrap.Seq` (`Model/SeqWrap.lean`) carries the parent string, the view and whether the moltype
is nucleic; `SeqWrap.str comp s` is `str(seq)` (complemented when the view is reversed on a nucleic
acid), `comp` any involutive complement table. -/

/-- DNA complement used in the examples below -/
def dnaComp (c : Char) : Char :=
  if c = 'A' then 'T' else if c = 'T' then 'A' else if c = 'C' then 'G' else if c = 'G' then 'C' else c

theorem dnaComp_invol : ∀ x, dnaComp (dnaComp x) = x := by
  intro x
  by_cases hA : x = 'A'
  · subst hA; rfl
  by_cases hT : x = 'T'
  · subst hT; rfl
  by_cases hC : x = 'C'
  · subst hC; rfl
  by_cases hG : x = 'G'
  · subst hG; rfl
  have hx : dnaComp x = x := by simp only [dnaComp, if_neg hA, if_neg hT, if_neg hC, if_neg hG]
  rw [hx, hx]

example : dnaComp 'A' = 'T' ∧ dnaComp 'N' = 'N' := by decide +kernel

/-- a wrapper built from a plain string is well formed -/
theorem seq_wf_ofString (t : List Char) (nucleic : Bool) : SeqWrap.WF (SeqWrap.ofString t nucleic) :=
  SeqWrap.wf_ofString t nucleic

example : (SeqWrap.ofString "ACGGTA".toList true).v = { start := 0, stop := 6, step := 1, offset := 0, seqLen := 6 } := by rfl

/-- slicing preserves well-formedness (including the `_zero_slice` branch, whose parent is `""`) -/
theorem seq_wf_getitem (s s' : SeqWrap.Seq) (a b c : Option Int) (h : SeqWrap.WF s)
    (hw : SeqWrap.getitem s a b c = .ok s') : SeqWrap.WF s' ∧ s'.nucleic = s.nucleic :=
  SeqWrap.wf_getitem s s' a b c h hw

example : SeqWrap.getitem (SeqWrap.ofString "ACGGTA".toList true) (some 2) (some 2) none
    = .ok { parent := [], v := zeroSlice, nucleic := true } := by decide +kernel

/-- integer indexing preserves well-formedness -/
theorem seq_wf_getitem_int (s s' : SeqWrap.Seq) (i : Int) (h : SeqWrap.WF s)
    (hw : SeqWrap.getitemI s i = .ok s') : SeqWrap.WF s' ∧ s'.nucleic = s.nucleic :=
  SeqWrap.wf_getitemI s s' i h hw

example : SeqWrap.getitemI (SeqWrap.ofString "ACGGTA".toList true) (-2)
    = .ok { parent := "ACGGTA".toList, v := { start := 4, stop := 5, step := 1, offset := 0, seqLen := 6 }, nucleic := true } := by decide +kernel

/-- `rc` preserves well-formedness -/
theorem seq_wf_rc (s : SeqWrap.Seq) (h : SeqWrap.WF s) :
    SeqWrap.WF (SeqWrap.rc s) ∧ (SeqWrap.rc s).nucleic = s.nucleic :=
  SeqWrap.wf_rc s h

example : (SeqWrap.rc (SeqWrap.ofString "ACGGTA".toList true)).v
    = { start := -1, stop := -7, step := -1, offset := 0, seqLen := 6 } := by decide +kernel

/-- the raw string of the view is the parent read at the displayed positions -/
theorem value_eq_elems (s : SeqWrap.Seq) (h : SeqWrap.WF s) :
    SeqWrap.value s = (elems s.v).map (fun i => s.parent[i.toNat]!) :=
  SeqWrap.value_eq_elems' s h

example : SeqWrap.value { parent := "ACGGTA".toList, v := { start := -1, stop := -7, step := -2, offset := 0, seqLen := 6 }, nucleic := true }
    = "AGC".toList := by decide +kernel

/-- **`str(seq[a:b:c])` is `str(seq)[a:b:c]`, complemented when `c < 0` on a nucleic acid.** -/
theorem str_getitem (comp : Char → Char) (hcomp : ∀ x, comp (comp x) = x) (s s' : SeqWrap.Seq)
    (a b c : Option Int) (h : SeqWrap.WF s) (hc : c ≠ some 0) (hw : SeqWrap.getitem s a b c = .ok s') :
    SeqWrap.str comp s' = SeqWrap.specSlice comp s.nucleic (SeqWrap.str comp s) a b (c.getD 1) :=
  SeqWrap.str_getitem' comp hcomp s s' a b c h hc hw

example : (SeqWrap.getitem (SeqWrap.ofString "ACGGTA".toList true) (some 4) none (some (-2))).toOption.map (SeqWrap.str dnaComp)
    = some "ACT".toList := by decide +kernel
example : SeqWrap.specSlice dnaComp true "ACGGTA".toList (some 4) none (-2) = "ACT".toList := by decide +kernel

/-- `str(seq[i])` is the one-character string `str(seq)[i]`; `IndexError` exactly when Python raises it -/
theorem str_getitem_int (comp : Char → Char) (s : SeqWrap.Seq) (i : Int) (h : SeqWrap.WF s) :
    (∀ s', SeqWrap.getitemI s i = .ok s' →
      ∃ ch, PySlice.index (SeqWrap.str comp s) i = some ch ∧ SeqWrap.str comp s' = [ch]) ∧
    (∀ e, SeqWrap.getitemI s i = .error e → PySlice.index (SeqWrap.str comp s) i = none) :=
  SeqWrap.str_getitemI' comp s i h

example : (SeqWrap.getitemI (SeqWrap.rc (SeqWrap.ofString "ACGGTA".toList true)) 1).toOption.map (SeqWrap.str dnaComp)
    = some "A".toList := by decide +kernel
example : SeqWrap.getitemI (SeqWrap.ofString "ACGGTA".toList true) 6 = .error .indexError := by decide +kernel

/-- `len(seq[a:b:c])` (both `len(str(…))` and the view's `__len__`) is the length of the Python slice -/
theorem len_getitem (comp : Char → Char) (hcomp : ∀ x, comp (comp x) = x) (s s' : SeqWrap.Seq)
    (a b c : Option Int) (h : SeqWrap.WF s) (hc : c ≠ some 0) (hw : SeqWrap.getitem s a b c = .ok s') :
    (SeqWrap.str comp s').length = (PySlice.slice (SeqWrap.str comp s) a b (c.getD 1)).length ∧
    SeqWrap.length s' = ((SeqWrap.str comp s').length : Int) := by
  refine ⟨?_, SeqWrap.length_eq_str_length comp s' (SeqWrap.wf_getitem s s' a b c h hw).1⟩
  rw [SeqWrap.str_getitem' comp hcomp s s' a b c h hc hw, SeqWrap.specSlice_eq_map, List.length_map]

example : (SeqWrap.getitem (SeqWrap.ofString "ACGGTA".toList false) (some (-5)) none (some 3)).toOption.map SeqWrap.length
    = some 2 := by decide +kernel

/-- **`str(seq.rc())` is the reverse complement of `str(seq)`** (nucleic acids) -/
theorem str_rc (comp : Char → Char) (hcomp : ∀ x, comp (comp x) = x) (s : SeqWrap.Seq)
    (h : SeqWrap.WF s) (hn : s.nucleic = true) :
    SeqWrap.str comp (SeqWrap.rc s) = SeqWrap.specRc comp (SeqWrap.str comp s) :=
  SeqWrap.str_rc' comp hcomp s h hn

example : SeqWrap.str dnaComp (SeqWrap.rc (SeqWrap.ofString "ACGGTA".toList true)) = "TACCGT".toList := by decide +kernel

/-- `rc` twice reads as the original -/
theorem rc_rc (comp : Char → Char) (hcomp : ∀ x, comp (comp x) = x) (s : SeqWrap.Seq)
    (h : SeqWrap.WF s) (hn : s.nucleic = true) :
    SeqWrap.str comp (SeqWrap.rc (SeqWrap.rc s)) = SeqWrap.str comp s :=
  SeqWrap.rc_rc' comp hcomp s h hn

example : SeqWrap.str dnaComp (SeqWrap.rc (SeqWrap.rc (SeqWrap.ofString "ACGGTA".toList true))) = "ACGGTA".toList := by decide +kernel

/-- **Any chain of slice / index / rc operations of any depth on the wrapper reads exactly as the
same chain of plain-string operations on `str(seq)`** (slices with a negative step and `rc`
complement on nucleic acids); the result stays well formed. -/
theorem seq_chain_spec (comp : Char → Char) (hcomp : ∀ x, comp (comp x) = x) (ops : List SeqWrap.SOp)
    (s s' : SeqWrap.Seq) (h : SeqWrap.WF s) (hops : ∀ op ∈ ops, SeqWrap.SOp.ok s.nucleic op)
    (hw : SeqWrap.runOps s ops = .ok s') :
    SeqWrap.specRun comp s.nucleic (SeqWrap.str comp s) ops = some (SeqWrap.str comp s') ∧ SeqWrap.WF s' :=
  (SeqWrap.runOps_spec comp hcomp ops s h hops).1 s' hw

example : (SeqWrap.runOps (SeqWrap.ofString "ACGGTAAC".toList true)
    [.slice (some 1) none (some 2), .rc, .slice none (some (-1)) none, .index (-1)]).toOption.map (SeqWrap.str dnaComp)
    = some "C".toList := by decide +kernel
example : SeqWrap.specRun dnaComp true "ACGGTAAC".toList
    [.slice (some 1) none (some 2), .rc, .slice none (some (-1)) none, .index (-1)] = some "C".toList := by decide +kernel

/-- a chain on the wrapper raises exactly where Python's string indexing raises `IndexError` -/
theorem seq_chain_error_spec (comp : Char → Char) (hcomp : ∀ x, comp (comp x) = x) (ops : List SeqWrap.SOp)
    (s : SeqWrap.Seq) (e : Err) (h : SeqWrap.WF s) (hops : ∀ op ∈ ops, SeqWrap.SOp.ok s.nucleic op)
    (hw : SeqWrap.runOps s ops = .error e) :
    SeqWrap.specRun comp s.nucleic (SeqWrap.str comp s) ops = none :=
  (SeqWrap.runOps_spec comp hcomp ops s h hops).2 e hw

example : SeqWrap.runOps (SeqWrap.ofString "ACGGTAAC".toList true) [.slice (some 1) none (some 2), .rc, .index 4]
    = .error .indexError ∧
    SeqWrap.specRun dnaComp true "ACGGTAAC".toList [.slice (some 1) none (some 2), .rc, .index 4] = none := by decide +kernel

/-! ## Integer indexing at full strength -/

/-- **`view[i]` for EVERY reachable view and EVERY python int `i`.**  If the displayed positions `elems v` have an
`i`-th element `x` under python indexing (negative `i` counts from the end) then `v[i]` succeeds with a view `w` that
satisfies the invariant, displays exactly `[x]`, has `len 1`, keeps `offset` / `seq_len`, has step `±1` with the
orientation of `v`, and whose `parent_start` / `parent_stop` name exactly that one parent position
(`[offset + x, offset + x + 1)`, `0 ≤ x < seq_len`).  Otherwise -- exactly when the plain list raises --
`v[i]` raises `IndexError` and nothing else.  (Strengthens `getitem_int_spec`: the error kind, the success
direction, and the parent coordinates of the 1-long result.) -/
theorem getitem_int_full (v : View) (h : Inv v) (i : Int) :
    (∀ x, PySlice.index (elems v) i = some x →
      ∃ w, getitemInt v i = .ok w ∧ Inv w ∧ elems w = [x] ∧ len w = 1 ∧
        w.offset = v.offset ∧ w.seqLen = v.seqLen ∧ w.step = (if v.step < 0 then -1 else 1) ∧
        parentStart w = .ok (v.offset + x) ∧ parentStop w = .ok (v.offset + x + 1) ∧
        0 ≤ x ∧ x < v.seqLen) ∧
    (PySlice.index (elems v) i = none → getitemInt v i = .error .indexError) := by
  refine ⟨fun x hx => ?_, getitemInt_none v i⟩
  obtain ⟨hg, x0, x1⟩ := getitemInt_single v h i x hx
  obtain ⟨s1, s2, s3, s4, s5, s7, s8⟩ := single_spec v x x0 x1
  exact ⟨_, hg, s1, s2, s3, s4, s5, single_step v h x, s7, s8, x0, x1⟩

-- `seq[:7:2][-1]` on a 10-mer: span 7 is not a multiple of the stride, the recorded stop (7) is not the true stop (8)
example : elems { start := 0, stop := 7, step := 2, offset := 3, seqLen := 10 } = [0, 2, 4, 6] ∧
    PySlice.index [0, 2, 4, 6] (-1) = some (6 : Int) ∧
    getitemInt { start := 0, stop := 7, step := 2, offset := 3, seqLen := 10 } (-1)
      = .ok { start := 6, stop := 7, step := 1, offset := 3, seqLen := 10 } ∧
    parentStart { start := 6, stop := 7, step := 1, offset := 3, seqLen := 10 } = .ok (3 + 6) ∧
    parentStop { start := 6, stop := 7, step := 1, offset := 3, seqLen := 10 } = .ok (3 + 6 + 1) := by decide +kernel
-- strided reversed view, negative index
example : elems { start := -3, stop := -10, step := -2, offset := 5, seqLen := 10 } = [7, 5, 3, 1] ∧
    getitemInt { start := -3, stop := -10, step := -2, offset := 5, seqLen := 10 } (-2)
      = .ok { start := -7, stop := -8, step := -1, offset := 5, seqLen := 10 } ∧
    elems { start := -7, stop := -8, step := -1, offset := 5, seqLen := 10 } = [3] ∧
    parentStart { start := -7, stop := -8, step := -1, offset := 5, seqLen := 10 } = .ok (5 + 3) ∧
    parentStop { start := -7, stop := -8, step := -1, offset := 5, seqLen := 10 } = .ok (5 + 3 + 1) := by decide +kernel
-- out of range on both sides, and on an empty view
example : getitemInt { start := 0, stop := 7, step := 2, offset := 0, seqLen := 10 } 4 = .error .indexError ∧
    getitemInt { start := 0, stop := 7, step := 2, offset := 0, seqLen := 10 } (-5) = .error .indexError ∧
    getitemInt { start := 0, stop := 0, step := 1, offset := 0, seqLen := 10 } 0 = .error .indexError ∧
    PySlice.index [0, 2, 4, (6 : Int)] 4 = none ∧ PySlice.index [0, 2, 4, (6 : Int)] (-5) = none := by decide +kernel

/-- **`seq[i]` at string level, full strength**: for every well-formed `Sequence` wrapper (any parent string, any
complement table) and every python int `i`: if `str(seq)` has an `i`-th character `ch`, `seq[i]` succeeds with a
well-formed 1-long sequence over the same parent whose string is `[ch]`, which reports the parent segment
`[offset + x, offset + x + 1)` for a valid parent position `x`, keeps the orientation (strand) of `seq`, and `ch`
is the parent's character at `x`, complemented exactly when `seq` is a reversed nucleic acid; otherwise `seq[i]`
raises `IndexError` and nothing else. -/
theorem str_getitem_int_full (comp : Char → Char) (s : SeqWrap.Seq) (i : Int) (h : SeqWrap.WF s) :
    (∀ ch, PySlice.index (SeqWrap.str comp s) i = some ch →
      ∃ s' x, SeqWrap.getitemI s i = .ok s' ∧ SeqWrap.WF s' ∧ SeqWrap.str comp s' = [ch] ∧ SeqWrap.length s' = 1 ∧
        s'.parent = s.parent ∧ s'.nucleic = s.nucleic ∧ (s'.v.step < 0 ↔ s.v.step < 0) ∧
        parentStart s'.v = .ok (s.v.offset + x) ∧ parentStop s'.v = .ok (s.v.offset + x + 1) ∧
        0 ≤ x ∧ x < s.parent.length ∧
        ch = (if s.v.step < 0 ∧ s.nucleic then comp (s.parent[x.toNat]!) else s.parent[x.toNat]!)) ∧
    (PySlice.index (SeqWrap.str comp s) i = none → SeqWrap.getitemI s i = .error .indexError) := by
  rw [SeqWrap.index_str comp s i h]
  refine ⟨fun ch hch => ?_, fun hn => SeqWrap.getitemI_none s i (Option.map_eq_none_iff.1 hn)⟩
  obtain ⟨x, hx, rfl⟩ := Option.map_eq_some_iff.1 hch
  obtain ⟨hg, x0, x1, hwf, hs⟩ := SeqWrap.getitemI_single comp s h i x hx
  obtain ⟨_, _, s3, _, _, s7, s8⟩ := single_spec s.v x x0 (h.2 ▸ x1)
  exact ⟨_, x, hg, hwf, hs, s3, rfl, rfl, single_step_neg s.v h.1 x, s7, s8, x0, x1, ite_apply ..⟩

-- "ACGGTCATTG"[:7:2] = "AGTA"; [-1] is the `A` at parent position 6
example : ((SeqWrap.getitem (SeqWrap.ofString "ACGGTCATTG".toList true) none (some 7) (some 2)).toOption.bind
      (fun s => (SeqWrap.getitemI s (-1)).toOption)).map
      (fun r => (SeqWrap.str dnaComp r, parentStart r.v, parentStop r.v))
    = some ("A".toList, .ok 6, .ok 7) := by decide +kernel
-- rc then stride 3: "CAATGACCGT"[::3] = "CTCT"; [-2] is the complement of parent position 3 (`G` -> `C`)
example : ((SeqWrap.getitem (SeqWrap.rc (SeqWrap.ofString "ACGGTCATTG".toList true)) none none (some 3)).toOption.bind
      (fun s => (SeqWrap.getitemI s (-2)).toOption)).map
      (fun r => (SeqWrap.str dnaComp r, parentStart r.v, parentStop r.v, decide (r.v.step < 0)))
    = some ("C".toList, .ok 3, .ok 4, true) := by decide +kernel

/-! ## The `[i]!` reads are never out of range, and string-level parent coordinates -/

/-- every displayed position is a valid index into the parent, so the totalised reads `parent[i]!`
in `value_eq_elems` / `PySlice.slice` never fall back to the default character on a reachable view -/
theorem elems_in_range (v : View) (h : Inv v) : ∀ i ∈ elems v, 0 ≤ i ∧ i < v.seqLen :=
  elems_mem_range v h

example : elems { start := -3, stop := -10, step := -2, offset := 0, seqLen := 10 } = [7, 5, 3, 1] ∧
    Inv { start := -3, stop := -10, step := -2, offset := 0, seqLen := 10 } := by decide +kernel

/-- **string level parent coordinates**: the raw string of the view is `parent[ps:pe][::step]` where
`offset + ps`, `offset + pe` are the reported `parent_start`, `parent_stop` (the strand reported by
`parent_coordinates()` is the sign of `step`; `str(seq)` complements this when the step is negative on a
nucleic acid, see `SeqWrap.str`) -/
theorem value_parent_coords (s : SeqWrap.Seq) (h : SeqWrap.WF s) :
    ∃ ps pe : Int, parentStart s.v = .ok (s.v.offset + ps) ∧ parentStop s.v = .ok (s.v.offset + pe) ∧
      0 ≤ ps ∧ ps ≤ pe ∧ pe ≤ (s.parent.length : Int) ∧
      SeqWrap.value s =
        PySlice.slice ((s.parent.take pe.toNat).drop ps.toNat) none none s.v.step := by
  obtain ⟨ps, pe, a, b, c0, c1, c2, hv⟩ := SeqCoords.value_eq_window s h
  exact ⟨ps, pe, a, b, c0, c1, c2, by rw [← PySlice.slice_window _ ps pe c0 c1, hv]⟩

-- "ACGGTAAC"[6:1:-2] on a parent with annotation offset 5: reported segment [5+2, 5+7), read backwards with stride 2
example : SeqWrap.value { parent := "ACGGTAAC".toList, v := { start := -2, stop := -7, step := -2, offset := 5, seqLen := 8 }, nucleic := true }
    = "ATG".toList ∧
    parentStart { start := -2, stop := -7, step := -2, offset := 5, seqLen := 8 } = .ok (5 + 2) ∧
    parentStop { start := -2, stop := -7, step := -2, offset := 5, seqLen := 8 } = .ok (5 + 7) ∧
    PySlice.slice (("ACGGTAAC".toList.take 7).drop 2) none none (-2) = "ATG".toList := by decide +kernel

/-! ## translated_agrees_with_model

`Gen/C01View.lean` is regenerated from the CURRENT python source on every check run by
`translator/py2lean_view.py` (`GenOld` = core/sequence.py, `GenNew` = core/new_sequence.py, `GenData` =
new_sequence.SliceRecordABC + new_alignment.SeqDataView).  The theorems of this section say that the translated
entry points ARE the model functions all theorems above are about (per-function equivalences, for all arguments, in
`Proofs/C01GenEq.lean`), and restate the headline theorems for the translated functions.  A semantic change of the
python makes these stop checking. -/
section translated_agrees_with_model
open CogentModel.Gen.C01View

/-- a chain run with an arbitrary step function -/
def runOpsBy (st : View → Op → Except Err View) : View → List Op → Except Err View
  | v, [] => .ok v
  | v, op :: ops => match st v op with
    | .ok w => runOpsBy st w ops
    | .error e => .error e

theorem runOpsBy_step1 (fl : Flavour) (v : View) (ops : List Op) : runOpsBy (step1 fl) v ops = runOps fl v ops := by
  induction ops generalizing v with
  | nil => rfl
  | cons op ops ih =>
    simp only [runOpsBy, runOps]
    cases step1 fl v op with
    | error e => rfl
    | ok w => exact ih w

example : runOpsBy (step1 .seqView) { start := 0, stop := 10, step := 1, offset := 0, seqLen := 10 } [.index 3]
    = .ok { start := 3, stop := 4, step := 1, offset := 0, seqLen := 10 } := by rfl

/-- `GenOld.mk` (translated `SeqView.__init__`, with its `seq_len` argument absent or equal to `len(seq)`) is the
model's constructor; any other `seq_len` raises `AssertionError` after the `step == 0` check -/
theorem gen_old_mk (n : Int) (a b c : Option Int) (off : Int) :
    GenOld.mk n a b c off none = mk n a b c off ∧ GenOld.mk n a b c off (some n) = mk n a b c off ∧
    ∀ sl, GenOld.mk n a b c off sl =
      if c = some 0 then .error .valueError else if sl ≠ none ∧ sl ≠ some n then .error .assertionError
      else mk n a b c off :=
  ⟨C01GenEq.Old.mk_none n a b c off, C01GenEq.Old.mk_some n a b c off, C01GenEq.Old.mk_full n a b c off⟩

example : GenOld.mk 10 (some 7) (some 1) (some (-2)) 0 (some 10) = .ok { start := -3, stop := -9, step := -2, offset := 0, seqLen := 10 } := by rfl
example : GenOld.mk 10 none none none 0 (some 9) = .error .assertionError := by rfl

/-- translated `__len__` -/
theorem gen_old_len : GenOld.len = len := C01GenEq.Old.len_eq

example : GenOld.len { start := 1, stop := 8, step := 3, offset := 0, seqLen := 10 } = 3 := by rfl

/-- translated `_get_index` -/
theorem gen_old_getIndex : GenOld.getIndex = @getIndex := C01GenEq.Old.getIndex_eq

example : GenOld.getIndex { start := -3, stop := -10, step := -2, offset := 0, seqLen := 10 } (-1) false = .ok (-9, -10, -1) := by rfl

/-- translated `__getitem__` on a slice (with `_get_slice`, `_get_reverse_slice`, the four
`_get_*_slice_from_*_seqview_` methods, `copy` and `_zero_slice` of this class) -/
theorem gen_old_getitemSlice : GenOld.getitemSlice = getitemSlice .seqView := C01GenEq.Old.getitemSlice_eq

example : GenOld.getitemSlice { start := 1, stop := 8, step := 2, offset := 0, seqLen := 10 } (some (-1)) (some 0) (some (-2))
    = .ok { start := -3, stop := -9, step := -4, offset := 0, seqLen := 10 } := by rfl

/-- translated `__getitem__` on an integer -/
theorem gen_old_getitemInt : GenOld.getitemInt = getitemInt := C01GenEq.Old.getitemInt_eq

example : GenOld.getitemInt { start := -3, stop := -10, step := -2, offset := 0, seqLen := 10 } 4 = .error .indexError := by rfl

/-- translated `parent_start` / `parent_stop` -/
theorem gen_old_parentStartStop : GenOld.parentStart = parentStart ∧ GenOld.parentStop = parentStop :=
  ⟨C01GenEq.Old.parentStart_eq, C01GenEq.Old.parentStop_eq⟩

example : GenOld.parentStart { start := -3, stop := -10, step := -2, offset := 5, seqLen := 10 } = .ok 6 ∧
    GenOld.parentStop { start := 3, stop := 1, step := -2, offset := 5, seqLen := 10 } = .error .assertionError := by decide +kernel

/-- translated `absolute_position` -/
theorem gen_old_absolutePosition : GenOld.absolutePosition = @absolutePosition := C01GenEq.Old.absolutePosition_eq

example : GenOld.absolutePosition { start := -3, stop := -10, step := -2, offset := 5, seqLen := 10 } 1 false = .ok 11 := by decide +kernel

/-- translated `relative_position` -/
theorem gen_old_relativePosition : GenOld.relativePosition = @relativePosition := C01GenEq.Old.relativePosition_eq

example : GenOld.relativePosition { start := 1, stop := 8, step := 3, offset := 5, seqLen := 10 } 11 false = .ok 2 := by rfl

/-- translated start/stop computation of `to_rich_dict` -/
theorem gen_old_richDictBounds : GenOld.richDictBounds = richDictBounds := C01GenEq.Old.richDictBounds_eq

example : GenOld.richDictBounds { start := -3, stop := -10, step := -2, offset := 0, seqLen := 10 } = (1, 8) := by rfl

/-- `mk_inv` for the translated constructor -/
theorem gen_old_mk_inv (n : Int) (hn : 0 ≤ n) (start stop step : Option Int) (offset : Int) (v : View)
    (h : GenOld.mk n start stop step offset (some n) = .ok v) : Inv v :=
  mk_inv n hn start stop step offset v ((gen_old_mk n start stop step offset).2.1 ▸ h)

/-- `getitem_inv` for the translated `__getitem__` -/
theorem gen_old_getitem_inv (v : View) (h : Inv v) (a b c : Option Int) (w : View)
    (hw : GenOld.getitemSlice v a b c = .ok w) : Inv w :=
  getitem_inv .seqView v h a b c w (gen_old_getitemSlice ▸ hw)

/-- **`getitem_spec` for the translated `__getitem__`**: the python code, as translated on this run, displays
exactly the Python slice of what the view displayed -/
theorem gen_old_getitem_spec (v w : View) (a b c : Option Int) (h : Inv v) (hc : c ≠ some 0)
    (hw : GenOld.getitemSlice v a b c = .ok w) :
    elems w = (PySlice.sliceIdx (GenOld.len v).toNat a b (c.getD 1)).map (fun j => first v + j * v.step) :=
  gen_old_len ▸ getitem_spec .seqView v w a b c h hc (gen_old_getitemSlice ▸ hw)

/-- `getitem_spec_list` for the translated `__getitem__` -/
theorem gen_old_getitem_spec_list (v w : View) (a b c : Option Int) (h : Inv v) (hc : c ≠ some 0)
    (hw : GenOld.getitemSlice v a b c = .ok w) : elems w = PySlice.slice (elems v) a b (c.getD 1) :=
  getitem_spec_list .seqView v w a b c h hc (gen_old_getitemSlice ▸ hw)

/-- `getitem_no_error` for the translated `__getitem__` -/
theorem gen_old_getitem_no_error (v : View) (a b c : Option Int) (h : Inv v) (hc : c ≠ some 0) :
    ∃ w, GenOld.getitemSlice v a b c = .ok w :=
  gen_old_getitemSlice ▸ getitem_no_error .seqView v a b c h hc

/-- `getitem_int_spec` for the translated `__getitem__` -/
theorem gen_old_getitem_int_spec (v : View) (h : Inv v) (i : Int) :
    (∀ w, GenOld.getitemInt v i = .ok w → ∃ x, PySlice.index (elems v) i = some x ∧ elems w = [x]) ∧
    (∀ e, GenOld.getitemInt v i = .error e → PySlice.index (elems v) i = none) :=
  gen_old_getitemInt ▸ getitem_int_spec v h i

/-- `parent_coords_exact` for the translated `parent_start` / `parent_stop` -/
theorem gen_old_parent_coords_exact (v : View) (h : Inv v) :
    ∃ ps pe : Int, GenOld.parentStart v = .ok (v.offset + ps) ∧ GenOld.parentStop v = .ok (v.offset + pe) ∧
      0 ≤ ps ∧ ps ≤ pe ∧ pe ≤ v.seqLen ∧
      elems v = (PySlice.sliceIdx (pe - ps).toNat none none v.step).map (· + ps) := by
  rw [gen_old_parentStartStop.1, gen_old_parentStartStop.2]
  exact parent_coords_exact v h

/-- `getitem_int_full` for the translated `__getitem__` / `_get_index` / `parent_start` / `parent_stop` / `__len__` -/
theorem gen_old_getitem_int_full (v : View) (h : Inv v) (i : Int) :
    (∀ x, PySlice.index (elems v) i = some x →
      ∃ w, GenOld.getitemInt v i = .ok w ∧ Inv w ∧ elems w = [x] ∧ GenOld.len w = 1 ∧
        w.offset = v.offset ∧ w.seqLen = v.seqLen ∧ w.step = (if v.step < 0 then -1 else 1) ∧
        GenOld.parentStart w = .ok (v.offset + x) ∧ GenOld.parentStop w = .ok (v.offset + x + 1) ∧
        0 ≤ x ∧ x < v.seqLen) ∧
    (PySlice.index (elems v) i = none → GenOld.getitemInt v i = .error .indexError) := by
  rw [gen_old_getitemInt, gen_old_len, gen_old_parentStartStop.1, gen_old_parentStartStop.2]
  exact getitem_int_full v h i

example : GenOld.getitemInt { start := 0, stop := 7, step := 2, offset := 3, seqLen := 10 } (-1)
    = .ok { start := 6, stop := 7, step := 1, offset := 3, seqLen := 10 } := by decide +kernel

/-- one step of a chain, through the translated `__getitem__` -/
def genStepOld (v : View) : Op → Except Err View
  | .slice a b c => GenOld.getitemSlice v a b c
  | .index i => GenOld.getitemInt v i

theorem genStepOld_eq : genStepOld = step1 .seqView := by
  funext v op
  cases op <;> simp only [genStepOld, step1, gen_old_getitemSlice, gen_old_getitemInt]

/-- **`chain_spec` / `reachable_inv` for the translated code**: any chain of slice / index operations (any depth, no
zero step) run through the translated `__getitem__` keeps the invariant and displays what the same chain of Python
list operations yields -/
theorem gen_old_chain_spec (ops : List Op) (v w : View) (h : Inv v)
    (hops : ∀ op ∈ ops, op.stepOk) (hw : runOpsBy genStepOld v ops = .ok w) :
    Inv w ∧ specRun (elems v) ops = some (elems w) := by
  rw [genStepOld_eq, runOpsBy_step1] at hw
  exact ⟨reachable_inv .seqView ops v w h hw, chain_spec .seqView ops v w h hops hw⟩

example : runOpsBy genStepOld { start := 0, stop := 10, step := 1, offset := 0, seqLen := 10 }
    [.slice (some 1) (some 8) (some 2), .slice none none (some (-1)), .slice (some 1) none none, .index (-1)]
    = .ok { start := -9, stop := -10, step := -1, offset := 0, seqLen := 10 } := by rfl

/-- `GenNew.mk` (translated `SeqView.__init__`, with its `seq_len` argument absent or equal to `len(seq)`) is the
model's constructor; any other `seq_len` raises `AssertionError` after the `step == 0` check -/
theorem gen_new_mk (n : Int) (a b c : Option Int) (off : Int) :
    GenNew.mk n a b c off none = mk n a b c off ∧ GenNew.mk n a b c off (some n) = mk n a b c off ∧
    ∀ sl, GenNew.mk n a b c off sl =
      if c = some 0 then .error .valueError else if sl ≠ none ∧ sl ≠ some n then .error .assertionError
      else mk n a b c off :=
  ⟨C01GenEq.New.mk_none n a b c off, C01GenEq.New.mk_some n a b c off, C01GenEq.New.mk_full n a b c off⟩

example : GenNew.mk 10 (some 7) (some 1) (some (-2)) 0 (some 10) = .ok { start := -3, stop := -9, step := -2, offset := 0, seqLen := 10 } := by rfl
example : GenNew.mk 10 none none none 0 (some 9) = .error .assertionError := by rfl

/-- translated `__len__` -/
theorem gen_new_len : GenNew.len = len := C01GenEq.New.len_eq

example : GenNew.len { start := 1, stop := 8, step := 3, offset := 0, seqLen := 10 } = 3 := by rfl

/-- translated `_get_index` -/
theorem gen_new_getIndex : GenNew.getIndex = @getIndex := C01GenEq.New.getIndex_eq

example : GenNew.getIndex { start := -3, stop := -10, step := -2, offset := 0, seqLen := 10 } (-1) false = .ok (-9, -10, -1) := by rfl

/-- translated `__getitem__` on a slice (with `_get_slice`, `_get_reverse_slice`, the four
`_get_*_slice_from_*_seqview_` methods, `copy` and `_zero_slice` of this class) -/
theorem gen_new_getitemSlice : GenNew.getitemSlice = getitemSlice .seqView := C01GenEq.New.getitemSlice_eq

example : GenNew.getitemSlice { start := 1, stop := 8, step := 2, offset := 0, seqLen := 10 } (some (-1)) (some 0) (some (-2))
    = .ok { start := -3, stop := -9, step := -4, offset := 0, seqLen := 10 } := by rfl

/-- translated `__getitem__` on an integer -/
theorem gen_new_getitemInt : GenNew.getitemInt = getitemInt := C01GenEq.New.getitemInt_eq

example : GenNew.getitemInt { start := -3, stop := -10, step := -2, offset := 0, seqLen := 10 } 4 = .error .indexError := by rfl

/-- translated `parent_start` / `parent_stop` -/
theorem gen_new_parentStartStop : GenNew.parentStart = parentStart ∧ GenNew.parentStop = parentStop :=
  ⟨C01GenEq.New.parentStart_eq, C01GenEq.New.parentStop_eq⟩

example : GenNew.parentStart { start := -3, stop := -10, step := -2, offset := 5, seqLen := 10 } = .ok 6 ∧
    GenNew.parentStop { start := 3, stop := 1, step := -2, offset := 5, seqLen := 10 } = .error .assertionError := by decide +kernel

/-- translated `absolute_position` -/
theorem gen_new_absolutePosition : GenNew.absolutePosition = @absolutePosition := C01GenEq.New.absolutePosition_eq

example : GenNew.absolutePosition { start := -3, stop := -10, step := -2, offset := 5, seqLen := 10 } 1 false = .ok 11 := by decide +kernel

/-- translated `relative_position` -/
theorem gen_new_relativePosition : GenNew.relativePosition = @relativePosition := C01GenEq.New.relativePosition_eq

example : GenNew.relativePosition { start := 1, stop := 8, step := 3, offset := 5, seqLen := 10 } 11 false = .ok 2 := by rfl

/-- translated start/stop computation of `to_rich_dict` -/
theorem gen_new_richDictBounds : GenNew.richDictBounds = richDictBounds := C01GenEq.New.richDictBounds_eq

example : GenNew.richDictBounds { start := -3, stop := -10, step := -2, offset := 0, seqLen := 10 } = (1, 8) := by rfl

/-- `mk_inv` for the translated constructor -/
theorem gen_new_mk_inv (n : Int) (hn : 0 ≤ n) (start stop step : Option Int) (offset : Int) (v : View)
    (h : GenNew.mk n start stop step offset (some n) = .ok v) : Inv v :=
  mk_inv n hn start stop step offset v ((gen_new_mk n start stop step offset).2.1 ▸ h)

/-- `getitem_inv` for the translated `__getitem__` -/
theorem gen_new_getitem_inv (v : View) (h : Inv v) (a b c : Option Int) (w : View)
    (hw : GenNew.getitemSlice v a b c = .ok w) : Inv w :=
  getitem_inv .seqView v h a b c w (gen_new_getitemSlice ▸ hw)

/-- **`getitem_spec` for the translated `__getitem__`**: the python code, as translated on this run, displays
exactly the Python slice of what the view displayed -/
theorem gen_new_getitem_spec (v w : View) (a b c : Option Int) (h : Inv v) (hc : c ≠ some 0)
    (hw : GenNew.getitemSlice v a b c = .ok w) :
    elems w = (PySlice.sliceIdx (GenNew.len v).toNat a b (c.getD 1)).map (fun j => first v + j * v.step) :=
  gen_new_len ▸ getitem_spec .seqView v w a b c h hc (gen_new_getitemSlice ▸ hw)

/-- `getitem_spec_list` for the translated `__getitem__` -/
theorem gen_new_getitem_spec_list (v w : View) (a b c : Option Int) (h : Inv v) (hc : c ≠ some 0)
    (hw : GenNew.getitemSlice v a b c = .ok w) : elems w = PySlice.slice (elems v) a b (c.getD 1) :=
  getitem_spec_list .seqView v w a b c h hc (gen_new_getitemSlice ▸ hw)

/-- `getitem_no_error` for the translated `__getitem__` -/
theorem gen_new_getitem_no_error (v : View) (a b c : Option Int) (h : Inv v) (hc : c ≠ some 0) :
    ∃ w, GenNew.getitemSlice v a b c = .ok w :=
  gen_new_getitemSlice ▸ getitem_no_error .seqView v a b c h hc

/-- `getitem_int_spec` for the translated `__getitem__` -/
theorem gen_new_getitem_int_spec (v : View) (h : Inv v) (i : Int) :
    (∀ w, GenNew.getitemInt v i = .ok w → ∃ x, PySlice.index (elems v) i = some x ∧ elems w = [x]) ∧
    (∀ e, GenNew.getitemInt v i = .error e → PySlice.index (elems v) i = none) :=
  gen_new_getitemInt ▸ getitem_int_spec v h i

/-- `parent_coords_exact` for the translated `parent_start` / `parent_stop` -/
theorem gen_new_parent_coords_exact (v : View) (h : Inv v) :
    ∃ ps pe : Int, GenNew.parentStart v = .ok (v.offset + ps) ∧ GenNew.parentStop v = .ok (v.offset + pe) ∧
      0 ≤ ps ∧ ps ≤ pe ∧ pe ≤ v.seqLen ∧
      elems v = (PySlice.sliceIdx (pe - ps).toNat none none v.step).map (· + ps) := by
  rw [gen_new_parentStartStop.1, gen_new_parentStartStop.2]
  exact parent_coords_exact v h

/-- `getitem_int_full` for the translated `__getitem__` / `_get_index` / `parent_start` / `parent_stop` / `__len__` -/
theorem gen_new_getitem_int_full (v : View) (h : Inv v) (i : Int) :
    (∀ x, PySlice.index (elems v) i = some x →
      ∃ w, GenNew.getitemInt v i = .ok w ∧ Inv w ∧ elems w = [x] ∧ GenNew.len w = 1 ∧
        w.offset = v.offset ∧ w.seqLen = v.seqLen ∧ w.step = (if v.step < 0 then -1 else 1) ∧
        GenNew.parentStart w = .ok (v.offset + x) ∧ GenNew.parentStop w = .ok (v.offset + x + 1) ∧
        0 ≤ x ∧ x < v.seqLen) ∧
    (PySlice.index (elems v) i = none → GenNew.getitemInt v i = .error .indexError) := by
  rw [gen_new_getitemInt, gen_new_len, gen_new_parentStartStop.1, gen_new_parentStartStop.2]
  exact getitem_int_full v h i

example : GenNew.getitemInt { start := 0, stop := 7, step := 2, offset := 3, seqLen := 10 } (-1)
    = .ok { start := 6, stop := 7, step := 1, offset := 3, seqLen := 10 } := by decide +kernel

/-- one step of a chain, through the translated `__getitem__` -/
def genStepNew (v : View) : Op → Except Err View
  | .slice a b c => GenNew.getitemSlice v a b c
  | .index i => GenNew.getitemInt v i

theorem genStepNew_eq : genStepNew = step1 .seqView := by
  funext v op
  cases op <;> simp only [genStepNew, step1, gen_new_getitemSlice, gen_new_getitemInt]

/-- **`chain_spec` / `reachable_inv` for the translated code**: any chain of slice / index operations (any depth, no
zero step) run through the translated `__getitem__` keeps the invariant and displays what the same chain of Python
list operations yields -/
theorem gen_new_chain_spec (ops : List Op) (v w : View) (h : Inv v)
    (hops : ∀ op ∈ ops, op.stepOk) (hw : runOpsBy genStepNew v ops = .ok w) :
    Inv w ∧ specRun (elems v) ops = some (elems w) := by
  rw [genStepNew_eq, runOpsBy_step1] at hw
  exact ⟨reachable_inv .seqView ops v w h hw, chain_spec .seqView ops v w h hops hw⟩

example : runOpsBy genStepNew { start := 0, stop := 10, step := 1, offset := 0, seqLen := 10 }
    [.slice (some 1) (some 8) (some 2), .slice none none (some (-1)), .slice (some 1) none none, .index (-1)]
    = .ok { start := -9, stop := -10, step := -1, offset := 0, seqLen := 10 } := by rfl

/-- `GenData.mk` (translated `__init__`) is the model's constructor -/
theorem gen_data_mk : GenData.mk = mk := C01GenEq.Data.mk_eq

example : GenData.mk 10 (some 7) (some 1) (some (-2)) 0 = .ok { start := -3, stop := -9, step := -2, offset := 0, seqLen := 10 } := by rfl

/-- translated `__len__` -/
theorem gen_data_len : GenData.len = len := C01GenEq.Data.len_eq

example : GenData.len { start := 1, stop := 8, step := 3, offset := 0, seqLen := 10 } = 3 := by rfl

/-- translated `_get_index` -/
theorem gen_data_getIndex : GenData.getIndex = @getIndex := C01GenEq.Data.getIndex_eq

example : GenData.getIndex { start := -3, stop := -10, step := -2, offset := 0, seqLen := 10 } (-1) false = .ok (-9, -10, -1) := by rfl

/-- translated `__getitem__` on a slice (with `_get_slice`, `_get_reverse_slice`, the four
`_get_*_slice_from_*_seqview_` methods, `copy` and `_zero_slice` of this class) -/
theorem gen_data_getitemSlice : GenData.getitemSlice = getitemSlice .seqDataView := C01GenEq.Data.getitemSlice_eq

example : GenData.getitemSlice { start := 1, stop := 8, step := 2, offset := 0, seqLen := 10 } (some (-1)) (some 0) (some (-2))
    = .ok { start := -3, stop := -9, step := -4, offset := 0, seqLen := 10 } := by rfl

/-- translated `__getitem__` on an integer -/
theorem gen_data_getitemInt : GenData.getitemInt = getitemInt := C01GenEq.Data.getitemInt_eq

example : GenData.getitemInt { start := -3, stop := -10, step := -2, offset := 0, seqLen := 10 } 4 = .error .indexError := by rfl

/-- translated `parent_start` / `parent_stop` -/
theorem gen_data_parentStartStop : GenData.parentStart = parentStart ∧ GenData.parentStop = parentStop :=
  ⟨C01GenEq.Data.parentStart_eq, C01GenEq.Data.parentStop_eq⟩

example : GenData.parentStart { start := -3, stop := -10, step := -2, offset := 5, seqLen := 10 } = .ok 6 ∧
    GenData.parentStop { start := 3, stop := 1, step := -2, offset := 5, seqLen := 10 } = .error .assertionError := by decide +kernel

/-- translated `absolute_position` -/
theorem gen_data_absolutePosition : GenData.absolutePosition = @absolutePosition := C01GenEq.Data.absolutePosition_eq

example : GenData.absolutePosition { start := -3, stop := -10, step := -2, offset := 5, seqLen := 10 } 1 false = .ok 11 := by decide +kernel

/-- translated `relative_position` -/
theorem gen_data_relativePosition : GenData.relativePosition = @relativePosition := C01GenEq.Data.relativePosition_eq

example : GenData.relativePosition { start := 1, stop := 8, step := 3, offset := 5, seqLen := 10 } 11 false = .ok 2 := by rfl

/-- `mk_inv` for the translated constructor -/
theorem gen_data_mk_inv (n : Int) (hn : 0 ≤ n) (start stop step : Option Int) (offset : Int) (v : View)
    (h : GenData.mk n start stop step offset = .ok v) : Inv v :=
  mk_inv n hn start stop step offset v (gen_data_mk ▸ h)

/-- `getitem_inv` for the translated `__getitem__` -/
theorem gen_data_getitem_inv (v : View) (h : Inv v) (a b c : Option Int) (w : View)
    (hw : GenData.getitemSlice v a b c = .ok w) : Inv w :=
  getitem_inv .seqDataView v h a b c w (gen_data_getitemSlice ▸ hw)

/-- **`getitem_spec` for the translated `__getitem__`**: the python code, as translated on this run, displays
exactly the Python slice of what the view displayed -/
theorem gen_data_getitem_spec (v w : View) (a b c : Option Int) (h : Inv v) (hc : c ≠ some 0)
    (hw : GenData.getitemSlice v a b c = .ok w) :
    elems w = (PySlice.sliceIdx (GenData.len v).toNat a b (c.getD 1)).map (fun j => first v + j * v.step) :=
  gen_data_len ▸ getitem_spec .seqDataView v w a b c h hc (gen_data_getitemSlice ▸ hw)

/-- `getitem_spec_list` for the translated `__getitem__` -/
theorem gen_data_getitem_spec_list (v w : View) (a b c : Option Int) (h : Inv v) (hc : c ≠ some 0)
    (hw : GenData.getitemSlice v a b c = .ok w) : elems w = PySlice.slice (elems v) a b (c.getD 1) :=
  getitem_spec_list .seqDataView v w a b c h hc (gen_data_getitemSlice ▸ hw)

/-- `getitem_no_error` for the translated `__getitem__` -/
theorem gen_data_getitem_no_error (v : View) (a b c : Option Int) (h : Inv v) (hc : c ≠ some 0) :
    ∃ w, GenData.getitemSlice v a b c = .ok w :=
  gen_data_getitemSlice ▸ getitem_no_error .seqDataView v a b c h hc

/-- `getitem_int_spec` for the translated `__getitem__` -/
theorem gen_data_getitem_int_spec (v : View) (h : Inv v) (i : Int) :
    (∀ w, GenData.getitemInt v i = .ok w → ∃ x, PySlice.index (elems v) i = some x ∧ elems w = [x]) ∧
    (∀ e, GenData.getitemInt v i = .error e → PySlice.index (elems v) i = none) :=
  gen_data_getitemInt ▸ getitem_int_spec v h i

/-- `parent_coords_exact` for the translated `parent_start` / `parent_stop` -/
theorem gen_data_parent_coords_exact (v : View) (h : Inv v) :
    ∃ ps pe : Int, GenData.parentStart v = .ok (v.offset + ps) ∧ GenData.parentStop v = .ok (v.offset + pe) ∧
      0 ≤ ps ∧ ps ≤ pe ∧ pe ≤ v.seqLen ∧
      elems v = (PySlice.sliceIdx (pe - ps).toNat none none v.step).map (· + ps) := by
  rw [gen_data_parentStartStop.1, gen_data_parentStartStop.2]
  exact parent_coords_exact v h

/-- `getitem_int_full` for the translated `__getitem__` / `_get_index` / `parent_start` / `parent_stop` / `__len__` -/
theorem gen_data_getitem_int_full (v : View) (h : Inv v) (i : Int) :
    (∀ x, PySlice.index (elems v) i = some x →
      ∃ w, GenData.getitemInt v i = .ok w ∧ Inv w ∧ elems w = [x] ∧ GenData.len w = 1 ∧
        w.offset = v.offset ∧ w.seqLen = v.seqLen ∧ w.step = (if v.step < 0 then -1 else 1) ∧
        GenData.parentStart w = .ok (v.offset + x) ∧ GenData.parentStop w = .ok (v.offset + x + 1) ∧
        0 ≤ x ∧ x < v.seqLen) ∧
    (PySlice.index (elems v) i = none → GenData.getitemInt v i = .error .indexError) := by
  rw [gen_data_getitemInt, gen_data_len, gen_data_parentStartStop.1, gen_data_parentStartStop.2]
  exact getitem_int_full v h i

example : GenData.getitemInt { start := 0, stop := 7, step := 2, offset := 3, seqLen := 10 } (-1)
    = .ok { start := 6, stop := 7, step := 1, offset := 3, seqLen := 10 } := by decide +kernel

/-- one step of a chain, through the translated `__getitem__` -/
def genStepData (v : View) : Op → Except Err View
  | .slice a b c => GenData.getitemSlice v a b c
  | .index i => GenData.getitemInt v i

theorem genStepData_eq : genStepData = step1 .seqDataView := by
  funext v op
  cases op <;> simp only [genStepData, step1, gen_data_getitemSlice, gen_data_getitemInt]

/-- **`chain_spec` / `reachable_inv` for the translated code**: any chain of slice / index operations (any depth, no
zero step) run through the translated `__getitem__` keeps the invariant and displays what the same chain of Python
list operations yields -/
theorem gen_data_chain_spec (ops : List Op) (v w : View) (h : Inv v)
    (hops : ∀ op ∈ ops, op.stepOk) (hw : runOpsBy genStepData v ops = .ok w) :
    Inv w ∧ specRun (elems v) ops = some (elems w) := by
  rw [genStepData_eq, runOpsBy_step1] at hw
  exact ⟨reachable_inv .seqDataView ops v w h hw, chain_spec .seqDataView ops v w h hops hw⟩

example : runOpsBy genStepData { start := 0, stop := 10, step := 1, offset := 0, seqLen := 10 }
    [.slice (some 1) (some 8) (some 2), .slice none none (some (-1)), .slice (some 1) none none, .index (-1)]
    = .ok { start := -9, stop := -10, step := -1, offset := 0, seqLen := 10 } := by rfl

end translated_agrees_with_model

end CogentModel.C01
