import CogentModel.Model.Composable
import CogentModel.Proofs.ApplyToLemmas
import CogentModel.Proofs.CallChainLemmas
import CogentModel.Model.ParallelBook
import CogentModel.Proofs.ParallelBookLemmas
/-! # C14 — composed apps account for every input exactly once, on any schedule

`callChain steps v` mirrors `_call` on a composed app (steps listed from the outermost to the
loader); `select`/`writeAll` mirror `_apply_to`; a schedule is *any* permutation of the submitted
results (`List.Perm`).  `entries store i` = all records stored under identifier `i`. -/
namespace CogentModel.C14
open CogentModel.Composable

/-- One layer of `_call`: a non-loader step with a connected input app applies the rest of `_call`
(`afterInput`: skip / type check / try-main / None ⇒ BUG) to what the inner composition delivered. -/
theorem step_on_delivered (s : Step) (inner : List Step) (hin : inner ≠ []) (hs : s.kind ≠ .loader)
    (x : V) : callChain (s :: inner) (some (.ok x)) = afterInput s (callChain inner (some (.ok x))) := by
  have hne : inner.isEmpty = false := by simpa using hin
  have hkind : (s.kind != .loader) = true := by simpa using hs
  simp [callChain_cons, Val.isNC, hne, hkind]

/-- A not-completed value produced by an inner part of a composition passes through all remaining
(outer) steps unchanged. -/
theorem nc_passthrough (outer inner : List Step) (hin : inner ≠ [])
    (hskip : ∀ s ∈ outer, s.skipNC = true) (hk : ∀ s ∈ outer, s.kind ≠ .loader)
    (x : V) (n : NC) (h : callChain inner (some (.ok x)) = .nc n) :
    callChain (outer ++ inner) (some (.ok x)) = .nc n := by
  induction outer with
  | nil => exact h
  | cons s outer ih =>
    rw [List.cons_append, step_on_delivered s _ (by simp [hin]) (hk s List.mem_cons_self),
      ih (fun t ht => hskip t (List.mem_cons_of_mem _ ht)) (fun t ht => hk t (List.mem_cons_of_mem _ ht))]
    exact afterInput_nc s n (hskip s List.mem_cons_self)

/-- …and a not-completed *input* is returned as it is. -/
theorem nc_input_returned (s : Step) (rest : List Step) (h : s.skipNC = true) (n : NC) :
    callChain (s :: rest) (some (.nc n)) = .nc n := by
  simp [callChain, Val.isNC, h]

def exLoader : Step := ⟨1, .loader, true, [], fun v => match v with | .ok x => .ret ⟨2, x.val, x.src⟩ | _ => .retNone⟩
def exFail : Step := ⟨2, .generic, true, [2], fun _ => .raise 7⟩
def exNext : Step := ⟨3, .generic, true, [2], fun v => match v with | .ok x => .ret x | _ => .retNone⟩
example : callChain [exNext, exFail, exLoader] (some (.ok ⟨1, 5, some 5⟩)) = .nc ⟨.error, 2, .exc 7, some 5⟩ := rfl

/-- `_call` is total and accounts for every failure: whatever the steps do (return, raise, return
`None`, return a value of a type the next step rejects, return a not-completed) and whatever the
input is (including `None`), a not-completed result is the input itself, or names the step that
created it, or was returned by a step's `main`; and a completed result is what the outermost
step's `main` returned. No outcome is dropped or turned into a success. -/
theorem call_total (steps : List Step) (hne : steps ≠ []) (v : Option Val) :
    (∀ n, callChain steps v = .nc n →
      v = some (.nc n) ∨ ∃ s ∈ steps, n.origin = s.name ∨ ∃ w, s.main w = .retNC n) ∧
    (∀ r s rest, steps = s :: rest → callChain steps v = .ok r → ∃ w, s.main w = .ret r) :=
  ⟨fun n h => call_nc_origin' steps hne v n h,
   fun r s rest e h => call_ok_from_main' s rest v r (e ▸ h)⟩

example : callChain [exNext, exLoader] none = .nc ⟨.error, 3, .noneIn, none⟩ := rfl
example : callChain [⟨4, .generic, true, [9], fun _ => .retNone⟩, exLoader] (some (.ok ⟨1, 5, some 5⟩))
    = .nc ⟨.error, 4, .badType 2, some 5⟩ := rfl

/-- **The not-completed record names the failing step, message and source.**  If the inner part of a
composition delivers `y` to step `s` and `s` raises / returns `None` / returns its own not-completed /
rejects the type of `y`, then the WHOLE composition (any skipping outer steps) returns exactly the record
`_call` builds at `s`: type, origin `s.name`, message and the source carried by `y` — not just *some* record
with that origin (which is all `call_total` says). -/
theorem failing_step_recorded (outer : List Step) (s : Step) (inner : List Step) (hin : inner ≠ [])
    (hs : s.kind ≠ .loader)
    (hskip : ∀ t ∈ outer, t.skipNC = true) (hk : ∀ t ∈ outer, t.kind ≠ .loader)
    (x y : V) (hy : callChain inner (some (.ok x)) = .ok y) :
    (validate s (.ok y) = none → ∀ t, s.main (.ok y) = .raise t →
      callChain (outer ++ s :: inner) (some (.ok x)) = .nc ⟨.error, s.name, .exc t, y.src⟩) ∧
    (validate s (.ok y) = none → s.main (.ok y) = .retNone →
      callChain (outer ++ s :: inner) (some (.ok x)) = .nc ⟨.bug, s.name, .noneOut, y.src⟩) ∧
    (validate s (.ok y) = none → ∀ n, s.main (.ok y) = .retNC n →
      callChain (outer ++ s :: inner) (some (.ok x)) = .nc n) ∧
    (validate s (.ok y) ≠ none →
      callChain (outer ++ s :: inner) (some (.ok x)) = .nc ⟨.error, s.name, .badType y.ty, y.src⟩) := by
  have h0 := step_on_delivered s inner hin hs x
  rw [hy] at h0
  refine ⟨fun hv t hm => ?_, fun hv hm => ?_, fun hv n hm => ?_, fun hv => ?_⟩
  all_goals apply nc_passthrough outer (s :: inner) (by simp) hskip hk x
  all_goals rw [h0]
  · simp [afterInput, Val.isNC, hv, runMain, hm, Val.source]
  · simp [afterInput, Val.isNC, hv, runMain, hm, Val.source]
  · simp [afterInput, Val.isNC, hv, runMain, hm]
  · cases hval : validate s (.ok y) with
    | none => exact absurd hval hv
    | some n => simp [afterInput, Val.isNC, hval, validate_some s _ n hval, Val.ty, Val.source]

/-- …and a success at `s` is `main`'s return value on exactly what the inner composition delivered. -/
theorem step_success (s : Step) (inner : List Step) (hin : inner ≠ []) (hs : s.kind ≠ .loader)
    (x y r : V) (hy : callChain inner (some (.ok x)) = .ok y) (hv : validate s (.ok y) = none)
    (hm : s.main (.ok y) = .ret r) : callChain (s :: inner) (some (.ok x)) = .ok r := by
  rw [step_on_delivered s inner hin hs x, hy]
  simp [afterInput, Val.isNC, hv, runMain, hm]

example : callChain [exNext, exFail, exLoader] (some (.ok ⟨1, 5, some 5⟩)) = .nc ⟨.error, 2, .exc 7, some 5⟩ :=
  (failing_step_recorded [exNext] exFail [exLoader] (by simp) (by decide) (by decide) (by decide)
    ⟨1, 5, some 5⟩ ⟨2, 5, some 5⟩ (by decide)).1 (by decide) 7 (by decide)

example : callChain [exNext, exLoader] (some (.ok ⟨1, 5, some 5⟩)) = .ok ⟨2, 5, some 5⟩ :=
  step_success exNext [exLoader] (by simp) (by decide) ⟨1, 5, some 5⟩ ⟨2, 5, some 5⟩ ⟨2, 5, some 5⟩
    (by decide) (by decide) (by decide)
-- rejected type: the loader delivers class 2, the step accepts only class 9
example : callChain [exNext, ⟨4, .generic, true, [9], fun _ => .retNone⟩, exLoader] (some (.ok ⟨1, 5, some 5⟩))
    = .nc ⟨.error, 4, .badType 2, some 5⟩ :=
  (failing_step_recorded [exNext] ⟨4, .generic, true, [9], fun _ => .retNone⟩ [exLoader] (by simp) (by decide)
    (by decide) (by decide) ⟨1, 5, some 5⟩ ⟨2, 5, some 5⟩ (by decide)).2.2.2 (by decide)

/-- **Any schedule.** Inputs whose identifiers are distinct (the selection succeeded), any app
(any per-record outcome), and results arriving in ANY permutation of the submitted tasks: the
final store holds, for every selected input, exactly one record under its own identifier, equal
to the app's result on that input alone; records of every other identifier are untouched. -/
theorem apply_any_schedule (idOf : Nat → Id) (app : Nat → Val) (s : Store) (inputs : List Nat)
    (sel : List (Id × Nat)) (hsel : select idOf s inputs [] = some sel)
    (results : List (Nat × Val)) (hperm : results.Perm (sel.map (wrapped app))) :
    (∀ p ∈ sel, entries (writeAll idOf s results) p.1 = [(p.1, app p.2)]) ∧
    (∀ i, (∀ p ∈ sel, p.1 ≠ i) → entries (writeAll idOf s results) i = entries s i) :=
  let h := select_spec idOf s inputs sel hsel
  apply_any_schedule' idOf app s sel results hperm h.idOk h.nodup h.fresh

/-- What `_apply_to` selects: exactly the inputs with no completed record yet, each once — distinct identifiers, every
pair is `(idOf m, m)` for an input `m` not yet completed, and no such input is missing. -/
theorem select_exact (idOf : Nat → Id) (s : Store) (inputs : List Nat) (sel : List (Id × Nat))
    (hsel : select idOf s inputs [] = some sel) :
    (sel.map (·.1)).Nodup ∧ (∀ p ∈ sel, idOf p.2 = p.1 ∧ p.2 ∈ inputs ∧ hasDone s p.1 = false) ∧
    (∀ m ∈ inputs, hasDone s (idOf m) = false → (idOf m, m) ∈ sel) :=
  selectBy_exact _ idOf inputs sel (Composable.select_eq_selectBy idOf s inputs [] ▸ hsel)

example : select (fun m => m % 10) [(2, .ok ⟨1, 0, none⟩)] [11, 22, 33] [] = some [(1, 11), (3, 33)] := rfl
example : select (fun m => m % 10) [] [11, 21] [] = none := rfl
example : applyTo (fun m => m % 10) (fun m => if m = 22 then .nc ⟨.error, 2, .exc 1, some 22⟩ else .ok ⟨1, m, some m⟩)
    [] [11, 22, 33] [2, 1, 0]
    = some [(3, .ok ⟨1, 33, some 33⟩), (2, .nc ⟨.error, 2, .exc 1, some 22⟩), (1, .ok ⟨1, 11, some 11⟩)] := rfl

/-- **Idempotent resume.** Running again over a store that already holds the results of any
prefix of a previous run (any order both times) gives every selected input exactly one record
equal to the app's result on that input alone — the same as one uninterrupted run — and inputs
completed before are not selected again. -/
theorem apply_idempotent_resume (idOf : Nat → Id) (app : Nat → Val) (s : Store) (inputs : List Nat)
    (sel : List (Id × Nat)) (hsel : select idOf s inputs [] = some sel)
    (results : List (Nat × Val)) (hperm : results.Perm (sel.map (wrapped app))) (j : Nat)
    (sel' : List (Id × Nat)) (hsel' : select idOf (writeAll idOf s (results.take j)) inputs [] = some sel')
    (results' : List (Nat × Val)) (hperm' : results'.Perm (sel'.map (wrapped app))) :
    (∀ p ∈ sel, entries (writeAll idOf (writeAll idOf s (results.take j)) results') p.1
        = entries (writeAll idOf s results) p.1) ∧
    (∀ p ∈ sel, (p.2, app p.2) ∈ results.take j → (app p.2).isOk = true → ∀ q ∈ sel', q.1 ≠ p.1) := by
  have a := resume_same_store' idOf app s inputs sel hsel results hperm j sel' hsel' results' hperm'
  have b := apply_any_schedule idOf app s inputs sel hsel results hperm
  exact ⟨fun p hp => (a.1 p hp).trans (b.1 p hp).symm, a.2⟩

-- `apply_idempotent_resume` is not vacuous: all its hypotheses instantiated
def exApp : Nat → Val := fun m => if m = 22 then .nc ⟨.error, 2, .exc 1, some 22⟩ else .ok ⟨1, m, some m⟩
-- an interrupted run: three inputs, results arrive as 33, 22 (fails), 11; killed after two results; re-run in another order
example := apply_idempotent_resume (fun m => m % 10) exApp [] [11, 22, 33] [(1, 11), (2, 22), (3, 33)] (by decide)
    [(33, exApp 33), (22, exApp 22), (11, exApp 11)] (by decide) 2
    [(1, 11), (2, 22)] (by decide) [(22, exApp 22), (11, exApp 11)] (by decide)

/-! ### directory stores vs SQLite stores: which stored records make `_apply_to` skip an input -/

/-- `select` (all theorems above) is `selectBy` with the directory-store membership test `hasDone` -/
theorem select_eq_selectBy (idOf : Nat → Id) (s : Store) (inputs : List Nat) (acc : List (Id × Nat)) :
    select idOf s inputs acc = selectBy (hasDone s) idOf inputs acc :=
  Composable.select_eq_selectBy idOf s inputs acc

theorem applyTo_eq_applyToBy (idOf : Nat → Id) (app : Nat → Val) (s : Store) (inputs order : List Nat) :
    applyTo idOf app s inputs order = applyToBy hasDone idOf app s inputs order := by
  simp only [applyTo, applyToBy, select_eq_selectBy]

/-- a completed record passes both membership tests … -/
theorem hasAny_of_hasDone (s : Store) (i : Id) (h : hasDone s i = true) : hasAny s i = true := by
  unfold hasDone at h; unfold hasAny
  cases he : entries s i with
  | nil => rw [he] at h; simp at h
  | cons a l => simp

/-- … and the tests differ on a stored not-completed record: with the identifier of a previously FAILED input a directory
store re-selects it (here: and therefore refuses the duplicate), a SQLite store skips both inputs.  Replayed on the real
stores by the `alias` correspondence stream. The theorems `apply_any_schedule` / `apply_idempotent_resume` are stated for
the directory-store test only. -/
theorem sqlite_skips_not_completed_counter :
    select (fun m => m % 10) [(1, .nc ⟨.error, 2, .exc 1, some 11⟩)] [11, 21] [] = none ∧
    selectBy (hasAny [(1, .nc ⟨.error, 2, .exc 1, some 11⟩)]) (fun m => m % 10) [11, 21] [] = some [] := ⟨rfl, rfl⟩

/-- what `selectBy` adds to `acc`, for any membership test -/
theorem selectBy_prefix (done : Id → Bool) (idOf : Nat → Id) (ms : List Nat) (acc sel : List (Id × Nat))
    (h : selectBy done idOf ms acc = some sel) :
    ∃ added, sel = acc ++ added ∧ ∀ p ∈ added, idOf p.2 = p.1 ∧ p.2 ∈ ms ∧ done p.1 = false := by
  refine ⟨_, selectBy_eq done idOf ms acc sel h, fun p hp => ?_⟩
  obtain ⟨m, hm, rfl⟩ := List.mem_map.mp hp
  have := List.mem_filter.mp hm
  exact ⟨rfl, this.1, by simpa using this.2⟩

/-- selected identifiers are distinct, for any membership test -/
theorem selectBy_nodup (done : Id → Bool) (idOf : Nat → Id) (ms : List Nat) (acc sel : List (Id × Nat))
    (h : selectBy done idOf ms acc = some sel) (hn : (acc.map (·.1)).Nodup) : (sel.map (·.1)).Nodup :=
  Composable.selectBy_nodup done idOf ms acc sel h hn

theorem hasDone_false_of_hasAny_false (s : Store) (i : Id) (h : hasAny s i = false) : hasDone s i = false := by
  cases hd : hasDone s i with
  | false => rfl
  | true => rw [hasAny_of_hasDone s i hd] at h; cases h

/-- **Any schedule, SQLite store** (`selectBy (hasAny s)`: inputs with ANY stored record are skipped): every
selected input gets exactly one record under its own identifier equal to the app's result on it alone, every other
identifier is untouched — in particular a stored not-completed record of a skipped input stays as it is (it is NOT
retried) — and the selected inputs had no record at all. -/
theorem apply_any_schedule_sqlite (idOf : Nat → Id) (app : Nat → Val) (s : Store) (inputs : List Nat)
    (sel : List (Id × Nat)) (hsel : selectBy (hasAny s) idOf inputs [] = some sel)
    (results : List (Nat × Val)) (hperm : results.Perm (sel.map (wrapped app))) :
    (∀ p ∈ sel, entries (writeAll idOf s results) p.1 = [(p.1, app p.2)]) ∧
    (∀ i, (∀ p ∈ sel, p.1 ≠ i) → entries (writeAll idOf s results) i = entries s i) ∧
    (∀ p ∈ sel, p.2 ∈ inputs ∧ idOf p.2 = p.1 ∧ entries s p.1 = []) := by
  have h := selectBy_spec idOf s inputs sel hsel
  have a := apply_any_schedule' idOf app s sel results hperm h.idOk h.nodup
    (fun p hp => hasDone_false_of_hasAny_false s _ (h.fresh p hp))
  refine ⟨a.1, a.2, fun p hp => ⟨h.mem p hp, h.idOk p hp, ?_⟩⟩
  simpa [hasAny] using h.fresh p hp
example : applyToBy hasAny (fun m => m % 10) (fun m => .ok ⟨1, m, some m⟩) [(2, .nc ⟨.error, 2, .exc 1, some 22⟩)] [11, 22, 33] [1, 0]
    = some [(2, .nc ⟨.error, 2, .exc 1, some 22⟩), (3, .ok ⟨1, 33, some 33⟩), (1, .ok ⟨1, 11, some 11⟩)] := rfl


/-- **Resume, SQLite store** (`DataStoreSqlite`: ANY stored record, completed or not, makes `_apply_to`
skip the input): re-running over the results of any prefix of a previous run (any order both times)
gives every originally selected input exactly one record equal to the app's result on that input
alone — the same as one uninterrupted run (`apply_any_schedule_sqlite`) — and an input whose record
(completed OR not-completed) was written before the interruption is not selected again: on this store
class a failed input is never retried. -/
theorem apply_idempotent_resume_sqlite (idOf : Nat → Id) (app : Nat → Val) (s : Store) (inputs : List Nat)
    (sel : List (Id × Nat)) (hsel : selectBy (hasAny s) idOf inputs [] = some sel)
    (results : List (Nat × Val)) (hperm : results.Perm (sel.map (wrapped app))) (j : Nat)
    (sel' : List (Id × Nat)) (hsel' : selectBy (hasAny (writeAll idOf s (results.take j))) idOf inputs [] = some sel')
    (results' : List (Nat × Val)) (hperm' : results'.Perm (sel'.map (wrapped app))) :
    (∀ p ∈ sel, entries (writeAll idOf (writeAll idOf s (results.take j)) results') p.1
        = entries (writeAll idOf s results) p.1) ∧
    (∀ p ∈ sel, (p.2, app p.2) ∈ results.take j → ∀ q ∈ sel', q.1 ≠ p.1) := by
  -- `resume_by` for the test "any record": what it gives `false` on holds no record, so no completed one
  have a := resume_by (fun l => !l.isEmpty) (fun l h => by cases l with | nil => rfl | cons _ _ => cases h)
    idOf app s inputs sel hsel results hperm j sel' hsel' results' hperm'
  have b := apply_any_schedule_sqlite idOf app s inputs sel hsel results hperm
  exact ⟨fun p hp => (a.1 p hp).trans (b.1 p hp).symm, fun p hp hr => a.2 p hp hr rfl⟩

example :
    let idOf : Nat → Id := fun m => m % 10
    let app : Nat → Val := fun m => if m = 22 then .nc ⟨.error, 2, .exc 1, some 22⟩ else .ok ⟨1, m, some m⟩
    let s1 := writeAll idOf [] [(22, app 22), (11, app 11)]
    selectBy (hasAny s1) idOf [11, 22, 33] [] = some [(3, 33)] ∧
    applyToBy hasAny idOf app s1 [11, 22, 33] [0] = applyToBy hasAny idOf app [] [11, 22, 33] [1, 0, 2] := ⟨rfl, rfl⟩

/-! ### `util/parallel`: every submitted task's result arrives exactly once (bookkeeping theorems)

The pool itself is an assumption (each submitted future completes exactly once =
`order.Perm (List.range n)`); what the code adds around it — one future per element, collection
in completion order, chunking for `imap`/`map` — is modelled in `Model/ParallelBook.lean`. -/
open CogentModel.ParallelBook

/-- `as_completed` (`to_do = [submit(f, e) for e in s]; for fut in as_completed(to_do): yield fut.result()`):
for every input list, every worker count (irrelevant to the bookkeeping) and every completion order of
the futures, the yielded results are a permutation of `[f(e) for e in s]`. -/
theorem as_completed_every_result_once {α β} (f : α → β) (s : List α) (order : List Nat)
    (hpool : order.Perm (List.range s.length)) : (asCompleted f s order).Perm (s.map f) := by
  unfold asCompleted submitAll
  have h := hpool.filterMap (fun k => (s.map f)[k]?)
  have e : (List.range s.length).filterMap (fun k => (s.map f)[k]?) = s.map f := by
    have := filterMap_range_getElem? (s.map f)
    rwa [List.length_map] at this
  rwa [e] at h

/-- the serial path yields the results in input order -/
theorem serial_in_order {α β} (f : α → β) (s : List α) : serialResults f s = s.map f := rfl

/-- `imap` / `map` (`executor.map(f, s, chunksize=c)`): for every `n` and every chunk size `c ≥ 1`
(dividing `n` or not: the trailing partial chunk is a task too) the chained results are exactly
`[f(e) for e in s]`, in order. -/
theorem imap_every_result_once_in_order {α β} (f : α → β) (s : List α) (c : Nat) (hc : 0 < c) :
    imapResults f s c = s.map f := by
  unfold imapResults
  rw [← List.map_flatten, chunks_flatten c hc]

/-- the default chunk size is ≥ 1 whenever there is something to do -/
theorem default_chunksize_pos (n w : Nat) (hn : 0 < n) (hw : 0 < w) : 0 < defaultChunksize n w := by
  unfold defaultChunksize
  by_cases h : n % (w * 4) = 0
  · -- no remainder: `w * 4` divides `n > 0`, so the quotient is positive
    rw [if_neg (not_not_intro h)]
    exact Nat.div_pos (Nat.le_of_dvd hn (Nat.dvd_of_mod_eq_zero h)) (by omega)
  · rw [if_pos h]
    exact Nat.succ_pos _

example : chunks 3 [0, 1, 2, 3, 4, 5, 6, 7, 8, 9] = [[0, 1, 2], [3, 4, 5], [6, 7, 8], [9]] := rfl
example : asCompleted (fun x => x * x) [1, 2, 3] [2, 0, 1] = [9, 1, 4] := rfl
example : defaultChunksize 10 2 = 2 ∧ defaultChunksize 8 2 = 1 := ⟨rfl, rfl⟩

/-- **Any schedule, stated with the pool assumption only**: the results `_apply_to` writes are
`as_completed(app, selected)`; if every submitted future completes exactly once (in whatever
order), each selected input gets exactly one record under its own identifier equal to the app's
result on that input alone, and every other identifier is untouched.  ("Every result arrives exactly
once" is not a hypothesis: it is `as_completed_every_result_once`.) -/
theorem apply_parallel_any_pool (idOf : Nat → Id) (app : Nat → Val) (s : Store) (inputs : List Nat)
    (sel : List (Id × Nat)) (hsel : select idOf s inputs [] = some sel)
    (order : List Nat) (hpool : order.Perm (List.range sel.length)) :
    applyTo idOf app s inputs order = some (writeAll idOf s (asCompleted (wrapped app) sel order)) ∧
    (∀ p ∈ sel, entries (writeAll idOf s (asCompleted (wrapped app) sel order)) p.1 = [(p.1, app p.2)]) ∧
    (∀ i, (∀ p ∈ sel, p.1 ≠ i) → entries (writeAll idOf s (asCompleted (wrapped app) sel order)) i = entries s i) := by
  have h := apply_any_schedule idOf app s inputs sel hsel _ (as_completed_every_result_once (wrapped app) sel order hpool)
  refine ⟨?_, h.1, h.2⟩
  simp [applyTo, hsel, schedule, asCompleted, submitAll]

/-- **`list(app.as_completed(inputs, parallel=…))` accounts for every (truthy) input exactly once, under its own source,
with the value the app returns on that input alone** — serial (then also in input order) or parallel with ANY completion order
of a pool that completes each submitted future once.  (Falsy inputs are dropped by `_proxy_input`: known finding
C14-falsy-input-dropped.) -/
theorem as_completed_accounts {α β} (app : α → β) (truthy : α → Bool) (dstore : List α) (parallel : Bool) (order : List Nat)
    (hpool : parallel = true → order.Perm (List.range (dstore.filter truthy).length)) :
    (asCompletedApp app truthy dstore parallel order).Perm ((dstore.filter truthy).map (fun e => (e, app e))) ∧
    (parallel = false → asCompletedApp app truthy dstore parallel order = (dstore.filter truthy).map (fun e => (e, app e))) := by
  unfold asCompletedApp proxyInput
  cases parallel with
  | false => exact ⟨List.Perm.refl _, fun _ => rfl⟩
  | true => exact ⟨as_completed_every_result_once _ _ order (hpool rfl), fun h => by cases h⟩

example : asCompletedApp (fun x => x * x) (fun x => x != 0) [3, 0, 5, 7] true [2, 0, 1] = [(7, 49), (3, 9), (5, 25)] := rfl

end CogentModel.C14
