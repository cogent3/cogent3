/- C10: the deserialiser registry.  `Gen/C10Registry.lean` is TRANSLATED on every run (translator/c10_registry2lean.py,
   `ast` only) from every `@register_deserialiser` line of the package, the dispatch loop of `deserialise_object`, and the "type"
   strings the classes emit.  General theorems are for every registry and every type string; table theorems are decided by the kernel. -/
import CogentModel.Proofs.InfixEval
namespace CogentModel.C10Registry
open CogentModel.Registry
open CogentModel.Gen.C10Registry (table emitted dispatch test)

theorem isPrefix_iff (k t : Str) : isPrefix k t = true ↔ ∃ b, t = k ++ b := by
  rw [isPrefix_eq_true_iff]
  exact exists_congr fun _ => eq_comm

/-- `k in t` (Python) = `t` is `a ++ k ++ b` for some `a`, `b` -/
theorem isInfix_iff (k t : Str) : isInfix k t = true ↔ ∃ a b, t = a ++ k ++ b := by
  rw [isInfix_eq_true_iff]
  exact exists_congr fun _ => exists_congr fun _ => eq_comm

/-- the GENERATED dispatch loop equals the hand-written first-match model, for every registry and every type string -/
theorem gen_dispatch_eq_firstMatch (tbl : List Entry) (t : Str) : dispatch tbl t = firstMatch tbl t := by
  induction tbl with
  | nil => rfl
  | cons e rest ih =>
    simp only [dispatch, List.find?, firstMatch, test] at ih ⊢
    cases h : isInfix e.key t <;> simp [ih]

example : dispatch table "cogent3.core.sequence.SeqView".toList = firstMatch table "cogent3.core.sequence.SeqView".toList := gen_dispatch_eq_firstMatch _ _

/-- NotImplementedError is raised exactly when no registered key occurs in the type string -/
theorem dispatch_none_iff (tbl : List Entry) (t : Str) :
    dispatch tbl t = none ↔ ∀ e ∈ tbl, ¬ ∃ a b, t = a ++ e.key ++ b := by
  simp only [dispatch, test, List.find?_eq_none, ← isInfix_iff]

example : dispatch table "builtins.dict".toList = none := by rw [String.toList_ofList]; decide +kernel

/-- the selected entry: its key occurs in the type string and no EARLIER registration's key does -/
theorem dispatch_some_iff (tbl : List Entry) (t : Str) (e : Entry) :
    dispatch tbl t = some e ↔
      (∃ a b, t = a ++ e.key ++ b) ∧ ∃ pre post, tbl = pre ++ e :: post ∧ ∀ x ∈ pre, ¬ ∃ a b, t = a ++ x.key ++ b := by
  simp only [dispatch, test, List.find?_eq_some_iff_append, ← isInfix_iff]
  simp

example : ∃ e, dispatch table "cogent3.core.alignment.Aligned".toList = some e ∧ e.func = "deserialise_aligned" := by rw [String.toList_ofList]; decide +kernel

/-- dispatch is total on ANY string that contains a registered key (version suffixes, sub-modules, subclasses ...) -/
theorem dispatch_total_of_contains (tbl : List Entry) (e : Entry) (he : e ∈ tbl) (a b : Str) :
    (dispatch tbl (a ++ e.key ++ b)).isSome = true := by
  cases h : dispatch tbl (a ++ e.key ++ b) with
  | some x => rfl
  | none => exact absurd ⟨a, b, rfl⟩ ((dispatch_none_iff _ _).mp h e he)

example : (dispatch table ("x.".toList ++ "cogent3.core.tree".toList ++ ".PhyloNode".toList)).isSome = true :=
  dispatch_total_of_contains table ⟨"cogent3.core.tree".toList, "deserialise_tree", "cogent3.util.deserialise"⟩ (by decide +kernel) _ _

/-- ORDER INDEPENDENCE (the registration order across modules is the import order, which is not fixed): if every key that
    occurs in `t` was registered by one module, any registry with the same per-module registration sequences selects the same entry -/
theorem dispatch_order_independent (tbl tbl' : List Entry) (t : Str) (h1 : oneModuleB tbl t = true)
    (hmod : ∀ m : String, tbl'.filter (fun e => e.module == m) = tbl.filter (fun e => e.module == m)) :
    dispatch tbl' t = dispatch tbl t := by
  rw [dispatch_eq_head_matching, dispatch_eq_head_matching, matching_order_independent tbl tbl' t h1 hmod]

/-- the decorator's uniqueness assertion holds for the translated registry -/
theorem registry_keys_unique : (table.map (·.key)).Nodup := table_noShadow.keys_nodup

/-- no registration is shadowed on its own key: every registered type string selects the function registered for it -/
theorem registry_own_key : ∀ e ∈ table, dispatch table e.key = some e := table_noShadow.dispatch_key

/-- for every type string a class of the package can emit, dispatch selects the MOST SPECIFIC registration (longest key
    occurring in it; no earlier, shorter key shadows it); that registration is unique and all candidates come from one module -/
theorem emitted_dispatch_most_specific :
    ∀ e ∈ emitted, dispatch table e.typeStr = bestMatch table e.typeStr ∧ lengthsDistinctB table e.typeStr = true
      ∧ oneModuleB table e.typeStr = true := by
  intro e he
  have h := emitted_candidates.1 e he
  have := table_noShadow.most_specific e.typeStr (List.all_eq_true.mp h.1)
  exact ⟨this.1, this.2, h.2⟩

/-- ... hence whatever order the modules were imported in (any registry with the same per-module sequences) -/
theorem emitted_dispatch_order_independent (tbl' : List Entry)
    (hmod : ∀ m : String, tbl'.filter (fun e => e.module == m) = table.filter (fun e => e.module == m)) :
    ∀ e ∈ emitted, dispatch tbl' e.typeStr = bestMatch table e.typeStr := by
  intro e he
  have h := emitted_dispatch_most_specific e he
  rw [dispatch_order_independent table tbl' e.typeStr h.2.2 hmod, h.1]

/-- the emitting classes for which NO deserialiser is registered (deserialise_object raises NotImplementedError on their own
    rich dict), exactly.  Parts of other objects' dicts (Span, _LostSpan, TerminalPadding, SeqDataView, new SeqView, Columns), abstract
    bases (SqliteAnnotationDbMixin, Map, LikelihoodFunction) and drawing helpers apart, two are objects the property names: the solved nucleotide models
    `get_model(\"HKY85\", rate_matrix_required=False)` (finding C10-solved-model-no-deserialiser) and NcbiTaxonNode trees. -/
theorem emitted_without_deserialiser :
    (emitted.filter (fun e => (dispatch table e.typeStr).isNone)).map (·.cls) =
      ["cogent3.core.annotation_db.SqliteAnnotationDbMixin", "cogent3.core.location.Map", "cogent3.core.location.Span", "cogent3.core.location.TerminalPadding",
       "cogent3.core.location._LostSpan", "cogent3.core.new_alignment.SeqDataView", "cogent3.core.new_sequence.SeqView",
       "cogent3.draw.dendrogram.AngularTreeGeometry", "cogent3.draw.dendrogram.CircularTreeGeometry",
       "cogent3.draw.dendrogram.RadialTreeGeometry", "cogent3.draw.dendrogram.SquareTreeGeometry",
       "cogent3.draw.dendrogram.TreeGeometryBase", "cogent3.evolve.likelihood_function.LikelihoodFunction",
       "cogent3.evolve.solved_models.PredefinedNucleotide", "cogent3.parse.ncbi_taxonomy.NcbiTaxonNode",
       "cogent3.util.table.Columns"] :=
  emitted_candidates.2

/-- the intended function per family of emitted type strings (a shorter key registered earlier would shadow these) -/
theorem emitted_dispatch_examples :
    (dispatch table "cogent3.core.sequence.SeqView".toList).map (·.func) = some "deserialise_seqview" ∧
    (dispatch table "cogent3.core.sequence.DnaSequence".toList).map (·.func) = some "deserialise_seq" ∧
    (dispatch table "cogent3.core.alignment.Aligned".toList).map (·.func) = some "deserialise_aligned" ∧
    (dispatch table "cogent3.core.alignment.ArrayAlignment".toList).map (·.func) = some "deserialise_seq_collections" ∧
    (dispatch table "cogent3.util.dict_array.DictArrayTemplate".toList).map (·.func) = some "deserialise_tabular" ∧
    (dispatch table "cogent3.core.new_sequence.ProteinWithStopSequence".toList).map (·.func) = some "deserialise_protein_with_stop_sequence" ∧
    (dispatch table "cogent3.evolve.parameter_controller.AlignmentLikelihoodFunction".toList).map (·.func) = some "deserialise_likelihood_function" := by
  repeat rw [String.toList_ofList]
  simp only [dispatch_eq_head_matching, matching_eq_filter_via "cogent3.".toList]
  decide +kernel

end CogentModel.C10Registry
