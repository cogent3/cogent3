import CogentModel.Model.Optimiser
import CogentModel.Proofs.Optimiser
import CogentModel.Proofs.OptimiserProj
import CogentModel.Proofs.OptimiserScoped
import CogentModel.Proofs.OptimiserScopedProj
import Mathlib.Algebra.Field.Defs
import Mathlib.Algebra.GroupWithZero.Units.Basic
import Mathlib.Algebra.Order.Group.Defs
import Mathlib.Algebra.Order.Group.Int
/-! # C16 — nested-model initialisation and optimisation never lose likelihood

Property theorems about the model `Model/Optimiser.lean` of
`cogent3.maths.optimisers.maximise` (wrapper stack `bounds_exception_catching(bounded(limited_use(f)))`,
first evaluation, `finally: get_best()`).  The optimisers (Powell, simulated annealing) are an
arbitrary adversary: every theorem quantifies over EVERY finite list `qs` of query points, every
objective `f : X → Res Y` (which may raise or return NaN anywhere), every bounds predicate and
every evaluation limit. -/
namespace CogentModel.C16
open CogentModel.Optimiser

variable {X Y : Type}

/-- **Optimisation never returns worse than it started, and leaves the calculator at the
reported optimum.**  For every objective, every start `x0` that is in bounds with a finite value
`y0`, every evaluation limit ≥ 1 and every optimiser behaviour `qs`: `get_best` runs and reports
`(fb, xb, n)` with `f xb = fb`, `fb ≥ y0`, `fb` is the maximum over ALL points at which the
objective was ever evaluated (`x0` among them), and the point applied last to the objective is `xb`. -/
theorem maximise_never_worse [LinearOrder Y] (c : Cfg X Y)
    (hg : ∀ a b, c.gt a b = decide (b < a))
    (x0 : X) (y0 : Y) (h0 : c.f x0 = .val y0) (hb : c.inB x0 = true) (hfin : c.fin y0 = true)
    (hbot : c.negInf < y0) (hmax : c.maxEvals ≠ some 0) (qs : List X) :
    ∃ fb xb n exc, (maximise c x0 qs).final = .done fb xb n exc ∧
      c.f xb = .val fb ∧ y0 ≤ fb ∧
      (∀ x ∈ (maximise c x0 qs).st.calls, ∀ y, c.f x = .val y → y ≤ fb) ∧
      (maximise c x0 qs).st.calls.head? = some xb ∧
      x0 ∈ (maximise c x0 qs).st.calls := by
  obtain ⟨t, xb, k, hbx, hf, hm⟩ := maximise_ok hg h0 hb hfin hbot hmax qs
  rw [hm]
  exact ⟨_, xb, _, _, rfl, hf, k.maxi x0 k.start y0 h0, List.forall_mem_cons.mpr ⟨k.maxi xb (k.bestMem xb hbx), k.maxi⟩,
    rfl, List.mem_cons_of_mem _ k.start⟩

/-- non-vacuity: objective on ℕ points with values in ℤ (−100 plays −inf), the optimiser walks
through a worse point, an out-of-bounds point, a raising point and the maximum, and is cut off -/
def exA : Cfg Nat Int :=
  { f := fun x => if x = 3 then .arith else .val (10 - ((x : Int) - 5) ^ 2),
    inB := fun x => decide (x ≤ 8), gt := fun a b => decide (b < a),
    fin := fun y => decide (-100 < y), negInf := -100, maxEvals := some 4 }
example :
    (maximise exA 2 [1, 9, 3, 5, 6, 7]).final = .done 10 5 4 (some (.maxEvals 4)) ∧
    (maximise exA 2 [1, 9, 3, 5, 6, 7]).st.calls = [5, 5, 3, 1, 2] := by decide +kernel

/-- the hypotheses themselves are satisfied by `exA` (start 2 with value 1): the theorem
instantiated, not only its conclusion recomputed -/
example := maximise_never_worse exA (fun _ _ => rfl) 2 1 (by decide +kernel) (by decide +kernel) (by decide +kernel)
  (by decide +kernel) (by decide +kernel) [1, 9, 3, 5, 6, 7]

/-- **Only in-bounds points ever reach the objective; the applied point is in bounds.**
Unconditional: any objective, any comparison, any start (valid or not), any optimiser. -/
theorem best_within_bounds (c : Cfg X Y) (x0 : X) (qs : List X) :
    (∀ x ∈ (maximise c x0 qs).st.calls, c.inB x = true) ∧
    (∀ fb xb n exc, (maximise c x0 qs).final = .done fb xb n exc → c.inB xb = true) := by
  obtain ⟨s, hs, ⟨hst, hno⟩ | ⟨xb, sh, exc, hbx, hm⟩⟩ := maximise_cases c x0 qs
  · rw [hst]
    exact ⟨hs.inb, fun fb xb n exc h => absurd h (hno fb xb n exc)⟩
  · have hin : c.inB xb = true := hs.inb xb (hs.bestMem xb hbx)
    rw [hm]
    exact ⟨List.forall_mem_cons.mpr ⟨hin, hs.inb⟩, fun _ _ _ _ h => by cases h; exact hin⟩

def exB : Cfg Nat Int :=
  { f := fun x => .val x, inB := fun x => decide (2 ≤ x ∧ x ≤ 8),
    gt := fun a b => decide (b < a), fin := fun _ => true, negInf := -1, maxEvals := none }
example :
    (maximise exB 2 [9, 100, 8, 0]).final = .done 8 8 2 none := by decide +kernel

/-- **The evaluation limit is respected.**  The objective is called at most `max_evaluations`
times through the wrapper plus exactly once more by `get_best`. Unconditional. -/
theorem evals_bounded (c : Cfg X Y) (x0 : X) (qs : List X) (fb : Y) (xb : X) (n : Nat)
    (exc : Option Stop) (h : (maximise c x0 qs).final = .done fb xb n exc) :
    (maximise c x0 qs).st.calls.length = n + 1 ∧ (∀ k, c.maxEvals = some k → n ≤ k) := by
  obtain ⟨s, hs, ⟨_, hno⟩ | ⟨xb', sh, exc', _, hm⟩⟩ := maximise_cases c x0 qs
  · exact absurd h (hno fb xb n exc)
  · rw [hm] at h ⊢
    cases h
    exact ⟨congrArg (· + 1) hs.cnt.symm, hs.lim⟩

def exC : Cfg Nat Int :=
  { f := fun x => .val x, inB := fun _ => true,
    gt := fun a b => decide (b < a), fin := fun _ => true, negInf := -1, maxEvals := some 3 }
example :
    (maximise exC 2 [4, 6, 8, 10]).final = .done 6 6 3 (some (.maxEvals 3)) ∧
    (maximise exC 2 [4, 6, 8, 10]).st.calls.length = 4 := by decide +kernel

/-- **Likelihood-ratio statistics of nested hypotheses are never negative.**  If the alternative
starts at a point whose value is the null's optimum `lnLnull` (a hypothesis here:
`projection_exact` gives equal exchangeabilities only, that `initialise_from_nested` then
reproduces the likelihood is tested, not proved), then whatever the optimiser does and
whatever the evaluation limit, the alternative's reported value `fb` satisfies
`LR = 2·(fb − lnLnull) ≥ 0`. -/
theorem lr_nonneg [LinearOrder Y] [AddCommGroup Y] [IsOrderedAddMonoid Y] (cA : Cfg X Y)
    (hg : ∀ a b, cA.gt a b = decide (b < a))
    (x0 : X) (lnLnull : Y) (h0 : cA.f x0 = .val lnLnull) (hb : cA.inB x0 = true)
    (hfin : cA.fin lnLnull = true) (hbot : cA.negInf < lnLnull) (hmax : cA.maxEvals ≠ some 0)
    (qs : List X) :
    ∃ fb xb n exc, (maximise cA x0 qs).final = .done fb xb n exc ∧ cA.f xb = .val fb ∧
      0 ≤ (fb - lnLnull) + (fb - lnLnull) := by
  obtain ⟨fb, xb, n, exc, h1, h2, h3, _⟩ := maximise_never_worse cA hg x0 lnLnull h0 hb hfin hbot hmax qs
  exact ⟨fb, xb, n, exc, h1, h2, add_nonneg (sub_nonneg.mpr h3) (sub_nonneg.mpr h3)⟩

example : (maximise exA 2 []).final = .done 1 2 1 none ∧ (0 : Int) ≤ (1 - 1) + (1 - 1) := by decide +kernel

/-- `lr_nonneg` instantiated on a run in which the optimiser DOES move (start value 1,
reported value 10, LR = 18) -/
example := lr_nonneg exA (fun _ _ => rfl) 2 1 (by decide +kernel) (by decide +kernel) (by decide +kernel) (by decide +kernel)
  (by decide +kernel) [1, 9, 3, 5, 6, 7]

/-! ## `Calculator.optimise`: start values are clamped into the bounds -/

/-- If both `numpy.allclose` tests of `Calculator.optimise` succeed (every coordinate below its
lower / above its upper bound is close to it) and `lower ≤ upper`, the vector handed to
`maximise` satisfies `bounded_function`'s test, so the first evaluation cannot raise
"Initial parameter values must be valid"; a vector already within bounds is not changed. -/
theorem start_clamp_in_bounds {R : Type} [LinearOrder R] (close : R → R → Bool) (v : List (Coord R))
    (hlohi : ∀ c ∈ v, c.lo ≤ c.hi)
    (hL : v.all (fun c => !(decide (c.x < c.lo)) || close c.x c.lo) = true)
    (hH : (clampLow (fun a b => decide (a < b)) close v).all
            (fun c => !(decide (c.hi < c.x)) || close c.x c.hi) = true) :
    inBounds (fun a b => decide (a < b)) (clampStart (fun a b => decide (a < b)) close v) = true ∧
    (inBounds (fun a b => decide (a < b)) v = true → clampStart (fun a b => decide (a < b)) close v = v) := by
  refine ⟨?_, clampStart_id _ close v⟩
  unfold clampStart clampHigh
  rw [if_pos hH]
  unfold clampLow
  rw [if_pos hL]
  unfold inBounds
  rw [List.all_eq_true]
  intro c hc
  simp only [List.map_map, List.mem_map] at hc
  obtain ⟨c0, hc0, rfl⟩ := hc
  exact clamp_pointwise c0 (hlohi c0 hc0)

example : (clampStart (fun a b : Int => decide (a < b)) (fun a b => decide (a - b ≤ 1 ∧ b - a ≤ 1))
    [⟨-1, 0, 10⟩, ⟨11, 0, 10⟩, ⟨5, 0, 10⟩]).map (·.x) = [0, 10, 5] := by decide +kernel

/-- both `allclose` hypotheses and `lo ≤ hi` hold for that vector: theorem instantiated -/
example := start_clamp_in_bounds (fun a b : Int => decide (a - b ≤ 1 ∧ b - a ≤ 1))
  [⟨-1, 0, 10⟩, ⟨11, 0, 10⟩, ⟨5, 0, 10⟩] (by decide +kernel) (by decide +kernel) (by decide +kernel)

/-- the hypotheses are NOT automatic: one coordinate further away than `allclose` accepts
and the low side is not clamped at all, the vector handed to `maximise` is out of bounds (the
first evaluation then raises "Initial parameter values must be valid") -/
example : inBounds (fun a b : Int => decide (a < b))
    (clampStart (fun a b : Int => decide (a < b)) (fun a b => decide (a - b ≤ 1 ∧ b - a ≤ 1))
      [⟨-1, 0, 10⟩, ⟨-5, 0, 10⟩]) = false := by decide +kernel

/-! ## nested parameter projection -/

/-- **The projection between nested models is exact (same stationarity class).**  If the two
coordinate families satisfy the decidable predicate `nestedSame` (evaluated by the driver on the
real coordinate dictionaries of the named models), then for EVERY list of nested-model rules with
values in ANY monoid (every parameter value; rules are `(name, value)` pairs without scope, for the
per-edge reading see `projection_rule_by_rule`), the rule list produced by
`_ParamProjection.update_param_rules` describes, at every cell of the rate matrix, the same
exchangeability as the nested model's own rules. -/
theorem projection_exact {N V : Type} [DecidableEq N] [Monoid V] (ref : N) (pass : N → Bool)
    (rich simple : Coords N) (hnest : nestedSame ref rich simple = true) (rules : List (N × V))
    (hnames : ∀ r ∈ rules, pass r.1 = false → r.1 ≠ ref ∧ ∃ cs, (r.1, cs) ∈ simple)
    (hpass : ∀ n, pass n = true → coordsOf rich n = [] ∧ coordsOf simple n = []) :
    ∃ ch, chosenAll rich simple = .ok ch ∧ ∀ cell ∈ cellsOf rich ++ cellsOf simple,
      cellRate (· * ·) 1 rich (projectSame ref pass rich ch rules) cell
        = cellRate (· * ·) 1 simple rules cell := by
  obtain ⟨ch, hch, hc⟩ := nestedSame_spec hnest
  refine ⟨ch, hch, ?_⟩
  intro cell hcell
  apply rate_projectSame ref pass rich simple ch cell rules
  · intro r hr hp
    obtain ⟨hne, cs, hmem⟩ := hnames r hr hp
    exact hc (r.1, cs) hmem hne cell hcell
  · intro r _ hp
    obtain ⟨h1, h2⟩ := hpass r.1 hp
    rw [h1, h2]
    exact ⟨rfl, rfl⟩

/-- **Not-same projection (stationary null → non-stationary alternative), partial.**  Every rule
emitted by `update_param_rules(same=False)` for a rich parameter `p` that takes its value from the
nested rule `(sp, v)` (or from the appended `("ref_cell", 1.0)`) satisfies
`value · π_ref = π_j · v`, where `j` is the column of `p`'s (last) cell: the rich rate is the
nested model's `Q` entry `π_j · v` up to the ONE global factor `1/π_ref`, which calibration removes.
`mprobs`/`length` rules pass through unchanged. -/
theorem projection_not_same_partial {N V : Type} [DecidableEq N] [Field V] (pi : Nat → V) (ref : N)
    (pass : N → Bool) (rich : Coords N) (ch : List (N × Option N)) (rules out : List (N × V))
    (h : projectNotSame (· * ·) (· / ·) 1 pi ref pass rich ch rules = .ok out) :
    ∃ rc, (coordsOf rich ref).head? = some rc ∧
      ∀ p ∈ out, (pass p.1 = true ∧ p ∈ rules ++ [(ref, 1)]) ∨
        ∃ r ∈ rules ++ [(ref, (1 : V))], pass r.1 = false ∧ p.1 ∈ targets ref rich ch r.1 ∧
          (pi rc.2 ≠ 0 → p.2 * pi rc.2 = pi ((lastCol (coordsOf rich p.1)).getD 0) * r.2) := by
  unfold projectNotSame at h
  split at h
  · cases h
  · rename_i rc hrc
    refine ⟨rc, hrc, ?_⟩
    cases h
    intro p hp
    obtain ⟨r, hr, hpr⟩ := List.mem_flatMap.mp hp
    by_cases hpass : pass r.1 = true
    · rw [if_pos hpass] at hpr
      cases List.mem_singleton.mp hpr
      exact .inl ⟨hpass, hr⟩
    · rw [if_neg hpass] at hpr
      obtain ⟨rp, hrp, rfl⟩ := List.mem_map.mp hpr
      exact .inr ⟨r, hr, Bool.eq_false_iff.mpr hpass, hrp, fun hne => div_mul_cancel₀ _ hne⟩

/- FULL STATEMENT (not proved): `projection_exact` for the not-same case — under a decidable
predicate `nestedNotSame rich simple π` (each rich parameter's cells share one column `j`, or `π`
is constant on them; every off-diagonal cell is covered by exactly one projected rule), for every
cell `(i,j)`: `cellRate rich projected (i,j) · π_ref = π_j · cellRate simple rules (i,j)`.
Why not: with k ≥ 2 rules covering a cell the factor is `(π_j/π_ref)^k`, so the statement needs the
"exactly one rule per cell" bookkeeping on top of `projection_not_same_partial`; the per-rule
identity above is the code-specific part.  The whole pipeline (equal exchangeabilities ⇒ equal Q
⇒ equal lnL) is exercised on real data for every stationary → GN / ssGN pair by `spec_check`. -/

example : projectNotSame (· * ·) (· / ·) (1 : Rat) (fun j => [1/10, 2/10, 3/10, 4/10].getD j 0)
    "ref_cell" (fun n => n == "length")
    [("A>C", [(2, 1)]), ("ref_cell", [(0, 3)])] [("A>C", some "k"), ("ref_cell", some "ref_cell")]
    [("k", 3)] = .ok [("A>C", 3/2)] := by decide +kernel

/-- HKY85 ⊂ GTR with the real coordinate sets (alphabet order T, C, A, G) -/
def exHKY : Coords String :=
  [("kappa", [(0, 1), (1, 0), (2, 3), (3, 2)]),
   ("ref_cell", [(0, 2), (0, 3), (1, 2), (1, 3), (2, 0), (2, 1), (3, 0), (3, 1)])]
def exGTR : Coords String :=
  [("A/C", [(1, 2), (2, 1)]), ("A/G", [(2, 3), (3, 2)]), ("A/T", [(0, 2), (2, 0)]),
   ("C/G", [(1, 3), (3, 1)]), ("C/T", [(0, 1), (1, 0)]), ("ref_cell", [(0, 3), (3, 0)])]
example : nestedSame "ref_cell" exGTR exHKY = true := by decide +kernel
example : paramMapping exGTR exHKY
    = .ok [("kappa", ["A/G", "C/T"]), ("ref_cell", ["A/C", "A/T", "C/G", "ref_cell"])] := by decide +kernel
/-- a non-nested pair is rejected: GTR is not nested in HKY85 -/
example : paramMapping exHKY exGTR = .error .assertion := by decide +kernel

/-- `mprobs` / `length` pass through -/
def passLM : String → Bool := fun n => n == "length" || n == "mprobs"

/-- what the projection emits for HKY85 rules into GTR (two `kappa` rules = two edge scopes) -/
example : (chosenAll exGTR exHKY).map (fun ch =>
      projectSame "ref_cell" passLM exGTR ch [("kappa", (3 : Int)), ("length", 7), ("kappa", 5)])
    = .ok [("A/G", 3), ("C/T", 3), ("length", 7), ("A/G", 5), ("C/T", 5)] := by decide +kernel

/-- `projection_exact` instantiated: ALL its hypotheses (`nestedSame`, rule names, pass
names) are satisfied by the real HKY85 ⊂ GTR coordinate families and a non-trivial rule list -/
example := projection_exact (V := Int) "ref_cell" passLM exGTR exHKY (by decide +kernel)
  [("kappa", 3), ("length", 7), ("kappa", 5)]
  (by
    intro r hr hp
    simp only [List.mem_cons, List.mem_nil_iff, or_false] at hr
    rcases hr with rfl | rfl | rfl
    · exact ⟨by decide +kernel, _, List.mem_cons_self⟩
    · exact absurd hp (by decide +kernel)
    · exact ⟨by decide +kernel, _, List.mem_cons_self⟩)
  (by
    intro n hn
    have : n = "length" ∨ n = "mprobs" := by simpa [passLM] using hn
    rcases this with rfl | rfl <;> exact ⟨by decide +kernel, by decide +kernel⟩)

/-- **The projection works rule by rule.**  `update_param_rules` maps each nested rule
separately (`rule_dict = rule.copy()` keeps its scope), so the projected image of a concatenation is
the concatenation of the images.  This is what licenses reading `projection_exact` per edge: the
rules of the result whose scope contains an edge are the image of the nested rules whose scope
contains it (`projection_exact_sublist`).  NOTE the model's rules are `(name, value)` pairs: scopes
are not represented, `cellRate` multiplies over ALL rules of the list. -/
theorem projection_rule_by_rule {N V : Type} [DecidableEq N] (ref : N) (pass : N → Bool)
    (rich : Coords N) (ch : List (N × Option N)) (l1 l2 : List (N × V)) :
    projectSame ref pass rich ch (l1 ++ l2)
      = projectSame ref pass rich ch l1 ++ projectSame ref pass rich ch l2 :=
  List.flatMap_append

/-- **`projection_exact` for every selected sub-list of the nested rules** (think
`sel r` = "the scope of `r` contains edge `e`"): the exchangeabilities agree edge by edge, not only
as a product over all scopes. -/
theorem projection_exact_sublist {N V : Type} [DecidableEq N] [Monoid V] (ref : N) (pass : N → Bool)
    (rich simple : Coords N) (hnest : nestedSame ref rich simple = true) (rules : List (N × V))
    (hnames : ∀ r ∈ rules, pass r.1 = false → r.1 ≠ ref ∧ ∃ cs, (r.1, cs) ∈ simple)
    (hpass : ∀ n, pass n = true → coordsOf rich n = [] ∧ coordsOf simple n = [])
    (sel : N × V → Bool) :
    ∃ ch, chosenAll rich simple = .ok ch ∧ ∀ cell ∈ cellsOf rich ++ cellsOf simple,
      cellRate (· * ·) 1 rich (projectSame ref pass rich ch (rules.filter sel)) cell
        = cellRate (· * ·) 1 simple (rules.filter sel) cell :=
  projection_exact ref pass rich simple hnest (rules.filter sel)
    (fun r hr hp => hnames r (List.mem_filter.mp hr).1 hp) hpass

example : ∃ ch, chosenAll exGTR exHKY = .ok ch ∧
    cellRate (· * ·) (1 : Int) exGTR
        (projectSame "ref_cell" passLM exGTR ch ([("kappa", (3 : Int)), ("length", 7), ("kappa", 5)].filter (fun r => r.2 != 5))) (2, 3)
      = 3 := by
  refine ⟨_, rfl, ?_⟩
  decide +kernel

/-! ## `update_scoped_rules` (model `Model/ScopedRules.lean`) -/
section ScopedSec
open CogentModel.ScopedRules

/-- **`scoped_rules_preserve_values` under the weaker well-formedness `WFr`** (the `quirk` clause
only for null rules that no rich rule key-matches — the only ones that reach the name-matching
loop).  Strictly stronger than `scoped_rules_preserve_values` (`WF.toWFr`). -/
theorem scoped_rules_preserve_values_r {S V : Type} [DecidableEq S] (chars : S → List S)
    (rich null : List (Rule S V)) (wf : WFr chars (keyed rich) (keyed null))
    (out : List (Rule S V)) (h : updateScoped chars rich null = .ok out) :
    ∀ o ∈ out, ∀ e, covers o e = true →
      ∀ n ∈ keyed null, n.par = o.par → covers n e = true → o.val = n.val := by
  intro o ho e hoe n hn hp hne
  obtain ⟨r, hr, a, ha, hoa⟩ := (updateAll_ok chars (keyed rich) (keyed null) (keyed rich) out h).2 o ho
  exact updateOne_sound_r chars (keyed rich) (keyed null) wf r hr a ha o hoa e hoe n hn hp hne

/-- **Every (parameter, edge) of the result carries the nested value.**  For the dict views
(`_get_keyed_rule_indices`) of ANY rich and null rule lists that are well-formed (`WF`: keys
faithful, scopes of one parameter disjoint in each list, no singular-`"edge"` mangling), if
`update_scoped_rules` returns `out` then every rule `o ∈ out`, on every edge `e` of its scope, has
the value the null rules give `(o.par, e)` whenever the null defines it — through the 1-to-1
branch, the "free" branch (`extend_rule_value`), the single-match branch and the no-match branch. -/
theorem scoped_rules_preserve_values {S V : Type} [DecidableEq S] (chars : S → List S)
    (rich null : List (Rule S V)) (wf : WF chars (keyed rich) (keyed null))
    (out : List (Rule S V)) (h : updateScoped chars rich null = .ok out) :
    ∀ o ∈ out, ∀ e, covers o e = true →
      ∀ n ∈ keyed null, n.par = o.par → covers n e = true → o.val = n.val :=
  scoped_rules_preserve_values_r chars rich null wf.toWFr out h

def kr0 : List (Rule String Nat) := [⟨"k", some ["a"], true, 1⟩, ⟨"k", some ["b"], true, 1⟩]
def kn0 : List (Rule String Nat) := [⟨"k", some ["a", "b"], false, 3⟩]
example : keyed kr0 = kr0 ∧ keyed kn0 = kn0 := by decide +kernel
/-- the hypotheses of `scoped_rules_preserve_values` are satisfiable: shared kappa → per-edge kappa -/
example : WF (fun s : String => [s]) kr0 kn0 :=
  have w := wfrB_sound (by decide +kernel : wfrB (fun s : String => [s]) kr0 kn0 = true)
  ⟨w.key, w.richDisj, w.nullDisj, by decide +kernel⟩

/-- non-vacuity: a shared kappa (null) into per-edge / clade kappa plus an unmatched edge-scoped
term (rich); all four branches are used -/
def exNull : List (Rule String Nat) :=
  [⟨"kappa", some ["a", "b"], false, 3⟩, ⟨"kappa", some ["c"], true, 5⟩, ⟨"omega", some ["a"], true, 7⟩,
   ⟨"omega", some ["b", "c"], false, 9⟩, ⟨"beta", none, false, 4⟩]
def exRich : List (Rule String Nat) :=
  [⟨"kappa", some ["a"], true, 1⟩, ⟨"kappa", some ["b"], true, 1⟩, ⟨"kappa", some ["c"], true, 1⟩,
   ⟨"omega", none, false, 1⟩, ⟨"A/C", some ["a"], true, 1⟩, ⟨"beta", none, false, 1⟩]
example : updateScoped (fun s => [s]) exRich exNull = .ok
    [⟨"kappa", some ["a"], true, 3⟩, ⟨"kappa", some ["b"], true, 3⟩, ⟨"kappa", some ["c"], true, 5⟩,
     ⟨"omega", some ["a"], true, 7⟩, ⟨"omega", some ["b"], true, 9⟩, ⟨"omega", some ["c"], true, 9⟩,
     ⟨"A/C", some ["a"], true, 1⟩, ⟨"beta", none, false, 4⟩] := by decide +kernel

/-- the well-formedness hypotheses are needed (both replayed on the real function; both inputs are
outside the nested quantifier, so neither is a defect finding):
(1) a null rule written `"edge": "Hu"` is matched through the CHARACTERS of its name, so a rich
clade `["Hu","Ch"]` keeps its own value 1 although the null defines `(kappa, Hu) = 3`;
(2) `edges: []` and no scope share the key `{par}`, so a free rich rule takes the value of an
empty-scope null rule instead of the one that covers edge `a`. -/
theorem scoped_rules_wf_needed_counter :
    updateScoped (fun s : String => s.toList.map String.singleton)
      [⟨"kappa", some ["Hu", "Ch"], false, (1 : Nat)⟩] [⟨"kappa", some ["Hu"], true, 3⟩]
      = .ok [⟨"kappa", some ["Hu", "Ch"], false, 1⟩] ∧
    updateScoped (fun s : String => [s])
      [⟨"p", none, false, (1 : Nat)⟩] [⟨"p", some [], false, 5⟩, ⟨"p", some ["a"], false, 7⟩]
      = .ok [⟨"p", none, false, 5⟩] := by
  constructor <;> decide +kernel

/-- more than one overlapping null scope for an edge-scoped rich rule is refused (ValueError) -/
example : updateScoped (fun s : String => [s]) [⟨"p", some ["a", "b"], false, (1 : Nat)⟩]
    [⟨"p", some ["a"], false, 5⟩, ⟨"p", some ["b"], false, 7⟩] = .error .valueError := by decide +kernel

/-! ### the well-formedness that real rule lists satisfy -/

/-- the real `chars`: `set("Human") = {'H','u','m','a','n'}` -/
def realChars : String → List String := fun s => s.toList.map String.singleton

/-- rule lists of the shape `get_param_rules()` really produces (replayed: per-edge rules are
written `"edge": name`, clades `"edges": [...]`, `mprobs` unscoped): null = HKY85 with kappa shared
on the clade {Chimp, Human}; rich = HKY85 with per-edge kappa -/
def exNullReal : List (Rule String Nat) :=
  [⟨"kappa", some ["Chimp", "Human"], false, 3⟩, ⟨"kappa", some ["Rhesus"], true, 5⟩,
   ⟨"mprobs", none, false, 9⟩,
   ⟨"length", some ["Chimp"], true, 2⟩, ⟨"length", some ["Human"], true, 4⟩, ⟨"length", some ["Rhesus"], true, 6⟩]
def exRichReal : List (Rule String Nat) :=
  [⟨"kappa", some ["Chimp"], true, 1⟩, ⟨"kappa", some ["Human"], true, 1⟩, ⟨"kappa", some ["Rhesus"], true, 1⟩,
   ⟨"mprobs", none, false, 1⟩,
   ⟨"length", some ["Chimp"], true, 1⟩, ⟨"length", some ["Human"], true, 1⟩, ⟨"length", some ["Rhesus"], true, 1⟩]

/-- **The hypothesis `WF` of `scoped_rules_preserve_values` is FALSE on real rule lists** (with the
real `chars`): its clause `quirk` fails for every null rule written `"edge": "Human"`, and every
`get_param_rules()` output contains such `length` rules.  The executable check `wfrB` (sufficient for
the weaker `WFr`) holds for the same lists. -/
theorem scoped_wf_excludes_real_rule_lists_counter :
    ¬ WF realChars (keyed exRichReal) (keyed exNullReal) ∧
    wfrB realChars (keyed exRichReal) (keyed exNullReal) = true := by
  refine ⟨?_, by decide +kernel⟩
  intro h
  have := h.quirk ⟨"length", some ["Human"], true, 4⟩ (by decide +kernel)
  revert this
  decide +kernel

/-- **… and with the hypothesis replaced by the executable test `wfrB`** that the driver evaluates
on the rule lists captured from the real `initialise_from_nested` (harness stream (F)). -/
theorem scoped_rules_preserve_values_checked {S V : Type} [DecidableEq S] [DecidableEq V]
    (chars : S → List S) (rich null : List (Rule S V))
    (hwf : wfrB chars (keyed rich) (keyed null) = true)
    (out : List (Rule S V)) (h : updateScoped chars rich null = .ok out) :
    ∀ o ∈ out, ∀ e, covers o e = true →
      ∀ n ∈ keyed null, n.par = o.par → covers n e = true → o.val = n.val :=
  scoped_rules_preserve_values_r chars rich null (wfrB_sound hwf) out h

/-- non-vacuity on the real-shaped lists, real `chars`: clade kappa 3 lands on both per-edge rules -/
example : updateScoped realChars exRichReal exNullReal = .ok
    [⟨"kappa", some ["Chimp"], true, 3⟩, ⟨"kappa", some ["Human"], true, 3⟩, ⟨"kappa", some ["Rhesus"], true, 5⟩,
     ⟨"mprobs", none, false, 9⟩,
     ⟨"length", some ["Chimp"], true, 2⟩, ⟨"length", some ["Human"], true, 4⟩, ⟨"length", some ["Rhesus"], true, 6⟩] := by
  decide +kernel
example := scoped_rules_preserve_values_checked realChars exRichReal exNullReal
  scoped_wf_excludes_real_rule_lists_counter.2 _
  (by decide +kernel : updateScoped realChars exRichReal exNullReal = .ok
    [⟨"kappa", some ["Chimp"], true, 3⟩, ⟨"kappa", some ["Human"], true, 3⟩, ⟨"kappa", some ["Rhesus"], true, 5⟩,
     ⟨"mprobs", none, false, 9⟩,
     ⟨"length", some ["Chimp"], true, 2⟩, ⟨"length", some ["Human"], true, 4⟩, ⟨"length", some ["Rhesus"], true, 6⟩])

/-- **Unconditional: an explicitly scoped rich rule is never dropped, split or re-scoped.**
Whatever the two rule lists (no well-formedness needed), if `update_scoped_rules` returns, every rule
of the rich dict view that names its edges reappears in the result with the same parameter, the same
scope and the same spelling; only its value may change.  (The value statements above say WHICH
value; this says the rule is still there.  A FREE rich rule, by contrast, is replaced by per-edge
rules for the edges of the matching null rules only — edges no null rule names lose the rule.) -/
theorem scoped_rules_keep_scoped_rules {S V : Type} [DecidableEq S] (chars : S → List S)
    (rich null : List (Rule S V)) (out : List (Rule S V)) (h : updateScoped chars rich null = .ok out) :
    ∀ r ∈ keyed rich, ∀ es, r.edges = some es →
      ∃ o ∈ out, o.par = r.par ∧ o.edges = r.edges ∧ o.single = r.single := by
  intro r hr es hes
  obtain ⟨a, ha, hsub⟩ := (updateAll_ok chars (keyed rich) (keyed null) (keyed rich) out h).1 r hr
  obtain ⟨v, rfl⟩ := updateOne_keeps_scope chars (keyed rich) (keyed null) r es hes a ha
  exact ⟨_, hsub _ List.mem_cons_self, rfl, rfl, rfl⟩

/-- the remark about free rules, concretely: null names only edge `a`; the free rich rule survives
for `a` alone -/
example : updateScoped (fun s : String => [s]) [⟨"p", none, false, (1 : Nat)⟩]
    [⟨"p", some ["a"], false, 7⟩] = .ok [⟨"p", some ["a"], true, 7⟩] := by decide +kernel

end ScopedSec

/-! ## the projection WITH SCOPES and the rule list `initialise_from_nested` finally applies
(model `Model/OptimiserScopedProj.lean`: rules are `{par_name, edges|edge, is_constant, init, value}`,
every emitted rule is a `rule.copy()` of the nested rule it came from) -/
section ScopedProjSec
open CogentModel.ScopedRules CogentModel.ScopedProj

/-- **The projection is exact EDGE BY EDGE.**  Under `nestedSame`, for every nested rule list whose
rules carry their scope (time-heterogeneous nulls: kappa per edge / per clade, constant or free),
if `update_param_rules(same=True)` returns `out` then on EVERY edge `e` and at every cell the product
over the projected rate rules whose scope contains `e` equals the product over the nested rate rules
whose scope contains `e` (nested value = `"value"` if constant else `"init"`, projected value =
`"init"`, the entry `update_rule_value` reads).  Together with `projection_scoped_one_rule_per_edge`
(at most one rule per parameter and edge on both sides under `onePerEdgeB`) the two products are
the exchangeabilities on that edge. -/
theorem projection_exact_scoped {S V : Type} [DecidableEq S] [Monoid V] (ref : S) (pass : S → Bool)
    (rich simple : Coords S) (hnest : nestedSame ref rich simple = true) (rules : List (PRule S V))
    (hnames : ∀ r ∈ rules, pass r.par = false → r.par ≠ ref ∧ ∃ cs, (r.par, cs) ∈ simple)
    (hpass : ∀ n, pass n = true → coordsOf rich n = []) :
    ∃ ch, chosenAll rich simple = .ok ch ∧
      ∀ out, updateParamRulesSame ref pass rich ch rules = .ok out →
        ∀ e, ∀ cell ∈ cellsOf rich ++ cellsOf simple,
          edgeRate (· * ·) 1 rich (projectedPairs pass out e) cell
            = edgeRate (· * ·) 1 simple (nestedPairs pass rules e) cell := by
  obtain ⟨ch, hch, hc⟩ := nestedSame_spec hnest
  refine ⟨ch, hch, fun out hout e cell hcell => ?_⟩
  unfold edgeRate
  rw [pairs_of_update ref pass rich ch hpass rules out hout e]
  refine rate_projectSame ref (fun _ => false) rich simple ch cell _ ?_ (fun _ _ h => nomatch h)
  intro p hp _
  obtain ⟨r, hr, _, hpf, _, hname⟩ := nestedPairs_mem hp
  obtain ⟨hne, cs, hmem⟩ := hnames r hr hpf
  rw [hname]
  exact hc (r.par, cs) hmem hne cell hcell

/-- **What `initialise_from_nested` finally applies** (same stationarity class):
`update_scoped_rules(my_rules, update_param_rules(nested_rules))`.  If the projection returns `proj`,
the scoped update returns `fin`, and the executable well-formedness `wfrB` holds for the two rule
lists handed to `update_scoped_rules` (evaluated by the driver on the lists captured from the real
function), then every final rule `o`, on every edge `e` of its scope, carries the value of the
projected rule `n` for (`o.par`, `e`); and that projected rule is the copy of a nested rule `r` with
the same scope whose parameter `o.par` takes its value from (`targets`), with value `mle r`
(`"value"` if `r` is constant, else `"init"`). -/
theorem initialise_rules_exact {S V : Type} [DecidableEq S] [DecidableEq V] (chars : S → List S)
    (ref : S) (pass : S → Bool) (rich : Coords S) (ch : List (S × Option S))
    (my : List (Rule S (Option V))) (nested proj : List (PRule S V)) (fin : List (Rule S (Option V)))
    (hproj : updateParamRulesSame ref pass rich ch nested = .ok proj)
    (hwf : wfrB chars (keyed my) (keyed (proj.map toRule)) = true)
    (hfin : updateScoped chars my (proj.map toRule) = .ok fin) :
    ∀ o ∈ fin, ∀ e, covers o e = true →
      ∀ n ∈ keyed (proj.map toRule), n.par = o.par → covers n e = true →
        o.val = n.val ∧
        (pass n.par = false → ∃ r ∈ nested, pass r.par = false ∧ n.par ∈ targets ref rich ch r.par ∧
          n.edges = r.edges ∧ ∃ v, mleOf r = some v ∧ n.val = some v) := by
  intro o ho e hoe n hn hpar hne
  refine ⟨scoped_rules_preserve_values_checked chars my (proj.map toRule) hwf fin hfin o ho e hoe n hn hpar hne, ?_⟩
  intro hnp
  obtain ⟨p, hp, rfl⟩ := List.mem_map.mp ((keyed_sublist (proj.map toRule)).subset hn)
  rcases emitted_provenance ref pass rich ch nested proj hproj p hp with ⟨h1, _⟩ | ⟨r, hr, h1, h2, h3, _, v, h5, h6⟩
  · cases h1.symm.trans hnp
  · exact ⟨r, hr, h1, h2, h3, v, h5, by simp [toRule, h6]⟩

/-- non-vacuity (HKY85 in GTR, two kappa rules on two edge sets, one of them constant, plus
per-edge lengths): the projection keeps the scopes -/
def exNestedScoped : List (PRule String Int) :=
  [⟨"kappa", some ["Human", "Chimp"], false, false, some 3, none⟩,
   ⟨"kappa", some ["Rhesus"], true, true, some 99, some 5⟩,
   ⟨"length", some ["Human"], true, false, some 7, none⟩]

def chGTR : List (String × Option String) :=
  [("A/C", some "ref_cell"), ("A/G", some "kappa"), ("A/T", some "ref_cell"), ("C/G", some "ref_cell"),
   ("C/T", some "kappa"), ("ref_cell", some "ref_cell")]
example : chosenAll exGTR exHKY = .ok chGTR := by decide +kernel

example : updateParamRulesSame "ref_cell" passLM exGTR chGTR exNestedScoped = .ok
    [⟨"A/G", some ["Human", "Chimp"], false, false, some 3, none⟩,
     ⟨"C/T", some ["Human", "Chimp"], false, false, some 3, none⟩,
     ⟨"A/G", some ["Rhesus"], true, true, some 5, some 5⟩,
     ⟨"C/T", some ["Rhesus"], true, true, some 5, some 5⟩,
     ⟨"length", some ["Human"], true, false, some 7, none⟩] := by decide +kernel

/-- on edge Human the transition cell (2,3) has exchangeability 3, on edge Rhesus 5 (not 15) -/
example : edgeRate (· * ·) (1 : Int) exHKY (nestedPairs passLM exNestedScoped "Human") (2, 3) = 3 ∧
    edgeRate (· * ·) (1 : Int) exHKY (nestedPairs passLM exNestedScoped "Rhesus") (2, 3) = 5 ∧
    onePerEdgeB passLM exNestedScoped ["Human", "Chimp", "Rhesus"] = true := by decide +kernel

/-- `projection_exact_scoped` instantiated: all hypotheses hold for that rule list -/
example := projection_exact_scoped (V := Int) "ref_cell" passLM exGTR exHKY (by decide +kernel) exNestedScoped
  (by
    intro r hr hp
    simp only [exNestedScoped, List.mem_cons, List.mem_nil_iff, or_false] at hr
    rcases hr with rfl | rfl | rfl
    · exact ⟨by decide +kernel, _, List.mem_cons_self⟩
    · exact ⟨by decide +kernel, _, List.mem_cons_self⟩
    · exact absurd hp (by decide +kernel))
  (by
    intro n hn
    have : n = "length" ∨ n = "mprobs" := by simpa [passLM] using hn
    rcases this with rfl | rfl <;> decide +kernel)

/-- `initialise_rules_exact` instantiated: a GTR alternative with per-edge `A/G`, shared `C/T`
(clade-wise as the null) and the real `chars` -/
def exMyGTR : List (Rule String (Option Int)) :=
  [⟨"A/G", some ["Human"], true, some 1⟩, ⟨"A/G", some ["Chimp"], true, some 1⟩, ⟨"A/G", some ["Rhesus"], true, some 1⟩,
   ⟨"C/T", some ["Human", "Chimp"], false, some 1⟩, ⟨"C/T", some ["Rhesus"], true, some 1⟩,
   ⟨"A/C", none, false, some 1⟩, ⟨"length", some ["Human"], true, some 1⟩]
def exProjGTR : List (PRule String Int) :=
  [⟨"A/G", some ["Human", "Chimp"], false, false, some 3, none⟩,
   ⟨"C/T", some ["Human", "Chimp"], false, false, some 3, none⟩,
   ⟨"A/G", some ["Rhesus"], true, true, some 5, some 5⟩,
   ⟨"C/T", some ["Rhesus"], true, true, some 5, some 5⟩,
   ⟨"length", some ["Human"], true, false, some 7, none⟩]
def exFinGTR : List (Rule String (Option Int)) :=
  [⟨"A/G", some ["Human"], true, some 3⟩, ⟨"A/G", some ["Chimp"], true, some 3⟩, ⟨"A/G", some ["Rhesus"], true, some 5⟩,
   ⟨"C/T", some ["Human", "Chimp"], false, some 3⟩, ⟨"C/T", some ["Rhesus"], true, some 5⟩,
   ⟨"length", some ["Human"], true, some 7⟩]
example := initialise_rules_exact realChars "ref_cell" passLM exGTR chGTR exMyGTR exNestedScoped exProjGTR exFinGTR
  (by decide +kernel) (by decide +kernel) (by decide +kernel)

/-- **At most one rule per (parameter, edge), before and after the projection.**  If the nested
rule list passes the executable check `onePerEdgeB` (evaluated by the driver on the real
`get_param_rules()` lists) and the rich parameter names are distinct, then on every edge both the
nested and the projected rate rules name each parameter at most once — so the products of
`projection_exact_scoped` are products over PARAMETERS of their value on that edge. -/
theorem projection_scoped_one_rule_per_edge {S V : Type} [DecidableEq S] (ref : S) (pass : S → Bool)
    (rich : Coords S) (ch : List (S × Option S)) (hch : (ch.map (·.1)).Nodup)
    (hpass : ∀ n, pass n = true → coordsOf rich n = []) (rules out : List (PRule S V))
    (h : updateParamRulesSame ref pass rich ch rules = .ok out) (edgeNames : List S)
    (hone : onePerEdgeB pass rules edgeNames = true) :
    ∀ e ∈ edgeNames, ((nestedPairs pass rules e).map (·.1)).Nodup ∧
      ((projectedPairs pass out e).map (·.1)).Nodup := by
  intro e he
  have h1 := onePerEdge_nodup pass rules edgeNames hone e he
  refine ⟨h1, ?_⟩
  rw [pairs_of_update ref pass rich ch hpass rules out h e]
  exact projectSame_names_nodup ref rich ch hch _ h1

example := projection_scoped_one_rule_per_edge (V := Int) "ref_cell" passLM exGTR chGTR (by decide +kernel)
  (by
    intro n hn
    have : n = "length" ∨ n = "mprobs" := by simpa [passLM] using hn
    rcases this with rfl | rfl <;> decide +kernel)
  exNestedScoped _ (by decide +kernel : updateParamRulesSame "ref_cell" passLM exGTR chGTR exNestedScoped = .ok exProjGTR)
  ["Human", "Chimp", "Rhesus"] (by decide +kernel)

/-- the check is not automatic: two kappa rules that both cover edge Human -/
example : onePerEdgeB passLM
    [⟨"kappa", some ["Human", "Chimp"], false, false, some (3 : Int), none⟩,
     ⟨"kappa", some ["Human"], true, false, some 5, none⟩] ["Human", "Chimp"] = false := by decide +kernel

end ScopedProjSec

end CogentModel.C16
