/-
  C13 — ReadOnlyDataStoreZipped: a zipped DataStoreDirectory shows the directory store's members.
  Model: Model/DataStoreZip.lean (tied to the real class by the harness stream `zipcorr` on real archives).
  For EVERY directory-store state whose files are plain names (`ZipOk`): the not-completed and log listings of the zipped store are
  those of the directory store (`zipped_not_completed_eq_directory`, `zipped_logs_eq_directory`).  The completed listing of the code
  before 83fcc1cfc (`zCompleted`: no parent test) is the directory store's ONLY IF no side file (not_completed/*.json, logs/*,
  md5/*.txt) carries the store suffix (`zipped_completed_eq_directory_partial`; false without it: `zipped_lists_side_file_counter`,
  finding C13-zipped-completed-lists-subdirectories); that of the code since 83fcc1cfc (`zCompletedTop`: entries directly below the
  top directory only) is the directory store's unconditionally (`zipped_completed_top_eq_directory`).
-/
import CogentModel.Proofs.DataStoreZip
namespace CogentModel.C13
open CogentModel CogentModel.KV CogentModel.DataStore CogentModel.DataStoreZip

variable {D : Type}

/-- `completed` of the zipped store since 83fcc1cfc (entries directly below the top directory) lists the directory store's
    completed members, for every state with plain file names -/
theorem zipped_completed_top_eq_directory (top : Str) (s : Dir D) (ok : ZipOk top s) :
    zCompletedTop top s.sfx (zipNames top s) = globC s := by
  have hall := iterMatches_zipNames [] ('.' :: s.sfx) top s ok
  obtain ⟨ht, htn, htl, htm, hr, hnc, hlg, hm5⟩ := ok
  have hpl : ∀ (l : List Str) (p : Str → Bool), (∀ n ∈ l, plainName n) → ∀ n ∈ l.filter p, plainName n :=
    fun l p hl n hn => hl n (List.mem_filter.mp hn).1
  unfold zCompletedTop globC
  rw [hall]
  -- only the files directly below `top` pass the parent test
  simp only [List.filter_append, filter_ite_nil, List.isEmpty_nil, Bool.true_or, if_true,
    filter_parent_join _ _ _ (hpl _ _ (fun n hn => (hr n hn).1)), filter_parent_join _ _ _ (hpl _ _ (fun n hn => (hnc n hn).1)),
    filter_parent_join _ _ _ (hpl _ _ (fun n hn => (hlg n hn).1)), filter_parent_join _ _ _ (hpl _ _ hm5),
    pathName_plain top ht.2, pathName_join top _ plain_nc, pathName_join top _ plain_logs, pathName_join top _ plain_md5,
    beq_self_eq_true, beq_eq_false_iff_ne.mpr htn.symm, beq_eq_false_iff_ne.mpr htl.symm, beq_eq_false_iff_ne.mpr htm.symm,
    Bool.false_eq_true, if_false, ite_self, List.append_nil]
  rw [map_last_join _ _ (fun n hn => (hr n (List.mem_filter.mp hn).1).1) (fun n => n), List.map_id']
  exact List.filter_congr fun n hn => by rw [(hr n hn).2, Bool.not_false, Bool.and_true]

/-- `completed` before 83fcc1cfc (no parent test) lists the same members only if no side file carries the store suffix -/
theorem zipped_completed_eq_directory_partial (top : Str) (s : Dir D) (ok : ZipOk top s)
    (hside : ∀ n, (n ∈ keys s.nc ∨ n ∈ keys s.logs ∨ n ∈ keys s.md5) → endsWith n ('.' :: s.sfx) = false) :
    zCompleted s.sfx (zipNames top s) = globC s := by
  have hall := iterMatches_zipNames [] ('.' :: s.sfx) top s ok
  obtain ⟨ht, htn, htl, htm, hr, hnc, hlg, hm5⟩ := ok
  have hnone : ∀ l : List Str, (∀ n ∈ l, endsWith n ('.' :: s.sfx) = false) →
      l.filter (fun n => endsWith n ('.' :: s.sfx) && !startsWith n ['.']) = [] := fun l hl =>
    List.filter_eq_nil_iff.mpr fun n hn => by rw [hl n hn]; exact Bool.false_ne_true
  unfold zCompleted globC
  rw [hall]
  -- no parent test: the side files are kept out by their names alone
  simp only [List.isEmpty_nil, Bool.true_or, if_true,
    hnone _ (fun n hn => hside n (.inl hn)), hnone _ (fun n hn => hside n (.inr (.inl hn))),
    hnone _ (fun n hn => hside n (.inr (.inr hn))), List.map_nil, ite_self, List.append_nil]
  rw [map_last_join _ _ (fun n hn => (hr n (List.mem_filter.mp hn).1).1) (fun n => n), List.map_id']
  exact List.filter_congr fun n hn => by rw [(hr n hn).2, Bool.not_false, Bool.and_true]

/-- `not_completed` of the zipped store lists the directory store's not-completed members -/
theorem zipped_not_completed_eq_directory (top : Str) (s : Dir D) (ok : ZipOk top s) :
    zNotCompleted (zipNames top s) = (globNc s).map (fun n => ncPrefix ++ n) := by
  have hall := iterMatches_zipNames sNotCompleted ('.' :: sJson) top s ok
  obtain ⟨ht, htn, htl, htm, hr, hnc, hlg, hm5⟩ := ok
  unfold zNotCompleted globNc
  rw [hall]
  simp only [show (sNotCompleted.isEmpty) = false from rfl, beq_eq_false_iff_ne.mpr htn, beq_self_eq_true,
    show (sLogs == sNotCompleted) = false by decide, show (sMd5 == sNotCompleted) = false by decide,
    Bool.or_self, Bool.false_or, Bool.false_eq_true, if_false, if_true, ite_self, List.nil_append, List.append_nil]
  cases s.ncDir
  · rfl
  · rw [if_pos rfl, if_pos rfl, map_last_join _ _ (fun n hn => (hnc n (List.mem_filter.mp hn).1).1) (fun n => ncPrefix ++ n)]
    exact congrArg (List.map _) (List.filter_congr fun n hn => by rw [(hnc n hn).2, Bool.not_false, Bool.and_true])

/-- `logs` of the zipped store lists the directory store's log files -/
theorem zipped_logs_eq_directory (top : Str) (s : Dir D) (ok : ZipOk top s) :
    zLogs (zipNames top s) = (keys (obsLogs s)).map (fun n => sLogs ++ '/' :: n) := by
  have hall := iterMatches_zipNames sLogs [] top s ok
  obtain ⟨ht, htn, htl, htm, hr, hnc, hlg, hm5⟩ := ok
  unfold zLogs obsLogs
  rw [hall]
  simp only [show (sLogs.isEmpty) = false from rfl, beq_eq_false_iff_ne.mpr htl, beq_self_eq_true,
    show (sNotCompleted == sLogs) = false by decide, show (sMd5 == sLogs) = false by decide,
    Bool.or_self, Bool.false_or, Bool.false_eq_true, if_false, if_true, ite_self, List.nil_append, List.append_nil]
  cases s.logsDir
  · rfl
  · rw [if_pos rfl, if_pos rfl, map_last_join _ _ (fun n hn => (hlg n (List.mem_filter.mp hn).1).1) (fun n => sLogs ++ '/' :: n)]
    exact congrArg (List.map _) (List.filter_eq_self.mpr fun n hn => by rw [(hlg n hn).2]; rfl)

/-- **counter-example (code before 83fcc1cfc)**: a `json` store with one completed and one not-completed record, zipped: the zipped store
    lists the not-completed record's file as a second completed member (finding C13-zipped-completed-lists-subdirectories);
    the listing of the code since then does not -/
theorem zipped_lists_side_file_counter :
    let s := run Cfg.asIs (id : Nat → Nat) (Dir.create .w sJson) [.write ['a'] 1, .writeNc ['b'] 2]
    globC s = [['a','.','j','s','o','n']] ∧
    zCompleted sJson (zipNames ['s','t'] s) = [['a','.','j','s','o','n'], ['b','.','j','s','o','n']] ∧
    zCompletedTop ['s','t'] sJson (zipNames ['s','t'] s) = [['a','.','j','s','o','n']] := by decide +kernel
/-- non-vacuity: the state after a real history satisfies `ZipOk`, and the side-file hypothesis holds for suffix `fasta` -/
example : let s := run Cfg.asIs (id : Nat → Nat) (Dir.create .w ['f','a','s','t','a']) [.write ['a'] 1, .writeNc ['b'] 2, .writeLog ['r','.','l','o','g'] 3]
    ZipOk ['s','t'] s ∧ (∀ n ∈ keys s.nc ++ keys s.logs ++ keys s.md5, endsWith n ('.' :: s.sfx) = false)
      ∧ zCompleted s.sfx (zipNames ['s','t'] s) = [['a','.','f','a','s','t','a']] := by
  refine ⟨⟨by decide, by decide, by decide, by decide, by decide, by decide, by decide, by decide⟩, by decide, by decide⟩
end CogentModel.C13
