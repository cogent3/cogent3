import CogentModel.Gen.C14Select
import CogentModel.Props.C14
/-! # C14 — the SOURCE TEXT of `_apply_to`'s selection loop and of `_proxy_input`, translated

`Gen/C14Select.lean` is rewritten from `/repo`'s current source on every run (`translator/c14_select2lean.py`).
`gen_select_loop_eq` / `gen_proxy_input_eq` / `gen_apply_select_eq` prove the generated definitions equal to the hand
model (`Composable.selectBy`, filter-by-truthiness-then-wrap) for ALL arguments; `gen_applyTo_eq` states that
`Composable.applyTo` — the function under `apply_any_schedule`, `apply_idempotent_resume`, `apply_parallel_any_pool` —
IS the translated selection followed by the hand-modelled writer loop, for truthy inputs; `gen_falsy_dropped` is the
open finding C14-falsy-input-dropped as a statement about the translated code. -/
namespace CogentModel.C14Select
open CogentModel.Composable CogentModel.SelectPrims CogentModel.Gen.C14Select

/-- the identifier `_apply_to` derives for an element -/
def idOfEnv (env : SelEnv) (m : Nat) : Id :=
  env.idFromSource (if env.isDataMember m then IdArg.pathOfUniqueId m else IdArg.self m)

def dupErr : PyErr := ⟨"ValueError", "non-unique identifier detected in data"⟩

theorem dict_set_fresh (d : Dict) (k : Id) (v : Nat) (h : Dict.has d k = false) : Dict.set d k v = d ++ [(k, v)] := by
  induction d with
  | nil => rfl
  | cons p t ih =>
    obtain ⟨k', v'⟩ := p
    simp only [Dict.has, List.any_cons, Bool.or_eq_false_iff] at h
    have ht : Dict.has t k = false := h.2
    simp only [Dict.set, h.1, Bool.false_eq_true, if_false, ih ht, List.cons_append]

/-- the translated loop IS `selectBy` (the duplicate test, the skip of identifiers in the store, insertion order) -/
theorem gen_select_loop_eq (env : SelEnv) (ms : List Nat) (acc : Dict) :
    applyToLoop env ms acc =
      match selectBy env.inStore (idOfEnv env) ms acc with
      | none => .error dupErr
      | some sel => .ok sel := by
  induction ms generalizing acc with
  | nil => rfl
  | cons m ms ih =>
    simp only [applyToLoop, selectBy]
    change (if Dict.has acc (idOfEnv env m) = true then _ else _) = _
    by_cases h1 : Dict.has acc (idOfEnv env m) = true
    · have h1' : acc.any (fun p => p.1 == idOfEnv env m) = true := h1
      simp only [h1, h1', if_true]; rfl
    · have h1f : Dict.has acc (idOfEnv env m) = false := by simpa using h1
      have h1' : acc.any (fun p => p.1 == idOfEnv env m) = false := h1f
      simp only [h1f, h1', Bool.false_eq_true, if_false]
      change (if env.inStore (idOfEnv env m) = true then _ else _) = _
      by_cases h2 : env.inStore (idOfEnv env m) = true
      · simp only [h2, if_true]; exact ih acc
      · simp only [h2]
        change applyToLoop env ms (Dict.set acc (idOfEnv env m) m) = _
        rw [dict_set_fresh acc _ m h1f]; exact ih _

theorem gen_proxy_loop_eq (env : SelEnv) (xs acc : List PIn) :
    proxyInputLoop env xs acc = acc ++ (xs.filter (PIn.truthy env)).map (fun e => PIn.proxy e.member) := by
  induction xs generalizing acc with
  | nil => simp [proxyInputLoop]
  | cons e xs ih =>
    simp only [proxyInputLoop]
    by_cases h : PIn.truthy env e = true
    · simp only [h, Bool.not_true, Bool.false_eq_true, if_false, List.filter_cons_of_pos, List.map_cons]
      rw [ih]
      cases e <;> simp [PIn.isProxy, PIn.mkProxy, PIn.member]
    · have hf : PIn.truthy env e = false := by simpa using h
      simp only [hf, Bool.not_false, if_true]
      rw [ih]; simp [hf]

/-- `_proxy_input`: the falsy elements are dropped, every other one travels in a `source_proxy` -/
theorem gen_proxy_input_eq (env : SelEnv) (xs : List PIn) :
    proxyInput env xs = (xs.filter (PIn.truthy env)).map (fun e => PIn.proxy e.member) := by
  simp [proxyInput, gen_proxy_loop_eq]

/-- OPEN FINDING C14-falsy-input-dropped, about the translated code: nothing falsy is ever submitted -/
theorem gen_falsy_dropped (env : SelEnv) (xs : List PIn) (p : PIn) (hp : p ∈ proxyInput env xs) :
    env.truthy p.member = true := by
  rw [gen_proxy_input_eq] at hp
  simp only [List.mem_map, List.mem_filter] at hp
  obtain ⟨e, ⟨_, ht⟩, rfl⟩ := hp
  exact ht

/-- the whole translated selection of `_apply_to` -/
theorem gen_apply_select_eq (env : SelEnv) (dstore : List Nat) :
    applyToSelect env dstore =
      match selectBy env.inStore (idOfEnv env) dstore [] with
      | none => .error dupErr
      | some sel =>
        if dstore.isEmpty then .error ⟨"ValueError", "dstore is empty"⟩
        else .ok (((sel.map (·.2)).filter env.truthy).map PIn.proxy) := by
  simp only [applyToSelect, gen_select_loop_eq, Dict.empty]
  cases selectBy env.inStore (idOfEnv env) dstore [] with
  | none => rfl
  | some sel =>
    simp only [gen_proxy_input_eq, Dict.values, Bool.not_not]
    congr 1
    simp [List.filter_map, List.map_map, Function.comp_def, PIn.truthy, PIn.member]

/-- `Composable.applyTo` (the model under `apply_any_schedule` / `apply_idempotent_resume` / `apply_parallel_any_pool`) IS the
translated selection followed by the writer loop, whenever the inputs are truthy, there is at least one, and the
membership test is the directory store's -/
theorem gen_applyTo_eq (env : SelEnv) (app : Nat → Val) (s : Store) (inputs order : List Nat)
    (hne : inputs ≠ []) (htruthy : ∀ m, env.truthy m = true) (hstore : env.inStore = hasDone s) :
    applyTo (idOfEnv env) app s inputs order =
      match applyToSelect env inputs with
      | .error _ => none
      | .ok ps => some (writeAll (idOfEnv env) s (schedule (ps.map (fun p => (p.member, app p.member))) order)) := by
  rw [gen_apply_select_eq, applyTo, C14.select_eq_selectBy, hstore]
  cases selectBy (hasDone s) (idOfEnv env) inputs [] with
  | none => rfl
  | some sel =>
    have : inputs.isEmpty = false := by cases inputs <;> simp_all
    simp only [this, Bool.false_eq_true, if_false]
    have hf : (sel.map (·.2)).filter env.truthy = sel.map (·.2) := by
      apply List.filter_eq_self.2; intro a _; exact htruthy a
    have hw : wrapped app = fun x => (x.snd, app x.snd) := by funext x; rfl
    simp [hf, hw, List.map_map, Function.comp_def, PIn.member]

end CogentModel.C14Select
